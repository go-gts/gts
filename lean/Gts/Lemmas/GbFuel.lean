/-
  C07, "never hangs": the fuel of the GenBank reader's loops.

  * The line loops (`bodyMore`, `taxonMore`, `dblinkMore`) consume at least the indent per
    iteration (`depth ≥ 1`; `genbankLocusParser` reports `depth ≥ 5`): with more fuel than bytes
    left the outcome does not depend on the fuel.
  * The record loop: running out of fuel can only ever surface as the error value; an outcome
    other than that error is the same for every larger fuel (`recordLoop_mono`).  Since 66de3a0
    (SOURCE without ORGANISM clears the saved positions instead of popping one that is not its
    own) the fuel is also ADEQUATE: every iteration consumes input or ends the loop
    (`recordLoop_fuel`, Gts/Lemmas/GbProgress.lean).  The former counter-example (leaked
    location-parser frames, skipped lines, SOURCE without ORGANISM: quadratic re-reading) is kept
    as a state on which both fuels now agree (`rescanState`).
  * The scan loop: every record read consumes its LOCUS keyword.
-/
import Gts.Lemmas.GbSafeRecord
import Gts.Lemmas.GbProgress
namespace Gts.GenBank
open Gts.Pars

theorem recordLoop_mono (length : Int) (depth : Nat) : ∀ k (sub : Sub) (s : PS) r s',
    (recordLoop length depth k sub).run' s = (r, s') → r ≠ .error .fail →
    ∀ m, k ≤ m → (recordLoop length depth m sub).run' s = (r, s')
  | 0, sub, s, r, s', h, hr, _, _ => by
    rw [recordLoop, run_fail] at h
    cases h; exact absurd rfl hr
  | k + 1, sub, s, r, s', h, hr, m, hm => by
    obtain ⟨m, rfl⟩ : ∃ m', m = m' + 1 := ⟨m - 1, by omega⟩
    rw [recordLoop_step] at h ⊢
    generalize (recordRound length depth sub).run' s = x at h ⊢
    rcases x with ⟨e | sub' | sub', s1⟩
    · exact h
    · exact h
    · exact recordLoop_mono length depth k sub' s1 r s' h hr m (by omega)

/-- twenty empty lines, then a SOURCE field without ORGANISM and the end mark -/
def rescanRest : Bytes := List.replicate 20 10 ++ bs "SOURCE      x\n//\n"

/-- … with three saved copies of the same position below it (what a failing location parser
leaves behind inside a feature table).  Before 66de3a0 the record loop went back to these three
times and needed more than `2·37+2` iterations; now it fails at the first reading of the SOURCE
line, three bytes before the end, whatever the fuel. -/
def rescanState : PS := ⟨rescanRest, [rescanRest, rescanRest, rescanRest]⟩

def sub0 : Sub := (Fields.empty, [], .buffer [], Registry.default)

theorem fieldLine_lt (d : Nat) (hd : 1 ≤ d) {s s' : PS} {l} (h : (fieldLine d).run' s = (.ok l, s')) :
    s'.rest.length < s.rest.length := by
  unfold fieldLine at h
  rw [run_bind] at h
  rcases hr : (lit (sp d)).run' s with ⟨e | u, s1⟩ <;> rw [hr] at h
  · cases h
  · have h1 := lit_lt _ hr
    rw [show (sp d).length = d by simp [sp]] at h1
    dsimp only at h
    rw [Origin.line_eq_splitLine] at h
    cases h
    have := splitLine_len s1.rest
    show (Origin.splitLine s1.rest).2.length < _
    omega

theorem bodyMore_fuel (d : Nat) (sep : UInt8) (hd : 1 ≤ d) : ∀ f f' acc k (s : PS),
    s.rest.length < f → s.rest.length < f' →
    (bodyMore d sep f acc k).run' s = (bodyMore d sep f' acc k).run' s
  | 0, _, _, _, _, h, _ => absurd h (Nat.not_lt_zero _)
  | _ + 1, 0, _, _, _, _, h => absurd h (Nat.not_lt_zero _)
  | f + 1, f' + 1, acc, k, s, hf, hf' => by
    rw [bodyMore, bodyMore]
    refine attempt_bind_congr (fun l s1 hr => ?_) fun _ => rfl
    have := fieldLine_lt d hd hr
    exact bodyMore_fuel d sep hd f f' _ _ s1 (by omega) (by omega)

theorem taxonMore_fuel (d : Nat) (hd : 1 ≤ d) : ∀ f f' acc (s : PS),
    s.rest.length < f → s.rest.length < f' →
    (taxonMore d f acc).run' s = (taxonMore d f' acc).run' s
  | 0, _, _, _, h, _ => absurd h (Nat.not_lt_zero _)
  | _ + 1, 0, _, _, _, h => absurd h (Nat.not_lt_zero _)
  | f + 1, f' + 1, acc, s, hf, hf' => by
    rw [taxonMore, taxonMore]
    refine attempt_bind_congr (fun l s1 hr => ?_) fun _ => rfl
    have := fieldLine_lt d hd hr
    exact taxonMore_fuel d hd f f' _ s1 (by omega) (by omega)

theorem dblinkMore_fuel (d : Nat) (hd : 1 ≤ d) : ∀ k k' fl (s : PS),
    s.rest.length < k → s.rest.length < k' →
    (dblinkMore d k fl).run' s = (dblinkMore d k' fl).run' s
  | 0, _, _, _, h, _ => absurd h (Nat.not_lt_zero _)
  | _ + 1, 0, _, _, _, h => absurd h (Nat.not_lt_zero _)
  | k + 1, k' + 1, fl, s, hk, hk' => by
    rw [dblinkMore, dblinkMore]
    refine attempt_bind_congr (fun _ s1 hr => ?_) fun _ => rfl
    have h1 := lit_lt _ hr
    rw [show (sp d).length = d by simp [sp]] at h1
    dsimp only
    refine run_bind_congr fun l s2 hr2 => ?_
    rw [Origin.line_eq_splitLine] at hr2
    cases hr2
    have := splitLine_len s1.rest
    split
    · rfl
    · exact dblinkMore_fuel d hd k k' _ _ (by show (Origin.splitLine s1.rest).2.length < k; omega)
        (by show (Origin.splitLine s1.rest).2.length < k'; omega)

/-! ### the scan loop: every record read consumes its LOCUS keyword

A failing element of the LOCUS `Seq` pops the two frames of the `Seq`, which the frame logics count
among the caller's once the keyword is read; but then the parser fails.  So what is followed through
the rest of the line is only what holds as long as nothing has failed. -/

def Within {α} (L : Nat) (p : P α) : Prop :=
  ∀ s, Sorted s.rest.length s.stk → s.rest.length ≤ L → WP p (fun r s' => match r with
    | .ok _ => Sorted s'.rest.length s'.stk ∧ s'.rest.length ≤ L
    | .error _ => True) s

theorem Within.ofSafe {α} {L} {p : P α} (hp : Safe p) : Within L p := fun s hs hL =>
  wp_mono (hp L s.stk 0 s (Fr.initL hs hL)) fun r _ h => by
    cases r with
    | ok _ => exact ⟨h.2.srt, h.2.le⟩
    | error _ => trivial

theorem Within.bind {α β} {L} {p : P α} {f : α → P β} (hp : Within L p) (hf : ∀ a, Within L (f a)) :
    Within L (p >>= f) := fun s hs hL => by
  rw [wp_bind]
  refine wp_mono (hp s hs hL) fun r s' h => ?_
  cases r with
  | ok a => exact hf a s' h.1 h.2
  | error _ => trivial

theorem Within.pure {α} {L} (a : α) : Within L (Pure.pure a : P α) := fun _ hs hL => ⟨hs, hL⟩
theorem Within.drop {L} : Within L drop := fun _ hs hL => ⟨sorted_drop1 hs, hL⟩

theorem locusBack_fails {α} (s : PS) : ∃ s', (locusBack : P α).run' s = (.error .fail, s') := by
  unfold locusBack
  rw [run_bind, run_pop]
  cases s.stk with
  | nil =>
    dsimp only
    rw [run_bind, run_pop]
    cases s.stk <;> exact ⟨_, rfl⟩
  | cons f st =>
    dsimp only
    rw [run_bind, run_pop]
    cases st <;> exact ⟨_, rfl⟩

theorem Within.locusBack {α} {L} : Within L (locusBack : P α) := fun s _ _ => by
  obtain ⟨s', e⟩ := locusBack_fails (α := α) s
  unfold WP; rw [e]; trivial

theorem Within.locusTry {α} {L} {p : P α} (hp : Safe p) : Within L (locusTry p) :=
  .bind (.ofSafe hp.attempt) fun o =>
    match o with
    | some a => .pure a
    | none => .locusBack

theorem wp_push_eq {Q} {s : PS} (k : Q (.ok ()) { s with stk := s.rest :: s.stk }) : WP push Q s := k

theorem wp_locusTry_lit {Q} (p : Bytes) {s : PS}
    (kok : p.length ≤ s.rest.length → Q (.ok ()) { s with rest := s.rest.drop p.length })
    (kerr : ∀ s', Q (.error .fail) s') : WP (locusTry (lit p)) Q s := by
  unfold locusTry
  rw [wp_bind, wp_attempt_iff]
  unfold WP; rw [run_lit]
  split
  · rename_i hc
    simp only [Bool.and_eq_true, decide_eq_true_eq] at hc
    exact kok hc.2
  · obtain ⟨s', e⟩ := locusBack_fails (α := Unit) s
    dsimp only
    rw [e]; exact kerr s'

theorem locusParser_consumes (s : PS) (hs : Sorted s.rest.length s.stk) :
    WP locusParser (fun r s' => ∀ l, r = .ok l → s'.rest.length + 5 ≤ s.rest.length) s := by
  unfold locusParser
  rw [wp_bind]; apply wp_push_eq; dsimp only
  rw [wp_bind]; apply wp_push_eq; dsimp only
  rw [wp_bind]
  refine wp_locusTry_lit _ (fun hc => ?_) fun _ _ hl => nomatch hl
  have h5 : (bs "LOCUS").length = 5 := by decide
  rw [h5] at hc ⊢
  dsimp only at hc ⊢
  -- the rest of the line stays within the last `len - 5` bytes
  refine wp_mono ((?_ : Within (s.rest.length - 5) _) ⟨s.rest.drop 5, s.rest :: s.rest :: s.stk⟩
    ⟨?_, Nat.le_refl _, hs⟩ ?_) fun r s' h l hl => ?_
  · exact .bind (.ofSafe spaces_safe) fun _ => .bind (.locusTry (word_safe _)) fun _ =>
      .bind (.ofSafe spaces_safe) fun _ => .bind (.locusTry int_safe) fun _ =>
      .bind (.locusTry bpOrAa_safe) fun _ => .bind (.ofSafe spaces_safe) fun _ =>
      .bind (.locusTry (word_safe _)) fun _ => .bind (.ofSafe spaces_safe) fun _ =>
      .bind (.locusTry (word_safe _)) fun _ => .bind (.ofSafe spaces_safe) fun _ =>
      .bind (.ofSafe divisionParser_safe) fun _ => .bind (.ofSafe spaces_safe) fun _ =>
      .bind (.ofSafe line_safe) fun dl =>
      match asDate dl with
      | none => .locusBack
      | some _ => .bind .drop fun _ => .bind .drop fun _ => .pure _
  · show (s.rest.drop 5).length ≤ _; rw [List.length_drop]; omega
  · show (s.rest.drop 5).length ≤ _; rw [List.length_drop]; omega
  · subst hl
    have := h.2
    omega

theorem genbankParser_consumes (reg : Registry) (s : PS) (hs : Sorted s.rest.length s.stk) :
    WP (genbankParser reg) (fun r s' => ∀ v, r = .ok v → s'.rest.length + 5 ≤ s.rest.length) s :=
  wp_mono (genbankParser_wp_consumed reg s hs 5 (locusParser_consumes s hs)) fun _ _ h => h.2.2.2

theorem scan_cases (reg : Registry) (s : PS) (hs : Sorted s.rest.length s.stk) :
    (∃ rec reg' s', (genbankParser reg).run' s = (.ok (rec, reg'), s') ∧ Sorted s'.rest.length s'.stk ∧
      s'.rest.length + 5 ≤ s.rest.length) ∨ ∃ s', (genbankParser reg).run' s = (.error .fail, s') := by
  obtain ⟨hnp, hsort, _⟩ := genbankParser_wp reg s hs
  have hc : ∀ v, ((genbankParser reg).run' s).1 = .ok v → ((genbankParser reg).run' s).2.rest.length + 5 ≤ s.rest.length :=
    genbankParser_consumes reg s hs
  rcases hrun : (genbankParser reg).run' s with ⟨r, s'⟩
  rw [hrun] at hnp hsort hc
  rcases r with (_ | _) | ⟨rec, reg'⟩
  · exact .inr ⟨s', rfl⟩
  · exact absurd rfl hnp
  · exact .inl ⟨rec, reg', s', rfl, hsort, hc _ rfl⟩

theorem parseAll_ne_none : ∀ k (reg : Registry) (input : Bytes) (acc : List Record),
    parseAll reg k input acc ≠ none
  | 0, _, _, _ => by simp [parseAll]
  | k + 1, reg, input, acc => by
    unfold parseAll
    split
    · simp
    · rcases scan_cases reg ⟨input, []⟩ trivial with ⟨rec, reg', s', hrun, _⟩ | ⟨s', hrun⟩ <;> rw [hrun]
      · exact parseAll_ne_none k reg' s'.rest (rec :: acc)
      · simp

/-- the fuel `len(input) + 1` of the scan loop is adequate: every record read consumes input, so
any two fuels above the number of bytes give the same result -/
theorem parseAll_fuel : ∀ k k' (reg : Registry) (input : Bytes) (acc : List Record),
    input.length < k → input.length < k' →
    parseAll reg k input acc = parseAll reg k' input acc
  | 0, _, _, _, _, h, _ => absurd h (Nat.not_lt_zero _)
  | _ + 1, 0, _, _, _, _, h => absurd h (Nat.not_lt_zero _)
  | k + 1, k' + 1, reg, input, acc, hk, hk' => by
    unfold parseAll
    split
    · rfl
    · rcases scan_cases reg ⟨input, []⟩ trivial with ⟨rec, reg', s', hrun, _, hc⟩ | ⟨s', hrun⟩ <;> rw [hrun]
      exact parseAll_fuel k k' reg' s'.rest (rec :: acc) (by dsimp only at hc; omega) (by dsimp only at hc; omega)

end Gts.GenBank
