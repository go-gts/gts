/-
  C01, CRLF input: the record and the streams.  The record loop over the CRLF translation of the written
  sections: every section of `GbRecord.lean` is taken by the same sub-parser (`SecOKC` is `SecOKE .crlf`),
  the terminator is `//` CR LF, the CR LF behind CONTIG is skipped as an empty unknown line; only ORIGIN
  has a proof of its own (fast path refused, slow path: `GbCrlfOrigin.lean`).  Then the composition:
  `GenBankParser` on `Origin.crlf t` for the text `t` that `GenBank.String` wrote, followed by any text,
  returns `readBackC`, the registry and the rest as from the LF text (the case `Eol.crlf` of `read_write_E`,
  `GbReadWrite.lean`).  `readBackC` is `readBack` except for the values written between quotes, which come
  back as their CRLF translation (`readFeatureC`); without a line feed in such a value the two records are
  equal (`readBackC_eq_readBack`).  Core Lean only.
-/
import Gts.Lemmas.GbCrlfOrigin
import Gts.Lemmas.GbLearn
namespace Gts.GenBank
open Gts.Pars

theorem loop_endC (length : Int) (k : Nat) (s : Sub) (rest : Bytes) :
    recordLoop length 12 (k + 1) s ⟨bs "//" ++ 13 :: 10 :: rest, []⟩ = (.ok s, ⟨rest, []⟩) :=
  loop_endE .crlf length k s rest

/-- the CR LF behind CONTIG: skipped as an empty unknown line (the input goes on) -/
theorem loop_blankC (length : Int) (k : Nat) (s : Sub) (c : UInt8) (rest : Bytes) :
    recordLoop length 12 (k + 1) s ⟨13 :: 10 :: c :: rest, []⟩ = recordLoop length 12 k s ⟨c :: rest, []⟩ :=
  loop_blank .crlf length k s c rest

/-- `SecOK` for the CRLF translation of the section's text: the same number of passes, the same
action on the record read so far -/
def SecOKC (length : Int) (sec : Section) : Prop :=
  (∀ rest, startsField (Origin.crlf sec.text ++ rest) = true) ∧ sec.iters ≤ sec.text.length ∧
  ∀ (k : Nat) (s : Sub) (rest : Bytes), startsField rest = true →
    recordLoop length 12 (k + sec.iters) s ⟨Origin.crlf sec.text ++ rest, []⟩ =
      recordLoop length 12 k (sec.act s) ⟨rest, []⟩

theorem secsText_startsC (length : Int) (secs : List Section) (h : ∀ x ∈ secs, SecOKC length x) (rest : Bytes)
    (hrest : startsField rest = true) : startsField (Origin.crlf (secsText secs) ++ rest) = true :=
  secsText_startsR .crlf _ length secs (secOKE_all .crlf length secs h) rest hrest

theorem loop_sectionsC (length : Int) (secs : List Section) (h : ∀ x ∈ secs, SecOKC length x) (k : Nat) (s : Sub)
    (rest : Bytes) (hrest : startsField rest = true) :
    recordLoop length 12 (k + secsIters secs) s ⟨Origin.crlf (secsText secs) ++ rest, []⟩ =
      recordLoop length 12 k (secsAct secs s) ⟨rest, []⟩ :=
  loop_sectionsR .crlf _ length secs (secOKE_all .crlf length secs h) k s rest trivial hrest

theorem secsIters_leC (length : Int) (secs : List Section) (h : ∀ x ∈ secs, SecOKC length x) :
    secsIters secs ≤ (secsText secs).length :=
  secsIters_leR .crlf _ length secs (secOKE_all .crlf length secs h)

theorem secDefinition_okC (length : Int) (v : Bytes) (hv : noCR v = true) : SecOKC length (secDefinition v) :=
  secDefinition_okE .crlf length v hv

theorem secAccession_okC (length : Int) (l : Bytes) (hl : noEOL l = true) : SecOKC length (secAccession l) :=
  secAccession_okE .crlf length l hl

theorem secVersion_okC (length : Int) (l : Bytes) (hl : noEOL l = true) : SecOKC length (secVersion l) :=
  secVersion_okE .crlf length l hl

theorem secDblink_okC (length : Int) (p : Bytes × Bytes) (ps : List (Bytes × Bytes))
    (hps : ∀ q ∈ p :: ps, pairOk q = true) : SecOKC length (secDblink p ps) :=
  secDblink_okE .crlf length p ps hps

theorem secKeywords_okC (length : Int) (kws : List Bytes) (h : listOk kws = true) : SecOKC length (secKeywords kws) :=
  secKeywords_okE .crlf length kws h

theorem secSource_okC (length : Int) (species name : Bytes) (taxon : List Bytes)
    (hs : noCR (species) = true) (hn : organismOk name = true) (ht : taxonOk taxon = true) :
    SecOKC length (secSource species name taxon) :=
  secSource_okE .crlf length species name taxon hs hn ht

theorem secComment_okC (length : Int) (v : Bytes) (hv : noCR v = true) : SecOKC length (secComment v) :=
  secComment_okE .crlf length v hv

theorem secReference_okC (length : Int) (x : Reference) (h : referenceOk x = true) : SecOKC length (secReference x) :=
  secReference_okE .crlf length x h

theorem secExtra_okC (length : Int) (name value : Bytes) (hw : WritableExtra name value = true)
    (hn : extraNameOk name = true) : SecOKC length (secExtra name value) :=
  secExtra_okE .crlf length name value hw hn

/-- CONTIG in a CRLF file: the field, then its CR LF as an empty unknown line: two passes -/
theorem secContig_okC (length : Int) (g : Fields) (h : contigOk g = true) : SecOKC length (secContig g) :=
  secContig_okE .crlf length g h

theorem secOrigin_okC (p : Bytes) (hp : ∀ c ∈ p, Origin.isBase c = true) (hlen : p.length < 10 ^ 9) (hne : p ≠ []) :
    SecOKC (p.length : Int) (secOrigin p) := by
  have hhd : headOk 10 (bs "ORIGIN      ") = true := by decide +kernel
  show SecOKE .crlf _ (secOrigin p)
  rw [secOrigin, show bs "ORIGIN      \n" = bs "ORIGIN      " ++ [10] by decide +kernel, List.append_assoc]
  refine secOK_head .crlf hhd _ _ _ 1 (by decide)
    (tl := fun rest => 13 :: 10 :: (Origin.crlf (Origin.originStream p) ++ rest)) (fun rest => rfl) ?_
  rintro k ⟨f, t, o, r⟩ rest hrest
  exact loop_head hhd _ k _ _ _ rest [] (originSub (p.length : Int) 12) rfl
    (by gsimp [originSub, origin_roundtripC p rest _ hp hlen hne (startsField_head rest hrest)]) rfl

/-- the record that comes back from the CRLF file: `readBack` with the table read as `readFeatureC` -/
def readBackC (reg : Registry) (r : Record) (p : Bytes) : Record :=
  ⟨{ r.fields with accession := accessionLine r.fields, region := none },
   r.table.map (readFeatureC reg),
   if p.isEmpty then .buffer [] else .buffer (Origin.originStream p)⟩

theorem locusOk_of_writable (reg : Registry) (r : Record) (p : Bytes) (hw : Writable reg r p = true) :
    locusOk r.fields (locusLength r.fields p) = true := (writable_parts reg r p hw).1

/-- **read (crlf (write r))**, under a registry that writes the same text (`read_write_gen` for the
CRLF file).  `GenBankParser` under `reg` on the CRLF translation of the text `GenBank.String` wrote
under `reg0`, followed by any text `rest'`: it returns `readBackC reg0 r p`, leaves exactly `rest'`,
and ends with `learnTable reg r.table`. -/
theorem read_write_crlf_gen (reg0 reg : Registry) (hs : sameText reg0 reg) (r : Record) (p : Bytes)
    (ho : r.origin = .residues p)
    (hw : Writable reg0 r p = true) (hloc : ∀ x ∈ r.table, LocRTC x.loc) (rest' : Bytes) :
    ∃ t, write reg0 r = .ok t ∧ t ≠ [] ∧
      genbankParser reg ⟨Origin.crlf t ++ rest', []⟩ =
        (.ok (readBackC reg0 r p, learnTable reg r.table), ⟨rest', []⟩) := by
  obtain ⟨t, h1, h2, h3⟩ := read_write_E .crlf reg0 r p ho hw (fun x hx => (hloc x hx).toE) secOrigin_okC
  exact ⟨t, h1, h2, h3 reg hs rest'⟩

/-- no value that is written between quotes (name registered as quoted, or unknown) contains a line
feed — the guard under which the CRLF file reads exactly like the LF file (decidable) -/
def quotedOneLine (reg : Registry) (fs : List QFeature) : Bool :=
  fs.all fun f => (propsItems f.props).all fun kv =>
    match reg.typeOf kv.1 with
    | .literal => true
    | .toggle => true
    | _ => kv.2.all fun c => c != 10

theorem crlfValue_eq (reg : Registry) (n v : Bytes)
    (h : (match reg.typeOf n with
      | .literal => true
      | .toggle => true
      | _ => v.all fun c => c != 10) = true) : crlfValue reg n v = v := by
  unfold crlfValue
  cases ht : reg.typeOf n <;> rw [ht] at h <;> simp only at h ⊢
  all_goals exact crlf_noLF v (noLF_of_all v h)

theorem readFeatureC_eq (reg : Registry) (fs : List QFeature) (h : quotedOneLine reg fs = true) :
    fs.map (readFeatureC reg) = fs.map (readFeature reg) := by
  simp only [quotedOneLine, List.all_eq_true] at h
  apply List.map_congr_left
  intro f hf
  have hf' := h f hf
  simp only [readFeatureC, readFeature, readItemsC, readItems]
  congr 2
  apply List.map_congr_left
  intro kv hkv
  rw [crlfValue_eq reg kv.1 kv.2 (hf' kv hkv)]

theorem readBackC_eq_readBack (reg : Registry) (r : Record) (p : Bytes) (h : quotedOneLine reg r.table = true) :
    readBackC reg r p = readBack reg r p := by
  simp only [readBackC, readBack, readFeatureC_eq reg r.table h]

/-- **Streams, CRLF file.**  The records are written one after the other under `reg0`; the CRLF
translation of the whole stream is read by `GenBankParser` until the input is used up, starting from
any registry `reg` that writes the same text and carrying what each record teaches to the next:
exactly the records, each as `readBackC reg0`, no error, the final registry as from the LF stream. -/
theorem read_stream_crlf_learning (reg0 reg : Registry) (hs : sameText reg0 reg) (rs : List (Record × Bytes))
    (hall : ∀ x ∈ rs, x.1.origin = .residues x.2 ∧ Writable reg0 x.1 x.2 = true ∧ (∀ f ∈ x.1.table, LocRTC f.loc)) :
    ∃ t, writeAll reg0 (rs.map (·.1)) = .ok t ∧
      readAll reg (Origin.crlf t) =
        some (rs.map (fun x => readBackC reg0 x.1 x.2), learnStream reg (rs.map (·.1)), true) := by
  obtain ⟨t, hw, hl, hp⟩ := parseAll_recordsE .crlf reg0 rs secOrigin_okC
    fun x hx => ⟨(hall x hx).1, (hall x hx).2.1, fun f hf => ((hall x hx).2.2 f hf).toE⟩
  exact ⟨t, hw, hp reg hs [] ((tr .crlf t).length + 1) (by omega)⟩

end Gts.GenBank
