/-
  Helper lemmas for C17 (FASTA): run-lemmas for the `Gts.Pars` state monad, the functional
  reading of `FastaParser` (`fastaParse_run`), `wrap.Force`, the body mapping, and the
  write-then-parse lemmas for LF and CRLF text.  Core Lean only.
-/
import Gts.Lemmas.Eol
import Gts.Lemmas.ModText
namespace Gts.Fasta
open Gts Gts.Pars
open Gts.LocParse (anyOf)
open Gts.GenBank (Eol tr)
open Gts.Origin (splitLine)

@[simp] theorem pure_run {α} (a : α) (s : PS) : (pure a : P α) s = (.ok a, s) := rfl
@[simp] theorem getS_run (s : PS) : getS s = (.ok s, s) := rfl
@[simp] theorem setS_run (s s' : PS) : setS s' s = (.ok (), s') := rfl
@[simp] theorem fail_run {α} (s : PS) : (fail : P α) s = (.error .fail, s) := rfl
@[simp] theorem push_run (t stk) : push ⟨t, stk⟩ = (.ok (), ⟨t, t :: stk⟩) := rfl
@[simp] theorem pop_cons_run (t r stk) : pop ⟨t, r :: stk⟩ = (.ok (), ⟨r, stk⟩) := rfl
@[simp] theorem pop_nil_run (t) : pop ⟨t, []⟩ = (.ok (), ⟨t, []⟩) := rfl
@[simp] theorem drop_run (t stk) : Pars.drop ⟨t, stk⟩ = (.ok (), ⟨t, stk.drop 1⟩) := rfl
@[simp] theorem pushed_run (t stk) : pushed ⟨t, stk⟩ = (.ok (!stk.isEmpty), ⟨t, stk⟩) := rfl
@[simp] theorem advance1_run (t stk) : advance1 ⟨t, stk⟩ = (.ok (), ⟨t.drop 1, stk⟩) := rfl
theorem attempt_run {α} (p : P α) (s : PS) : attempt p s = match p s with
    | (.ok a, s') => (.ok (some a), s')
    | (.error .fail, s') => (.ok none, s')
    | (.error .panic, s') => (.error .panic, s') := rfl

theorem gt_run (t stk) : gt ⟨t, stk⟩ = match t with
    | [] => (.error .fail, ⟨t, stk⟩)
    | c :: r => if c == 62 then (.ok (), ⟨r, stk⟩) else (.error .fail, ⟨t, stk⟩) := by
  unfold gt
  rw [P.bind_run]
  cases t with
  | nil => rfl
  | cons c r => by_cases h : c == 62 <;> simp [h]

theorem endP_run (t stk) : endP ⟨t, stk⟩ = match t with
    | [] => (.ok (), ⟨t, stk⟩)
    | _ :: _ => (.error .fail, ⟨t, stk⟩) := by
  unfold endP
  rw [P.bind_run]
  cases t <;> rfl

/-- `pars.Any('>', pars.End)` -/
theorem any_run (t stk) : anyOf [gt, endP] ⟨t, stk⟩ = match t with
    | [] => (.ok (), ⟨[], stk⟩)
    | c :: r => if c == 62 then (.ok (), ⟨r, stk⟩) else (.error .fail, ⟨t, stk⟩) := by
  unfold anyOf
  cases t with
  | nil => simp [P.bind_run, anyOf.go, attempt_run, gt_run, endP_run]
  | cons c r =>
    by_cases h : c == 62 <;> simp [P.bind_run, anyOf.go, attempt_run, gt_run, endP_run, h]

/-- not the record marker `>` -/
def notGt (c : UInt8) : Bool := c != 62

theorem untilLoop_run (fuel : Nat) : ∀ (r : Bytes) (S : List Bytes), r.length < fuel →
    untilLoop (anyOf [gt, endP]) fuel ⟨r, r :: S⟩
      = (.ok (), ⟨(r.dropWhile notGt).drop 1, r.dropWhile notGt :: S⟩) := by
  induction fuel with
  | zero => intro r S h; omega
  | succ fuel ih =>
    intro r S h
    unfold untilLoop
    cases r with
    | nil => simp [P.bind_run, attempt_run, any_run]
    | cons c r' =>
      by_cases hc : c == 62
      · have hn : notGt c = false := by
          have : c = 62 := by simpa using hc
          simp [notGt, this]
        simp [P.bind_run, attempt_run, any_run, hc, hn]
      · have hn : notGt c = true := by simpa [notGt] using hc
        have := ih r' S (by simpa using h)
        simp [P.bind_run, attempt_run, any_run, hc, hn, this]

theorem untilP_run (t : Bytes) (stk : List Bytes) :
    untilP (anyOf [gt, endP]) ⟨t, stk⟩ = (.ok (t.takeWhile notGt), ⟨t.dropWhile notGt, stk⟩) := by
  have htr := trail_spec (t.takeWhile notGt) (t.dropWhile notGt) stk
  rw [List.takeWhile_append_dropWhile] at htr
  unfold untilP
  simp [P.bind_run, untilLoop_run (t.length + 1) t (t :: stk) (by omega), htr]

theorem line_run (t : Bytes) (stk : List Bytes) :
    line ⟨t, stk⟩ = (.ok (splitLine t).1, ⟨(splitLine t).2, stk⟩) :=
  Origin.line_eq_splitLine ⟨t, stk⟩

theorem fastaSeq_run (t : Bytes) (stk : List Bytes) :
    fastaSeq ⟨t, stk⟩ = match t with
      | [] => (.error .fail, ⟨t, stk⟩)
      | c :: t' =>
        if c == 62 then
          (.ok ((splitLine t').1, (splitLine t').2.takeWhile notGt), ⟨(splitLine t').2.dropWhile notGt, stk⟩)
        else (.error .fail, ⟨t, stk⟩) := by
  unfold fastaSeq
  cases t with
  | nil => simp [P.bind_run, attempt_run, gt_run]
  | cons c t' =>
    by_cases hc : c == 62 <;>
      simp [P.bind_run, P.map_run, attempt_run, gt_run, hc, line_run, untilP_run]

theorem fastaParse_run (t : Bytes) (stk : List Bytes) :
    fastaParse ⟨t, stk⟩ = match t with
      | [] => (.error .fail, ⟨t, stk⟩)
      | c :: t' =>
        if c == 62 then
          (.ok ((splitLine t').1, fastaBody ((splitLine t').2.takeWhile notGt)),
            ⟨(splitLine t').2.dropWhile notGt, stk⟩)
        else (.error .fail, ⟨t, stk⟩) := by
  unfold fastaParse
  cases t with
  | nil => simp [P.bind_run, attempt_run, fastaSeq_run]
  | cons c t' =>
    by_cases hc : c == 62 <;>
      simp [P.bind_run, P.map_run, attempt_run, fastaSeq_run, hc]

/-- `bytes.Split(b, "\n")` of the model is core's `List.splitOn`, whose lemmas serve below -/
theorem splitLines_eq_splitOn (b : Bytes) : splitLines b = b.splitOn 10 := by
  induction b with
  | nil => rfl
  | cons c r ih =>
    rw [splitLines, List.splitOn_cons_eq_if_modifyHead, ih]
    split
    · rfl
    · cases h : List.splitOn 10 r with
      | nil => exact absurd h (List.splitOn_ne_nil 10 r)
      | cons => rfl

theorem splitLines_ne_nil (b : Bytes) : splitLines b ≠ [] := by
  rw [splitLines_eq_splitOn]; exact List.splitOn_ne_nil 10 b

theorem stripCR_cons (c : UInt8) (l : Bytes) (h : c ≠ 13) : stripCR (c :: l) = c :: stripCR l := by
  cases l with
  | nil => simp [stripCR, h]
  | cons a l => simp [stripCR]

theorem fastaBody_nil : fastaBody [] = [] := by simp [fastaBody, splitLines, stripCR]

theorem fastaBody_cons_nl (r : Bytes) : fastaBody (10 :: r) = fastaBody r := by
  simp [fastaBody, splitLines, stripCR]

theorem fastaBody_cons (c : UInt8) (r : Bytes) (h10 : c ≠ 10) (h13 : c ≠ 13) :
    fastaBody (c :: r) = c :: fastaBody r := by
  unfold fastaBody
  cases hs : splitLines r with
  | nil => exact absurd hs (splitLines_ne_nil r)
  | cons l ls => simp [splitLines, h10, hs, stripCR_cons c l h13]

theorem fastaBody_crnl (r : Bytes) : fastaBody (13 :: 10 :: r) = fastaBody r := by
  simp [fastaBody, splitLines, stripCR]

def isNotNL (c : UInt8) : Bool := c != 10

theorem fastaBody_tr (e : Eol) (a b : Bytes) (ha : noCR a = true) :
    fastaBody (tr e a ++ b) = a.filter isNotNL ++ fastaBody b := by
  induction a with
  | nil => rw [GenBank.tr_nil]; rfl
  | cons c r ih =>
    simp [noCR] at ha
    have hr : noCR r = true := by simp [noCR]; exact ha.2
    by_cases h10 : c = 10
    · subst h10
      rw [GenBank.tr_cons_lf]
      cases e <;> simp [Eol.bytes, fastaBody_cons_nl, fastaBody_crnl, ih hr, isNotNL]
    · have hc : isNotNL c = true := by simp [isNotNL, h10]
      simp [GenBank.tr_cons_ne e c r h10, fastaBody_cons c _ h10 ha.1, ih hr, hc]
theorem fastaBody_noCR (b : Bytes) (h : noCR b = true) : fastaBody b = b.filter isNotNL := by
  simpa [fastaBody_nil, GenBank.tr_lf] using fastaBody_tr .lf b [] h

theorem wrapGo_filter (f : Nat) (s : Bytes) (n : Nat) :
    (wrapGo f s n).filter isNotNL = s.filter isNotNL := by
  induction f generalizing s with
  | zero => simp [wrapGo]
  | succ f ih =>
    unfold wrapGo
    split
    · have h10 : isNotNL 10 = false := by decide
      rw [List.filter_append, List.filter_cons, ih]
      simp only [h10]
      rw [if_neg (by simp), ← List.filter_append, List.take_append_drop]
    · rfl

theorem wrapGo_mem (f : Nat) (s : Bytes) (n : Nat) (c : UInt8) (h : c ∈ wrapGo f s n) :
    c ∈ s ∨ c = 10 := by
  by_cases h10 : c = 10
  · exact .inr h10
  · have : c ∈ (wrapGo f s n).filter isNotNL := List.mem_filter.2 ⟨h, by simp [isNotNL, h10]⟩
    rw [wrapGo_filter] at this
    exact .inl (List.mem_filter.1 this).1

theorem splitLines_noNL (a : Bytes) (h : ∀ c ∈ a, c ≠ 10) : splitLines a = [a] := by
  rw [splitLines_eq_splitOn]; exact List.splitOn_eq_singleton fun h10 => h 10 h10 rfl

theorem splitLines_append_nl (a b : Bytes) (h : ∀ c ∈ a, c ≠ 10) :
    splitLines (a ++ 10 :: b) = a :: splitLines b := by
  rw [splitLines_eq_splitOn, splitLines_eq_splitOn]
  exact List.splitOn_append_cons_self_of_not_mem (fun h10 => h 10 h10 rfl) b

theorem wrapGo_lines (f : Nat) (s : Bytes) (n : Nat) (hn : 0 < n) (hf : s.length ≤ f)
    (h : ∀ c ∈ s, c ≠ 10) :
    (∀ l ∈ splitLines (wrapGo f s n), l.length ≤ n) ∧
    (∀ l ∈ (splitLines (wrapGo f s n)).dropLast, l.length = n) ∧
    (s ≠ [] → ∀ l ∈ splitLines (wrapGo f s n), l ≠ []) := by
  induction f generalizing s with
  | zero =>
    have : s = [] := List.eq_nil_of_length_eq_zero (by omega)
    subst this
    simp [wrapGo, splitLines]
  | succ f ih =>
    unfold wrapGo
    split
    · rename_i hlt
      have htake : ∀ c ∈ s.take n, c ≠ 10 := fun c hc => h c (List.mem_of_mem_take hc)
      have hdrop : ∀ c ∈ s.drop n, c ≠ 10 := fun c hc => h c (List.mem_of_mem_drop hc)
      have hlen : (s.take n).length = n := by simp; omega
      have hdl : (s.drop n).length ≤ f := by simp; omega
      have hdne : s.drop n ≠ [] := by
        intro h0; have := congrArg List.length h0; simp at this; omega
      obtain ⟨i1, i2, i3⟩ := ih (s.drop n) hdl hdrop
      rw [splitLines_append_nl _ _ htake, List.dropLast_cons_of_ne_nil (splitLines_ne_nil _)]
      exact ⟨List.forall_mem_cons.2 ⟨Nat.le_of_eq hlen, i1⟩, List.forall_mem_cons.2 ⟨hlen, i2⟩,
        fun _ => List.forall_mem_cons.2 ⟨fun h0 => by rw [h0] at hlen; exact absurd hlen.symm (Nat.ne_of_gt hn), i3 hdne⟩⟩
    · rename_i hge
      rw [splitLines_noNL s h]
      exact ⟨List.forall_mem_singleton.2 (by omega), by simp, fun hne => List.forall_mem_singleton.2 hne⟩

theorem wrapGo_ne_nil (f : Nat) (s : Bytes) (n : Nat) (h : s ≠ []) : wrapGo f s n ≠ [] := by
  cases f with
  | zero => simpa [wrapGo]
  | succ f => unfold wrapGo; split <;> simp [h]

theorem getLast?_append_nl (a b : List UInt8) (h : b ≠ []) : (a ++ 10 :: b).getLast? = b.getLast? := by
  cases b with
  | nil => exact absurd rfl h
  | cons x xs =>
    have : a ++ 10 :: x :: xs = (a ++ [10]) ++ (x :: xs) := by simp
    rw [this, List.getLast?_append]
    rw [List.getLast?_eq_some_getLast (l := x :: xs) (by simp)]
    rfl

theorem wrapGo_getLast (f : Nat) (s : Bytes) (n : Nat) (h : ∀ c ∈ s, c ≠ 10) :
    (wrapGo f s n).getLast? ≠ some 10 := by
  induction f generalizing s with
  | zero =>
    intro hl; exact h 10 (List.mem_of_getLast? (by simpa [wrapGo] using hl)) rfl
  | succ f ih =>
    unfold wrapGo
    split
    · rename_i hlt
      have hdne : s.drop n ≠ [] := by
        intro h0; have := congrArg List.length h0; simp at this; omega
      have hne := wrapGo_ne_nil f (s.drop n) n hdne
      have hdrop : ∀ c ∈ s.drop n, c ≠ 10 := fun c hc => h c (List.mem_of_mem_drop hc)
      rw [getLast?_append_nl _ _ hne]
      exact ih _ hdrop
    · intro hl; exact h 10 (List.mem_of_getLast? hl) rfl

theorem span_notGt (a rest : Bytes) (ha : ∀ c ∈ a, notGt c = true) (hr : recEnd rest = true) :
    (a ++ rest).takeWhile notGt = a ∧ (a ++ rest).dropWhile notGt = rest := by
  induction a with
  | nil =>
    cases rest with
    | nil => simp
    | cons c r =>
      have : notGt c = false := by
        have : c = 62 := by simpa [recEnd] using hr
        simp [notGt, this]
      simp [this]
  | cons c a ih =>
    have hc := ha c (by simp)
    have := ih (fun x hx => ha x (by simp [hx]))
    simp [hc, this]

theorem noEOL_of_descOk {d : Bytes} (h : descOk d = true) : GenBank.noEOL d = true :=
  GenBank.noEOL_iff.2 fun c hc => by simpa using List.all_eq_true.1 h c hc

theorem splitLine_desc (e : Eol) (d X : Bytes) (h : descOk d = true) : splitLine (d ++ (e.bytes ++ X)) = (d, X) :=
  Origin.splitLine_eol e d X (noEOL_of_descOk h)

theorem descOk_nl2sp (d : Bytes) (h : noCR d = true) : descOk (nl2sp d) = true := by
  simp [descOk, nl2sp, noCR] at *
  intro c hc
  by_cases h10 : c = 10
  · simp [h10]
  · simp [h10, h c hc]

theorem nl2sp_id (d : Bytes) (h : descOk d = true) : nl2sp d = d := by
  simp [descOk] at h
  unfold nl2sp
  conv => rhs; rw [← List.map_id d]
  apply List.map_congr_left
  intro c hc
  simp [(h c hc).1]

theorem descOk_noCR (d : Bytes) (h : descOk d = true) : noCR d = true := by
  simp [descOk, noCR] at *
  exact fun c hc => (h c hc).2

theorem wrapped_facts (r : Bytes) (hr : resOk r = true) :
    (∀ c ∈ wrapForce r width, notGt c = true) ∧ noCR (wrapForce r width ++ [10]) = true ∧
    (wrapForce r width).filter isNotNL = r := by
  simp [resOk] at hr
  refine ⟨?_, ?_, ?_⟩
  · intro c hc
    rcases wrapGo_mem _ _ _ c hc with h | h
    · simp [notGt, (hr c h).1.1]
    · subst h; decide
  · simp [noCR]
    intro c hc
    rcases wrapGo_mem _ _ _ c hc with h | h
    · exact (hr c h).2
    · subst h; decide
  · unfold wrapForce
    rw [wrapGo_filter]
    apply List.filter_eq_self.2
    intro c hc
    simp [isNotNL, (hr c hc).1.2]

/-- the reader on the shape of a record: `>`, a one-line description, either line end, a body
without `>`, then nothing or the next record -/
theorem parse_record (e : Eol) (d body rest : Bytes) (stk : List Bytes) (hd : descOk d = true)
    (hb : body.all notGt = true) (hrest : recEnd rest = true) :
    fastaParse ⟨62 :: (d ++ (e.bytes ++ (body ++ rest))), stk⟩ = (.ok (d, fastaBody body), ⟨rest, stk⟩) := by
  have hspan := span_notGt body rest (fun c hc => List.all_eq_true.1 hb c hc) hrest
  rw [fastaParse_run]
  simp only [beq_self_eq_true, if_true, splitLine_desc e d _ hd, hspan.1, hspan.2]

theorem tr_all_notGt (e : Eol) (a : Bytes) (h : a.all notGt = true) : (tr e a).all notGt = true := by
  induction a with
  | nil => rw [GenBank.tr_nil]; rfl
  | cons c r ih =>
    simp only [List.all_cons, Bool.and_eq_true] at h
    by_cases h10 : c = 10
    · subst h10
      rw [GenBank.tr_cons_lf, List.all_append, ih h.2]
      cases e <;> rfl
    · rw [GenBank.tr_cons_ne e c r h10, List.all_cons, h.1, ih h.2]; rfl

theorem tr_fastaWrite (e : Eol) (d r : Bytes) :
    tr e (fastaWrite d r) = 62 :: (nl2sp d ++ (e.bytes ++ tr e (wrapForce r width ++ [10]))) := by
  have h1 : tr e (nl2sp d) = nl2sp d := GenBank.tr_noLF e _ fun c hc => by
    simp [nl2sp] at hc
    obtain ⟨a, _, ha⟩ := hc
    by_cases h : a = 10 <;> simp [h] at ha <;> simp [← ha]
    exact h
  have e0 : fastaWrite d r = 62 :: (nl2sp d ++ 10 :: (wrapForce r width ++ [10])) := by
    simp [fastaWrite]
  rw [e0, GenBank.tr_cons_ne e _ _ (by decide), GenBank.tr_append, GenBank.tr_cons_lf, h1]

/-- a record written under either line end, then text `g` without `>`, then nothing or the next
record: `FastaParser` reads the record and `g` as one record; `g`, line breaks removed, is appended
to the residues -/
theorem parse_write_tr (e : Eol) (d r g rest : Bytes) (stk : List Bytes) (hd : noCR d = true)
    (hr : resOk r = true) (hg : g.all notGt = true) (hrest : recEnd rest = true) :
    fastaParse ⟨tr e (fastaWrite d r) ++ (g ++ rest), stk⟩ = (.ok (nl2sp d, r ++ fastaBody g), ⟨rest, stk⟩) := by
  obtain ⟨w1, w2, w3⟩ := wrapped_facts r hr
  have hb : (tr e (wrapForce r width ++ [10]) ++ g).all notGt = true := by
    rw [List.all_append, tr_all_notGt e _ (by rw [List.all_append, List.all_eq_true.2 w1]; rfl), hg]; rfl
  have := parse_record e (nl2sp d) (tr e (wrapForce r width ++ [10]) ++ g) rest stk (descOk_nl2sp d hd) hb hrest
  rw [fastaBody_tr e _ g w2, List.filter_append, w3] at this
  simpa [tr_fastaWrite, isNotNL] using this

theorem parse_write_then (d r g rest : Bytes) (stk : List Bytes) (hd : noCR d = true)
    (hr : resOk r = true) (hg : g.all notGt = true) (hrest : recEnd rest = true) :
    fastaParse ⟨fastaWrite d r ++ (g ++ rest), stk⟩ = (.ok (nl2sp d, r ++ fastaBody g), ⟨rest, stk⟩) :=
  parse_write_tr .lf d r g rest stk hd hr hg hrest

theorem parse_write (d r rest : Bytes) (stk : List Bytes) (hd : noCR d = true)
    (hr : resOk r = true) (hrest : recEnd rest = true) :
    fastaParse ⟨fastaWrite d r ++ rest, stk⟩ = (.ok (nl2sp d, r), ⟨rest, stk⟩) := by
  simpa [fastaBody_nil] using parse_write_then d r [] rest stk hd hr rfl hrest

theorem parse_write_crlf (d r rest : Bytes) (stk : List Bytes) (hd : noCR d = true)
    (hr : resOk r = true) (hrest : recEnd rest = true) :
    fastaParse ⟨crlf (fastaWrite d r) ++ rest, stk⟩ = (.ok (nl2sp d, r), ⟨rest, stk⟩) := by
  have := parse_write_tr .crlf d r [] rest stk hd hr rfl hrest
  rwa [show tr .crlf _ = crlf _ from GenBank.crlf_eq_fasta _, List.nil_append, fastaBody_nil,
    List.append_nil] at this

theorem run'_eq {α} (p : P α) (s : PS) : p.run' s = p s := rfl

/-- a stream element: encoded text and the record it stands for -/
def GoodEnc (p : Bytes × (Bytes × Bytes)) : Prop :=
  (∃ t', p.1 = 62 :: t') ∧
  ∀ rest stk, recEnd rest = true → fastaParse ⟨p.1 ++ rest, stk⟩ = (.ok p.2, ⟨rest, stk⟩)

theorem recEnd_stream (ts : List (Bytes × (Bytes × Bytes))) (h : ∀ p ∈ ts, GoodEnc p) :
    recEnd (ts.map (·.1)).flatten = true := by
  cases ts with
  | nil => rfl
  | cons p ts =>
    obtain ⟨t', ht⟩ := (h p (by simp)).1
    simp [ht, recEnd]

theorem scanLoop_records (ts : List (Bytes × (Bytes × Bytes))) (h : ∀ p ∈ ts, GoodEnc p) :
    ∀ fuel stk, (ts.map (·.1)).flatten.length < fuel →
      scanLoop fuel ⟨(ts.map (·.1)).flatten, stk⟩ = .done (ts.map (·.2)) true := by
  induction ts with
  | nil =>
    intro fuel stk hf
    cases fuel with
    | zero => omega
    | succ f => simp [scanLoop]
  | cons p ts ih =>
    intro fuel stk hf
    have hts : ∀ q ∈ ts, GoodEnc q := fun q hq => h q (by simp [hq])
    obtain ⟨⟨t', ht⟩, hp⟩ := h p (by simp)
    cases fuel with
    | zero => omega
    | succ f =>
      have hlen : (ts.map (·.1)).flatten.length < f := by
        simp [ht] at hf; simp; omega
      have := hp _ stk (recEnd_stream ts hts)
      simp only [List.map_cons, List.flatten_cons]
      unfold scanLoop
      have hne : (p.1 ++ (ts.map (·.1)).flatten).isEmpty = false := by rw [ht]; rfl
      simp only [run'_eq, this, ih hts f stk hlen, hne]
      rfl

theorem scanAll_records (auto : Bool) (ts : List (Bytes × (Bytes × Bytes)))
    (h : ∀ p ∈ ts, GoodEnc p) :
    scanAll auto (ts.map (·.1)).flatten = .done (ts.map (·.2)) true := by
  cases auto with
  | false =>
    have := scanLoop_records ts h ((ts.map (·.1)).flatten.length + 1) [] (by omega)
    unfold scanAll
    rw [if_neg (by decide)]
    exact this
  | true =>
    cases ts with
    | nil => simp [scanAll, scanFirstAuto]
    | cons p ts =>
      have hts : ∀ q ∈ ts, GoodEnc q := fun q hq => h q (by simp [hq])
      obtain ⟨⟨t', ht⟩, hp⟩ := h p (by simp)
      have hpar := hp _ [p.1 ++ (ts.map (·.1)).flatten] (recEnd_stream ts hts)
      have hloop := scanLoop_records ts hts ((ts.map (·.1)).flatten.length + 1) [] (by omega)
      have hne : ¬ ((p.1 ++ (ts.map (·.1)).flatten).take 5 == [76, 79, 67, 85, 83]) = true := by
        rw [ht]; simp
      have hne0 : (p.1 ++ (ts.map (·.1)).flatten).isEmpty = false := by rw [ht]; rfl
      simp only [scanAll, scanFirstAuto, if_true, List.map_cons, List.flatten_cons, hne, hne0]
      generalize (ts.map (·.1)).flatten = T at *
      simp [run'_eq, P.bind_run, attempt_run, hpar, hloop]

/-- a stream given by an encoding and a decoding of its members -/
theorem scanAll_map (auto : Bool) (rs : List (Bytes × Bytes)) (enc : Bytes × Bytes → Bytes)
    (dec : Bytes × Bytes → Bytes × Bytes) (h : ∀ p ∈ rs, GoodEnc (enc p, dec p)) :
    scanAll auto (rs.map enc).flatten = .done (rs.map dec) true := by
  have := scanAll_records auto (rs.map fun p => (enc p, dec p)) (fun q hq => by
    obtain ⟨p, hp, rfl⟩ := List.mem_map.1 hq; exact h p hp)
  rwa [List.map_map, List.map_map] at this

end Gts.Fasta
