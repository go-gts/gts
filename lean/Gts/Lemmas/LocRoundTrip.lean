/-
  The location text round trip (C06): `ParseLocation = Any(range, between, ambiguous, complement, join, order, point)`
  on every kind of printed location followed by a delimiter — the alternatives in front of the right one restore
  position and stack exactly (`Rejects`), the right one leaves the stack as it found it (`Reads`; both of
  Lemmas/ParsRuns.lean, the runs of the alternatives from Lemmas/LocRun.lean); the part list; the fuel a printed
  location needs.  The round trip: `loc_printB_sep` (any `Sep` continuation, fuel `need l`), `loc_printB`,
  `parseLocation_of_run`.  Core Lean only.
-/
import Gts.Lemmas.Basic
import Gts.Lemmas.LocRun
import Gts.Spec.LocCanon
namespace Gts
open Pars ModParse LocParse Pars.Run

/-- a printed between-site: `range` fails at `^`, `between` succeeds -/
theorem loc_between (f : Nat) (p : Int) (rest : Bytes) (hp : Loc.coordOk p = true) (hr : Sep rest) :
    Reads (loc (f + 1)) (Loc.printB (.between p) ++ rest) (.between p) rest := by
  obtain ⟨a, rfl, ha⟩ := Loc.coordOk_nat hp
  rw [Loc.printB, dec_ofNat, dec_succ, loc]
  simp only [List.append_assoc, List.cons_append]
  exact .anyOf_skip (range_num_fail a _ (by omega) (by simp [isDigit]) (by simp)) <|
    .anyOf_ok (between_print a rest (by omega) hr.noDigit) _

/-- a printed ambiguous span: `range` fails (one `.` only), `between` fails at `.`,
`ambiguous` succeeds -/
theorem loc_ambiguous (f : Nat) (s e : Int) (rest : Bytes) (hs : Loc.coordOk s = true) (he : Loc.coordOk e = true)
    (hr : Sep rest) : Reads (loc (f + 1)) (Loc.printB (.ambiguous s e) ++ rest) (.ambiguous s e) rest := by
  obtain ⟨a, rfl, ha⟩ := Loc.coordOk_nat hs
  obtain ⟨b, rfl, hb⟩ := Loc.coordOk_nat he
  obtain ⟨d, ds, h4, hd⟩ := natDigits_cons b
  have h2 : (46 :: (natDigits b ++ rest)).take 2 ≠ [46, 46] := by
    rw [h4]
    simpa using isDigit_ne d 46 hd (by decide)
  rw [Loc.printB, dec_ofNat, dec_succ, loc]
  simp only [List.append_assoc, List.cons_append]
  exact .anyOf_skip (range_num_fail (a + 1) _ (by omega) (by simp [isDigit]) h2) <|
    .anyOf_skip (between_num_fail (a + 1) _ (by omega) (by simp [isDigit]) (by simp)) <|
    .anyOf_ok (ambiguous_print a b rest (by omega) (by omega) hr.noDigit) _

/-- a printed point: the six earlier alternatives fail restoring the state, `point` succeeds -/
theorem loc_point (f : Nat) (p : Int) (rest : Bytes) (hp : Loc.coordOk p = true) (hr : Sep rest) :
    Reads (loc (f + 1)) (Loc.printB (.point p) ++ rest) (.point p) rest := by
  obtain ⟨a, rfl, ha⟩ := Loc.coordOk_nat hp
  have hfa : a + 1 ≤ 9223372036854775807 := by omega
  obtain ⟨hc, hj, ho⟩ := keyword_rejects_digits f (a + 1) rest
  rw [Loc.printB, dec_succ, loc]
  exact .anyOf_skip (range_num_fail _ _ hfa hr.noDigit hr.noDots) <|
    .anyOf_skip (between_num_fail _ _ hfa hr.noDigit (hr.ne 94 (by simp))) <|
    .anyOf_skip (ambiguous_num_fail _ _ hfa hr.noDigit (hr.ne 46 (by simp))) <|
    .anyOf_skip hc <| .anyOf_skip hj <| .anyOf_skip ho <| .anyOf_ok (point_print a rest hfa hr.noDigit) _

/-- `ParseLocation` on `complement(`: the three number-led alternatives fail at `c` -/
theorem loc_complement (f : Nat) (inp rest : Bytes) (l : Loc) (h : Reads (loc f) inp l (41 :: rest)) :
    Reads (loc (f + 2)) (99 :: 111 :: 109 :: 112 :: 108 :: 101 :: 109 :: 101 :: 110 :: 116 :: 40 :: inp) l.complement
      rest := by
  obtain ⟨h1, h2, h3⟩ := numLed_rejects 99 (111 :: 109 :: 112 :: 108 :: 101 :: 109 :: 101 :: 110 :: 116 :: 40 :: inp)
    (by decide) (by decide) (by decide) (by decide)
  rw [loc, complementOf_succ, str_complement]
  exact .anyOf_skip h1 <| .anyOf_skip h2 <| .anyOf_skip h3 <|
    .anyOf_ok (wrapped_run 11 _ _ _ inp rest l rfl (orPop_ok h)) _

theorem loc_join (f : Nat) (ls : List Loc) (rest : Bytes)
    (h : Reads (multiple f) (Loc.printListB ls ++ 41 :: rest) ls (41 :: rest)) :
    Reads (loc (f + 2)) (Loc.printB (.joined ls) ++ rest) (Loc.join ls) rest := by
  obtain ⟨h1, h2, h3⟩ := numLed_rejects 106 (111 :: 105 :: 110 :: 40 :: (Loc.printListB ls ++ 41 :: rest)) (by decide)
    (by decide) (by decide) (by decide)
  rw [Loc.printB, str_join, loc, joinOf_succ, str_join]
  simp only [List.append_assoc, List.cons_append, List.nil_append]
  exact .anyOf_skip h1 <| .anyOf_skip h2 <| .anyOf_skip h3 <| .anyOf_skip (complementOf_other _ 106 _ (by decide)) <|
    .anyOf_ok (wrapped_run 5 _ _ _ _ rest ls rfl h) _

theorem loc_order (f : Nat) (ls : List Loc) (rest : Bytes)
    (h : Reads (multiple f) (Loc.printListB ls ++ 41 :: rest) ls (41 :: rest)) :
    Reads (loc (f + 2)) (Loc.printB (.ordered ls) ++ rest) (Loc.order ls) rest := by
  obtain ⟨h1, h2, h3⟩ := numLed_rejects 111 (114 :: 100 :: 101 :: 114 :: 40 :: (Loc.printListB ls ++ 41 :: rest)) (by decide)
    (by decide) (by decide) (by decide)
  rw [Loc.printB, str_order, loc, orderOf_succ, str_order]
  simp only [List.append_assoc, List.cons_append, List.nil_append]
  exact .anyOf_skip h1 <| .anyOf_skip h2 <| .anyOf_skip h3 <| .anyOf_skip (complementOf_other _ 111 _ (by decide)) <|
    .anyOf_skip (joinOf_other _ 111 _ (by decide)) <| .anyOf_ok (wrapped_run 6 _ _ _ _ rest ls rfl h) _

/-- no `,` follows: the part list ends (whatever fuel is left) -/
theorem more_stop (f k : Nat) (acc : List Loc) (r : Bytes) :
    Reads (multiple.more f k acc) (41 :: r) acc.reverse (41 :: r) := by
  intro stk
  cases k with
  | zero => rw [multiple.more]; rfl
  | succ k => rw [multiple.more]; simp [delimiter]

/-- `,` and one more part -/
theorem more_step (f k : Nat) (acc : List Loc) (l : Loc) (c : UInt8) (inp tail : Bytes) (stk : List Bytes)
    (hc : isSpace c = false) (h : Reads (loc f) (c :: inp) l tail) :
    multiple.more f (k + 1) acc ⟨44 :: c :: inp, stk⟩ = multiple.more f k (l :: acc) ⟨tail, stk⟩ := by
  rw [multiple.more]
  simp [delimiter, hc, h _]

theorem multiple_run (f : Nat) (l : Loc) (ls : List Loc) (inp tail rest : Bytes) (h1 : Reads (loc f) inp l tail)
    (h2 : Reads (multiple.more f f [l]) tail ls rest) : Reads (multiple (f + 1)) inp ls rest := by
  intro stk
  rw [multiple]
  simp [h1 _, h2 _]

namespace Loc

theorem complement_of_not_compl (l : Loc) (h : isComplC l = false) : l.complement = compl l := by
  cases l <;> simp_all [complement, isComplC]

theorem flattenOrd_of_not_ordered (l : Loc) (h : isOrderedC l = false) : flattenOrd l = [l] := by
  cases l <;> simp_all [flattenOrd, isOrderedC]

theorem flattenOrdList_of_none : ∀ ls : List Loc, ls.any isOrderedC = false → flattenOrdList ls = ls
  | [], _ => by simp [flattenOrdList]
  | l :: ls, h => by
      simp only [List.any_cons, Bool.or_eq_false_iff] at h
      simp [flattenOrdList, flattenOrd_of_not_ordered l h.1, flattenOrdList_of_none ls h.2]

theorem order_of_canon (ls : List Loc) (h2 : 2 ≤ ls.length) (h : ls.any isOrderedC = false) :
    order ls = ordered ls := by
  unfold order
  rw [flattenOrdList_of_none ls h]
  match ls, h2 with
  | _ :: _ :: _, _ => rfl

end Loc

theorem dec_cons (n : Int) : ∃ c r, dec n = c :: r ∧ isSpace c = false := by
  unfold dec
  split
  · exact ⟨45, _, rfl, by decide⟩
  · obtain ⟨d, ds, h, hd⟩ := natDigits_cons n.toNat
    exact ⟨d, ds, h, isSpace_of_isDigit d hd⟩

namespace Loc

/-- a printed location starts with a byte that `locationDelimiter` does not skip -/
theorem printB_cons (l : Loc) : ∃ c r, printB l = c :: r ∧ isSpace c = false := by
  cases l with
  | between p =>
    obtain ⟨c, r, h, hc⟩ := dec_cons p
    exact ⟨c, _, by rw [printB, h]; rfl, hc⟩
  | point p =>
    obtain ⟨c, r, h, hc⟩ := dec_cons (p + 1)
    exact ⟨c, _, by rw [printB, h], hc⟩
  | ranged s e p5 p3 =>
    obtain ⟨c, r, h, hc⟩ := dec_cons (s + 1)
    cases p5
    · exact ⟨c, _, by rw [printB, h]; rfl, hc⟩
    · exact ⟨60, _, by rw [printB]; rfl, by decide⟩
  | ambiguous s e =>
    obtain ⟨c, r, h, hc⟩ := dec_cons (s + 1)
    exact ⟨c, _, by rw [printB, h]; rfl, hc⟩
  | joined ls => exact ⟨106, _, by rw [printB, str_join]; rfl, by decide⟩
  | ordered ls => exact ⟨111, _, by rw [printB, str_order]; rfl, by decide⟩
  | compl l => exact ⟨99, _, by rw [printB, str_complement]; rfl, by decide⟩

mutual
/-- recursion fuel that `ParseLocation` needs to read `printB l` back -/
def need : Loc → Nat
  | joined ls => needList ls + 3
  | ordered ls => needList ls + 3
  | compl l => need l + 2
  | _ => 1
def needList : List Loc → Nat
  | [] => 0
  | l :: ls => need l + needList ls + 1
end

theorem length_le_needList : ∀ ls : List Loc, ls.length ≤ needList ls
  | [] => by simp [needList]
  | l :: ls => by
      have := length_le_needList ls
      simp only [needList, List.length_cons]
      omega

mutual
/-- every nesting level prints more bytes than it needs fuel -/
theorem need_le_length : ∀ l : Loc, need l ≤ (printB l).length
  | between _ | ranged .. | ambiguous .. => by simp [need, printB]; omega
  | point p => by
      obtain ⟨c, r, h, _⟩ := dec_cons (p + 1)
      simp [need, printB, h]
  | joined [] | ordered [] => by simp [need, needList, printB, str_join, str_order]
  | joined (l :: ls) | ordered (l :: ls) => by
      have h1 := need_le_length l
      have h2 := needList_le_length ls
      simp only [need, needList, printB, printListB, str_join, str_order, List.length_append, List.length_cons,
        List.length_nil]
      omega
  | compl l => by
      have h1 := need_le_length l
      simp only [need, printB, str_complement, List.length_append, List.length_cons, List.length_nil]
      omega
theorem needList_le_length : ∀ ls : List Loc, needList ls ≤ (printTailB ls).length
  | [] => by simp [needList]
  | l :: ls => by
      have h1 := need_le_length l
      have h2 := needList_le_length ls
      simp only [needList, printTailB, List.length_append, List.length_cons]
      omega
end

theorem delim_tail (ls : List Loc) (rest : Bytes) : Delim (printTailB ls ++ 41 :: rest) := by
  cases ls with
  | nil => exact Or.inr rfl
  | cons l ls => exact Or.inl rfl

mutual
/-- **`ParseLocation` reads back every printed canonical location**, at any nesting depth and arity, with any
stack, given `need l` units of recursion fuel, in front of any continuation that cannot be taken for a part of it
(`Sep`): a delimiter inside a printed location, the line feed of a feature-table line at top level (C01). -/
theorem loc_printB_sep : ∀ (l : Loc), canonP l = true → ∀ (f : Nat) (rest : Bytes) (stk : List Bytes),
    need l ≤ f → Sep rest → loc f ⟨printB l ++ rest, stk⟩ = (.ok l, ⟨rest, stk⟩)
  | between p, hc, f, rest, stk, hf, hs => by
      obtain ⟨f, rfl⟩ : ∃ f', f = f' + 1 := ⟨f - 1, by simp only [need] at hf; omega⟩
      exact loc_between f p rest (by simpa [canonP] using hc) hs stk
  | point p, hc, f, rest, stk, hf, hs => by
      obtain ⟨f, rfl⟩ : ∃ f', f = f' + 1 := ⟨f - 1, by simp only [need] at hf; omega⟩
      exact loc_point f p rest (by simpa [canonP] using hc) hs stk
  | ranged s e p5 p3, hc, f, rest, stk, hf, hs => by
      simp only [canonP, Bool.and_eq_true] at hc
      obtain ⟨f, rfl⟩ : ∃ f', f = f' + 1 := ⟨f - 1, by simp only [need] at hf; omega⟩
      rw [loc]
      exact Runs.anyOf_ok (range_print s e p5 p3 rest hc.1 hc.2 hs) _ stk
  | ambiguous s e, hc, f, rest, stk, hf, hs => by
      simp only [canonP, Bool.and_eq_true] at hc
      obtain ⟨f, rfl⟩ : ∃ f', f = f' + 1 := ⟨f - 1, by simp only [need] at hf; omega⟩
      exact loc_ambiguous f s e rest hc.1 hc.2 hs stk
  | compl l, hc, f, rest, stk, hf, _ => by
      simp only [canonP, Bool.and_eq_true, Bool.not_eq_true'] at hc
      obtain ⟨f, rfl⟩ : ∃ f', f = f' + 2 := ⟨f - 2, by simp only [need] at hf; omega⟩
      have hf' : need l ≤ f := by simp only [need] at hf; omega
      rw [printB, str_complement]
      simp only [List.append_assoc, List.cons_append, List.nil_append]
      have h := loc_complement f (printB l ++ 41 :: rest) rest l
        (fun stk' => loc_printB_sep l hc.1 f (41 :: rest) stk' hf' (Delim.sep (Or.inr rfl))) stk
      rw [complement_of_not_compl l hc.2] at h
      exact h
  | joined [], hc, f, rest, stk, hf, _ => by simp [canonP] at hc
  | joined (l :: ls), hc, f, rest, stk, hf, _ => by
      simp only [canonP, Bool.and_eq_true] at hc
      obtain ⟨f, rfl⟩ : ∃ f', f = f' + 1 + 2 := ⟨f - 3, by simp only [need] at hf; omega⟩
      have h := loc_join (f + 1) (l :: ls) rest
        (multiple_printB (l :: ls) (List.cons_ne_nil _ _) hc.1.1.1 f rest (by simp only [need] at hf; omega)) stk
      rw [beq_eq _ _ hc.2] at h
      exact h
  | ordered [], hc, f, rest, stk, hf, _ => by simp [canonP] at hc
  | ordered (l :: ls), hc, f, rest, stk, hf, _ => by
      simp only [canonP, Bool.and_eq_true, Bool.not_eq_true', decide_eq_true_eq] at hc
      obtain ⟨f, rfl⟩ : ∃ f', f = f' + 1 + 2 := ⟨f - 3, by simp only [need] at hf; omega⟩
      have h := loc_order (f + 1) (l :: ls) rest
        (multiple_printB (l :: ls) (List.cons_ne_nil _ _) hc.1.1 f rest (by simp only [need] at hf; omega)) stk
      rw [order_of_canon _ hc.1.2 hc.2] at h
      exact h
/-- the part list of a printed `join(` / `order(`: the first part, then the others up to the closing `)` -/
theorem multiple_printB : ∀ (ls : List Loc), ls ≠ [] → canonPList ls = true → ∀ (f : Nat) (rest : Bytes),
    needList ls ≤ f + 1 → Reads (multiple (f + 1)) (printListB ls ++ 41 :: rest) ls (41 :: rest)
  | [], hne, _, _, _, _ => absurd rfl hne
  | l :: ls, _, hc, f, rest, hf => by
      simp only [canonPList, Bool.and_eq_true] at hc
      simp only [needList] at hf
      rw [printListB, List.append_assoc]
      exact multiple_run f l (l :: ls) _ _ _
        (fun stk => loc_printB_sep l hc.1 f _ stk (by omega) (delim_tail ls rest).sep)
        (more_printB ls hc.2 f f [l] rest (by omega) (Nat.le_trans (length_le_needList ls) (by omega)))
theorem more_printB : ∀ (ls : List Loc), canonPList ls = true →
    ∀ (f k : Nat) (acc : List Loc) (rest : Bytes), needList ls ≤ f → ls.length ≤ k →
      Reads (multiple.more f k acc) (printTailB ls ++ 41 :: rest) (acc.reverse ++ ls) (41 :: rest)
  | [], _, f, k, acc, rest, _, _, stk => by
      rw [printTailB, List.nil_append, List.append_nil]
      exact more_stop f k acc rest stk
  | l :: ls, hc, f, k, acc, rest, hf, hk, stk => by
      simp only [canonPList, Bool.and_eq_true] at hc
      obtain ⟨k, rfl⟩ : ∃ k', k = k' + 1 := ⟨k - 1, by simp only [List.length_cons] at hk; omega⟩
      have hf1 : need l ≤ f := by simp only [needList] at hf; omega
      have hf2 : needList ls ≤ f := by simp only [needList] at hf; omega
      obtain ⟨c, r, hpr, hsp⟩ := printB_cons l
      have h := fun stk' => loc_printB_sep l hc.1 f (printTailB ls ++ 41 :: rest) stk' hf1 (delim_tail ls rest).sep
      rw [hpr] at h
      rw [printTailB]
      simp only [List.append_assoc, List.cons_append]
      rw [hpr]
      simp only [List.cons_append] at h ⊢
      rw [more_step f k acc l c _ _ stk hsp h]
      rw [more_printB ls hc.2 f k (l :: acc) rest hf2 (by simp only [List.length_cons] at hk; omega) stk]
      simp
end

/-- the round trip inside a printed location: the continuation is `,`, `)` or the end of the text -/
theorem loc_printB (l : Loc) (hc : canonP l = true) (f : Nat) (rest : Bytes) (hf : need l ≤ f) (hd : Delim rest) :
    Reads (loc f) (printB l ++ rest) l rest := fun stk => loc_printB_sep l hc f rest stk hf hd.sep

end Loc

/-- `AsLocation` is the recursive parser started with `input.length + 2` units of fuel on an
empty stack -/
theorem parseLocation_of_run (input rest : Bytes) (l : Loc)
    (h : LocParse.loc (input.length + 2) ⟨input, []⟩ = (.ok l, ⟨rest, []⟩)) :
    parseLocation input = .ok (l, rest) := by
  simp only [parseLocation, P.run', ExceptT.run, StateT.run, h]

end Gts
