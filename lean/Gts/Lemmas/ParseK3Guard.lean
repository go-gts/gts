/-
  `Gts/Spec/ParseK3.lean` (the parser with the K3 flag, answered by the driver op `k3.parse` and restated in Go:
  harness/props_c06_parsek3.go) IS the instance `g = Loc.joinK3` of the generic flagged parser of
  `Gts/Spec/ParseGuard.lean`.  So the flagged parser the theorem "parser results are canonical" is about is tied to the
  real parser through the same op.  Core Lean only.
-/
import Gts.Spec.ParseK3
import Gts.Spec.ParseGuard
namespace Gts
open Pars

theorem more_eq (fuel : Nat) (h : LocParseK3.loc fuel = LocParseG.loc Loc.joinK3 fuel) :
    ∀ (k : Nat) (acc : List Loc) (b : Bool),
      LocParseK3.multiple.more fuel k acc b = LocParseG.multiple.more Loc.joinK3 fuel k acc b := by
  intro k
  induction k with
  | zero => intro acc b; simp [LocParseK3.multiple.more, LocParseG.multiple.more]
  | succ k ih =>
    intro acc b
    simp only [LocParseK3.multiple.more, LocParseG.multiple.more, h, ih]
    rfl

theorem k3_eq_g : ∀ fuel : Nat,
    LocParseK3.loc fuel = LocParseG.loc Loc.joinK3 fuel ∧
    LocParseK3.multiple fuel = LocParseG.multiple Loc.joinK3 fuel ∧
    LocParseK3.joinOf fuel = LocParseG.joinOf Loc.joinK3 fuel ∧
    LocParseK3.orderOf fuel = LocParseG.orderOf Loc.joinK3 fuel ∧
    LocParseK3.complementOf fuel = LocParseG.complementOf Loc.joinK3 fuel := by
  intro fuel
  induction fuel with
  | zero =>
    refine ⟨?_, ?_, ?_, ?_, ?_⟩ <;>
      simp [LocParseK3.loc, LocParseG.loc, LocParseK3.multiple, LocParseG.multiple, LocParseK3.joinOf, LocParseG.joinOf,
        LocParseK3.orderOf, LocParseG.orderOf, LocParseK3.complementOf, LocParseG.complementOf]
  | succ f ih =>
    obtain ⟨h1, h2, h3, h4, h5⟩ := ih
    have hm : LocParseK3.multiple (f + 1) = LocParseG.multiple Loc.joinK3 (f + 1) := by
      simp only [LocParseK3.multiple, LocParseG.multiple, h1, more_eq f h1]
      rfl
    refine ⟨?_, hm, ?_, ?_, ?_⟩
    · simp only [LocParseK3.loc, LocParseG.loc, h3, h4, h5]; rfl
    · simp only [LocParseK3.joinOf, LocParseG.joinOf, h2]; rfl
    · simp only [LocParseK3.orderOf, LocParseG.orderOf, h2]; rfl
    · simp only [LocParseK3.complementOf, LocParseG.complementOf, h1]; rfl

/-- the op-tied K3 parser is the generic flagged parser at `g = Loc.joinK3` -/
theorem parseLocationK3_eq_G (s : Bytes) : parseLocationK3 s = parseLocationG Loc.joinK3 s := by
  unfold parseLocationK3 parseLocationG
  rw [(k3_eq_g (s.length + 2)).1]
  rfl

end Gts
