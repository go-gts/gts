/-
  One judgement for the parsers of `Pars.P`: `Rel G R p q` — from every state whose position and saved positions
  are texts all of whose suffixes meet `G`, `p` and `q` run in lock step: the same error, or values related by `R`;
  the same final state, which meets the invariant again (also on failure: `attempt` goes on from the failed state).
  `Un G p Q` is a parser against itself.  `Post` is `Un` at the trivial `G`, `PostI` is `Un` at `IntsIn`
  (Gts/Lemmas/ParseCoords.lean), `Sim r` is `Rel` at the trivial `G` and the graph of `r` (Gts/Lemmas/ParseSim.lean).
  The second half is the one walk over the location parsers: the model's five mutual parsers against the flagged
  copies of Gts/Spec/ParseGuard.lean, for every relation that the leaves establish and `Join`, `Order`,
  `Complement()` respect (`LocParseG.rel_all`); the simulation, the structural invariant and the coordinate bound
  are three choices of that relation.  Core Lean only.
-/
import Gts.Lemmas.ParsPost
namespace Gts.Pars
open Gts

def InvG (G : Bytes → Prop) (st : PS) : Prop := (∀ n, G (st.rest.drop n)) ∧ ∀ u ∈ st.stk, ∀ n, G (u.drop n)

inductive Out {α β} (I : PS → Prop) (R : α → β → Prop) : Except Err α × PS → Except Err β × PS → Prop
  | ok {a b s} : I s → R a b → Out I R (.ok a, s) (.ok b, s)
  | err {e s} : I s → Out I R (.error e, s) (.error e, s)

def Rel {α β} (G : Bytes → Prop) (R : α → β → Prop) (p : P α) (q : P β) : Prop :=
  ∀ st, InvG G st → Out (InvG G) R (p st) (q st)

abbrev Un {α} (G : Bytes → Prop) (p : P α) (Q : α → Prop) : Prop := Rel G (fun a b => a = b ∧ Q a) p p

variable {G : Bytes → Prop} {α β γ δ : Type}

theorem Rel.pure {R : α → β → Prop} {a : α} {b : β} (h : R a b) : Rel G R (Pure.pure a : P α) (Pure.pure b) :=
  fun _ hI => .ok hI h

theorem Rel.pureU {Q : α → Prop} {a : α} (h : Q a) : Un G (Pure.pure a : P α) Q := .pure ⟨rfl, h⟩

theorem Rel.fail {R : α → β → Prop} : Rel G R (Pars.fail : P α) (Pars.fail : P β) := fun _ hI => .err hI

theorem Rel.bind {R1 : α → β → Prop} {R : γ → δ → Prop} {p : P α} {q : P β} {f : α → P γ} {f' : β → P δ}
    (h : Rel G R1 p q) (hf : ∀ a b, R1 a b → Rel G R (f a) (f' b)) : Rel G R (p >>= f) (q >>= f') := fun st hI => by
  have h' := h st hI
  rw [P.bind_run, P.bind_run]
  generalize p st = x, q st = y at h' ⊢
  cases h' with
  | ok hi hr => exact hf _ _ hr _ hi
  | err hi => exact .err hi

theorem Rel.fail_bind {α'} {R : γ → δ → Prop} {f : α → P γ} {f' : α' → P δ} :
    Rel G R ((Pars.fail : P α) >>= f) ((Pars.fail : P α') >>= f') := fun _ hI => .err hI

theorem Rel.ite {R : α → β → Prop} {c : Prop} [Decidable c] {p p' : P α} {q q' : P β}
    (h1 : Rel G R p q) (h2 : Rel G R p' q') : Rel G R (if c then p else p') (if c then q else q') := by
  split
  · exact h1
  · exact h2

theorem Rel.attempt_bind {R1 : α → β → Prop} {R : γ → δ → Prop} {p : P α} {q : P β}
    {k : Option α → P γ} {k' : Option β → P δ} (h : Rel G R1 p q)
    (hs : ∀ a b, R1 a b → Rel G R (k (some a)) (k' (some b))) (hn : Rel G R (k none) (k' none)) :
    Rel G R (attempt p >>= k) (attempt q >>= k') := fun st hI => by
  have h' := h st hI
  rw [P.bind_run, P.bind_run, attempt_run, attempt_run]
  generalize p st = x, q st = y at h' ⊢
  cases h' with
  | ok hi hr => exact hs _ _ hr _ hi
  | @err e s hi =>
    cases e
    · exact hn _ hi
    · exact .err hi

/-- the same first parser on both sides -/
theorem Rel.bindU {S : α → Prop} {R : γ → δ → Prop} {p : P α} {f : α → P γ} {f' : α → P δ}
    (hp : Un G p S) (hf : ∀ a, S a → Rel G R (f a) (f' a)) : Rel G R (p >>= f) (p >>= f') :=
  Rel.bind hp fun a _ h => h.1 ▸ hf a h.2

theorem Rel.attempt_bindU {S : α → Prop} {R : γ → δ → Prop} {p : P α} {k : Option α → P γ} {k' : Option α → P δ}
    (h : Un G p S) (hs : ∀ a, S a → Rel G R (k (some a)) (k' (some a))) (hn : Rel G R (k none) (k' none)) :
    Rel G R (attempt p >>= k) (attempt p >>= k') :=
  Rel.attempt_bind h (fun a _ hab => hab.1 ▸ hs a hab.2) hn

theorem Rel.bindT {R : γ → δ → Prop} {p : P α} {f : α → P γ} {f' : α → P δ}
    (hp : Un G p fun _ => True) (hf : ∀ a, Rel G R (f a) (f' a)) : Rel G R (p >>= f) (p >>= f') :=
  Rel.bindU hp fun a _ => hf a

theorem Rel.of_run {p : P α} {Q : α → Prop}
    (h : ∀ st, InvG G st → InvG G (p st).2 ∧ ∀ v, (p st).1 = .ok v → Q v) : Un G p Q := fun st hI => by
  obtain ⟨h1, h2⟩ := h st hI
  rcases hp : p st with ⟨(e | a), s⟩ <;> rw [hp] at h1 h2
  · exact .err h1
  · exact .ok h1 ⟨rfl, h2 a rfl⟩

theorem Rel.getS : Un G Pars.getS (InvG G) := .of_run fun _ hI => ⟨hI, fun _ hv => Except.ok.inj hv ▸ hI⟩

theorem Rel.setS {s : PS} (h : InvG G s) : Un G (Pars.setS s) fun _ => True := .of_run fun _ _ => ⟨h, fun _ _ => trivial⟩

theorem Rel.push : Un G Pars.push fun _ => True :=
  .bindU .getS fun _ hs => .setS ⟨hs.1, fun u hu => (List.mem_cons.mp hu).elim (· ▸ hs.1) (hs.2 u)⟩

theorem Rel.pop : Un G Pars.pop fun _ => True := by
  refine .bindU .getS fun s hs => ?_
  split
  · exact .pureU trivial
  · next r st h => exact .setS ⟨hs.2 r (h ▸ List.mem_cons_self), fun u hu => hs.2 u (h ▸ List.mem_cons_of_mem _ hu)⟩

theorem Rel.drop : Un G Pars.drop fun _ => True :=
  .bindU .getS fun _ hs => .setS ⟨hs.1, fun u hu => hs.2 u (List.mem_of_mem_drop hu)⟩

theorem Rel.advanceN (n : Nat) : Un G (Pars.advanceN n) fun _ => True :=
  .bindU .getS fun _ hs => .setS ⟨fun m => by rw [List.drop_drop]; exact hs.1 _, hs.2⟩

theorem Rel.skipWhile (f : UInt8 → Bool) : Un G (Pars.skipWhile f) fun _ => True := by
  refine .bindU .getS fun s hs => .setS ⟨fun m => ?_, hs.2⟩
  rw [List.suffix_iff_eq_drop.1 (List.dropWhile_suffix f), List.drop_drop]
  exact hs.1 _

theorem Rel.next : Un G Pars.next fun _ => True := by
  refine .bindU .getS fun s _ => ?_
  split
  · exact .fail
  · exact .pureU trivial

theorem Rel.pushed : Un G Pars.pushed fun _ => True := .bindU .getS fun _ _ => .pureU trivial

theorem Rel.request (n : Nat) : Un G (Pars.request n) fun _ => True :=
  .bindU .getS fun _ _ => .ite .fail (.pureU trivial)

theorem Rel.attemptU {p : P α} {S : α → Prop} (hp : Un G p S) :
    Un G (Pars.attempt p) fun o => ∀ v, o = some v → S v := fun st hI => by
  have h' := hp st hI
  rw [attempt_run]
  generalize p st = x at h' ⊢
  cases h' with
  | ok hi hr => exact .ok hi ⟨rfl, fun v hv => Option.some.inj hv ▸ hr.2⟩
  | @err e s hi =>
    cases e
    · exact .ok hi ⟨rfl, fun _ hv => nomatch hv⟩
    · exact .err hi

theorem Rel.advance1 : Un G Pars.advance1 fun _ => True := Rel.advanceN 1

theorem Rel.trail : Un G Pars.trail fun _ => True := by
  refine .bindU .getS fun s hs => ?_
  split
  · exact .pureU trivial
  · next saved st h =>
    refine .ite (fun _ hI => .err hI) (.bindT (.setS ⟨fun m => ?_, ?_⟩) fun _ => .pureU trivial)
    · rw [List.drop_drop]
      exact hs.2 saved (h ▸ List.mem_cons_self) _
    · exact fun u hu => hs.2 u (h ▸ List.mem_cons_of_mem _ hu)

theorem Rel.popFail {R : α → β → Prop} : Rel G R (do Pars.pop; Pars.fail : P α) (do Pars.pop; Pars.fail : P β) :=
  .bindT .pop fun _ => .fail

theorem Rel.orPop {R1 : α → β → Prop} {R : γ → δ → Prop} {p : P α} {q : P β} {g : α → γ} {g' : β → δ}
    (h : Rel G R1 p q) (hg : ∀ a b, R1 a b → R (g a) (g' b)) : Rel G R (Pars.orPop p g) (Pars.orPop q g') :=
  .attempt_bind h (fun a b hr => .pure (hg a b hr)) .popFail

theorem Rel.wrapped {R1 : α → β → Prop} {R : γ → δ → Prop} {n : Nat} {kw : Bytes} {body : P α} {body' : P β}
    {mk : α → γ} {mk' : β → δ} (hb : Rel G R1 body body') (hmk : ∀ a b, R1 a b → R (mk a) (mk' b)) :
    Rel G R (Pars.wrapped n kw body mk) (Pars.wrapped n kw body' mk') := by
  unfold Pars.wrapped
  refine .bindT .push fun _ => .bindU (.attemptU (.request n)) fun o _ => ?_
  extract_lets rest rest'
  have hrest : Rel G R (rest ()) (rest' ()) := by
    refine .bindT (.advanceN n) fun _ => .bind hb fun x y hxy => .bindT (.orPop .next fun _ _ h => h) fun c => ?_
    exact .ite (.bindT .pop fun _ => .fail_bind) (.bindT .advance1 fun _ => .bindT .drop fun _ => .pure (hmk x y hxy))
  cases o with
  | none => exact .bindT .pop fun _ => .fail_bind
  | some b => exact .ite (.bindT .pop fun _ => .fail_bind) hrest

theorem Rel.numMarkNum {Qi : Int → Prop} {R : α → β → Prop} {m : UInt8} {g : Int → Int} {k : Int → Int → P α}
    {k' : Int → Int → P β} (hi : Un G Pars.int Qi)
    (hk : ∀ a b, Qi a → Qi b → Rel G R (k (g a) b) (k' (g a) b)) :
    Rel G R (Pars.numMarkNum m g k) (Pars.numMarkNum m g k') := by
  unfold Pars.numMarkNum
  exact .bindT .push fun _ => .bindU (S := fun s => ∃ a, Qi a ∧ s = g a) (.orPop hi fun a _ h => ⟨h.1 ▸ rfl, a, h.2, rfl⟩)
    fun s hs => .bindT (.orPop .next fun _ _ h => h) fun c => .ite (.bindT .pop fun _ => .fail_bind)
      (.bindT .advance1 fun _ => .bindU (.orPop hi fun _ _ h => h) fun e he => by
        obtain ⟨a, ha, rfl⟩ := hs
        exact hk a e ha he)

def RelList (G : Bytes → Prop) (R : α → β → Prop) : List (P α) → List (P β) → Prop
  | [], [] => True
  | p :: ps, q :: qs => Rel G R p q ∧ RelList G R ps qs
  | _, _ => False

theorem Rel.anyOf_go {R : α → β → Prop} : ∀ (ps : List (P α)) (qs : List (P β)), RelList G R ps qs →
    Rel G R (LocParse.anyOf.go ps) (LocParse.anyOf.go qs)
  | [], [], _ => by
      rw [LocParse.anyOf.go, LocParse.anyOf.go]
      exact .popFail
  | [], _ :: _, h | _ :: _, [], h => h.elim
  | p :: ps, q :: qs, h => by
      rw [LocParse.anyOf.go, LocParse.anyOf.go]
      exact .attempt_bind h.1 (fun a b hr => .bindT .drop fun _ => .pure hr)
        (.bindT .pushed fun _ => .ite .fail_bind (Rel.anyOf_go ps qs h.2))

theorem Rel.anyOf {R : α → β → Prop} (ps : List (P α)) (qs : List (P β)) (h : RelList G R ps qs) :
    Rel G R (LocParse.anyOf ps) (LocParse.anyOf qs) := by
  rw [LocParse.anyOf, LocParse.anyOf]
  exact .bindT .push fun _ => .anyOf_go ps qs h

theorem Rel.int_inv : Un G Pars.int fun _ => True := by
  unfold Pars.int
  refine .bindT .push fun _ => .bindT .next fun c => ?_
  extract_lets digits
  have h : ∀ c, Un G (digits c) fun _ => True := by
    refine fun c => .ite .popFail (.ite (.bindT .advance1 fun _ => .bindT .drop fun _ => .pureU trivial)
      (.bindT (.skipWhile _) fun _ => .bindT .trail fun p => ?_))
    split
    · exact .pureU trivial
    · exact .fail
  exact .ite (.bindT .advance1 fun _ => .bindT .next h) (.bindT (.pureU trivial) h)

theorem Rel.int {Qi : Int → Prop} (hint : ∀ u stk v st', G u → Pars.int ⟨u, stk⟩ = (.ok v, st') → Qi v) :
    Un G Pars.int Qi := fun st hI => by
  have h' := Rel.int_inv (G := G) st hI
  have hq : ∀ v st', Pars.int st = (.ok v, st') → Qi v := fun v st' hr =>
    hint st.rest st.stk v st' (hI.1 0) hr
  generalize Pars.int st = x at h' hq
  cases h' with
  | ok hi hr => exact .ok hi ⟨rfl, hq _ _ rfl⟩
  | err hi => exact .err hi

theorem InvG.top (st : PS) : InvG (fun _ => True) st := ⟨fun _ => trivial, fun _ _ _ => trivial⟩

theorem Rel.post {R : α → β → Prop} {Q : β → Prop} {p : P α} {q : P β} (h : Rel (fun _ => True) R p q)
    (hq : ∀ a b, R a b → Q b) : Post q Q := fun st v st' hr => by
  have h' := h st (.top st)
  rw [hr] at h'
  generalize p st = x at h'
  cases h' with
  | ok _ hab => exact hq _ _ hab

theorem Rel.postL {R : α → β → Prop} {Q : α → Prop} {p : P α} {q : P β} (h : Rel (fun _ => True) R p q)
    (hq : ∀ a b, R a b → Q a) : Post p Q := fun st v st' hr => by
  have h' := h st (.top st)
  rw [hr] at h'
  generalize q st = y at h'
  cases h' with
  | ok _ hab => exact hq _ _ hab

end Gts.Pars

namespace Gts
open Pars

namespace LocParse
variable {G : Bytes → Prop} {Qi : Int → Prop}

/-- what a leaf parser returns: a leaf built from integers that `pars.Int` returned -/
inductive LeafOf (Qi : Int → Prop) : Loc → Prop
  | between {s} : Qi s → LeafOf Qi (.between s)
  | point {v} : Qi v → LeafOf Qi (.point (v - 1))
  | ranged {a b} (p5 p3) : Qi a → Qi b → LeafOf Qi (.ranged (a - 1) b p5 p3)
  | ambiguous {a b} : Qi a → Qi b → LeafOf Qi (.ambiguous (a - 1) b)

theorem leaf_point (hi : Un G Pars.int Qi) : Un G LocParse.point (LeafOf Qi) := by
  unfold LocParse.point
  exact .bindT .push fun _ => .attempt_bindU hi
    (fun v hv => .bindT .drop fun _ => .pureU (.point hv)) .popFail

theorem leaf_between (hi : Un G Pars.int Qi) : Un G LocParse.between (LeafOf Qi) := by
  rw [between_eq]
  exact .numMarkNum hi fun a b ha _ => .ite .fail_bind (.bindT .drop fun _ => .pureU (.between ha))

theorem leaf_ambiguous (hi : Un G Pars.int Qi) : Un G LocParse.ambiguous (LeafOf Qi) := by
  rw [ambiguous_eq]
  exact .numMarkNum hi fun a b ha hb => .bindT .drop fun _ => .pureU (.ambiguous ha hb)

theorem leaf_range (hi : Un G Pars.int Qi) : Un G LocParse.range (LeafOf Qi) := by
  unfold LocParse.range
  refine .bindT .push fun _ => .bindT (.attempt_bindU .next (fun _ _ => .pureU trivial) .popFail) fun c => ?_
  extract_lets p5 fromStart
  suffices h : Un G (fromStart ()) (LeafOf Qi) from .ite (.bindT .advance1 fun _ => h) h
  refine .bindU (S := fun s => ∃ a, Qi a ∧ s = a - 1)
    (.attempt_bindU hi (fun v hv => .pureU ⟨v, hv, rfl⟩) .popFail) fun s hs =>
    .bindU (.attemptU (.request 2)) fun o _ => ?_
  extract_lets fromEnd
  suffices h : Un G (fromEnd ()) (LeafOf Qi) by
    cases o with
    | none => exact .bindT .pop fun _ => .fail_bind
    | some b => exact .ite (.bindT .pop fun _ => .fail_bind) h
  refine .bindT (.advanceN 2) fun _ => .bindT .next fun c => ?_
  extract_lets p3 fromEnd'
  suffices h : Un G (fromEnd' ()) (LeafOf Qi) from .ite (.bindT .advance1 fun _ => h) h
  obtain ⟨a, ha, rfl⟩ := hs
  refine .bindU (S := Qi) (.attempt_bindU hi (fun v hv => .pureU hv) .popFail) fun e he =>
    .bindT (.bindU (.attemptU .next) fun o _ => ?_) fun p3' => .bindT .drop fun _ => .pureU (.ranged _ _ ha he)
  split
  · exact .bindT .advance1 fun _ => .pureU trivial
  · exact .pureU trivial

theorem rel_delimiter : Un G delimiter fun _ => True := by
  unfold delimiter
  exact .bindT .push fun _ => .attempt_bindU .next
    (fun c _ => .ite (.bindT .pop fun _ => .pureU trivial)
      (.bindT .advance1 fun _ => .bindT (.skipWhile _) fun _ => .bindT .drop fun _ => .pureU trivial))
    (.bindT .pop fun _ => .pureU trivial)

end LocParse

namespace LocParseG
open LocParse (range between ambiguous point LeafOf)

/-- what a relation between the results of the model's parsers and of the flagged ones has to respect: the leaves, the
part list as `more` accumulates it, and `Join`, `Order`, `Complement()` -/
structure Respects (g : List Loc → Bool) (Qi : Int → Prop) (R : Loc → Loc × Bool → Prop)
    (RM : List Loc → List Loc × Bool → Prop) : Prop where
  leaf : ∀ l, LeafOf Qi l → R l (l, false)
  one : ∀ l v, R l v → RM [l] ([v.1], v.2)
  cons : ∀ acc w l v, RM acc w → R l v → RM (l :: acc) (v.1 :: w.1, w.2 || v.2)
  rev : ∀ acc w, RM acc w → RM acc.reverse (w.1.reverse, w.2)
  join : ∀ ls w, RM ls w → R (Loc.join ls) (Loc.join w.1, w.2 || g w.1)
  order : ∀ ls w, RM ls w → R (Loc.order ls) (Loc.order w.1, w.2)
  compl : ∀ l v, R l v → R l.complement (v.1.complement, v.2)

variable {G : Bytes → Prop} {g : List Loc → Bool} {Qi : Int → Prop} {R : Loc → Loc × Bool → Prop}
  {RM : List Loc → List Loc × Bool → Prop} (hR : Respects g Qi R RM)
include hR

theorem rel_leaf {p : P Loc} (hp : Un G p (LeafOf Qi)) : Rel G R p (leaf p) := fun st hI => by
  have h' := hp st hI
  unfold LocParseG.leaf
  rw [P.bind_run]
  generalize p st = x at h' ⊢
  cases h' with
  | ok hi hr => exact .ok hi (hR.leaf _ hr.2)
  | err hi => exact .err hi

theorem rel_more (f : Nat) (ih : Rel G R (LocParse.loc f) (loc g f)) :
    ∀ (k : Nat) (acc acc' : List Loc) (b : Bool), RM acc (acc', b) →
      Rel G RM (LocParse.multiple.more f k acc) (multiple.more g f k acc' b)
  | 0, acc, acc', b, h => by
      rw [LocParse.multiple.more, multiple.more]
      exact .pure (hR.rev _ _ h)
  | k + 1, acc, acc', b, h => by
      rw [LocParse.multiple.more, multiple.more]
      refine .bindT LocParse.rel_delimiter fun d => .ite ?_ (.pure (hR.rev _ _ h))
      exact .attempt_bind ih (fun l v hv => rel_more f ih k (l :: acc) (v.1 :: acc') (b || v.2) (hR.cons _ _ _ _ h hv))
        .popFail

theorem rel_multiple (f : Nat) (ih : Rel G R (LocParse.loc f) (loc g f)) :
    Rel G RM (LocParse.multiple (f + 1)) (multiple g (f + 1)) := by
  rw [LocParse.multiple, multiple]
  exact .bindT .push fun _ => .bind (.attempt_bind ih (fun l v hv => .pure hv) .popFail) fun first first' hf =>
    .bind (rel_more hR f ih f [first] [first'.1] first'.2 (hR.one _ _ hf)) fun ls w hls =>
      .bindT .drop fun _ => .pure hls

theorem rel_all (hi : Un G Pars.int Qi) : ∀ f : Nat,
    Rel G R (LocParse.loc f) (loc g f) ∧ Rel G RM (LocParse.multiple f) (multiple g f) ∧
    Rel G R (LocParse.joinOf f) (joinOf g f) ∧ Rel G R (LocParse.orderOf f) (orderOf g f) ∧
    Rel G R (LocParse.complementOf f) (complementOf g f)
  | 0 => by
      rw [LocParse.loc, loc, LocParse.multiple, multiple, LocParse.joinOf, joinOf, LocParse.orderOf, orderOf,
        LocParse.complementOf, complementOf]
      exact ⟨.fail, .fail, .fail, .fail, .fail⟩
  | f + 1 => by
      obtain ⟨hl, hm, hj, ho, hc⟩ := rel_all hi f
      refine ⟨?_, rel_multiple hR f hl, ?_, ?_, ?_⟩
      · rw [LocParse.loc, loc]
        exact .anyOf _ _ ⟨rel_leaf hR (LocParse.leaf_range hi), rel_leaf hR (LocParse.leaf_between hi),
          rel_leaf hR (LocParse.leaf_ambiguous hi), hc, hj, ho, rel_leaf hR (LocParse.leaf_point hi), trivial⟩
      · rw [LocParse.joinOf_succ, joinOf_succ]
        exact .wrapped hm hR.join
      · rw [LocParse.orderOf_succ, orderOf_succ]
        exact .wrapped hm hR.order
      · rw [LocParse.complementOf_succ, complementOf_succ]
        exact .wrapped (.orPop hl fun _ _ h => h) hR.compl

end LocParseG
end Gts
