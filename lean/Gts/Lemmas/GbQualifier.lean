/-
  C01 helper lemmas: one qualifier as written by `QualifierIO.Format(prefix)` and read by
  `QualifierParser(prefix)` — toggle, literal (with continuation lines), quoted and unknown
  (learned as quoted).
-/
import Gts.Lemmas.GbQuoted
import Gts.Lemmas.GbFields
namespace Gts.GenBank
open Gts.Pars

/-- a qualifier (or feature-key) name: a non-empty snake-case word -/
def nameOk (name : Bytes) : Bool := !name.isEmpty && name.all isSnake

theorem noLF_append {a b : Bytes} (ha : noLF a) (hb : noLF b) : noLF (a ++ b) :=
  (noLF_append_iff a b).mpr ⟨ha, hb⟩

theorem noLF_cons {c : UInt8} {a : Bytes} (hc : c ≠ 10) (ha : noLF a) : noLF (c :: a) :=
  (noLF_cons_iff c a).mpr ⟨hc, ha⟩

theorem noLF_nil : noLF [] := fun _ h => by simp at h

theorem snake_noLF (name : Bytes) (h : name.all isSnake = true) : noLF name :=
  noLF_of_class isSnake rfl name h

theorem nameOk_spec (name : Bytes) (h : nameOk name = true) : name.all isSnake = true ∧ name ≠ [] := by
  simp only [nameOk, Bool.and_eq_true, Bool.not_eq_true', List.isEmpty_eq_false_iff] at h
  exact ⟨h.2, h.1⟩

theorem nameWord_ok (name X : Bytes) (stk : List Bytes) (hn : nameOk name = true)
    (hX : ∀ c, X.head? = some c → isSnake c = false) :
    word isSnake ⟨name ++ X, stk⟩ = (.ok name, ⟨X, stk⟩) :=
  word_ok isSnake name X stk (nameOk_spec name hn).1 (nameOk_spec name hn).2 hX

theorem qualifierName_ok (pre name X : Bytes) (stk : List Bytes) (hn : nameOk name = true)
    (hX : ∀ c, X.head? = some c → isSnake c = false) :
    qualifierName pre ⟨pre ++ 47 :: (name ++ X), stk⟩ = (.ok name, ⟨X, stk⟩) := by
  rw [List.append_cons]
  simp only [qualifierName, P.bind_run, lit_ok, nameWord_ok name X _ hn hX]

/-- what may follow a literal value: not the indent, or the indent followed by the end of the
input or by the slash of the next qualifier -/
def litStop (d : Nat) (rest : Bytes) : Prop :=
  (sp d).isPrefixOf rest = false ∨ rest = sp d ∨ ∃ r, rest = sp d ++ 47 :: r

/-- the same, decidable -/
def litStopB (d : Nat) (rest : Bytes) : Bool :=
  !(sp d).isPrefixOf rest || (match rest.drop d with | [] => true | c :: _ => c == 47)

theorem litStop_of_B (d : Nat) (rest : Bytes) (h : litStopB d rest = true) : litStop d rest := by
  unfold litStopB at h
  by_cases hp : (sp d).isPrefixOf rest = true
  · have e := Origin.isPrefixOf_split hp
    rw [sp_length] at e
    simp only [hp, Bool.not_true, Bool.false_or] at h
    cases hr : rest.drop d with
    | nil => right; left; rw [e, hr]; simp
    | cons c r =>
      rw [hr] at h
      have hc : c = 47 := by simpa using h
      right; right; exact ⟨r, by rw [e, hr, hc]⟩
  · left; exact Bool.eq_false_iff.2 hp

theorem literalMore_step (e : Eol) (d : Nat) (l more fr : Bytes) (stk : List Bytes) (p : Bytes) (f : Nat)
    (hl : noEOL l = true) (hh : l.head? ≠ some 47) :
    literalMore (sp d) (f + 1) p ⟨sp d ++ (l ++ (e.bytes ++ more)), fr :: stk⟩ =
      literalMore (sp d) f (p ++ 10 :: l) ⟨more, more :: stk⟩ := by
  have hline := fun s => line_okE e l more s hl
  -- the byte behind the indent is not a slash: the first byte of the line, or of the line end
  obtain ⟨c, X, hX, hc47⟩ : ∃ c X, l ++ (e.bytes ++ more) = c :: X ∧ (c == 47) = false := by
    cases l with
    | nil => cases e <;> exact ⟨_, _, rfl, by decide⟩
    | cons c l' =>
      refine ⟨c, _, rfl, ?_⟩
      simp only [List.head?_cons, ne_eq, Option.some.injEq] at hh
      simpa using hh
  rw [hX] at hline ⊢
  simp only [literalMore, P.bind_run, attempt_run, lit_ok, next_cons, hc47,
    Bool.false_eq_true, if_false, hline, Pars.drop, push, getS, setS, List.drop_succ_cons,
    List.drop_zero]

theorem literalMore_lines (e : Eol) (d : Nat) (ls : List Bytes) (rest : Bytes) (stk : List Bytes) (p : Bytes) (f : Nat)
    (fr : Bytes) (hls : ∀ l ∈ ls, noEOL l = true ∧ l.head? ≠ some 47) (hstop : litStop d rest)
    (hf : (contText e (sp d) ls ++ rest).length < f) (hfr : ls = [] → fr = rest) :
    literalMore (sp d) f p ⟨contText e (sp d) ls ++ rest, fr :: stk⟩ =
      (.ok (p ++ sepText 10 ls), ⟨rest, stk⟩) := by
  induction ls generalizing p f fr with
  | nil =>
    have hfr' := hfr rfl
    subst hfr'
    cases f with
    | zero => omega
    | succ f =>
      simp only [contText, List.flatMap_nil, List.nil_append, sepText, List.append_nil]
      rcases hstop with h | h | ⟨r, h⟩
      · gsimp [literalMore, lit_fail _ _ _ h]
      · subst h
        have := lit_ok (sp d) [] (sp d :: stk)
        simp only [List.append_nil] at this
        gsimp [literalMore, this, next_nil]
      · subst h
        gsimp [literalMore, lit_ok, next_cons]
  | cons l ls ih =>
    cases f with
    | zero => omega
    | succ f =>
      obtain ⟨hl, hh⟩ := hls l (by simp)
      have hls' : ∀ l ∈ ls, noEOL l = true ∧ l.head? ≠ some 47 := fun x hx => hls x (by simp [hx])
      rw [contText_cons] at hf
      rw [contText_cons, sepText_cons]
      simp only [List.append_assoc, List.cons_append]
      rw [literalMore_step e d l _ fr stk p f hl hh,
        ih (p ++ 10 :: l) f _ hls' (by have := e.bytes_pos; simp only [List.length_append] at hf ⊢; omega)
          (fun h => by rw [h]; rfl)]
      simp

/-- a literal value: no carriage return, and no continuation line that starts with a slash -/
def literalOk (v : Bytes) : Bool := noCR v && (tailLines v).all fun l => l.head? != some 47

theorem literalValue_okE (e : Eol) (d : Nat) (v rest : Bytes) (stk : List Bytes) (hv : literalOk v = true)
    (hstop : litStop d rest) :
    literalValue (sp d) ⟨61 :: (tr e (addPrefix (sp d) v) ++ (e.bytes ++ rest)), stk⟩ = (.ok v, ⟨rest, stk⟩) := by
  simp only [literalOk, Bool.and_eq_true, List.all_eq_true, bne_iff_ne, ne_eq] at hv
  obtain ⟨h0, hls0⟩ := lines_noEOL v hv.1
  have hls : ∀ l ∈ tailLines v, noEOL l = true ∧ l.head? ≠ some 47 := fun l hl => ⟨hls0 l hl, hv.2 l hl⟩
  rw [addPrefix_lines e _ _ _ (noLF_sp d)]
  have hm := fun s => literalMore_lines e d (tailLines v) rest s (headLine v) _
    (contText e (sp d) (tailLines v) ++ rest) hls hstop (Nat.lt_succ_self _) (fun h => by simp [h, contText])
  have hl := fun s => line_okE e (headLine v) (contText e (sp d) (tailLines v) ++ rest) s h0
  simp only [literalValue, P.bind_run, push, getS, setS, attempt_run, next_cons, P.pure_run,
    show ((61 : UInt8) != 61) = false by decide, Bool.false_eq_true, if_false, advance1,
    List.drop_succ_cons, List.drop_zero, hl, hm, Pars.drop]
  rw [← lines_join v]

/-- a quoted value: it survives the quote scan and none of its line feeds is followed by the
whole indent -/
def quotedOk (d : Nat) (v : Bytes) : Bool := quoteClean v && noCont d v

theorem tr_crlf_cons_lf (t : Bytes) : tr .crlf (10 :: t) = 13 :: 10 :: tr .crlf t := tr_cons_lf .crlf t

theorem tr_addPrefix_comm (e : Eol) (pre v : Bytes) (hpre : noLF pre) :
    tr e (addPrefix pre v) = addPrefix pre (tr e v) := by
  induction v with
  | nil => simp [addPrefix]
  | cons c v ih =>
    by_cases hc : c = 10
    · subst hc
      simp only [addPrefix, if_true, tr_cons_lf, tr_append, tr_noLF e pre hpre, ih]
      cases e <;> simp [Eol.bytes, addPrefix]
    · simp only [addPrefix, hc, if_false, tr_cons_ne e c _ hc, ih]

theorem qscan_crlf (v : Bytes) : ∀ e, qscan e (tr .crlf v) = qscan e v := by
  induction v with
  | nil => intro e; rfl
  | cons c v ih =>
    intro e
    by_cases hc : c = 10
    · subst hc
      rw [tr_crlf_cons_lf]
      cases e <;> simp [qscan, ih]
    · rw [tr_cons_ne .crlf c v hc]
      cases e
      · simp only [qscan, ih]
      · simp only [qscan, ih]

theorem crlf_lines (v : Bytes) :
    (headLine (tr .crlf v) = headLine v ∨ headLine (tr .crlf v) = headLine v ++ [13]) ∧
    ∀ x ∈ tailLines (tr .crlf v), ∃ y ∈ tailLines v, x = y ∨ x = y ++ [13] := by
  induction v with
  | nil => simp [tr, Origin.crlf, headLine, tailLines, splitLF]
  | cons c v ih =>
    obtain ⟨ih1, ih2⟩ := ih
    by_cases hc : c = 10
    · subst hc
      rw [tr_crlf_cons_lf, headLine_cons_ne 13 _ (by decide), tailLines_cons_ne 13 _ (by decide), headLine_cons_lf,
        headLine_cons_lf, tailLines_cons_lf, tailLines_cons_lf]
      refine ⟨Or.inr rfl, ?_⟩
      intro x hx
      rcases List.mem_cons.mp hx with rfl | hx
      · exact ⟨headLine v, by simp, ih1⟩
      · obtain ⟨y, hy, h⟩ := ih2 x hx
        exact ⟨y, by simp [hy], h⟩
    · rw [tr_cons_ne .crlf c v hc, headLine_cons_ne c _ hc, headLine_cons_ne c _ hc, tailLines_cons_ne c _ hc,
        tailLines_cons_ne c _ hc]
      refine ⟨?_, ih2⟩
      rcases ih1 with h | h
      · left; rw [h]
      · right; rw [h]; rfl

theorem noCont_crlf (d : Nat) (v : Bytes) (h : noCont d v = true) : noCont d (tr .crlf v) = true := by
  simp only [noCont, List.all_eq_true, Bool.not_eq_true'] at h ⊢
  intro x hx
  obtain ⟨y, hy, hxy⟩ := (crlf_lines v).2 x hx
  rcases hxy with h1 | h1
  · rw [h1]; exact h y hy
  · rw [h1]; exact sp_prefix_append d y [13] (by decide) (h y hy)

theorem quotedOk_tr (e : Eol) (d : Nat) (v : Bytes) (h : quotedOk d v = true) : quotedOk d (tr e v) = true := by
  cases e
  · rwa [tr_lf]
  · simp only [quotedOk, Bool.and_eq_true, quoteClean] at h ⊢
    exact ⟨by rw [qscan_crlf]; exact h.1, noCont_crlf d v h.2⟩

/-- `quotedQualifierParser(prefix)` behind the name: the value comes back with ITS line ends as they
stand in the file — the scan takes the raw text between the quotes, the loop deletes the indent
behind every line feed and leaves a carriage return in front of it where it is -/
theorem quotedValue_okE (e : Eol) (d : Nat) (v rest : Bytes) (stk : List Bytes) (hv : quotedOk d v = true) :
    quotedValue (sp d) ⟨61 :: 34 :: (tr e (addPrefix (sp d) v) ++ 34 :: (e.bytes ++ rest)), stk⟩ =
      (.ok (tr e v), ⟨rest, stk⟩) := by
  have hv' := quotedOk_tr e d v hv
  simp only [quotedOk, Bool.and_eq_true] at hv'
  rw [tr_addPrefix_comm _ _ _ (noLF_sp d)]
  have hclean : qscan false (addPrefix (sp d) (tr e v)) = true := by rw [qscan_addPrefix]; exact hv'.1
  have hq := fun s => quoted_ok (addPrefix (sp d) (tr e v)) (e.bytes ++ rest) s hclean
  simp only [quotedValue, P.bind_run, push, getS, setS, attempt_run, next_cons, P.pure_run,
    show ((61 : UInt8) != 61) = false by decide, Bool.false_eq_true, if_false, advance1,
    List.drop_succ_cons, List.drop_zero, hq, Pars.drop, eol_okE]
  rw [stripCont_addPrefix d _ hv'.2]

theorem quotedValue_ok (d : Nat) (v rest : Bytes) (stk : List Bytes) (hv : quotedOk d v = true) :
    quotedValue (sp d) ⟨61 :: 34 :: (addPrefix (sp d) v ++ 34 :: 10 :: rest), stk⟩ = (.ok v, ⟨rest, stk⟩) := by
  have := quotedValue_okE .lf d v rest stk hv
  rw [tr_lf, tr_lf] at this
  exact this

/-- the domain of one qualifier under the registry: a snake-case name and a value that suits the
name's type (a toggle has no value: the writer writes none) -/
def WritableQualifier (reg : Registry) (d : Nat) (name value : Bytes) : Bool :=
  nameOk name &&
  match reg.typeOf name with
  | .literal => literalOk value
  | .toggle => value.isEmpty
  | _ => quotedOk d value

/-- the value that comes back: empty for a toggle (repo 2dd2956), else the value — on the domain
`WritableQualifier` that is the value itself (`readValue_eq`) -/
def readValue (reg : Registry) (name value : Bytes) : Bytes :=
  if reg.typeOf name = .toggle then [] else value

theorem readValue_eq (reg : Registry) (d : Nat) (name value : Bytes)
    (h : WritableQualifier reg d name value = true) : readValue reg name value = value := by
  unfold readValue
  split
  · rename_i ht
    simp only [WritableQualifier, ht, Bool.and_eq_true, List.isEmpty_iff] at h
    exact h.2.symm
  · rfl

/-- the registry afterwards: an unknown name is learned as quoted -/
def learn (reg : Registry) (name : Bytes) : Registry :=
  if reg.typeOf name = .unknown then reg.addQuoted name else reg

theorem learn_le (reg : Registry) (name : Bytes) : reg.le (learn reg name) := by
  unfold learn Registry.le
  split
  · refine ⟨fun n hn => ?_, fun n hn => hn, fun n hn => hn⟩
    simp [Registry.addQuoted, hn]
  · exact ⟨fun n hn => hn, fun n hn => hn, fun n hn => hn⟩

theorem not_snake_61 : isSnake 61 = false := by decide

/-- the value of a qualifier as it comes back from a file with the line end `e`: a value written
between quotes (registered as quoted, or unknown) keeps the line ends of the file, every other value
is the value -/
def trValue (e : Eol) (reg : Registry) (name value : Bytes) : Bytes :=
  match reg.typeOf name with
  | .literal => value
  | .toggle => value
  | _ => tr e value

theorem trValue_lf (reg : Registry) (name value : Bytes) : trValue .lf reg name value = value := by
  unfold trValue
  split <;> first | rfl | exact tr_lf value

theorem Eol.not_snake (e : Eol) (X : Bytes) (c : UInt8) (h : (e.bytes ++ X).head? = some c) : isSnake c = false := by
  rcases e.head X c h with h | h <;> subst h <;> decide

/-- what `QualifierIO.String` puts behind the name -/
def valueText (reg : Registry) (name value : Bytes) : Bytes :=
  match reg.typeOf name with
  | .toggle => []
  | .literal => 61 :: value
  | _ => 61 :: 34 :: (value ++ [34])

theorem qualifierText_eq (reg : Registry) (name value : Bytes) :
    qualifierText reg name value = 47 :: (name ++ valueText reg name value) := by
  unfold qualifierText valueText
  cases reg.typeOf name <;> simp

theorem tr_qualifierFmt (e : Eol) (reg : Registry) (d : Nat) (name value : Bytes) (hsn : noLF name) :
    tr e (qualifierFmt reg (sp d) name value) =
      sp d ++ 47 :: (name ++ tr e (addPrefix (sp d) (valueText reg name value))) := by
  rw [qualifierFmt, qualifierText_eq, ← List.cons_append,
    addPrefix_append_noLF _ _ _ (noLF_cons (by decide) hsn), tr_append, tr_noLF e _ (noLF_sp d), List.cons_append,
    tr_cons_ne e 47 _ (by decide), tr_append, tr_noLF e name hsn]

/-- **Qualifier round trip.**  `QualifierParser(prefix)` on the text `QualifierIO.Format(prefix)`
wrote, with the line end `e` and followed by it: the same name, the value `trValue e`, the rest of the
input untouched, the stack as before, and the registry only grows (an unknown name is learned as
quoted).  `prefix` is `d` blanks (`d = 21` in a GenBank table). -/
theorem qualifier_roundtripE (e : Eol) (reg : Registry) (d : Nat) (name value rest : Bytes) (stk : List Bytes)
    (hw : WritableQualifier reg d name value = true) (hstop : litStop d rest) :
    qualifier (sp d) reg ⟨tr e (qualifierFmt reg (sp d) name value) ++ (e.bytes ++ rest), stk⟩ =
      (.ok ((name, readValue reg name (trValue e reg name value)), learn reg name), ⟨rest, stk⟩) := by
  simp only [WritableQualifier, Bool.and_eq_true] at hw
  obtain ⟨hn, hv⟩ := hw
  rw [tr_qualifierFmt e reg d name value (snake_noLF name (nameOk_spec name hn).1)]
  have h61 : (61 : UInt8) ≠ 10 := by decide
  have h34 : (34 : UInt8) ≠ 10 := by decide
  cases ht : reg.typeOf name with
  | toggle =>
    have hq := fun s => qualifierName_ok (sp d) name (e.bytes ++ rest) s hn (e.not_snake rest)
    simp only [valueText, ht, addPrefix, tr_nil, List.append_nil, List.cons_append, List.append_assoc]
    gsimp [qualifier, hq, ht, eol_okE, readValue, learn]
  | literal =>
    rw [ht] at hv
    have hq := fun s => qualifierName_ok (sp d) name (61 :: (tr e (addPrefix (sp d) value) ++ (e.bytes ++ rest))) s hn (by
      intro c hc; simp at hc; subst hc; exact not_snake_61)
    have hl := fun s => literalValue_okE e d value rest s hv hstop
    simp only [valueText, ht, addPrefix, h61, if_false, tr_cons_ne e 61 _ h61, List.cons_append, List.append_assoc]
    gsimp [qualifier, hq, ht, hl, readValue, learn, trValue]
  | quoted | unknown =>
    rw [ht] at hv
    have hq := fun s => qualifierName_ok (sp d) name
      (61 :: 34 :: (tr e (addPrefix (sp d) value) ++ 34 :: (e.bytes ++ rest))) s hn (by
      intro c hc; simp at hc; subst hc; exact not_snake_61)
    have hl := fun s => quotedValue_okE e d value rest s hv
    simp only [valueText, ht, addPrefix, h61, h34, if_false, addPrefix_append_byte _ _ _ h34, tr_cons_ne e 61 _ h61,
      tr_cons_ne e 34 _ h34, tr_append, List.cons_append, List.append_assoc]
    gsimp [qualifier, hq, ht, hl, readValue, learn, trValue]

theorem qualifier_roundtrip (reg : Registry) (d : Nat) (name value rest : Bytes) (stk : List Bytes)
    (hw : WritableQualifier reg d name value = true) (hstop : litStop d rest) :
    qualifier (sp d) reg ⟨qualifierFmt reg (sp d) name value ++ 10 :: rest, stk⟩ =
      (.ok ((name, readValue reg name value), learn reg name), ⟨rest, stk⟩) := by
  have := qualifier_roundtripE .lf reg d name value rest stk hw hstop
  rw [tr_lf, trValue_lf] at this
  exact this

end Gts.GenBank
