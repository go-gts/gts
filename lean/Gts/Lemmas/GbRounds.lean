/-
  C07, "never hangs" (audit S4): PROGRESS of the record loop and the scan loop, stated so that a
  loop that spins is not a model of the statement.

  `recordLoop_fuel` (GbProgress) says: two fuels above the bytes left give the same outcome.  The
  model's answer when the fuel is used up is `fail` in the state as it is — an ordinary parse
  error — so a loop whose round neither ends nor consumes satisfies that statement too.  Here:

  * `recordRound` (GbProgress) — ONE round of the loop of `GenBankParser` (the text of the body of
    `recordLoop`), answering "the loop ends with this value" / "another round";
  * `roundsLoop round` — the loop over a round with the fuel-out DISTINGUISHABLE: `none` = the fuel
    is used up, `some (outcome, final state, rounds taken)` = the loop ended by itself;
    `recordLoopF = roundsLoop recordRound`;
  * `recordLoop_step` (GbProgress) / `recordLoopF_spec`: where `recordLoopF` ends by itself, `recordLoop` at the
    same fuel gives that outcome and state (the copy IS the loop; `recordLoopF_sound`); where it answers
    `none` the model's loop answers `fail` (`recordLoopF_none`);
  * `recordRound_consumes` (GbProgress): a round that does not end the loop leaves strictly fewer
    bytes and a sorted state;  `roundsLoop_ends`: a loop whose rounds do that ends by itself within bytes-left + 1
    rounds;  `recordLoopF_ends` puts them together;
  * `recordRoundSpin` — the reviewer's mutant (the `.skip` branch without its `pars.Line`): fuel
    stable, and `roundsLoop recordRoundSpin` answers `none` at every fuel (`roundsLoop_spins_on`;
    its instance `recordLoop_spin_mutant_refuted` is in Props/C07Fuel.lean);
  * the same for the scan loop: `parseAllF`, `parseAllF_sound`, `parseAllF_ends`.
-/
import Gts.Lemmas.GbFuel
namespace Gts.GenBank
open Gts.Pars

/-- THE MUTANT of audit finding S4: `recordRound` with the `pars.Line` of the `.skip` branch
removed (in Go: an unknown line is never skipped, the loop spins on it). -/
def recordRoundSpin (length : Int) (depth : Nat) (s : Sub) : P Round := do
  match ← attempt endMark with
  | some _ => pure (.done s)
  | none =>
    match ← tryAll length depth s with
    | .parsed s' => pure (.more s')
    | .skip s' => do
      if (← getS).rest.isEmpty then fail
      pure (.more s')

/-- the loop over a round, with the fuel-out DISTINGUISHABLE from every answer of the loop:
`none` = the fuel was used up before the loop ended; `some ((outcome, final state), rounds)` = the
loop ended by itself (end mark, or an error of the round) after `rounds` rounds. -/
def roundsLoop (round : Sub → P Round) : Nat → Sub → PS → Option ((Except Err Sub × PS) × Nat)
  | 0, _, _ => none
  | k + 1, sub, s =>
    match (round sub).run' s with
    | (.ok (.done sub'), s') => some ((.ok sub', s'), 1)
    | (.ok (.more sub'), s') => (roundsLoop round k sub' s').map fun x => (x.1, x.2 + 1)
    | (.error e, s') => some ((.error e, s'), 1)

def recordLoopF (length : Int) (depth : Nat) : Nat → Sub → PS → Option ((Except Err Sub × PS) × Nat) :=
  roundsLoop (recordRound length depth)

def recordLoopSpinF (length : Int) (depth : Nat) : Nat → Sub → PS → Option ((Except Err Sub × PS) × Nat) :=
  roundsLoop (recordRoundSpin length depth)

/-- the input of the audit's demonstration: an unknown line, then the end mark; empty stack -/
def junkState : PS := ⟨bs "@@@ junk line\n//\n", []⟩

def moreLeft : Except Err Round × PS → Option Nat
  | (.ok (.more _), s') => some s'.rest.length
  | _ => none

/-- the copy against the loop at the same fuel, both answers of the copy at once -/
theorem recordLoopF_spec (length : Int) (depth : Nat) : ∀ (k : Nat) (sub : Sub) (s : PS),
    match recordLoopF length depth k sub s with
    | some (x, c) => (recordLoop length depth k sub).run' s = x ∧ 1 ≤ c ∧ c ≤ k
    | none => ((recordLoop length depth k sub).run' s).1 = .error .fail
  | 0, _, _ => rfl
  | k + 1, sub, s => by
    have ih := recordLoopF_spec length depth k
    rw [recordLoop_step]
    unfold recordLoopF at ih ⊢
    rw [roundsLoop]
    generalize (recordRound length depth sub).run' s = y
    rcases y with ⟨e | sub' | sub', s'⟩
    · exact ⟨rfl, Nat.le_refl _, by omega⟩
    · exact ⟨rfl, Nat.le_refl _, by omega⟩
    · dsimp only
      have := ih sub' s'
      cases hr : roundsLoop (recordRound length depth) k sub' s' with
      | none => rw [hr] at this; exact this
      | some xc => rw [hr] at this; exact ⟨this.1, by omega, by omega⟩

theorem recordLoopF_sound (length : Int) (depth : Nat) : ∀ (k : Nat) (sub : Sub) (s : PS) x c,
    recordLoopF length depth k sub s = some (x, c) →
      (recordLoop length depth k sub).run' s = x ∧ 1 ≤ c ∧ c ≤ k := by
  intro k sub s x c h
  have := recordLoopF_spec length depth k sub s
  rw [h] at this
  exact this

theorem recordLoopF_none (length : Int) (depth : Nat) : ∀ (k : Nat) (sub : Sub) (s : PS),
    recordLoopF length depth k sub s = none →
      ((recordLoop length depth k sub).run' s).1 = .error .fail := by
  intro k sub s h
  have := recordLoopF_spec length depth k sub s
  rw [h] at this
  exact this

theorem roundsLoop_ends (round : Sub → P Round) (I : PS → Prop)
    (hprog : ∀ sub sub' s s', I s → (round sub).run' s = (.ok (.more sub'), s') →
      I s' ∧ s'.rest.length < s.rest.length) :
    ∀ (k : Nat) (sub : Sub) (s : PS), I s → s.rest.length < k →
      ∃ x c, roundsLoop round k sub s = some (x, c) ∧ c ≤ s.rest.length + 1
  | 0, _, _, _, h => absurd h (Nat.not_lt_zero _)
  | k + 1, sub, s, hI, hk => by
    have ih := roundsLoop_ends round I hprog k
    rw [roundsLoop]
    rcases hr : (round sub).run' s with ⟨r, s'⟩
    rcases r with e | rd
    · exact ⟨_, 1, rfl, by omega⟩
    · cases rd with
      | done sub' => exact ⟨_, 1, rfl, by omega⟩
      | more sub' =>
        dsimp only
        have hp := hprog sub sub' s s' hI hr
        obtain ⟨x, c, hx, hc⟩ := ih sub' s' hp.1 (by omega)
        rw [hx]
        exact ⟨x, c + 1, rfl, by omega⟩

theorem recordLoopF_ends (length : Int) (d : Nat) (hd : 1 ≤ d) (k : Nat) (sub : Sub) (s : PS)
    (hs : Sorted s.rest.length s.stk) (hk : s.rest.length < k) :
    ∃ x c, recordLoopF length d k sub s = some (x, c) ∧ c ≤ s.rest.length + 1 :=
  roundsLoop_ends (recordRound length d) (fun s => Sorted s.rest.length s.stk)
    (fun sub sub' s s' hI h => recordRound_consumes length d hd sub sub' s s' hI h) k sub s hs hk

theorem roundsLoop_spins_on (round : Sub → P Round) (s : PS) (J : Sub → Prop)
    (hspin : ∀ sub, J sub → ∃ sub', J sub' ∧ (round sub).run' s = (.ok (.more sub'), s)) :
    ∀ (k : Nat) (sub : Sub), J sub → roundsLoop round k sub s = none
  | 0, _, _ => rfl
  | k + 1, sub, hJ => by
    obtain ⟨sub', hJ', h⟩ := hspin sub hJ
    rw [roundsLoop, h]
    dsimp only
    rw [roundsLoop_spins_on round s J hspin k sub' hJ']
    rfl

/-- a round that answers "another round" in the SAME state makes `roundsLoop` answer "fuel used up"
at every fuel: the statement `roundsLoop_ends` is false of a loop that spins -/
theorem roundsLoop_spins (round : Sub → P Round) (s : PS)
    (hspin : ∀ sub, ∃ sub', (round sub).run' s = (.ok (.more sub'), s)) :
    ∀ (k : Nat) (sub : Sub), roundsLoop round k sub s = none :=
  fun k sub => roundsLoop_spins_on round s (fun _ => True)
    (fun sub _ => (hspin sub).imp fun _ h => ⟨trivial, h⟩) k sub trivial

/-- `parseAll` with the fuel-out DISTINGUISHABLE (the model's `parseAll` answers "no more records,
not clean" both when a record fails and when the fuel is used up): `none` = fuel used up; otherwise
the answer of `parseAll` and the number of rounds (records read, plus the round that ended the scan) -/
def parseAllF (reg : Registry) : Nat → Bytes → List Record →
    Option (Option (List Record × Registry × Bool) × Nat)
  | 0, _, _ => none
  | k + 1, input, acc =>
    if input.isEmpty then some (some (acc.reverse, reg, true), 1)
    else
      match (genbankParser reg).run' ⟨input, []⟩ with
      | (.ok (r, reg'), s) => (parseAllF reg' k s.rest (r :: acc)).map fun x => (x.1, x.2 + 1)
      | (.error .fail, _) => some (some (acc.reverse, reg, false), 1)
      | (.error .panic, _) => some (none, 1)

theorem parseAllF_sound : ∀ (k : Nat) (reg : Registry) (input : Bytes) (acc : List Record) x c,
    parseAllF reg k input acc = some (x, c) → parseAll reg k input acc = x ∧ 1 ≤ c ∧ c ≤ k
  | 0, _, _, _, _, _, h => by cases h
  | k + 1, reg, input, acc, x, c, h => by
    unfold parseAllF at h
    unfold parseAll
    split at h
    · rename_i he
      rw [if_pos he]
      cases h
      exact ⟨rfl, Nat.le_refl _, by omega⟩
    · rename_i he
      rw [if_neg he]
      generalize (genbankParser reg).run' ⟨input, []⟩ = y at h ⊢
      rcases y with ⟨r, s'⟩
      rcases r with e | ⟨rec, reg'⟩
      · cases e
        · dsimp only at h ⊢
          cases h
          exact ⟨rfl, Nat.le_refl _, by omega⟩
        · dsimp only at h ⊢
          cases h
          exact ⟨rfl, Nat.le_refl _, by omega⟩
      · dsimp only at h ⊢
        rcases hr : parseAllF reg' k s'.rest (rec :: acc) with _ | ⟨x', c'⟩
        · rw [hr] at h; cases h
        · rw [hr] at h
          cases h
          have := parseAllF_sound k reg' s'.rest (rec :: acc) x' c' hr
          exact ⟨this.1, by omega, by omega⟩

/-- THE SCAN LOOP ENDS BY ITSELF: every record that is read has consumed at least the five bytes
of `LOCUS`, so with more fuel than bytes `parseAllF` does not answer "fuel used up", and the number
of rounds `c` satisfies `5·(c − 1) ≤ len(input)`: at most `len/5` records and the round that ends
the scan. -/
theorem parseAllF_ends : ∀ (k : Nat) (reg : Registry) (input : Bytes) (acc : List Record),
    input.length < k →
      ∃ x c, parseAllF reg k input acc = some (x, c) ∧ 5 * c ≤ input.length + 5
  | 0, _, _, _, h => absurd h (Nat.not_lt_zero _)
  | k + 1, reg, input, acc, hk => by
    unfold parseAllF
    split
    · exact ⟨_, 1, rfl, by omega⟩
    · rcases scan_cases reg ⟨input, []⟩ trivial with ⟨rec, reg', s', hrun, _, hc⟩ | ⟨s', hrun⟩ <;> rw [hrun]
      · dsimp only at hc ⊢
        obtain ⟨x, c, hx, hc'⟩ := parseAllF_ends k reg' s'.rest (rec :: acc) (by omega)
        rw [hx]
        exact ⟨x, c + 1, rfl, by omega⟩
      · exact ⟨_, 1, rfl, by omega⟩

end Gts.GenBank
