/-
  Runs of the `pars` combinators of modifier.go and location.go (`Parser.Map`, `pars.Seq`, `pars.Any`, `pars.Exact`) that
  do not depend on the saved positions: `Pars.Runs p w o r`, with its two cases `Reads` (success) and `Rejects` (failure
  with the position restored), and one rule per combinator and case.  The combinators backtrack through an explicit
  stack, so what matters about a failing member is that it fails *and* leaves position and stack alone: such a member
  drops out of `Any`, and makes `Seq`, `Map` and `Exact` around it fail in the same way; and a member that succeeds
  must hand the stack back as it found it, or the frames above it are popped to the wrong positions.  `pars.Int` does
  not, at the end of the text (Gts/Lemmas/ModText.lean, `int_nil`): `Pars.Yields` is success with the stack unknown, for
  the last member of a run.  Core Lean only.
-/
import Gts.Lemmas.ParsRunEq
namespace Gts
open Pars ModParse LocParse Pars.Run

/-- on the input `w`, whatever the stack, `p` answers `o` and leaves `r`, and the stack as it found it -/
def Pars.Runs {α} (p : P α) (w : Bytes) (o : Except Err α) (r : Bytes) : Prop := ∀ stk, p ⟨w, stk⟩ = (o, ⟨r, stk⟩)

/-- `p` reads `v` off `w` and leaves `r` -/
abbrev Pars.Reads {α} (p : P α) (w : Bytes) (v : α) (r : Bytes) : Prop := Runs p w (.ok v) r

/-- `p` fails on the input `r` and leaves the position as it found it -/
abbrev Pars.Rejects {α} (p : P α) (r : Bytes) : Prop := Runs p r (.error .fail) r

/-- on the input `w`, `p` returns `v` and leaves `r`; nothing is said about the saved positions -/
def Pars.Yields {α} (p : P α) (w : Bytes) (v : α) (r : Bytes) : Prop := ∀ stk, ∃ s, p ⟨w, stk⟩ = (.ok v, ⟨r, s⟩)

theorem anyOf_nil {α} (r : Bytes) : Rejects (anyOf ([] : List (P α))) r := by
  intro stk; simp [anyOf, anyOf.go]

theorem anyOf_cons_of_rejects {α} {p : P α} {r : Bytes} (h : Rejects p r) (ps : List (P α))
    (stk : List Bytes) : anyOf (p :: ps) ⟨r, stk⟩ = anyOf ps ⟨r, stk⟩ := by
  simp [anyOf, anyOf.go, h (r :: stk)]

namespace Pars.Runs
variable {α β γ : Type} {p : P α} {w r r1 r2 : Bytes} {v : α}

theorem yields (h : Reads p w v r) : Yields p w v r := fun stk => ⟨stk, h stk⟩

theorem map {o : Except Err α} (h : Runs p w o r) (f : α → β) : Runs (f <$> p) w (f <$> o) r := by
  intro stk; rw [P.map_run, h stk]; cases o <;> rfl

theorem anyOf_skip {q : P α} {ps : List (P α)} {o : Except Err α} (hq : Rejects q w) (h : Runs (anyOf ps) w o r) :
    Runs (anyOf (q :: ps)) w o r := fun stk => (anyOf_cons_of_rejects hq ps stk).trans (h stk)

theorem anyOf_ok (h : Reads p w v r) (ps : List (P α)) : Reads (anyOf (p :: ps)) w v r := by
  intro stk; simp [anyOf, anyOf.go, h (w :: stk)]

theorem bind (h : Rejects p r) (f : α → P β) : Rejects (p >>= f) r := by
  intro stk; rw [P.bind_run, h stk]

theorem mapP (h : Rejects p r) (f : α → β) : Rejects (ModParse.mapP p f) r := by
  intro stk; simp [ModParse.mapP, h (r :: stk)]

theorem seq2 (h : Rejects p r) (q : P β) : Rejects (ModParse.seq2 p q) r := by
  intro stk; simp [ModParse.seq2, h (r :: stk)]

theorem seq3 (h : Rejects p r) (q : P β) (q' : P γ) : Rejects (ModParse.seq3 p q q') r := by
  intro stk; simp [ModParse.seq3, h (r :: stk)]

theorem seq3_second {q : P β} (q' : P γ) (hp : Reads p w v r1) (h : Rejects q r1) :
    Rejects (ModParse.seq3 p q q') w := by
  intro stk; simp [ModParse.seq3, hp (w :: stk), h (w :: stk)]

theorem seq3_third {q : P β} {q' : P γ} {b : β} (hp : Reads p w v r1) (hq : Reads q r1 b r2) (h : Rejects q' r2) :
    Rejects (ModParse.seq3 p q q') w := by
  intro stk; simp [ModParse.seq3, hp (w :: stk), hq (w :: stk), h (w :: stk)]

theorem exact (h : Rejects p r) : Rejects (ModParse.exact p) r := (h.seq2 atEnd).mapP _

end Pars.Runs

theorem exact_of_ok {α} {p : P α} {s r : Bytes} {v : α} (h : Reads p s v r) (stk : List Bytes) :
    ModParse.exact p ⟨s, stk⟩ = if r = [] then (.ok v, ⟨[], stk⟩) else (.error .fail, ⟨s, stk⟩) := by
  simp only [ModParse.exact, ModParse.mapP, ModParse.seq2, P.bind_run, push, getS, setS, attempt_run, h (s :: s :: stk),
    P.pure_run, atEnd]
  cases r <;> rfl

namespace Pars.Yields
variable {α β γ : Type} {p : P α} {w r r1 r2 : Bytes} {v : α}

theorem mapP (h : Yields p w v r) (f : α → β) : Yields (ModParse.mapP p f) w (f v) r := fun stk => by
  obtain ⟨s, hs⟩ := h (w :: stk)
  exact ⟨s.tail, by simp [ModParse.mapP, hs]⟩

theorem map (h : Yields p w v r) (f : α → β) : Yields (f <$> p) w (f v) r := fun stk => by
  obtain ⟨s, hs⟩ := h stk
  exact ⟨s, by rw [P.map_run, hs]⟩

/-- only the last member may leave the stack changed -/
theorem seq3 {q : P β} {q' : P γ} {b : β} {c : γ} (h : Reads p w v r1) (hq : Reads q r1 b r2)
    (hq' : Yields q' r2 c r) : Yields (ModParse.seq3 p q q') w (v, b, c) r := fun stk => by
  obtain ⟨s, hs⟩ := hq' (w :: stk)
  exact ⟨s.tail, by simp [ModParse.seq3, h (w :: stk), hq (w :: stk), hs]⟩

theorem anyOf_cons (h : Yields p w v r) (ps : List (P α)) : Yields (anyOf (p :: ps)) w v r := fun stk => by
  obtain ⟨s, hs⟩ := h (w :: stk)
  exact ⟨s.tail, by simp [anyOf, anyOf.go, hs]⟩

theorem anyOf_skip {q : P α} (hq : Rejects q w) {ps : List (P α)} (h : Yields (anyOf ps) w v r) :
    Yields (anyOf (q :: ps)) w v r := fun stk => by
  rw [anyOf_cons_of_rejects hq]
  exact h stk

theorem exact (h : Yields p w v []) : (ModParse.exact p ⟨w, []⟩).1 = .ok v := by
  obtain ⟨s, hs⟩ := h [w, w]
  simp [ModParse.exact, ModParse.mapP, ModParse.seq2, atEnd, hs]

end Pars.Yields
end Gts
