/-
  `Location.Shift(i, n)` with `n ≥ 0` on arbitrary (nested) locations: the denotation is
  re-mapped by `insMap`.  Core Lean only.
-/
import Gts.Lemmas.Contig
import Gts.Lemmas.TreeMap
namespace Gts
namespace Loc

theorem wf_rangedShift_ins (s e : Int) (a b : Bool) (i n : Int) (h : s < e) (hn : 0 ≤ n) :
    wf (rangedShift s e a b i n) = true := by
  rw [rangedShift_ins s e a b i n hn]
  split
  · simp [wf]; omega
  · exact decide_eq_true (ins_lt i n s e hn h)

theorem wf_ambiguousShift_ins (s e i n : Int) (h : s < e) (hn : 0 ≤ n) :
    wf (ambiguousShift s e i n) = true := by
  rw [ambiguousShift_ins s e i n hn]
  split
  · simp [wf]; omega
  · exact decide_eq_true (ins_lt i n s e hn h)

theorem mapPos_refines {a b : List Pos} (f : Int → Int) (h : a ≼ b) : mapPos f a ≼ mapPos f b :=
  h.map _

theorem shift_leafSpec (i n : Int) (hn : 0 ≤ n) :
    LeafSpec (shift · i n) (fun u => mapPos (insMap i n) (den u)) (fun _ => true) := fun u hu hw _ =>
  match u, hu, hw with
  | between p, _, _ => ⟨den_betweenExpand p i n, wf_betweenExpand p i n⟩
  | point p, _, _ => ⟨den_pointExpand_ins p i n hn, wf_pointExpand p i n⟩
  | ranged s e a b, _, hw =>
      ⟨den_rangedShift_ins s e a b i n (of_decide_eq_true hw) hn,
        wf_rangedShift_ins s e a b i n (of_decide_eq_true hw) hn⟩
  | ambiguous s e, _, hw =>
      ⟨den_ambiguousShift_ins s e i n (of_decide_eq_true hw) hn,
        wf_ambiguousShift_ins s e i n (of_decide_eq_true hw) hn⟩

/-- Insert: every location keeps its residues (re-mapped), unless K2 fires. -/
theorem shift_ins (l : Loc) (i n : Int) (hw : wf l = true) (hn : 0 ≤ n) :
    (shiftAbs l i n = false → den (shift l i n) ≼ mapPos (insMap i n) (den l)) ∧
    wf (shift l i n) = true := by
  rw [(shift_eq_tmap i n l).1, (shift_eq_tmap i n l).2.1, ← dfold_hom (DenHom.mapPos _)]
  exact tmap_spec (shift_leafSpec i n hn) l hw (allLeaves_true l)

end Loc
end Gts
