/-
  C01, CRLF input, field group by field group: the text `GenBank.String` writes as a CRLF-translating
  transport delivers it (`Origin.crlf`: every line feed replaced by CR LF, inside field texts and
  qualifier values as well), read by the sub-parsers of `GenBankParser`.  The statements of the LF chain
  (`ParsRun.lean` … `GbFeatures.lean`) are made for a line end `e : Eol` and the text `tr e t`, and
  `tr .crlf t` is `Origin.crlf t` by definition: every theorem here is the case `Eol.crlf` under its own
  name, with the CRLF forms of the texts written out (`contTextC`, `subLinesTextC`, …).
  Two things are particular to CR LF: a value written between quotes comes back as ITS CRLF
  TRANSLATION (`quotedValue_okC`, `crlfValue`, `readFeatureC`: `pars.Quoted` takes the raw text and
  `quotedQualifierParser` removes the indent behind every line feed only), and a printed location has to be
  read back in front of a carriage return (`LocRTC`, from C06 `loc_printB_sep`).  Core Lean only.
-/
import Gts.Lemmas.GbReadWrite
import Gts.Lemmas.GbLocRT
import Gts.Model.Fasta
namespace Gts.GenBank
open Gts.Pars

theorem crlf_sp (n : Nat) : Origin.crlf (sp n) = sp n := crlf_noLF _ (noLF_sp n)

theorem crlf_ne_nil (t : Bytes) (h : t ≠ []) : Origin.crlf t ≠ [] := by
  intro e
  have := crlf_length_ge t
  rw [e] at this
  cases t with
  | nil => exact h rfl
  | cons _ _ => simp at this

/-- `pars.Line` on a line without CR/LF that ends in CR LF: the same token, both bytes skipped -/
theorem line_okC (l r : Bytes) (stk : List Bytes) (h : noEOL l = true) :
    line ⟨l ++ 13 :: 10 :: r, stk⟩ = (.ok l, ⟨r, stk⟩) := line_okE .crlf l r stk h

theorem eol_crlf (r : Bytes) (stk : List Bytes) : eol ⟨13 :: 10 :: r, stk⟩ = (.ok [13, 10], ⟨r, stk⟩) :=
  eol_okE .crlf r stk

/-- the continuation lines as they stand in the CRLF file: indent, line, CR LF -/
def contTextC (pre : Bytes) (ls : List Bytes) : Bytes := ls.flatMap fun l => pre ++ l ++ [13, 10]

theorem contTextC_cons (pre l : Bytes) (ls : List Bytes) :
    contTextC pre (l :: ls) = pre ++ (l ++ 13 :: 10 :: contTextC pre ls) := contText_cons .crlf pre l ls

theorem contTextC_length_ge (pre : Bytes) (ls : List Bytes) : ls.length ≤ (contTextC pre ls).length :=
  contText_length_ge .crlf pre ls

theorem fieldLine_okC (d : Nat) (l r : Bytes) (stk : List Bytes) (h : noEOL l = true) :
    fieldLine d ⟨sp d ++ (l ++ 13 :: 10 :: r), stk⟩ = (.ok l, ⟨r, stk⟩) := fieldLine_ok .crlf d l r stk h

theorem fieldBody_okC (d : Nat) (sep : UInt8) (l0 : Bytes) (ls : List Bytes) (rest : Bytes)
    (stk : List Bytes) (h0 : noEOL l0 = true) (hls : ∀ x ∈ ls, noEOL x = true)
    (hrest : (sp d).isPrefixOf rest = false) :
    fieldBody d sep ⟨l0 ++ 13 :: 10 :: (contTextC (sp d) ls ++ rest), stk⟩ =
      (.ok (l0 ++ sepText sep ls, ls.length), ⟨rest, stk⟩) := fieldBody_ok .crlf d sep l0 ls rest stk h0 hls hrest

theorem crlf_addPrefix_lines (pre v : Bytes) (rest : Bytes) (hpre : noLF pre) :
    Origin.crlf (addPrefix pre v) ++ 13 :: 10 :: rest =
      headLine v ++ 13 :: 10 :: (contTextC pre (tailLines v) ++ rest) :=
  addPrefix_lines .crlf pre v rest hpre

/-- **Field body in a CRLF file.**  The CRLF translation of a text without carriage return written
with `AddPrefix(v, indent)`, terminated by CR LF, is read back by `genbankFieldBodyParser` exactly
as from the LF file. -/
theorem fieldBody_addPrefixC (d : Nat) (v rest : Bytes) (stk : List Bytes) (hv : noCR v = true)
    (hrest : (sp d).isPrefixOf rest = false) :
    fieldBody d 10 ⟨Origin.crlf (addPrefix (sp d) v) ++ 13 :: 10 :: rest, stk⟩ =
      (.ok (v, (tailLines v).length), ⟨rest, stk⟩) :=
  fieldBody_addPrefix .crlf d v rest stk hv hrest

theorem definition_roundtripC (f : Fields) (v rest : Bytes) (stk : List Bytes) (hv : noCR v = true)
    (hrest : (sp 12).isPrefixOf rest = false) :
    definitionField 12 f ⟨bs "DEFINITION  " ++ (Origin.crlf (addPrefix indent v) ++ (46 :: 13 :: 10 :: rest)), stk⟩ =
      (.ok ({ f with definition := v }, true), ⟨rest, stk⟩) :=
  definition_roundtripE .crlf f v rest stk hv hrest

theorem accession_roundtripC (f : Fields) (l rest : Bytes) (stk : List Bytes) (hl : noEOL l = true)
    (hrest : (sp 12).isPrefixOf rest = false) :
    accessionField 12 f ⟨bs "ACCESSION   " ++ (l ++ 13 :: 10 :: rest), stk⟩ =
      (.ok ({ f with accession := l }, true), ⟨rest, stk⟩) := accession_roundtripE .crlf f l rest stk hl hrest

theorem version_roundtripC (f : Fields) (l rest : Bytes) (stk : List Bytes) (hl : noEOL l = true)
    (hrest : (sp 12).isPrefixOf rest = false) :
    versionField 12 f ⟨bs "VERSION     " ++ (l ++ 13 :: 10 :: rest), stk⟩ =
      (.ok ({ f with version := l }, true), ⟨rest, stk⟩) := version_roundtripE .crlf f l rest stk hl hrest

theorem comment_roundtripC (f : Fields) (v rest : Bytes) (stk : List Bytes) (hv : noCR v = true)
    (hrest : (sp 12).isPrefixOf rest = false) :
    commentField 12 f ⟨bs "COMMENT     " ++ (Origin.crlf (addPrefix indent v) ++ 13 :: 10 :: rest), stk⟩ =
      (.ok ({ f with comments := f.comments ++ [v] }, true), ⟨rest, stk⟩) :=
  comment_roundtripE .crlf f v rest stk hv hrest

theorem crlf_addPrefix_head (pre v X : Bytes) :
    ∀ c, (Origin.crlf (addPrefix pre v) ++ 13 :: 10 :: X).head? = some c → c = 13 ∨ (v.head? = some c ∧ c ≠ 10) := by
  intro c hc
  cases v with
  | nil => simp [addPrefix, Origin.crlf] at hc; left; exact hc.symm
  | cons x r =>
    by_cases hx : x = 10
    · subst hx; simp [addPrefix, Origin.crlf] at hc; left; exact hc.symm
    · simp [addPrefix, hx, Origin.crlf] at hc; right; subst hc; simp [hx]

theorem extra_roundtripC (f : Fields) (name value rest : Bytes) (stk : List Bytes)
    (hw : WritableExtra name value = true) (hrest : (sp 12).isPrefixOf rest = false) :
    extraField 12 f ⟨padRight 12 name ++ (Origin.crlf (addPrefix indent value) ++ 13 :: 10 :: rest), stk⟩ =
      (.ok ({ f with extra := f.extra ++ [(name, value)] }, true), ⟨rest, stk⟩) :=
  extra_roundtripE .crlf f name value rest stk hw hrest

theorem keywords_roundtripC (f : Fields) (kws : List Bytes) (rest : Bytes) (stk : List Bytes)
    (h : listOk kws = true) (hrest : (sp 12).isPrefixOf rest = false) :
    keywordsField 12 f
        ⟨bs "KEYWORDS    " ++ (Origin.crlf (addPrefix indent (wrapSpace (joinWith (bs "; ") kws ++ [46]))) ++
          13 :: 10 :: rest), stk⟩ =
      (.ok ({ f with keywords := kws }, true), ⟨rest, stk⟩) :=
  keywords_roundtripE .crlf f kws rest stk h hrest

theorem source_roundtripC (f : Fields) (species name : Bytes) (taxon : List Bytes) (rest : Bytes)
    (stk : List Bytes) (hs : noCR (species) = true) (hn : organismOk name = true)
    (ht : taxonOk taxon = true) (hrest : (sp 12).isPrefixOf rest = false) :
    sourceField 12 f
        ⟨bs "SOURCE      " ++ (Origin.crlf (addPrefix indent (species)) ++ 13 :: 10 ::
          (bs "  ORGANISM  " ++ (name ++ 13 :: 10 ::
          (indent ++ (Origin.crlf (addPrefix indent (wrapSpace (joinWith (bs "; ") taxon ++ [46]))) ++
            13 :: 10 :: rest))))), stk⟩ =
      (.ok ({ f with species := species, organism := name, taxon := taxon }, true), ⟨rest, stk⟩) :=
  source_roundtripE .crlf f species name taxon rest stk hs hn ht hrest

/-- the pairs behind the first one, as they stand in the CRLF file -/
def dblinkMoreTextC (ps : List (Bytes × Bytes)) : Bytes :=
  ps.flatMap fun p => indent ++ (p.1 ++ 58 :: 32 :: p.2) ++ [13, 10]

theorem crlf_dblinkMoreText (ps : List (Bytes × Bytes)) (hps : ∀ p ∈ ps, pairOk p = true) :
    Origin.crlf (dblinkMoreText ps) = dblinkMoreTextC ps :=
  tr_dblinkMoreText .crlf ps hps

theorem dblink_roundtripC (f : Fields) (p : Bytes × Bytes) (ps : List (Bytes × Bytes)) (rest : Bytes)
    (stk : List Bytes) (hps : ∀ q ∈ p :: ps, pairOk q = true) (hrest : (sp 12).isPrefixOf rest = false) :
    dblinkField 12 f ⟨bs "DBLINK" ++ (sp 6 ++ ((p.1 ++ 58 :: 32 :: p.2) ++ 13 :: 10 :: (dblinkMoreTextC ps ++ rest))), stk⟩ =
      (.ok ({ f with dblink := dictSetAll f.dblink (p :: ps) }, true), ⟨rest, stk⟩) :=
  dblink_okE .crlf f p ps rest stk hps hrest

/-- the line(s) of one sub-field as they stand in the CRLF file -/
def subLineTextC (l : SubLine) : Bytes :=
  sp (slotA l.idx) ++ (bs (slotName l.idx) ++ (sp (slotB l.idx) ++ (Origin.crlf (addPrefix (sp 12) l.v) ++ [13, 10])))

def subLinesTextC (ls : List SubLine) : Bytes := ls.flatMap subLineTextC

theorem crlf_subLinesText (ls : List SubLine) : Origin.crlf (subLinesText ls) = subLinesTextC ls :=
  tr_subLinesText .crlf ls

theorem reference_roundtripC (f : Fields) (r : Reference) (more : Bytes) (stk : List Bytes)
    (h : referenceOk r = true) (hstop : refStop more = true) :
    referenceField 12 f ⟨refHead r ++ 13 :: 10 :: (subLinesTextC (presentLines r) ++ more), stk⟩ =
      (.ok ({ f with references := f.references ++ [r] }, true), ⟨more, stk⟩) :=
  reference_roundtripE .crlf f r more stk h hstop

/-- **LOCUS line, CRLF file**: the written line followed by CR LF is read as from the LF file -/
theorem locus_roundtripC (f : Fields) (length : Int) (rest : Bytes) (stk : List Bytes)
    (h : locusOk f length = true) :
    locusParser ⟨locusLine f length ++ 13 :: 10 :: rest, stk⟩ =
      (.ok ⟨12, f.locusName, length, f.molecule, topologyText f.topology, f.division, f.date⟩, ⟨rest, stk⟩) :=
  locus_roundtripE .crlf f length rest stk h

/-- `quotedQualifierParser(prefix)` behind the name, CRLF file: the value comes back as ITS CRLF
TRANSLATION — the scan takes the raw text between the quotes, the loop deletes the indent behind
every `"\n"` and leaves the carriage return in front of it where it is. -/
theorem quotedValue_okC (d : Nat) (v rest : Bytes) (stk : List Bytes) (hv : quotedOk d v = true) :
    quotedValue (sp d) ⟨61 :: 34 :: (Origin.crlf (addPrefix (sp d) v) ++ 34 :: 13 :: 10 :: rest), stk⟩ =
      (.ok (Origin.crlf v), ⟨rest, stk⟩) :=
  quotedValue_okE .crlf d v rest stk hv

/-- `literalQualifierParser(prefix)` behind the name, CRLF file: the same value as from the LF file -/
theorem literalValue_okC (d : Nat) (v rest : Bytes) (stk : List Bytes) (hv : literalOk v = true)
    (hstop : litStop d rest) :
    literalValue (sp d) ⟨61 :: (Origin.crlf (addPrefix (sp d) v) ++ 13 :: 10 :: rest), stk⟩ = (.ok v, ⟨rest, stk⟩) :=
  literalValue_okE .crlf d v rest stk hv hstop

/-- what the CRLF translation makes of a qualifier value on reading: a value written between quotes
(registered as quoted, or unknown) comes back as its CRLF translation, every other value as it is -/
def crlfValue (reg : Registry) (name value : Bytes) : Bytes :=
  match reg.typeOf name with
  | .literal => value
  | .toggle => value
  | _ => Origin.crlf value

/-- **Qualifier, CRLF file.**  `QualifierParser(prefix)` on the CRLF translation of the text
`QualifierIO.Format(prefix)` wrote, followed by CR LF: the same name, the registry as from the LF
file, and the value `crlfValue` — the value itself for literals and toggles, the CRLF translation of
the value for a value written between quotes. -/
theorem qualifier_roundtripC (reg : Registry) (d : Nat) (name value rest : Bytes) (stk : List Bytes)
    (hw : WritableQualifier reg d name value = true) (hstop : litStop d rest) :
    qualifier (sp d) reg ⟨Origin.crlf (qualifierFmt reg (sp d) name value) ++ 13 :: 10 :: rest, stk⟩ =
      (.ok ((name, readValue reg name (crlfValue reg name value)), learn reg name), ⟨rest, stk⟩) :=
  qualifier_roundtripE .crlf reg d name value rest stk hw hstop

/-- the printed location is read back by `ParseLocation` in front of a CARRIAGE RETURN (the key line
of a CRLF file), and does not start with white space -/
structure LocRTC (l : Loc) : Prop where
  first : ∃ c r, l.printB = c :: r ∧ isSpace c = false
  parse : ∀ (more : Bytes) (stk : List Bytes),
    location ⟨l.printB ++ 13 :: more, stk⟩ = (.ok l, ⟨13 :: more, stk⟩)

/-- **C06 → C01, CRLF**: every canonical location satisfies `LocRTC` (a carriage return is a
continuation that does not start with a digit, `.`, `^` or `>`: `Loc.loc_printB_sep`) -/
theorem locRTC_of_canon (l : Loc) (h : Loc.canonP l = true) : LocRTC l := by
  refine ⟨Loc.printB_cons l, ?_⟩
  intro more stk
  have hf : Loc.need l ≤ (l.printB ++ 13 :: more).length + 2 := by
    have := Loc.need_le_length l
    simp only [List.length_append]; omega
  have hs : Sep (13 :: more) := ⟨by decide, by decide, by decide, by decide⟩
  simp only [location, P.bind_run, getS]
  exact Loc.loc_printB_sep l h _ (13 :: more) stk hf hs

/-- the items a feature's qualifiers are read back as from the CRLF file -/
def readItemsC (reg : Registry) (ps : List (List Bytes)) : List (Bytes × Bytes) :=
  (propsItems ps).map fun kv => (kv.1, readValue reg kv.1 (crlfValue reg kv.1 kv.2))

/-- the feature as it is read back from the CRLF file: `readFeature` with every value that was
written between quotes replaced by its CRLF translation -/
def readFeatureC (reg : Registry) (f : QFeature) : QFeature :=
  ⟨f.key, f.loc, propsOfItems (readItemsC reg f.props)⟩

theorem LocRTC.toE {l : Loc} (h : LocRTC l) : LocRTE .crlf l := ⟨h.first, fun more stk => h.parse (10 :: more) stk⟩

/-- **FEATURES, CRLF file.**  The CRLF translation of the `FEATURES` section `GenBank.String` writes
(under `reg0`) for a non-empty table, read by `genbankFeatureParser` under any registry `reg` that
writes the same text: keys, locations, qualifier names, order and registry as from the LF file; the
values as `readFeatureC` says. -/
theorem features_roundtripC (reg0 reg : Registry) (hs : sameText reg0 reg) (ft : QFeature) (fs : List QFeature)
    (rest : Bytes)
    (stk : List Bytes) (hw : tableWritable reg0 (ft :: fs) = true) (hloc : ∀ x ∈ ft :: fs, LocRTC x.loc)
    (hrest : (sp 5).isPrefixOf rest = false) :
    ∃ t, tableText reg0 (ft :: fs) = .ok t ∧
      featuresField reg ⟨Origin.crlf (bs "FEATURES             Location/Qualifiers\n" ++ (t ++ [10])) ++ rest, stk⟩ =
        (.ok ((ft :: fs).map (readFeatureC reg0), learnTable reg (ft :: fs)), ⟨rest, []⟩) := by
  obtain ⟨t, ht, h⟩ := features_okE .crlf reg0 reg hs ft fs rest hw (fun x hx => (hloc x hx).toE) hrest
  exact ⟨t, ht, h stk⟩

end Gts.GenBank
