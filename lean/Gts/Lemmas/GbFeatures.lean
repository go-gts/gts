/-
  C01 helper lemmas: key lines, the first key line (which fixes the column layout), the loop over
  the features, `INSDCTableParser` on the text of `INSDCFormatter`.  The location column is taken
  from C06: `LocRT l` says that `ParseLocation` reads the printed location back (tied to the Go
  code by the correspondence ops `loc.print` / `loc.parse`).
-/
import Gts.Lemmas.GbTable
import Gts.Lemmas.BsLit
namespace Gts.GenBank
open Gts.Pars

/-- the printed location is read back by `ParseLocation` in front of a line feed, and does not
start with white space (it starts with a digit, `<`, `j`, `o` or `c`) -/
structure LocRT (l : Loc) : Prop where
  first : ∃ c r, l.printB = c :: r ∧ isSpace c = false
  parse : ∀ (more : Bytes) (stk : List Bytes),
    location ⟨l.printB ++ 10 :: more, stk⟩ = (.ok l, ⟨10 :: more, stk⟩)

/-- the same in front of the line end `e` -/
structure LocRTE (e : Eol) (l : Loc) : Prop where
  first : ∃ c r, l.printB = c :: r ∧ isSpace c = false
  parse : ∀ (more : Bytes) (stk : List Bytes),
    location ⟨l.printB ++ (e.bytes ++ more), stk⟩ = (.ok l, ⟨e.bytes ++ more, stk⟩)

theorem LocRT.toE {l : Loc} (h : LocRT l) : LocRTE .lf l := ⟨h.first, h.parse⟩

theorem blanks_ok (n : Nat) (r : Bytes) (stk : List Bytes) :
    blanks n ⟨sp n ++ r, stk⟩ = (.ok (), ⟨r, stk⟩) := by
  induction n with
  | zero => simp [blanks, sp, P.pure_run]
  | succ n ih =>
    rw [sp_succ]
    simp only [List.cons_append, blanks, P.bind_run, next_cons, show ((32 : UInt8) != 32) = false by decide,
      Bool.false_eq_true, if_false, advance1, getS, setS, List.drop_succ_cons, List.drop_zero]
    exact ih

/-- a feature key: a snake-case word of at most 15 bytes: the location column stays at 21
(`tableDepth_small`).  A longer key widens the column for the whole table (repo e050333,
`tableDepth`); that layout is outside the domain of the round trip. -/
def keyOk (key : Bytes) : Bool := nameOk key && decide (key.length ≤ 15)

/-- the text of one key line behind the column layout -/
def keylineText (e : Eol) (key : Bytes) (l : Loc) (more : Bytes) : Bytes :=
  sp 5 ++ (key ++ (sp (16 - key.length) ++ (l.printB ++ (e.bytes ++ more))))

theorem keyWord_ok (key X : Bytes) (stk : List Bytes) (hk : keyOk key = true) :
    word isSnake ⟨key ++ (sp (16 - key.length) ++ X), stk⟩ = (.ok key, ⟨sp (16 - key.length) ++ X, stk⟩) := by
  simp only [keyOk, Bool.and_eq_true, decide_eq_true_eq] at hk
  exact nameWord_ok key _ stk hk.1 (head_sp_append _ _ (by decide) fun h => absurd h (by omega))

theorem keyline_ok (e : Eol) (key : Bytes) (l : Loc) (more : Bytes) (stk : List Bytes) (hk : keyOk key = true)
    (hl : LocRTE e l) :
    keyline 5 21 ⟨keylineText e key l more, stk⟩ = (.ok (key, l), ⟨more, stk⟩) := by
  have hb : 21 - (5 + key.length) = 16 - key.length := by omega
  gsimp [keyline, keylineText, lit_ok, keyWord_ok _ _ _ hk, hb, blanks_ok, hl.parse, eol_okE]

theorem keyline_stop (rest : Bytes) (stk : List Bytes) (h : (sp 5).isPrefixOf rest = false) :
    keyline 5 21 ⟨rest, stk⟩ = (.error .fail, ⟨rest, stk⟩) := by
  gsimp [keyline, lit_fail _ _ _ h]

theorem firstKeyline_ok (e : Eol) (key : Bytes) (l : Loc) (more : Bytes) (stk : List Bytes) (hk : keyOk key = true)
    (hl : LocRTE e l) :
    firstKeyline ⟨keylineText e key l more, stk⟩ = (.ok (5, key, 16 - key.length, l), ⟨more, stk⟩) := by
  obtain ⟨hall, hne⟩ := nameOk_spec key (Bool.and_eq_true_iff.mp hk).1
  have hs1 := fun s => spaces_ok (sp 5) (key ++ (sp (16 - key.length) ++ (l.printB ++ (e.bytes ++ more)))) s
    (sp_all_space 5) fun c hc => snake_not_space c (head_of_all hne hall _ c hc)
  obtain ⟨c1, r1, hp1, hp2⟩ := hl.first
  have hs2 := fun s => spaces_ok (sp (16 - key.length)) (l.printB ++ (e.bytes ++ more)) s (sp_all_space _)
    (head_of_cons hp1 hp2 _)
  gsimp [firstKeyline, keylineText, hs1, keyWord_ok _ _ _ hk, hs2, hl.parse, eol_okE, sp_length]

/-- the items a feature's qualifiers are read back as (a toggle comes back with the empty value) -/
def readItems (reg : Registry) (ps : List (List Bytes)) : List (Bytes × Bytes) :=
  (propsItems ps).map fun kv => (kv.1, readValue reg kv.1 kv.2)

/-- the feature as it is read back -/
def readFeature (reg : Registry) (f : QFeature) : QFeature :=
  ⟨f.key, f.loc, propsOfItems (readItems reg f.props)⟩

/-- the text of one feature, every line with its line feed -/
def featLines (reg : Registry) (f : QFeature) : Bytes :=
  keylineText .lf f.key f.loc (qualLines reg 21 (propsItems f.props))

def featsText (reg : Registry) (fs : List QFeature) : Bytes := fs.flatMap (featLines reg)

/-- the items and the feature as they are read back from a file with the line end `e` -/
def readItemsE (e : Eol) (reg : Registry) (ps : List (List Bytes)) : List (Bytes × Bytes) :=
  (propsItems ps).map fun kv => (kv.1, readValue reg kv.1 (trValue e reg kv.1 kv.2))

def readFeatureE (e : Eol) (reg : Registry) (f : QFeature) : QFeature :=
  ⟨f.key, f.loc, propsOfItems (readItemsE e reg f.props)⟩

theorem readFeatureE_lf (reg : Registry) : readFeatureE .lf reg = readFeature reg := by
  funext f
  simp only [readFeatureE, readItemsE, readFeature, readItems, trValue_lf]

/-- the text of one feature in a file with the line end `e` -/
def featLinesE (e : Eol) (reg : Registry) (f : QFeature) : Bytes :=
  keylineText e f.key f.loc (qualLinesE e reg 21 (propsItems f.props))

def featsTextE (e : Eol) (reg : Registry) (fs : List QFeature) : Bytes := fs.flatMap (featLinesE e reg)

theorem featLines_more (e : Eol) (reg : Registry) (f : QFeature) (more : Bytes) :
    featLinesE e reg f ++ more =
      keylineText e f.key f.loc (qualLinesE e reg 21 (propsItems f.props) ++ more) := by
  simp [featLinesE, keylineText, List.append_assoc]

/-- the registry after a table -/
def learnTable (reg : Registry) (fs : List QFeature) : Registry :=
  fs.foldl (fun r f => learnAll r (propsItems f.props)) reg

theorem sameText_learnTable (a b : Registry) (fs : List QFeature) (h : sameText a b) :
    sameText a (learnTable b fs) := by
  induction fs generalizing b with
  | nil => exact h
  | cons f fs ih => exact ih _ (sameText_learnAll a b _ h)

theorem learnTable_le (reg : Registry) (fs : List QFeature) : reg.le (learnTable reg fs) := by
  induction fs generalizing reg with
  | nil => exact le_refl' reg
  | cons f fs ih => exact le_trans' (learnAll_le reg _) (ih _)

/-- the Boolean part of a feature's domain: key, and every written qualifier -/
def featOk (reg : Registry) (f : QFeature) : Bool :=
  keyOk f.key && (propsItems f.props).all fun kv => WritableQualifier reg 21 kv.1 kv.2

theorem sp_prefix_mono (a b : Nat) (r : Bytes) (hab : a ≤ b) (h : (sp a).isPrefixOf r = false) :
    (sp b).isPrefixOf r = false := by
  rw [← Bool.not_eq_true, List.isPrefixOf_iff_prefix] at h ⊢
  have hp : sp a <+: sp b := ⟨sp (b - a), by simp only [sp, List.replicate_append_replicate]; congr 1; omega⟩
  exact fun hb => h (hp.trans hb)

theorem sp21_keyline (e : Eol) (key : Bytes) (l : Loc) (more : Bytes) (hk : keyOk key = true) :
    (sp 21).isPrefixOf (keylineText e key l more) = false := by
  obtain ⟨hall, hne⟩ := nameOk_spec key (Bool.and_eq_true_iff.mp hk).1
  exact sp_short_prefix 5 21 _ (fun c hc => snake_ne_blank c (head_of_all hne hall _ c hc)) (by omega)

theorem featsText_cons (e : Eol) (reg : Registry) (ft : QFeature) (fs : List QFeature) (rest : Bytes) :
    featsTextE e reg (ft :: fs) ++ rest =
      keylineText e ft.key ft.loc (qualLinesE e reg 21 (propsItems ft.props) ++ (featsTextE e reg fs ++ rest)) := by
  simp only [featsTextE, List.flatMap_cons, List.append_assoc]
  rw [featLines_more]

/-- the qualifier lines of the first feature of `ft :: fs` written under `reg0`, read under a registry
that writes the same text, with the fuel `table` and `tableMore` give -/
theorem featQuals_ok (e : Eol) (reg0 reg : Registry) (hs : sameText reg0 reg) (ft : QFeature) (fs : List QFeature)
    (rest : Bytes) (stk : List Bytes) (hw : ∀ x ∈ ft :: fs, featOk reg0 x = true ∧ LocRTE e x.loc)
    (hrest : (sp 5).isPrefixOf rest = false) :
    qualifiers (sp 21) ((qualLinesE e reg0 21 (propsItems ft.props) ++ (featsTextE e reg0 fs ++ rest)).length + 1) reg []
        ⟨qualLinesE e reg0 21 (propsItems ft.props) ++ (featsTextE e reg0 fs ++ rest), stk⟩ =
      (.ok (readItemsE e reg0 ft.props, learnAll reg (propsItems ft.props)), ⟨featsTextE e reg0 fs ++ rest, stk⟩) := by
  have hq := (hw ft (by simp)).1
  simp only [featOk, Bool.and_eq_true, List.all_eq_true] at hq
  -- what follows the qualifier lines is the next key line or `rest`: neither starts with 21 blanks
  have hrest' : (sp 21).isPrefixOf (featsTextE e reg0 fs ++ rest) = false := by
    cases fs with
    | nil => simpa [featsTextE] using sp_prefix_mono 5 21 rest (by omega) hrest
    | cons ft' fs' =>
      have hok' := (hw ft' (by simp)).1
      simp only [featOk, Bool.and_eq_true] at hok'
      rw [featsText_cons]
      exact sp21_keyline e _ _ _ hok'.1
  have hlen : (propsItems ft.props).length <
      (qualLinesE e reg0 21 (propsItems ft.props) ++ (featsTextE e reg0 fs ++ rest)).length + 1 := by
    have := qualLinesE_length_ge e reg0 21 (propsItems ft.props)
    simp only [List.length_append]; omega
  exact qualifiers_roundtripE e reg0 21 (propsItems ft.props) (featsTextE e reg0 fs ++ rest) stk reg [] _ hs hq.2
    hrest' hlen

theorem tableMore_ok (e : Eol) (reg0 : Registry) (fs : List QFeature) (rest : Bytes) (stk : List Bytes)
    (reg : Registry) (acc : List QFeature) (f : Nat) (hs : sameText reg0 reg)
    (hw : ∀ ft ∈ fs, featOk reg0 ft = true ∧ LocRTE e ft.loc)
    (hrest : (sp 5).isPrefixOf rest = false) (hf : (featsTextE e reg0 fs ++ rest).length < f) :
    tableMore 5 21 f reg acc ⟨featsTextE e reg0 fs ++ rest, stk⟩ =
      (.ok (acc.reverse ++ fs.map (readFeatureE e reg0), learnTable reg fs), ⟨rest, stk⟩) := by
  induction fs generalizing reg acc f with
  | nil =>
    cases f with
    | zero => omega
    | succ f => gsimp [tableMore, featsTextE, keyline_stop rest stk hrest, learnTable]
  | cons ft fs ih =>
    cases f with
    | zero => omega
    | succ f =>
      obtain ⟨hok, hloc⟩ := hw ft (by simp)
      simp only [featOk, Bool.and_eq_true] at hok
      rw [featsText_cons] at hf ⊢
      simp only [tableMore, P.bind_run, attempt_run, keyline_ok e _ _ _ _ hok.1 hloc, getS,
        featQuals_ok e reg0 reg hs ft fs rest stk hw hrest]
      rw [ih (learnAll reg (propsItems ft.props)) _ f (sameText_learnAll reg0 reg _ hs)
        (fun x hx => hw x (by simp [hx])) (by simp only [keylineText, List.length_append, sp_length] at hf ⊢; omega)]
      simp [readFeatureE, learnTable]

theorem table_ok (e : Eol) (reg0 reg : Registry) (hs : sameText reg0 reg) (ft : QFeature) (fs : List QFeature)
    (rest : Bytes) (stk : List Bytes)
    (hw : ∀ x ∈ ft :: fs, featOk reg0 x = true ∧ LocRTE e x.loc)
    (hrest : (sp 5).isPrefixOf rest = false) :
    table reg ⟨featsTextE e reg0 (ft :: fs) ++ rest, stk⟩ =
      (.ok ((ft :: fs).map (readFeatureE e reg0), learnTable reg (ft :: fs)), ⟨rest, stk⟩) := by
  obtain ⟨hok, hloc⟩ := hw ft (by simp)
  have hk : keyOk ft.key = true := (Bool.and_eq_true_iff.mp hok).1
  have hd : 5 + ft.key.length + (16 - ft.key.length) = 21 := by
    have := of_decide_eq_true (Bool.and_eq_true_iff.mp hk).2; omega
  rw [featsText_cons]
  simp only [table, P.bind_run, firstKeyline_ok e _ _ _ _ hk hloc, hd, getS,
    featQuals_ok e reg0 reg hs ft fs rest stk hw hrest]
  rw [tableMore_ok e reg0 fs rest stk _ _ _ (sameText_learnAll reg0 reg _ hs) (fun x hx => hw x (by simp [hx])) hrest
    (by simp only [List.length_append]; omega)]
  simp [readFeatureE, learnTable]

end Gts.GenBank

namespace Gts.GenBank
open Gts.Pars

theorem shift_lf {α} (g : α → Bytes) (xs : List α) :
    (xs.flatMap fun x => 10 :: g x) ++ [10] = 10 :: xs.flatMap (fun x => g x ++ [10]) := by
  induction xs with
  | nil => rfl
  | cons x xs ih =>
    simp only [List.flatMap_cons, List.cons_append, List.append_assoc]
    rw [ih]
    simp

theorem featureText_lines (reg : Registry) (f : QFeature) (h1 : f.key.length ≤ 16) (h2 : propsOk f.props = true) :
    ∃ t, featureText reg 21 f = .ok t ∧ t ++ [10] = featLines reg f := by
  refine ⟨_, by simp only [featureText, h2]; rfl, ?_⟩
  have := shift_lf (fun kv : Bytes × Bytes => qualifierFmt reg (sp 21) kv.1 kv.2) (propsItems f.props)
  have e : 21 - 5 - f.key.length = 16 - f.key.length := by omega
  simp only [featLines, keylineText, qualLines, List.append_assoc, e]
  rw [this]
  rfl

theorem tableTextD_lines (reg : Registry) (ft : QFeature) (fs : List QFeature)
    (h : ∀ f ∈ ft :: fs, f.key.length ≤ 16 ∧ propsOk f.props = true) :
    ∃ t, tableTextD reg 21 (ft :: fs) = .ok t ∧ t ++ [10] = featsText reg (ft :: fs) := by
  induction fs generalizing ft with
  | nil =>
    obtain ⟨h1, h2⟩ := h ft (by simp)
    obtain ⟨t, ht, e⟩ := featureText_lines reg ft h1 h2
    exact ⟨t, by simp [tableTextD, ht], by simp [featsText, e]⟩
  | cons f2 fs ih =>
    obtain ⟨h1, h2⟩ := h ft (by simp)
    obtain ⟨t, ht, e⟩ := featureText_lines reg ft h1 h2
    obtain ⟨t', ht', e'⟩ := ih f2 (fun x hx => h x (by simp [hx]))
    refine ⟨t ++ 10 :: t', ?_, ?_⟩
    · simp only [tableTextD, ht, ht']; rfl
    · simp only [featsText, List.flatMap_cons] at e' ⊢
      rw [← e, ← e']; simp

theorem tableDepth_small (fs : List QFeature) (h : ∀ f ∈ fs, f.key.length ≤ 15) : tableDepth fs = 21 := by
  unfold tableDepth
  suffices hs : ∀ d, d = 21 → fs.foldl (fun d f => max d (5 + f.key.length + 1)) d = 21 from hs 21 rfl
  induction fs with
  | nil => intro d hd; simpa using hd
  | cons f fs ih =>
    intro d hd
    have := h f (by simp)
    simp only [List.foldl_cons]
    apply ih (fun x hx => h x (by simp [hx]))
    omega

theorem tableText_lines (reg : Registry) (ft : QFeature) (fs : List QFeature)
    (h : ∀ f ∈ ft :: fs, f.key.length ≤ 15 ∧ propsOk f.props = true) :
    ∃ t, tableText reg (ft :: fs) = .ok t ∧ t ++ [10] = featsText reg (ft :: fs) := by
  unfold tableText
  rw [tableDepth_small _ (fun f hf => (h f hf).1)]
  exact tableTextD_lines reg ft fs (fun f hf => ⟨by have := (h f hf).1; omega, (h f hf).2⟩)

/-- rows with a name (needed by `Props.Keys`) follow from the key being legal and every item
being writable only for non-empty rows; stated separately -/
def tableWritable (reg : Registry) (fs : List QFeature) : Bool :=
  fs.all fun f => featOk reg f && propsOk f.props

theorem tableText_writable (reg : Registry) (ft : QFeature) (fs : List QFeature)
    (hw : tableWritable reg (ft :: fs) = true) :
    ∃ t, tableText reg (ft :: fs) = .ok t ∧ t ++ [10] = featsText reg (ft :: fs) := by
  simp only [tableWritable, List.all_eq_true, Bool.and_eq_true] at hw
  refine tableText_lines reg ft fs fun f hf => ?_
  obtain ⟨h1, h2⟩ := hw f hf
  simp only [featOk, keyOk, Bool.and_eq_true, decide_eq_true_eq] at h1
  exact ⟨h1.1.2, h2⟩

theorem dec_noLF (n : Int) : noLF (dec n) := by
  unfold dec
  split
  · exact (noLF_cons_iff _ _).mpr ⟨by decide, natDigits_noLF _⟩
  · exact natDigits_noLF _

mutual
/-- a printed location has no line feed: its CRLF translation is the text itself -/
theorem printB_noLF : ∀ l : Loc, noLF (Loc.printB l)
  | .point p => by rw [Loc.printB]; exact dec_noLF _
  | .between p | .ambiguous s e => by
      simp only [Loc.printB, noLF_append_iff, noLF_cons_iff, dec_noLF, and_true, true_and]; decide
  | .ranged s e p5 p3 => by
      cases p5 <;> cases p3 <;>
        simp only [Loc.printB, noLF_append_iff, noLF_cons_iff, dec_noLF, noLF_nil, and_true, true_and,
          if_true, Bool.false_eq_true, if_false] <;> decide
  | .joined ls => by
      simp only [Loc.printB, noLF_append_iff, noLF_cons_iff, printListB_noLF ls, noLF_nil, and_true]
      exact ⟨noLF_of_all _ (by decide +kernel), by decide⟩
  | .ordered ls => by
      simp only [Loc.printB, noLF_append_iff, noLF_cons_iff, printListB_noLF ls, noLF_nil, and_true]
      exact ⟨noLF_of_all _ (by decide +kernel), by decide⟩
  | .compl l => by
      simp only [Loc.printB, noLF_append_iff, noLF_cons_iff, printB_noLF l, noLF_nil, and_true]
      exact ⟨noLF_of_all _ (by decide +kernel), by decide⟩
theorem printListB_noLF : ∀ ls : List Loc, noLF (Loc.printListB ls)
  | [] => noLF_nil
  | l :: ls => by
      simp only [Loc.printListB, noLF_append_iff, printB_noLF l, printTailB_noLF ls, and_true]
theorem printTailB_noLF : ∀ ls : List Loc, noLF (Loc.printTailB ls)
  | [] => noLF_nil
  | l :: ls => by
      simp only [Loc.printTailB, noLF_append_iff, noLF_cons_iff, printB_noLF l, printTailB_noLF ls, and_true]
      decide
end

theorem tr_featsText (e : Eol) (reg : Registry) (fs : List QFeature) (hk : ∀ f ∈ fs, keyOk f.key = true) :
    tr e (featsText reg fs) = featsTextE e reg fs :=
  tr_flatMap e _ _ fs fun f hf => by
    have hsn := (nameOk_spec f.key (Bool.and_eq_true_iff.mp (hk f hf)).1).1
    simp only [featLines, featLinesE, keylineText, tr_append, tr_noLF e _ (noLF_sp _),
      tr_noLF e _ (snake_noLF f.key hsn), tr_noLF e _ (printB_noLF f.loc), Eol.bytes, List.cons_append,
      List.nil_append, tr_cons_lf, tr_qualLines]

/-- what `GenBank.String` writes between the header and the tail sections: nothing for an empty
table -/
def featuresText (reg : Registry) : List QFeature → Bytes
  | [] => []
  | ft :: fs => bs "FEATURES             Location/Qualifiers\n" ++ featsText reg (ft :: fs)

theorem tr_featuresText (e : Eol) (reg : Registry) (ft : QFeature) (fs : List QFeature) (rest : Bytes)
    (hw : tableWritable reg (ft :: fs) = true) :
    tr e (featuresText reg (ft :: fs)) ++ rest =
      bs "FEATURES             Location/Qualifiers" ++ (e.bytes ++ (featsTextE e reg (ft :: fs) ++ rest)) := by
  have hkey : ∀ f ∈ ft :: fs, keyOk f.key = true := by
    intro f hf
    simp only [tableWritable, List.all_eq_true, Bool.and_eq_true, featOk] at hw
    exact (hw f hf).1.1
  rw [featuresText, show bs "FEATURES             Location/Qualifiers\n" =
      bs "FEATURES             Location/Qualifiers" ++ [10] by rw [bs_ofList, bs_ofList]; rfl,
    tr_append, tr_append, tr_featsText e reg _ hkey, tr_eol,
    tr_noLF e (bs "FEATURES             Location/Qualifiers") (noLF_of_all _ (by rw [bs_ofList]; decide +kernel))]
  simp only [List.append_assoc]

/-- the stack comes back empty whatever it was: `genbankFeatureParser` calls `state.Clear()` behind
the header line -/
theorem featuresField_okE (e : Eol) (reg0 reg : Registry) (hs : sameText reg0 reg) (ft : QFeature)
    (fs : List QFeature) (rest : Bytes) (stk : List Bytes) (hw : tableWritable reg0 (ft :: fs) = true)
    (hloc : ∀ x ∈ ft :: fs, LocRTE e x.loc) (hrest : (sp 5).isPrefixOf rest = false) :
    featuresField reg ⟨tr e (featuresText reg0 (ft :: fs)) ++ rest, stk⟩ =
      (.ok ((ft :: fs).map (readFeatureE e reg0), learnTable reg (ft :: fs)), ⟨rest, []⟩) := by
  rw [tr_featuresText e reg0 ft fs rest hw, show bs "FEATURES             Location/Qualifiers" =
    bs "FEATURES" ++ bs "             Location/Qualifiers" by rw [bs_ofList, bs_ofList, bs_ofList]; rfl, List.append_assoc]
  simp only [tableWritable, List.all_eq_true, Bool.and_eq_true] at hw
  have hline := fun s => line_okE e (bs "             Location/Qualifiers") (featsTextE e reg0 (ft :: fs) ++ rest) s
    (by decide +kernel)
  have ht := fun s => table_ok e reg0 reg hs ft fs rest s (fun x hx => ⟨(hw x hx).1, hloc x hx⟩) hrest
  gsimp [featuresField, lit_ok, hline, ht]

/-- **FEATURES, either line end.**  The `FEATURES` section `GenBank.String` writes under `reg0` for a
non-empty table, with the line end `e`, read by `genbankFeatureParser` under any registry `reg` that
writes the same text: keys, locations, qualifier names and order as written, the values as
`readFeatureE e` says (a value written between quotes keeps the line ends of the file). -/
theorem features_okE (e : Eol) (reg0 reg : Registry) (hs : sameText reg0 reg) (ft : QFeature) (fs : List QFeature)
    (rest : Bytes) (hw : tableWritable reg0 (ft :: fs) = true) (hloc : ∀ x ∈ ft :: fs, LocRTE e x.loc)
    (hrest : (sp 5).isPrefixOf rest = false) :
    ∃ t, tableText reg0 (ft :: fs) = .ok t ∧ ∀ stk,
      featuresField reg ⟨tr e (bs "FEATURES             Location/Qualifiers\n" ++ (t ++ [10])) ++ rest, stk⟩ =
        (.ok ((ft :: fs).map (readFeatureE e reg0), learnTable reg (ft :: fs)), ⟨rest, []⟩) := by
  obtain ⟨t, ht, et⟩ := tableText_writable reg0 ft fs hw
  refine ⟨t, ht, fun stk => ?_⟩
  rw [et]
  exact featuresField_okE e reg0 reg hs ft fs rest stk hw hloc hrest

theorem featuresField_ok (reg0 reg : Registry) (hs : sameText reg0 reg) (ft : QFeature)
    (fs : List QFeature) (rest : Bytes) (stk : List Bytes) (hw : tableWritable reg0 (ft :: fs) = true)
    (hloc : ∀ x ∈ ft :: fs, LocRT x.loc) (hrest : (sp 5).isPrefixOf rest = false) :
    featuresField reg ⟨bs "FEATURES             Location/Qualifiers\n" ++ (featsText reg0 (ft :: fs) ++ rest), stk⟩ =
      (.ok ((ft :: fs).map (readFeature reg0), learnTable reg (ft :: fs)), ⟨rest, []⟩) := by
  have := featuresField_okE .lf reg0 reg hs ft fs rest stk hw (fun x hx => (hloc x hx).toE) hrest
  rw [readFeatureE_lf] at this
  rw [← List.append_assoc]
  exact this

/-- **FEATURES round trip.**  The `FEATURES` section that `GenBank.String` writes for a non-empty
table — header line, `INSDCFormatter` text, line feed — read by `genbankFeatureParser`: the same
keys and locations in the same order, every qualifier item in its order with its value (the empty
value for a toggle), the registry only grows. -/
theorem features_roundtrip (reg : Registry) (ft : QFeature) (fs : List QFeature) (rest : Bytes)
    (stk : List Bytes) (hw : tableWritable reg (ft :: fs) = true) (hloc : ∀ x ∈ ft :: fs, LocRT x.loc)
    (hrest : (sp 5).isPrefixOf rest = false) :
    ∃ t, tableText reg (ft :: fs) = .ok t ∧
      featuresField reg ⟨bs "FEATURES             Location/Qualifiers\n" ++ (t ++ 10 :: rest), stk⟩ =
        (.ok ((ft :: fs).map (readFeature reg), learnTable reg (ft :: fs)), ⟨rest, []⟩) := by
  obtain ⟨t, ht, e⟩ := tableText_writable reg ft fs hw
  refine ⟨t, ht, ?_⟩
  rw [show t ++ 10 :: rest = featsText reg (ft :: fs) ++ rest by rw [← e]; simp]
  exact featuresField_ok reg reg (sameText_refl reg) ft fs rest stk hw hloc hrest

end Gts.GenBank
