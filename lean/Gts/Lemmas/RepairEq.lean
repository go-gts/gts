/-
  Equality of locations, features and `Repair` outcomes can be decided by evaluation: `Loc.beq` is
  equality, and the concrete witnesses of property C12 (`repair t = .ok t'` for literal tables) are
  checked by the kernel through `RepairOutcome.eq_of_decide`.  Core Lean only.
-/
import Gts.Model.Repair
import Gts.Lemmas.Basic
namespace Gts

namespace Loc

theorem beq_iff (a b : Loc) : Loc.beq a b = true ↔ a = b :=
  ⟨beq_eq a b, fun h => h ▸ beq_self a⟩

theorem beqList_iff (a b : List Loc) : Loc.beqList a b = true ↔ a = b :=
  ⟨beqList_eq a b, fun h => h ▸ beqList_self a⟩

end Loc

def Loc.decEq (a b : Loc) : Decidable (a = b) := decidable_of_iff _ (Loc.beq_iff a b)

def Feature.decEq (a b : Feature) : Decidable (a = b) :=
  have := Loc.decEq
  decidable_of_iff (a.key = b.key ∧ a.loc = b.loc ∧ a.props = b.props)
    ⟨fun h => by cases a; cases b; simp_all, fun h => h ▸ ⟨rfl, rfl, rfl⟩⟩

def RepairOutcome.decEq : (a b : RepairOutcome) → Decidable (a = b)
  | .ok a, .ok b =>
      have : DecidableEq Feature := Feature.decEq
      decidable_of_iff (a = b) ⟨congrArg _, RepairOutcome.ok.inj⟩
  | .panic, .panic | .nilLoc, .nilLoc => isTrue rfl
  | .ok _, .panic | .ok _, .nilLoc | .panic, .ok _ | .panic, .nilLoc | .nilLoc, .ok _ | .nilLoc, .panic =>
      isFalse RepairOutcome.noConfusion

theorem RepairOutcome.eq_of_decide {a b : RepairOutcome}
    (h : @decide (a = b) (RepairOutcome.decEq a b) = true) : a = b :=
  @of_decide_eq_true _ (RepairOutcome.decEq a b) h

theorem RepairOutcome.ne_of_decide {a b : RepairOutcome}
    (h : @decide (a = b) (RepairOutcome.decEq a b) = false) : a ≠ b :=
  @of_decide_eq_false _ (RepairOutcome.decEq a b) h

end Gts
