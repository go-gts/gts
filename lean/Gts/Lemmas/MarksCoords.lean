/-
  The oracle's in-bounds predicate `coordsWithin` (`Gts/Spec/Marks.lean`) under Rotate:
  `Expand(0, n)` keeps coordinates non-negative, `Normalize(L)` brings every leaf into `[0, L]`
  (not inverted), for every kind and arity — no K2 / marker guard is needed, `Join` only copies
  or merges leaves (`Gts/Lemmas/LeafInv.lean`, `tmap_leaves`).
-/
import Gts.Lemmas.Leafwise
import Gts.Lemmas.Normalize
namespace Gts
namespace Loc

/-- the leaf form of `nonneg` -/
def leafNonneg : Loc → Bool
  | between p => decide (0 ≤ p)
  | point p => decide (0 ≤ p)
  | ranged s _ _ _ => decide (0 ≤ s)
  | ambiguous s _ => decide (0 ≤ s)
  | _ => true

mutual
theorem nonneg_eq : ∀ (l : Loc), nonneg l = allLeaves leafNonneg l
  | between _ | point _ | ranged .. | ambiguous .. => by simp [nonneg, leafNonneg]
  | joined ls | ordered ls => by simpa [nonneg] using nonnegList_eq ls
  | compl l => by simpa [nonneg] using nonneg_eq l
theorem nonnegList_eq : ∀ (ls : List Loc), nonnegList ls = allLeavesList leafNonneg ls
  | [] => by simp [nonnegList]
  | l :: ls => by simp [nonnegList, nonneg_eq l, nonnegList_eq ls]
end

theorem mergeOK_leafNonneg : MergeOK leafNonneg := by
  intro vs ve ue v5 v3 u5 u3 h1 _
  simpa [leafNonneg] using h1

theorem mergeOK_leafWithin (L : Int) : MergeOK (leafWithin L) := by
  intro vs ve ue v5 v3 u5 u3 h1 h2
  simp only [leafWithin_iff, leafSpan] at *
  omega

theorem nonneg_of_coordsWithin (l : Loc) (L : Int) (h : coordsWithin l L = true) : nonneg l = true := by
  rw [coordsWithin_eq] at h
  rw [nonneg_eq]
  have key : ∀ u, leafWithin L u = true → leafNonneg u = true := by
    intro u hu
    cases u <;> simp only [leafWithin_iff, leafSpan, leafNonneg, decide_eq_true_eq] at * <;> omega
  rw [allLeaves_eq_all] at *
  rw [List.all_eq_true] at *
  exact fun u hu => key u (h u hu)

theorem expand0_nonneg_leaf (n : Int) (hn : 0 ≤ n) (u : Loc) (hu : isContig u = true)
    (hq : (wf u && leafNonneg u) = true) : allLeaves leafNonneg (expand u 0 n) = true := by
  obtain ⟨hw, h⟩ := Bool.and_eq_true_iff.mp hq
  match u, hu, hw, h with
  | between p, _, _, h =>
      simp only [leafNonneg, decide_eq_true_eq] at h
      simp only [expand, betweenExpand_ins p 0 n hn, allLeaves_between, leafNonneg, decide_eq_true_eq]
      split <;> omega
  | point p, _, _, h =>
      simp only [leafNonneg, decide_eq_true_eq] at h
      simp only [expand, pointExpand_ins p 0 n hn, insMap, allLeaves_point, leafNonneg, decide_eq_true_eq]
      split <;> omega
  | ranged s e .., _, hw, h | ambiguous s e, _, hw, h =>
      have hse : s < e := of_decide_eq_true hw
      simp only [leafNonneg, decide_eq_true_eq] at h
      simp only [expand, rangedExpand_ins s e _ _ 0 n hse hn, ambiguousExpand_ins s e 0 n hse hn,
        allLeaves_ranged, allLeaves_ambiguous, leafNonneg, decide_eq_true_eq]
      split <;> omega

theorem expand0_nonneg (l : Loc) (n : Int) (hn : 0 ≤ n) (hw : wf l = true)
    (h : allLeaves leafNonneg l = true) : allLeaves leafNonneg (expand l 0 n) = true := by
  rw [(expand_eq_tmap 0 n l).1]
  exact tmap_leaves mergeOK_leafNonneg (expand0_nonneg_leaf n hn) l
    (by rw [allLeaves_and_eq, ← wf_eq_allLeaves, hw, h]; rfl)

theorem expandList0_nonneg : ∀ (ls : List Loc) (n : Int), 0 ≤ n → wfList ls = true →
    allLeavesList leafNonneg ls = true → allLeavesList leafNonneg (expandList ls 0 n) = true := by
  intro ls n hn hw h
  rw [(expandList_eq_tmap 0 n ls).1]
  exact tmapList_leaves (rev := false) mergeOK_leafNonneg (expand0_nonneg_leaf n hn) ls
    ((allLeaves_and_eq wf leafNonneg (joined ls)).trans
      (by rw [← wf_eq_allLeaves]; exact Bool.and_eq_true_iff.mpr ⟨hw, h⟩))

theorem expand0_nonneg' (l : Loc) (n : Int) (hn : 0 ≤ n) (hw : wf l = true) (h : nonneg l = true) :
    nonneg (expand l 0 n) = true := by
  rw [nonneg_eq] at *
  exact expand0_nonneg l n hn hw h

/-- an ambiguous span that does not cross the origin after reduction modulo `L` (the proviso of
the property: "ambiguous spans not crossing the new origin") -/
def leafAmbOk (L : Int) : Loc → Bool
  | ambiguous s e => decide (s % L + (e - s) ≤ L)
  | _ => true

/-- no ambiguous leaf crosses the origin -/
def ambOk (L : Int) (l : Loc) : Bool := allLeaves (leafAmbOk L) l

theorem within_rangedNormalize (s e : Int) (a b : Bool) (L : Int) (hL : 0 < L) (hs : 0 ≤ s) (h : s < e) :
    allLeaves (leafWithin L) (rangedNormalize s e a b L) = true := by
  have hr0 := Int.emod_nonneg s (Int.ne_of_gt hL)
  have hr1 := Int.emod_lt_of_pos s hL
  have he0 := Int.emod_nonneg (e - 1) (Int.ne_of_gt hL)
  have he1 := Int.emod_lt_of_pos (e - 1) hL
  rw [rangedNormalize_cases s e a b L hL hs h]
  split
  · simp only [allLeaves_ranged, leafWithin_iff, leafSpan]
    omega
  · split
    · simp only [allLeaves_ranged, leafWithin_iff, leafSpan]
      omega
    · simp only [allLeaves_joined, allLeavesList_cons, allLeavesList_nil, allLeaves_ranged, leafWithin_iff,
        leafSpan, Bool.and_true, Bool.and_eq_true]
      omega

theorem within_ambiguousNormalize (s e L : Int) (hL : 0 < L) (hs : 0 ≤ s) (h : s < e)
    (hnw : s % L + (e - s) ≤ L) :
    leafWithin L (ambiguous (Int.tmod s L) (Int.tmod (e - 1) L + 1)) = true := by
  have hr0 := Int.emod_nonneg s (Int.ne_of_gt hL)
  rw [tmod_nonneg_eq s L hs, tmod_nonneg_eq (e - 1) L (by omega), show e - 1 = s + (e - 1 - s) by omega,
    emod_add_of_lt s _ L hL (by omega) (by omega)]
  simp only [leafWithin_iff, leafSpan]
  omega

theorem normalize_within_leaf (L : Int) (hL : 0 < L) (u : Loc) (hu : isContig u = true)
    (hq : (wf u && (leafNonneg u && leafAmbOk L u)) = true) :
    allLeaves (leafWithin L) (normalize u L) = true := by
  obtain ⟨hw, hq⟩ := Bool.and_eq_true_iff.mp hq
  obtain ⟨h, ha⟩ := Bool.and_eq_true_iff.mp hq
  match u, hu, hw, h, ha with
  | between p, _, _, h, _ | point p, _, _, h, _ =>
      have h0 : 0 ≤ p := of_decide_eq_true h
      have h1 := Int.emod_nonneg p (show L ≠ 0 by omega)
      have h2 := Int.emod_lt_of_pos p hL
      simp only [normalize, tmod_nonneg_eq p L h0, allLeaves_between, allLeaves_point, leafWithin_iff, leafSpan]
      omega
  | ranged s e a b, _, hw, h, _ =>
      simpa [normalize] using
        within_rangedNormalize s e a b L hL (of_decide_eq_true h) (of_decide_eq_true hw)
  | ambiguous s e, _, hw, h, ha =>
      simpa [normalize] using
        within_ambiguousNormalize s e L hL (of_decide_eq_true h) (of_decide_eq_true hw) (of_decide_eq_true ha)

theorem normalize_within (l : Loc) (L : Int) (hL : 0 < L) (hw : wf l = true)
    (h : allLeaves leafNonneg l = true) (ha : allLeaves (leafAmbOk L) l = true) :
    allLeaves (leafWithin L) (normalize l L) = true := by
  rw [(normalize_eq_tmap L l).1]
  exact tmap_leaves (mergeOK_leafWithin L) (normalize_within_leaf L hL) l
    (by rw [allLeaves_and_eq, allLeaves_and_eq, ← wf_eq_allLeaves, hw, h, ha]; rfl)

theorem normalizeList_within : ∀ (ls : List Loc) (L : Int), 0 < L → wfList ls = true →
    allLeavesList leafNonneg ls = true → allLeavesList (leafAmbOk L) ls = true →
    allLeavesList (leafWithin L) (normalizeList ls L) = true := by
  intro ls L hL hw h ha
  rw [(normalizeList_eq_tmap L ls).1]
  exact tmapList_leaves (rev := false) (mergeOK_leafWithin L) (normalize_within_leaf L hL) ls
    ((allLeaves_and_eq wf _ (joined ls)).trans (by
      rw [← wf_eq_allLeaves, allLeaves_and_eq]
      exact Bool.and_eq_true_iff.mpr ⟨hw, Bool.and_eq_true_iff.mpr ⟨h, ha⟩⟩))

theorem normalize_coordsWithin (l : Loc) (L : Int) (hL : 0 < L) (hw : wf l = true)
    (hnn : nonneg l = true) (ha : ambOk L l = true) : coordsWithin (normalize l L) L = true := by
  rw [coordsWithin_eq]
  rw [nonneg_eq] at hnn
  exact normalize_within l L hL hw hnn ha

end Loc
end Gts
