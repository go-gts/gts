/-
  `Join` and canonical locations.
  * `stableR racc`: the (reversed) accumulator holds structurally canonical, non-`joined` elements
    and `Push` leaves every neighbouring pair alone.  A `joined` is canonical exactly when its parts
    form such a list (`stable_of_structP_joined`, `structP_joined_of_stable`).
  * One push keeps `stableR` unless the K3 shape arises (`push1_stable`), hence so does the fold
    (`fold_stable`), hence `Join` of canonical arguments is canonical unless `joinK3`
    (`join_struct`).  The complemented / complemented rule is kept out by `noAdjCompl` (the edit
    operations never bring two complemented parts together).
  Core Lean only.
-/
import Gts.Lemmas.CanonBasic
namespace Gts
namespace Loc

/-- structurally canonical and not a `joined` (what a part of a canonical `joined` is) -/
def partOk (x : Loc) : Bool := structP x && !isJoinedC x

/-- the reversed accumulator: parts, and no neighbouring pair that `Push` reduces -/
def stableR : List Loc → Bool
  | [] => true
  | [v] => partOk v
  | v :: w :: r => partOk v && irr w v && stableR (w :: r)

theorem stableR_cons (v : Loc) (racc : List Loc) :
    stableR (v :: racc) = (partOk v && irrHead racc v && stableR racc) := by
  cases racc with
  | nil => simp [stableR, irrHead]
  | cons w r => simp [stableR, irrHead]

theorem stableR_cons_iff {v : Loc} {racc : List Loc} :
    stableR (v :: racc) = true ↔ partOk v = true ∧ irrHead racc v = true ∧ stableR racc = true := by
  rw [stableR_cons, Bool.and_eq_true, Bool.and_eq_true, and_assoc]

theorem stableR_tail (v : Loc) (racc : List Loc) (h : stableR (v :: racc) = true) : stableR racc = true :=
  (stableR_cons_iff.mp h).2.2

theorem stableR_suffix (a b : List Loc) (h : stableR (a ++ b) = true) : stableR b = true := by
  induction a with
  | nil => simpa using h
  | cons x xs ih => exact ih (stableR_tail x _ h)

theorem stableR_parts (racc : List Loc) (h : stableR racc = true) : ∀ v ∈ racc, partOk v = true := by
  induction racc with
  | nil => simp
  | cons v r ih =>
    obtain ⟨hv, -, hr⟩ := stableR_cons_iff.mp h
    intro u hu
    rcases List.mem_cons.mp hu with rfl | hu
    · exact hv
    · exact ih hr u hu

/-! ### a stable list is a fixed point of the fold, and conversely -/

theorem push1_irr (racc : List Loc) (x : Loc) (h : irrHead racc x = true) : push1 racc x = x :: racc :=
  pushOne_irr _ racc x h

theorem fold_of_stable : ∀ (ys racc : List Loc), stableR (ys.reverse ++ racc) = true →
    ys.foldl push1 racc = ys.reverse ++ racc
  | [], racc, _ => by simp
  | y :: ys, racc, h => by
      have h' : stableR (ys.reverse ++ (y :: racc)) = true := by
        simpa [List.append_assoc] using h
      have hy := stableR_cons_iff.mp (stableR_suffix _ _ h')
      simp only [List.foldl_cons]
      rw [push1_irr racc y hy.2.1, fold_of_stable ys (y :: racc) h']
      simp [List.append_assoc]

theorem fold_length_le : ∀ (ys racc : List Loc), (ys.foldl push1 racc).length ≤ racc.length + ys.length
  | [], racc => by simp
  | y :: ys, racc => by
      have h1 := pushOne_length_le (pushD (pushFuel - 1)) racc y
      have h2 := fold_length_le ys (push1 racc y)
      simp only [List.foldl_cons, List.length_cons]
      unfold push1 at h2 ⊢
      omega

/-- a fold that loses no element fired no rule: the pushed parts with the accumulator are stable -/
theorem stable_of_fold_length : ∀ (ys racc : List Loc), stableR racc = true →
    (∀ y ∈ ys, partOk y = true) →
    (ys.foldl push1 racc).length = racc.length + ys.length → stableR (ys.reverse ++ racc) = true
  | [], racc, hr, _, _ => by simpa using hr
  | y :: ys, racc, hr, hys, hlen => by
      simp only [List.foldl_cons, List.length_cons] at hlen
      have h2 := fold_length_le ys (push1 racc y)
      have h1 := pushOne_length_le (pushD (pushFuel - 1)) racc y
      have hl1 : (push1 racc y).length = racc.length + 1 := by unfold push1 at *; omega
      have hirr : irrHead racc y = true := by
        cases racc with
        | nil => rfl
        | cons v rest =>
          by_cases hi : irr v y = true
          · simpa [irrHead] using hi
          · have := pushOne_length_fired (pushD (pushFuel - 1)) v rest y (by simpa using hi)
            unfold push1 at hl1
            simp only [List.length_cons] at hl1
            omega
      have hpush : push1 racc y = y :: racc := push1_irr racc y hirr
      have hst : stableR (y :: racc) = true := stableR_cons_iff.mpr ⟨hys y (by simp), hirr, hr⟩
      have := stable_of_fold_length ys (y :: racc) hst (fun u hu => hys u (by simp [hu]))
        (by rw [hpush] at hlen; simp only [List.length_cons] at hlen ⊢; omega)
      simpa [List.append_assoc] using this

theorem partOk_of_structPList (ls : List Loc) (h1 : structPList ls = true) (h2 : ls.any isJoinedC = false) :
    ∀ y ∈ ls, partOk y = true := by
  intro y hy
  simp only [partOk, Bool.and_eq_true, Bool.not_eq_true']
  refine ⟨(structPList_iff ls).mp h1 y hy, ?_⟩
  have := List.any_eq_false.mp h2 y hy
  simpa using this

theorem ofParts_eq_joined (j ls : List Loc) (h : ofParts j = joined ls) (hj : ∀ y ∈ j, isJoinedC y = false) :
    j = ls := by
  match j, h, hj with
  | [], h, _ => simp only [ofParts] at h; injection h
  | [a], h, hj =>
    simp only [ofParts] at h
    have := hj a (by simp)
    rw [h] at this
    simp [isJoinedC] at this
  | a :: b :: r, h, _ => simp only [ofParts] at h; injection h

theorem push1_not_joined (racc : List Loc) (x : Loc) (hr : ∀ y ∈ racc, isJoinedC y = false)
    (hx : isJoinedC x = false) : ∀ y ∈ push1 racc x, isJoinedC y = false := by
  cases racc with
  | nil => exact fun y hy => (List.mem_singleton.mp hy) ▸ hx
  | cons v rest =>
    intro y hy
    rcases pushOne_replaced (pushD (pushFuel - 1)) v x rest true with e | ⟨u, e, hu, _⟩ <;>
      rw [push1, e] at hy <;> rcases List.mem_cons.mp hy with rfl | hy
    · exact hx
    · exact hr y hy
    · exact hu
    · exact hr y (List.mem_cons_of_mem _ hy)

theorem fold_not_joined : ∀ (ys racc : List Loc), (∀ y ∈ racc, isJoinedC y = false) →
    (∀ y ∈ ys, isJoinedC y = false) → ∀ y ∈ ys.foldl push1 racc, isJoinedC y = false
  | [], racc, hr, _ => by simpa using hr
  | y :: ys, racc, hr, hys => by
      simp only [List.foldl_cons]
      exact fold_not_joined ys _ (push1_not_joined racc y hr (hys y (by simp)))
        (fun u hu => hys u (by simp [hu]))

theorem partOk_not_joined (y : Loc) (h : partOk y = true) : isJoinedC y = false := by
  simp only [partOk, Bool.and_eq_true, Bool.not_eq_true'] at h
  exact h.2

theorem partOk_structP (y : Loc) (h : partOk y = true) : structP y = true :=
  (Bool.and_eq_true_iff.mp h).1

/-- the parts of a canonical `joined`, reversed, are a stable list -/
theorem stable_of_structP_joined (ls : List Loc) (h : structP (joined ls) = true) :
    stableR ls.reverse = true ∧ 2 ≤ ls.length ∧ ls.any isJoinedC = false := by
  simp only [structP, Bool.and_eq_true, Bool.not_eq_true', decide_eq_true_eq] at h
  obtain ⟨⟨⟨h1, h2⟩, h3⟩, h4⟩ := h
  refine ⟨?_, h2, h3⟩
  have hpart := partOk_of_structPList ls h1 h3
  have hj := beq_eq _ _ h4
  rw [join_flat, flatJList_of_none ls h3] at hj
  have hnj := fold_not_joined ls [] (by simp) (fun y hy => partOk_not_joined y (hpart y hy))
  have := ofParts_eq_joined _ _ hj (by simpa using hnj)
  have hlen : (ls.foldl push1 []).length = ([] : List Loc).length + ls.length := by
    have := congrArg List.length this
    simpa using this
  simpa using stable_of_fold_length ls [] rfl hpart hlen

theorem ofParts_of_two_le (j : List Loc) (h : 2 ≤ j.length) : ofParts j = joined j := by
  match j, h with
  | _ :: _ :: _, _ => rfl

/-- … and a stable list of at least two parts is a canonical `joined` -/
theorem structP_joined_of_stable (ls : List Loc) (h : stableR ls.reverse = true) (h2 : 2 ≤ ls.length) :
    structP (joined ls) = true := by
  have hparts := stableR_parts _ h
  have hnj : ls.any isJoinedC = false := by
    rw [List.any_eq_false]
    intro y hy
    simpa using partOk_not_joined y (hparts y (by simpa using hy))
  simp only [structP, Bool.and_eq_true, Bool.not_eq_true', decide_eq_true_eq]
  refine ⟨⟨⟨?_, h2⟩, hnj⟩, ?_⟩
  · rw [structPList_iff]
    intro y hy
    exact partOk_structP y (hparts y (by simpa using hy))
  · have hf := fold_of_stable ls [] (by simpa using h)
    rw [join_flat, flatJList_of_none ls hnj, hf]
    simp only [List.append_nil, List.reverse_reverse]
    rw [ofParts_of_two_le ls h2]
    exact beq_refl _

/-- the last element of the accumulator is not a `Complemented` -/
def headPlain : List Loc → Bool
  | compl _ :: _ => false
  | _ => true

theorem headPlain_cons (u : Loc) (r : List Loc) : headPlain (u :: r) = !isComplC u := by
  cases u <;> rfl

theorem noAdjCompl_cons (a : Loc) (l : List Loc) :
    noAdjCompl (a :: l) = ((!isComplC a || headPlain l) && noAdjCompl l) := by
  cases l with
  | nil => simp [noAdjCompl, headPlain]
  | cons b r => rw [noAdjCompl, headPlain_cons, Bool.not_and]

theorem stableR_replace (v x : Loc) (rest : List Loc) (hr : stableR (v :: rest) = true)
    (hx : partOk x = true) (h : irrHead rest x = true) : stableR (x :: rest) = true :=
  stableR_cons_iff.mpr ⟨hx, h, stableR_tail v rest hr⟩

theorem irrHead_of (rest : List Loc) (v x : Loc) (h : irrHead rest v = true)
    (hw : ∀ w, irr w v = true → irr w x = true) : irrHead rest x = true := by
  cases rest with
  | nil => rfl
  | cons w r => exact hw w h

theorem partOk_ranged (s e : Int) (a b : Bool) : partOk (ranged s e a b) = true := by
  simp [partOk, structP, isJoinedC]

theorem push1_stable (racc : List Loc) (x : Loc) (hr : stableR racc = true) (hx : partOk x = true)
    (hc : headPlain racc = true ∨ isComplC x = false) (hk : k3One racc x = false) :
    stableR (push1 racc x) = true := by
  cases racc with
  | nil => simpa [push1, pushOne, stableR] using hx
  | cons v rest =>
    obtain ⟨hv, hih, hrest⟩ := stableR_cons_iff.mp hr
    by_cases hi : irr v x = true
    · rw [push1_irr (v :: rest) x hi]
      exact stableR_cons_iff.mpr ⟨hx, hi, hr⟩
    · have hlen := pushOne_length_fired (pushD (pushFuel - 1)) v rest x (by simpa using hi)
      rcases pushOne_cons (pushD (pushFuel - 1)) v x rest true with e | ⟨e, _⟩ | ⟨e, h⟩ |
          ⟨vs, ve, ue, v5, v3, u5, u3, rfl, rfl, _, e⟩ | ⟨_, _, rfl, rfl, _⟩
      · rw [e] at hlen; simp at hlen
      · -- `x` is dropped
        rw [push1, e]; exact hr
      · -- `x` replaces `v`: what stands in front of `v` must leave `x` alone as well
        rw [push1, e]
        refine stableR_replace _ _ _ hr hx ?_
        rcases h with ⟨p, rfl, rfl⟩ | ⟨p, ue, u5, u3, rfl, rfl⟩ | ⟨p, ue, u5, u3, rfl, rfl⟩
        · cases rest with
          | nil => rfl
          | cons w r =>
            refine irr_between_point w p hih ?_
            rintro q rfl rfl
            simp [k3One] at hk
        · cases rest with
          | nil => rfl
          | cons w r =>
            rw [irrHead, ← irr_point_ranged]
            refine irr_between_point w p hih ?_
            rintro q rfl rfl
            simp [k3One] at hk
        · refine irrHead_of rest _ _ hih fun w hw => ?_
          rw [← irr_point_ranged]; exact hw
      · -- two abutting ranges merge: the start is that of `v`
        rw [push1, e]
        refine stableR_replace _ _ _ hr (partOk_ranged _ _ _ _) (irrHead_of rest _ _ hih fun w hw => ?_)
        rw [irr_ranged_start w vs ue ve v5 u3 v5 v3]; exact hw
      · simp [headPlain, isComplC] at hc

theorem push1_headPlain (racc : List Loc) (x : Loc) (hx : isComplC x = false) :
    headPlain (push1 racc x) = true := by
  cases racc with
  | nil => rw [push1, pushOne, headPlain_cons, hx]; rfl
  | cons v rest =>
    rcases pushOne_replaced (pushD (pushFuel - 1)) v x rest true with e | ⟨u, e, _, _, hu⟩ <;>
      rw [push1, e, headPlain_cons]
    · rw [hx]; rfl
    · rw [hu, hx]; rfl

def hasPlain (racc : List Loc) : Bool := racc.any fun y => !isComplC y

theorem hasPlain_cons (u : Loc) (r : List Loc) : hasPlain (u :: r) = (!isComplC u || hasPlain r) := rfl

theorem push1_hasPlain (racc : List Loc) (x : Loc) (h : hasPlain racc = true ∨ isComplC x = false) :
    hasPlain (push1 racc x) = true := by
  cases racc with
  | nil =>
    rcases h with h | h
    · cases h
    · rw [push1, pushOne, hasPlain_cons, h]; rfl
  | cons v rest =>
    rcases pushOne_replaced (pushD (pushFuel - 1)) v x rest true with e | ⟨u, e, _, hv, hu⟩ <;>
      rw [push1, e, hasPlain_cons]
    · rcases h with h | h
      · rw [h, Bool.or_true]
      · rw [h]; rfl
    · rcases h with h | h
      · rw [hv, ← hasPlain_cons, h]
      · rw [hu, h]; rfl

theorem fold_hasPlain : ∀ (ys racc : List Loc), hasPlain racc = true → hasPlain (ys.foldl push1 racc) = true
  | [], racc, h => by simpa using h
  | y :: ys, racc, h => by
      simp only [List.foldl_cons]
      exact fold_hasPlain ys _ (push1_hasPlain racc y (Or.inl h))

theorem fold_hasPlain_of_mem : ∀ (ys racc : List Loc), (∃ y ∈ ys, isComplC y = false) →
    hasPlain (ys.foldl push1 racc) = true
  | [], racc, h => by simp at h
  | y :: ys, racc, h => by
      simp only [List.foldl_cons]
      by_cases hy : isComplC y = false
      · exact fold_hasPlain ys _ (push1_hasPlain racc y (Or.inr hy))
      · obtain ⟨u, hu, hup⟩ := h
        rcases List.mem_cons.mp hu with rfl | hu
        · exact absurd hup hy
        · exact fold_hasPlain_of_mem ys _ ⟨u, hu, hup⟩

/-- the parts to be pushed fit the accumulator: never a `Complemented` behind a `Complemented` -/
def compat : List Loc → List Loc → Bool
  | _, [] => true
  | racc, y :: ys => (headPlain racc || !isComplC y) && noAdjCompl (y :: ys)

theorem k3Fold_cons (racc : List Loc) (y : Loc) (ys : List Loc) (hy : isJoinedC y = false) :
    k3Fold racc (y :: ys) = (k3One racc y || k3Fold (push1 racc y) ys) := by
  rw [k3Fold, push_eq_push1 racc y hy]

theorem fold_stable : ∀ (ys racc : List Loc), stableR racc = true → (∀ y ∈ ys, partOk y = true) →
    compat racc ys = true → k3Fold racc ys = false → stableR (ys.foldl push1 racc) = true
  | [], racc, hr, _, _, _ => by simpa using hr
  | y :: ys, racc, hr, hys, hc, hk => by
      have hy := hys y (by simp)
      rw [k3Fold_cons racc y ys (partOk_not_joined y hy)] at hk
      simp only [Bool.or_eq_false_iff] at hk
      simp only [compat, Bool.and_eq_true, Bool.or_eq_true, Bool.not_eq_true'] at hc
      simp only [List.foldl_cons]
      refine fold_stable ys _ (push1_stable racc y hr hy hc.1 hk.1) (fun u hu => hys u (by simp [hu])) ?_ hk.2
      cases ys with
      | nil => rfl
      | cons z zs =>
        have hn := hc.2
        simp only [noAdjCompl, Bool.and_eq_true, Bool.not_eq_true', Bool.and_eq_false_iff] at hn
        simp only [compat, Bool.and_eq_true, Bool.or_eq_true, Bool.not_eq_true']
        refine ⟨?_, hn.2⟩
        rcases hn.1 with h | h
        · exact Or.inl (push1_headPlain racc y h)
        · exact Or.inr h

theorem stableR_flatJ (x : Loc) (h : structP x = true) : stableR (flatJ x).reverse = true ∧ flatJ x ≠ [] := by
  by_cases hj : isJoinedC x = true
  · cases x <;> simp [isJoinedC] at hj
    rename_i ls
    obtain ⟨h1, h2, h3⟩ := stable_of_structP_joined ls h
    simp only [flatJ]
    rw [flatJList_of_none ls h3]
    exact ⟨h1, fun he => by rw [he] at h2; simp at h2⟩
  · have hj' : isJoinedC x = false := by simpa using hj
    rw [flatJ_of_not_joined x hj']
    simp [stableR, partOk, h, hj']

theorem partOk_flatJ (x : Loc) (h : structP x = true) : ∀ y ∈ flatJ x, partOk y = true :=
  fun y hy => stableR_parts _ (stableR_flatJ x h).1 y (List.mem_reverse.mpr hy)

theorem partOk_flatJList (xs : List Loc) (h : structPList xs = true) : ∀ y ∈ flatJList xs, partOk y = true := by
  intro y hy
  obtain ⟨x, hx, hy⟩ := mem_flatJList.mp hy
  exact partOk_flatJ x ((structPList_iff xs).mp h x hx) y hy

theorem structP_ofParts_stable (racc : List Loc) (h : stableR racc = true) (hne : racc ≠ []) :
    structP (ofParts racc.reverse) = true := by
  match racc, h, hne with
  | [a], h, _ =>
    simp only [List.reverse_cons, List.reverse_nil, List.nil_append, ofParts]
    exact partOk_structP a (stableR_parts _ h a (by simp))
  | a :: b :: r, h, _ =>
    have hl : 2 ≤ (a :: b :: r).reverse.length := by simp
    rw [ofParts_of_two_le _ hl]
    exact structP_joined_of_stable (a :: b :: r).reverse (by simpa using h) hl

theorem ofParts_not_compl (racc : List Loc) (h : hasPlain racc = true) (hs : stableR racc = true) :
    isComplC (ofParts racc.reverse) = false := by
  match racc, h, hs with
  | [], h, _ => simp [hasPlain] at h
  | [a], h, _ => simpa [ofParts, hasPlain] using h
  | a :: b :: r, _, _ => rw [ofParts_of_two_le _ (by simp)]; rfl

theorem fold_ne_nil : ∀ (ys racc : List Loc), (racc ≠ [] ∨ ys ≠ []) → ys.foldl push1 racc ≠ []
  | [], racc, h => by simpa using h
  | y :: ys, racc, _ => by
      simp only [List.foldl_cons]
      exact fold_ne_nil ys _ (Or.inl (pushOne_ne_nil _ racc y true))

theorem fold_flat_stable (xs : List Loc) (h : structPList xs = true)
    (hc : noAdjCompl (flatJList xs) = true) (hk : joinK3 xs = false) :
    stableR ((flatJList xs).foldl push1 []) = true :=
  fold_stable (flatJList xs) [] rfl (partOk_flatJList xs h)
    (by cases hq : flatJList xs with
        | nil => rfl
        | cons y ys => rw [hq] at hc; simp [compat, headPlain, hc]) hk

/-- **`Join` of structurally canonical arguments is structurally canonical** unless the K3 shape
arises, provided no two `Complemented` parts meet. -/
theorem join_struct (xs : List Loc) (h : structPList xs = true) (hne : flatJList xs ≠ [])
    (hc : noAdjCompl (flatJList xs) = true) (hk : joinK3 xs = false) : structP (join xs) = true := by
  rw [join_flat]
  exact structP_ofParts_stable _ (fold_flat_stable xs h hc hk) (fold_ne_nil _ _ (Or.inr hne))

/-- … and it is not a `Complemented` when one of the parts is not -/
theorem join_not_compl (xs : List Loc) (h : structPList xs = true)
    (hc : noAdjCompl (flatJList xs) = true) (hk : joinK3 xs = false)
    (hp : ∃ y ∈ flatJList xs, isComplC y = false) : isComplC (join xs) = false := by
  rw [join_flat]
  exact ofParts_not_compl _ (fold_hasPlain_of_mem _ _ hp) (fold_flat_stable xs h hc hk)

end Loc
end Gts
