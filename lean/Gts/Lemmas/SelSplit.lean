/-
  The escape-flag loop of `shiftSelector`, iterated by `Selector`, computes the declarative split
  `SelSpec.escSplit` (Gts/Spec/SelectorEsc.lean) — over any alphabet with a backslash `bs` and a separator
  `sl ≠ bs`: the flag is a fold of the text read so far (`escapedAfter_cons`), so the split that looks at the
  text is the split of the two-state machine `splitSt`; one `shiftSelector` call (`shiftG`) cuts off the first
  segment, the loop `for tail != ""` (`partsG`) yields the further segments, a trailing empty one dropped.
  Reassembly laws, escaping, the conventional reading.  The byte model: Gts/Lemmas/SelShift.lean, the
  character model: Gts/Lemmas/SelectEsc.lean.  Core Lean only.
-/
import Gts.Spec.SelectorEsc
namespace Gts
namespace SelSpec

section generic
variable {α : Type} [DecidableEq α]

/-- the flag after one more character: set by a backslash, left as it is by a separator, cleared by
anything else -/
def stNext (bs sl : α) (esc : Bool) (c : α) : Bool :=
  if c = bs then true else if c = sl then esc else false

/-- the flag after reading `p` from flag `esc` -/
def stAfter (bs sl : α) : Bool → List α → Bool
  | esc, [] => esc
  | esc, c :: r => stAfter bs sl (if c = bs then true else if c = sl then esc else false) r

theorem stAfter_cons (bs sl : α) (esc : Bool) (c : α) (r : List α) :
    stAfter bs sl esc (c :: r) = stAfter bs sl (stNext bs sl esc c) r := rfl

theorem stAfter_append (bs sl : α) : ∀ (p q : List α) (esc : Bool),
    stAfter bs sl esc (p ++ q) = stAfter bs sl (stAfter bs sl esc p) q
  | [], _, _ => rfl
  | c :: r, q, esc => by simp only [List.cons_append, stAfter, stAfter_append bs sl r q]

theorem stNext_sep {bs sl : α} (hne : bs ≠ sl) {esc : Bool} {c : α} (h : c = sl ∧ esc = false) :
    stNext bs sl esc c = false := by
  rw [stNext, if_neg (fun e => hne (e.symm.trans h.1)), if_pos h.1, h.2]

theorem stNext_bs (bs sl : α) (esc : Bool) : stNext bs sl esc bs = true := if_pos rfl

theorem stNext_sl {bs sl : α} (hne : bs ≠ sl) (esc : Bool) : stNext bs sl esc sl = esc := by
  rw [stNext, if_neg (fun e => hne e.symm), if_pos rfl]

theorem stNext_other {bs sl c : α} (hb : c ≠ bs) (hs : c ≠ sl) (esc : Bool) : stNext bs sl esc c = false := by
  rw [stNext, if_neg hb, if_neg hs]

theorem escapedAfter_nil (bs sl : α) : escapedAfter bs sl [] = false := rfl

/-- the flag IS "the text so far ends in a backslash followed by slashes only" -/
theorem escapedAfter_cons (bs sl : α) (hne : bs ≠ sl) (c : α) (rpre : List α) :
    escapedAfter bs sl (c :: rpre) = stNext bs sl (escapedAfter bs sl rpre) c := by
  have h : escapedAfter bs sl (c :: rpre) = if c = sl then escapedAfter bs sl rpre else decide (c = bs) := by
    unfold escapedAfter
    by_cases h : c = sl <;> simp [h]
  rw [h, stNext]
  by_cases hs : c = sl
  · rw [if_pos hs, if_neg (fun e => hne (e.symm.trans hs)), if_pos hs]
  · by_cases hb : c = bs <;> simp [hs, hb, hne]

theorem escapedAfter_append (bs sl : α) (hne : bs ≠ sl) : ∀ (p rpre : List α),
    escapedAfter bs sl (p.reverse ++ rpre) = stAfter bs sl (escapedAfter bs sl rpre) p
  | [], _ => rfl
  | c :: r, rpre => by
      rw [List.reverse_cons, List.append_assoc, List.singleton_append,
        escapedAfter_append bs sl hne r (c :: rpre), escapedAfter_cons bs sl hne, stAfter_cons]

/-- the split computed with the escape flag of the loop: a separator read with a cleared flag splits -/
def splitSt (bs sl : α) : Bool → List α → List α → List (List α)
  | _, cur, [] => [cur.reverse]
  | esc, cur, c :: r =>
    if c = sl ∧ esc = false then cur.reverse :: splitSt bs sl false [] r
    else splitSt bs sl (stNext bs sl esc c) (c :: cur) r

theorem splitSt_ne_nil (bs sl : α) : ∀ (s : List α) (esc : Bool) (cur : List α),
    splitSt bs sl esc cur s ≠ []
  | [], _, _ => by simp [splitSt]
  | c :: r, esc, cur => by
      unfold splitSt
      split
      · simp
      · exact splitSt_ne_nil bs sl r _ _

theorem escSplitFrom_eq (bs sl : α) (hne : bs ≠ sl) : ∀ (s rpre cur : List α),
    escSplitFrom bs sl rpre cur s = splitSt bs sl (escapedAfter bs sl rpre) cur s
  | [], _, _ => by simp [escSplitFrom, splitSt]
  | c :: r, rpre, cur => by
      unfold escSplitFrom splitSt
      rw [escSplitFrom_eq bs sl hne r, escSplitFrom_eq bs sl hne r, escapedAfter_cons bs sl hne]
      split
      · rw [stNext_sep hne ‹_›]
      · rfl

theorem escSplit_eq (bs sl : α) (hne : bs ≠ sl) (s : List α) :
    escSplit bs sl s = splitSt bs sl false [] s := by
  rw [escSplit, escSplitFrom_eq bs sl hne, escapedAfter_nil]

/-- `shiftSelector` from a position with escape flag `esc`: the text up to the first unescaped
separator, the text behind it -/
def shiftG (bs sl : α) : List α → Bool → List α × List α
  | [], _ => ([], [])
  | c :: r, esc =>
    if c = sl ∧ esc = false then ([], r)
    else (c :: (shiftG bs sl r (stNext bs sl esc c)).1, (shiftG bs sl r (stNext bs sl esc c)).2)

/-- is there an unescaped separator -/
def sepG (bs sl : α) : List α → Bool → Bool
  | [], _ => false
  | c :: r, esc => if c = sl ∧ esc = false then true else sepG bs sl r (stNext bs sl esc c)

theorem shiftG_nosep (bs sl : α) : ∀ (s : List α) (esc : Bool), sepG bs sl s esc = false →
    shiftG bs sl s esc = (s, [])
  | [], _, _ => rfl
  | c :: r, esc, h => by
      unfold sepG at h
      unfold shiftG
      split at h
      · cases h
      · rw [if_neg ‹_›, shiftG_nosep bs sl r _ h]

theorem shiftG_tail_le (bs sl : α) : ∀ (s : List α) (esc : Bool),
    (shiftG bs sl s esc).2.length ≤ s.length
  | [], _ => by simp [shiftG]
  | c :: r, esc => by
      unfold shiftG
      split
      · exact Nat.le_succ _
      · exact Nat.le_succ_of_le (shiftG_tail_le bs sl r _)

theorem shiftG_tail_lt (bs sl : α) (c : α) (r : List α) (esc : Bool) :
    (shiftG bs sl (c :: r) esc).2.length < (c :: r).length := by
  unfold shiftG
  split
  · exact Nat.lt_succ_self _
  · exact Nat.lt_succ_of_le (shiftG_tail_le bs sl r _)

theorem splitSt_shift (bs sl : α) : ∀ (s : List α) (esc : Bool) (cur : List α),
    splitSt bs sl esc cur s =
      if sepG bs sl s esc then
        (cur.reverse ++ (shiftG bs sl s esc).1) :: splitSt bs sl false [] (shiftG bs sl s esc).2
      else [cur.reverse ++ s]
  | [], _, _ => by simp [splitSt, sepG]
  | c :: r, esc, cur => by
      rw [splitSt, sepG, shiftG]
      split
      · simp
      · rw [splitSt_shift bs sl r _ (c :: cur)]
        split <;> simp

/-- `for tail != "" { head, tail = shiftSelector(tail); … }`: the heads -/
def partsG (bs sl : α) : Nat → List α → List (List α)
  | 0, _ => []
  | fuel + 1, tl =>
    if tl.isEmpty then [] else (shiftG bs sl tl false).1 :: partsG bs sl fuel (shiftG bs sl tl false).2

omit [DecidableEq α] in
theorem dropTrailingEmptyG_cons (x : List α) {xs : List (List α)} (h : xs ≠ []) :
    dropTrailingEmptyG (x :: xs) = x :: dropTrailingEmptyG xs := by
  cases xs with
  | nil => exact absurd rfl h
  | cons y ys => cases x <;> simp [dropTrailingEmptyG]

omit [DecidableEq α] in
theorem dropTrailingEmptyG_single {x : List α} (h : x ≠ []) : dropTrailingEmptyG [x] = [x] := by
  cases x with
  | nil => exact absurd rfl h
  | cons c cs => simp [dropTrailingEmptyG]

theorem partsG_spec (bs sl : α) : ∀ (fuel : Nat) (tl : List α), tl.length ≤ fuel →
    partsG bs sl fuel tl = dropTrailingEmptyG (splitSt bs sl false [] tl)
  | 0, tl, h => by
      have : tl = [] := List.eq_nil_of_length_eq_zero (by omega)
      subst this
      simp [partsG, splitSt, dropTrailingEmptyG]
  | fuel + 1, [], _ => by simp [partsG, splitSt, dropTrailingEmptyG]
  | fuel + 1, c :: r, h => by
      have hlt := shiftG_tail_lt bs sl c r false
      simp only [partsG, List.isEmpty_cons, Bool.false_eq_true, if_false]
      rw [partsG_spec bs sl fuel _ (by simp only [List.length_cons] at h hlt; omega),
        splitSt_shift bs sl (c :: r) false []]
      cases hsep : sepG bs sl (c :: r) false with
      | true =>
        simp only [if_true, List.reverse_nil, List.nil_append]
        rw [dropTrailingEmptyG_cons _ (splitSt_ne_nil bs sl _ _ _)]
      | false =>
        rw [shiftG_nosep bs sl _ _ hsep]
        simp only [Bool.false_eq_true, if_false, List.reverse_nil, List.nil_append]
        rw [dropTrailingEmptyG_single (by simp)]
        simp [splitSt, dropTrailingEmptyG]

theorem segments_spec (bs sl : α) (hne : bs ≠ sl) (s : List α) (fuel : Nat)
    (hf : (shiftG bs sl s false).2.length ≤ fuel) :
    (shiftG bs sl s false).1 :: partsG bs sl fuel (shiftG bs sl s false).2 =
      selectorSegments bs sl s := by
  rw [selectorSegments, escSplit_eq bs sl hne, splitSt_shift bs sl s false [],
    partsG_spec bs sl fuel _ hf]
  cases hsep : sepG bs sl s false with
  | true => simp
  | false =>
    rw [shiftG_nosep bs sl _ _ hsep]
    simp [splitSt, dropTrailingEmptyG]

omit [DecidableEq α] in
theorem joinSep_cons (sl : α) (x : List α) {xs : List (List α)} (h : xs ≠ []) :
    joinSep sl (x :: xs) = x ++ sl :: joinSep sl xs := by
  cases xs with
  | nil => exact absurd rfl h
  | cons y ys => rfl

theorem joinSep_splitSt (bs sl : α) : ∀ (s : List α) (esc : Bool) (cur : List α),
    joinSep sl (splitSt bs sl esc cur s) = cur.reverse ++ s
  | [], _, _ => by simp [splitSt, joinSep]
  | c :: r, esc, cur => by
      unfold splitSt
      split
      · rw [joinSep_cons sl _ (splitSt_ne_nil bs sl _ _ _), joinSep_splitSt bs sl r false [],
          ‹c = sl ∧ _›.1]
        rfl
      · rw [joinSep_splitSt bs sl r _ (c :: cur)]
        simp

theorem splitSt_append_nosep (bs sl : α) : ∀ (p q : List α) (esc : Bool) (cur : List α),
    sepG bs sl p esc = false →
    splitSt bs sl esc cur (p ++ q) = splitSt bs sl (stAfter bs sl esc p) (p.reverse ++ cur) q
  | [], _, _, _, _ => rfl
  | c :: r, q, esc, cur, h => by
      unfold sepG at h
      split at h
      · cases h
      · rw [List.cons_append, splitSt, if_neg ‹_›, splitSt_append_nosep bs sl r q _ _ h, stAfter_cons]
        simp

theorem sealed_iff (bs sl : α) (hne : bs ≠ sl) (p : List α) :
    sealed bs sl p = true ↔ sepG bs sl p false = false ∧ stAfter bs sl false p = false := by
  have hst : escapedAfter bs sl p.reverse = stAfter bs sl false p := by
    have := escapedAfter_append bs sl hne p []
    simpa [escapedAfter_nil] using this
  unfold sealed
  rw [hst, escSplit_eq bs sl hne, splitSt_shift bs sl p false []]
  cases hsep : sepG bs sl p false with
  | true =>
    have hne' := splitSt_ne_nil bs sl (shiftG bs sl p false).2 false []
    cases hx : splitSt bs sl false [] (shiftG bs sl p false).2 with
    | nil => exact absurd hx hne'
    | cons y ys => simp
  | false => simp

theorem splitSt_joinSep (bs sl : α) (hne : bs ≠ sl) : ∀ (ps : List (List α)), ps ≠ [] →
    (∀ p ∈ ps, sealed bs sl p = true) → splitSt bs sl false [] (joinSep sl ps) = ps
  | [], h, _ => absurd rfl h
  | [p], _, hs => by
      have := (sealed_iff bs sl hne p).mp (hs p (List.mem_singleton.mpr rfl))
      rw [joinSep, splitSt_shift bs sl p false [], this.1]
      simp
  | p :: q :: r, _, hs => by
      have hp := (sealed_iff bs sl hne p).mp (hs p (List.mem_cons_self ..))
      have ih := splitSt_joinSep bs sl hne (q :: r) (by simp)
        (fun x hx => hs x (List.mem_cons_of_mem _ hx))
      rw [joinSep_cons sl p (by simp), splitSt_append_nosep bs sl p _ false [] hp.1, hp.2, splitSt,
        if_pos ⟨rfl, rfl⟩, ih]
      simp

theorem sepG_escapeSep (bs sl : α) (hne : bs ≠ sl) : ∀ (p : List α) (esc : Bool),
    sepG bs sl (escapeSep bs sl p) esc = false
  | [], _ => rfl
  | c :: r, esc => by
      unfold escapeSep
      split
      · -- the backslash sets the flag, the separator behind it leaves it set
        rw [sepG, if_neg (fun h => hne h.1), sepG, if_neg (fun h => by simp [stNext] at h), stNext, stNext,
          if_pos rfl, if_neg (fun e => hne (e.symm.trans ‹c = sl›)), if_pos ‹c = sl›]
        exact sepG_escapeSep bs sl hne r true
      · rw [sepG, if_neg (fun h => ‹¬ c = sl› h.1)]
        exact sepG_escapeSep bs sl hne r _

theorem stAfter_escapeSep (bs sl : α) (hne : bs ≠ sl) : ∀ (p : List α) (esc : Bool), p ≠ [] →
    p.getLast? ≠ some bs → p.getLast? ≠ some sl → stAfter bs sl esc (escapeSep bs sl p) = false
  | [], _, h, _, _ => absurd rfl h
  | [c], esc, _, hb, hs => by
      have hb' : c ≠ bs := fun e => hb (by simp [e])
      have hs' : c ≠ sl := fun e => hs (by simp [e])
      simp [escapeSep, stAfter, hb', hs']
  | c :: d :: r, esc, _, hb, hs => by
      have ih := fun e => stAfter_escapeSep bs sl hne (d :: r) e (by simp)
        (by simpa [List.getLast?_cons_cons] using hb) (by simpa [List.getLast?_cons_cons] using hs)
      rw [escapeSep]
      by_cases hc : c = sl
      · rw [if_pos hc]
        simp only [stAfter]
        exact ih _
      · rw [if_neg hc]
        simp only [stAfter]
        exact ih _

theorem sealed_escapeSep (bs sl : α) (hne : bs ≠ sl) (p : List α)
    (hb : p.getLast? ≠ some bs) (hs : p.getLast? ≠ some sl) :
    sealed bs sl (escapeSep bs sl p) = true := by
  rw [sealed_iff bs sl hne]
  refine ⟨sepG_escapeSep bs sl hne p false, ?_⟩
  cases p with
  | nil => rfl
  | cons c r => exact stAfter_escapeSep bs sl hne (c :: r) false (by simp) hb hs

/-! ### the conventional reading

proved on the split that reads the text: `escSplitFrom` and `intentSplitFrom` differ only in the test at a
separator, and without `\//` the two tests agree -/

theorem hasSticky_cons (bs sl a : α) : ∀ l : List α, hasSticky bs sl l = true → hasSticky bs sl (a :: l) = true
  | [], h | [_], h | [_, _], h => by simp [hasSticky] at h
  | b :: c :: d :: r, h => by rw [hasSticky, h, Bool.or_true]

theorem hasSticky_append_left (bs sl : α) (l₂ : List α) (h : hasSticky bs sl l₂ = true) :
    ∀ l₁ : List α, hasSticky bs sl (l₁ ++ l₂) = true
  | [] => h
  | a :: l₁ => hasSticky_cons bs sl a _ (hasSticky_append_left bs sl l₂ h l₁)

theorem sticky_of_escapedAfter (bs sl : α) : ∀ (rp r : List α), escapedAfter bs sl rp = true →
    hasSticky bs sl ((sl :: rp).reverse ++ sl :: r) = true
  | [], _, h => by simp [escapedAfter] at h
  | c :: rp, r, h => by
      by_cases hc : c = sl
      · subst hc
        have h' : escapedAfter bs c rp = true := by simpa [escapedAfter] using h
        simpa using sticky_of_escapedAfter bs c rp (c :: r) h'
      · have hb : c = bs := by simpa [escapedAfter, hc] using h
        subst hb
        have : (sl :: c :: rp).reverse ++ sl :: r = rp.reverse ++ (c :: sl :: sl :: r) := by simp
        rw [this]
        exact hasSticky_append_left c sl _ (by simp [hasSticky]) _

theorem escapedAfter_eq_head (bs sl : α) (hne : bs ≠ sl) (rpre r : List α)
    (h : hasSticky bs sl (rpre.reverse ++ sl :: r) = false) :
    escapedAfter bs sl rpre = false ↔ rpre.head? ≠ some bs := by
  cases rpre with
  | nil => simp [escapedAfter]
  | cons c rp =>
    by_cases hc : c = sl
    · subst hc
      have : escapedAfter bs c rp = false := by
        cases e : escapedAfter bs c rp with
        | false => rfl
        | true => rw [sticky_of_escapedAfter bs c rp r e] at h; cases h
      have h1 : escapedAfter bs c (c :: rp) = escapedAfter bs c rp := by simp [escapedAfter]
      simp [h1, this, Ne.symm hne]
    · simp [escapedAfter, hc]

theorem escSplitFrom_intent (bs sl : α) (hne : bs ≠ sl) : ∀ (s rpre cur : List α),
    hasSticky bs sl (rpre.reverse ++ s) = false →
    escSplitFrom bs sl rpre cur s = intentSplitFrom bs sl rpre.head? cur s
  | [], _, _, _ => rfl
  | c :: r, rpre, cur, h => by
      have ih := fun cur => escSplitFrom_intent bs sl hne r (c :: rpre) cur (by simpa using h)
      rw [escSplitFrom, intentSplitFrom, ih, ih]
      by_cases hc : c = sl
      · subst hc
        simp only [true_and, escapedAfter_eq_head bs c hne rpre r h, List.head?_cons]
      · simp only [hc, false_and, if_false, List.head?_cons]

theorem escSplit_intent (bs sl : α) (hne : bs ≠ sl) (s : List α) (h : hasSticky bs sl s = false) :
    escSplit bs sl s = intentSplit bs sl s :=
  escSplitFrom_intent bs sl hne s [] [] h

end generic
end SelSpec
end Gts
