/-
  C11 — FRESHNESS of the heap programs of the location methods (Gts/Model/MemLoc.lean): whatever
  the heap and the value they are called on, they write only into arrays they allocated, and what
  they return refers only to arrays allocated by the call.  No hypothesis on the argument (it may
  be ill formed, shared, even cyclic: then the program runs out of fuel and there is no result).
-/
import Gts.Lemmas.MemLocBasic
import Gts.Lemmas.Push
namespace Gts.Mem
open Heap

/-- a location method at a fixed fuel: heap and receiver in, result and heap out (`none`: the fuel
does not cover the nesting) -/
abbrev LocMeth := LHeap → MLoc → Option (MLoc × LHeap)

/-- the method of the contiguous kinds (plain values), with the fuel its `Join` / `Order` may use -/
abbrev LeafMeth := Nat → LHeap → Loc → Option (MLoc × LHeap)

/-- what a heap-level location function guarantees about memory at level `n`: every array that
existed is unchanged, the arrays `≥ n` refer only to arrays `≥ n`, the result too -/
structure PostM (n : Nat) (h : LHeap) (r : MLoc × LHeap) : Prop where
  pre : h <+: r.2
  closed : Closed n r.2
  refs : RefsAbove n r.1

theorem PostM.parts {n : Nat} {h : LHeap} {r : MLoc × LHeap} (p : PostM n h r) :
    h <+: r.2 ∧ RefsAbove n r.1 ∧ Closed n r.2 := ⟨p.pre, p.refs, p.closed⟩

/-- what is fresh for the heap it was computed in is fresh at every level that heap is closed at -/
theorem PostM.lower {n : Nat} {h : LHeap} {r : MLoc × LHeap} (p : PostM h.length h r)
    (hn : n ≤ h.length) (hc : Closed n h) : PostM n h r :=
  ⟨p.pre, closed_extend hc p.pre p.closed hn, RefsAbove.mono hn p.refs⟩

/-- a `Push` function keeps level `n`, and never shortens the list -/
def PushFresh (n : Nat) (push : PushFn) : Prop :=
  ∀ h racc x force r, push h racc x force = some r → n ≤ h.length → Closed n h →
    (∀ c ∈ racc, RefsAbove n c) → RefsAbove n x →
    h <+: r.2 ∧ Closed n r.2 ∧ (∀ c ∈ r.1, RefsAbove n c) ∧ racc.length ≤ r.1.length

theorem joinTail_fresh (g : Grow) {n : Nat} {h : LHeap} (hn : n ≤ h.length) (hc : Closed n h)
    {l : List MLoc} (hl : ∀ c ∈ l, RefsAbove n c) : PostM n h (joinTail g h l) := by
  match l, hl with
  | [], _ => exact ⟨prefix_snoc (List.prefix_refl _) _, closed_mk hc 0 0, hn⟩
  | [a], hl => exact ⟨List.prefix_refl _, hc, hl a (List.mem_cons_self ..)⟩
  | a :: b :: l, hl =>
    have f := listSlice_frame g hc hn hl
    exact ⟨f.1, f.2.1, f.2.2⟩

theorem pushLoop_fresh {n : Nat} {push : PushFn} (hpush : PushFresh n push) {s : Slice}
    (hs : n ≤ s.arr) (force : Bool) (cnt : Nat) :
    ∀ (i : Nat) (racc : List MLoc) (h : LHeap) (r : List MLoc × LHeap),
      pushLoop push s force cnt i racc h = some r → n ≤ h.length → Closed n h →
      (∀ c ∈ racc, RefsAbove n c) →
      h <+: r.2 ∧ Closed n r.2 ∧ (∀ c ∈ r.1, RefsAbove n c) ∧ racc.length ≤ r.1.length := by
  induction cnt with
  | zero =>
    intro i racc h r he hn hc hr
    simp only [pushLoop, Option.some.injEq] at he
    subst he
    exact ⟨List.prefix_refl _, hc, hr, Nat.le_refl _⟩
  | succ cnt ih =>
    intro i racc h r he hn hc hr
    unfold pushLoop at he
    split at he
    · rename_i u hu
      obtain ⟨r1, h1, h2⟩ := Option.bind_eq_some_iff.1 he
      have p1 := hpush h racc u force r1 h1 hn hc hr (hc _ hs u (mem_of_load hu))
      have p2 := ih _ _ _ _ h2 (Nat.le_trans hn p1.1.length_le) p1.2.1 p1.2.2.1
      exact ⟨p1.1.trans p2.1, p2.2.1, p2.2.2.1, Nat.le_trans p1.2.2.2 p2.2.2.2⟩
    · cases he

theorem joinMem_fresh (g : Grow) {n : Nat} {push : PushFn} (hpush : PushFresh n push) {h : LHeap}
    {locs : Slice} (hs : n ≤ locs.arr) {r : MLoc × LHeap} (he : joinMem push g h locs = some r)
    (hn : n ≤ h.length) (hc : Closed n h) : PostM n h r := by
  unfold joinMem at he
  obtain ⟨r1, h1, h2⟩ := Option.bind_eq_some_iff.1 he
  have p1 := pushLoop_fresh hpush hs true _ _ _ _ _ h1 hn hc (fun _ hx => by cases hx)
  simp only [Option.some.injEq] at h2
  subst h2
  have p2 := joinTail_fresh g (Nat.le_trans hn p1.1.length_le) p1.2.1 (l := r1.1.reverse)
    (fun c hcm => p1.2.2.1 c (List.mem_reverse.1 hcm))
  exact ⟨p1.1.trans p2.pre, p2.closed, p2.refs⟩

theorem pushOneMem_fresh (g : Grow) {n : Nat} {low : PushFn} (hlow : PushFresh n low) :
    PushFresh n (pushOneMem low g) := by
  intro h racc x force r he hn hc hr hx
  unfold pushOneMem at he
  split at he
  · simp only [Option.some.injEq] at he
    subst he
    exact ⟨List.prefix_refl _, hc, List.forall_mem_singleton.2 hx, by simp⟩
  · rename_i v rest u
    simp only [Option.some.injEq] at he
    subst he
    refine ⟨List.prefix_refl _, hc,
      List.forall_mem_append.2 ⟨fun c h1 => ?_, (List.forall_mem_cons.1 hr).2⟩, ?_⟩
    · obtain ⟨l, _, rfl⟩ := List.mem_map.1 h1
      trivial
    · have := (Loc.pushOne_length (fun r _ _ => r) [v] u force).1
      simp only [List.length_append, List.length_map, List.length_cons, List.length_nil] at this ⊢
      omega
  · rename_i vm rest um
    obtain ⟨t, h1, h2⟩ := Option.bind_eq_some_iff.1 he
    have hvm : RefsAbove n vm := hr (.compl vm) (List.mem_cons_self ..)
    have hum : RefsAbove n um := hx
    have p1 := hlow h [um] vm force t h1 hn hc (List.forall_mem_singleton.2 hum) hvm
    have hn1 := Nat.le_trans hn p1.1.length_le
    have f := listSlice_frame g p1.2.1 hn1 (ms := t.1.reverse)
      (fun c hcm => p1.2.2.1 c (List.mem_reverse.1 hcm))
    obtain ⟨j, h3, h4⟩ := Option.bind_eq_some_iff.1 h2
    have p2 := joinMem_fresh g hlow f.2.2 h3 (Nat.le_trans hn1 f.1.length_le) f.2.1
    simp only [Option.some.injEq] at h4
    subst h4
    exact ⟨p1.1.trans (f.1.trans p2.pre), p2.closed,
      List.forall_mem_cons.2 ⟨p2.refs, (List.forall_mem_cons.1 hr).2⟩, by simp⟩
  · simp only [Option.some.injEq] at he
    subst he
    exact ⟨List.prefix_refl _, hc, List.forall_mem_cons.2 ⟨hx, hr⟩, by simp⟩

theorem pushWMem_fresh (g : Grow) {n : Nat} {low : PushFn} (hlow : PushFresh n low) :
    ∀ k, PushFresh n (pushWMem low g k) := by
  intro k
  induction k with
  | zero => intro h racc x force r he; simp [pushWMem] at he
  | succ k ih =>
    intro h racc x force r he hn hc hr hx
    cases x with
    | joined s =>
      simp only [pushWMem] at he
      exact pushLoop_fresh ih hx force _ _ _ _ _ he hn hc hr
    | leaf l | ordered s | compl m =>
      simp only [pushWMem] at he; exact pushOneMem_fresh g hlow _ _ _ _ _ he hn hc hr hx

theorem pushDMem_fresh (g : Grow) (k : Nat) {n : Nat} : ∀ d, PushFresh n (pushDMem g k d)
  | 0 => by
    intro h racc x force r he hn hc hr hx
    simp only [pushDMem, Option.some.injEq] at he
    subst he
    exact ⟨List.prefix_refl _, hc, List.forall_mem_cons.2 ⟨hx, hr⟩, by simp⟩
  | d + 1 => pushWMem_fresh g (pushDMem_fresh g k d) k

theorem joinLocs_fresh (g : Grow) (k : Nat) {n : Nat} {h : LHeap} {locs : Slice} (hs : n ≤ locs.arr)
    {r : MLoc × LHeap} (he : joinLocs g k h locs = some r) (hn : n ≤ h.length) (hc : Closed n h) :
    PostM n h r :=
  joinMem_fresh g (pushDMem_fresh g k _) hs he hn hc

theorem refs_of_fresh {n m : Nat} {h : LHeap} (hc : Closed n h) {s : Slice} (hf : Fresh m s)
    (hnm : n ≤ m) (hl : s.len ≤ s.cap) : ∀ c ∈ read h s, RefsAbove n c := by
  rcases hf with h1 | h1
  · exact refs_of_read hc (Nat.le_trans hnm h1)
  · intro c hcm
    have : s.len = 0 := by omega
    simp [Heap.read, this] at hcm

def FlatFresh (n : Nat) (rec : LHeap → Slice → Option (Slice × LHeap)) : Prop :=
  ∀ h s r, rec h s = some r → n ≤ h.length → Closed n h → n ≤ s.arr →
    h <+: r.2 ∧ Closed n r.2 ∧ Fresh h.length r.1 ∧ r.1.len ≤ r.1.cap

theorem flattenLoop_fresh (g : Grow) {n : Nat} {rec : LHeap → Slice → Option (Slice × LHeap)}
    (hrec : FlatFresh n rec) {h0 : LHeap} (hn : n ≤ h0.length) {locs : Slice} (hs : n ≤ locs.arr)
    (cnt : Nat) :
    ∀ (i : Nat) (list : Slice) (h : LHeap) (r : Slice × LHeap),
      flattenLoop rec g locs cnt i list h = some r → h0 <+: h → Closed n h →
      Fresh h0.length list → list.len ≤ list.cap →
      h0 <+: r.2 ∧ Closed n r.2 ∧ Fresh h0.length r.1 ∧ r.1.len ≤ r.1.cap := by
  induction cnt with
  | zero =>
    intro i list h r he hp hc hf hl
    simp only [flattenLoop, Option.some.injEq] at he
    subst he
    exact ⟨hp, hc, hf, hl⟩
  | succ cnt ih =>
    intro i list h r he hp hc hf hl
    have hlist := refs_of_fresh hc hf hn hl
    unfold flattenLoop at he
    split at he
    · rename_i s hu
      obtain ⟨r1, h1, h2⟩ := Option.bind_eq_some_iff.1 he
      have hsr : n ≤ s.arr := hc _ hs (.ordered s) (mem_of_load hu)
      have p1 := hrec h s r1 h1 (Nat.le_trans hn hp.length_le) hc hsr
      have hp1 := hp.trans p1.1
      have a := frame_append g hp1 hf (read r1.2 r1.1)
      have hlist1 : ∀ c ∈ read r1.2 list, RefsAbove n c := refs_of_fresh p1.2.1 hf hn hl
      have c := closed_append g p1.2.1 list hlist1
        (refs_of_fresh p1.2.1 p1.2.2.1 (Nat.le_trans hn hp.length_le) p1.2.2.2)
      exact ih _ _ _ _ h2 a.1 c a.2 (len_le_cap_append g _ _ _)
    · rename_i x _ hu
      have a := frame_append g hp hf [x]
      have c := closed_append g hc list hlist (List.forall_mem_singleton.2 (hc _ hs x (mem_of_load hu)))
      exact ih _ _ _ _ he a.1 c a.2 (len_le_cap_append g _ _ _)
    · cases he

theorem flattenMem_fresh (g : Grow) {n : Nat} : ∀ k, FlatFresh n (flattenMem g k) := by
  intro k
  induction k with
  | zero => intro h s r he; simp [flattenMem] at he
  | succ k ih =>
    intro h s r he hn hc hs
    simp only [flattenMem] at he
    exact flattenLoop_fresh g ih hn hs _ _ _ _ _ he (List.prefix_refl _) hc (Or.inr rfl)
      (Nat.le_refl _)

theorem orderLocs_fresh (g : Grow) (k : Nat) {n : Nat} {h : LHeap} {locs : Slice} (hs : n ≤ locs.arr)
    {r : MLoc × LHeap} (he : orderLocs g k h locs = some r) (hn : n ≤ h.length) (hc : Closed n h) :
    PostM n h r := by
  unfold orderLocs at he
  obtain ⟨r1, h1, h2⟩ := Option.bind_eq_some_iff.1 he
  have p1 := flattenMem_fresh g k h locs r1 h1 hn hc hs
  have harr : 0 < r1.1.len → n ≤ r1.1.arr := by
    intro hpos
    rcases p1.2.2.1 with h3 | h3
    · exact Nat.le_trans hn h3
    · have := p1.2.2.2; omega
  split at h2
  · simp only [Option.some.injEq] at h2
    subst h2
    exact ⟨prefix_snoc p1.1 _, closed_mk p1.2.1 0 0, Nat.le_trans hn p1.1.length_le⟩
  · rename_i hlen
    obtain ⟨a, h3, h4⟩ := Option.map_eq_some_iff.1 h2
    subst h4
    exact ⟨p1.1, p1.2.1, p1.2.1 _ (harr (by omega)) a (mem_of_load h3)⟩
  · rename_i h0 h1'
    simp only [Option.some.injEq] at h2
    subst h2
    refine ⟨p1.1, p1.2.1, harr ?_⟩
    cases hl : r1.1.len with
    | zero => exact absurd hl h0
    | succ m => omega

/-- a location method: nothing that existed is written, the result lies in arrays allocated by the
call — for EVERY heap and EVERY receiver -/
def MapFresh (rec : LocMeth) : Prop :=
  ∀ h m r, rec h m = some r → PostM h.length h r

theorem mapLoop2_fresh {rec : LocMeth} (hrec : MapFresh rec)
    {h0 : LHeap} (src : Slice) {dst : Slice} (hd : h0.length ≤ dst.arr) (cnt : Nat) :
    ∀ (j : Nat) (h r : LHeap), mapLoop2 rec src dst cnt j h = some r → h0 <+: h →
      Closed h0.length h → h0 <+: r ∧ Closed h0.length r := by
  induction cnt with
  | zero =>
    intro j h r he hp hc
    simp only [mapLoop2, Option.some.injEq] at he
    subst he
    exact ⟨hp, hc⟩
  | succ cnt ih =>
    intro j h r he hp hc
    unfold mapLoop2 at he
    split at he
    · rename_i u hu
      obtain ⟨r1, h1, h2⟩ := Option.bind_eq_some_iff.1 he
      have p1 := (hrec h u r1 h1).lower hp.length_le hc
      exact ih _ _ _ h2 (frame_store (hp.trans p1.pre) hd _ _) (closed_store p1.closed dst j p1.refs)
    · cases he

theorem mapLocs_fresh {rec : LocMeth} (hrec : MapFresh rec)
    {h : LHeap} {src : Slice} {r : Slice × LHeap} (he : mapLocs rec h src = some r) :
    h <+: r.2 ∧ Closed h.length r.2 ∧ r.1.arr = h.length := by
  unfold mapLocs at he
  obtain ⟨h', h1, h2⟩ := Option.map_eq_some_iff.1 he
  subst h2
  have m := frame_mk (List.prefix_refl h) src.len src.len
  have p := mapLoop2_fresh hrec src m.2 _ _ _ _ h1 m.1 (closed_mk (closed_self h) _ _)
  exact ⟨p.1, p.2, rfl⟩

/-- the element loop of a location method: `locs := make(…)` and the loop that fills it from the
receiver's slice, over the recursive call -/
abbrev ElemLoop := LocMeth → LHeap → Slice → Option (Slice × LHeap)

/-- `M` is a location method of the shape all of `Expand`, `Shift`, `Normalize`, `Reverse` have: a
contiguous kind goes through `leafM`, a `Joined` / `Ordered` through the element loop `elems` and
then `Join` / `Order`, a `Complemented` recurses; no fuel, no answer -/
structure Shape (g : Grow) (leafM : LeafMeth) (elems : ElemLoop)
    (M : Nat → LocMeth) : Prop where
  zero : ∀ h m, M 0 h m = none
  leaf : ∀ k h l, M (k + 1) h (.leaf l) = leafM k h l
  joined : ∀ k h s, M (k + 1) h (.joined s) =
    (elems (M k) h s).bind fun r => joinLocs g (k + 1) r.2 r.1
  ordered : ∀ k h s, M (k + 1) h (.ordered s) =
    (elems (M k) h s).bind fun r => orderLocs g (k + 1) r.2 r.1
  compl : ∀ k h m, M (k + 1) h (.compl m) = (M k h m).map fun r => (.compl r.1, r.2)

theorem methMem_shape (g : Grow) (leafM : LeafMeth) :
    Shape g leafM mapLocs (methMem leafM g) :=
  ⟨fun _ _ => rfl, fun _ _ _ => rfl, fun _ _ _ => rfl, fun _ _ _ => rfl, fun _ _ _ => rfl⟩

theorem Shape.fresh {g : Grow} {leafM : LeafMeth} {elems : ElemLoop}
    {M : Nat → LocMeth} (sh : Shape g leafM elems M)
    (hel : ∀ rec, MapFresh rec → ∀ h s r, elems rec h s = some r →
      h <+: r.2 ∧ Closed h.length r.2 ∧ r.1.arr = h.length)
    (hleaf : ∀ k h l r, leafM k h l = some r → PostM h.length h r) : ∀ k, MapFresh (M k) := by
  intro k
  induction k with
  | zero => intro h m r he; rw [sh.zero] at he; cases he
  | succ k ih =>
    intro h m r he
    cases m with
    | leaf l => rw [sh.leaf] at he; exact hleaf k h l r he
    | joined s =>
      rw [sh.joined] at he
      obtain ⟨r1, h1, h2⟩ := Option.bind_eq_some_iff.1 he
      have p1 := hel _ ih h s r1 h1
      have p2 := joinLocs_fresh g (k + 1) (Nat.le_of_eq p1.2.2.symm) h2 p1.1.length_le p1.2.1
      exact ⟨p1.1.trans p2.pre, p2.closed, p2.refs⟩
    | ordered s =>
      rw [sh.ordered] at he
      obtain ⟨r1, h1, h2⟩ := Option.bind_eq_some_iff.1 he
      have p1 := hel _ ih h s r1 h1
      have p2 := orderLocs_fresh g (k + 1) (Nat.le_of_eq p1.2.2.symm) h2 p1.1.length_le p1.2.1
      exact ⟨p1.1.trans p2.pre, p2.closed, p2.refs⟩
    | compl m =>
      rw [sh.compl] at he
      obtain ⟨r1, h1, h2⟩ := Option.map_eq_some_iff.1 he
      subst h2
      have p := ih h m r1 h1
      exact ⟨p.pre, p.closed, p.refs⟩

theorem methMem_fresh (g : Grow) {leafM : LeafMeth}
    (hleaf : ∀ k h l r, leafM k h l = some r → PostM h.length h r) :
    ∀ k, MapFresh (methMem leafM g k) :=
  (methMem_shape g leafM).fresh (fun _ hrec _ _ _ he => mapLocs_fresh hrec he) hleaf

theorem post_value (h : LHeap) (l : Loc) : PostM h.length h (MLoc.leaf l, h) :=
  ⟨List.prefix_refl _, closed_self h, trivial⟩

/-- `Join(left, right)` / `Order(left, right)` (`tail`) of two new values under the condition `c`, a
plain value otherwise: the argument slice of the call is new -/
theorem leafSplit_fresh {tail : LHeap → Slice → Option (MLoc × LHeap)}
    (ht : ∀ {n h locs}, n ≤ locs.arr → ∀ {r}, tail h locs = some r → n ≤ h.length → Closed n h →
      PostM n h r)
    {c : Prop} [Decidable c] {h : LHeap} {a b v : Loc} {r : MLoc × LHeap}
    (he : (if c then tail (litSlice h [.leaf a, .leaf b]).2 (litSlice h [.leaf a, .leaf b]).1
      else some (.leaf v, h)) = some r) : PostM h.length h r := by
  split at he
  · have o := litSlice_owned (List.prefix_refl h) [.leaf a, .leaf b]
    have cl := litSlice_closed (closed_self h) (xs := [.leaf a, .leaf b]) (by simp [RefsAbove])
    have p := ht (n := h.length) (Nat.le_refl _) he o.pre.length_le cl
    exact ⟨o.pre.trans p.pre, p.closed, p.refs⟩
  · cases he; exact post_value h _

theorem expandMem_fresh (g : Grow) (i n : Int) : ∀ k, MapFresh (expandMem g i n k) :=
  methMem_fresh g fun _ h l r he => by
    cases he
    exact post_value h _

theorem shiftLeaf_fresh (g : Grow) (i n : Int) (k : Nat) (h : LHeap) (l : Loc) (r : MLoc × LHeap)
    (he : shiftLeaf g i n k h l = some r) : PostM h.length h r := by
  unfold shiftLeaf at he
  split at he
  · exact leafSplit_fresh (joinLocs_fresh g k) he
  · exact leafSplit_fresh (orderLocs_fresh g k) he
  · cases he; exact post_value h _

theorem shiftMem_fresh (g : Grow) (i n : Int) : ∀ k, MapFresh (shiftMem g i n k) :=
  methMem_fresh g (shiftLeaf_fresh g i n)

theorem normalizeLeaf_fresh (g : Grow) (len : Int) (k : Nat) (h : LHeap) (l : Loc) (r : MLoc × LHeap)
    (he : normalizeLeaf g len k h l = some r) : PostM h.length h r := by
  unfold normalizeLeaf at he
  split at he
  · exact leafSplit_fresh (joinLocs_fresh g k) he
  · cases he; exact post_value h _

theorem normalizeMem_fresh (g : Grow) (len : Int) : ∀ k, MapFresh (normalizeMem g len k) :=
  methMem_fresh g (normalizeLeaf_fresh g len)

end Gts.Mem
