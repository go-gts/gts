/-
  Helper lemmas for the modifier text round trip (C08): decimal digits, `pars.Int` on a printed offset and on printed
  digits, `parseMark` (the common shape of `parseHead` / `parseTail`) on every input shape that a printed modifier
  presents.  Core Lean only.
-/
import Gts.Lemmas.ParsRuns
namespace Gts
open Pars ModParse LocParse Pars.Run

theorem digitByte_props : ∀ k : Fin 10, (digitByte k.1).toNat = 48 + k.1 ∧ isDigit (digitByte k.1) = true := by decide
theorem digitByte_toNat (k : Nat) (h : k < 10) : (digitByte k).toNat = 48 + k := (digitByte_props ⟨k, h⟩).1
theorem isDigit_digitByte (k : Nat) (h : k < 10) : isDigit (digitByte k) = true := (digitByte_props ⟨k, h⟩).2

theorem digitsVal_snoc (xs : Bytes) (d : UInt8) : digitsVal (xs ++ [d]) = digitsVal xs * 10 + (d.toNat - 48) := by
  simp [digitsVal, List.foldl_append]

theorem natDigitsF_spec (f n : Nat) (h : n < f) :
    digitsVal (natDigitsF f n) = n ∧ (natDigitsF f n).all isDigit = true ∧
      (∃ d ds, natDigitsF f n = d :: ds ∧ (0 < n → d ≠ 48)) := by
  induction f generalizing n with
  | zero => omega
  | succ f ih =>
    unfold natDigitsF
    by_cases hn : n < 10
    · simp only [hn, ↓reduceIte]
      refine ⟨?_, ?_, _, _, rfl, ?_⟩
      · simp [digitsVal, digitByte_toNat n hn]
      · simp [isDigit_digitByte n hn]
      · intro h0 hc
        have := digitByte_toNat n hn
        rw [hc] at this
        simp at this; omega
    · simp only [hn, ↓reduceIte]
      obtain ⟨h1, h2, d, ds, h3, h4⟩ := ih (n / 10) (by omega)
      refine ⟨?_, ?_, d, ds ++ [digitByte (n % 10)], ?_, ?_⟩
      · rw [digitsVal_snoc, h1, digitByte_toNat _ (by omega)]; omega
      · simp [h2, isDigit_digitByte (n % 10) (by omega)]
      · rw [h3]; rfl
      · intro _; exact h4 (by omega)

theorem trail_spec (pre r : Bytes) (stk : List Bytes) :
    trail ⟨r, (pre ++ r) :: stk⟩ = (.ok pre, ⟨r, stk⟩) := by
  have h1 : ¬ (pre ++ r).length < r.length := by simp
  have h2 : (pre ++ r).length - r.length = pre.length := by simp
  simp [trail, P.bind_run, getS]
  rw [if_neg (by omega)]
  simp [P.map_run, setS]

theorem dropWhile_append_all (p : UInt8 → Bool) (ds r : Bytes) (h : ds.all p = true) :
    (ds ++ r).dropWhile p = r.dropWhile p :=
  List.dropWhile_append_of_pos (List.all_eq_true.1 h)

theorem isDigit_ne (d c : UInt8) (h : isDigit d = true) (hc : isDigit c = false) : d ≠ c := by
  intro e; subst e; rw [h] at hc; cases hc

/-- `pars.Int` on an optional sign, a digit other than `0` and more digits, in front of a non-digit: `atoi` of what it passed -/
theorem int_digits (sg : Bytes) (d : UInt8) (ds r : Bytes) (stk : List Bytes) (hs : sg = [] ∨ sg = [45] ∨ sg = [43])
    (hd : isDigit d = true) (hd0 : d ≠ 48) (hds : ds.all isDigit = true) (hr : r.dropWhile isDigit = r) :
    int ⟨sg ++ d :: (ds ++ r), stk⟩ =
      (match atoi (sg ++ d :: ds) with | some n => .ok n | none => .error .fail, ⟨r, stk⟩) := by
  have hdw : (d :: (ds ++ r)).dropWhile isDigit = r := by
    rw [List.dropWhile_cons, if_pos hd, dropWhile_append_all _ _ _ hds, hr]
  have htr := trail_spec (sg ++ d :: ds) r stk
  have hsg : (d == 45 || d == 43) = false := by
    simp [isDigit_ne d 45 hd (by decide), isDigit_ne d 43 hd (by decide)]
  have hd0' : (d == 48) = false := by simpa using hd0
  rcases hs with rfl | rfl | rfl
  all_goals
    simp only [List.nil_append, List.cons_append] at htr ⊢
    simp only [int, P.bind_run, push, getS, setS, next, P.pure_run, hsg, ↓reduceIte, advance1, List.drop_succ_cons,
      List.drop_zero, hd, Bool.not_true, hd0', skipWhile, hdw, htr, Bool.false_eq_true, beq_self_eq_true, Bool.true_or,
      Bool.or_true]
    cases atoi _ <;> rfl

/-- the offsets a Go `int` can hold -/
def fits64 (n : Int) : Prop := -9223372036854775808 ≤ n ∧ n ≤ 9223372036854775807

theorem natDigits_spec (k : Nat) :
    digitsVal (natDigits k) = k ∧ (natDigits k).all isDigit = true ∧
      (∃ d ds, natDigits k = d :: ds ∧ (0 < k → d ≠ 48)) := natDigitsF_spec (k + 1) k (by omega)

theorem atoi_signed (sgn : UInt8) (ds : Bytes) (hs : sgn = 45 ∨ sgn = 43) (hne : ds ≠ [])
    (hds : ds.all isDigit = true) :
    atoi (sgn :: ds) =
      (let v : Int := if sgn = 45 then -(digitsVal ds : Int) else digitsVal ds
       if v < -9223372036854775808 ∨ 9223372036854775807 < v then none else some v) := by
  have he : ds.isEmpty = false := by cases ds <;> simp_all
  rcases hs with rfl | rfl <;> simp [atoi, he, hds]

theorem int_fmtPlus (n : Int) (r : Bytes) (stk : List Bytes) (hn : n ≠ 0) (hf : fits64 n)
    (hr : r.dropWhile isDigit = r) : int ⟨fmtPlus n ++ r, stk⟩ = (.ok n, ⟨r, stk⟩) := by
  obtain ⟨h1, h2, d, ds, h3, h4⟩ := natDigits_spec n.natAbs
  have hs : (if n < 0 then (45 : UInt8) else 43) = 45 ∨ (if n < 0 then (45 : UInt8) else 43) = 43 := by
    split <;> simp
  have hd : isDigit d = true ∧ ds.all isDigit = true := by
    rw [h3] at h2; simpa using h2
  unfold fmtPlus
  rw [h3]
  refine (int_digits [_] d ds r stk (by rcases hs with h | h <;> simp [h]) hd.1 (h4 (by omega)) hd.2 hr).trans ?_
  rw [List.cons_append, List.nil_append, ← h3, atoi_signed _ _ hs (by rw [h3]; simp) h2, h1]
  unfold fits64 at hf
  clear h1 h2 h4 hd hs h3
  obtain ⟨hf1, hf2⟩ := hf
  have h43 : ¬ ((43 : UInt8) = 45) := by decide
  by_cases hneg : n < 0
  · have habs : (n.natAbs : Int) = -n := Int.ofNat_natAbs_of_nonpos (by omega)
    simp only [hneg, ↓reduceIte, habs]
    clear habs
    rw [if_neg (by omega), Int.neg_neg]
  · have habs : (n.natAbs : Int) = n := Int.natAbs_of_nonneg (by omega)
    simp only [hneg, ↓reduceIte, habs, h43]
    clear habs
    rw [if_neg (by omega)]

theorem int_nil (stk : List Bytes) : int ⟨[], stk⟩ = (.error .fail, ⟨[], [] :: stk⟩) := by
  simp [int, P.bind_run, push, getS, setS, next, fail]

theorem int_dot (r : Bytes) (stk : List Bytes) : int ⟨46 :: r, stk⟩ = (.error .fail, ⟨46 :: r, stk⟩) := by
  simp [int, P.bind_run, push, pop, getS, setS, next, fail, P.pure_run, isDigit]

theorem natDigits_cons (n : Nat) : ∃ d ds, natDigits n = d :: ds ∧ isDigit d = true := by
  obtain ⟨_, h2, d, ds, h3, _⟩ := natDigits_spec n
  refine ⟨d, ds, h3, ?_⟩
  rw [h3] at h2; simp at h2; exact h2.1

theorem isSpace_of_isDigit (c : UInt8) (h : isDigit c = true) : isSpace c = false := by
  cases hs : isSpace c with
  | false => rfl
  | true =>
    simp only [isSpace, Bool.or_eq_true, beq_iff_eq] at hs
    rcases hs with ((((rfl | rfl) | rfl) | rfl) | rfl) | rfl <;> revert h <;> decide

theorem int_zero (r : Bytes) (stk : List Bytes) : int ⟨48 :: r, stk⟩ = (.ok 0, ⟨r, stk⟩) := by
  simp [int, P.bind_run, P.map_run, push, Pars.drop, getS, setS, next, advance1, P.pure_run, isDigit]

theorem atoi_digits (ds : Bytes) (hne : ds ≠ []) (hd : ds.all isDigit = true)
    (hv : digitsVal ds ≤ 9223372036854775807) : atoi ds = some (digitsVal ds : Int) := by
  cases ds with
  | nil => exact absurd rfl hne
  | cons d r =>
    have hdd : isDigit d = true := by
      simp only [List.all_cons, Bool.and_eq_true] at hd; exact hd.1
    have h45 : d ≠ 45 := by intro e; subst e; revert hdd; decide
    have h43 : d ≠ 43 := by intro e; subst e; revert hdd; decide
    unfold atoi
    split
    rename_i neg ds heq
    split at heq
    · rename_i heq'; injection heq' with h1; exact absurd h1 h45
    · rename_i heq'; injection heq' with h1; exact absurd h1 h43
    · injection heq with hn hds
      subst hn; subst hds
      simp only [List.isEmpty_cons, Bool.false_or, hd, Bool.not_true, Bool.false_eq_true, if_false]
      have : ¬ (((digitsVal (d :: r) : Nat) : Int) < -9223372036854775808 ∨
          9223372036854775807 < ((digitsVal (d :: r) : Nat) : Int)) := by omega
      simp only [this, if_false]

/-- `pars.Int` reads back a printed natural number (zero included), whatever non-digit follows -/
theorem int_natDigits (n : Nat) (r : Bytes) (stk : List Bytes) (hr : r.dropWhile isDigit = r)
    (hf : n ≤ 9223372036854775807) : int ⟨natDigits n ++ r, stk⟩ = (.ok (n : Int), ⟨r, stk⟩) := by
  cases n with
  | zero => exact int_zero r stk
  | succ k =>
    obtain ⟨h1, h2, d, ds, h3, h4⟩ := natDigits_spec (k + 1)
    rw [h3] at h1 h2 ⊢
    have hd : isDigit d = true ∧ ds.all isDigit = true := by simpa using h2
    have hi := int_digits [] d ds r stk (.inl rfl) hd.1 (h4 (by omega)) hd.2 hr
    rwa [List.nil_append, List.nil_append, atoi_digits (d :: ds) (List.cons_ne_nil _ _) h2 (by omega), h1] at hi

theorem parseMark_int (c : UInt8) (n : Int) (r : Bytes) (hn : n ≠ 0) (hf : fits64 n) (hr : r.dropWhile isDigit = r) :
    Reads (parseMark c) (c :: (fmtPlus n ++ r)) n r := fun stk => by
  simp [parseMark, mapP, anyOf, anyOf.go, seq2, byte, int_fmtPlus n r _ hn hf hr]

theorem parseMark_int_end (c : UInt8) (n : Int) (hn : n ≠ 0) (hf : fits64 n) : Reads (parseMark c) (c :: fmtPlus n) n [] := by
  simpa using parseMark_int c n [] hn hf rfl

/-- at the end of the text `pars.Int` leaves its frame behind -/
theorem parseMark_end (c : UInt8) (stk : List Bytes) :
    parseMark c ⟨[c], stk⟩ = (.ok 0, ⟨[], [c] :: stk⟩) := by
  simp [parseMark, mapP, anyOf, anyOf.go, seq2, byte, int_nil]

theorem parseMark_dot (c : UInt8) (r : Bytes) : Reads (parseMark c) (c :: 46 :: r) 0 (46 :: r) := fun stk => by
  simp [parseMark, mapP, anyOf, anyOf.go, seq2, byte, int_dot]

theorem byte_rejects (c : UInt8) {s : Bytes} (h : s.head? ≠ some c) : Rejects (byte c) s := fun stk => by
  cases s with
  | nil => simp [byte]
  | cons d r => simp [byte, show d ≠ c by simpa using h]

/-- both alternatives of the marker start with `pars.Byte(c)` -/
theorem parseMark_rejects (c : UInt8) {s : Bytes} (h : s.head? ≠ some c) : Rejects (parseMark c) s :=
  .mapP (.anyOf_skip (.mapP (.seq2 (byte_rejects c h) _) _) <| .anyOf_skip ((byte_rejects c h).bind _) (anyOf_nil s)) id
end Gts
