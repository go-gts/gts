/-
  `Location.Normalize(length)` after `Expand(0, n)` (= `gts.Rotate` on a location): positions are
  reduced modulo `L`.  Core Lean only.
-/
import Gts.Lemmas.Guest
import Gts.Lemmas.Delete
namespace Gts

namespace Loc

theorem tmod_nonneg_eq (a L : Int) (h : 0 ≤ a) : Int.tmod a L = a % L := Int.tmod_eq_emod_of_nonneg h

/-- going `k` steps on from `s` without reaching the next multiple of `L` -/
theorem emod_add_of_lt (s k L : Int) (hL : 0 < L) (hk : 0 ≤ k) (h : s % L + k < L) : (s + k) % L = s % L + k := by
  have := Int.emod_nonneg s (Int.ne_of_gt hL)
  rw [← Int.emod_add_emod, Int.emod_eq_of_lt (by omega) h]

/-- … and past it, not as far as the one after -/
theorem emod_add_of_ge (s k L : Int) (h1 : L ≤ s % L + k) (h2 : s % L + k < L + L) :
    (s + k) % L = s % L + k - L := by
  rw [← Int.emod_add_emod, mod_window L L _ 1 (Int.one_mul L) h1 (by omega)]

/-- `[s, s + n)` reduced modulo `L` when it ends at or before the next multiple of `L` -/
theorem map_mod_irange (s L : Int) (n : Nat) (hL : 0 < L) (h : s % L + n ≤ L) :
    (irange s n).map (· % L) = irange (s % L) n := by
  have := irange_map_of_eq s (s % L - s) n (· % L) (fun x hx1 hx2 => by
    show x % L = x + (s % L - s)
    have := emod_add_of_lt s (x - s) L hL (by omega) (by omega)
    rw [show s + (x - s) = x by omega] at this
    omega)
  rw [this]; congr 1; omega

/-- `Ranged.Normalize(L)` on a range with `0 ≤ s < e`, by cases: a range as long as the sequence is re-based to
`[0, L)`; otherwise the ends are reduced modulo `L`, and the range is cut at the origin when that inverts them -/
theorem rangedNormalize_cases (s e : Int) (a b : Bool) (L : Int) (hL : 0 < L) (hs : 0 ≤ s) (h : s < e) :
    rangedNormalize s e a b L =
      if e - s = L then ranged 0 L a b
      else if s % L < (e - 1) % L + 1 then ranged (s % L) ((e - 1) % L + 1) a b
      else joined [ranged (s % L) L a false, ranged 0 ((e - 1) % L + 1) false b] := by
  unfold rangedNormalize
  split
  · by_cases h0 : s = 0
    · subst h0; simp [rangedExpand]; omega
    · rw [rangedExpand_del_above s e a b 0 s (by omega) h (by omega)]
      congr 1 <;> omega
  · have := Int.emod_nonneg (e - 1) (Int.ne_of_gt hL)
    simp only [tmod_nonneg_eq s L hs, tmod_nonneg_eq (e - 1) L (by omega)]
    split
    · rfl
    · exact join_two_ranged_ne _ _ _ _ _ _ _ _ (by omega)

theorem den_rangedNormalize (s e : Int) (p5 p3 : Bool) (L : Int) (hs : 0 ≤ s) (h : s < e) (hlen : e - s < L) :
    den (rangedNormalize s e p5 p3 L) = mapPos (· % L) (den (ranged s e p5 p3)) ∧
    wf (rangedNormalize s e p5 p3 L) = true := by
  have hL : 0 < L := by omega
  have hr0 := Int.emod_nonneg s (Int.ne_of_gt hL)
  have hr1 := Int.emod_lt_of_pos s hL
  rw [rangedNormalize_cases s e p5 p3 L hL hs h, if_neg (by omega), den_ranged, mapPos_fwd,
    show e - 1 = s + (e - 1 - s) by omega]
  by_cases hw : s % L + (e - s) ≤ L
  · rw [emod_add_of_lt s _ L hL (by omega) (by omega), if_pos (by omega), den_ranged,
      map_mod_irange s L _ hL (by omega)]
    refine ⟨?_, by simp only [wf, decide_eq_true_eq]; omega⟩
    congr 2; omega
  · -- the range wraps once: cut it at the next multiple of `L`, `s + (L - s % L)`
    have hm : (s + (L - s % L)) % L = 0 := by
      rw [emod_add_of_ge s _ L (by omega) (by omega)]; omega
    rw [emod_add_of_ge s _ L (by omega) (by omega), if_neg (by omega),
      den_joined, denList_cons, denList_cons, denList_nil,
      den_ranged, den_ranged, List.append_nil, ← fwd_append,
      irange_split s (s + (L - s % L)) e (by omega) (by omega), List.map_append,
      map_mod_irange s L _ hL (by omega), map_mod_irange (s + (L - s % L)) L _ hL (by omega), hm]
    refine ⟨?_, by simp only [wf, wfList_cons, wfList_nil, Bool.and_true, Bool.and_eq_true, decide_eq_true_eq]; omega⟩
    congr 3 <;> omega

theorem den_ambiguousNormalize (s e L : Int) (hs : 0 ≤ s) (h : s < e) (hlen : e - s < L)
    (hnw : s % L + (e - s) ≤ L) :
    den (ambiguous (Int.tmod s L) (Int.tmod (e - 1) L + 1)) = mapPos (· % L) (den (ambiguous s e)) ∧
    wf (ambiguous (Int.tmod s L) (Int.tmod (e - 1) L + 1)) = true := by
  have hL : 0 < L := by omega
  rw [tmod_nonneg_eq s L hs, tmod_nonneg_eq (e - 1) L (by omega), den_ambiguous, den_ambiguous, mapPos_fwd,
    show e - 1 = s + (e - 1 - s) by omega, emod_add_of_lt s _ L hL (by omega) (by omega),
    map_mod_irange s L _ hL (by omega)]
  refine ⟨?_, by simp only [wf, decide_eq_true_eq]; omega⟩
  congr 2; omega

mutual
/-- the domain of the Normalize law: non-negative coordinates, every range/ambiguous span
shorter than `L` (a full-length part is re-based instead, see `C04.full_length`), ambiguous
spans not crossing the origin (as the property states) -/
def normOk (L : Int) : Loc → Bool
  | between p => decide (0 ≤ p)
  | point p => decide (0 ≤ p)
  | ranged s e _ _ => decide (0 ≤ s) && decide (e - s < L)
  | ambiguous s e => decide (0 ≤ s) && decide (e - s < L) && decide (s % L + (e - s) ≤ L)
  | joined ls => normOkList L ls
  | ordered ls => normOkList L ls
  | compl l => normOk L l
def normOkList (L : Int) : List Loc → Bool
  | [] => true
  | l :: ls => normOk L l && normOkList L ls
end

mutual
theorem normOk_eq_allLeaves (L : Int) : ∀ l : Loc, normOk L l = allLeaves (normOk L) l
  | between _ | point _ | ranged .. | ambiguous .. => by simp only [allLeaves]
  | joined ls | ordered ls => by simpa [normOk] using normOkList_eq_allLeaves L ls
  | compl l => by simpa [normOk] using normOk_eq_allLeaves L l
theorem normOkList_eq_allLeaves (L : Int) : ∀ ls : List Loc, normOkList L ls = allLeavesList (normOk L) ls
  | [] => by simp [normOkList]
  | l :: ls => by simp [normOkList, ← normOk_eq_allLeaves L l, ← normOkList_eq_allLeaves L ls]
end

theorem normalize_leafSpec (L : Int) :
    LeafSpec (normalize · L) (fun u => mapPos (· % L) (den u)) (normOk L) := fun u hu hw hn =>
  match u, hu, hw, hn with
  | between _, _, _, _ => ⟨rfl, rfl⟩
  | point p, _, _, hn => ⟨congrArg (fun x => [(x, false)]) (tmod_nonneg_eq p L (of_decide_eq_true hn)), rfl⟩
  | ranged s e a b, _, hw, hn =>
      have ⟨h1, h2⟩ := Bool.and_eq_true_iff.mp hn
      den_rangedNormalize s e a b L (of_decide_eq_true h1) (of_decide_eq_true hw) (of_decide_eq_true h2)
  | ambiguous s e, _, hw, hn =>
      have ⟨h12, h3⟩ := Bool.and_eq_true_iff.mp hn
      have ⟨h1, h2⟩ := Bool.and_eq_true_iff.mp h12
      den_ambiguousNormalize s e L (of_decide_eq_true h1) (of_decide_eq_true hw) (of_decide_eq_true h2)
        (of_decide_eq_true h3)

theorem normalize_mod (l : Loc) (L : Int) (_ : 0 < L) (hw : wf l = true) (hn : normOk L l = true) :
    (normalizeAbs l L = false → den (normalize l L) ≼ mapPos (· % L) (den l)) ∧
    wf (normalize l L) = true := by
  rw [(normalize_eq_tmap L l).1, (normalize_eq_tmap L l).2.1, ← dfold_hom (DenHom.mapPos _)]
  exact tmap_spec (normalize_leafSpec L) l hw (normOk_eq_allLeaves L l ▸ hn)

end Loc
end Gts
