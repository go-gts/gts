/-
  The loop of `quotedQualifierParser` that takes the continuation indent out of a quoted value:
  the ONE-PASS loop of today (`stripCont`, since 2612fae) against the loop it replaced
  (`stripContOld`: search from the start of the token, delete, search again — K7E, quadratic time).

  * `stripCont_onepass_eq`: for every token and every NON-EMPTY prefix the two give the same value
    (at every fuel of the old loop of at least `len(token)`).  The invariant: what the new loop has
    moved so far, `token[:w]`, holds no occurrence of `"\n" ++ prefix`; so the moment `token[:w]` ends
    with one, that occurrence is the FIRST one of the old loop's token `token[:w] ++ token[r:]`, and
    cutting the prefix off leaves a proper prefix of the earlier `token[:w]` — again without an
    occurrence (this is why no second test is needed after a cut, and why the old loop's habit of
    stripping a line that is indented twice, twice, is kept: the line feed that stays in `token[:w]`
    completes the next occurrence).
  * `stripCont_nil`: with the EMPTY prefix the new loop returns the token unchanged (the old loop did
    not end in Go when the token held a line feed).
  * `oldRound_cut`: one round of the old loop on a token whose first occurrence is known — its value
    (`stripContOld_step`) and its counted steps (`Gts.Cost.stripContCostOld_step`) are read off it.
  * `not_infix_of_findSub_none`: what `findSub` (`bytes.Index`) does not find does not occur (the other facts about
    `findSub` are in Gts/Lemmas/ByteSearch.lean).
-/
import Gts.Lemmas.ByteSearch
namespace Gts.GenBank
open Gts.Pars

/-- a pattern that is not found does not occur (the converse of `findSub_none_of_not_infix`) -/
theorem not_infix_of_findSub_none (pat : Bytes) : ∀ (t : Bytes) (n : Nat), findSub pat t n = none →
    ¬ pat <:+: t
  | [], n, h, hi => by
    have : pat = [] := List.eq_nil_of_infix_nil hi
    subst this
    simp [findSub] at h
  | c :: t, n, h, hi => by
    rw [findSub] at h
    split at h
    · cases h
    · rename_i hp
      rcases List.infix_cons_iff.mp hi with hpre | hin
      · exact hp (List.isPrefixOf_iff_prefix.mpr hpre)
      · exact not_infix_of_findSub_none pat t (n + 1) h hin

theorem stripLoop_zero (rp : Bytes) : ∀ (t acc : Bytes), stripLoop rp 0 acc t = acc.reverse ++ t
  | [], acc => by simp [stripLoop]
  | c :: t, acc => by
    rw [stripLoop]
    simp only [List.drop_zero, ite_self]
    rw [stripLoop_zero rp t (c :: acc)]
    simp

/-- WITH THE EMPTY PREFIX the loop of today ends (it is a counted loop) and returns the token as it
is: `token[:w]` ends with `"\n"` now and then, and `w -= 0` cuts nothing off.  (The loop it replaced
did not end on such a token: `stripContOld_empty_prefix_steps`.) -/
theorem stripCont_nil (t : Bytes) : stripCont [] t = t := by
  simp [stripCont, stripLoop_zero]

theorem stripContOld_done (pre : Bytes) (f : Nat) (t : Bytes) (h : ¬ (10 :: pre) <:+: t) :
    stripContOld pre f t = t := by
  cases f with
  | zero => rfl
  | succ f => rw [stripContOld, findSub_none_of_not_infix _ t 0 h]

/-- one round of the old loop on a token whose first occurrence of the pattern stands behind `a`:
where `bytes.Index` finds it, and the token after the cut (the prefix goes, the line feed stays) -/
theorem oldRound_cut (pre a t : Bytes)
    (hno : ∀ i, i < a.length → (10 :: pre).isPrefixOf (a.drop i ++ ((10 :: pre) ++ t)) = false) :
    findSub (10 :: pre) (a ++ ((10 :: pre) ++ t)) 0 = some a.length ∧
    (a ++ ((10 :: pre) ++ t)).take (a.length + 1) ++ (a ++ ((10 :: pre) ++ t)).drop (a.length + 1 + pre.length) =
      a ++ 10 :: t := by
  have t1 : (a ++ ((10 :: pre) ++ t)).take (a.length + 1) = a ++ [10] := by
    rw [List.take_append, List.take_of_length_le (by omega), show a.length + 1 - a.length = 1 by omega]
    rfl
  have t2 : (a ++ ((10 :: pre) ++ t)).drop (a.length + 1 + pre.length) = t := by
    rw [List.drop_append, List.drop_eq_nil_of_le (by omega),
      show a.length + 1 + pre.length - a.length = (10 :: pre).length by simp only [List.length_cons]; omega,
      List.drop_left, List.nil_append]
  rw [findSub_skip _ _ _ _ hno, findSub_here _ _ _ (by simp), t1, t2, Nat.zero_add, List.append_assoc]
  exact ⟨rfl, rfl⟩

theorem stripContOld_step (pre a t : Bytes) (f : Nat)
    (hno : ∀ i, i < a.length → (10 :: pre).isPrefixOf (a.drop i ++ ((10 :: pre) ++ t)) = false) :
    stripContOld pre (f + 1) (a ++ ((10 :: pre) ++ t)) = stripContOld pre f (a ++ 10 :: t) := by
  obtain ⟨h1, h2⟩ := oldRound_cut pre a t hno
  rw [stripContOld, h1]
  exact congrArg _ h2

/-- THE INVARIANT.  `acc` (= `token[:w]` reversed) holds no occurrence of the pattern; then the rest
of the one-pass loop computes what the old loop computes from `token[:w] ++ token[r:]`, at every
fuel of at least that length. -/
theorem stripLoop_old (pre : Bytes) (hpre : pre ≠ []) : ∀ (t acc : Bytes) (f : Nat),
    ¬ (10 :: pre).reverse <:+: acc → acc.length + t.length ≤ f →
    stripLoop (10 :: pre).reverse pre.length acc t = stripContOld pre f (acc.reverse ++ t)
  | [], acc, f, hacc, _ => by
    rw [stripLoop, List.append_nil, stripContOld_done]
    intro hi
    exact hacc (by simpa using List.reverse_infix.mpr hi)
  | c :: t, acc, f, hacc, hf => by
    rw [stripLoop]
    by_cases hp : (10 :: pre).reverse.isPrefixOf (c :: acc) = true
    · -- `token[:w]` ends with the pattern: the first occurrence of the old loop's token
      rw [if_pos hp]
      obtain ⟨y, hy⟩ := List.isPrefixOf_iff_prefix.mp hp
      have hlen : acc.length = pre.length + y.length := by
        have := congrArg List.length hy
        simp only [List.length_append, List.length_reverse, List.length_cons] at this
        omega
      have hpos : 0 < pre.length := List.length_pos_iff.2 hpre
      have hrev : acc.reverse ++ [c] = y.reverse ++ (10 :: pre) := by
        rw [← List.reverse_cons, ← hy, List.reverse_append, List.reverse_reverse]
      -- the old loop's token
      have htok : acc.reverse ++ c :: t = y.reverse ++ ((10 :: pre) ++ t) := by
        rw [← List.append_assoc y.reverse, ← hrev, List.append_assoc]; rfl
      -- an occurrence that begins inside `y.reverse` would end inside `token[:w]` as it was
      have hno : ∀ i, i < y.reverse.length →
          (10 :: pre).isPrefixOf (y.reverse.drop i ++ ((10 :: pre) ++ t)) = false := by
        intro i hi
        rw [List.length_reverse] at hi
        refine Bool.eq_false_iff.mpr fun hq => hacc (List.reverse_reverse acc ▸ List.reverse_infix.mpr ?_)
        have hX : y.reverse.drop i ++ ((10 :: pre) ++ t) = acc.reverse.drop i ++ c :: t := by
          rw [← List.drop_append_of_le_length (by rw [List.length_reverse]; omega), ← htok,
            List.drop_append_of_le_length (by rw [List.length_reverse]; omega)]
        have h1 : (10 :: pre) <+: acc.reverse.drop i :=
          List.prefix_of_prefix_length_le (hX ▸ List.isPrefixOf_iff_prefix.mp hq) (List.prefix_append _ _)
            (by rw [List.length_drop, List.length_reverse, List.length_cons]; omega)
        exact h1.isInfix.trans (List.drop_suffix i _).isInfix
      -- `token[:w]` after the cut is a proper prefix of `token[:w]` before the byte was moved
      have hsuf : 10 :: y <:+ acc :=
        (List.suffix_cons_iff.1 ⟨pre.reverse, by rw [← hy]; simp⟩).resolve_left fun h => by
          have := congrArg List.length h
          simp only [List.length_cons] at this; omega
      obtain ⟨f', rfl⟩ : ∃ f', f = f' + 1 := ⟨f - 1, by simp only [List.length_cons] at hf; omega⟩
      rw [show (c :: acc).drop pre.length = 10 :: y by
          rw [← hy, List.reverse_cons, List.append_assoc, List.drop_left' (List.length_reverse ..)]; rfl,
        htok, stripContOld_step pre _ t f' hno, show y.reverse ++ 10 :: t = (10 :: y).reverse ++ t by simp]
      exact stripLoop_old pre hpre t (10 :: y) f' (fun hi => hacc (hi.trans hsuf.isInfix))
        (by simp only [List.length_cons] at hf ⊢; omega)
    · -- `token[:w]` does not end with the pattern: still no occurrence in it
      rw [if_neg hp]
      have e : acc.reverse ++ c :: t = (c :: acc).reverse ++ t := by simp
      rw [e]
      refine stripLoop_old pre hpre t (c :: acc) f ?_ ?_
      · intro hi
        rcases List.infix_cons_iff.mp hi with h1 | h1
        · exact hp (List.isPrefixOf_iff_prefix.mpr h1)
        · exact hacc h1
      · simp only [List.length_cons] at hf ⊢
        omega

/-- **ONE PASS GIVES THE SAME VALUE.**  For every token and every NON-EMPTY continuation prefix the
one-pass loop of `quotedQualifierParser` (2612fae) returns what the loop it replaced returned — the
old loop run with any fuel of at least `len(token)`, that is: to its end (`stripContOld_exits`). -/
theorem stripCont_onepass_eq (pre : Bytes) (hpre : pre ≠ []) (t : Bytes) (f : Nat)
    (hf : t.length ≤ f) : stripCont pre t = stripContOld pre f t := by
  have := stripLoop_old pre hpre t [] f (by
    intro hi
    have := List.eq_nil_of_infix_nil hi
    simp at this) (by simpa using hf)
  simpa [stripCont] using this

end Gts.GenBank
