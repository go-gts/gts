/-
  C01 helper lemmas: KEYWORDS, SOURCE / ORGANISM / taxonomy — the fields laid out with
  `wrap.Space(…, 67)`.  The domain predicates say directly what has to survive (`rejoin` of the
  wrapped text, `FlatFileSplit` of the joined list); they are decidable.  A one-line text is not
  enough: the list `[""]` is written `.` and `FlatFileSplit` reads the empty list.
-/
import Gts.Lemmas.GbFields
namespace Gts.GenBank
open Gts.Pars

/-- what `genbankFieldBodyParser(depth, ' ')` makes of a wrapped text: its lines joined by one
blank -/
def rejoin (w : Bytes) : Bytes := headLine w ++ sepText 32 (tailLines w)

/-- `FlatFileSplit(strings.Join(xs, "; ") + ".")` gives the list back, and the joined text has no
carriage return and survives wrapping and re-joining -/
def listOk (xs : List Bytes) : Bool :=
  let t := joinWith (bs "; ") xs ++ [46]
  noCR t && rejoin (wrapSpace t) == t && flatFileSplit t == xs

/-- the bytes of `w` are the bytes of its lines and line feeds; those of `rejoin w` the same and blanks -/
theorem noCR_of_rejoin (w t : Bytes) (h : rejoin w = t) (ht : noCR t = true) : noCR w = true := by
  rw [← h, rejoin, noCR_append, noCR_sepText 32 (by decide)] at ht
  rw [lines_join w, noCR_append, noCR_sepText 10 (by decide)]
  exact ht

theorem fieldBody_rejoin (e : Eol) (d : Nat) (w rest : Bytes) (stk : List Bytes) (hw : noCR w = true)
    (hrest : (sp d).isPrefixOf rest = false) :
    fieldBody d 32 ⟨tr e (addPrefix (sp d) w) ++ (e.bytes ++ rest), stk⟩ =
      (.ok (rejoin w, (tailLines w).length), ⟨rest, stk⟩) := by
  obtain ⟨h0, hls⟩ := lines_noEOL w hw
  rw [addPrefix_lines e _ _ _ (noLF_sp d), fieldBody_ok e d 32 _ _ rest stk h0 hls hrest]
  rfl

theorem keywords_roundtripE (e : Eol) (f : Fields) (kws : List Bytes) (rest : Bytes) (stk : List Bytes)
    (h : listOk kws = true) (hrest : (sp 12).isPrefixOf rest = false) :
    keywordsField 12 f
        ⟨bs "KEYWORDS    " ++ (tr e (addPrefix indent (wrapSpace (joinWith (bs "; ") kws ++ [46]))) ++
          (e.bytes ++ rest)), stk⟩ =
      (.ok ({ f with keywords := kws }, true), ⟨rest, stk⟩) := by
  simp only [listOk, Bool.and_eq_true, beq_iff_eq] at h
  obtain ⟨⟨h1, h2⟩, h3⟩ := h
  have hw : noCR (wrapSpace (joinWith (bs "; ") kws ++ [46])) = true := noCR_of_rejoin _ _ h2 h1
  rw [field_label (bs "KEYWORDS    ") (bs "KEYWORDS") 12 (by decide +kernel)]
  have hn := fun r s => fieldName_ok (bs "KEYWORDS") 12 r s (by decide +kernel)
  have hb := fun s => fieldBody_rejoin e 12 _ rest s hw hrest
  gsimp [keywordsField, indent, hn, hb, h2, h3]

/-- what the taxonomy loop makes of the lines: joined by one blank, no blank in front of the first
non-empty line -/
def taxJoin (acc : Bytes) (ls : List Bytes) : Bytes :=
  ls.foldl (fun a l => if a.isEmpty then l else a ++ 32 :: l) acc

theorem taxonMore_lines (e : Eol) (d : Nat) (ls : List Bytes) (rest : Bytes) (stk : List Bytes) (acc : Bytes) (f : Nat)
    (hls : ∀ x ∈ ls, noEOL x = true) (hrest : (sp d).isPrefixOf rest = false)
    (hf : (contText e (sp d) ls ++ rest).length < f) :
    taxonMore d f acc ⟨contText e (sp d) ls ++ rest, stk⟩ = (.ok (taxJoin acc ls), ⟨rest, stk⟩) := by
  induction ls generalizing acc f with
  | nil =>
    cases f with
    | zero => omega
    | succ f => gsimp [taxonMore, contText, taxJoin, fieldLine_fail d rest stk hrest]
  | cons l ls ih =>
    cases f with
    | zero => omega
    | succ f =>
      have hl : noEOL l = true := hls l (by simp)
      rw [contText_cons] at hf ⊢
      simp only [taxonMore, P.bind_run, attempt_run, List.append_assoc, fieldLine_ok e d l _ stk hl]
      rw [ih _ f (fun x hx => hls x (by simp [hx])) (by
        have := e.bytes_pos; simp only [List.length_append] at hf ⊢; omega)]
      simp [taxJoin]

/-- the taxonomy list survives: join, wrap, the reader's re-join, `FlatFileSplit` -/
def taxonOk (xs : List Bytes) : Bool :=
  let w := wrapSpace (joinWith (bs "; ") xs ++ [46])
  noCR w && flatFileSplit (taxJoin [] (headLine w :: tailLines w)) == xs

/-- the organism name is one line (a line feed in it would start the taxonomy) and does not start
with a blank (the sub-field indent is counted up to the first non-blank) -/
def organismOk (name : Bytes) : Bool := noEOL name && name.head? != some 32

theorem blankWord_ok (n : Nat) (X : Bytes) (stk : List Bytes) (hn : 0 < n)
    (hX : ∀ c, X.head? = some c → c ≠ 32) :
    word (· == 32) ⟨sp n ++ X, stk⟩ = (.ok (sp n), ⟨X, stk⟩) := by
  apply word_ok
  · simp [sp, List.all_replicate]
  · cases n with
    | zero => omega
    | succ n => rw [sp_succ]; simp
  · intro c hc; simpa using hX c hc

theorem organismName_ok (X : Bytes) (stk : List Bytes) (stale : Nat) (hX : ∀ c, X.head? = some c → c ≠ 32) :
    subfieldName (bs "ORGANISM") 12 stale true ⟨bs "  ORGANISM  " ++ X, stk⟩ = (.ok (), ⟨X, stk⟩) := by
  have e : bs "  ORGANISM  " ++ X = sp 2 ++ (bs "ORGANISM" ++ (sp 2 ++ X)) := by simp [bs, sp]
  rw [e]
  have h1 := fun s => blankWord_ok 2 (bs "ORGANISM" ++ (sp 2 ++ X)) s (by omega) (by
    intro c hc; simp [bs] at hc; subst hc; decide)
  have h2 := fun s => blankWord_ok 2 X s (by omega) hX
  have hlen : (bs "ORGANISM").length = 8 := by decide +kernel
  gsimp [subfieldName, h1, lit_ok, h2, sp_length, hlen]

/-- **SOURCE / ORGANISM / taxonomy** round trip: the species text (any text without carriage
return; written as it is since repo 3d74d27), the organism name (one line, written unwrapped since
repo 69bb3bf) and the taxonomy list come back. -/
theorem source_roundtripE (e : Eol) (f : Fields) (species name : Bytes) (taxon : List Bytes) (rest : Bytes)
    (stk : List Bytes) (hs : noCR (species) = true) (hn : organismOk name = true)
    (ht : taxonOk taxon = true) (hrest : (sp 12).isPrefixOf rest = false) :
    sourceField 12 f
        ⟨bs "SOURCE      " ++ (tr e (addPrefix indent species) ++ (e.bytes ++
          (bs "  ORGANISM  " ++ (name ++ (e.bytes ++
          (indent ++ (tr e (addPrefix indent (wrapSpace (joinWith (bs "; ") taxon ++ [46]))) ++
            (e.bytes ++ rest)))))))), stk⟩ =
      (.ok ({ f with species := species, organism := name, taxon := taxon }, true), ⟨rest, stk⟩) := by
  simp only [organismOk, Bool.and_eq_true, bne_iff_ne, ne_eq] at hn
  obtain ⟨hn2, hn3⟩ := hn
  simp only [taxonOk, Bool.and_eq_true, beq_iff_eq] at ht
  obtain ⟨ht1, ht2⟩ := ht
  -- taxonomy
  generalize wrapSpace (joinWith (bs "; ") taxon ++ [46]) = W at ht1 ht2 ⊢
  obtain ⟨hl0, hls⟩ := lines_noEOL W ht1
  have etax : indent ++ (tr e (addPrefix indent W) ++ (e.bytes ++ rest)) =
      contText e (sp 12) (headLine W :: tailLines W) ++ rest := by
    rw [contText_cons, indent, addPrefix_lines e _ _ _ (noLF_sp 12)]
    simp only [List.append_assoc]
  rw [etax]
  generalize hT : contText e (sp 12) (headLine W :: tailLines W) ++ rest = T
  have htax : ∀ s, taxonMore 12 (T.length + 1) [] ⟨T, s⟩ =
      (.ok (taxJoin [] (headLine W :: tailLines W)), ⟨rest, s⟩) := by
    intro s
    have := taxonMore_lines e 12 (headLine W :: tailLines W) rest s [] (T.length + 1)
      (List.forall_mem_cons.mpr ⟨hl0, hls⟩) hrest (hT ▸ Nat.lt_succ_self _)
    rw [hT] at this; exact this
  -- SOURCE
  rw [field_label (bs "SOURCE      ") (bs "SOURCE") 12 (by decide +kernel)]
  have horg : (sp 12).isPrefixOf (bs "  ORGANISM  " ++ (name ++ (e.bytes ++ T))) = false := by
    simp [bs, sp, List.replicate, List.isPrefixOf]
  have hg := fun s => genericField_ok e (bs "SOURCE") 12 (species) _ s (by decide +kernel) hs horg
  -- ORGANISM
  have hX : ∀ c, (name ++ (e.bytes ++ T)).head? = some c → c ≠ 32 := by
    intro c hc
    cases name with
    | nil => rcases e.head T c hc with h | h <;> subst h <;> decide
    | cons x r => simp at hc hn3; subst hc; exact hn3
  have ho := fun st s => organismName_ok _ s st hX
  have hline := fun s => line_okE e name T s hn2
  gsimp [sourceField, indent, mapped_ok _ _ _ stk _ (hg _), ho, hline, htax, ht2]

end Gts.GenBank
