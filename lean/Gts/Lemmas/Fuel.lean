/-
  C07, termination with an explicit measure: the recursion fuel of the location parsers is
  adequate.  Every recursive call of `ParseLocation` (inside `complement(`, `join(`, `order(`)
  and every iteration of the list loop has consumed at least one byte, so with
  `fuel > bytes left` one more unit of fuel changes nothing (`Agree`).  Core Lean only.
-/
import Gts.Lemmas.ParsSafe2
import Gts.Lemmas.ParsRel
namespace Gts.Pars
open LocParse ModParse

def Agree {α} (L : Nat) (p q : P α) : Prop :=
  ∀ s : PS, Sorted s.rest.length s.stk → s.rest.length ≤ L → p.run' s = q.run' s

theorem run_pushed (s : PS) : pushed.run' s = (.ok (!s.stk.isEmpty), s) := rfl

theorem run_go_cons {α} (p : P α) (ps : List (P α)) (s : PS) :
    (anyOf.go (p :: ps)).run' s = match p.run' s with
      | (.ok v, s') => (.ok v, { s' with stk := s'.stk.drop 1 })
      | (.error .fail, s') => if s'.stk.isEmpty then (.error .fail, s') else (anyOf.go ps).run' s'
      | (.error .panic, s') => (.error .panic, s') := by
  rw [anyOf.go, run_bind, run_attempt]
  rcases p.run' s with ⟨r, s'⟩
  rcases r with e | v
  · cases e
    · dsimp only
      rw [run_bind, run_pushed]
      dsimp only
      cases h : s'.stk.isEmpty
      · simp
      · simp [run_bind, run_fail]
    · rfl
  · dsimp only
    rw [run_bind, run_drop]; rfl


inductive All2 {α β} (R : α → β → Prop) : List α → List β → Prop
  | nil : All2 R [] []
  | cons {a b as bs} : R a b → All2 R as bs → All2 R (a :: as) (b :: bs)

theorem anyOf_go_agree {α} {L} : ∀ (ps qs : List (P α)),
    All2 (fun p q => Agree L p q ∧ Safe p) ps qs →
    ∀ base n s, Fr L base (n+1) s → (anyOf.go ps).run' s = (anyOf.go qs).run' s
  | [], [], _ => fun _ _ _ _ => rfl
  | p :: ps, q :: qs, .cons ⟨hpq, hp⟩ hrest => by
    intro base n s h
    rw [run_go_cons, run_go_cons, ← hpq s h.srt h.le]
    have hs := hp L base (n+1) s h
    unfold WP Std at hs
    rcases hrun : p.run' s with ⟨r, s'⟩
    rw [hrun] at hs
    rcases r with e | v
    · cases e
      · dsimp only
        split
        · rfl
        · exact anyOf_go_agree ps qs hrest base n s' hs.2
      · rfl
    · rfl

theorem anyOf_agree {α} {L} (ps qs : List (P α))
    (h : All2 (fun p q => Agree L p q ∧ Safe p) ps qs) : Agree L (anyOf ps) (anyOf qs) := by
  intro s hs hL
  unfold anyOf
  rw [run_bind, run_bind, run_push]
  dsimp only
  refine anyOf_go_agree ps qs h s.stk 0 _ ⟨⟨[s.rest], rfl, by simp, ?_⟩, hL, ⟨Nat.le_refl _, hs⟩⟩
  intro f hf
  simp only [List.mem_singleton] at hf
  subst hf; exact hL

theorem Agree.refl {α} {L} (p : P α) : Agree L p p := fun _ _ _ => rfl

theorem run_delimiter (s : PS) : delimiter.run' s =
    if s.rest.head? = some 44 then
      (.ok true, { s with rest := (s.rest.drop 1).dropWhile isSpace })
    else (.ok false, s) := by
  unfold delimiter
  simp only [run_bind, run_push, run_attempt, run_next]
  rcases s with ⟨rest, stk⟩
  rcases rest with _ | ⟨c, r⟩
  · simp only [run_bind, run_pop, run_pure, List.head?_nil, reduceCtorEq, if_false]
  · by_cases hc : c = 44
    · subst hc
      simp only [bne_self_eq_false, Bool.false_eq_true, if_false, run_bind, run_advance1,
        run_skipWhile, run_drop, run_pure, List.drop_succ_cons, List.drop_zero, List.head?_cons,
        if_true]
    · have : (c != 44) = true := by simpa using hc
      simp only [this, if_true, run_bind, run_pop, run_pure, List.head?_cons, Option.some.injEq,
        hc, if_false]

theorem Safe.final {α} {p : P α} (hp : Safe p) (s : PS) (hs : Sorted s.rest.length s.stk) :
    Sorted (p.run' s).2.rest.length (p.run' s).2.stk ∧ (p.run' s).2.rest.length ≤ s.rest.length :=
  have h := hp _ _ _ s (Fr.init hs)
  ⟨h.2.srt, h.2.le⟩

theorem sorted_pushed {s : PS} (hs : Sorted s.rest.length s.stk) (r : Bytes)
    (hr : r.length ≤ s.rest.length) : Sorted r.length (s.rest :: s.stk) := ⟨hr, hs⟩

theorem wrapped_agree {α β} {L k : Nat} {w : Bytes} {inner inner' : P α} {g : α → β}
    (h : ∀ s : PS, Sorted s.rest.length s.stk → s.rest.length + k ≤ L → inner.run' s = inner'.run' s) :
    Agree L (wrapped k w inner g) (wrapped k w inner' g) := by
  intro s hs hL
  simp only [wrapped, run_bind, run_push, run_attempt, run_request]
  by_cases hlt : s.rest.length < k
  · simp only [hlt, if_true, run_bind, run_pop, run_fail]
  · simp only [hlt, if_false]
    by_cases hb : (s.rest.take k != w) = true
    · simp only [hb, if_true, run_bind, run_pop, run_fail]
    · simp only [hb, Bool.false_eq_true, if_false, run_bind, run_advanceN]
      rw [h]
      · exact sorted_pushed hs _ (by simp)
      · show (s.rest.drop k).length + k ≤ L
        rw [List.length_drop]; omega

/-- fewer bytes than the keyword has: the frame fails as `fail` does -/
theorem fail_agree_wrapped {α β} {L k : Nat} {w : Bytes} {inner : P α} {g : α → β} (hk : L < k) :
    Agree L (fail : P β) (wrapped k w inner g) := by
  intro s _ hL
  have h0 : s.rest.length < k := by omega
  simp only [wrapped, run_bind, run_push, run_attempt, run_request, h0, if_true, run_pop, run_fail]

theorem orPop_congr {α β} {p p' : P α} {g : α → β} {s : PS} (h : p.run' s = p'.run' s) :
    (orPop p g).run' s = (orPop p' g).run' s := by
  unfold orPop
  rw [run_bind, run_bind, run_attempt, run_attempt, h]

/-- the list loop at two fuels and two iteration bounds: every iteration consumes the comma -/
theorem more_agree {L} (f f' : Nat) (h1 : Agree L (loc f) (loc f')) (hsafe : Safe (loc f)) :
    ∀ k k' acc (s : PS), Sorted s.rest.length s.stk → s.rest.length ≤ L →
      s.rest.length < k → s.rest.length < k' →
      (multiple.more f k acc).run' s = (multiple.more f' k' acc).run' s
  | 0, _, _, _ => fun _ _ hk _ => absurd hk (Nat.not_lt_zero _)
  | _ + 1, 0, _, _ => fun _ _ _ hk' => absurd hk' (Nat.not_lt_zero _)
  | k + 1, k' + 1, acc, s => by
    intro hs hL hk hk'
    rw [multiple.more, multiple.more]
    simp only [run_bind, run_delimiter]
    by_cases hc : s.rest.head? = some 44
    · simp only [hc, if_true, run_bind, run_attempt]
      have hne : 1 ≤ s.rest.length := by
        rcases hr : s.rest with _ | ⟨c, r⟩
        · rw [hr] at hc; simp at hc
        · simp
      have hdl : ((s.rest.drop 1).dropWhile isSpace).length + 1 ≤ s.rest.length := by
        have := (List.dropWhile_sublist isSpace (l := s.rest.drop 1)).length_le
        rw [List.length_drop] at this; omega
      have hs1 : Sorted ((s.rest.drop 1).dropWhile isSpace).length s.stk :=
        Sorted.mono hs (by omega)
      have hL1 : ((s.rest.drop 1).dropWhile isSpace).length ≤ L := by omega
      rw [← h1 ⟨_, _⟩ hs1 hL1]
      have hfin := hsafe.final ⟨_, _⟩ hs1
      rcases hrun : (loc f).run' ⟨(s.rest.drop 1).dropWhile isSpace, s.stk⟩ with ⟨res, s2⟩
      rw [hrun] at hfin
      dsimp only at hfin
      rcases res with e | v
      · cases e
        · simp only [run_bind, run_pop, run_fail]
        · rfl
      · dsimp only
        exact more_agree f f' h1 hsafe k k' (v :: acc) s2 hfin.1 (by omega) (by omega) (by omega)
    · simp only [hc, if_false, Bool.false_eq_true, run_pure]

theorem multiple_agree {L} (f f' : Nat) (h1 : Agree L (loc f) (loc f')) (hsafe : Safe (loc f))
    (hf : L < f) (hf' : L < f') : Agree L (multiple (f+1)) (multiple (f'+1)) := by
  intro s hs hL
  rw [multiple, multiple]
  simp only [run_bind, run_push, run_attempt]
  have hs1 : Sorted (PS.mk s.rest (s.rest :: s.stk)).rest.length (PS.mk s.rest (s.rest :: s.stk)).stk :=
    sorted_pushed hs _ (Nat.le_refl _)
  rw [← h1 _ hs1 hL]
  have hfin := hsafe.final _ hs1
  rcases hrun : (loc f).run' ⟨s.rest, s.rest :: s.stk⟩ with ⟨res, s2⟩
  rw [hrun] at hfin
  dsimp only at hfin
  rcases res with e | v
  · cases e
    · simp only [run_bind, run_pop, run_fail]
      cases s2.stk <;> rfl
    · rfl
  · simp only [run_pure]
    rw [more_agree f f' h1 hsafe f f' [v] s2 hfin.1 (by omega) (by omega) (by omega)]


theorem Agree.mono {α} {L L' : Nat} {p q : P α} (h : Agree L p q) (hl : L' ≤ L) : Agree L' p q :=
  fun s hs hL => h s hs (Nat.le_trans hL hl)

theorem fuel_family : ∀ f,
    (∀ L, L < f → Agree L (loc f) (loc (f+1))) ∧
    (∀ L, L < f + 1 → Agree L (complementOf f) (complementOf (f+1))) ∧
    (∀ L, L < f + 1 → Agree L (joinOf f) (joinOf (f+1))) ∧
    (∀ L, L < f + 1 → Agree L (orderOf f) (orderOf (f+1))) ∧
    (∀ L, L + 1 < f → Agree L (multiple f) (multiple (f+1)))
  | 0 => by
    refine ⟨fun L h => absurd h (Nat.not_lt_zero _), ?_, ?_, ?_, fun L h => absurd h (Nat.not_lt_zero _)⟩
    · intro L hL
      rw [complementOf, complementOf_succ]
      exact fail_agree_wrapped (by omega)
    · intro L hL
      rw [joinOf, joinOf_succ]
      exact fail_agree_wrapped (by omega)
    · intro L hL
      rw [orderOf, orderOf_succ]
      exact fail_agree_wrapped (by omega)
  | f + 1 => by
    obtain ⟨hl, hc, hj, ho, hm⟩ := fuel_family f
    obtain ⟨sl, _, sj, so, sc⟩ := loc_family_safe f
    have hl' : ∀ L, L < f + 1 → Agree L (loc (f+1)) (loc (f+2)) := by
      intro L hL
      rw [loc, loc]
      apply anyOf_agree
      exact .cons ⟨Agree.refl _, range_safe⟩ <| .cons ⟨Agree.refl _, between_safe⟩ <|
        .cons ⟨Agree.refl _, ambiguous_safe⟩ <| .cons ⟨hc L hL, sc⟩ <| .cons ⟨hj L hL, sj⟩ <|
        .cons ⟨ho L hL, so⟩ <| .cons ⟨Agree.refl _, point_safe⟩ .nil
    have hmf : ∀ L (s : PS), L < f + 2 → Sorted s.rest.length s.stk → s.rest.length + 5 ≤ L →
        (multiple f).run' s = (multiple (f+1)).run' s := by
      intro L s hL hs h5
      exact hm s.rest.length (by omega) s hs (Nat.le_refl _)
    refine ⟨hl', ?_, ?_, ?_, ?_⟩
    · intro L hL
      rw [complementOf_succ, complementOf_succ]
      exact wrapped_agree fun s hs h11 => orPop_congr (hl s.rest.length (by omega) s hs (Nat.le_refl _))
    · intro L hL
      rw [joinOf_succ, joinOf_succ]
      exact wrapped_agree fun s hs h5 => hmf L s hL hs h5
    · intro L hL
      rw [orderOf_succ, orderOf_succ]
      exact wrapped_agree fun s hs h6 => hmf L s hL hs (by omega)
    · intro L hL
      exact multiple_agree f (f+1) (hl L (by omega)) sl (by omega) (by omega)

theorem stable_of_step {β} (F : Nat → β) (n : Nat) (h : ∀ m, n ≤ m → F m = F (m + 1)) :
    ∀ m, n ≤ m → F n = F m := by
  intro m hnm
  induction m with
  | zero => cases Nat.le_zero.mp hnm; rfl
  | succ m ih =>
    by_cases e : n = m + 1
    · subst e; rfl
    · rw [ih (by omega)]
      exact h m (by omega)

theorem loc_fuel_stable (s : PS) (hs : Sorted s.rest.length s.stk) :
    ∀ n m, s.rest.length < n → n ≤ m → (loc n).run' s = (loc m).run' s :=
  fun n m hn => stable_of_step (fun k => (loc k).run' s) n
    (fun k hk => (fuel_family k).1 s.rest.length (by omega) s hs (Nat.le_refl _)) m

/-- the parser of `tryLocation`: each `complement(` level consumes eleven bytes -/
theorem tryLoc_fuel : ∀ f L, L < f → Agree L (tryLoc f) (tryLoc (f+1))
  | 0, _, h => absurd h (Nat.not_lt_zero _)
  | f + 1, L, hL => by
    show Agree L (anyOf [complementWith (tryLoc f), range, point])
      (anyOf [complementWith (tryLoc (f+1)), range, point])
    apply anyOf_agree
    refine .cons ⟨?_, complementWith_safe _ (tryLoc_safe f)⟩ <|
      .cons ⟨Agree.refl _, range_safe⟩ <| .cons ⟨Agree.refl _, point_safe⟩ .nil
    rw [complementWith_eq, complementWith_eq]
    exact wrapped_agree fun s hs h11 =>
      orPop_congr (tryLoc_fuel f s.rest.length (by omega) s hs (Nat.le_refl _))

theorem tryLoc_fuel_stable (s : PS) (hs : Sorted s.rest.length s.stk) :
    ∀ n m, s.rest.length < n → n ≤ m → (tryLoc n).run' s = (tryLoc m).run' s :=
  fun n m hn => stable_of_step (fun k => (tryLoc k).run' s) n
    (fun k hk => tryLoc_fuel k s.rest.length (by omega) s hs (Nat.le_refl _)) m

/-- `multipleLocationParser` returns at least one location: `Join(locs...)` / `Order(locs...)` in
`parseJoin` / `parseOrder` are never called without arguments.  Read off the one walk over the five
location parsers (`LocParseG.rel_all`): the list relation "not empty" holds of a single part, of a
part put in front, and of the reversed list; nothing is asked of the locations themselves. -/
theorem multiple_nonempty (f : Nat) (s s' : PS) (ls : List Loc)
    (h : (multiple f).run' s = (.ok ls, s')) : ls ≠ [] :=
  (LocParseG.rel_all (g := fun _ => false) (R := fun _ _ => True) (RM := fun ls _ => ls ≠ [])
    ⟨fun _ _ => trivial, fun _ _ _ => by simp, fun _ _ _ _ _ _ => by simp, fun _ _ h => by simpa using h,
      fun _ _ _ => trivial, fun _ _ _ => trivial, fun _ _ _ => trivial⟩ Rel.int_inv f).2.1.postL
    (fun _ _ h => h) s ls s' h

end Gts.Pars
