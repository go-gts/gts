/-
  `Location.Expand(i, n)` with `n ≥ 0` (Embed), WITHOUT stripping the guest (audit finding S6):
  what the expanded location denotes including the guest residues `[i, i+n)`.

  `embedSeg s e i n` is the meaning of Embed on one interval `[s, e)`: the insert image, and — only
  when `i` lies strictly inside — the guest block `[i, i+n)` at the place where Insert would split.
  `embedDen l i n` lifts it through join / order / complement.  Core Lean only.
-/
import Gts.Lemmas.Shift
namespace Gts
namespace Loc

theorem rangedExpand_ins_eq (s e : Int) (p5 p3 : Bool) (i n : Int) (h : s < e) (hn : 0 < n) :
    rangedExpand s e p5 p3 i n =
      ranged (if i ≤ s then s + n else s) (if i < e then e + n else e) p5 p3 :=
  rangedExpand_ins s e p5 p3 i n h (Int.le_of_lt hn)

theorem ambiguousExpand_ins_eq (s e i n : Int) (h : s < e) (hn : 0 < n) :
    ambiguousExpand s e i n =
      ambiguous (if i ≤ s then s + n else s) (if i < e then e + n else e) :=
  ambiguousExpand_ins s e i n h (Int.le_of_lt hn)

theorem mapPos_insMap_zero (i : Int) (d : List Pos) : mapPos (insMap i 0) d = d := by
  rw [insMap_zero]; simp [mapPos]

/-- Embed on the interval `[s, e)`: `s < i < e` → left part, guest block, right part (translated by
`n`); otherwise the insert image (an interval ending at `i` stays, one starting at `i` moves) -/
def embedSeg (s e i n : Int) : List Pos :=
  if s < i ∧ i < e then
    fwd (irange s (i - s).toNat) ++ fwd (irange i n.toNat) ++ fwd (irange (i + n) (e - i).toNat)
  else mapPos (insMap i n) (fwd (irange s (e - s).toNat))

mutual
/-- what `expand l i n` has to denote: the host image with the guest block inserted exactly inside
the leaves that span `i` -/
def embedDen : Loc → Int → Int → List Pos
  | between _, _, _ => []
  | point p, i, n => [(insMap i n p, false)]
  | ranged s e _ _, i, n => embedSeg s e i n
  | ambiguous s e, i, n => embedSeg s e i n
  | joined ls, i, n => embedDenList ls i n
  | ordered ls, i, n => embedDenList ls i n
  | compl l, i, n => flipDen (embedDen l i n)
def embedDenList : List Loc → Int → Int → List Pos
  | [], _, _ => []
  | l :: ls, i, n => embedDen l i n ++ embedDenList ls i n
end

theorem irange_three (s e i n : Int) (h1 : s < i) (h2 : i < e) (hn : 0 ≤ n) :
    irange s (i - s).toNat ++ irange i n.toNat ++ irange (i + n) (e - i).toNat
      = irange s (e + n - s).toNat := by
  rw [irange_split s i (e + n) (by omega) (by omega), irange_split i (i + n) (e + n) (by omega) (by omega),
    List.append_assoc]
  congr 3 <;> omega

/-- in the spanning case the guest block sits exactly where the insert image is split -/
theorem embedSeg_span (s e i n : Int) (h1 : s < i) (h2 : i < e) :
    embedSeg s e i n =
        fwd (irange s (i - s).toNat) ++ fwd (irange i n.toNat) ++ fwd (irange (i + n) (e - i).toNat) ∧
    mapPos (insMap i n) (fwd (irange s (e - s).toNat)) =
        fwd (irange s (i - s).toNat) ++ fwd (irange (i + n) (e - i).toNat) := by
  refine ⟨by unfold embedSeg; rw [if_pos ⟨h1, h2⟩], ?_⟩
  rw [mapPos_fwd, map_insMap_irange_split s e i n h1 h2, fwd_append]

theorem embedSeg_outside (s e i n : Int) (h : e ≤ i ∨ i ≤ s) :
    embedSeg s e i n = mapPos (insMap i n) (fwd (irange s (e - s).toNat)) := by
  unfold embedSeg; rw [if_neg (by omega)]

theorem embedSeg_zero (s e i : Int) : embedSeg s e i 0 = fwd (irange s (e - s).toNat) := by
  unfold embedSeg
  split
  · rename_i hs
    rw [irange_split s i e (by omega) (by omega), fwd_append, Int.add_zero]
    exact congrArg (· ++ _) (List.append_nil _)
  · exact mapPos_insMap_zero i _

/-- the interval kinds: the code's coordinate rule denotes `embedSeg` -/
theorem den_embed_interval (s e i n : Int) (h : s < e) (hn : 0 ≤ n) :
    fwd (irange (if i ≤ s then s + n else s)
        ((if i < e then e + n else e) - (if i ≤ s then s + n else s)).toNat) = embedSeg s e i n := by
  by_cases hsp : s < i ∧ i < e
  · rw [(embedSeg_span s e i n hsp.1 hsp.2).1, ← fwd_append, ← fwd_append,
      irange_three s e i n hsp.1 hsp.2 hn, if_neg (by omega), if_pos hsp.2]
  · rw [embedSeg_outside s e i n (by omega), mapPos_fwd, map_insMap_irange s e i n h, if_neg hsp]

theorem den_rangedExpand_embed (s e : Int) (p5 p3 : Bool) (i n : Int) (h : s < e) (hn : 0 ≤ n) :
    den (rangedExpand s e p5 p3 i n) = embedSeg s e i n := by
  rw [rangedExpand_ins s e p5 p3 i n h hn, den_ranged]
  exact den_embed_interval s e i n h hn

theorem den_ambiguousExpand_embed (s e i n : Int) (h : s < e) (hn : 0 ≤ n) :
    den (ambiguousExpand s e i n) = embedSeg s e i n := by
  rw [ambiguousExpand_ins s e i n h hn, den_ambiguous]
  exact den_embed_interval s e i n h hn

theorem den_pointExpand_embed (p i n : Int) (hn : 0 ≤ n) :
    den (pointExpand p i n) = [(insMap i n p, false)] := by
  rw [den_pointExpand_ins p i n hn]; rfl

theorem wf_rangedExpand_ins (s e : Int) (p5 p3 : Bool) (i n : Int) (h : s < e) (hn : 0 ≤ n) :
    wf (rangedExpand s e p5 p3 i n) = true := by
  rw [rangedExpand_ins s e p5 p3 i n h hn]
  exact decide_eq_true (ins_lt i n s e hn h)

theorem wf_ambiguousExpand_ins (s e i n : Int) (h : s < e) (hn : 0 ≤ n) :
    wf (ambiguousExpand s e i n) = true := by
  rw [ambiguousExpand_ins s e i n h hn]
  exact decide_eq_true (ins_lt i n s e hn h)

theorem expand_ins_leafSpec (i n : Int) (hn : 0 ≤ n) :
    LeafSpec (expand · i n) (embedDen · i n) (fun _ => true) := fun u hu hw _ =>
  match u, hu, hw with
  | between p, _, _ => ⟨den_betweenExpand p i n, wf_betweenExpand p i n⟩
  | point p, _, _ => ⟨den_pointExpand_embed p i n hn, wf_pointExpand p i n⟩
  | ranged s e a b, _, hw =>
      ⟨den_rangedExpand_embed s e a b i n (of_decide_eq_true hw) hn,
        wf_rangedExpand_ins s e a b i n (of_decide_eq_true hw) hn⟩
  | ambiguous s e, _, hw =>
      ⟨den_ambiguousExpand_embed s e i n (of_decide_eq_true hw) hn,
        wf_ambiguousExpand_ins s e i n (of_decide_eq_true hw) hn⟩

mutual
theorem embedDen_eq_dfold (i n : Int) : ∀ l : Loc, embedDen l i n = dfold (embedDen · i n) false l
  | between _ | point _ | ranged _ _ _ _ | ambiguous _ _ => by simp only [dfold]
  | joined ls => by rw [embedDen, dfold, embedDenList_eq_dfold i n ls]
  | ordered ls => by rw [embedDen, dfold, embedDenList_eq_dfold i n ls]
  | compl l => by rw [embedDen, dfold, ← embedDen_eq_dfold i n l]
theorem embedDenList_eq_dfold (i n : Int) : ∀ ls : List Loc,
    embedDenList ls i n = dfoldList (embedDen · i n) false ls
  | [] => by simp [embedDenList, dfoldList]
  | l :: ls => by
      rw [embedDenList, dfoldList, ← embedDen_eq_dfold i n l, ← embedDenList_eq_dfold i n ls]; rfl
end

/-- Embed, un-stripped: the expanded location denotes the host image with the guest block inserted
exactly inside the leaves that span `i` (duplicates possibly merged), unless K2 fires -/
theorem expand_embed (l : Loc) (i n : Int) (hw : wf l = true) (hn : 0 ≤ n) :
    (expandAbs l i n = false → den (expand l i n) ≼ embedDen l i n) ∧ wf (expand l i n) = true := by
  rw [(expand_eq_tmap i n l).1, (expand_eq_tmap i n l).2.1, embedDen_eq_dfold]
  exact tmap_spec (expand_ins_leafSpec i n hn) l hw (allLeaves_true l)

theorem expandList_embed : ∀ (ls : List Loc) (i n : Int), wfList ls = true → 0 ≤ n →
    expandAbsList ls i n = false → denList (expandList ls i n) ≼ embedDenList ls i n := by
  intro ls i n hw hn
  rw [(expandList_eq_tmap i n ls).1, (expandList_eq_tmap i n ls).2.1, embedDenList_eq_dfold]
  exact (tmapList_spec (rev := false) (expand_ins_leafSpec i n hn) ls hw (allLeavesList_true ls)).1

end Loc
end Gts
