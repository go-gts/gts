/-
  C11 — REFINEMENT of `asCompleteMem` (Gts/Model/Mem.lean), the one function that writes through a
  location slice: on every readable value — whatever it shares with other values or with itself —
  the result reads as `Loc.asComplete`, and the only thing that changes anywhere in the heap is
  that cells get COMPLETED (partial markers erased): `Erased h h'`.

  No separation hypothesis is needed: `asComplete` is idempotent, so a cell that is reached twice
  (two windows over one array, a part that occurs twice) is completed twice with the same outcome.
-/
import Gts.Lemmas.MemLocBasic
namespace Gts.Mem
open Heap

def PW {α β : Type} (R : α → β → Prop) (xs : List α) (ys : List β) : Prop :=
  ys.length = xs.length ∧ ∀ (p : Nat) x y, xs[p]? = some x → ys[p]? = some y → R x y

theorem PW.nil {α β : Type} {R : α → β → Prop} : PW R [] [] := ⟨rfl, fun p x y h => by simp at h⟩

theorem PW.cons {α β : Type} {R : α → β → Prop} {x : α} {y : β} {xs : List α} {ys : List β}
    (h1 : R x y) (h2 : PW R xs ys) : PW R (x :: xs) (y :: ys) := by
  refine ⟨by simp [h2.1], fun p a b ha hb => ?_⟩
  cases p with
  | zero => cases ha; cases hb; exact h1
  | succ p => exact h2.2 p a b ha hb

theorem PW.uncons {α β : Type} {R : α → β → Prop} {x : α} {xs : List α} {ys' : List β}
    (h : PW R (x :: xs) ys') : ∃ y ys, ys' = y :: ys ∧ R x y ∧ PW R xs ys := by
  cases ys' with
  | nil => have := h.1; simp at this
  | cons y ys =>
    refine ⟨y, ys, rfl, h.2 0 x y rfl rfl, by have := h.1; simp at this; exact this, ?_⟩
    exact fun p a b ha hb => h.2 (p + 1) a b ha hb

theorem PW.nil_left {α β : Type} {R : α → β → Prop} {ys : List β} (h : PW R [] ys) : ys = [] :=
  List.eq_nil_of_length_eq_zero (by simpa using h.1)

theorem PW.drop {α β : Type} {R : α → β → Prop} {xs : List α} {ys : List β} (h : PW R xs ys) (k : Nat) :
    PW R (xs.drop k) (ys.drop k) := by
  refine ⟨by simp [h.1], fun p a b ha hb => ?_⟩
  rw [List.getElem?_drop] at ha hb
  exact h.2 _ a b ha hb

theorem PW.take {α β : Type} {R : α → β → Prop} {xs : List α} {ys : List β} (h : PW R xs ys) (n : Nat) :
    PW R (xs.take n) (ys.take n) := by
  refine ⟨by simp [h.1], fun p a b ha hb => ?_⟩
  rw [List.getElem?_take] at ha hb
  split at ha
  · rw [if_pos ‹_›] at hb; exact h.2 _ a b ha hb
  · cases ha

theorem PW.refl {α : Type} {R : α → α → Prop} (hr : ∀ x, R x x) (xs : List α) : PW R xs xs :=
  ⟨rfl, fun p x y hx hy => by rw [hx] at hy; cases hy; exact hr x⟩

/-- what `asComplete` makes of a cell: values are completed, `Joined` / `Ordered` headers stay (their
ARRAYS are rewritten) -/
def cellComplete : MLoc → MLoc
  | .leaf l => .leaf l.asComplete
  | .compl m => .compl (cellComplete m)
  | .joined s => .joined s
  | .ordered s => .ordered s

mutual
theorem asComplete_idem : ∀ l : Loc, l.asComplete.asComplete = l.asComplete
  | .between _ | .point _ | .ranged .. | .ambiguous .. => rfl
  | .joined ls | .ordered ls => by simp only [Loc.asComplete, asCompleteList_idem ls]
  | .compl l => by simp only [Loc.asComplete, asComplete_idem l]
theorem asCompleteList_idem : ∀ ls : List Loc,
    Loc.asCompleteList (Loc.asCompleteList ls) = Loc.asCompleteList ls
  | [] => rfl
  | l :: ls => by simp only [Loc.asCompleteList, asComplete_idem l, asCompleteList_idem ls]
end

theorem cellComplete_idem : ∀ m : MLoc, cellComplete (cellComplete m) = cellComplete m
  | .leaf l => by simp only [cellComplete, asComplete_idem]
  | .compl m => by simp only [cellComplete, cellComplete_idem m]
  | .joined _ => rfl
  | .ordered _ => rfl

def CellE (c c' : MLoc) : Prop := c' = c ∨ c' = cellComplete c

theorem CellE.refl (c : MLoc) : CellE c c := Or.inl rfl

theorem CellE.trans {a b c : MLoc} (h1 : CellE a b) (h2 : CellE b c) : CellE a c := by
  rcases h1 with rfl | rfl
  · exact h2
  · rcases h2 with rfl | rfl
    · exact Or.inr rfl
    · exact Or.inr (cellComplete_idem a)

theorem CellE.complete {a b : MLoc} (h : CellE a b) : CellE a (cellComplete b) := by
  rcases h with rfl | rfl
  · exact Or.inr rfl
  · exact Or.inr (cellComplete_idem a)

/-- `h'` is `h` with some cells completed: same arrays, same lengths, every cell as it was or
completed -/
def Erased (h h' : LHeap) : Prop := ∀ a, PW CellE (h.get a) (h'.get a)

theorem Erased.refl (h : LHeap) : Erased h h := fun _ => PW.refl CellE.refl _

theorem Erased.trans {h1 h2 h3 : LHeap} (e1 : Erased h1 h2) (e2 : Erased h2 h3) : Erased h1 h3 := by
  intro a
  refine ⟨(e2 a).1.trans (e1 a).1, fun p x z hx hz => ?_⟩
  have hy := List.getElem?_eq_getElem (l := h2.get a) (i := p)
    (by rw [(e1 a).1]; exact (List.getElem?_eq_some_iff.1 hx).1)
  exact ((e1 a).2 p x _ hx hy).trans ((e2 a).2 p _ z hy hz)

theorem Erased.read {h h' : LHeap} (e : Erased h h') (s : Slice) : PW CellE (read h s) (read h' s) :=
  ((e s.arr).drop s.off).take s.len

theorem Erased.wf {h h' : LHeap} (e : Erased h h') {s : Slice} (hw : WF h s) : WF h' s := by
  unfold WF at hw ⊢
  rw [(e s.arr).1]
  exact hw

/-- storing into an existing cell something that is the ORIGINAL cell as it was or completed -/
theorem Erased.store {h h1 : LHeap} (e : Erased h h1) (a pos : Nat) (x : MLoc)
    (hpos : pos < (h1.get a).length) (hx : ∀ c0, (h.get a)[pos]? = some c0 → CellE c0 x) :
    Erased h (write h1 a pos [x]) := by
  intro b
  by_cases hab : a = b
  · subst hab
    rw [get_write_eq _ _ _ (lt_length_of_get hpos)]
    refine ⟨by rw [length_overwrite _ _ _ (by simp; omega)]; exact (e a).1, fun p c c' hc hc' => ?_⟩
    rw [getElem?_overwrite_one _ _ hpos] at hc'
    split at hc'
    · rename_i hp
      cases hc'
      exact hx c (hp ▸ hc)
    · exact (e a).2 p c c' hc hc'
  · rw [get_write_ne _ _ _ hab]
    exact e b

mutual
/-- `l'` is `l` with some of its contiguous parts completed -/
def Er : Loc → Loc → Prop
  | .joined ls, .joined ls' => ErList ls ls'
  | .ordered ls, .ordered ls' => ErList ls ls'
  | .compl l, .compl l' => Er l l'
  | .joined _, _ => False
  | .ordered _, _ => False
  | .compl _, _ => False
  | l, l' => l' = l ∨ l' = l.asComplete
def ErList : List Loc → List Loc → Prop
  | [], [] => True
  | l :: ls, l' :: ls' => Er l l' ∧ ErList ls ls'
  | _, _ => False
end

theorem er_contig {l l' : Loc} (hl : isContig l = true) : Er l l' ↔ l' = l ∨ l' = l.asComplete := by
  cases l <;> simp [isContig] at hl <;> simp [Er]

theorem er_joined {ls : List Loc} {l' : Loc} : Er (.joined ls) l' ↔ ∃ ls', l' = .joined ls' ∧ ErList ls ls' := by
  cases l' <;> simp [Er]

theorem er_ordered {ls : List Loc} {l' : Loc} : Er (.ordered ls) l' ↔ ∃ ls', l' = .ordered ls' ∧ ErList ls ls' := by
  cases l' <;> simp [Er]

theorem er_compl {l l' : Loc} : Er (.compl l) l' ↔ ∃ l1, l' = .compl l1 ∧ Er l l1 := by
  cases l' <;> simp [Er]

theorem erList_cons_left {l : Loc} {ls ls' : List Loc} :
    ErList (l :: ls) ls' ↔ ∃ l1 ls1, ls' = l1 :: ls1 ∧ Er l l1 ∧ ErList ls ls1 := by
  cases ls' with
  | nil => simp [ErList]
  | cons a b =>
    simp only [ErList]
    constructor
    · intro ⟨x, y⟩; exact ⟨_, _, rfl, x, y⟩
    · rintro ⟨l1, ls1, e, x, y⟩; cases e; exact ⟨x, y⟩

theorem erList_nil_left {ls' : List Loc} : ErList [] ls' ↔ ls' = [] := by
  cases ls' <;> simp [ErList]

theorem asComplete_contig {l : Loc} (hl : isContig l = true) :
    isContig l.asComplete = true := by
  cases l <;> simp [isContig] at hl <;> rfl

mutual
theorem Er.spec : ∀ (l l' : Loc), Er l l' →
    l'.asComplete = l.asComplete ∧ mdepth l' = mdepth l ∧ (l.asComplete = l → l' = l)
  | .joined ls, l', h | .ordered ls, l', h => by
    simp only [er_joined, er_ordered] at h
    obtain ⟨ls', rfl, h'⟩ := h
    have i := ErList.spec ls ls' h'
    simp only [Loc.asComplete, mdepth, i.1, i.2.1, Loc.joined.injEq, Loc.ordered.injEq]
    exact ⟨trivial, trivial, i.2.2⟩
  | .compl l, l', h => by
    obtain ⟨l1, rfl, h'⟩ := er_compl.1 h
    have i := Er.spec l l1 h'
    simp only [Loc.asComplete, mdepth, i.1, i.2.1, Loc.compl.injEq]
    exact ⟨trivial, trivial, i.2.2⟩
  | .between _, l', h | .point _, l', h | .ranged .., l', h | .ambiguous .., l', h => by
    rcases (er_contig rfl).1 h with rfl | rfl
    · exact ⟨rfl, rfl, fun _ => rfl⟩
    · exact ⟨rfl, rfl, id⟩
theorem ErList.spec : ∀ (ls ls' : List Loc), ErList ls ls' →
    Loc.asCompleteList ls' = Loc.asCompleteList ls ∧ mdepthList ls' = mdepthList ls ∧
      (Loc.asCompleteList ls = ls → ls' = ls)
  | [], ls', h => by rw [erList_nil_left.1 h]; exact ⟨rfl, rfl, fun _ => rfl⟩
  | l :: ls, ls', h => by
    obtain ⟨l1, ls1, rfl, h1, h2⟩ := erList_cons_left.1 h
    have i1 := Er.spec l l1 h1
    have i2 := ErList.spec ls ls1 h2
    simp only [Loc.asCompleteList, mdepthList, i1.1, i1.2.1, i2.1, i2.2.1, List.cons.injEq]
    exact ⟨trivial, trivial, fun hc => ⟨i1.2.2 hc.1, i2.2.2 hc.2⟩⟩
end

theorem Er.asComplete_eq : ∀ (l l' : Loc), Er l l' → l'.asComplete = l.asComplete :=
  fun l l' h => (Er.spec l l' h).1

theorem ErList.asComplete_eq : ∀ (ls ls' : List Loc), ErList ls ls' →
    Loc.asCompleteList ls' = Loc.asCompleteList ls :=
  fun ls ls' h => (ErList.spec ls ls' h).1

theorem ErList.mdepth_eq : ∀ (ls ls' : List Loc), ErList ls ls' → mdepthList ls' = mdepthList ls :=
  fun ls ls' h => (ErList.spec ls ls' h).2.1

/-- a contiguous value is stored in its cell: completing the cell completes the value -/
theorem reads_erased_contig {h' : LHeap} {l : Loc} (hl : isContig l = true) {h : LHeap} {c c' : MLoc}
    (hr : Reads h l c) (hc : CellE c c') : ∃ l', Reads h' l' c' ∧ Er l l' := by
  rw [reads_contig hl] at hr
  subst hr
  rcases hc with rfl | rfl
  · exact ⟨_, (reads_contig hl).2 rfl, (er_contig hl).2 (Or.inl rfl)⟩
  · exact ⟨_, (reads_contig (asComplete_contig hl)).2 rfl, (er_contig hl).2 (Or.inr rfl)⟩

mutual
/-- a readable cell, in a heap where cells got completed, still reads — as an erasure of what it
read — whether the cell itself was completed or not -/
theorem Reads.erased {h h' : LHeap} (e : Erased h h') : ∀ (l : Loc) (c c' : MLoc), Reads h l c →
    CellE c c' → ∃ l', Reads h' l' c' ∧ Er l l'
  | .joined ls, c, c', hr, hc => by
    obtain ⟨s, rfl, hw, hl⟩ := reads_joined.1 hr
    have hc' : c' = .joined s := by rcases hc with h1 | h1 <;> exact h1
    subst hc'
    obtain ⟨ls', h1, h2⟩ := ReadsList.erased e ls (read h s) (read h' s) hl (e.read s)
    exact ⟨.joined ls', reads_joined.2 ⟨s, rfl, e.wf hw, h1⟩, er_joined.2 ⟨ls', rfl, h2⟩⟩
  | .ordered ls, c, c', hr, hc => by
    obtain ⟨s, rfl, hw, hl⟩ := reads_ordered.1 hr
    have hc' : c' = .ordered s := by rcases hc with h1 | h1 <;> exact h1
    subst hc'
    obtain ⟨ls', h1, h2⟩ := ReadsList.erased e ls (read h s) (read h' s) hl (e.read s)
    exact ⟨.ordered ls', reads_ordered.2 ⟨s, rfl, e.wf hw, h1⟩, er_ordered.2 ⟨ls', rfl, h2⟩⟩
  | .compl l, c, c', hr, hc => by
    obtain ⟨m, rfl, hl⟩ := reads_compl.1 hr
    obtain ⟨m', rfl, hm⟩ : ∃ m', c' = .compl m' ∧ CellE m m' := by
      rcases hc with h1 | h1
      · exact ⟨m, h1, CellE.refl m⟩
      · exact ⟨cellComplete m, h1, Or.inr rfl⟩
    obtain ⟨l1, h1, h2⟩ := Reads.erased e l m m' hl hm
    exact ⟨.compl l1, reads_compl.2 ⟨m', rfl, h1⟩, er_compl.2 ⟨l1, rfl, h2⟩⟩
  | .between _, _, _, hr, hc | .point _, _, _, hr, hc | .ranged .., _, _, hr, hc
  | .ambiguous .., _, _, hr, hc => reads_erased_contig rfl hr hc
theorem ReadsList.erased {h h' : LHeap} (e : Erased h h') : ∀ (ls : List Loc) (cs cs' : List MLoc),
    ReadsList h ls cs → PW CellE cs cs' → ∃ ls', ReadsList h' ls' cs' ∧ ErList ls ls'
  | [], cs, cs', hr, hp => by
    rw [readsList_nil_left] at hr; subst hr
    rw [hp.nil_left]
    exact ⟨[], by simp [ReadsList], by simp [ErList]⟩
  | l :: ls, cs, cs', hr, hp => by
    obtain ⟨c, cs1, rfl, h1, h2⟩ := readsList_cons_left.1 hr
    obtain ⟨c', cs1', rfl, hc, hp'⟩ := hp.uncons
    obtain ⟨l1, r1, e1⟩ := Reads.erased e l c c' h1 hc
    obtain ⟨ls1, r2, e2⟩ := ReadsList.erased e ls cs1 cs1' h2 hp'
    exact ⟨l1 :: ls1, readsList_cons.2 ⟨r1, r2⟩, erList_cons_left.2 ⟨_, _, rfl, e1, e2⟩⟩
end

theorem Reads.erased_complete {h h' : LHeap} (e : Erased h h') {l : Loc} {c c' : MLoc}
    (hr : Reads h l.asComplete c) (hc : CellE c c') : Reads h' l.asComplete c' := by
  obtain ⟨l', h1, h2⟩ := Reads.erased e _ c c' hr hc
  rw [(Er.spec _ _ h2).2.2 (asComplete_idem l)] at h1
  exact h1

theorem ReadsList.erased_complete {h h' : LHeap} (e : Erased h h') {ls : List Loc} {cs cs' : List MLoc}
    (hr : ReadsList h (Loc.asCompleteList ls) cs) (hp : PW CellE cs cs') :
    ReadsList h' (Loc.asCompleteList ls) cs' := by
  obtain ⟨ls', h1, h2⟩ := ReadsList.erased e _ cs cs' hr hp
  rw [(ErList.spec _ _ h2).2.2 (asCompleteList_idem ls)] at h1
  exact h1

theorem asCompleteList_append : ∀ (a b : List Loc),
    Loc.asCompleteList (a ++ b) = Loc.asCompleteList a ++ Loc.asCompleteList b
  | [], b => rfl
  | x :: a, b => by simp only [List.cons_append, Loc.asCompleteList, asCompleteList_append a b]

theorem mdepth_pos (l : Loc) : 1 ≤ mdepth l := by cases l <;> simp [mdepth]

theorem mdepthList_le {l : Loc} {ls : List Loc} (h : l ∈ ls) : mdepth l ≤ mdepthList ls := by
  induction ls with
  | nil => cases h
  | cons a as ih =>
    simp only [mdepthList]
    rcases List.mem_cons.1 h with e | e
    · subst e; exact Nat.le_max_left ..
    · exact Nat.le_trans (ih e) (Nat.le_max_right ..)

def ACSpec (k : Nat) : Prop :=
  ∀ l h m, mdepth l ≤ k → Reads h l m →
    Erased h (asCompleteMem k h m).2 ∧ Reads (asCompleteMem k h m).2 l.asComplete (asCompleteMem k h m).1 ∧
    (asCompleteMem k h m).1 = cellComplete m

/-- the loop `for i, u := range v { v[i] = asComplete(u) }` over a readable window -/
theorem acLoop_spec {k : Nat} (hrec : ACSpec k) {h : LHeap} {s : Slice} (hw : WF h s) {ls : List Loc}
    (hl : ReadsList h ls (read h s)) (hk : ∀ l ∈ ls, mdepth l ≤ k) (ltodo : List Loc) :
    ∀ (ldone : List Loc) (hc : LHeap), ls = ldone ++ ltodo → Erased h hc →
      ReadsList hc (Loc.asCompleteList ldone) ((read hc s).take ldone.length) →
      Erased h (acLoop (asCompleteMem k) s ltodo.length ldone.length hc) ∧
      ReadsList (acLoop (asCompleteMem k) s ltodo.length ldone.length hc) (Loc.asCompleteList ls)
        (read (acLoop (asCompleteMem k) s ltodo.length ldone.length hc) s) := by
  have hlen : ls.length = s.len := by rw [hl.length_eq, length_read hw]
  induction ltodo with
  | nil =>
    intro ldone hc e he hd
    simp only [List.append_nil] at e
    subst e
    refine ⟨he, ?_⟩
    rwa [List.take_of_length_le (by rw [length_read (he.wf hw), hlen]; exact Nat.le_refl _)] at hd
  | cons li rest ih =>
    intro ldone hc e he hd
    have hi : ldone.length < s.len := by rw [← hlen, e]; simp
    have hwc := he.wf hw
    -- the original cell `u0` reads as `li`; the current cell `u` is `u0` as it was or completed
    obtain ⟨l, u0, hli, hu0, hru0⟩ := hl.getElem (i := ldone.length) (by rw [length_read hw]; exact hi)
    obtain rfl : li = l := by rw [e] at hli; simpa using hli
    obtain ⟨u, hu⟩ : ∃ u, (read hc s)[ldone.length]? = some u :=
      ⟨_, List.getElem?_eq_getElem (by rw [length_read hwc]; exact hi)⟩
    have hcell : CellE u0 u := (he.read s).2 _ u0 u hu0 hu
    obtain ⟨li', hru, her⟩ := Reads.erased he li u0 u hru0 hcell
    have sp := hrec li' hc u (by rw [(Er.spec li li' her).2.1]; exact hk li (by rw [e]; simp)) hru
    rw [Er.asComplete_eq li li' her] at sp
    simp only [List.length_cons, acLoop, load_eq_read hi ▸ hu]
    generalize asCompleteMem k hc u = r at sp
    have hpos : s.off + ldone.length < (r.2.get s.arr).length := by
      have := (sp.1.wf hwc).2
      have := (sp.1.wf hwc).1
      omega
    have hcellc : (hc.get s.arr)[s.off + ldone.length]? = some u := by
      rw [getElem?_read, if_pos hi] at hu; exact hu
    have e3 : Erased r.2 (store r.2 s ldone.length r.1) := by
      refine (Erased.refl r.2).store _ _ _ hpos fun v hv => ?_
      rw [sp.2.2]
      rcases (sp.1 s.arr).2 _ u v hcellc hv with rfl | rfl
      · exact Or.inr rfl
      · exact Or.inl rfl
    have e2 : Erased hc (store r.2 s ldone.length r.1) := sp.1.trans e3
    have hrd : (read (store r.2 s ldone.length r.1) s)[ldone.length]? = some r.1 := by
      rw [getElem?_read, if_pos hi]
      unfold store
      rw [get_write_eq _ _ _ (lt_length_of_get hpos), getElem?_overwrite_one _ _ hpos, if_pos rfl]
    have hdone : ReadsList (store r.2 s ldone.length r.1) (Loc.asCompleteList (ldone ++ [li]))
        ((read (store r.2 s ldone.length r.1) s).take (ldone.length + 1)) := by
      rw [List.take_add_one, hrd, asCompleteList_append]
      exact ReadsList.append (ReadsList.erased_complete e2 hd ((e2.read s).take _))
        (readsList_singleton.2 (Reads.erased_complete e3 sp.2.1 (CellE.refl _)))
    have := ih (ldone ++ [li]) _ (by simp [e]) (he.trans e2) (by simpa using hdone)
    simpa using this

/-- **`asCompleteMem` with enough fuel**: only completions happen in the heap, the result reads as
`Loc.asComplete`, and the value returned is the completed cell (same slice headers) -/
theorem asCompleteMem_spec : ∀ k, ACSpec k := by
  intro k
  induction k with
  | zero => intro l h m hd _; have := mdepth_pos l; omega
  | succ k ih =>
    intro l h m hd hr
    -- the loop over the window of a `Joined` / `Ordered` whose parts are one level less deep
    have window : ∀ s ls, WF h s → ReadsList h ls (read h s) → mdepthList ls ≤ k →
        Erased h (acLoop (asCompleteMem k) s s.len 0 h) ∧
        ReadsList (acLoop (asCompleteMem k) s s.len 0 h) (Loc.asCompleteList ls)
          (read (acLoop (asCompleteMem k) s s.len 0 h) s) := by
      intro s ls hw hl hd
      have := acLoop_spec ih hw hl (fun l hlm => Nat.le_trans (mdepthList_le hlm) hd) ls [] h
        rfl (Erased.refl h) (by simp [Loc.asCompleteList, ReadsList])
      rwa [List.length_nil, hl.length_eq, length_read hw] at this
    cases m with
    | leaf l' =>
      obtain ⟨e, hc⟩ := reads_leaf.1 hr
      subst e
      simp only [asCompleteMem, cellComplete]
      exact ⟨Erased.refl h, (reads_contig (asComplete_contig hc)).2 rfl, trivial⟩
    | joined s =>
      obtain ⟨ls, e, hw, hl⟩ := reads_mjoined hr
      subst e
      have := window s ls hw hl (by simpa [mdepth] using hd)
      simp only [asCompleteMem, cellComplete, Loc.asComplete]
      exact ⟨this.1, reads_joined.2 ⟨s, rfl, this.1.wf hw, this.2⟩, trivial⟩
    | ordered s =>
      obtain ⟨ls, e, hw, hl⟩ := reads_mordered hr
      subst e
      have := window s ls hw hl (by simpa [mdepth] using hd)
      simp only [asCompleteMem, cellComplete, Loc.asComplete]
      exact ⟨this.1, reads_ordered.2 ⟨s, rfl, this.1.wf hw, this.2⟩, trivial⟩
    | compl m' =>
      obtain ⟨l1, e, hl⟩ := reads_mcompl hr
      subst e
      simp only [mdepth] at hd
      have sp := ih l1 h m' (by omega) hl
      simp only [asCompleteMem, cellComplete, Loc.asComplete]
      exact ⟨sp.1, reads_compl.2 ⟨_, rfl, sp.2.1⟩, by rw [sp.2.2]⟩

end Gts.Mem
