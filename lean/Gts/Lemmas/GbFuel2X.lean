/-
  C07, "no answer of the reader model is an artefact of its fuel": the GenBank reader with EVERY
  fuel a parameter.

  The model (Gts/Model/GenBankParse.lean, InsdcParse.lean, Origin.lean, LocText.lean) passes each
  of its loops a fuel computed from the bytes left (`n + 1`, `2n + 2`, `len + 2`,
  `length`, the constants 6 and 10).  `Fuels` holds one function per loop KIND that maps the model's
  fuel to the fuel actually passed; the definitions below are the model's definitions, statement
  for statement, with `g.<loop> (model fuel)` in the place of the model fuel and the `…X` versions of
  the sub-parsers in the place of the sub-parsers.  `Fuels.model` (every function the identity) is
  the model itself.  Gts/Lemmas/GbFuel2Agree.lean proves `genbankParserX g reg = genbankParser reg`, as
  a term, for every `g` that never lowers a fuel (`Fuels.Ge`).

  NOT model definitions: nothing here is executed by the driver or compared with the Go code; the
  correspondence is about the model, and the theorem ties these to the model.
-/
import Gts.Model.GenBankParse
namespace Gts.GenBank
open Gts.Pars

structure Fuels where
  /-- `splitOn` (`strings.Split`), model fuel `len(s) + 1` -/
  split : Nat → Nat
  /-- `natDigitsF` (`strconv.Itoa` of the REFERENCE number), model fuel `n + 1` -/
  itoa : Nat → Nat
  /-- `bodyMore` (continuation lines of a field body), model fuel `bytes left + 1` -/
  body : Nat → Nat
  /-- `dblinkMore`, model fuel `bytes left + 1` -/
  dblink : Nat → Nat
  /-- `taxonMore`, model fuel `bytes left + 1` -/
  taxon : Nat → Nat
  /-- `refSubfields`, model fuel `bytes left + 1` -/
  refs : Nat → Nat
  /-- `literalMore`, model fuel `bytes left + 1` -/
  literal : Nat → Nat
  /-- `qualifiers` (`pars.Many`), model fuel `bytes left + 1` -/
  quals : Nat → Nat
  /-- `tableMore` (key lines), model fuel `bytes left + 1` -/
  table : Nat → Nat
  /-- `LocParse.loc` (recursion depth AND list loop of `ParseLocation`), model fuel `bytes left + 2` -/
  loc : Nat → Nat
  /-- `digitsAux` (`Sprintf("%9d")` in the ORIGIN reader), model fuel `n + 1` -/
  digits : Nat → Nat
  /-- `walkChars`, model fuel 10 -/
  chars : Nat → Nat
  /-- `walkGroups`, model fuel 6 -/
  groups : Nat → Nat
  /-- `validateLines`, model fuel `length` -/
  validate : Nat → Nat
  /-- `slowLines`, model fuel `length` -/
  slow : Nat → Nat
  /-- `recordLoop`, model fuel `2·bytes left + 2` -/
  record : Nat → Nat
  /-- `parseAll` (the scan loop), model fuel `len(input) + 1` -/
  scan : Nat → Nat

def Fuels.model : Fuels :=
  ⟨id, id, id, id, id, id, id, id, id, id, id, id, id, id, id, id, id⟩

def Fuels.plus (k : Nat) : Fuels :=
  let f := fun n => n + k
  ⟨f, f, f, f, f, f, f, f, f, f, f, f, f, f, f, f, f⟩

structure Fuels.Ge (g : Fuels) : Prop where
  split : ∀ n, n ≤ g.split n
  itoa : ∀ n, n ≤ g.itoa n
  body : ∀ n, n ≤ g.body n
  dblink : ∀ n, n ≤ g.dblink n
  taxon : ∀ n, n ≤ g.taxon n
  refs : ∀ n, n ≤ g.refs n
  literal : ∀ n, n ≤ g.literal n
  quals : ∀ n, n ≤ g.quals n
  table : ∀ n, n ≤ g.table n
  loc : ∀ n, n ≤ g.loc n
  digits : ∀ n, n ≤ g.digits n
  chars : ∀ n, n ≤ g.chars n
  groups : ∀ n, n ≤ g.groups n
  validate : ∀ n, n ≤ g.validate n
  slow : ∀ n, n ≤ g.slow n
  record : ∀ n, n ≤ g.record n
  scan : ∀ n, n ≤ g.scan n

theorem Fuels.model_ge : Fuels.model.Ge := by
  constructor <;> intro n <;> exact Nat.le_refl n

theorem Fuels.plus_ge (k : Nat) : (Fuels.plus k).Ge := by
  constructor <;> intro n <;> exact Nat.le_add_right n k

variable (g : Fuels)

def splitX (sep s : Bytes) : List Bytes := splitOn sep (g.split (s.length + 1)) [] s

def flatFileSplitX (s : Bytes) : List Bytes :=
  let s := trimDot s
  if s.isEmpty then [] else splitX g (bs "; ") s

def asDateX (s : Bytes) : Option Date :=
  match splitX g [45] s with
  | [d, m, y] =>
    match atoi d, monthOf m, atoi y with
    | some day, some month, some year =>
      if day < 1 ∨ day > daysIn year month then none else some ⟨year, month, day⟩
    | _, _, _ => none
  | _ => none

def natDigitsX (n : Nat) : Bytes := natDigitsF (g.itoa (n + 1)) n

def itoaBX (n : Int) : Bytes := if n < 0 then 45 :: natDigitsX g n.natAbs else natDigitsX g n.natAbs

def locusParserX : P Locus := do
  push; push
  locusTry (lit (bs "LOCUS"))
  let sp1 ← spaces
  let name ← locusTry (word notSpace)
  let _ ← spaces
  let length ← locusTry int
  locusTry bpOrAa
  let _ ← spaces
  let mol ← locusTry (word notSpace)
  let _ ← spaces
  let top ← locusTry (word notSpace)
  let _ ← spaces
  let division ← divisionParser
  let _ ← spaces
  let dl ← line
  match asDateX g dl with
  | none => locusBack
  | some date =>
    drop; drop
    pure ⟨sp1.length + 5, name, length, mol, top, division, date⟩

def fieldBodyX (depth : Nat) (sep : UInt8) : P (Bytes × Nat) := do
  let l ← line
  let n := (← getS).rest.length
  bodyMore depth sep (g.body (n + 1)) l 0

def genericFieldX (name : Bytes) (depth : Nat) : P (Bytes × Nat × Nat) := do
  let v ← fieldName name depth
  let (b, k) ← fieldBodyX g depth 10
  pure (b, k, if k > 0 then 0 else v)

def definitionFieldX (depth : Nat) (f : Fields) : P (Fields × Bool) := do
  push
  let body : P (Bytes × Nat × Bytes) := do
    let _ ← fieldName (bs "DEFINITION") depth
    let rb := (← getS).rest
    let (b, k) ← fieldBodyX g depth 10
    pure (b, k, rb)
  match ← attempt body with
  | none => do pop; fail
  | some (p, k, rb) =>
    drop
    if !p.isEmpty && p.getLast? ≠ some 46 then do
      if k > 0 then patchFrames rb p
      fail
    pure ({ f with definition := trimDot p }, true)

def accessionFieldX (depth : Nat) (f : Fields) : P (Fields × Bool) := do
  let r ← mapped (genericFieldX g (bs "ACCESSION") depth)
  pure ({ f with accession := r.1 }, true)

def versionFieldX (depth : Nat) (f : Fields) : P (Fields × Bool) := do
  let r ← mapped (genericFieldX g (bs "VERSION") depth)
  pure ({ f with version := r.1 }, true)

def dblinkFieldX (depth : Nat) (f : Fields) : P (Fields × Bool) := do
  let _ ← fieldName (bs "DBLINK") depth
  let l ← line
  match dblinkPair l with
  | none => fail
  | some (db, id) =>
    let n := (← getS).rest.length
    dblinkMore depth (g.dblink (n + 1)) { f with dblink := dictSet f.dblink db id }

def keywordsFieldX (depth : Nat) (f : Fields) : P (Fields × Bool) := do
  let _ ← fieldName (bs "KEYWORDS") depth
  let (b, _) ← fieldBodyX g depth 32
  pure ({ f with keywords := flatFileSplitX g b }, true)

def sourceFieldX (depth : Nat) (f : Fields) : P (Fields × Bool) := do
  let r ← mapped (genericFieldX g (bs "SOURCE") depth)
  let f := { f with species := r.1 }
  match ← attempt (subfieldName (bs "ORGANISM") depth r.2.2 true) with
  | none => do clear; pure (f, false)
  | some _ =>
    let name ← line
    let n := (← getS).rest.length
    let tax ← taxonMore depth (g.taxon (n + 1)) []
    pure ({ f with organism := name, taxon := flatFileSplitX g tax }, true)

def refSubX (name : String) (depth stale : Nat) : P Bytes :=
  mapped (do
    subfieldName (bs name) depth stale false
    let (b, _) ← fieldBodyX g depth 10
    pure b)

def refAltsX (depth stale : Nat) (r : Reference) :
    List (String × (Reference → Bytes → Reference)) → P (Reference × Nat)
  | [] => do pop; fail
  | (n, set) :: rest => do
    match ← attempt (refSubX g n depth stale) with
    | some b => do drop; pure (set r b, b.length)
    | none => do
      if !(← pushed) then fail
      refAltsX depth stale r rest

def refSubfieldX (depth stale : Nat) (r : Reference) : P (Reference × Nat) := do
  push
  refAltsX g depth stale r refAltList

def refSubfieldsX (depth : Nat) : Nat → Nat → Reference → P Reference
  | 0, _, r => pure r
  | k + 1, stale, r => do
    match ← attempt (refSubfieldX g depth stale r) with
    | some (r', stale') => refSubfieldsX depth k stale' r'
    | none => pure r

def referenceFieldX (depth : Nat) (f : Fields) : P (Fields × Bool) := do
  let _ ← fieldName (bs "REFERENCE") depth
  let number ← int
  let w := (itoaBX g number).length
  let _ ← attempt (lit (sp (3 - w)))
  let info ← line
  let n := (← getS).rest.length
  let r ← refSubfieldsX g depth (g.refs (n + 1)) info.length
    { number := number, info := info, authors := [], group := [], title := [], journal := [],
      pubmed := none, comment := [] }
  pure ({ f with references := f.references ++ [r] }, true)

def commentFieldX (depth : Nat) (f : Fields) : P (Fields × Bool) := do
  let r ← mapped (genericFieldX g (bs "COMMENT") depth)
  pure ({ f with comments := f.comments ++ [r.1] }, true)

/- `quotedQualifierParser`: since 2612fae the loop that takes the continuation indent out of the value
is a counted loop over the token (`stripCont`, no fuel) — the model's `quotedValue` has no fuel to
replace and is used as it is. -/

def literalValueX (pre : Bytes) : P Bytes := do
  push
  let c ← (do match ← attempt next with | some c => pure c | none => do pop; fail)
  if c != 61 then do pop; fail
  advance1
  let l ← line
  push
  let n := (← getS).rest.length
  let v ← literalMore pre (g.literal (n + 1)) l
  drop
  pure v

def qualifierX (pre : Bytes) (reg : Registry) : P ((Bytes × Bytes) × Registry) := do
  let name ← qualifierName pre
  match reg.typeOf name with
  | .quoted => do let v ← quotedValue pre; pure ((name, v), reg)
  | .literal => do let v ← literalValueX g pre; pure ((name, v), reg)
  | .toggle => do let _ ← eol; pure ((name, []), reg)
  | .unknown =>
    match ← attempt (quotedValue pre) with
    | some v => pure ((name, v), reg.addQuoted name)
    | none =>
      match ← attempt (literalValueX g pre) with
      | some v => pure ((name, v), reg.addLiteral name)
      | none =>
        match ← attempt eol with
        | some _ => pure ((name, []), reg.addToggle name)
        | none => pure ((name, name), reg)

def qualifiersX (pre : Bytes) : Nat → Registry → List (Bytes × Bytes) → P (List (Bytes × Bytes) × Registry)
  | 0, reg, acc => pure (acc.reverse, reg)
  | f + 1, reg, acc => do
    match ← attempt (qualifierX g pre reg) with
    | some (q, reg') => qualifiersX pre f reg' (q :: acc)
    | none => pure (acc.reverse, reg)

def locationX : P Loc := do
  let s ← getS
  LocParse.loc (g.loc (s.rest.length + 2))

def keylineX (pre depth : Nat) : P (Bytes × Loc) := do
  lit (sp pre)
  let key ← word isSnake
  blanks (depth - (pre + key.length))
  let l ← locationX g
  let _ ← eol
  pure (key, l)

def firstKeylineX : P (Nat × Bytes × Nat × Loc) := do
  push; push
  let back : P Unit := do pop; pop
  let a ← spaces
  let key ← (do match ← attempt (word isSnake) with | some k => pure k | none => do back; fail)
  let b ← spaces
  let l ← (do match ← attempt (locationX g) with | some l => pure l | none => do back; fail)
  match ← attempt eol with
  | none => do back; fail
  | some _ => do drop; drop; pure (a.length, key, b.length, l)

def tableMoreX (pre depth : Nat) : Nat → Registry → List QFeature → P (List QFeature × Registry)
  | 0, reg, acc => pure (acc.reverse, reg)
  | f + 1, reg, acc => do
    match ← attempt (keylineX g pre depth) with
    | none => pure (acc.reverse, reg)
    | some (key, l) =>
      let n := (← getS).rest.length
      let (qs, reg') ← qualifiersX g (sp depth) (g.quals (n + 1)) reg []
      tableMoreX pre depth f reg' (⟨key, l, propsOfItems qs⟩ :: acc)

def tableX (reg : Registry) : P (List QFeature × Registry) := do
  let (pre, key, pst, l) ← firstKeylineX g
  let depth := pre + key.length + pst
  let n := (← getS).rest.length
  let (qs, reg') ← qualifiersX g (sp depth) (g.quals (n + 1)) reg []
  tableMoreX g pre depth (g.table (n + 1)) reg' [⟨key, l, propsOfItems qs⟩]

def featuresFieldX (reg : Registry) : P (List QFeature × Registry) := do
  lit (bs "FEATURES")
  let _ ← line
  clear
  tableX g reg

def decimalX (n : Nat) : Bytes := Origin.digitsAux (g.digits (n + 1)) n

def index9X (n : Nat) : Bytes :=
  let d := decimalX g n
  List.replicate (9 - d.length) 32 ++ d

def walkGroupsX (oob : Err) (length : Int) (i : Nat) : Nat → Nat → Bytes → Origin.Out Bytes
  | 0, _, rest => .ok rest
  | f + 1, j, rest =>
    if j < 60 ∧ ((i + j : Nat) : Int) < length then
      match rest with
      | [] => .error oob
      | c :: r =>
        if c != 32 then .error .fail else
        match Origin.walkChars oob length (i + j) (g.chars 10) 0 r with
        | .error e => .error e
        | .ok r' => walkGroupsX oob length i f (j + 10) r'
    else .ok rest

def walkLineX (oob : Err) (length : Int) (i : Nat) (rest : Bytes) : Origin.Out Bytes :=
  let pre := index9X g (i + 1)
  if pre.isPrefixOf rest then walkGroupsX g oob length i (g.groups 6) 0 (rest.drop pre.length)
  else .error .fail

def validateLinesX (length : Int) : Nat → Nat → Bytes → Origin.Out Unit
  | 0, _, _ => .ok ()
  | f + 1, i, rest =>
    if (i : Int) < length then
      match walkLineX g .panic length i rest with
      | .error e => .error e
      | .ok r =>
        match r with
        | [] => .error .panic
        | c :: r' => if c != 10 then .error .fail else validateLinesX length f (i + 60) r'
    else .ok ()

def validateOriginX (p : Bytes) (length : Int) : Origin.Out Unit :=
  validateLinesX g length (g.validate length.toNat) 0 p

def slowLinesX (length : Int) (cap : Nat) : Nat → Nat → Bytes → Bytes → Origin.Out (Bytes × Bytes)
  | 0, _, st, acc => .ok (acc, st)
  | f + 1, i, st, acc =>
    if (i : Int) < length then
      let (q, st') := Origin.splitLine st
      match walkLineX g .fail length i q with
      | .error _ => .error .fail
      | .ok r =>
        if !r.all (· == 32) then .error .fail else
        let extent := q.length - r.length
        let acc := (acc ++ q.take extent).take cap
        if acc.length < cap then slowLinesX length cap f (i + 60) st' (acc ++ [10])
        else .error .panic
    else .ok (acc, st)

def originFieldX (length : Int) (depth : Nat) : P Bytes := do
  let _ ← fieldName (bs "ORIGIN") depth
  let _ ← line
  clear
  if length > 1000000020 then fail
  let n := Origin.toOriginLength length
  if n < 0 then panic
  let s ← getS
  if s.rest.length < n.toNat then fail
  let p := s.rest.take n.toNat
  let buf ←
    match validateOriginX g p length with
    | .ok () => do advanceN n.toNat; pure p
    | .error .panic => panic
    | .error .fail =>
      match slowLinesX g length n.toNat (g.slow length.toNat) 0 s.rest [] with
      | .error .panic => panic
      | .error .fail => fail
      | .ok (acc, st') => do
        setS { s with rest := st' }
        pure (acc ++ List.replicate (n.toNat - acc.length) 0)
  match ← attempt next with
  | some 32 => fail
  | _ => pure buf

def extraFieldX (depth : Nat) (f : Fields) : P (Fields × Bool) := do
  let name ← word isUpper
  let _ ← fieldPadding name.length depth
  let (b, _) ← fieldBodyX g depth 10
  pure ({ f with extra := f.extra ++ [(name, b)] }, true)

def featuresSubX : Sub → P (Sub × Bool) := fun (f, _, o, r) => do
  let (t, r') ← featuresFieldX g r
  pure ((f, t, o, r'), true)

def originSubX (length : Int) (depth : Nat) : Sub → P (Sub × Bool) := fun (f, t, _, r) => do
  let b ← originFieldX g length depth
  pure ((f, t, .buffer b, r), true)

def fieldParsersX (length : Int) (depth : Nat) : List (Sub → P (Sub × Bool)) :=
  [liftF (definitionFieldX g depth), liftF (accessionFieldX g depth), liftF (versionFieldX g depth),
   liftF (dblinkFieldX g depth), liftF (keywordsFieldX g depth), liftF (sourceFieldX g depth),
   liftF (referenceFieldX g depth), liftF (commentFieldX g depth), featuresSubX g,
   liftF (contigField depth), originSubX g length depth]

def tryAllX (length : Int) (depth : Nat) (s : Sub) : P Step := do
  match ← tryList (fieldParsersX g length depth) s with
  | (s', true) => pure (.parsed s')
  | (s', false) =>
    let (f, t, o, r) := s'
    push
    match ← attempt (extraFieldX g depth f) with
    | some (f', _) => do drop; pure (.parsed (f', t, o, r))
    | none => do pop; pure (.skip s')

def recordLoopX (length : Int) (depth : Nat) : Nat → Sub → P Sub
  | 0, _ => fail
  | k + 1, s => do
    match ← attempt endMark with
    | some _ => pure s
    | none =>
      match ← tryAllX g length depth s with
      | .parsed s' => recordLoopX length depth k s'
      | .skip s' => do
        let _ ← line
        if (← getS).rest.isEmpty then fail
        recordLoopX length depth k s'

def genbankParserX (reg : Registry) : P (Record × Registry) := do
  let l ← locusParserX g
  clear
  if l.length < 0 ∨ Origin.toOriginLength l.length > 9223372036854775807 then fail
  if !isMolecule l.molecule then fail
  match asTopology l.topology with
  | none => fail
  | some top =>
    let f : Fields := { Fields.empty with
      locusName := l.name, molecule := l.molecule, topology := top, division := l.division,
      date := l.date }
    let n := (← getS).rest.length
    let (f, tab, org, reg') ← recordLoopX g l.length l.depth (g.record (2 * n + 2)) (f, [], .buffer [], reg)
    let m := org.len
    if m ≠ l.length ∧ (m ≠ 0 ∨ f.contigAcc.isEmpty) then fail
    pure (⟨f, tab, org⟩, reg')

def parseAllX (reg : Registry) : Nat → Bytes → List Record → Option (List Record × Registry × Bool)
  | 0, _, acc => some (acc.reverse, reg, false)
  | k + 1, input, acc =>
    if input.isEmpty then some (acc.reverse, reg, true)
    else
      match (genbankParserX g reg).run' ⟨input, []⟩ with
      | (.ok (r, reg'), s) => parseAllX reg' k s.rest (r :: acc)
      | (.error .fail, _) => some (acc.reverse, reg, false)
      | (.error .panic, _) => none

def readAllX (reg : Registry) (input : Bytes) : Option (List Record × Registry × Bool) :=
  parseAllX g reg (g.scan (input.length + 1)) input []

end Gts.GenBank
