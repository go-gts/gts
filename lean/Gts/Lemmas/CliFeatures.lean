/-
  Helper lemmas for the FEATURE clause of C15 (`gts delete`, `gts insert`, `gts infix`): what the
  scan loops of `Gts/Model/Cli.lean` do to the location of every feature.

  * the location a feature has after the loop (`delLoc`, `insLoc`), the K2 guard folded along the
    same loop (`delAbs`, `insAbs`), the feature tables (`deleteSegs_feats`, `deleteSegs_erase_feats`,
    `insertAt_feats_perm`);
  * the position re-mappings composed along the loop (`composeDel`, `composeIns`) and their closed
    forms in the INPUT's coordinates (`unionDelMap`, `multiInsMap`) — pure arithmetic on sorted
    segments / descending indices;
  * the denotation theorems (`delLoc_den`, `insLoc_den`, `embLoc_den`);
  * the features `gts delete -e` drops in terms of the input, the offset of `unionDelMap` as a count
    (`delOffset_eq_count`).
  Core Lean only (plus the C03 / C04 property modules `Gts/Lemmas/Cli.lean` already uses, and C02 for the table
  of one `gts.Insert` / `gts.Embed`).
-/
import Gts.Lemmas.Cli
import Gts.Lemmas.Guest
import Gts.Lemmas.Table
import Gts.Props.C02
namespace Gts.Cli
open Gts Loc Reg

/-- the loop, one segment at a time (the first segment of the ascending list is cut LAST) -/
theorem deleteSegs_cons (erase : Bool) (a : Seg) (ss : List Seg) (s : Seq) :
    deleteSegs erase (a :: ss) s =
      if erase then (deleteSegs erase ss s).erase a.1 (Reg.gabs (a.2 - a.1))
      else (deleteSegs erase ss s).delete a.1 (Reg.gabs (a.2 - a.1)) := by
  unfold deleteSegs
  simp only [List.reverse_cons, List.foldl_append, List.foldl_cons, List.foldl_nil]

theorem deleteSegs_nil (erase : Bool) (s : Seq) : deleteSegs erase [] s = s := rfl

/-- the location of a feature after the loop of `gts delete` over the (ascending) segments `ss`:
`Expand(head, -len)` for every segment, from the LAST segment to the first -/
def delLoc : List Seg → Loc → Loc
  | [], l => l
  | sg :: ss, l => (delLoc ss l).expand sg.1 (-(Reg.gabs (sg.2 - sg.1)))

/-- the K2 guard of `delLoc`: `expandAbs` of every step, folded along the same loop -/
def delAbs : List Seg → Loc → Bool
  | [], _ => false
  | sg :: ss, l => delAbs ss l || expandAbs (delLoc ss l) sg.1 (-(Reg.gabs (sg.2 - sg.1)))

theorem deleteSegs_feats (ss : List Seg) (s : Seq) :
    (deleteSegs false ss s).feats = s.feats.map fun f => { f with loc := delLoc ss f.loc } := by
  induction ss with
  | nil => simp [deleteSegs_nil, delLoc]
  | cons a ss ih =>
    rw [deleteSegs_cons]
    simp only [Bool.false_eq_true, if_false]
    rw [C03.delete_feats, ih, List.map_map]
    rfl

/-- which features `gts delete -e` keeps: at every cut, the `source` features and those whose
CURRENT location (after the cuts to the right) is not wholly within the segment being cut -/
def eraseKeep : List Seg → Feature → Bool
  | [], _ => true
  | sg :: ss, f => eraseKeep ss f &&
      (decide (f.key = "source") || !((delLoc ss f.loc).within sg.1 (sg.1 + Reg.gabs (sg.2 - sg.1))))

theorem deleteSegs_erase_feats (ss : List Seg) (s : Seq) :
    (deleteSegs true ss s).feats =
      (s.feats.filter (eraseKeep ss)).map fun f => { f with loc := delLoc ss f.loc } := by
  induction ss with
  | nil =>
    have h1 : s.feats.filter (eraseKeep []) = s.feats := List.filter_eq_self.mpr (fun _ _ => rfl)
    rw [deleteSegs_nil, h1]
    simp [delLoc]
  | cons a ss ih =>
    rw [deleteSegs_cons]
    simp only [if_true]
    rw [C03.erase_spec, C03.delete_feats, ih, List.filter_map, List.map_map, List.filter_filter]
    congr 1
    apply List.filter_congr
    intro f _
    simp only [eraseKeep, Function.comp]
    rw [Bool.and_comm]

/-- the re-mappings of the single cuts, composed in the order of the loop -/
def composeDel : List Seg → Int → Option Int
  | [], x => some x
  | sg :: ss, x => (composeDel ss x).bind (delMap sg.1 (Reg.gabs (sg.2 - sg.1)))

/-- total length of the segments that end at or before `x` -/
def delOffset : List Seg → Int → Int
  | [], _ => 0
  | sg :: ss, x => (if sg.2 ≤ x then sg.2 - sg.1 else 0) + delOffset ss x

/-- SPEC of a multi-segment deletion, in the INPUT's coordinates: a position inside some segment
is removed; any other position moves left by the total length of the segments that end at or
before it -/
def unionDelMap (segs : List Seg) (x : Int) : Option Int :=
  if segsCover segs x then none else some (x - delOffset segs x)

theorem delOffset_nonneg (ss : List Seg) (hf : Fwd ss) (x : Int) : 0 ≤ delOffset ss x := by
  induction ss with
  | nil => simp [delOffset]
  | cons a ss ih =>
    have ha := hf.cons.1
    have := ih hf.cons.2
    simp only [delOffset]
    split <;> omega

theorem delOffset_zero_of_lt (ss : List Seg) (hf : Fwd ss) (x : Int) (h : ∀ b ∈ ss, x < b.1) :
    delOffset ss x = 0 := by
  induction ss with
  | nil => rfl
  | cons b ss ih =>
    have hb := h b (List.mem_cons_self ..)
    have hfb := hf.cons.1
    simp only [delOffset]
    rw [if_neg (by omega), ih hf.cons.2
      (fun o ho => h o (List.mem_cons_of_mem _ ho))]
    omega

theorem delOffset_le (ss : List Seg) (hf : Fwd ss) (hp : ss.Pairwise (fun a b => a.2 ≤ b.1))
    (lo x : Int) (hlo : ∀ b ∈ ss, lo ≤ b.1) (hx : lo ≤ x) : delOffset ss x ≤ x - lo := by
  induction ss generalizing lo with
  | nil => simp only [delOffset]; omega
  | cons a ss ih =>
    have ha := hf.cons.1
    have hla := hlo a (List.mem_cons_self ..)
    have hpp := List.pairwise_cons.mp hp
    have hf' : Fwd ss := hf.cons.2
    simp only [delOffset]
    by_cases h : a.2 ≤ x
    · rw [if_pos h]
      have := ih hf' hpp.2 a.2 hpp.1 h
      omega
    · rw [if_neg h, delOffset_zero_of_lt ss hf' x (fun b hb => by have := hpp.1 b hb; omega)]
      omega

theorem composeDel_eq_unionDelMap (ss : List Seg) (hf : Fwd ss)
    (hp : ss.Pairwise (fun a b => a.2 ≤ b.1)) (x : Int) : composeDel ss x = unionDelMap ss x := by
  induction ss with
  | nil => simp [composeDel, unionDelMap, delOffset]
  | cons a ss ih =>
    have ha := hf.cons.1
    have hpp := List.pairwise_cons.mp hp
    have hf' : Fwd ss := hf.cons.2
    simp only [composeDel]
    rw [ih hf' hpp.2, gabs_of_nonneg _ (by omega)]
    unfold unionDelMap
    simp only [delOffset, segsCover_cons]
    by_cases hc : segsCover ss x
    · rw [if_pos hc, if_pos (Or.inr hc)]; rfl
    · rw [if_neg hc, Option.bind_some]
      simp only [hc, or_false]
      by_cases hx : x < a.2
      · -- no segment of `ss` ends at or before `x`
        rw [delOffset_zero_of_lt ss hf' x (fun b hb => by have := hpp.1 b hb; omega)]
        split
        · exact delMap_eq_none.mpr (by omega)
        · rw [if_neg (by omega)]
          exact (Loc.delMap_eq_some (by omega)).mpr (by omega)
      · have h1 := delOffset_le ss hf' hpp.2 a.2 x hpp.1 (by omega)
        have h0 := delOffset_nonneg ss hf' x
        rw [if_neg (by omega), if_pos (by omega)]
        exact (Loc.delMap_eq_some (by omega)).mpr (by omega)

theorem gabs_nonneg (x : Int) : 0 ≤ Reg.gabs x := by unfold Reg.gabs; split <;> omega

theorem composeDel_inj (ss : List Seg) (x x' y : Int) (h : composeDel ss x = some y)
    (h' : composeDel ss x' = some y) : x = x' := by
  induction ss generalizing y with
  | nil =>
    simp only [composeDel, Option.some.injEq] at h h'
    omega
  | cons a ss ih =>
    obtain ⟨z, hz, h⟩ := Option.bind_eq_some_iff.mp h
    obtain ⟨z', hz', h'⟩ := Option.bind_eq_some_iff.mp h'
    obtain rfl := delMap_inj _ _ z z' y h h'
    exact ih z hz hz'

/-- one cut of length `k ≥ 0` (a zero-length segment `Segment{p,p}` survives `Minimize`; its
"cut" is `Expand(p, 0)`, which only re-`Join`s) -/
theorem expand_del0 (l : Loc) (i k : Int) (hw : wf l = true) (hk : 0 ≤ k) :
    (expandAbs l i (-k) = false → den (expand l i (-k)) ≼ filterMapPos (delMap i k) (den l)) ∧
    wf (expand l i (-k)) = true := by
  refine ⟨fun ha => ?_, ?_⟩
  · have h := (expand_den_any l i (-k) hw ha).2 (by omega)
    rwa [Int.neg_neg] at h
  · by_cases h0 : k = 0
    · subst h0; exact (expand_ins l i 0 hw (Int.le_refl 0)).2
    · exact (expand_del l i k hw (by omega)).2

theorem delLoc_den (ss : List Seg) (l : Loc) (hw : wf l = true) :
    (delAbs ss l = false → den (delLoc ss l) ≼ filterMapPos (composeDel ss) (den l)) ∧
    wf (delLoc ss l) = true := by
  induction ss with
  | nil =>
    refine ⟨fun _ => ?_, hw⟩
    simp only [delLoc]
    rw [show composeDel [] = fun x => some x from rfl, filterMapPos_some_id]
    exact Refines.refl _
  | cons a ss ih =>
    have hstep := expand_del0 (delLoc ss l) a.1 (Reg.gabs (a.2 - a.1)) ih.2 (gabs_nonneg _)
    refine ⟨?_, hstep.2⟩
    intro ha
    simp only [delAbs, Bool.or_eq_false_iff] at ha
    have h1 := hstep.1 ha.2
    have h2 := filterMapPos_refines (delMap a.1 (Reg.gabs (a.2 - a.1))) (ih.1 ha.1)
    rw [filterMapPos_comp] at h2
    exact h1.trans h2

theorem insertAt_cons (embed : Bool) (i : Int) (idx : List Int) (host guest : Seq) :
    insertAt embed (i :: idx) host guest =
      insertAt embed idx (if embed then host.embed i guest else host.insert i guest) guest := rfl

/-- the location of a HOST feature after the loop of `gts insert` (`embed = false`: `Shift(i, n)`)
or `gts infix` (`embed = true`: `Expand(i, n)`) over the indices `idx`, first index first -/
def insLoc (embed : Bool) (n : Int) : List Int → Loc → Loc
  | [], l => l
  | i :: idx, l => insLoc embed n idx (if embed then l.expand i n else l.shift i n)

/-- the K2 guard of `insLoc`: `shiftAbs` / `expandAbs` of every step, folded along the same loop -/
def insAbs (embed : Bool) (n : Int) : List Int → Loc → Bool
  | [], _ => false
  | i :: idx, l => (if embed then expandAbs l i n else shiftAbs l i n) ||
      insAbs embed n idx (if embed then l.expand i n else l.shift i n)

/-- a feature re-located by the rest of the loop -/
def relocate (embed : Bool) (n : Int) (idx : List Int) (f : Feature) : Feature :=
  { f with loc := insLoc embed n idx f.loc }

/-- the features of the guest copies: the copy inserted at index `i` enters the table re-located
by `Expand(0, i)` and is then a host feature for the remaining indices -/
def guestCopies (embed : Bool) (n : Int) (gf : Table) : List Int → Table
  | [] => []
  | i :: idx => (gf.map fun f => relocate embed n idx { f with loc := f.loc.expand 0 i }) ++
      guestCopies embed n gf idx

theorem relocate_nil (embed : Bool) (n : Int) (f : Feature) : relocate embed n [] f = f := rfl

theorem insertAt_feats_perm (embed : Bool) (idx : List Int) (host guest : Seq) :
    (insertAt embed idx host guest).feats.Perm
      (host.feats.map (relocate embed guest.len idx) ++ guestCopies embed guest.len guest.feats idx) := by
  induction idx generalizing host with
  | nil =>
    simp only [guestCopies, List.append_nil, List.map_id'' (relocate_nil embed guest.len)]
    exact List.Perm.refl _
  | cons i idx ih =>
    rw [insertAt_cons]
    refine (ih _).trans ?_
    simp only [guestCopies]
    rw [← List.append_assoc]
    refine List.Perm.append_right _ ?_
    -- one step of the loop is `gts.Insert` / `gts.Embed`: C02 says what its table is
    cases embed
    · refine ((C02.insert_table_perm host guest i).map _).trans ?_
      rw [List.map_append, List.map_map, List.map_map]
      exact List.Perm.refl _
    · refine ((C02.embed_table_perm host guest i).map _).trans ?_
      rw [List.map_append, List.map_map, List.map_map]
      exact List.Perm.refl _

theorem guestCopies_length (embed : Bool) (n : Int) (gf : Table) (idx : List Int) :
    (guestCopies embed n gf idx).length = idx.length * gf.length := by
  induction idx with
  | nil => simp [guestCopies]
  | cons i idx ih =>
    simp only [guestCopies, List.length_append, List.length_map, ih, List.length_cons]
    rw [Nat.add_mul, Nat.one_mul]; omega

theorem mem_guestCopies (embed : Bool) (n : Int) (gf : Table) (pre : List Int) (i : Int)
    (post : List Int) (f : Feature) (hf : f ∈ gf) :
    relocate embed n post { f with loc := f.loc.expand 0 i } ∈
      guestCopies embed n gf (pre ++ i :: post) := by
  induction pre with
  | nil =>
    simp only [List.nil_append, guestCopies]
    exact List.mem_append_left _ (List.mem_map_of_mem hf)
  | cons a pre ih =>
    simp only [List.cons_append, guestCopies]
    exact List.mem_append_right _ ih

/-- the re-mappings of the single insertions, composed in the order of the loop -/
def composeIns (n : Int) : List Int → Int → Int
  | [], x => x
  | i :: idx, x => composeIns n idx (insMap i n x)

/-- SPEC of a multi-site insertion of guests of length `g`, in the INPUT's coordinates: position
`x` moves right by one guest length per head at or before it (`h ≤ x` moves, as in `insMap`) -/
def multiInsMap (heads : List Int) (g : Int) (x : Int) : Int :=
  x + g * (heads.countP fun h => decide (h ≤ x) : Nat)

theorem multiInsMap_perm {a b : List Int} (h : a.Perm b) (g x : Int) :
    multiInsMap a g x = multiInsMap b g x := by
  unfold multiInsMap
  rw [h.countP_eq]

theorem countP_le_eq_length (idx : List Int) (x : Int) (h : ∀ a ∈ idx, a ≤ x) :
    (idx.countP fun a => decide (a ≤ x)) = idx.length :=
  List.countP_eq_length.mpr fun a ha => decide_eq_true (h a ha)

theorem composeIns_eq_multiInsMap (n : Int) (hn : 0 ≤ n) (idx : List Int)
    (hs : idx.Pairwise (fun a b => b ≤ a)) (x : Int) : composeIns n idx x = multiInsMap idx n x := by
  induction idx generalizing x with
  | nil => simp [composeIns, multiInsMap]
  | cons i idx ih =>
    have hp := List.pairwise_cons.mp hs
    simp only [composeIns]
    rw [ih hp.2]
    unfold multiInsMap insMap
    by_cases h : x < i
    · rw [if_pos h, List.countP_cons_of_neg (by simp only [decide_eq_true_eq]; omega)]
    · rw [if_neg h, List.countP_cons_of_pos (by simp only [decide_eq_true_eq]; omega)]
      rw [countP_le_eq_length idx (x + n) fun a ha => by have := hp.1 a ha; omega,
        countP_le_eq_length idx x fun a ha => by have := hp.1 a ha; omega]
      simp only [Int.natCast_add, Int.natCast_one, Int.mul_add, Int.mul_one]
      omega

theorem multiInsMap_of_ge (idx : List Int) (n x : Int) (h : ∀ a ∈ idx, a ≤ x) :
    multiInsMap idx n x = x + n * idx.length := by
  unfold multiInsMap
  rw [countP_le_eq_length idx x h]

theorem multiInsMap_le (idx : List Int) (n x : Int) (hn : 0 ≤ n) :
    x ≤ multiInsMap idx n x ∧ multiInsMap idx n x ≤ x + n * idx.length := by
  unfold multiInsMap
  have h1 : (idx.countP fun h => decide (h ≤ x)) ≤ idx.length := List.countP_le_length
  have h2 : n * ((idx.countP fun h => decide (h ≤ x) : Nat) : Int) ≤ n * (idx.length : Int) :=
    Int.mul_le_mul_of_nonneg_left (by omega) hn
  have h3 : 0 ≤ n * ((idx.countP fun h => decide (h ≤ x) : Nat) : Int) :=
    Int.mul_nonneg hn (by omega)
  omega

theorem composeIns_inj (n : Int) (hn : 0 ≤ n) (idx : List Int) (x x' : Int)
    (h : composeIns n idx x = composeIns n idx x') : x = x' := by
  induction idx generalizing x x' with
  | nil => exact h
  | cons i idx ih => exact insMap_inj i n hn x x' (ih _ _ h)

theorem insLoc_den (n : Int) (hn : 0 ≤ n) (idx : List Int) (l : Loc) (hw : wf l = true) :
    (insAbs false n idx l = false →
      den (insLoc false n idx l) ≼ mapPos (composeIns n idx) (den l)) ∧
    wf (insLoc false n idx l) = true := by
  induction idx generalizing l with
  | nil =>
    refine ⟨fun _ => ?_, hw⟩
    simp only [insLoc]
    rw [show composeIns n [] = fun x => x from rfl, mapPos_id]
    exact Refines.refl _
  | cons i idx ih =>
    have hstep := shift_ins l i n hw hn
    have h := ih (l.shift i n) hstep.2
    simp only [insLoc, Bool.false_eq_true, if_false]
    refine ⟨?_, h.2⟩
    intro ha
    simp only [insAbs, Bool.false_eq_true, if_false, Bool.or_eq_false_iff] at ha
    have h1 := h.1 ha.2
    have h2 := mapPos_refines (composeIns n idx) (hstep.1 ha.1)
    rw [mapPos_mapPos] at h2
    exact h1.trans h2

/-- output positions of the guest copies: the copy inserted at `i` is moved right by every later
insertion (all at indices `≤ i`) -/
def copyStarts (n : Int) : List Int → List Int
  | [] => []
  | i :: idx => (i + n * idx.length) :: copyStarts n idx

/-- drop the residues of all guest copies `[c, c+n)`, `c ∈ cs` -/
def stripGuests (cs : List Int) (n : Int) (d : List Pos) : List Pos :=
  d.filter fun p => cs.all fun c => decide (p.1 < c ∨ c + n ≤ p.1)

theorem stripGuests_nil (n : Int) (d : List Pos) : stripGuests [] n d = d := by
  unfold stripGuests
  simp

theorem stripGuests_cons (c : Int) (cs : List Int) (n : Int) (d : List Pos) :
    stripGuests (c :: cs) n d = stripGuest c n (stripGuests cs n d) := by
  unfold stripGuests stripGuest
  rw [List.filter_filter]
  apply List.filter_congr
  intro p _
  simp only [List.all_cons]

theorem stripGuest_mapPos (c n : Int) (f : Int → Int) (d : List Pos) :
    stripGuest c n (mapPos f d) = mapPos f (d.filter fun p => decide (f p.1 < c ∨ c + n ≤ f p.1)) := by
  unfold stripGuest mapPos
  rw [List.filter_map]
  rfl

theorem embLoc_den (n : Int) (hn : 0 ≤ n) (idx : List Int) (hs : idx.Pairwise (fun a b => b ≤ a))
    (l : Loc) (hw : wf l = true) :
    (insAbs true n idx l = false →
      stripGuests (copyStarts n idx) n (den (insLoc true n idx l)) ≼
        mapPos (composeIns n idx) (den l)) ∧
    wf (insLoc true n idx l) = true := by
  induction idx generalizing l with
  | nil =>
    refine ⟨fun _ => ?_, hw⟩
    simp only [insLoc, copyStarts, stripGuests_nil]
    rw [show composeIns n [] = fun x => x from rfl, mapPos_id]
    exact Refines.refl _
  | cons i idx ih =>
    have hp := List.pairwise_cons.mp hs
    have hstep := expand_ins l i n hw hn
    have h := ih hp.2 (l.expand i n) hstep.2
    simp only [insLoc, if_true]
    refine ⟨?_, h.2⟩
    intro ha
    simp only [insAbs, if_true, Bool.or_eq_false_iff] at ha
    have h1 := (h.1 ha.2).filter (fun p => decide (p.1 < i + n * idx.length ∨ i + n * idx.length + n ≤ p.1))
    have h2 := mapPos_refines (composeIns n idx) (hstep.1 ha.1)
    rw [mapPos_mapPos] at h2
    simp only [copyStarts, stripGuests_cons]
    refine (h1.trans ?_).trans h2
    apply Refines.of_eq
    show stripGuest (i + n * idx.length) n (mapPos (composeIns n idx) (den (l.expand i n))) = _
    rw [stripGuest_mapPos]
    congr 1
    unfold stripGuest
    apply List.filter_congr
    intro p _
    rw [composeIns_eq_multiInsMap n hn idx hp.2]
    apply decide_eq_decide.mpr
    by_cases hx : i ≤ p.1
    · rw [multiInsMap_of_ge idx n p.1 (fun a ha => by have := hp.1 a ha; omega)]
      omega
    · have := multiInsMap_le idx n p.1 hn
      omega

/-- the residues of a guest feature, translated to the insertion index `i` (`Expand(0, i)`) and then moved
by the later insertions (all at indices `≤ i`): a translation by the copy's OUTPUT position -/
theorem guest_remap (n : Int) (hn : 0 ≤ n) (i : Int) (hi : 0 ≤ i) (post : List Int)
    (hs : post.Pairwise (fun a b => b ≤ a)) (hpost : ∀ a ∈ post, a ≤ i) (l : Loc)
    (hw : wf l = true) (hnn : nonneg l = true) (g1 : expandAbs l 0 i = false) :
    mapPos (composeIns n post) (den (l.expand 0 i)) ≼ mapPos (· + (i + n * post.length)) (den l) := by
  have h := mapPos_refines (composeIns n post) (guest_translate l i hw hnn hi g1)
  rw [mapPos_mapPos, mapPos_congr (fun x => composeIns n post (x + i)) (· + (i + n * post.length)) (den l) fun p hp => by
    have h0 := den_nonneg l hw hnn p hp
    rw [composeIns_eq_multiInsMap n hn post hs,
      multiInsMap_of_ge post n (p.1 + i) (fun a ha => by have := hpost a ha; omega)]
    omega] at h
  exact h

theorem drop_splice (X g : List UInt8) (h p : Nat) (hhp : h ≤ p) (hX : h ≤ X.length) :
    (Seq.spliceBytes X h g).drop (p + g.length) = X.drop p := by
  unfold Seq.spliceBytes
  rw [List.drop_append, List.drop_eq_nil_of_le (by rw [List.length_append, List.length_take]; omega),
    List.nil_append, List.drop_drop, List.length_append, List.length_take]
  congr 1
  omega

theorem foldl_splice_drop (post : List Int) (g X : List UInt8) (p : Nat)
    (h : ∀ a ∈ post, 0 ≤ a ∧ a ≤ (p : Int) ∧ a ≤ (X.length : Int)) :
    (post.foldl (fun out i => Seq.spliceBytes out i.toNat g) X).drop (p + post.length * g.length) =
      X.drop p := by
  induction post generalizing X p with
  | nil => simp
  | cons a post ih =>
    have ha := h a (List.mem_cons_self ..)
    rw [List.foldl_cons]
    have e : p + (a :: post).length * g.length = (p + g.length) + post.length * g.length := by
      rw [List.length_cons, Nat.add_mul, Nat.one_mul]; omega
    rw [e, ih (Seq.spliceBytes X a.toNat g) (p + g.length) (fun b hb => by
      have := h b (List.mem_cons_of_mem _ hb)
      rw [Seq.spliceBytes_length]
      omega)]
    exact drop_splice X g a.toNat p (by omega) (by omega)

theorem foldl_splice_copy (pre : List Int) (i : Int) (post : List Int) (g X : List UInt8)
    (hi : 0 ≤ i ∧ i ≤ (X.length : Int)) (hpost : ∀ a ∈ post, 0 ≤ a ∧ a ≤ i) :
    (((pre ++ i :: post).foldl (fun out i => Seq.spliceBytes out i.toNat g) X).drop
      (i.toNat + post.length * g.length)).take g.length = g := by
  rw [List.foldl_append, List.foldl_cons]
  have hB : X.length ≤ (pre.foldl (fun out i => Seq.spliceBytes out i.toNat g) X).length := by
    rw [foldl_splice_length]; omega
  generalize pre.foldl (fun out i => Seq.spliceBytes out i.toNat g) X = B at hB
  rw [foldl_splice_drop post g _ i.toNat (fun a ha => by
    have := hpost a ha
    rw [Seq.spliceBytes_length]
    omega)]
  rw [Seq.spliceBytes, List.append_assoc, List.drop_left' (by rw [List.length_take]; omega), List.take_left]

theorem delMap_nonneg (i k x y : Int) (hi : 0 ≤ i) (hx : 0 ≤ x) (h : delMap i k x = some y) : 0 ≤ y := by
  rcases delMap_eq_some h with h | h <;> omega

theorem cutB_get (sg : Seg) (bs : List UInt8) (h0 : 0 ≤ sg.1) (hf : sg.1 ≤ sg.2) (x y : Int)
    (hx : 0 ≤ x) (h : delMap sg.1 (Reg.gabs (sg.2 - sg.1)) x = some y) :
    (cutB sg bs)[y.toNat]? = bs[x.toNat]? := by
  -- everything is a natural number: cast first (`omega` over `Int.toNat` is slow to check)
  obtain ⟨a, b⟩ := sg
  obtain ⟨a, rfl⟩ := Int.eq_ofNat_of_zero_le h0
  obtain ⟨b, rfl⟩ := Int.eq_ofNat_of_zero_le (Int.le_trans h0 hf)
  obtain ⟨x, rfl⟩ := Int.eq_ofNat_of_zero_le hx
  unfold cutB
  dsimp only at hf h ⊢
  rw [gabs_of_nonneg _ (by omega)] at h ⊢
  rw [show (a : Int) + (b - a) = b by omega, Int.toNat_natCast, Int.toNat_natCast, Int.toNat_natCast,
    getElem?_take_append_drop _ _ _ _ (by omega)]
  rcases delMap_eq_some h with ⟨h1, rfl⟩ | ⟨h1, rfl⟩
  · rw [Int.toNat_natCast, if_pos (by omega)]
  · rw [show (x : Int) - (b - a) = ((x - (b - a) : Nat) : Int) by omega, Int.toNat_natCast, if_neg (by omega)]
    congr 1; omega

theorem foldr_cutB_get (ss : List Seg) (bs : List UInt8) (hw : ∀ o ∈ ss, 0 ≤ o.1 ∧ o.1 ≤ o.2)
    (x y : Int) (hx : 0 ≤ x) (h : composeDel ss x = some y) :
    0 ≤ y ∧ (ss.foldr cutB bs)[y.toNat]? = bs[x.toNat]? := by
  induction ss generalizing y with
  | nil =>
    simp only [composeDel, Option.some.injEq] at h
    subst h
    exact ⟨hx, rfl⟩
  | cons a ss ih =>
    have ha := hw a (List.mem_cons_self ..)
    obtain ⟨z, hz, h⟩ := Option.bind_eq_some_iff.mp h
    obtain ⟨hz0, hzg⟩ := ih (fun o ho => hw o (List.mem_cons_of_mem _ ho)) z hz
    refine ⟨delMap_nonneg _ _ z y ha.1 hz0 h, ?_⟩
    rw [List.foldr_cons, cutB_get a _ ha.1 ha.2 z y hz0 h, hzg]

theorem insMap_nonneg (i n x : Int) (hn : 0 ≤ n) (hx : 0 ≤ x) : 0 ≤ insMap i n x := by
  unfold insMap; split <;> omega

theorem splice_get (X g : List UInt8) (i x : Int) (hi : 0 ≤ i) (hx : 0 ≤ x) (hxl : x < X.length) :
    (Seq.spliceBytes X i.toNat g)[(insMap i g.length x).toNat]? = X[x.toNat]? := by
  obtain ⟨i, rfl⟩ := Int.eq_ofNat_of_zero_le hi
  obtain ⟨x, rfl⟩ := Int.eq_ofNat_of_zero_le hx
  unfold Seq.spliceBytes insMap
  by_cases h : (x : Int) < i
  · rw [if_pos h, Int.toNat_natCast, Int.toNat_natCast, List.append_assoc,
      List.getElem?_append_left (by rw [List.length_take]; omega), List.getElem?_take_of_lt (by omega)]
  · rw [if_neg h, ← Int.natCast_add, Int.toNat_natCast, Int.toNat_natCast,
      List.getElem?_append_right (by rw [List.length_append, List.length_take]; omega), List.getElem?_drop,
      List.length_append, List.length_take]
    congr 1; omega

theorem foldl_splice_get (idx : List Int) (g X : List UInt8) (hw : ∀ i ∈ idx, 0 ≤ i) (x : Int)
    (hx : 0 ≤ x) (hxl : x < X.length) :
    (idx.foldl (fun out i => Seq.spliceBytes out i.toNat g) X)[(composeIns g.length idx x).toNat]? =
      X[x.toNat]? := by
  induction idx generalizing X x with
  | nil => rfl
  | cons i idx ih =>
    have hi := hw i (List.mem_cons_self ..)
    rw [List.foldl_cons]
    simp only [composeIns]
    rw [ih (Seq.spliceBytes X i.toNat g) (fun a ha => hw a (List.mem_cons_of_mem _ ha)) (insMap i g.length x)
      (insMap_nonneg _ _ _ (by omega) hx) (by
        rw [Seq.spliceBytes_length]
        unfold insMap; split <;> omega)]
    exact splice_get X g i x hi hx hxl

theorem map_filterMapPos_eq {β : Type} (φ : Int → Option Int) (c : Pos → Bool) (F G : Pos → β)
    (d : List Pos)
    (h : ∀ p ∈ d, (φ p.1 = none ∧ c p = false) ∨ (∃ y, φ p.1 = some y ∧ c p = true ∧ F (y, p.2) = G p)) :
    (filterMapPos φ d).map F = (d.filter c).map G := by
  -- both sides as one `filterMap` over `d`, compared residue by residue
  unfold filterMapPos
  rw [List.map_filterMap, ← List.filterMap_eq_map', List.filterMap_filter]
  refine filterMap_congr' d _ _ fun p hp => ?_
  rcases h p hp with ⟨h1, h2⟩ | ⟨y, h1, h2, h3⟩
  · rw [h1, h2]; rfl
  · rw [h1, h2, ← h3]; rfl

theorem rangeWithin_mem (s e lo hi q : Int) (hse : s ≤ e) (hb : lo ≤ hi)
    (h : rangeWithin s e lo hi = true) (h1 : s ≤ q) (h2 : q < e) : lo ≤ q ∧ q < hi := by
  unfold rangeWithin at h
  rw [if_neg (by omega), if_neg (by omega)] at h
  simp only [Bool.and_eq_true, decide_eq_true_eq] at h
  omega

theorem den_of_within (l : Loc) (lo hi : Int) (hb : lo ≤ hi) (h : within l lo hi = true) :
    ∀ p ∈ Loc.den l, lo ≤ p.1 ∧ p.1 < hi := fun p hp =>
  have ⟨u, hu, h1, h2⟩ := den_span l p hp
  rangeWithin_mem _ _ lo hi p.1 (Int.le_of_lt (Int.lt_of_le_of_lt h1 h2)) hb
    (List.all_eq_true.mp ((within_eq_all l lo hi).symm.trans h) u hu) h1 h2

theorem denList_of_withinAll : ∀ (ls : List Loc) (lo hi : Int), wfList ls = true → lo ≤ hi →
    withinAll ls lo hi = true → ∀ p ∈ Loc.denList ls, lo ≤ p.1 ∧ p.1 < hi :=
  fun ls lo hi _ hb h => den_of_within (joined ls) lo hi hb h

theorem composeDel_none_of_dropped (ss : List Seg) (f : Feature) (hw : wf f.loc = true)
    (hk2 : delAbs ss f.loc = false) (hd : eraseKeep ss f = false) :
    ∀ p ∈ Loc.den f.loc, composeDel ss p.1 = none := by
  induction ss with
  | nil => simp [eraseKeep] at hd
  | cons a ss ih =>
    simp only [delAbs, Bool.or_eq_false_iff] at hk2
    intro p hp
    simp only [composeDel]
    cases hz : composeDel ss p.1 with
    | none => rfl
    | some z =>
      rw [Option.bind_some]
      have hkeep : eraseKeep ss f = true := by
        cases h : eraseKeep ss f with
        | true => rfl
        | false => rw [ih hk2.1 h p hp] at hz; cases hz
      simp only [eraseKeep, hkeep, Bool.true_and, Bool.or_eq_false_iff, Bool.not_eq_false'] at hd
      have hden := (delLoc_den ss f.loc hw).1 hk2.1
      exact delMap_eq_none.mpr (den_of_within _ _ _ (by have := gabs_nonneg (a.2 - a.1); omega) hd.2 _
        (hden.2 _ (mem_filterMapPos hp hz)))

theorem eraseKeep_append (pre l : List Seg) (f : Feature) (h : eraseKeep (pre ++ l) f = true) :
    eraseKeep l f = true := by
  induction pre with
  | nil => exact h
  | cons a pre ih =>
    simp only [List.cons_append, eraseKeep, Bool.and_eq_true] at h
    exact ih h.1

theorem delLoc_ranged_left (ss : List Seg) (s e : Int) (p5 p3 : Bool) (hse : s < e)
    (h : ∀ b ∈ ss, e < b.1) : delLoc ss (ranged s e p5 p3) = ranged s e p5 p3 := by
  induction ss with
  | nil => rfl
  | cons b ss ih =>
    have hb := h b (List.mem_cons_self ..)
    have hg := gabs_nonneg (b.2 - b.1)
    rw [delLoc, ih (fun c hc => h c (List.mem_cons_of_mem _ hc))]
    generalize Reg.gabs (b.2 - b.1) = k at hg
    -- both ends lie left of `b.1`: neither a cut (`k > 0`) nor the re-`Join` of a zero-length one moves them
    rw [expand]
    by_cases hk : k = 0
    · rw [hk, Int.neg_zero, rangedExpand_ins s e p5 p3 b.1 0 hse (Int.le_refl 0), if_neg (by omega),
        if_neg (by omega)]
    · exact rangedExpand_del_below s e p5 p3 b.1 k (by omega) hse (by omega)

/-- **`gts delete -e` drops a plain range lying within one cut**: the cuts to the right leave it
untouched, so at that cut `LocationWithin` holds -/
theorem eraseKeep_false_of_ranged_within (pre : List Seg) (a : Seg) (post : List Seg) (f : Feature)
    (s e : Int) (p5 p3 : Bool) (hloc : f.loc = ranged s e p5 p3) (hse : s < e)
    (hns : f.key ≠ "source") (ha : a.1 ≤ s ∧ e ≤ a.2) (hpost : ∀ b ∈ post, e < b.1) :
    eraseKeep (pre ++ a :: post) f = false := by
  rw [Bool.eq_false_iff]
  intro h
  have h2 := eraseKeep_append pre (a :: post) f h
  simp only [eraseKeep, Bool.and_eq_true, Bool.or_eq_true, decide_eq_true_eq,
    Bool.not_eq_true'] at h2
  rcases h2.2 with h3 | h3
  · exact hns h3
  · rw [hloc, delLoc_ranged_left post s e p5 p3 hse hpost] at h3
    simp only [Loc.within, rangeWithin, gabs_of_nonneg (a.2 - a.1) (by omega)] at h3
    rw [if_neg (by omega), if_neg (by omega)] at h3
    simp only [Bool.and_eq_false_iff, decide_eq_false_iff_not] at h3
    omega

theorem countP_range_interval (a m : Nat) :
    (List.range (a + m)).countP (fun k => decide (a ≤ k ∧ k < a + m)) = m := by
  rw [List.range_eq_range', ← List.range'_append_1, List.countP_append, List.countP_eq_zero.mpr,
    List.countP_eq_length.mpr, List.length_range', Nat.zero_add]
  · intro k hk
    have := List.mem_range'_1.mp hk
    exact decide_eq_true (by omega)
  · intro k hk
    have := List.mem_range'_1.mp hk
    simp only [decide_eq_true_eq]; omega

theorem delOffset_eq_count (ss : List Seg) (hf : Fwd ss) (hp : ss.Pairwise (fun a b => a.2 ≤ b.1))
    (h0 : ∀ o ∈ ss, 0 ≤ o.1) (x : Int) (hx : 0 ≤ x) (hc : ¬ segsCover ss x) :
    delOffset ss x = ((List.range x.toNat).countP (covB ss) : Nat) := by
  obtain ⟨n, rfl⟩ := Int.eq_ofNat_of_zero_le hx
  rw [Int.toNat_natCast]
  induction ss with
  | nil => rw [List.countP_eq_zero.mpr fun k _ => by simp [covB]]; rfl
  | cons a ss ih =>
    have ha := hf.cons.1
    have ha0 := h0 a (List.mem_cons_self ..)
    have hpp := List.pairwise_cons.mp hp
    have hf' : Fwd ss := hf.cons.2
    rw [segsCover_cons] at hc
    have ih' := ih hf' hpp.2 (fun o ho => h0 o (List.mem_cons_of_mem _ ho)) fun h => hc (Or.inr h)
    by_cases hlt : (n : Int) < a.1
    · -- `x` lies left of every segment: nothing is covered below it
      rw [delOffset_zero_of_lt _ hf _ (List.forall_mem_cons.mpr
          ⟨hlt, fun b hb => by have := hpp.1 b hb; omega⟩),
        List.countP_eq_zero.mpr fun k hk => by
          have := List.mem_range.mp hk
          rw [covB_of_lt _ k (List.forall_mem_cons.mpr
            ⟨by omega, fun b hb => by have := hpp.1 b hb; omega⟩)]
          exact Bool.false_ne_true]
      rfl
    · -- `x` lies right of `a = [i, i + m)`: split the positions below `x` at `a.2`
      obtain ⟨i, hi⟩ := Int.eq_ofNat_of_zero_le ha0
      obtain ⟨m, hm⟩ := Int.eq_ofNat_of_zero_le (Int.sub_nonneg.mpr ha)
      obtain ⟨r, hr⟩ : ∃ r : Nat, n = i + m + r := ⟨n - (i + m), by omega⟩
      subst hr
      have hlow : ∀ k, k < i + m → covB ss k = false := fun k hk =>
        covB_of_lt ss k fun b hb => by have := hpp.1 b hb; omega
      rw [List.range_add, List.countP_append] at ih' ⊢
      rw [List.countP_eq_zero.mpr fun k hk => by
          rw [hlow k (List.mem_range.mp hk)]; exact Bool.false_ne_true] at ih'
      rw [List.countP_congr (p := covB (a :: ss)) (q := fun k => decide (i ≤ k ∧ k < i + m)) fun k hk => by
          rw [covB_cons, hlow k (List.mem_range.mp hk), Bool.or_false, decide_eq_true_eq, decide_eq_true_eq]
          omega,
        countP_range_interval,
        List.countP_congr (p := covB (a :: ss)) (q := covB ss) fun k hk => by
          obtain ⟨j, _, rfl⟩ := List.mem_map.mp hk
          rw [covB_cons, decide_eq_false (by omega), Bool.false_or]]
      simp only [delOffset]
      rw [ih', if_pos (by omega)]
      omega
end Gts.Cli
