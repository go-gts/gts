/-
  C01 helper lemmas: the generic header fields (DEFINITION, ACCESSION, VERSION, COMMENT, extra
  fields) as written by `GenBank.String` and read by their sub-parsers.
-/
import Gts.Lemmas.GbFieldBody
namespace Gts.GenBank
open Gts.Pars

theorem mapped_ok {α} (p : P α) (inp r : Bytes) (stk : List Bytes) (a : α)
    (h : p ⟨inp, inp :: stk⟩ = (.ok a, ⟨r, inp :: stk⟩)) :
    mapped p ⟨inp, stk⟩ = (.ok a, ⟨r, stk⟩) := by
  gsimp [mapped, h]

theorem mapped_fail {α} (p : P α) (inp r : Bytes) (stk : List Bytes)
    (h : p ⟨inp, inp :: stk⟩ = (.error .fail, ⟨r, inp :: stk⟩)) :
    mapped p ⟨inp, stk⟩ = (.error .fail, ⟨inp, stk⟩) := by
  gsimp [mapped, h]

theorem fieldPadding_ok (n d : Nat) (r : Bytes) (stk : List Bytes) (h : n ≤ d) :
    fieldPadding n d ⟨sp (d - n) ++ r, stk⟩ = (.ok 0, ⟨r, stk⟩) := by
  have h1 : ¬ n > d := by omega
  gsimp [fieldPadding, h1, sp_length]

theorem fieldName_ok (name : Bytes) (d : Nat) (r : Bytes) (stk : List Bytes) (h : name.length ≤ d) :
    fieldName name d ⟨name ++ (sp (d - name.length) ++ r), stk⟩ = (.ok 0, ⟨r, stk⟩) := by
  simp [fieldName, P.bind_run, lit_ok, fieldPadding_ok _ _ r stk h]

theorem fieldName_other (name : Bytes) (d : Nat) (inp : Bytes) (stk : List Bytes)
    (h : name.isPrefixOf inp = false) :
    fieldName name d ⟨inp, stk⟩ = (.error .fail, ⟨inp, stk⟩) := by
  simp [fieldName, P.bind_run, lit_fail _ _ _ h]

/-- the `%-12s` of a field name, split into the name and its padding -/
theorem field_label (lab name : Bytes) (d : Nat) (h : lab = name ++ sp (d - name.length)) (X : Bytes) :
    lab ++ X = name ++ (sp (d - name.length) ++ X) := by
  rw [h, List.append_assoc]

theorem genericField_ok (e : Eol) (name : Bytes) (d : Nat) (v rest : Bytes) (stk : List Bytes)
    (hn : name.length ≤ d) (hv : noCR v = true) (hrest : (sp d).isPrefixOf rest = false) :
    genericField name d ⟨name ++ (sp (d - name.length) ++ (tr e (addPrefix (sp d) v) ++ (e.bytes ++ rest))), stk⟩ =
      (.ok (v, (tailLines v).length, 0), ⟨rest, stk⟩) := by
  gsimp [genericField, fieldName_ok name d _ stk hn, fieldBody_addPrefix e d v rest stk hv hrest]

theorem genericField_other (name : Bytes) (d : Nat) (inp : Bytes) (stk : List Bytes)
    (h : name.isPrefixOf inp = false) :
    genericField name d ⟨inp, stk⟩ = (.error .fail, ⟨inp, stk⟩) := by
  simp [genericField, P.bind_run, fieldName_other name d inp stk h]

theorem addPrefix_append_byte (pre v : Bytes) (c : UInt8) (hc : c ≠ 10) :
    addPrefix pre (v ++ [c]) = addPrefix pre v ++ [c] := by
  induction v with
  | nil => simp [addPrefix, hc]
  | cons x v ih =>
    by_cases hx : x = 10
    · simp [addPrefix, hx, ih]
    · simp [addPrefix, hx, ih]

theorem addPrefix_append_noLF (pre a b : Bytes) (ha : noLF a) :
    addPrefix pre (a ++ b) = a ++ addPrefix pre b := by
  induction a with
  | nil => rfl
  | cons c a ih =>
    have hc : c ≠ 10 := ha c (by simp)
    simp only [List.cons_append, addPrefix, hc, if_false]
    rw [ih (fun x hx => ha x (by simp [hx]))]

theorem addPrefix_noLF' (pre a : Bytes) (ha : noLF a) : addPrefix pre a = a := by
  have := addPrefix_append_noLF pre a [] ha
  simpa [addPrefix] using this

theorem addPrefix_noLF (pre l : Bytes) (h : noEOL l = true) : addPrefix pre l = l :=
  addPrefix_noLF' pre l (noEOL_noLF l h)

theorem trimDot_append_dot (v : Bytes) : trimDot (v ++ [46]) = v := by
  simp [trimDot]

theorem tailLines_noLF (l : Bytes) (h : noEOL l = true) : tailLines l = [] := by
  induction l with
  | nil => simp [tailLines, splitLF]
  | cons c l ih =>
    rw [noEOL_cons] at h
    simp only [Bool.and_eq_true, bne_iff_ne, ne_eq] at h
    rw [tailLines_cons_ne c l h.1.1, ih h.2]

theorem genericField_line (e : Eol) (name : Bytes) (d : Nat) (l rest : Bytes) (stk : List Bytes)
    (hn : name.length ≤ d) (hl : noEOL l = true) (hrest : (sp d).isPrefixOf rest = false) :
    genericField name d ⟨name ++ (sp (d - name.length) ++ (l ++ (e.bytes ++ rest))), stk⟩ =
      (.ok (l, 0, 0), ⟨rest, stk⟩) := by
  have := genericField_ok e name d l rest stk hn (noEOL_noCR l hl) hrest
  rwa [addPrefix_noLF _ l hl, tailLines_noLF l hl, tr_noLF e l (noEOL_noLF l hl)] at this

theorem definition_roundtripE (e : Eol) (f : Fields) (v rest : Bytes) (stk : List Bytes) (hv : noCR v = true)
    (hrest : (sp 12).isPrefixOf rest = false) :
    definitionField 12 f ⟨bs "DEFINITION  " ++ (tr e (addPrefix indent v) ++ 46 :: (e.bytes ++ rest)), stk⟩ =
      (.ok ({ f with definition := v }, true), ⟨rest, stk⟩) := by
  have hb := fun s => fieldBody_addPrefix e 12 (v ++ [46]) rest s (by rw [noCR_append, hv]; rfl) hrest
  simp only [addPrefix_append_byte _ _ _ (show (46 : UInt8) ≠ 10 by decide), tr_append, show tr e [46] = [46] from tr_noLF e _ (by simp [noLF]),
    List.append_assoc, List.cons_append, List.nil_append] at hb
  rw [field_label (bs "DEFINITION  ") (bs "DEFINITION") 12 (by decide +kernel)]
  have hf := fun r s => fieldName_ok (bs "DEFINITION") 12 r s (by decide +kernel)
  gsimp [definitionField, indent, hf, hb, trimDot_append_dot]

/-- **ACCESSION** round trip of the LINE: whatever stands on the line (no CR, no LF) becomes the
accession — including a ` REGION: a..b` suffix (known finding K1A) -/
theorem accession_roundtripE (e : Eol) (f : Fields) (l rest : Bytes) (stk : List Bytes) (hl : noEOL l = true)
    (hrest : (sp 12).isPrefixOf rest = false) :
    accessionField 12 f ⟨bs "ACCESSION   " ++ (l ++ (e.bytes ++ rest)), stk⟩ =
      (.ok ({ f with accession := l }, true), ⟨rest, stk⟩) := by
  rw [field_label (bs "ACCESSION   ") (bs "ACCESSION") 12 (by decide +kernel)]
  have hg := fun s => genericField_line e (bs "ACCESSION") 12 l rest s (by decide +kernel) hl hrest
  gsimp [accessionField, mapped_ok _ _ rest stk _ (hg _)]

theorem version_roundtripE (e : Eol) (f : Fields) (l rest : Bytes) (stk : List Bytes) (hl : noEOL l = true)
    (hrest : (sp 12).isPrefixOf rest = false) :
    versionField 12 f ⟨bs "VERSION     " ++ (l ++ (e.bytes ++ rest)), stk⟩ =
      (.ok ({ f with version := l }, true), ⟨rest, stk⟩) := by
  rw [field_label (bs "VERSION     ") (bs "VERSION") 12 (by decide +kernel)]
  have hg := fun s => genericField_line e (bs "VERSION") 12 l rest s (by decide +kernel) hl hrest
  gsimp [versionField, mapped_ok _ _ rest stk _ (hg _)]

theorem comment_roundtripE (e : Eol) (f : Fields) (v rest : Bytes) (stk : List Bytes) (hv : noCR v = true)
    (hrest : (sp 12).isPrefixOf rest = false) :
    commentField 12 f ⟨bs "COMMENT     " ++ (tr e (addPrefix indent v) ++ (e.bytes ++ rest)), stk⟩ =
      (.ok ({ f with comments := f.comments ++ [v] }, true), ⟨rest, stk⟩) := by
  rw [field_label (bs "COMMENT     ") (bs "COMMENT") 12 (by decide +kernel)]
  have hg := fun s => genericField_ok e (bs "COMMENT") 12 v rest s (by decide +kernel) hv hrest
  gsimp [commentField, indent, mapped_ok _ _ rest stk _ (hg _)]

/-- the domain of an extra field: an upper-case name of 1..12 bytes; a 12-byte name has no blank
behind it, so the value must not go on with an upper-case byte; a value without carriage return -/
def WritableExtra (name value : Bytes) : Bool :=
  !name.isEmpty && name.all isUpper && decide (name.length ≤ 12) && noCR value &&
  (decide (name.length < 12) || match value with | [] => true | c :: _ => !isUpper c)

/-- the first byte of a written text in front of its line end: the first byte of the text, unless
that is a line feed or the text is empty: then the first byte of the line end -/
theorem tr_addPrefix_head {p : UInt8 → Prop} (e : Eol) (pre v X : Bytes) (h10 : p 10) (h13 : p 13)
    (hv : ∀ c, v.head? = some c → p c) :
    ∀ c, (tr e (addPrefix pre v) ++ (e.bytes ++ X)).head? = some c → p c := by
  have heol : ∀ Y c, (e.bytes ++ Y).head? = some c → p c := fun Y c hc => by
    rcases e.head Y c hc with rfl | rfl <;> assumption
  intro c hc
  cases v with
  | nil => exact heol X c (by simpa [addPrefix] using hc)
  | cons x r =>
    by_cases hx : x = 10
    · subst hx
      simp only [addPrefix, if_true, tr_cons_lf, List.append_assoc] at hc
      exact heol _ c hc
    · simp [addPrefix, hx, tr_cons_ne e _ _ hx] at hc
      exact hc ▸ hv x rfl

theorem extra_roundtripE (e : Eol) (f : Fields) (name value rest : Bytes) (stk : List Bytes)
    (hw : WritableExtra name value = true) (hrest : (sp 12).isPrefixOf rest = false) :
    extraField 12 f ⟨padRight 12 name ++ (tr e (addPrefix indent value) ++ (e.bytes ++ rest)), stk⟩ =
      (.ok ({ f with extra := f.extra ++ [(name, value)] }, true), ⟨rest, stk⟩) := by
  simp only [WritableExtra, Bool.and_eq_true, Bool.or_eq_true, Bool.not_eq_true', decide_eq_true_eq] at hw
  obtain ⟨⟨⟨⟨hne, hup⟩, hlen⟩, hv⟩, hnext⟩ := hw
  have hne' : name ≠ [] := by cases name <;> simp_all
  rw [padRight, List.append_assoc, indent]
  -- the byte behind the name is not upper case
  have hstop : ∀ c, (sp (12 - name.length) ++ (tr e (addPrefix (sp 12) value) ++ (e.bytes ++ rest))).head? = some c →
      isUpper c = false := by
    refine head_sp_append _ _ (by decide) fun h12 =>
      tr_addPrefix_head e _ _ _ (by decide) (by decide) fun c hh => ?_
    rcases hnext with h | h
    · omega
    · cases value with
      | nil => simp at hh
      | cons x v =>
        simp only at h
        simp at hh; subst hh; simpa using h
  have hw' := fun s => word_ok isUpper name _ s hup hne' hstop
  have hp := fun r s => fieldPadding_ok name.length 12 r s hlen
  have hb := fun s => fieldBody_addPrefix e 12 value rest s hv hrest
  gsimp [extraField, hw', hp, hb]

end Gts.GenBank
