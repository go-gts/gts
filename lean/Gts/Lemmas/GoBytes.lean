/-
  Lemmas about the translator's reading of Go's byte-slice operations (Gts/Gen/GoBytes.lean, fixed
  text): the checked operations at indices that are natural numbers, and the picture of a
  destination buffer `make([]byte, cap)` that is filled front to back by `copy` and single-byte
  stores (`bufOf cap s`: the stream `s` written so far, cut at `cap`, the rest still zero).
-/
import Gts.Gen.GoBytes
import Gts.Lemmas.GoSlice
namespace Gts.Gen
open Gts.Pars (Bytes)

/-! the checked slice operations of the prelude `Gts/Gen/GoBytes.lean` are those of `Gts/Gen/CliList.lean` at bytes
(`Gts/Lemmas/GoSlice.lean` has their lemmas) -/

theorem goIndex_eq : goIndex = @clAt UInt8 := rfl
theorem goSliceFrom_eq : goSliceFrom = @clFrom UInt8 := rfl
theorem goSliceTo_eq : goSliceTo = @clTo UInt8 := rfl
theorem goSlice_eq : goSlice = @clSub UInt8 := rfl
theorem goStore_eq : goStore = @clPut UInt8 := rfl

theorem drop_of_getElem?_none {p : Bytes} {n : Nat} (h : p[n]? = none) : p.drop n = [] := by
  rw [List.drop_eq_nil_iff]; exact List.getElem?_eq_none_iff.mp h

theorem drop_of_getElem?_some {p : Bytes} {n : Nat} {c : UInt8} (h : p[n]? = some c) :
    p.drop n = c :: p.drop (n + 1) := by
  obtain ⟨hlt, rfl⟩ := List.getElem?_eq_some_iff.mp h
  exact List.drop_eq_getElem_cons hlt

theorem goMake_nat (n : Nat) : goMake (n : Int) = some (List.replicate n 0) := by
  simp only [goMake, Int.toNat_natCast]
  rw [if_neg (by omega)]

theorem goMake_neg (n : Int) (h : n < 0) : goMake n = none := by
  simp only [goMake]; rw [if_pos h]

/-- the buffer `make([]byte, cap)` after the stream `s` was written to it front to back, every
write truncated at the end of the buffer -/
def bufOf (cap : Nat) (s : Bytes) : Bytes := s.take cap ++ List.replicate (cap - s.length) 0

/-- the write offset after the stream `s`: `len(s)`, stuck at the end of the buffer -/
def offOf (cap : Nat) (s : Bytes) : Nat := min s.length cap

@[simp] theorem bufOf_length (cap : Nat) (s : Bytes) : (bufOf cap s).length = cap := by
  simp only [bufOf, List.length_append, List.length_take, List.length_replicate]; omega

theorem bufOf_nil (cap : Nat) : bufOf cap [] = List.replicate cap 0 := by
  simp [bufOf]

theorem bufOf_take (cap : Nat) (s : Bytes) : bufOf cap (s.take cap) = bufOf cap s := by
  simp only [bufOf, List.take_take, Nat.min_self, List.length_take]
  congr 2; omega

theorem offOf_take (cap : Nat) (s : Bytes) : offOf cap (s.take cap) = offOf cap s := by
  simp only [offOf, List.length_take]; omega

theorem bufOf_of_length_le (cap : Nat) (s : Bytes) (h : s.length ≤ cap) :
    bufOf cap s = s ++ List.replicate (cap - s.length) 0 := by
  simp only [bufOf, List.take_of_length_le h]

theorem offOf_nil (cap : Nat) : offOf cap [] = 0 := by
  simp [offOf]

theorem bufOf_of_length_eq (cap : Nat) (s : Bytes) (h : s.length = cap) : bufOf cap s = s := by
  simp only [bufOf, h, Nat.sub_self, List.replicate_zero, List.append_nil]
  exact List.take_of_length_le (by omega)

theorem bufOf_of_le (cap : Nat) (s : Bytes) (h : cap ≤ s.length) : bufOf cap s = s.take cap := by
  rw [bufOf, Nat.sub_eq_zero_of_le h, List.replicate_zero, List.append_nil]

/-- `n := copy(q[off:], x)` on the buffer after `s`: the buffer after `s ++ x`, and the offset
moves to the offset after `s ++ x` -/
theorem goCopyAt_bufOf (cap : Nat) (s x : Bytes) :
    goCopyAt (bufOf cap s) (offOf cap s : Int) x =
      some (bufOf cap (s ++ x), ((offOf cap (s ++ x) : Nat) : Int) - (offOf cap s : Int)) := by
  simp only [goCopyAt, bufOf_length, Int.toNat_natCast, offOf]
  rw [if_pos (by omega)]
  congr 1
  refine Prod.ext ?_ (by simp only [List.length_append]; omega)
  show _ = bufOf cap (s ++ x)
  rcases Nat.le_total s.length cap with h | h
  · -- room left: `s`, then what fits of `x`, then the zeros that remain
    rw [Nat.min_eq_left h, bufOf_of_length_le cap s h, List.take_left, List.drop_append,
      List.drop_eq_nil_iff.mpr (Nat.le_add_right _ _), Nat.add_sub_cancel_left, List.nil_append,
      List.drop_replicate, bufOf, List.take_append, List.take_of_length_le h, List.length_append,
      List.append_assoc, Nat.sub_sub]
  · -- the buffer is full: nothing is copied
    rw [Nat.min_eq_right h, bufOf_of_le cap s h, bufOf_of_le cap (s ++ x) (by rw [List.length_append]; omega),
      List.take_append_of_le_length h, List.take_take, Nat.min_self, Nat.sub_self, List.take_zero,
      List.drop_eq_nil_iff.mpr (by rw [List.length_take]; omega)]
    simp

/-- `q[off] = c` on the buffer after `s`, with room left: the buffer after `s ++ [c]` -/
theorem goStore_bufOf (cap : Nat) (s : Bytes) (c : UInt8) (h : s.length < cap) :
    goStore (bufOf cap s) (offOf cap s : Int) c = some (bufOf cap (s ++ [c])) := by
  simp only [goStore, bufOf_length, Int.toNat_natCast, offOf]
  rw [if_pos (by omega), Nat.min_eq_left (Nat.le_of_lt h), bufOf_of_length_le cap s (Nat.le_of_lt h),
    bufOf_of_length_le cap (s ++ [c]) (by rw [List.length_append]; exact h),
    List.set_append_right _ _ (Nat.le_refl _), Nat.sub_self, List.length_append, List.append_assoc,
    show cap - s.length = cap - (s.length + [c].length) + 1 by
      simp only [List.length_cons, List.length_nil]; omega,
    List.replicate_succ]
  rfl

/-- `q[off] = c` on a full buffer: index out of range -/
theorem goStore_bufOf_full (cap : Nat) (s : Bytes) (c : UInt8) (h : cap ≤ s.length) :
    goStore (bufOf cap s) (offOf cap s : Int) c = none := by
  simp only [goStore, bufOf_length, offOf]
  rw [if_neg (by omega)]

theorem offOf_snoc (cap : Nat) (s : Bytes) (c : UInt8) (h : s.length < cap) :
    (offOf cap s : Int) + 1 = (offOf cap (s ++ [c]) : Int) := by
  simp only [offOf, List.length_append, List.length_cons, List.length_nil]; omega

theorem offOf_add_sub (cap : Nat) (s x : Bytes) :
    (offOf cap s : Int) + (((offOf cap (s ++ x) : Nat) : Int) - (offOf cap s : Int)) = (offOf cap (s ++ x) : Int) := by
  omega

theorem dropWhile_nil_iff {α : Type} (q : α → Bool) (l : List α) :
    l.dropWhile q = [] ↔ ∀ x ∈ l, q x = true := by
  induction l with
  | nil => simp
  | cons a l ih => simp only [List.dropWhile_cons]; split <;> simp_all

/-- `len(bytes.TrimRight(s, " ")) == 0`: nothing but blanks -/
theorem bytesTrimRight_blank (s : Bytes) :
    ((bytesTrimRight s [32]).length = 0) ↔ s.all (· == 32) = true := by
  simp only [bytesTrimRight, List.length_reverse, List.length_eq_zero_iff, dropWhile_nil_iff,
    List.mem_reverse, List.all_eq_true]
  constructor
  · intro h x hx; simpa using h x hx
  · intro h x hx; simpa using h x hx

end Gts.Gen
