/-
  `Region.Locate` at the byte level ("locate_bytes" of DESIGN.md §3): the residues the model of
  `Segment.Locate` / `Regions.Locate` (`Reg.locate`, Gts/Model/Cli.lean) extracts are exactly the
  denotation (`Reg.den`, and through `Location.Region()` `Loc.den`) READ off the record's bytes
  (`readAt`, Gts/Spec/Read.lean).  Helper lemmas for C05 / C08 / C15.  Core Lean only.
-/
import Gts.Spec.Read
import Gts.Model.Cli
import Gts.Lemmas.RegDen
import Gts.Lemmas.Nuc
import Gts.Lemmas.Push
import Gts.Lemmas.Table
namespace Gts

/-- the strand part of a reading -/
def rd (r : Bool) (b : UInt8) : UInt8 := if r then Nuc.complementByte b else b

@[simp] theorem rd_false : rd false = id := by funext b; simp [rd]
@[simp] theorem rd_true : rd true = Nuc.complementByte := by funext b; simp [rd]

theorem readAt?_getElem (bs : List UInt8) (x : Int) (r : Bool) (h0 : 0 ≤ x)
    (h1 : x.toNat < bs.length) : readAt? bs (x, r) = some (rd r bs[x.toNat]) := by
  simp only [readAt?, show ¬ x < 0 by omega, if_false, List.getElem?_eq_getElem h1, Option.map_some, rd]

theorem readAt_getElem (bs : List UInt8) (x : Int) (r : Bool) (h0 : 0 ≤ x)
    (h1 : x.toNat < bs.length) : readAt bs (x, r) = rd r bs[x.toNat] := by
  simp only [readAt, readAt?_getElem bs x r h0 h1, Option.getD_some]

theorem Cli.readAt_of_get {bs : List UInt8} {p : Pos} {b : UInt8} (h0 : 0 ≤ p.1) (h : bs[p.1.toNat]? = some b) :
    readAt bs p = rd p.2 b := by
  rw [readAt, readAt?, if_neg (by omega), h]; rfl

theorem readAt?_eq_some {bs : List UInt8} {p : Pos} (h0 : 0 ≤ p.1) (h1 : p.1 < bs.length) :
    readAt? bs p = some (readAt bs p) := by
  obtain ⟨x, r⟩ := p
  have h : x.toNat < bs.length := by simp only at h0 h1; omega
  rw [readAt?_getElem bs x r h0 h, readAt_getElem bs x r h0 h]

theorem readAt?_eq_none {bs : List UInt8} {p : Pos} (h : p.1 < 0 ∨ (bs.length : Int) ≤ p.1) :
    readAt? bs p = none := by
  unfold readAt?
  split
  · rfl
  · have : bs.length ≤ p.1.toNat := by omega
    simp [List.getElem?_eq_none this]

theorem readAt?_isSome_iff (bs : List UInt8) (p : Pos) :
    (readAt? bs p).isSome = true ↔ 0 ≤ p.1 ∧ p.1 < bs.length := by
  constructor
  · intro h
    by_cases hc : p.1 < 0 ∨ (bs.length : Int) ≤ p.1
    · rw [readAt?_eq_none hc] at h; simp at h
    · omega
  · rintro ⟨h0, h1⟩; rw [readAt?_eq_some h0 h1]; rfl

theorem map_readAt_irange (bs : List UInt8) (r : Bool) (h : Int) (n : Nat) (h0 : 0 ≤ h)
    (hn : h + n ≤ bs.length) :
    (irange h n).map (fun x => readAt bs (x, r)) = ((bs.drop h.toNat).take n).map (rd r) := by
  induction n generalizing h with
  | zero => simp
  | succ n ih =>
    have hlt : h.toNat < bs.length := by omega
    have e : (h + 1).toNat = h.toNat + 1 := by omega
    rw [irange_succ, List.map_cons, List.drop_eq_getElem_cons hlt, List.take_succ_cons, List.map_cons,
      readAt_getElem bs h r h0 hlt, ih (h + 1) (by omega) (by omega), e]

theorem map_readAt_fwd (bs : List UInt8) (xs : List Int) :
    (fwd xs).map (readAt bs) = xs.map (fun x => readAt bs (x, false)) := by
  simp [fwd, List.map_map, Function.comp_def]

theorem map_readAt_flip_fwd (bs : List UInt8) (xs : List Int) :
    (flipDen (fwd xs)).map (readAt bs) = (xs.map (fun x => readAt bs (x, true))).reverse := by
  simp [flipDen, fwd, List.map_map, List.map_reverse, Function.comp_def]

theorem denIn_nil (L : Int) : denIn L [] := by simp [denIn]

theorem denIn_append {L : Int} {a b : List Pos} : denIn L (a ++ b) ↔ denIn L a ∧ denIn L b :=
  List.forall_mem_append

theorem denIn_of_subset {L : Int} {a b : List Pos} (h : ∀ p ∈ a, p ∈ b) (hb : denIn L b) :
    denIn L a := fun p hp => hb p (h p hp)

theorem denIn_flipDen {L : Int} {d : List Pos} : denIn L (flipDen d) ↔ denIn L d := by
  constructor
  · intro h p hp
    have := h (p.1, !p.2) (by rw [Loc.mem_flipDen]; simpa using hp)
    simpa using this
  · intro h p hp
    obtain ⟨x, b⟩ := p
    rw [Loc.mem_flipDen] at hp
    exact h (x, !b) hp

theorem denIn_fwd_irange {L s : Int} {n : Nat} (hn : 0 < n) (h : denIn L (fwd (irange s n))) :
    0 ≤ s ∧ s + n ≤ L := by
  have h1 := h (s, false) (by rw [Loc.mem_fwd, mem_irange]; exact ⟨rfl, by omega⟩)
  have h2 := h (s + n - 1, false) (by rw [Loc.mem_fwd, mem_irange]; exact ⟨rfl, by omega⟩)
  simp only at h1 h2
  omega

namespace Reg

theorem slice_bytes_fwd' (s : Seq) (a b : Int) (ha : 0 ≤ a) (hab : a ≤ b) :
    (s.slice a b).bytes = (s.bytes.drop a.toNat).take (b - a).toNat := by
  rw [Seq.slice_fwd_eq s a b ha hab]; rfl

/-- a zero-length slice is empty wherever it lies (in Go: `seq.Bytes()[p:p]`, which panics for
`p > len` or `p < -len`; the model's `drop`/`take` is total) -/
theorem slice_bytes_empty (s : Seq) (a : Int) : (s.slice a a).bytes = [] := by
  unfold Seq.slice
  simp only [Int.lt_irrefl, if_false, Seq.sliceFwd, Int.sub_self, Int.toNat_zero, List.take_zero]

theorem locate_seg_fwd (s : Seq) (h t : Int) (ht : h < t) (hb : denIn s.len (den (seg h t))) :
    (locate (seg h t) s).bytes = (den (seg h t)).map (readAt s.bytes) := by
  have hd : den (seg h t) = fwd (irange h (t - h).toNat) := by
    simp only [den, show ¬ t < h by omega, if_false]
  rw [hd] at hb ⊢
  have hin := denIn_fwd_irange (by omega) hb
  simp only [Seq.len] at hin
  simp only [locate, show ¬ t < h by omega, if_false]
  rw [slice_bytes_fwd' s h t hin.1 (by omega), map_readAt_fwd,
    map_readAt_irange s.bytes false h _ hin.1 hin.2, rd_false, List.map_id]

theorem locate_seg_bwd (s : Seq) (h t : Int) (ht : t < h) (hb : denIn s.len (den (seg h t))) :
    (locate (seg h t) s).bytes = (den (seg h t)).map (readAt s.bytes) := by
  have hd : den (seg h t) = flipDen (fwd (irange t (h - t).toNat)) := by
    simp only [den, ht, if_true]
  rw [hd] at hb ⊢
  have hin := denIn_fwd_irange (by omega) (denIn_flipDen.mp hb)
  simp only [Seq.len] at hin
  simp only [locate, ht, if_true]
  show ((s.slice t h).bytes.map Nuc.complementByte).reverse = _
  rw [slice_bytes_fwd' s t h hin.1 (by omega), map_readAt_flip_fwd,
    map_readAt_irange s.bytes true t _ hin.1 hin.2, rd_true]

theorem locate_seg_empty (s : Seq) (h : Int) :
    (locate (seg h h) s).bytes = (den (seg h h)).map (readAt s.bytes) := by
  simp only [locate, den, Int.lt_irrefl, if_false, slice_bytes_empty, Int.sub_self, Int.toNat_zero,
    irange_zero, fwd, List.map_nil]

theorem locate_seg (s : Seq) (h t : Int) (hb : denIn s.len (den (seg h t))) :
    (locate (seg h t) s).bytes = (den (seg h t)).map (readAt s.bytes) := by
  rcases Int.lt_trichotomy h t with ht | rfl | ht
  · exact locate_seg_fwd s h t ht hb
  · exact locate_seg_empty s h
  · exact locate_seg_bwd s h t ht hb

mutual
/-- **`Region.Locate` reads the denotation**: when every denoted position is an index of the
record, the extracted residues are the denoted residues read off the record, in order, each on
its strand -/
theorem locate_bytes_den : ∀ (r : Reg) (s : Seq), denIn s.len (den r) →
    (locate r s).bytes = (den r).map (readAt s.bytes)
  | seg h t, s, hb => locate_seg s h t hb
  | many rs, s, hb => by
    have := locateList_bytes_den rs s (by simpa only [den] using hb)
    simp only [locate, den, Seq.concat_bytes_flatten]
    exact this
theorem locateList_bytes_den : ∀ (rs : List Reg) (s : Seq), denIn s.len (denList rs) →
    ((locateList rs s).map (·.bytes)).flatten = (denList rs).map (readAt s.bytes)
  | [], _, _ => by simp [locateList, denList]
  | r :: rs, s, hb => by
    simp only [denList] at hb
    rw [denIn_append] at hb
    simp only [locateList, denList, List.map_cons, List.flatten_cons, List.map_append,
      locate_bytes_den r s hb.1, locateList_bytes_den rs s hb.2]
end

/-- the region guard `within` (every end of every leaf in `[0, L]`, under which no `Slice` of
`Locate` leaves the byte array) puts every denoted position inside `[0, L)` -/
theorem denIn_of_within {L : Int} {r : Reg} (h : within L r) : denIn L (den r) := by
  intro p hp
  obtain ⟨x, b⟩ := p
  obtain ⟨g, hg, hx⟩ := (den_iff_leaves r x).mp ⟨b, hp⟩
  have := h g hg
  simp only
  omega

/-- the extracted residues depend on the residues of the record only -/
theorem locate_bytes_congr (r : Reg) (s s' : Seq) (h : s.bytes = s'.bytes)
    (hb : denIn s.len (den r)) : (locate r s).bytes = (locate r s').bytes := by
  have hl : s'.len = s.len := by simp [Seq.len, h]
  rw [locate_bytes_den r s hb, locate_bytes_den r s' (hl ▸ hb), h]

end Reg

namespace Loc

mutual
/-- **`Location.Region()` denotes what the location denotes** (well-formed locations: a `Ranged`
with `End < Start` would be read backwards by `Segment.Locate`) -/
theorem den_region : ∀ l : Loc, wf l = true → Reg.den (region l) = den l
  | between p, _ => by simp [region, Reg.den, fwd]
  | point p, _ => by
    have : (p + 1 - p).toNat = 1 := by omega
    simp [region, Reg.den, fwd, this, show ¬ p + 1 < p by omega]
  | ranged s e _ _, hw => by
    have h : s < e := by simpa [wf] using hw
    simp [region, Reg.den, show ¬ e < s by omega]
  | ambiguous s e, hw => by
    have h : s < e := by simpa [wf] using hw
    simp [region, Reg.den, show ¬ e < s by omega]
  | joined ls, hw => by
    have := denList_regionList ls (by simpa [wf] using hw)
    simpa [region, Reg.den] using this
  | ordered ls, hw => by
    have := denList_regionList ls (by simpa [wf] using hw)
    simpa [region, Reg.den, den] using this
  | compl l, hw => by
    have := den_region l (by simpa [wf] using hw)
    simp [region, Reg.den_complement, this, den]
theorem denList_regionList : ∀ ls : List Loc, wfList ls = true →
    Reg.denList (regionList ls) = denList ls
  | [], _ => by simp [regionList, Reg.denList]
  | l :: ls, hw => by
    simp only [wfList_cons, Bool.and_eq_true] at hw
    simp [regionList, Reg.denList, den_region l hw.1, denList_regionList ls hw.2]
end

/-- **locate_bytes**: the residues `l.Region().Locate(seq)` extracts are the denotation of `l`
read off the record -/
theorem locate_region_bytes (l : Loc) (s : Seq) (hw : wf l = true) (hb : denIn s.len (den l)) :
    (Reg.locate (region l) s).bytes = (den l).map (readAt s.bytes) := by
  have e := den_region l hw
  rw [← e] at hb ⊢
  exact Reg.locate_bytes_den _ s hb

end Loc

theorem uToT_complementByte (c : UInt8) : uToT (Nuc.complementByte c) = Nuc.complementByte c := by
  rw [uToT, if_neg (Nuc.complementByte_ne_U c).1, if_neg (Nuc.complementByte_ne_U c).2]

theorem complementByte_complementByte (c : UInt8) :
    Nuc.complementByte (Nuc.complementByte c) = uToT c :=
  Nuc.complementByte_complementByte c

theorem uToT_rd (r : Bool) (b : UInt8) : uToT (rd r b) = rd (!r) (Nuc.complementByte b) := by
  cases r
  · simp [rd, complementByte_complementByte]
  · simp [rd, uToT_complementByte]

/-- residue `x` on strand `r` of a record is residue `L-1-x` on the other strand of its reverse
complement (up to U → T) -/
theorem readAt_revcomp (bs : List UInt8) (x : Int) (r : Bool) (h0 : 0 ≤ x) (h1 : x < bs.length) :
    readAt (bs.map Nuc.complementByte).reverse ((bs.length : Int) - 1 - x, !r) =
      uToT (readAt bs (x, r)) := by
  have hx : x.toNat < bs.length := by omega
  have hy : ((bs.length : Int) - 1 - x).toNat < (bs.map Nuc.complementByte).reverse.length := by
    simp only [List.length_reverse, List.length_map]; omega
  rw [readAt_getElem _ _ _ (by omega) hy, readAt_getElem bs x r h0 hx, uToT_rd]
  congr 1
  rw [List.getElem_reverse, List.getElem_map]
  congr 1
  congr 1
  simp only [List.length_map]
  omega

theorem map_readAt_revcomp (bs : List UInt8) (d : List Pos) (hb : denIn bs.length d) :
    (d.map fun p => ((bs.length : Int) - 1 - p.1, !p.2)).map
        (readAt (bs.map Nuc.complementByte).reverse) =
      (d.map (readAt bs)).map uToT := by
  rw [List.map_map, List.map_map]
  apply List.map_congr_left
  intro p hp
  obtain ⟨x, r⟩ := p
  have := hb _ hp
  exact readAt_revcomp bs x r this.1 this.2

/-- reading on the other strand, in opposite order = complementing and flipping what was read
(up to U → T on the residues that were complemented twice) -/
theorem map_readAt_flipDen (bs : List UInt8) (d : List Pos) (hb : denIn bs.length d) :
    ((flipDen d).map (readAt bs)).map uToT = ((d.map (readAt bs)).map Nuc.complementByte).reverse := by
  simp only [flipDen, List.map_map, List.map_reverse]
  congr 1
  apply List.map_congr_left
  intro p hp
  obtain ⟨x, r⟩ := p
  have h := hb _ hp
  have hx : x.toNat < bs.length := by simp only at h; omega
  simp only [Function.comp]
  rw [readAt_getElem bs x (!r) h.1 hx, readAt_getElem bs x r h.1 hx]
  cases r
  · simp [rd, uToT_complementByte]
  · simp [rd, complementByte_complementByte]

/-- on residues without U / u, `uToT` is the identity -/
theorem map_uToT_of_noU (bs : List UInt8) (h : ∀ b ∈ bs, b ≠ 85 ∧ b ≠ 117) : bs.map uToT = bs := by
  rw [List.map_congr_left (g := id), List.map_id]
  intro b hb
  have := h b hb
  simp [uToT, this.1, this.2]

/-- … also on what is read off such residues (a complemented residue is never U / u) -/
theorem map_uToT_map_readAt_of_noU (bs : List UInt8) (d : List Pos) (hb : denIn bs.length d)
    (h : ∀ b ∈ bs, b ≠ 85 ∧ b ≠ 117) : (d.map (readAt bs)).map uToT = d.map (readAt bs) := by
  rw [List.map_map]
  apply List.map_congr_left
  intro p hp
  obtain ⟨x, r⟩ := p
  have hin := hb _ hp
  have hx : x.toNat < bs.length := by simp only at hin; omega
  simp only [Function.comp]
  rw [readAt_getElem bs x r hin.1 hx]
  cases r
  · have := h _ (List.getElem_mem hx)
    simp [rd, uToT, this.1, this.2]
  · simp [rd, uToT_complementByte]

/-- the position map of the reverse complement is its own inverse -/
theorem map_revcompPos_involutive (L : Int) (d : List Pos) :
    (d.map fun p => (L - 1 - p.1, !p.2)).map (fun p => (L - 1 - p.1, !p.2)) = d := by
  rw [List.map_map, List.map_congr_left (g := id), List.map_id]
  intro p _
  apply Prod.ext
  · simp only [Function.comp, id]; omega
  · simp

theorem nodup_map_revcompPos (L : Int) (d : List Pos) (h : d.Nodup) :
    (d.map fun p => (L - 1 - p.1, !p.2)).Nodup := by
  refine List.Pairwise.map _ ?_ h
  intro a b hab he
  apply hab
  have h1 := (Prod.mk.inj he).1
  have h2 := (Prod.mk.inj he).2
  apply Prod.ext
  · omega
  · simpa using h2

theorem denIn_map_revcompPos {L : Int} {d : List Pos} (h : denIn L d) :
    denIn L (d.map fun p => (L - 1 - p.1, !p.2)) := by
  intro q hq
  obtain ⟨p, hp, rfl⟩ := List.mem_map.mp hq
  have := h p hp
  simp only
  omega

theorem Loc.wf_complement (l : Loc) : Loc.wf (Loc.complement l) = Loc.wf l := by
  cases l <;> simp [Loc.complement, Loc.wf]

end Gts
