/-
  `GenBankParser` and the saved positions it is entered with (C17 / C01).

  `genbankLocusParser` (`locusParser`) pushes two frames and every element of its `Seq` takes back at
  most what it pushed (`pars.Int` may leak one): it never looks at a frame that was there before it
  started, so with ANY older stack `st` underneath it returns the same outcome at the same position and
  leaves `st` untouched under its own leftovers (`locusParser_indep`).  `GenBankParser` then calls
  `state.Clear()`: from there on the run does not depend on `st` at all, and nothing of `st` is left.
  Hence `genbankParser_stack_indep`:

    LOCUS line accepted  →  outcome AND final state are those of the run on the empty stack
                            (no frame of `st` survives, whatever the rest of the record does);
    LOCUS line rejected  →  the same failure at the same position, and the final stack is what the
                            failing LOCUS parser leaves on the empty stack (nothing, or the one frame
                            `pars.Int` leaks at the end of the input) WITH ALL OF `st` UNDERNEATH.

  No hypothesis on `st` (not even `Sorted`).  `genbankParser_ok_inv`: what a returned record says about
  the run that returned it.
-/
import Gts.Lemmas.ParsIndep
import Gts.Model.GenBankParse
namespace Gts.GenBank
open Gts.Pars

variable {α β : Type}

theorem rs_bpOrAa : RS bpOrAa :=
  rs_bind (rs_attempt (rs_lit _)) fun | some _ => rs_pure () | none => rs_lit _

theorem rs_divisionParser : RS divisionParser :=
  rs_blind (fun rest => match rest with
      | a :: b :: c :: r =>
        if isUpper a && isUpper b && isUpper c then (.ok [a, b, c], (a :: b :: c :: r).drop 3)
        else (.ok [], a :: b :: c :: r)
      | r => (.ok [], r)) (by
    intro rest stk
    unfold divisionParser
    rw [run_bind, run_getS]
    dsimp only
    match rest with
    | [] => rfl
    | [_] => rfl
    | [_, _] => rfl
    | a :: b :: c :: r =>
      dsimp only
      split
      · rw [run_bind, run_advanceN]; rfl
      · rfl)

/-- `locusBack`: two `Pop`s, both on frames of the `Seq` -/
theorem locusBack_rframed {e : Nat} : RFramed 2 e (locusBack : P α) :=
  .bind .pop fun _ => .bind .pop fun _ => .fail

theorem locusTry_rframed {p : P α} (hp : RS p) : RFramed 2 2 (locusTry p) :=
  .attempt_bind hp (fun _ => .pure _) locusBack_rframed

theorem rs_locusParser : RS locusParser :=
  .ofFramed <| .bind .push fun _ => .bind .push fun _ =>
  .bind (locusTry_rframed (rs_lit _)) fun _ => .bind rs_spaces.framed fun _ =>
  .bind (locusTry_rframed (rs_word _)) fun _ => .bind rs_spaces.framed fun _ =>
  .bind (locusTry_rframed rs_int) fun _ => .bind (locusTry_rframed rs_bpOrAa) fun _ =>
  .bind rs_spaces.framed fun _ => .bind (locusTry_rframed (rs_word _)) fun _ =>
  .bind rs_spaces.framed fun _ => .bind (locusTry_rframed (rs_word _)) fun _ =>
  .bind rs_spaces.framed fun _ => .bind rs_divisionParser.framed fun _ =>
  .bind rs_spaces.framed fun _ => .bind rs_line.framed fun dl =>
  match asDate dl with
  | none => locusBack_rframed
  | some _ => .bind .drop fun _ => .bind .drop fun _ => .pure _

/-- **`genbankLocusParser` does not depend on the saved positions it is entered with**, and leaves
them alone: same outcome, same position, its own leftovers on top of `st` -/
theorem locusParser_indep (t : Bytes) (st : List Bytes) :
    locusParser.run' ⟨t, st⟩ =
      ((locusParser.run' ⟨t, []⟩).1,
        ⟨(locusParser.run' ⟨t, []⟩).2.rest, (locusParser.run' ⟨t, []⟩).2.stk ++ st⟩) :=
  (rs_locusParser st 0 ⟨t, []⟩ (Nat.zero_le _)).1

/-- a record that `GenBankParser` returns: the LOCUS line was read, its length is not negative, the
record loop returned the parts of the record, begun without a sequence, and they passed the length
check of 6813da5 -/
theorem genbankParser_ok_inv (reg : Registry) (s : PS) (r : Record) (reg' : Registry) (s' : PS)
    (h : (genbankParser reg).run' s = (.ok (r, reg'), s')) :
    ∃ l s1, locusParser.run' s = (.ok l, s1) ∧ 0 ≤ l.length ∧
      (∃ f0 k, (recordLoop l.length l.depth k (f0, [], .buffer [], reg)).run' ⟨s1.rest, []⟩ =
        (.ok (r.fields, r.table, r.origin, reg'), s')) ∧
      ¬ (r.origin.len ≠ l.length ∧ (r.origin.len ≠ 0 ∨ r.fields.contigAcc.isEmpty = true)) := by
  unfold genbankParser at h
  rw [run_bind] at h
  rcases hl : locusParser.run' s with ⟨r1, s1⟩
  rw [hl] at h
  rcases r1 with e | l
  · cases h
  · refine ⟨l, s1, rfl, ?_⟩
    dsimp only at h
    rw [run_bind, run_clear] at h
    dsimp only at h
    by_cases hc : l.length < 0 ∨ Origin.toOriginLength l.length > 9223372036854775807
    · rw [if_pos hc, run_bind, run_fail] at h; cases h
    rw [if_neg hc] at h
    by_cases hm : (!isMolecule l.molecule) = true
    · rw [if_pos hm, run_bind, run_fail] at h; cases h
    rw [if_neg hm] at h
    split at h
    · rw [run_fail] at h; cases h
    rw [run_bind, run_getS] at h
    dsimp only at h
    rw [run_bind] at h
    generalize hrr : (recordLoop _ _ _ _).run' _ = rr at h
    rcases rr with ⟨r2, s2⟩
    rcases r2 with e | ⟨f, tab, org, rg⟩
    · cases h
    · dsimp only at h
      split at h
      · rw [run_bind, run_fail] at h; cases h
      · rename_i hcheck
        rw [run_pure] at h
        cases h
        exact ⟨by omega, ⟨_, _, hrr⟩, hcheck⟩

/-- **`GenBankParser` and the saved positions it is entered with** (see the file header): for every
registry, every input `t` and EVERY list `st` of saved positions,

* if `genbankLocusParser` accepts the LOCUS line, the outcome and the final state — position AND saved
  positions — are exactly those of the run on the empty stack: `state.Clear()` behind the LOCUS line
  discards all of `st` (so a record that fails later fails with `st` gone);
* if it rejects the line, the outcome (that failure) and the position are those of the run on the empty
  stack, and the saved positions are the ones that run leaves, with all of `st` underneath. -/
theorem genbankParser_stack_indep (reg : Registry) (t : Bytes) (st : List Bytes) :
    (genbankParser reg).run' ⟨t, st⟩ =
      if (locusParser.run' ⟨t, []⟩).1.toBool then (genbankParser reg).run' ⟨t, []⟩
      else (((genbankParser reg).run' ⟨t, []⟩).1,
        ⟨((genbankParser reg).run' ⟨t, []⟩).2.rest, ((genbankParser reg).run' ⟨t, []⟩).2.stk ++ st⟩) := by
  have hl := locusParser_indep t st
  unfold genbankParser
  rw [run_bind, run_bind, hl]
  rcases locusParser.run' ⟨t, []⟩ with ⟨r, s1⟩
  cases r with
  | error e => simp [Except.toBool]
  | ok l =>
    simp only [Except.toBool, if_true]
    rw [run_bind, run_bind, run_clear, run_clear]

/-- … in particular a record that `GenBankParser` READS from the empty stack it reads from every stack:
the same record and registry, the same position, and no saved position left but what the empty-stack run
leaves -/
theorem genbankParser_stack_indep_ok (reg : Registry) (t : Bytes) (st : List Bytes)
    (x : Record × Registry) (s' : PS) (h : (genbankParser reg).run' ⟨t, []⟩ = (.ok x, s')) :
    (genbankParser reg).run' ⟨t, st⟩ = (.ok x, s') := by
  obtain ⟨l, s1, hl, -⟩ := genbankParser_ok_inv reg _ x.1 x.2 s' h
  rw [genbankParser_stack_indep reg t st, hl, h]
  rfl

end Gts.GenBank
