/-
  Helper lemmas for C19: the location order `Loc.less` (a strict weak order on *all*
  locations), `sort.Search`, and the sorted insertion `Table.insert`.  `LocationLess` is read off the
  contiguous `leaves` of its arguments; over the same leaves and their spans (`leafSpan`) `LocationWithin` /
  `LocationOverlap` are what they say about the denoted residues (`within_iff_den`, `overlap_iff_den`), and the
  strand of a part list is characterised (`strandList_forward`, `strandList_reverse`).  Core Lean only.
-/
import Gts.Model.Feature
import Gts.Lemmas.Basic
import Gts.Lemmas.Table
namespace Gts
namespace Loc

mutual
/-- the contiguous leaves of a location, in order (complements stripped) -/
def leaves : Loc → List Loc
  | compl l => leaves l
  | joined ls => leavesList ls
  | ordered ls => leavesList ls
  | l => [l]
def leavesList : List Loc → List Loc
  | [] => []
  | l :: ls => leaves l ++ leavesList ls
end

/-- contiguous kinds: `Between`, `Point`, `Ranged`, `Ambiguous` -/
def isLeaf (l : Loc) : Bool := (span? l).isSome

/-- what `LocationLess` compares on a contiguous location: the normalised span, then the
number of partial markers -/
def nkey (l : Loc) : Int × Int × Nat :=
  match span? l with
  | some (s, e) => (gmin s e, gmax s e, partialCount l)
  | none => (0, 0, 0)

def lexLt (a b : Int × Int × Nat) : Prop :=
  a.1 < b.1 ∨ (a.1 = b.1 ∧ (a.2.1 < b.2.1 ∨ (a.2.1 = b.2.1 ∧ a.2.2 < b.2.2)))

theorem lexLt_irrefl (a : Int × Int × Nat) : ¬ lexLt a a := by
  unfold lexLt; omega

theorem lexLt_trans {a b c : Int × Int × Nat} (h₁ : lexLt a b) (h₂ : lexLt b c) : lexLt a c := by
  unfold lexLt at *; omega

theorem lexLt_negtrans {a b c : Int × Int × Nat} (h : lexLt a c) : lexLt a b ∨ lexLt b c := by
  unfold lexLt at *; omega

theorem rangeCompare_eq (s1 e1 s2 e2 : Int) : rangeCompare s1 e1 s2 e2 =
    if gmin s1 e1 < gmin s2 e2 then -1 else if gmin s2 e2 < gmin s1 e1 then 1
    else if gmax s1 e1 < gmax s2 e2 then -1 else if gmax s2 e2 < gmax s1 e1 then 1 else 0 := by
  have norm : ∀ s e : Int, (if e < s then (e, s) else (s, e)) = (gmin s e, gmax s e) := by
    intro s e
    simp only [gmin, gmax]
    by_cases h : e < s
    · rw [if_pos h, if_pos h, if_neg (by omega)]
    · rw [if_neg h, if_neg h]
      by_cases h' : s < e
      · rw [if_pos h']
      · rw [if_neg h', show e = s by omega]
  simp only [rangeCompare, norm]

theorem contigLess_iff {a b : Loc} (ha : isLeaf a = true) (hb : isLeaf b = true) :
    contigLess a b = true ↔ lexLt (nkey a) (nkey b) := by
  obtain ⟨⟨s1, e1⟩, hsa⟩ := Option.isSome_iff_exists.mp ha
  obtain ⟨⟨s2, e2⟩, hsb⟩ := Option.isSome_iff_exists.mp hb
  have hc := rangeCompare_eq s1 e1 s2 e2
  simp only [contigLess, nkey, hsa, hsb, lexLt]
  by_cases h0 : rangeCompare s1 e1 s2 e2 = 0
  · rw [if_neg (not_not_intro h0), decide_eq_true_eq]; omega
  · rw [if_pos h0, decide_eq_true_eq]; omega

theorem contigLess_of_not_leaf_left {a b : Loc} (ha : isLeaf a = false) : contigLess a b = false := by
  unfold isLeaf at ha
  cases hsa : span? a with
  | none => simp [contigLess, hsa]
  | some sa => simp [hsa] at ha

mutual
theorem leaves_isLeaf : ∀ (l : Loc) (x : Loc), x ∈ leaves l → isLeaf x = true
  | between _, x, h | point _, x, h | ranged _ _ _ _, x, h | ambiguous _ _, x, h => by
      simp only [leaves, List.mem_singleton] at h; subst h; rfl
  | joined ls, x, h | ordered ls, x, h => by rw [leaves] at h; exact leavesList_isLeaf ls x h
  | compl l, x, h => by rw [leaves] at h; exact leaves_isLeaf l x h
theorem leavesList_isLeaf : ∀ (ls : List Loc) (x : Loc), x ∈ leavesList ls → isLeaf x = true
  | [], x, h => by cases h
  | l :: ls, x, h => by
      rw [leavesList, List.mem_append] at h
      exact h.elim (leaves_isLeaf l x) (leavesList_isLeaf ls x)
end

theorem exists_mem_append {α} {p : α → Prop} {l₁ l₂ : List α} :
    (∃ x ∈ l₁ ++ l₂, p x) ↔ (∃ x ∈ l₁, p x) ∨ ∃ x ∈ l₂, p x := by
  simp only [List.mem_append, or_and_right, exists_or]

/-! ### `LocationLess` in closed form -/

mutual
theorem lessB_iff (a : Loc) : ∀ b : Loc, lessB a b = true ↔ ∀ lb ∈ leaves b, contigLess a lb = true
  | between _ | point _ | ranged _ _ _ _ | ambiguous _ _ => by
      simp only [lessB, leaves, List.forall_mem_singleton]
  | joined ls | ordered ls => by simp only [lessB, leaves]; exact allLessB_iff a ls
  | compl l => by simp only [lessB, leaves]; exact lessB_iff a l
theorem allLessB_iff (a : Loc) :
    ∀ ls : List Loc, allLessB a ls = true ↔ ∀ lb ∈ leavesList ls, contigLess a lb = true
  | [] => by simp [allLessB, leavesList]
  | l :: ls => by
      simp only [allLessB, leavesList, Bool.and_eq_true, List.forall_mem_append, lessB_iff a l,
        allLessB_iff a ls]
end

mutual
/-- `LocationLess(a, b)` holds iff **some leaf of `a` is below every leaf of `b`**. -/
theorem less_iff : ∀ (a b : Loc),
    less a b = true ↔ ∃ la ∈ leaves a, ∀ lb ∈ leaves b, contigLess la lb = true
  | between _, b | point _, b | ranged _ _ _ _, b | ambiguous _ _, b => by
      simp only [less, leaves, lessB_iff, List.mem_singleton, exists_eq_left]
  | joined ls, b | ordered ls, b => by simp only [less, leaves]; exact anyLess_iff ls b
  | compl l, b => by simp only [less, leaves]; exact less_iff l b
theorem anyLess_iff : ∀ (ls : List Loc) (b : Loc),
    anyLess ls b = true ↔ ∃ la ∈ leavesList ls, ∀ lb ∈ leaves b, contigLess la lb = true
  | [], b => by simp [anyLess, leavesList]
  | l :: ls, b => by
      simp only [anyLess, leavesList, Bool.or_eq_true, exists_mem_append, less_iff l b, anyLess_iff ls b]
end

theorem less_irrefl (a : Loc) : less a a = false := by
  cases h : less a a with
  | false => rfl
  | true =>
    obtain ⟨la, hla, hall⟩ := (less_iff a a).mp h
    have hl := leaves_isLeaf a la hla
    exact absurd ((contigLess_iff hl hl).mp (hall la hla)) (lexLt_irrefl _)

theorem less_trans {a b c : Loc} (h₁ : less a b = true) (h₂ : less b c = true) : less a c = true := by
  obtain ⟨la, hla, hab⟩ := (less_iff a b).mp h₁
  obtain ⟨lb, hlb, hbc⟩ := (less_iff b c).mp h₂
  refine (less_iff a c).mpr ⟨la, hla, fun lc hlc => ?_⟩
  have ha := leaves_isLeaf a la hla
  have hb := leaves_isLeaf b lb hlb
  have hc := leaves_isLeaf c lc hlc
  exact (contigLess_iff ha hc).mpr
    (lexLt_trans ((contigLess_iff ha hb).mp (hab lb hlb)) ((contigLess_iff hb hc).mp (hbc lc hlc)))

theorem less_asymm {a b : Loc} (h : less a b = true) : less b a = false := by
  cases h' : less b a with
  | false => rfl
  | true => have := less_trans h h'; rw [less_irrefl] at this; cases this

theorem less_negtrans {a c : Loc} (b : Loc) (h : less a c = true) :
    less a b = true ∨ less b c = true := by
  obtain ⟨la, hla, hac⟩ := (less_iff a c).mp h
  have ha := leaves_isLeaf a la hla
  by_cases hab : ∀ lb ∈ leaves b, contigLess la lb = true
  · exact Or.inl ((less_iff a b).mpr ⟨la, hla, hab⟩)
  · right
    obtain ⟨lb, hlb, hnl⟩ : ∃ lb, lb ∈ leaves b ∧ ¬ contigLess la lb = true := by
      simpa only [Classical.not_forall, exists_prop] using hab
    have hb := leaves_isLeaf b lb hlb
    refine (less_iff b c).mpr ⟨lb, hlb, fun lc hlc => ?_⟩
    have hc := leaves_isLeaf c lc hlc
    have hlt := (contigLess_iff ha hc).mp (hac lc hlc)
    rcases lexLt_negtrans (b := nkey lb) hlt with h1 | h1
    · exact absurd ((contigLess_iff ha hb).mpr h1) hnl
    · exact (contigLess_iff hb hc).mpr h1

theorem notLess_trans (a b c : Loc) (hab : less b a = false) (hbc : less c b = false) : less c a = false := by
  cases hca : less c a with
  | false => rfl
  | true =>
    rcases less_negtrans b hca with h | h
    · rw [hbc] at h; cases h
    · rw [hab] at h; cases h

/-- incomparability (`¬ a<b ∧ ¬ b<a`) is transitive -/
theorem less_incomp_trans {a b c : Loc} (hab : less a b = false) (hba : less b a = false)
    (hbc : less b c = false) (hcb : less c b = false) : less a c = false ∧ less c a = false :=
  ⟨notLess_trans c b a hbc hab, notLess_trans a b c hba hcb⟩

end Loc

/-! ### `sort.Search` -/

/-- the loop invariant of `sort.Search`, for **any** predicate `f`: the result lies in `[i, j]`, `f` is
false just below it unless it is `i`, and true at it unless it is `j` -/
theorem sortSearchLoop_spec (f : Nat → Bool) :
    ∀ (fuel i j : Nat), i ≤ j → j - i < fuel →
      i ≤ sortSearchLoop f fuel i j ∧ sortSearchLoop f fuel i j ≤ j ∧
      (sortSearchLoop f fuel i j = i ∨ f (sortSearchLoop f fuel i j - 1) = false) ∧
      (sortSearchLoop f fuel i j = j ∨ f (sortSearchLoop f fuel i j) = true) := by
  intro fuel
  induction fuel with
  | zero => intro i j _ h; omega
  | succ fuel ih =>
    intro i j hij hfuel
    unfold sortSearchLoop
    by_cases hlt : i < j
    · simp only [hlt, if_true]
      cases hf : f ((i + j) / 2) with
      | false =>
        simp only [Bool.not_false, if_true]
        obtain ⟨h1, h2, h3, h4⟩ := ih ((i + j) / 2 + 1) j (by omega) (by omega)
        exact ⟨by omega, h2, .inr (h3.elim (fun e => by rw [e, Nat.add_sub_cancel]; exact hf) id), h4⟩
      | true =>
        simp only [Bool.not_true, Bool.false_eq_true, if_false]
        obtain ⟨h1, h2, h3, h4⟩ := ih i ((i + j) / 2) (by omega) (by omega)
        exact ⟨h1, by omega, h3, .inr (h4.elim (fun e => by rw [e]; exact hf) id)⟩
    · rw [if_neg hlt]
      exact ⟨Nat.le_refl _, hij, .inl rfl, .inl (by omega)⟩

theorem sortSearch_general (n : Nat) (f : Nat → Bool) :
    sortSearch n f ≤ n ∧ (sortSearch n f = n ∨ f (sortSearch n f) = true) ∧
      (sortSearch n f = 0 ∨ f (sortSearch n f - 1) = false) := by
  have := sortSearchLoop_spec f (n + 1) 0 n (Nat.zero_le _) (by omega)
  exact ⟨this.2.1, this.2.2.2, this.2.2.1⟩

/-- a predicate of the shape `false … false true … true` on `[0, n)` -/
def MonotoneUpTo (n : Nat) (f : Nat → Bool) : Prop :=
  ∀ a b, a ≤ b → b < n → f a = true → f b = true

theorem sortSearch_partition (n : Nat) (f : Nat → Bool) (hm : MonotoneUpTo n f) :
    sortSearch n f ≤ n ∧ (∀ k, k < sortSearch n f → f k = false) ∧
      (∀ k, sortSearch n f ≤ k → k < n → f k = true) := by
  obtain ⟨h1, h2, h3⟩ := sortSearch_general n f
  refine ⟨h1, fun k hk => ?_, fun k hk hkn => ?_⟩
  · cases hf : f k with
    | false => rfl
    | true =>
      rcases h3 with h3 | h3
      · omega
      · have := hm k (sortSearch n f - 1) (by omega) (by omega) hf
        rw [h3] at this; cases this
  · rcases h2 with h2 | h2
    · omega
    · exact hm _ k hk hkn h2

/-! ### `FeatureSlice.Insert` -/

namespace Table

/-- "non-decreasing location order": no later feature is `LocationLess` than an earlier one -/
def NonDecreasing (r : Table) : Prop := r.Pairwise fun a b => Loc.less b.loc a.loc = false

/-- the table invariant of C19: the leading block of `source` features is followed by
non-`source` features only, and those are in non-decreasing location order -/
def Ok (t : Table) : Prop :=
  (∀ g ∈ t.drop (sourceCount t), g.key ≠ "source") ∧ NonDecreasing (t.drop (sourceCount t))

theorem sourceCount_le : ∀ t : Table, sourceCount t ≤ t.length
  | [] => by simp [sourceCount]
  | f :: fs => by
      unfold sourceCount
      split
      · have := sourceCount_le fs; simp; omega
      · simp

theorem take_sourceCount_source : ∀ (t : Table) (s : Feature), s ∈ t.take (sourceCount t) → s.key = "source"
  | [], s, h => by simp [sourceCount] at h
  | f :: fs, s, h => by
      unfold sourceCount at h
      by_cases hk : f.key = "source"
      · simp only [hk, if_true, List.take_succ_cons, List.mem_cons] at h
        rcases h with rfl | h
        · exact hk
        · exact take_sourceCount_source fs s h
      · simp [hk] at h

theorem sourceCount_append : ∀ (srcs rest : Table), (∀ s ∈ srcs, s.key = "source") →
    (∀ g, rest.head? = some g → g.key ≠ "source") → sourceCount (srcs ++ rest) = srcs.length
  | [], [], _, _ => by simp [sourceCount]
  | [], g :: rest, _, h => by
      have := h g rfl
      simp [sourceCount, this]
  | s :: srcs, rest, hs, h => by
      have h1 : s.key = "source" := hs s (List.mem_cons_self ..)
      have := sourceCount_append srcs rest (fun x hx => hs x (List.mem_cons_of_mem _ hx)) h
      simp [sourceCount, h1, this]

/-- the index at which `Insert` places `f` -/
def insertIdx (t : Table) (f : Feature) : Nat :=
  if f.key ≠ "source" then
    sourceCount t + sortSearch (t.length - sourceCount t) (fun j =>
      match t[sourceCount t + j]? with
      | some g => Loc.less f.loc g.loc
      | none => true)
  else sourceCount t

theorem insert_eq (t : Table) (f : Feature) :
    insert t f = t.take (insertIdx t f) ++ f :: t.drop (insertIdx t f) := rfl

theorem nonDecreasing_insert_at (rest : Table) (f : Feature) (j : Nat)
    (hs : NonDecreasing rest)
    (hlo : ∀ a ∈ rest.take j, Loc.less f.loc a.loc = false)
    (hhi : ∀ b ∈ rest.drop j, Loc.less f.loc b.loc = true) :
    NonDecreasing (rest.take j ++ f :: rest.drop j) := by
  unfold NonDecreasing at *
  rw [← List.take_append_drop j rest, List.pairwise_append] at hs
  obtain ⟨h1, h2, h3⟩ := hs
  rw [List.pairwise_append]
  refine ⟨h1, ?_, ?_⟩
  · rw [List.pairwise_cons]
    exact ⟨fun b hb => Loc.less_asymm (hhi b hb), h2⟩
  · intro a ha b hb
    rcases List.mem_cons.mp hb with rfl | hb
    · exact hlo a ha
    · exact h3 a ha b hb

theorem insert_pred_monotone (rest : Table) (f : Feature) (hs : NonDecreasing rest) :
    MonotoneUpTo rest.length (fun j => match rest[j]? with
      | some g => Loc.less f.loc g.loc
      | none => true) := by
  intro a b hab hb ha
  have ha' : a < rest.length := by omega
  simp only [List.getElem?_eq_getElem ha', List.getElem?_eq_getElem hb] at ha ⊢
  by_cases hEq : a = b
  · subst hEq; exact ha
  · have hlt : a < b := by omega
    have hp := (List.pairwise_iff_getElem.mp hs) a b ha' hb hlt
    rcases Loc.less_negtrans rest[b].loc ha with h | h
    · exact h
    · rw [hp] at h; cases h

theorem ok_of_decomp (srcs rest : Table) (hs : ∀ s ∈ srcs, s.key = "source")
    (hr : ∀ g ∈ rest, g.key ≠ "source") (hnd : NonDecreasing rest) : Ok (srcs ++ rest) := by
  have hc : sourceCount (srcs ++ rest) = srcs.length :=
    sourceCount_append srcs rest hs (fun g hg => hr g (List.mem_of_mem_head? hg))
  unfold Ok
  rw [hc, List.drop_left]
  exact ⟨hr, hnd⟩

theorem insertIdx_nonsource (t : Table) (f : Feature) (hkey : f.key ≠ "source") :
    insertIdx t f = sourceCount t +
      sortSearch (t.drop (sourceCount t)).length (fun j =>
        match (t.drop (sourceCount t))[j]? with
        | some g => Loc.less f.loc g.loc
        | none => true) := by
  simp only [insertIdx, hkey, ne_eq, not_false_eq_true, if_true, List.length_drop,
    List.getElem?_drop]

theorem insert_ok (t : Table) (f : Feature) (h : Ok t) : Ok (insert t f) := by
  obtain ⟨hsf, hnd⟩ := h
  have hsrc := take_sourceCount_source t
  rw [insert_eq]
  by_cases hkey : f.key = "source"
  · have hi : insertIdx t f = sourceCount t := by simp [insertIdx, hkey]
    rw [hi]
    have : t.take (sourceCount t) ++ f :: t.drop (sourceCount t)
        = (t.take (sourceCount t) ++ [f]) ++ t.drop (sourceCount t) := by simp
    rw [this]
    apply ok_of_decomp _ _ _ hsf hnd
    intro s hs
    rcases List.mem_append.mp hs with hs | hs
    · exact hsrc s hs
    · simp at hs; subst hs; exact hkey
  · rw [insertIdx_nonsource t f hkey]
    generalize hrest : t.drop (sourceCount t) = rest at *
    have hm := insert_pred_monotone rest f hnd
    obtain ⟨hj, hlo, hhi⟩ := sortSearch_partition rest.length _ hm
    generalize sortSearch rest.length _ = j at *
    have e1 : t.take (sourceCount t + j) = t.take (sourceCount t) ++ rest.take j := by
      rw [List.take_add, hrest]
    have e2 : t.drop (sourceCount t + j) = rest.drop j := by
      rw [← hrest, List.drop_drop]
    rw [e1, e2, List.append_assoc]
    apply ok_of_decomp _ _ hsrc
    · intro g hg
      rcases List.mem_append.mp hg with hg | hg
      · exact hsf g (List.mem_of_mem_take hg)
      · rcases List.mem_cons.mp hg with rfl | hg
        · exact hkey
        · exact hsf g (List.mem_of_mem_drop hg)
    · apply nonDecreasing_insert_at rest f j hnd
      · intro a ha
        obtain ⟨i, hi, rfl⟩ := List.mem_take_iff_getElem.mp ha
        have hi' : i < rest.length := by omega
        have := hlo i (by omega)
        simpa [List.getElem?_eq_getElem hi'] using this
      · intro b hb
        obtain ⟨i, hi, rfl⟩ := List.mem_drop_iff_getElem.mp hb
        have hi' : j + i < rest.length := by omega
        have := hhi (j + i) (by omega) hi'
        simpa [List.getElem?_eq_getElem hi'] using this

theorem ok_nil : Ok ([] : Table) := by
  simp [Ok, NonDecreasing, sourceCount]

theorem insertAll_ok (fs : List Feature) : ∀ (t : Table), Ok t → Ok (insertAll t fs) := by
  induction fs with
  | nil => intro t h; exact h
  | cons f fs ih => intro t h; exact ih (insert t f) (insert_ok t f h)

end Table

namespace Loc

/-- the `[start, end)` span of a contiguous leaf -/
def leafSpan (l : Loc) : Int × Int := (span? l).getD (0, 0)

mutual
/-- `LocationWithin`: **every** leaf lies within the bounds -/
theorem within_iff_leaves : ∀ (l : Loc) (lo hi : Int),
    within l lo hi = true ↔ ∀ x ∈ leaves l, rangeWithin (leafSpan x).1 (leafSpan x).2 lo hi = true
  | between _, lo, hi | point _, lo, hi | ranged _ _ _ _, lo, hi | ambiguous _ _, lo, hi => by
      simp only [within, leaves, List.forall_mem_singleton, leafSpan, span?, Option.getD_some]
  | joined ls, lo, hi | ordered ls, lo, hi => by
      simp only [within, leaves]; exact withinAll_iff_leaves ls lo hi
  | compl l, lo, hi => by simp only [within, leaves]; exact within_iff_leaves l lo hi
theorem withinAll_iff_leaves : ∀ (ls : List Loc) (lo hi : Int),
    withinAll ls lo hi = true ↔
      ∀ x ∈ leavesList ls, rangeWithin (leafSpan x).1 (leafSpan x).2 lo hi = true
  | [], lo, hi => by simp [withinAll, leavesList]
  | l :: ls, lo, hi => by
      simp only [withinAll, leavesList, Bool.and_eq_true, List.forall_mem_append,
        within_iff_leaves l lo hi, withinAll_iff_leaves ls lo hi]
end

mutual
/-- `LocationOverlap`: **some** leaf overlaps the bounds -/
theorem overlap_iff_leaves : ∀ (l : Loc) (lo hi : Int),
    overlap l lo hi = true ↔ ∃ x ∈ leaves l, rangeOverlap (leafSpan x).1 (leafSpan x).2 lo hi = true
  | between _, lo, hi | point _, lo, hi | ranged _ _ _ _, lo, hi | ambiguous _ _, lo, hi => by
      simp only [overlap, leaves, List.mem_singleton, exists_eq_left, leafSpan, span?, Option.getD_some]
  | joined ls, lo, hi | ordered ls, lo, hi => by
      simp only [overlap, leaves]; exact overlapAny_iff_leaves ls lo hi
  | compl l, lo, hi => by simp only [overlap, leaves]; exact overlap_iff_leaves l lo hi
theorem overlapAny_iff_leaves : ∀ (ls : List Loc) (lo hi : Int),
    overlapAny ls lo hi = true ↔
      ∃ x ∈ leavesList ls, rangeOverlap (leafSpan x).1 (leafSpan x).2 lo hi = true
  | [], lo, hi => by simp [overlapAny, leavesList]
  | l :: ls, lo, hi => by
      simp only [overlapAny, leavesList, Bool.or_eq_true, exists_mem_append,
        overlap_iff_leaves l lo hi, overlapAny_iff_leaves ls lo hi]
end

/-- residue `q` lies in the span of leaf `x` -/
def covers (x : Loc) (q : Int) : Prop := (leafSpan x).1 ≤ q ∧ q < (leafSpan x).2

theorem mem_den_range {s e q : Int} :
    (∃ b, (q, b) ∈ fwd (irange s (e - s).toNat)) ↔ s ≤ q ∧ q < e := by
  constructor
  · rintro ⟨b, h⟩
    have := (mem_irange.mp (mem_fwd.mp h).2)
    omega
  · intro h
    exact ⟨false, mem_fwd.mpr ⟨rfl, mem_irange.mpr (by omega)⟩⟩

mutual
theorem den_cover : ∀ (l : Loc) (q : Int), (∃ b, (q, b) ∈ den l) ↔ ∃ x ∈ leaves l, covers x q
  | between p, q => by
      simp only [den, leaves, covers, leafSpan, span?, List.not_mem_nil, exists_false,
        List.mem_singleton, exists_eq_left, Option.getD_some, false_iff]
      omega
  | point p, q => by simp [den, leaves, covers, leafSpan, span?]; omega
  | ranged s e _ _, q | ambiguous s e, q => by
      simp only [den, leaves, covers, leafSpan, span?, List.mem_singleton, exists_eq_left,
        Option.getD_some]
      exact mem_den_range
  | joined ls, q | ordered ls, q => by simp only [den, leaves]; exact denList_cover ls q
  | compl l, q => by
      simp only [den, leaves, mem_flipDen]
      rw [← den_cover l q]
      constructor
      · rintro ⟨b, h⟩; exact ⟨!b, h⟩
      · rintro ⟨b, h⟩; exact ⟨!b, by simpa using h⟩
theorem denList_cover : ∀ (ls : List Loc) (q : Int),
    (∃ b, (q, b) ∈ denList ls) ↔ ∃ x ∈ leavesList ls, covers x q
  | [], q => by simp [denList, leavesList]
  | l :: ls, q => by
      rw [denList, leavesList, exists_mem_append, ← den_cover l q, ← denList_cover ls q, ← exists_or]
      simp only [List.mem_append]
end

/-- every leaf denotes at least one residue (no `Between` site, no empty range) -/
def ProperLeaves (l : Loc) : Prop := ∀ x ∈ leaves l, (leafSpan x).1 < (leafSpan x).2

theorem rangeWithin_iff {s e lo hi : Int} (hse : s < e) (hb : lo ≤ hi) :
    rangeWithin s e lo hi = true ↔ ∀ q, s ≤ q → q < e → lo ≤ q ∧ q < hi := by
  have h1 : ¬ e < s := by omega
  have h2 : ¬ hi < lo := by omega
  simp only [rangeWithin, h1, h2, if_false, Bool.and_eq_true, decide_eq_true_eq]
  constructor
  · rintro ⟨_, _⟩ q _ _; omega
  · intro h
    have := h s (Int.le_refl _) hse
    have := h (e - 1) (by omega) (by omega)
    omega

theorem rangeOverlap_iff {s e lo hi : Int} (hse : s < e) (hb : lo < hi) :
    rangeOverlap s e lo hi = true ↔ ∃ q, s ≤ q ∧ q < e ∧ lo ≤ q ∧ q < hi := by
  have h1 : ¬ e < s := by omega
  have h2 : ¬ hi < lo := by omega
  simp only [rangeOverlap, h1, h2, if_false, Bool.and_eq_true, decide_eq_true_eq]
  constructor
  · rintro ⟨_, _⟩
    by_cases h : s ≤ lo
    · exact ⟨lo, by omega, by omega, by omega, by omega⟩
    · exact ⟨s, by omega, by omega, by omega, by omega⟩
  · rintro ⟨q, _, _, _, _⟩; omega

theorem within_iff_den (l : Loc) (lo hi : Int) (hp : ProperLeaves l) (hb : lo ≤ hi) :
    within l lo hi = true ↔ ∀ q b, (q, b) ∈ den l → lo ≤ q ∧ q < hi := by
  rw [within_iff_leaves]
  constructor
  · intro h q b hq
    obtain ⟨x, hx, hc⟩ := (den_cover l q).mp ⟨b, hq⟩
    exact (rangeWithin_iff (hp x hx) hb).mp (h x hx) q hc.1 hc.2
  · intro h x hx
    refine (rangeWithin_iff (hp x hx) hb).mpr fun q h1 h2 => ?_
    obtain ⟨b, hq⟩ := (den_cover l q).mpr ⟨x, hx, h1, h2⟩
    exact h q b hq

/-- `Overlap(lo, hi)` over the denoted residues: some of them lies in `[lo, hi)` (for a
non-empty window; with `lo = hi` the code asks for a leaf that strictly contains the site) -/
theorem overlap_iff_den (l : Loc) (lo hi : Int) (hp : ProperLeaves l) (hb : lo < hi) :
    overlap l lo hi = true ↔ ∃ q b, (q, b) ∈ den l ∧ lo ≤ q ∧ q < hi := by
  rw [overlap_iff_leaves]
  constructor
  · rintro ⟨x, hx, h⟩
    obtain ⟨q, h1, h2, h3, h4⟩ := (rangeOverlap_iff (hp x hx) hb).mp h
    obtain ⟨b, hq⟩ := (den_cover l q).mpr ⟨x, hx, h1, h2⟩
    exact ⟨q, b, hq, h3, h4⟩
  · rintro ⟨q, b, hq, h3, h4⟩
    obtain ⟨x, hx, hc⟩ := (den_cover l q).mp ⟨b, hq⟩
    exact ⟨x, hx, (rangeOverlap_iff (hp x hx) hb).mpr ⟨q, hc.1, hc.2, h3, h4⟩⟩

theorem strandList_forward (ss : List Nat) : strandList ss = 1 ↔ ∀ s ∈ ss, s = 1 := by
  simp only [strandList, List.length_eq_zero_iff, List.filter_eq_nil_iff, bne_iff_ne, ne_eq, Decidable.not_not]
  by_cases h : ∀ s ∈ ss, s = 1
  · rw [if_pos h]
    exact iff_of_true rfl h
  · rw [if_neg h]
    refine iff_of_false ?_ h
    split <;> omega

theorem strandList_reverse (ss : List Nat) : strandList ss = 2 ↔ ss ≠ [] ∧ ∀ s ∈ ss, s = 2 := by
  simp only [strandList, List.length_eq_zero_iff, List.filter_eq_nil_iff, bne_iff_ne, ne_eq, Decidable.not_not]
  by_cases h1 : ∀ s ∈ ss, s = 1
  · rw [if_pos h1]
    refine iff_of_false (by omega) ?_
    rintro ⟨hne, h2⟩
    cases ss with
    | nil => exact hne rfl
    | cons a as =>
      have := h1 a (by simp)
      have := h2 a (by simp)
      omega
  · rw [if_neg h1]
    by_cases h2 : ∀ s ∈ ss, s = 2
    · rw [if_pos h2]
      exact iff_of_true rfl ⟨fun e => h1 (by simp [e]), h2⟩
    · rw [if_neg h2]
      exact iff_of_false (by omega) fun h => h2 h.2

theorem strands_eq_map : ∀ ls : List Loc, strands ls = ls.map strand
  | [] => rfl
  | l :: ls => congrArg (strand l :: ·) (strands_eq_map ls)

end Loc
end Gts
