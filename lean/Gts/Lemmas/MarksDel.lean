/-
  Outer partial markers under deletion (`Expand(i, -k)`, `k > 0`): `delMarks i k l` says, leaf by
  leaf, which markers the result carries (a leaf that loses every residue becomes a between-site
  and carries none; a range that loses its first / last residue becomes 5' / 3' partial);
  `marks (expand l i (-k)) = delMarks i k l` for every kind and arity unless a marker-moving rule
  of `Push` fires (the contiguous kinds here, the rest through `tmap_marks`).
-/
import Gts.Lemmas.MarksPush
import Gts.Lemmas.Delete
import Gts.Lemmas.OuterLeaves
namespace Gts
namespace Loc

mutual
def delMarks (i k : Int) : Loc → Mk
  | between _ => none
  | point p => if i ≤ p ∧ p < i + k then none else some (false, false)
  | ranged s e p5 p3 =>
      if delStart s i k = delEnd e i k then none
      else some (p5 || decide (i ≤ s ∧ s < i + k), p3 || decide (i < e ∧ e ≤ i + k))
  | ambiguous s e => if delStart s i k = delEnd e i k then none else some (false, false)
  | joined ls => delMarksList i k ls
  | ordered ls => delMarksList i k ls
  | compl l => mswap (delMarks i k l)
def delMarksList (i k : Int) : List Loc → Mk
  | [] => none
  | l :: ls => mcomb (delMarks i k l) (delMarksList i k ls)
end

section
variable (i k : Int)
@[simp] theorem delMarks_between (p : Int) : delMarks i k (between p) = none := by simp [delMarks]
@[simp] theorem delMarks_point (p : Int) :
    delMarks i k (point p) = if i ≤ p ∧ p < i + k then none else some (false, false) := by
  simp [delMarks]
@[simp] theorem delMarks_ranged (s e : Int) (p5 p3 : Bool) :
    delMarks i k (ranged s e p5 p3) =
      if delStart s i k = delEnd e i k then none
      else some (p5 || decide (i ≤ s ∧ s < i + k), p3 || decide (i < e ∧ e ≤ i + k)) := by
  simp [delMarks]
@[simp] theorem delMarks_ambiguous (s e : Int) :
    delMarks i k (ambiguous s e) =
      if delStart s i k = delEnd e i k then none else some (false, false) := by
  simp [delMarks]
@[simp] theorem delMarks_joined (ls : List Loc) : delMarks i k (joined ls) = delMarksList i k ls := by
  simp [delMarks]
@[simp] theorem delMarks_ordered (ls : List Loc) : delMarks i k (ordered ls) = delMarksList i k ls := by
  simp [delMarks]
@[simp] theorem delMarks_compl (l : Loc) : delMarks i k (compl l) = mswap (delMarks i k l) := by
  simp [delMarks]
@[simp] theorem delMarksList_nil : delMarksList i k [] = none := by simp [delMarksList]
@[simp] theorem delMarksList_cons (l : Loc) (ls : List Loc) :
    delMarksList i k (l :: ls) = mcomb (delMarks i k l) (delMarksList i k ls) := by
  simp [delMarksList]
end

theorem marks_pointExpand_del (p i k : Int) (hk : 0 < k) :
    marks (pointExpand p i (-k)) = delMarks i k (point p) := by
  rw [pointExpand_del p i k hk, delMarks_point]
  split <;> rfl

theorem marks_rangedExpand_del (s e : Int) (a b : Bool) (i k : Int) (h : s < e) (hk : 0 < k) :
    marks (rangedExpand s e a b i (-k)) = delMarks i k (ranged s e a b) := by
  rw [rangedExpand_del_eq _ _ _ _ _ _ hk, delMarks_ranged]
  have hle := delStart_le_delEnd s e i k (Int.le_of_lt h)
  by_cases hc : delStart s i k = delEnd e i k
  · simp [hc]
  · have hlt : delStart s i k < delEnd e i k := by omega
    rw [if_neg hc, if_neg hc, marks_ranged, if_pos hlt]
    by_cases c1 : i ≤ s ∧ s < i + k <;> by_cases c2 : i < e ∧ e ≤ i + k <;> simp [c1, c2]

theorem marks_ambiguousExpand_del (s e i k : Int) (hk : 0 < k) :
    marks (ambiguousExpand s e i (-k)) = delMarks i k (ambiguous s e) := by
  rw [ambiguousExpand_del_eq _ _ _ _ hk, delMarks_ambiguous]
  by_cases hc : delStart s i k = delEnd e i k
  · simp [hc]
  · simp [hc]

mutual
theorem delMarks_eq_mfold (i k : Int) : ∀ l : Loc, mfold (delMarks i k) false l = delMarks i k l
  | between _ | point _ | ranged _ _ _ _ | ambiguous _ _ => by simp only [mfold]
  | joined ls => by rw [mfold, delMarks_joined, delMarksList_eq_mfold i k ls]
  | ordered ls => by rw [mfold, delMarks_ordered, delMarksList_eq_mfold i k ls]
  | compl l => by rw [mfold, delMarks_compl, delMarks_eq_mfold i k l]
theorem delMarksList_eq_mfold (i k : Int) : ∀ ls : List Loc,
    mfoldList (delMarks i k) false ls = delMarksList i k ls
  | [] => by simp [mfoldList]
  | l :: ls => by
      rw [mfoldList, delMarksList_cons, delMarks_eq_mfold i k l, delMarksList_eq_mfold i k ls]; rfl
end

theorem expand_del_marks_leaf (i k : Int) (hk : 0 < k) (u : Loc) (hu : isContig u = true)
    (_ : rwf u = true) (hw : wf u = true) :
    marks (expand u i (-k)) = delMarks i k u ∧ rwf (expand u i (-k)) = true :=
  ⟨match u, hu, hw with
    | between p, _, _ => by simp [expand, betweenExpand]
    | point p, _, _ => marks_pointExpand_del p i k hk
    | ranged s e a b, _, hw => marks_rangedExpand_del s e a b i k (of_decide_eq_true hw) hk
    | ambiguous s e, _, _ => marks_ambiguousExpand_del s e i k hk,
   rwf_of_wf _ (expand_del_leafSpec i k hk u hu hw rfl).2⟩

theorem expand_del_marks_aux (l : Loc) (i k : Int) (hw : wf l = true) (hk : 0 < k)
    (hg : expandMarkAbs l i (-k) = false) : marks (expand l i (-k)) = delMarks i k l := by
  rw [(expand_eq_tmap i (-k) l).2.2] at hg
  rw [(expand_eq_tmap i (-k) l).1, ← delMarks_eq_mfold i k l]
  exact (tmap_marks (expand_del_marks_leaf i k hk) l (rwf_of_wf l hw) (wf_eq_allLeaves l ▸ hw)).1 hg

theorem expandList_del_marks_aux : ∀ (ls : List Loc) (i k : Int), wfList ls = true → 0 < k →
    expandMarkAbsList ls i (-k) = false → marksList (expandList ls i (-k)) = delMarksList i k ls :=
  fun ls i k hw hk hg => (order_marks _).symm.trans (expand_del_marks_aux (ordered ls) i k hw hk hg)

/-- markers of one leaf after the deletion, on its reading strand -/
def leafDel (i k : Int) (d : DL) : Mk := if d.2 then mswap (delMarks i k d.1) else delMarks i k d.1

theorem leafDel_dflip (i k : Int) (d : DL) : leafDel i k (dflip d) = mswap (leafDel i k d) := by
  obtain ⟨l, b⟩ := d
  cases b <;> simp [leafDel, dflip]

/-- what the outer leaves say about `delMarks`: an outer leaf that keeps a residue decides the
marker on its end -/
def OuterDel (i k : Int) (o : OL) (m : Mk) : Prop :=
  match o with
  | none => m = none
  | some (a, b) => (∀ x, leafDel i k a = some x → m.map Prod.fst = some x.1) ∧
      (∀ x, leafDel i k b = some x → m.map Prod.snd = some x.2)

theorem OuterDel.append {i k : Int} {o1 o2 : OL} {m1 m2 : Mk} (h1 : OuterDel i k o1 m1)
    (h2 : OuterDel i k o2 m2) : OuterDel i k (ocomb o1 o2) (mcomb m1 m2) := by
  cases o1 with
  | none =>
    simp only [OuterDel] at h1
    subst h1
    simpa using h2
  | some x =>
    obtain ⟨a, b⟩ := x
    cases o2 with
    | none =>
      simp only [OuterDel] at h2
      subst h2
      simpa using h1
    | some y =>
      obtain ⟨c, d⟩ := y
      simp only [OuterDel] at h1 h2 ⊢
      simp only [ocomb]
      refine ⟨fun x hx => ?_, fun x hx => ?_⟩
      · have := h1.1 x hx
        cases m1 with
        | none => simp at this
        | some u => cases m2 <;> simpa [mcomb] using this
      · have := h2.2 x hx
        cases m2 with
        | none => simp at this
        | some u => cases m1 <;> simpa [mcomb] using this

theorem mswap_eq_some {m : Mk} {x : Bool × Bool} (h : mswap m = some x) : m = some (x.2, x.1) := by
  cases m with
  | none => simp at h
  | some u => simp at h; simp [← h]

theorem OuterDel.flip {i k : Int} {o : OL} {m : Mk} (h : OuterDel i k o m) :
    OuterDel i k (oswap o) (mswap m) := by
  cases o with
  | none =>
    simp only [OuterDel] at h
    subst h
    simp [OuterDel]
  | some x =>
    obtain ⟨a, b⟩ := x
    simp only [OuterDel] at h
    simp only [oswap, OuterDel, leafDel_dflip]
    refine ⟨fun x hx => ?_, fun x hx => ?_⟩
    · have := h.2 _ (mswap_eq_some hx)
      cases m <;> simpa using this
    · have := h.1 _ (mswap_eq_some hx)
      cases m <;> simpa using this

theorem OuterDel.leaf (i k : Int) (l : Loc) :
    OuterDel i k (some ((l, false), (l, false))) (delMarks i k l) := by
  simp only [OuterDel, leafDel]
  refine ⟨fun x hx => ?_, fun x hx => ?_⟩ <;> simp at hx <;> simp [hx]

mutual
theorem outerDel (i k : Int) : ∀ (l : Loc), wf l = true → OuterDel i k (ol l) (delMarks i k l)
  | between p, _ => by simp [OuterDel]
  | point p, _ => by rw [ol_point]; exact OuterDel.leaf i k _
  | ranged s e a b, h => by
      have h' : s < e := of_decide_eq_true h
      rw [ol_ranged, if_pos h']; exact OuterDel.leaf i k _
  | ambiguous s e, _ => by rw [ol_ambiguous]; exact OuterDel.leaf i k _
  | joined ls, h | ordered ls, h => outerDelList i k ls h
  | compl l, h => by
      rw [ol_compl, delMarks_compl]
      exact (outerDel i k l h).flip
theorem outerDelList (i k : Int) : ∀ (ls : List Loc), wfList ls = true →
    OuterDel i k (olList ls) (delMarksList i k ls)
  | [], _ => by simp [OuterDel]
  | l :: ls, h => by
      simp only [wfList_cons, Bool.and_eq_true] at h
      rw [olList_cons, delMarksList_cons]
      exact (outerDel i k l h.1).append (outerDelList i k ls h.2)
end

/-! ### the statement of the oracle: "an end whose residues were cut off becomes partial" -/

/-- is the residue (if any) inside the removed span `[i, i+k)`? -/
def remAt (i k : Int) (o : Option Pos) : Bool :=
  match o with
  | some y => decide (i ≤ y.1 ∧ y.1 < i + k)
  | none => false

def isRanged : Loc → Bool
  | ranged _ _ _ _ => true
  | _ => false

/-- a leaf that keeps at least one residue when `[i, i+k)` is deleted -/
def leafKept (i k : Int) (d : DL) : Bool := !(filterMapPos (delMap i k) (den d.1)).isEmpty

/-- the oracle's applicability test for the 5' clause: the first residue-bearing leaf in reading
order is a `Ranged` that keeps at least one residue -/
def outer5Kept (l : Loc) (i k : Int) : Bool :=
  match outerLeaves l with
  | some (a, _) => isRanged a.1 && leafKept i k a
  | none => false

/-- … for the 3' clause: the last residue-bearing leaf is a `Ranged` that keeps a residue -/
def outer3Kept (l : Loc) (i k : Int) : Bool :=
  match outerLeaves l with
  | some (_, b) => isRanged b.1 && leafKept i k b
  | none => false

theorem getLast?_irange (s : Int) (m : Nat) : (irange s (m + 1)).getLast? = some (s + m) := by
  rw [← irange_append s m 1]
  simp

/-- a `Ranged` outer leaf that keeps a residue: its markers after the deletion are its own,
or-ed with "my first / last residue (on my reading strand) was removed" -/
theorem ranged_leafDel (i k : Int) (hk : 0 < k) (d : DL) (hr : isRanged d.1 = true)
    (hkeep : leafKept i k d = true) :
    leafDel i k d =
      some (mark5 d || remAt i k (leafDen d).head?, mark3 d || remAt i k (leafDen d).getLast?) := by
  obtain ⟨l, rev⟩ := d
  cases l <;> simp only [isRanged, Bool.false_eq_true] at hr
  rename_i s e p5 p3
  have hse : s < e := Decidable.byContradiction fun h => by
    have : (e - s).toNat = 0 := by omega
    simp [leafKept, this, fwd, filterMapPos] at hkeep
  obtain ⟨m, hm⟩ : ∃ m, (e - s).toNat = m + 1 := ⟨(e - s).toNat - 1, by omega⟩
  have hne' : delStart s i k ≠ delEnd e i k := by
    intro heq
    simp only [leafKept, den_ranged, filterMapPos_fwd, filterMap_delMap_irange s e i k hse hk, heq] at hkeep
    simp [fwd] at hkeep
  have hhead : (fwd (irange s (m + 1))).head? = some (s, false) := by simp [fwd]
  have hlast : (fwd (irange s (m + 1))).getLast? = some (s + m, false) := by
    simp only [fwd, List.getLast?_map, getLast?_irange, Option.map_some]
  have e1 : decide (i ≤ s + ↑m ∧ s + ↑m < i + k) = decide (i < e ∧ e ≤ i + k) := by
    apply decide_eq_decide.mpr
    constructor <;> intro h <;> omega
  cases rev <;>
    simp only [leafDel, delMarks_ranged, if_neg hne', leafDen, den_ranged, hm, mark5, mark3,
      Bool.false_eq_true, if_false, if_true, mswap_some, head?_flipDen, getLast?_flipDen, hhead, hlast,
      Option.map_some, remAt, e1]

theorem expand_del_outer (l : Loc) (i k : Int) (hw : wf l = true) (hk : 0 < k)
    (hg : expandMarkAbs l i (-k) = false) :
    (outer5Kept l i k = true →
      (outerMarks (expand l i (-k))).1 = ((outerMarks l).1 || remAt i k (den l).head?)) ∧
    (outer3Kept l i k = true →
      (outerMarks (expand l i (-k))).2 = ((outerMarks l).2 || remAt i k (den l).getLast?)) := by
  have hm := expand_del_marks_aux l i k hw hk hg
  have hod := outerDel i k l hw
  have hden := outerDen l hw
  rw [outerMarks_eq (expand l i (-k)), hm]
  unfold outer5Kept outer3Kept outerMarks
  rw [outerLeaves_eq]
  cases hol : ol l with
  | none => simp
  | some ab =>
    obtain ⟨a, b⟩ := ab
    rw [hol] at hod hden
    obtain ⟨-, -, hh, hl⟩ := hden
    simp only [Bool.and_eq_true]
    -- each end: the marker `delMarks` puts there is that of the outer leaf (`hod`), which is a kept `Ranged`
    constructor
    · rintro ⟨hr, hkeep⟩
      rw [hh, ← Option.getD_map Prod.fst, hod.1 _ (ranged_leafDel i k hk a hr hkeep), Option.getD_some]
    · rintro ⟨hr, hkeep⟩
      rw [hl, ← Option.getD_map Prod.snd, hod.2 _ (ranged_leafDel i k hk b hr hkeep), Option.getD_some]

end Loc
end Gts
