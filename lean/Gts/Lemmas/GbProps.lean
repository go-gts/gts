/-
  C01 helper lemmas: `Props` — the items `INSDCFormatter` writes (`Props.Keys` × `Props.Get`) fed
  back through `Props.Add` rebuild the `Props`, when every row has a name and at least one value
  and the names are pairwise distinct (`propsNorm`).
-/
import Gts.Lemmas.GbFeatures
import Gts.Lemmas.PropsGen
namespace Gts.GenBank
open Gts.Pars Gts.PropsG

/-- pairwise distinct -/
def distinctB : List Bytes → Bool
  | [] => true
  | x :: xs => !xs.contains x && distinctB xs

theorem distinctB_nodup (xs : List Bytes) : distinctB xs = true ↔ xs.Nodup := by
  induction xs with
  | nil => simp [distinctB]
  | cons x xs ih =>
    simp only [distinctB, Bool.and_eq_true, Bool.not_eq_true', List.nodup_cons, ih]
    constructor
    · rintro ⟨h1, h2⟩
      refine ⟨fun hm => ?_, h2⟩
      rw [List.contains_iff_mem.mpr hm] at h1; cases h1
    · rintro ⟨h1, h2⟩
      exact ⟨Bool.eq_false_iff.mpr fun hc => h1 (List.contains_iff_mem.mp hc), h2⟩

/-- every row is `name :: value :: …` and the names are pairwise distinct — what `Props.Add`
builds -/
def propsNorm (ps : List (List Bytes)) : Bool :=
  ps.all (fun row => decide (2 ≤ row.length)) && distinctB (ps.map fun row => row.headD [])

theorem propsNorm_iff (ps : List (List Bytes)) :
    propsNorm ps = true ↔ (∀ r ∈ ps, 2 ≤ r.length) ∧ (ps.map fun r => r.headD []).Nodup := by
  simp only [propsNorm, Bool.and_eq_true, List.all_eq_true, decide_eq_true_eq, distinctB_nodup]

def rowItems (row : List Bytes) : List (Bytes × Bytes) :=
  match row with
  | [] => []
  | key :: vs => vs.map fun v => (key, v)

/-- with distinct names `Props.Get(name)` is the row's own values -/
theorem propsGet_row (pre post : List (List Bytes)) (key : Bytes) (vs : List Bytes)
    (hpre : ∀ r ∈ pre, r.head? ≠ some key) :
    propsGet (pre ++ (key :: vs) :: post) key = vs := by
  induction pre with
  | nil => simp [propsGet]
  | cons r pre ih =>
    have hr := hpre r (by simp)
    have hdec : decide (r.head? = some key) = false := by simpa using hr
    simp only [propsGet, List.cons_append, List.find?_cons, hdec] at ih ⊢
    exact ih (fun x hx => hpre x (by simp [hx]))

theorem distinct_heads (pre post : List (List Bytes)) (key : Bytes) (vs : List Bytes)
    (hd : distinctB ((pre ++ (key :: vs) :: post).map fun r => r.headD []) = true) :
    ∀ r ∈ pre, r.head? ≠ some key := by
  intro r hr hh
  rw [List.map_append, distinctB_nodup, List.nodup_append] at hd
  refine hd.2.2 _ (List.mem_map_of_mem hr) key (by simp) ?_
  cases r with
  | nil => cases hh
  | cons a b => exact Option.some.inj hh

/-- the written items are the rows' own items, row by row (repo 7b61a9a) -/
theorem propsItems_eq (ps : List (List Bytes)) : propsItems ps = ps.flatMap rowItems := by
  unfold propsItems
  congr 1

/-- the reader's `Props.Add` of one value is the table update `gadd` of Gts/Lemmas/PropsGen.lean: the laws of `gupd` are its laws -/
theorem propsAdd_eq_gadd (ps : List (List Bytes)) (k v : Bytes) : propsAdd ps k v = gadd ps k [v] := by
  induction ps with
  | nil => rfl
  | cons r a ih => rw [gadd] at ih ⊢; simp [propsAdd, gupd, ih]

theorem propsAdd_new (acc : List (List Bytes)) (key v : Bytes) (h : ∀ r ∈ acc, r.head? ≠ some key) :
    propsAdd acc key v = acc ++ [[key, v]] := by
  rw [propsAdd_eq_gadd, gadd, gupd_noRow _ _ _ acc h]; rfl

theorem propsAdd_last (acc : List (List Bytes)) (key v : Bytes) (ws : List Bytes)
    (h : ∀ r ∈ acc, r.head? ≠ some key) :
    propsAdd (acc ++ [key :: ws]) key v = acc ++ [key :: ws ++ [v]] := by
  rw [propsAdd_eq_gadd, gadd, gupd_at _ _ _ acc ws [] h]; simp

/-- where `Props.Add` puts the value: behind the first row that carries the name, or in a new row
at the end -/
theorem propsAdd_cases (ps : List (List Bytes)) (k v : Bytes) :
    ((∀ r ∈ ps, r.head? ≠ some k) ∧ propsAdd ps k v = ps ++ [[k, v]]) ∨
    ∃ pre ws post, ps = pre ++ (k :: ws) :: post ∧ (∀ r ∈ pre, r.head? ≠ some k) ∧
      propsAdd ps k v = pre ++ (k :: ws ++ [v]) :: post := by
  rcases firstRow_cases k ps with hn | ⟨pre, ws, post, rfl, hn⟩
  · exact .inl ⟨hn, propsAdd_new ps k v hn⟩
  · exact .inr ⟨pre, ws, post, rfl, hn, by rw [propsAdd_eq_gadd, gadd, gupd_at _ _ _ pre ws post hn]; simp⟩

theorem fold_row_tail (acc : List (List Bytes)) (key : Bytes) (ws vs : List Bytes)
    (h : ∀ r ∈ acc, r.head? ≠ some key) :
    (vs.map fun v => (key, v)).foldl (fun ps q => propsAdd ps q.1 q.2) (acc ++ [key :: ws]) =
      acc ++ [key :: ws ++ vs] := by
  induction vs generalizing ws with
  | nil => simp
  | cons v vs ih =>
    simp only [List.map_cons, List.foldl_cons]
    rw [propsAdd_last acc key v ws h]
    have := ih (ws ++ [v])
    simp only [List.cons_append, List.append_assoc] at this ⊢
    exact this

theorem fold_rows (rows acc : List (List Bytes))
    (hlen : ∀ r ∈ rows, 2 ≤ r.length)
    (hd : distinctB ((acc ++ rows).map fun r => r.headD []) = true) :
    (rows.flatMap rowItems).foldl (fun ps q => propsAdd ps q.1 q.2) acc = acc ++ rows := by
  induction rows generalizing acc with
  | nil => simp
  | cons row rows ih =>
    have h2 := hlen row (by simp)
    match row, h2 with
    | key :: v :: vs, _ =>
      have hpre := distinct_heads acc rows key (v :: vs) hd
      simp only [List.flatMap_cons, rowItems, List.map_cons, List.foldl_append, List.foldl_cons]
      rw [propsAdd_new acc key v hpre]
      have := fold_row_tail acc key [v] vs hpre
      simp only [List.cons_append, List.nil_append] at this
      rw [this]
      have := ih (acc ++ [key :: v :: vs]) (fun r hr => hlen r (by simp [hr]))
        (by simpa [List.append_assoc] using hd)
      simpa [List.append_assoc] using this

theorem propsOfItems_propsItems (ps : List (List Bytes)) (h : propsNorm ps = true) :
    propsOfItems (propsItems ps) = ps := by
  rw [propsItems_eq]
  simp only [propsNorm, Bool.and_eq_true, List.all_eq_true, decide_eq_true_eq] at h
  have := fold_rows ps [] h.1 (by simpa using h.2)
  simpa [propsOfItems] using this

end Gts.GenBank

namespace Gts.GenBank
open Gts.Pars

theorem map_readValue_eq (reg : Registry) (items : List (Bytes × Bytes))
    (h : ∀ kv ∈ items, readValue reg kv.1 kv.2 = kv.2) :
    items.map (fun kv => (kv.1, readValue reg kv.1 kv.2)) = items := by
  have : ∀ kv ∈ items, (kv.1, readValue reg kv.1 kv.2) = id kv := fun kv hkv => by rw [h kv hkv]; rfl
  exact (List.map_congr_left this).trans (List.map_id _)

/-- on its domain a feature reads back as itself: every written item keeps its value, and the
items rebuild the `Props` -/
theorem readFeature_eq (reg : Registry) (f : QFeature) (h1 : featOk reg f = true) (h2 : propsNorm f.props = true) :
    readFeature reg f = f := by
  simp only [featOk, Bool.and_eq_true, List.all_eq_true] at h1
  have hi : readItems reg f.props = propsItems f.props :=
    map_readValue_eq reg _ fun kv hkv => readValue_eq reg 21 kv.1 kv.2 (h1.2 kv hkv)
  obtain ⟨k, l, ps⟩ := f
  simp only [readFeature, hi]
  simp only at h2
  rw [propsOfItems_propsItems ps h2]

/-- the table domain under which the table reads back as itself: `tableWritable`, and every
feature's `Props` is what `Props.Add` builds (`propsNorm`) -/
def tableFaithful (reg : Registry) (fs : List QFeature) : Bool :=
  tableWritable reg fs && fs.all fun f => propsNorm f.props

theorem readTable_eq (reg : Registry) (fs : List QFeature) (h : tableFaithful reg fs = true) :
    fs.map (readFeature reg) = fs := by
  simp only [tableFaithful, tableWritable, Bool.and_eq_true, List.all_eq_true] at h
  have : ∀ f ∈ fs, readFeature reg f = f := fun f hf => readFeature_eq reg f (h.1 f hf).1 (h.2 f hf)
  exact (List.map_congr_left this).trans (List.map_id _)

end Gts.GenBank
