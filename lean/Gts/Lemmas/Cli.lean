/-
  Helper lemmas for C15 (the scan loops of delete / insert / infix / split / rotate / extract,
  `Gts/Model/Cli.lean`): a scan of a residue list with a position counter and the theorem that edits at
  ascending disjoint sites, applied rightmost first, are such a scan (`foldr_edit`: cutting disjoint
  segments and inserting at descending indices are its two uses), the two sorts of the loops, the wrap-around branch of
  `gts.Slice`, structural equality of regions.  Core Lean only.
-/
import Gts.Model.Cli
import Gts.Lemmas.Cuts
import Gts.Lemmas.Minimize
import Gts.Props.C03
import Gts.Props.C04
namespace Gts.Cli
open Gts Reg

theorem filterMap_eq_flatMap {α β} (f : α → Option β) (l : List α) :
    l.filterMap f = l.flatMap fun a => (f a).toList := by
  induction l with
  | nil => rfl
  | cons a l ih => rw [List.filterMap_cons, List.flatMap_cons, ← ih]; cases f a <;> rfl

/-- left-to-right scan with a position counter (the first residue sits at `off`): in front of
position `p` (and behind the last residue) the text `ins p`; the residue at `p` is dropped where
`del p` -/
def scanOff (ins : Nat → List UInt8) (del : Nat → Bool) : Nat → List UInt8 → List UInt8
  | off, [] => ins off
  | off, b :: bs => ins off ++ ((if del off then [] else [b]) ++ scanOff ins del (off + 1) bs)

theorem scanOff_congr (ins ins' : Nat → List UInt8) (del del' : Nat → Bool) (off : Nat) (bs : List UInt8)
    (hi : ∀ k, off ≤ k → k ≤ off + bs.length → ins k = ins' k)
    (hd : ∀ k, off ≤ k → k < off + bs.length → del k = del' k) :
    scanOff ins del off bs = scanOff ins' del' off bs := by
  induction bs generalizing off with
  | nil => exact hi off (Nat.le_refl _) (Nat.le_add_right ..)
  | cons b bs ih =>
    simp only [List.length_cons] at hi hd
    simp only [scanOff]
    rw [hi off (Nat.le_refl _) (by omega), hd off (Nat.le_refl _) (by omega),
      ih (off + 1) (fun k h1 h2 => hi k (by omega) (by omega)) (fun k h1 h2 => hd k (by omega) (by omega))]

theorem scanOff_keep (ins : Nat → List UInt8) (del : Nat → Bool) : ∀ (A C : List UInt8) (off : Nat),
    (∀ k, off ≤ k → k < off + A.length → ins k = [] ∧ del k = false) →
    scanOff ins del off (A ++ C) = A ++ scanOff ins del (off + A.length) C
  | [], _, _, _ => rfl
  | a :: A, C, off, h => by
      simp only [List.length_cons] at h
      rw [List.cons_append, scanOff, (h off (Nat.le_refl _) (by omega)).1, (h off (Nat.le_refl _) (by omega)).2,
        scanOff_keep ins del A C (off + 1) fun k h1 h2 => h k (by omega) (by omega),
        List.length_cons, Nat.add_assoc, Nat.add_comm 1]
      rfl

theorem scanOff_skip (ins : Nat → List UInt8) (del : Nat → Bool) : ∀ (B C : List UInt8) (off : Nat),
    (∀ k, off ≤ k → k < off + B.length → ins k = [] ∧ del k = true) →
    scanOff ins del off (B ++ C) = scanOff ins del (off + B.length) C
  | [], _, _, _ => rfl
  | b :: B, C, off, h => by
      simp only [List.length_cons] at h
      rw [List.cons_append, scanOff, (h off (Nat.le_refl _) (by omega)).1, (h off (Nat.le_refl _) (by omega)).2,
        scanOff_skip ins del B C (off + 1) fun k h1 h2 => h k (by omega) (by omega),
        List.length_cons, Nat.add_assoc, Nat.add_comm 1]
      rfl

theorem scanOff_text (ins ins' : Nat → List UInt8) (del : Nat → Bool) (t : List UInt8) (off : Nat)
    (bs : List UInt8) (h0 : ins' off = t ++ ins off) (h : ∀ k, off < k → ins' k = ins k) :
    scanOff ins' del off bs = t ++ scanOff ins del off bs := by
  cases bs with
  | nil => simpa [scanOff] using h0
  | cons b bs =>
    simp only [scanOff]
    rw [h0, scanOff_congr ins' ins del del (off + 1) bs (fun k h1 _ => h k (by omega)) (fun _ _ _ => rfl),
      List.append_assoc]

/-- the scan written with `List.range` (the form of the specs) -/
theorem scanOff_eq_range (ins : Nat → List UInt8) (del : Nat → Bool) (off : Nat) (bs : List UInt8) :
    scanOff ins del off bs = (List.range (bs.length + 1)).flatMap fun p =>
      ins (p + off) ++ (if del (p + off) then [] else bs[p]?.toList) := by
  induction bs generalizing off with
  | nil => simp [scanOff]
  | cons b bs ih =>
    rw [scanOff, ih (off + 1), List.length_cons, List.range_succ_eq_map (n := bs.length + 1), List.flatMap_cons, List.flatMap_map]
    simp [Nat.add_assoc, Nat.add_comm 1]

theorem scanOff_length (P : Nat → Bool) (off : Nat) (l : List UInt8) :
    (scanOff (fun _ => []) P off l).length + ((List.range' off l.length).filter P).length = l.length := by
  induction l generalizing off with
  | nil => rfl
  | cons x l ih =>
    have := ih (off + 1)
    simp only [scanOff, List.length_cons, List.range'_succ, List.filter_cons]
    by_cases h : P off <;> simp [h] <;> omega

/-- **edits at ascending, disjoint sites, applied rightmost first, are one scan of the input**:
`op e` replaces the residues at the positions `lo e ≤ p < hi e` by `text e` (`gts.Delete`: no text;
`gts.Insert`: `lo e = hi e`); an edit does not move anything to its left, so every site is found
where it was in the input.  Sites are integers, as the loops have them. -/
theorem foldr_edit {σ : Type} (lo hi : σ → Int) (text : σ → List UInt8)
    (op : σ → List UInt8 → List UInt8) (es : List σ) (bs : List UInt8)
    (hop : ∀ e ∈ es, ∀ A B C : List UInt8, lo e = A.length → hi e = (A.length : Int) + B.length →
      op e (A ++ B ++ C) = A ++ text e ++ C)
    (hp : es.Pairwise fun a b => hi a ≤ lo b)
    (hw : ∀ e ∈ es, 0 ≤ lo e ∧ lo e ≤ hi e ∧ hi e ≤ bs.length) :
    es.foldr op bs =
      scanOff (fun p => (es.filter fun e => lo e = (p : Int)).flatMap text)
        (fun p => es.any fun e => lo e ≤ (p : Int) && (p : Int) < hi e) 0 bs := by
  induction es with
  | nil =>
    have := scanOff_keep (fun _ => []) (fun _ => false) bs [] 0 (fun _ _ _ => ⟨rfl, rfl⟩)
    simpa [scanOff] using this.symm
  | cons e rest ih =>
    have hpp := List.pairwise_cons.mp hp
    obtain ⟨h0, h1, he⟩ := hw e (List.mem_cons_self ..)
    -- the site of `e` in natural numbers: from `i` on, `n` residues
    obtain ⟨i, hl⟩ := Int.eq_ofNat_of_zero_le h0
    obtain ⟨n, hn⟩ := Int.le.dest h1
    rw [List.foldr_cons, ih (fun x hx => hop x (List.mem_cons_of_mem _ hx)) hpp.2
      (fun x hx => hw x (List.mem_cons_of_mem _ hx))]
    -- `bs = A ++ B ++ C`, `B` the residues the edit `e` replaces; no site of `rest` lies in `A ++ B`
    obtain ⟨A, B, C, rfl, hA, hB⟩ : ∃ A B C, bs = A ++ B ++ C ∧ A.length = i ∧ B.length = n :=
      ⟨bs.take i, (bs.drop i).take n, (bs.drop i).drop n,
        by rw [List.append_assoc, List.take_append_drop, List.take_append_drop],
        by rw [List.length_take]; omega, by rw [List.length_take, List.length_drop]; omega⟩
    have hlow : ∀ k : Nat, k < i + n →
        ((rest.filter fun x => lo x = (k : Int)).flatMap text = [] ∧
          (rest.any fun x => lo x ≤ (k : Int) && (k : Int) < hi x) = false) := fun k hk =>
      ⟨by rw [List.filter_eq_nil_iff.mpr fun x hx => by have := hpp.1 x hx; rw [decide_eq_true_eq]; omega]; rfl,
        List.any_eq_false.mpr fun x hx => by
          have := hpp.1 x hx
          rw [Bool.and_eq_true, decide_eq_true_eq, decide_eq_true_eq]; omega⟩
    rw [scanOff_keep _ _ (A ++ B) C 0 (fun k _ hk => hlow k (by rw [List.length_append] at hk; omega)),
      hop e (List.mem_cons_self ..) A B _ (by omega) (by omega), List.append_assoc A B C,
      scanOff_keep _ _ A (B ++ C) 0 (fun k _ hk => by
        have := hlow k (by omega)
        simp only [List.filter_cons, List.any_cons]
        rw [if_neg (by rw [decide_eq_true_eq]; omega), this.1, this.2]; simp; omega),
      scanOff_text (fun p => (rest.filter fun x => lo x = (p : Int)).flatMap text) _ _ (text e) (0 + A.length) (B ++ C)
        (by simp [hA, hl])
        (fun k hk => by simp only [List.filter_cons]; rw [if_neg (by rw [decide_eq_true_eq]; omega)]),
      scanOff_skip _ _ B C _ (fun k h1 hk => ⟨(hlow k (by omega)).1, by simp; omega⟩)]
    simp only [List.append_assoc, Nat.zero_add, List.length_append, List.append_cancel_left_eq]
    refine scanOff_congr _ _ _ _ _ C (fun _ _ _ => rfl) (fun k hk _ => ?_)
    rw [List.any_cons, show (decide (lo e ≤ (k : Int)) && decide ((k : Int) < hi e)) = false by simp; omega, Bool.false_or]

theorem getElem?_take_append_drop {α} (l : List α) (i j k : Nat) (hij : i ≤ j) :
    (l.take i ++ l.drop j)[k]? = if k < i then l[k]? else l[k + (j - i)]? := by
  by_cases hi : i ≤ l.length
  · rw [List.getElem?_append, List.length_take, Nat.min_eq_left hi, List.getElem?_take, List.getElem?_drop]
    split
    · rfl
    · congr 1; omega
  · rw [List.take_of_length_le (by omega), List.drop_eq_nil_of_le (by omega), List.append_nil]
    split
    · rfl
    · rw [List.getElem?_eq_none (by omega), List.getElem?_eq_none (by omega)]

/-- `seq[:i] + seq[i+n:]` for the segment `sg` as the loop computes it -/
def cutB (sg : Seg) (bs : List UInt8) : List UInt8 :=
  bs.take sg.1.toNat ++ bs.drop (sg.1 + Reg.gabs (sg.2 - sg.1)).toNat

theorem deleteSegs_bytes (erase : Bool) (ss : List Seg) (s : Seq) :
    (deleteSegs erase ss s).bytes = ss.foldr cutB s.bytes := by
  unfold deleteSegs
  rw [List.foldl_reverse]
  induction ss with
  | nil => rfl
  | cons a ss ih =>
    simp only [List.foldr_cons]
    rw [← ih]
    cases erase <;> rfl

/-- position `k` is covered by a segment of the list (Boolean form over `Nat` positions) -/
def covB (ss : List Seg) (k : Nat) : Bool := decide (segsCover ss (k : Int))

theorem covB_cons (a : Seg) (ss : List Seg) (k : Nat) :
    covB (a :: ss) k = (decide (a.1 ≤ (k : Int) ∧ (k : Int) < a.2) || covB ss k) := by
  simp only [covB, segsCover_cons, Bool.decide_or]

theorem covB_of_lt (ss : List Seg) (k : Nat) (h : ∀ b ∈ ss, (k : Int) < b.1) : covB ss k = false := by
  simp only [covB, decide_eq_false_iff_not]
  rintro ⟨b, hb, hb1, _⟩
  have := h b hb; omega

theorem gabs_of_nonneg (x : Int) (h : 0 ≤ x) : Reg.gabs x = x := by
  unfold Reg.gabs; split <;> omega

theorem cutB_append (sg : Seg) (A B C : List UInt8) (h1 : sg.1 = A.length)
    (h2 : sg.2 = (A.length : Int) + B.length) : cutB sg (A ++ B ++ C) = A ++ C := by
  unfold cutB
  rw [gabs_of_nonneg _ (by omega), List.drop_left' (by rw [List.length_append]; omega), List.append_assoc,
    List.take_left' (by omega)]

theorem foldr_cutB (ss : List Seg) (bs : List UInt8) (hf : Fwd ss)
    (hp : ss.Pairwise (fun a b => a.2 ≤ b.1))
    (hw : ∀ o ∈ ss, 0 ≤ o.1 ∧ o.2 ≤ (bs.length : Int)) :
    ss.foldr cutB bs = scanOff (fun _ => []) (covB ss) 0 bs := by
  rw [foldr_edit (fun sg : Seg => sg.1) (fun sg => sg.2) (fun _ => []) cutB ss bs
    (fun sg _ A B C hA hB => by rw [cutB_append sg A B C hA hB, List.append_nil])
    hp (fun sg hsg => ⟨(hw sg hsg).1, hf sg hsg, (hw sg hsg).2⟩)]
  refine scanOff_congr _ _ _ _ 0 bs (fun k _ _ => by simp) (fun k _ _ => ?_)
  rw [covB, Bool.eq_iff_iff, List.any_eq_true, decide_eq_true_iff]
  simp only [segsCover, Bool.and_eq_true, decide_eq_true_eq]

theorem insertDesc_perm (x : Int) (l : List Int) : (insertDesc x l).Perm (x :: l) := by
  induction l with
  | nil => exact List.Perm.refl _
  | cons y ys ih =>
    unfold insertDesc
    split
    · exact (List.Perm.cons y ih).trans (List.Perm.swap x y ys)
    · exact List.Perm.refl _

theorem sortDesc_perm (l : List Int) : (sortDesc l).Perm l := by
  induction l with
  | nil => exact List.Perm.refl _
  | cons x xs ih => exact (insertDesc_perm x _).trans (List.Perm.cons x ih)

theorem insertDesc_sorted (x : Int) (l : List Int) (h : l.Pairwise (fun a b => b ≤ a)) :
    (insertDesc x l).Pairwise (fun a b => b ≤ a) := by
  induction l with
  | nil => simp [insertDesc]
  | cons y ys ih =>
    unfold insertDesc
    have hy := List.pairwise_cons.mp h
    split
    · rename_i hxy
      refine List.pairwise_cons.mpr ⟨?_, ih hy.2⟩
      intro b hb
      rcases List.mem_cons.mp ((insertDesc_perm x ys).subset hb) with rfl | hb
      · omega
      · exact hy.1 b hb
    · rename_i hxy
      refine List.pairwise_cons.mpr ⟨?_, h⟩
      intro b hb
      rcases List.mem_cons.mp hb with rfl | hb
      · omega
      · have := hy.1 b hb; omega

theorem sortDesc_sorted (l : List Int) : (sortDesc l).Pairwise (fun a b => b ≤ a) := by
  induction l with
  | nil => simp [sortDesc]
  | cons x xs ih => exact insertDesc_sorted x _ ih

/-- `insert(p, pos, q)` of the model, as a function of the residues only -/
theorem insertAt_bytes (embed : Bool) (idx : List Int) (host guest : Seq) :
    (insertAt embed idx host guest).bytes =
      idx.foldl (fun out i => Seq.spliceBytes out i.toNat guest.bytes) host.bytes := by
  unfold insertAt
  induction idx generalizing host with
  | nil => rfl
  | cons i idx ih =>
    simp only [List.foldl_cons]
    rw [ih]
    cases embed <;> rfl

theorem foldr_splice (r : List Int) (g bs : List UInt8) (hs : r.Pairwise (fun a b => a ≤ b))
    (hw : ∀ i ∈ r, 0 ≤ i ∧ i ≤ (bs.length : Int)) :
    r.foldr (fun i out => Seq.spliceBytes out i.toNat g) bs =
      scanOff (fun k => (List.replicate (r.count (k : Int)) g).flatten) (fun _ => false) 0 bs := by
  rw [foldr_edit (fun i : Int => i) (fun i => i) (fun _ => g) _ r bs
    (fun i _ A B C hA hB => by
      rw [List.eq_nil_of_length_eq_zero (l := B) (by omega), List.append_nil, Seq.spliceBytes, hA, Int.toNat_natCast,
        List.take_left, List.drop_left])
    hs (fun i hi => ⟨(hw i hi).1, Int.le_refl i, (hw i hi).2⟩)]
  refine scanOff_congr _ _ _ _ 0 bs (fun k _ _ => ?_) (fun k _ _ => by simp)
  induction r with
  | nil => rfl
  | cons i r ih =>
    have ih := ih (List.Pairwise.of_cons hs) (fun j hj => hw j (List.mem_cons_of_mem _ hj))
    by_cases h : i = (k : Int)
    · rw [List.filter_cons_of_pos (by simp; omega), List.flatMap_cons, ih, h, List.count_cons_self,
        List.replicate_succ, List.flatten_cons]
    · rw [List.filter_cons_of_neg (by simp; omega), ih, List.count_cons_of_ne h]

theorem mem_insertAscU (x y : Int) (l : List Int) : y ∈ insertAscU x l ↔ y = x ∨ y ∈ l := by
  induction l with
  | nil => simp [insertAscU]
  | cons z zs ih =>
    unfold insertAscU
    split
    · simp
    · split
      · rename_i h; subst h; simp
      · rw [List.mem_cons, ih, List.mem_cons, or_left_comm]

theorem mem_sortAscU (y : Int) (l : List Int) : y ∈ sortAscU l ↔ y ∈ l := by
  induction l with
  | nil => simp [sortAscU]
  | cons x xs ih => simp only [sortAscU, mem_insertAscU, ih, List.mem_cons]

theorem insertAscU_sorted (x : Int) (l : List Int) (h : l.Pairwise (fun a b => a < b)) :
    (insertAscU x l).Pairwise (fun a b => a < b) := by
  induction l with
  | nil => simp [insertAscU]
  | cons z zs ih =>
    have hz := List.pairwise_cons.mp h
    unfold insertAscU
    split
    · rename_i hxz
      refine List.pairwise_cons.mpr ⟨?_, h⟩
      intro b hb
      rcases List.mem_cons.mp hb with rfl | hb
      · exact hxz
      · have := hz.1 b hb; omega
    · split
      · exact h
      · refine List.pairwise_cons.mpr ⟨?_, ih hz.2⟩
        intro b hb
        rcases (mem_insertAscU x b zs).mp hb with rfl | hb
        · omega
        · exact hz.1 b hb

theorem sortAscU_sorted (l : List Int) : (sortAscU l).Pairwise (fun a b => a < b) := by
  induction l with
  | nil => simp [sortAscU]
  | cons x xs ih => exact insertAscU_sorted x _ ih

theorem sortAscU_map_bounds {α} (f : α → Int) (l : List α) (lo hi : Int)
    (h : ∀ r ∈ l, lo ≤ f r ∧ f r ≤ hi) : ∀ x ∈ sortAscU (l.map f), lo ≤ x ∧ x ≤ hi := by
  intro x hx
  obtain ⟨r, hr, rfl⟩ := List.mem_map.mp ((mem_sortAscU x _).mp hx)
  exact h r hr

theorem sortAscU_sorted_le (l : List Int) : (sortAscU l).Pairwise (fun a b => a ≤ b) :=
  (sortAscU_sorted l).imp Int.le_of_lt

theorem pieces_eq_map (s : Seq) (l : List Int) :
    pieces s l = (windows l).map fun w => s.slice w.1 w.2 := by
  induction l with
  | nil => rfl
  | cons a l ih =>
    cases l with
    | nil => rfl
    | cons b l =>
      rw [pieces, windows_cons_cons, List.map_cons, ih]

theorem pieces_bytes (s : Seq) (a : Int) (l : List Int) (hs : (a :: l).Pairwise (fun x y => x ≤ y))
    (h0 : 0 ≤ a) :
    ((pieces s (a :: l)).map (·.bytes)).flatten =
      (s.bytes.drop a.toNat).take (lastFrom a l - a).toNat := by
  induction l generalizing a with
  | nil => simp [pieces, lastFrom]
  | cons b l ih =>
    have hp := List.pairwise_cons.mp hs
    have hab : a ≤ b := hp.1 b (List.mem_cons_self ..)
    have hbz : b ≤ lastFrom b l := le_lastFrom b l hp.2
    simp only [pieces, List.map_cons, List.flatten_cons, lastFrom]
    rw [ih b hp.2 (by omega), C03.slice_bytes_fwd s a b h0 hab]
    -- `0 ≤ a ≤ b ≤ z` are natural numbers: cast first (`omega` over `Int.toNat` is slow to check)
    obtain ⟨a, rfl⟩ := Int.eq_ofNat_of_zero_le h0
    obtain ⟨b, rfl⟩ := Int.eq_ofNat_of_zero_le (Int.le_trans h0 hab)
    obtain ⟨z, hz⟩ := Int.eq_ofNat_of_zero_le (Int.le_trans (Int.le_trans h0 hab) hbz)
    rw [hz] at hbz ⊢
    have hab' : a ≤ b := Int.ofNat_le.mp hab
    simp only [Int.toNat_natCast, Int.toNat_sub]
    rw [show z - a = (b - a) + (z - b) by omega, List.take_add, List.drop_drop, Nat.add_sub_cancel' hab']

/-- rotating by `-h` (`0 ≤ h ≤ L`, `0 < L`) brings position `h` to the front -/
theorem rotate_neg_bytes (s : Seq) (h : Int) (h0 : 0 ≤ h) (h1 : h ≤ s.len) (hL : 0 < s.len) :
    (s.rotate (-h)).bytes = s.bytes.drop h.toNat ++ s.bytes.take h.toNat := by
  rw [C04.rotate_bytes_eq, C04.rotN_eq_emod _ _ hL]
  by_cases hz : h = 0
  · -- nothing moves: `drop L ++ take L` and `drop 0 ++ take 0` are both the whole list
    subst hz
    rw [Int.neg_zero, Int.zero_emod, Int.sub_zero, show s.len = s.bytes.length from rfl, Int.toNat_natCast,
      List.drop_length, List.take_length, Int.toNat_zero, List.drop_zero, List.take_zero, List.nil_append,
      List.append_nil]
  · rw [C03.neg_emod_start h s.len (by omega) h1, show s.len - (s.len - h) = h by omega]

/-- `gts.Slice(seq, a, b)` with `0 ≤ b < a ≤ L` (the wrap-around branch: rotate, then slice):
the residues from `a` to the end followed by those before `b` -/
theorem slice_bytes_wrap (s : Seq) (a b : Int) (hb : 0 ≤ b) (hab : b < a) (ha : a ≤ s.len) :
    (s.slice a b).bytes = s.bytes.drop a.toNat ++ s.bytes.take b.toNat :=
  C03.slice_bytes_wrap s a b hb hab ha

mutual
theorem beq_refl : ∀ a : Reg, Reg.beq a a = true
  | seg h t => by simp [Reg.beq]
  | many rs => by simp only [Reg.beq]; exact beqList_refl rs
theorem beqList_refl : ∀ a : List Reg, Reg.beqList a a = true
  | [] => by simp [Reg.beqList]
  | r :: rs => by simp only [Reg.beqList, Bool.and_eq_true]; exact ⟨beq_refl r, beqList_refl rs⟩
end

mutual
theorem eq_of_beq : ∀ a b : Reg, Reg.beq a b = true → a = b
  | seg a b, seg c d, h => by
    simp only [Reg.beq, Bool.and_eq_true, beq_iff_eq] at h
    rw [h.1, h.2]
  | many a, many b, h => by
    simp only [Reg.beq] at h
    rw [eqList_of_beq a b h]
  | seg _ _, many _, h => by simp [Reg.beq] at h
  | many _, seg _ _, h => by simp [Reg.beq] at h
theorem eqList_of_beq : ∀ a b : List Reg, Reg.beqList a b = true → a = b
  | [], [], _ => rfl
  | x :: xs, y :: ys, h => by
    simp only [Reg.beqList, Bool.and_eq_true] at h
    rw [eq_of_beq x y h.1, eqList_of_beq xs ys h.2]
  | [], _ :: _, h => by simp [Reg.beqList] at h
  | _ :: _, [], h => by simp [Reg.beqList] at h
end

theorem reg_beq_iff (a b : Reg) : (a == b) = true ↔ a = b :=
  ⟨eq_of_beq a b, fun h => h ▸ beq_refl a⟩

theorem reg_beq_false_iff (a b : Reg) : (a == b) = false ↔ a ≠ b := by
  rw [← Bool.not_eq_true, reg_beq_iff]

theorem any_beq_iff (acc : List Reg) (r : Reg) : acc.any (· == r) = true ↔ r ∈ acc := by
  rw [List.any_eq_true]
  constructor
  · rintro ⟨x, hx, h⟩; rw [(reg_beq_iff x r).mp h] at hx; exact hx
  · intro h; exact ⟨r, h, (reg_beq_iff r r).mpr rfl⟩

theorem mem_dedupRegs (acc l : List Reg) (x : Reg) : x ∈ dedupRegs acc l ↔ x ∈ acc ∨ x ∈ l := by
  induction l generalizing acc with
  | nil => simp [dedupRegs]
  | cons r rs ih =>
    unfold dedupRegs
    split
    · rename_i h
      have := (any_beq_iff acc r).mp h
      -- `x = r` adds nothing: `r` is in `acc`
      rw [ih, List.mem_cons, ← or_assoc, or_iff_left_of_imp (a := x ∈ acc) fun e : x = r => e ▸ this]
    · rw [ih, List.mem_append, List.mem_singleton, List.mem_cons, or_assoc]

theorem dedupRegs_nodup (acc l : List Reg) (h : acc.Nodup) : (dedupRegs acc l).Nodup := by
  induction l generalizing acc with
  | nil => exact h
  | cons r rs ih =>
    unfold dedupRegs
    split
    · exact ih acc h
    · rename_i hn
      -- `acc ++ [r]` is `r :: acc` up to order, and `r` is new
      exact ih _ ((List.nodup_cons.mpr ⟨fun ha => hn ((any_beq_iff acc r).mpr ha), h⟩).perm
        (List.perm_append_singleton r acc).symm)

theorem dedupRegs_sublist (acc l : List Reg) : ∃ l', dedupRegs acc l = acc ++ l' ∧ l'.Sublist l := by
  induction l generalizing acc with
  | nil => exact ⟨[], by simp [dedupRegs], List.Sublist.refl _⟩
  | cons r rs ih =>
    unfold dedupRegs
    split
    · obtain ⟨l', h1, h2⟩ := ih acc
      exact ⟨l', h1, h2.cons r⟩
    · obtain ⟨l', h1, h2⟩ := ih (acc ++ [r])
      exact ⟨r :: l', by rw [h1]; simp, h2.cons_cons r⟩

theorem dedupRegs_of_nodup (acc l : List Reg) (h : (acc ++ l).Nodup) : dedupRegs acc l = acc ++ l := by
  induction l generalizing acc with
  | nil => simp [dedupRegs]
  | cons r rs ih =>
    unfold dedupRegs
    have hr : ¬ r ∈ acc := by
      intro hm
      have := (List.nodup_append.mp h).2.2 r hm r (List.mem_cons_self ..)
      exact this rfl
    rw [if_neg (fun hc => hr ((any_beq_iff acc r).mp hc)), ih (acc ++ [r]) (by simpa using h)]
    simp

theorem dedupRegs_snoc (acc l : List Reg) (r : Reg) :
    dedupRegs acc (l ++ [r]) =
      if (dedupRegs acc l).any (· == r) then dedupRegs acc l else dedupRegs acc l ++ [r] := by
  induction l generalizing acc with
  | nil => simp [dedupRegs]
  | cons x xs ih =>
    simp only [List.cons_append, dedupRegs]
    split
    · exact ih acc
    · exact ih (acc ++ [x])

theorem leavesList_eq_flatMap (l : List Reg) : leavesList l = l.flatMap leaves := by
  induction l with
  | nil => simp
  | cons r rs ih => simp [ih]

theorem cover_many_iff (l : List Reg) (x : Int) : cover (many l) x ↔ ∃ r ∈ l, cover r x := by
  simp only [cover, leaves_many, leavesList_eq_flatMap, List.mem_flatMap]
  constructor
  · rintro ⟨g, ⟨r, hr, hg⟩, h⟩; exact ⟨r, hr, g, hg, h⟩
  · rintro ⟨r, hr, g, hg, h⟩; exact ⟨g, ⟨r, hr, hg⟩, h⟩

theorem within_many_iff (n : Int) (l : List Reg) : within n (many l) ↔ ∀ r ∈ l, within n r := by
  simp only [within, leaves_many, leavesList_eq_flatMap]
  exact List.forall_mem_flatMap

theorem nonEmpty_many_iff (l : List Reg) : nonEmpty (many l) ↔ ∀ r ∈ l, nonEmpty r := by
  simp only [nonEmpty, leaves_many, leavesList_eq_flatMap]
  exact List.forall_mem_flatMap

theorem locateList_eq_map (rs : List Reg) (s : Seq) : locateList rs s = rs.map fun r => locate r s := by
  induction rs with
  | nil => simp [locateList]
  | cons r rs ih => simp [locateList, ih]

theorem foldl_splice_length (idx : List Int) (g bs : List UInt8) :
    (idx.foldl (fun out i => Seq.spliceBytes out i.toNat g) bs).length =
      bs.length + idx.length * g.length := by
  induction idx generalizing bs with
  | nil => simp
  | cons i idx ih =>
    rw [List.foldl_cons, ih, Seq.spliceBytes_length, List.length_cons, Nat.add_mul, Nat.one_mul]
    omega

end Gts.Cli
