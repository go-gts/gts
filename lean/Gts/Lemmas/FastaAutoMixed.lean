/-
  C17, mixed streams under the auto scanner (`Gts.Model.AutoScan`): the parser kept by the first
  `Scan` reads everything that follows, so the kind of EVERY returned record is decided by whether
  `GenBankParser` accepts the first record.  GenBank first → the rest is the GenBank loop, which
  stops, with an error, at a FASTA record (`gbLoop_stops`); FASTA first → a GenBank text behind a
  FASTA record becomes residues of that record (`Fasta.parse_write_then`, Gts/Lemmas/Fasta.lean).
  Core Lean only.
-/
import Gts.Lemmas.FastaAuto
namespace Gts.Auto
open Gts.Pars
open Gts.GenBank (Record Registry genbankParser)
open Gts.Fasta (fastaParse)

theorem sorted_pop (s : PS) (hs : Sorted s.rest.length s.stk) :
    Sorted (pop.run' s).2.rest.length (pop.run' s).2.stk := by
  rw [run_pop]
  cases hst : s.stk with
  | nil => dsimp only; rw [hst]; trivial
  | cons f st => rw [hst] at hs; exact hs.2

/-- the first `Scan` when `GenBankParser` accepts the first record: that record, then the GenBank
loop on the state the record left (the scanner's `Drop` included) -/
theorem scanFirst_first_ok (reg reg' : Registry) (s s' : PS) (r : Record)
    (hne : s.rest.isEmpty = false)
    (h : (genbankParser reg).run' ⟨s.rest, s.rest :: s.stk⟩ = (.ok (r, reg'), s')) :
    scanFirst reg s = (gbLoop (s'.rest.length + 1) reg' ⟨s'.rest, s'.stk.drop 1⟩).cons (.gb r) := by
  unfold scanFirst
  rw [if_neg (by rw [hne]; exact Bool.false_ne_true), Fasta.run_push_then, run_attempt, h]
  rfl

/-- **the parser is chosen once**: the first `Scan` and everything after it return records of ONE
kind, decided by whether `GenBankParser` accepts the first record (on the state the scanner's
`Push` made) — GenBank records only (at least that first one) when it does; FASTA records only,
and an untouched registry, when it does not -/
theorem scanFirst_sticks (reg : Registry) (s : PS) (hs : Sorted s.rest.length s.stk) :
    ∃ rs rg c, scanFirst reg s = .done rs rg c ∧
      match ((genbankParser reg).run' ⟨s.rest, s.rest :: s.stk⟩).1 with
      | .ok _ => rs.all Rec.isGb = true ∧ rs ≠ []
      | .error _ => rs.all Rec.isFa = true ∧ rg = reg := by
  by_cases he : s.rest.isEmpty = true
  · have h0 : startsLocus (PS.mk s.rest (s.rest :: s.stk)).rest = false := by
      show startsLocus s.rest = false
      rw [List.isEmpty_iff.mp he]; rfl
    rw [genbankParser_not_locus reg _ h0]
    refine ⟨[], reg, true, ?_, rfl, rfl⟩
    unfold scanFirst
    rw [if_pos he]
  · have hne : s.rest.isEmpty = false := by simpa using he
    rcases GenBank.scan_cases reg ⟨s.rest, s.rest :: s.stk⟩ ⟨Nat.le_refl _, hs⟩ with ⟨rec, reg', s1, hrun, hsort, _⟩ | ⟨s1, hrun⟩ <;> rw [hrun]
    · dsimp only
      rw [scanFirst_first_ok reg reg' s s1 rec hne hrun]
      obtain ⟨rs, rg, c, h1, h2⟩ := gbLoop_done (s1.rest.length + 1) reg' ⟨s1.rest, s1.stk.drop 1⟩
        (sorted_drop1 hsort)
      rw [h1]
      exact ⟨.gb rec :: rs, rg, c, rfl, by simpa [Rec.isGb] using h2, by simp⟩
    · dsimp only
      unfold scanFirst
      rw [if_neg he, Fasta.run_push_then, run_attempt, hrun]
      dsimp only
      rw [Fasta.run_push_then, run_attempt]
      rcases Fasta.fastaParse_cases ⟨(pop.run' s1).2.rest, (pop.run' s1).2.rest :: (pop.run' s1).2.stk⟩ with
        ⟨a, s3, hrun2⟩ | hrun2 <;> rw [hrun2]
      · dsimp only
        obtain ⟨rs, c, h4, h5⟩ := faLoop_all_fa reg ((drop.run' s3).2.rest.length + 1) (drop.run' s3).2
        rw [h4]
        refine ⟨.fa a.1 a.2 :: rs, reg, c, rfl, ?_, rfl⟩
        simpa [Rec.isFa] using h5
      · exact ⟨[], reg, false, rfl, rfl, rfl⟩

theorem scanFirst_ne_panic (reg : Registry) (s : PS) (hs : Sorted s.rest.length s.stk) :
    scanFirst reg s ≠ .panic := by
  obtain ⟨rs, rg, c, h, _⟩ := scanFirst_sticks reg s hs
  rw [h]; exact fun h' => nomatch h'

/-- a record that `FastaParser` returns has consumed at least its `>` -/
theorem fastaParse_consumes (s s' : PS) (a : Bytes × Bytes) (h : fastaParse.run' s = (.ok a, s')) :
    s'.rest.length + 1 ≤ s.rest.length := by
  obtain ⟨t, stk⟩ := s
  rw [Fasta.run'_eq, Fasta.fastaParse_run] at h
  cases t with
  | nil => cases h
  | cons c t' =>
    dsimp only at h
    split at h
    · injection h with _ h2
      subst h2
      have h1 := splitLine_len t'
      have h2 := (List.dropWhile_suffix Fasta.notGt (l := (Origin.splitLine t').2)).length_le
      show (List.dropWhile Fasta.notGt (Origin.splitLine t').2).length + 1 ≤ (c :: t').length
      simp only [List.length_cons]
      omega
    · cases h

/-- the fuel `len + 1` of the FASTA loop is adequate -/
theorem faLoop_fuel (reg : Registry) : ∀ k k' (s : PS),
    s.rest.length < k → s.rest.length < k' → faLoop k reg s = faLoop k' reg s
  | 0, _, _, h, _ => absurd h (Nat.not_lt_zero _)
  | _ + 1, 0, _, _, h => absurd h (Nat.not_lt_zero _)
  | k + 1, k' + 1, s, hk, hk' => by
    unfold faLoop
    split
    · rfl
    · rcases hrun : fastaParse.run' s with ⟨r, s'⟩
      rcases r with e | a
      · cases e <;> rfl
      · have := fastaParse_consumes s s' a hrun
        dsimp only
        rw [faLoop_fuel reg k k' s' (by omega) (by omega)]

end Gts.Auto
