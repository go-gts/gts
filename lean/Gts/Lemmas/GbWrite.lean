/-
  C01 helper lemmas: the text `GenBank.String` writes, as LOCUS line + sections + `//`.
-/
import Gts.Lemmas.GbRecord
namespace Gts.GenBank
open Gts.Pars

/-- the ACCESSION line `GenBank.String` writes: accession, and ` REGION: a..b` for a sliced record -/
def accessionLine (f : Fields) : Bytes :=
  f.accession ++ match f.region with
    | none => []
    | some (h, t) => if t ≤ h then [] else bs " REGION: " ++ itoaB (h + 1) ++ bs ".." ++ itoaB t

/-- the header sections in the order of `GenBank.String` -/
def headerSecs (f : Fields) : List Section :=
  [secDefinition f.definition, secAccession (accessionLine f), secVersion f.version] ++
  (match f.dblink with | [] => [] | p :: ps => [secDblink p ps]) ++
  [secKeywords f.keywords, secSource f.species f.organism f.taxon] ++
  f.references.map secReference ++ f.comments.map secComment ++
  f.extra.map fun e => secExtra e.1 e.2

theorem referencesText_eq (rs : List Reference) (h : ∀ x ∈ rs, ∀ v, x.pubmed = some v → noEOL v = true) :
    referencesText rs = .ok (secsText (rs.map secReference)) := by
  induction rs with
  | nil => rfl
  | cons x rs ih =>
    have h1 := referenceText_eq x (h x (by simp))
    have h2 := ih (fun y hy => h y (by simp [hy]))
    simp only [referencesText, h1, h2, List.map_cons, secsText, List.flatMap_cons, secReference]
    rfl

theorem secsText_append (a b : List Section) : secsText (a ++ b) = secsText a ++ secsText b := by
  simp [secsText, List.flatMap_append]

theorem headerText_eq (f : Fields) (length : Int)
    (hp : ∀ x ∈ f.references, ∀ v, x.pubmed = some v → noEOL v = true) :
    headerText f length = .ok (locusLine f length ++ 10 :: secsText (headerSecs f)) := by
  have hrefs := referencesText_eq f.references hp
  have hdb : dblinkText f.dblink true = secsText (match f.dblink with | [] => [] | p :: ps => [secDblink p ps]) := by
    cases f.dblink with
    | nil => rfl
    | cons p ps => simp [secsText, secDblink]
  unfold headerText
  simp only [hrefs, hdb, headerSecs, secsText_append]
  simp only [accessionLine, secsText, secDefinition, secAccession, secVersion, secKeywords, secSource, secComment,
    secExtra, List.flatMap_map, List.append_assoc, Bind.bind, Except.bind, pure, Except.pure, List.flatMap_cons,
    List.flatMap_nil, List.cons_append, List.nil_append, List.append_nil]
  -- what is left differs in the name of the `match` on the region only
  rfl

end Gts.GenBank
