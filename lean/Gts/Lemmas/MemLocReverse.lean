/-
  C11 — `Location.Reverse` as a heap program (`reverseMem`, Gts/Model/MemLoc.lean): fresh, and it
  converges to `Loc.reverse`.  It has the shape of `Expand` (`Shape`, Gts/Lemmas/MemLocFresh.lean); only the
  element loop differs: it runs from both ends (`ll[l], ll[r] = v[r].Reverse(…), v[l].Reverse(…)`).
-/
import Gts.Lemmas.MemLocConv
namespace Gts.Mem
open Heap

/-- `ll := make([]Location, len(v))` and the loop from both ends -/
def revLocs : ElemLoop := fun rec h s =>
  (revLoop rec s (mk h s.len s.len).1 ((s.len + 1) / 2) 0 (s.len - 1) (mk h s.len s.len).2).map
    fun h' => ((mk h s.len s.len).1, h')

theorem reverseMem_shape (g : Grow) (len : Int) :
    Shape g (fun _ h l => some (.leaf (l.reverse len), h)) revLocs (reverseMem g len) :=
  ⟨fun _ _ => rfl, fun _ _ _ => rfl, fun _ _ _ => by unfold revLocs; rw [Option.bind_map]; rfl,
    fun _ _ _ => by unfold revLocs; rw [Option.bind_map]; rfl, fun _ _ _ => rfl⟩

theorem revLoop_fresh {rec : LocMeth} (hrec : MapFresh rec)
    {h0 : LHeap} (src : Slice) {dst : Slice} (hd : h0.length ≤ dst.arr) (cnt : Nat) :
    ∀ (l r : Nat) (h res : LHeap), revLoop rec src dst cnt l r h = some res → h0 <+: h →
      Closed h0.length h → h0 <+: res ∧ Closed h0.length res := by
  induction cnt with
  | zero =>
    intro l r h res he hp hc
    simp only [revLoop, Option.some.injEq] at he
    subst he
    exact ⟨hp, hc⟩
  | succ cnt ih =>
    intro l r h res he hp hc
    unfold revLoop at he
    split at he
    · obtain ⟨a, a1, a2⟩ := Option.bind_eq_some_iff.1 he
      split at a2
      · obtain ⟨b, b1, b2⟩ := Option.bind_eq_some_iff.1 a2
        have pa := (hrec _ _ a a1).lower hp.length_le hc
        have hpa := hp.trans pa.pre
        have pb := (hrec _ _ b b1).lower hpa.length_le pa.closed
        exact ih _ _ _ _ b2 (frame_store (frame_store (hpa.trans pb.pre) hd _ _) hd _ _)
          (closed_store (closed_store pb.closed dst l pa.refs) dst r pb.refs)
      · cases a2
    · cases he

theorem revLocs_fresh {rec : LocMeth} (hrec : MapFresh rec) (h : LHeap)
    (s : Slice) (r : Slice × LHeap) (he : revLocs rec h s = some r) :
    h <+: r.2 ∧ Closed h.length r.2 ∧ r.1.arr = h.length := by
  obtain ⟨h', h1, h2⟩ := Option.map_eq_some_iff.1 he
  subst h2
  have m0 := frame_mk (List.prefix_refl h) s.len s.len
  have p := revLoop_fresh hrec s m0.2 _ _ _ _ _ h1 m0.1 (closed_mk (closed_self h) _ _)
  exact ⟨p.1, p.2, rfl⟩

theorem reverse_contig {l : Loc} (hl : isContig l = true) (len : Int) :
    isContig (l.reverse len) = true := by
  cases l <;> simp [isContig] at hl <;> simp [Loc.reverse, Loc.rangedReverse, isContig]

theorem reverseMem_fresh (g : Grow) (len : Int) : ∀ k, MapFresh (reverseMem g len k) :=
  (reverseMem_shape g len).fresh (fun _ => revLocs_fresh) fun _ h _ _ he => by
    cases he; exact post_value h _

/-- The loop from both ends: `l = t`, `r = u - 1`, `t + u = n`; the destination cells left of `t`
and from `u` on are filled.  An iteration stores the image of `v[r]` at `l` and the image of `v[l]`
at `r`; for the middle element of an odd length (`l = r`) the second store wins, and it is the
image of `v[l]`, which is what the mirror asks for. -/
theorem revLoop_conv {R : Nat → LocMeth} {F : Loc → Loc} (hfresh : ∀ k, MapFresh (R k))
    {ls : List Loc} {K : Nat}
    (hK : ∀ lu ∈ ls, MapConvAt R F K lu)
    {h0 : LHeap} {src dst : Slice} (hs : WF h0 src) (hdl : dst.len = src.len)
    (hl : ReadsList h0 ls (read h0 src)) (cnt : Nat) :
    ∀ (t u : Nat) (h : LHeap) (ys : List MLoc), t + u = src.len → cnt + t = (src.len + 1) / 2 →
      Filled h0 h dst ys (ls.map F).reverse (fun j => j < t ∨ u ≤ j) →
      Conv (fun k => revLoop (R k) src dst cnt t (u - 1) h) K fun res =>
        ∃ ys', Owned h0 res dst ys' ∧ ReadsList res (ls.map F).reverse ys' := by
  have hn := length_read hs
  have hln : ls.length = src.len := by rw [hl.length_eq, hn]
  -- cell `j` of the mirror is the image of part `i`, where `i + j = n - 1`
  have mirror : ∀ {i j : Nat} {l : Loc}, ls[i]? = some l → i + j + 1 = src.len →
      (ls.map F).reverse[j]? = some (F l) := fun {i j l} e hij => by
    rw [List.getElem?_reverse (by simp [hln]; omega), List.getElem?_map, List.length_map, hln,
      show src.len - 1 - j = i by omega, e]
    rfl
  induction cnt with
  | zero =>
    intro t u h ys hu ht f
    exact Conv.pure K ⟨ys, f.own, f.readsList (by simp [hln, hdl]) fun j hj => by omega⟩
  | succ cnt ih =>
    intro t u h ys hu ht f
    obtain ⟨r, rfl⟩ : ∃ r, u = r + 1 := ⟨u - 1, by omega⟩
    rw [Nat.add_sub_cancel]
    obtain ⟨lr, ur, hlr, hur, hrr⟩ := hl.getElem (i := r) (by omega)
    obtain ⟨ll, ul, hll, hul, hrl⟩ := hl.getElem (i := t) (by omega)
    simp only [revLoop, load_of_getElem hs f.own.pre hur]
    refine (hK lr (List.mem_of_getElem? hlr) h ur (Reads.mono f.own.pre _ _ hrr)).bind_same
      fun a ra a1 => ?_
    obtain ⟨fa, rfa⟩ := f.call (by omega) (hfresh _ _ _ a a1)
    simp only [load_of_getElem hs fa.own.pre hul]
    refine (hK ll (List.mem_of_getElem? hll) a.2 ul (Reads.mono fa.own.pre _ _ hrl)).bind_same
      fun b rb b1 => ?_
    have pb := hfresh _ _ _ b b1
    obtain ⟨fb, rfb⟩ := fa.call (by omega) pb
    have f1 := fb.store (i := t) (by omega) rfa (mirror hlr (by omega)) (Reads.mono pb.pre _ _ ra)
      (S' := fun j => j = t ∨ j < t ∨ r + 1 ≤ j) fun j hj => hj
    exact ih (t + 1) r _ _ (by omega) (by omega)
      (f1.store (i := r) (by omega) rfb (mirror hll (by omega)) (fb.keep t a.1 rfb rb)
        fun j hj => by omega)

theorem revLocs_conv {R : Nat → LocMeth} {F : Loc → Loc} (hfresh : ∀ k, MapFresh (R k))
    (ls : List Loc) (K : Nat) (hK : ∀ lu ∈ ls, MapConvAt R F K lu) (h : LHeap) (s : Slice)
    (hw : WF h s) (hl : ReadsList h ls (read h s)) :
    Conv (fun k => revLocs (R k) h s) K fun r =>
      WF r.2 r.1 ∧ ReadsList r.2 (ls.map F).reverse (read r.2 r.1) := by
  have c := revLoop_conv hfresh hK hw (dst := (mk h s.len s.len).1) rfl hl
    ((s.len + 1) / 2) 0 s.len _ _ (Nat.zero_add _) rfl
    ⟨rfl, mk_owned (List.prefix_refl h) (Nat.le_refl s.len), closed_mk_self h _ _, fun j y _ hj hy => by
      have := (List.getElem?_eq_some_iff.1 hy).1
      simp at this
      omega⟩
  exact c.map fun h' ⟨ys, o, hy⟩ => ⟨o.wf, by rw [o.rd]; exact hy⟩

theorem reverseMem_conv (g : Grow) (len : Int) :
    ∀ l, MapConv (reverseMem g len) (fun l => l.reverse len) l :=
  (reverseMem_shape g len).conv (G := List.reverse)
    (fun ls => by simp [Loc.reverse, Loc.reverseList_eq_map]) (fun ls => by simp [Loc.reverse, Loc.reverseList_eq_map])
    (fun l => by simp [Loc.reverse]) (revLocs_conv (reverseMem_fresh g len))
    fun _ hc => conv_value (reverse_contig hc len)

end Gts.Mem
