/-
  The rule table of `LocationList.Push` against the last element, outcome by outcome (`pushOne_cons`):
  the analyses of `Push` / `Join` onto a non-empty list go through it; `Fires f v x` lists its outcomes other than "appended", and
  `pushOne_append` is the converse (no rule fires ⇒ appended).  With it the well-formedness predicate `wf` and the
  defining equations of `den`.  Core Lean only.
-/
import Gts.Lemmas.Basic
namespace Gts
namespace Loc

mutual
/-- every `Ranged` (what `PartialRange` enforces) and every `Ambiguous` has `Start < End` -/
def wf : Loc → Bool
  | ranged s e _ _ => decide (s < e)
  | ambiguous s e => decide (s < e)
  | joined ls => wfList ls
  | ordered ls => wfList ls
  | compl l => wf l
  | _ => true
def wfList : List Loc → Bool
  | [] => true
  | l :: ls => wf l && wfList ls
end

@[simp] theorem wfList_nil : wfList [] = true := by simp [wfList]
@[simp] theorem wfList_cons (l : Loc) (ls : List Loc) : wfList (l :: ls) = (wf l && wfList ls) := by
  simp [wfList]

theorem wfList_append (a b : List Loc) : wfList (a ++ b) = (wfList a && wfList b) := by
  induction a with
  | nil => simp
  | cons x xs ih => simp [ih, Bool.and_assoc]

theorem wfList_iff (l : List Loc) : wfList l = true ↔ ∀ x ∈ l, wf x = true := by
  induction l with
  | nil => simp
  | cons a as ih => simp [ih]

theorem wfList_reverse (a : List Loc) : wfList a.reverse = wfList a := by
  induction a with
  | nil => simp
  | cons x xs ih => simp [wfList_append, ih, Bool.and_comm]

@[simp] theorem denList_nil : denList [] = [] := by simp [denList]
@[simp] theorem denList_cons (l : Loc) (ls : List Loc) : denList (l :: ls) = den l ++ denList ls := by
  simp [denList]

theorem denList_append (a b : List Loc) : denList (a ++ b) = denList a ++ denList b := by
  induction a with
  | nil => simp
  | cons x xs ih => simp [ih]

/-- denotation of a reversed accumulator -/
def denR (racc : List Loc) : List Pos := denList racc.reverse

@[simp] theorem denR_nil : denR [] = [] := by simp [denR]
@[simp] theorem denR_cons (x : Loc) (racc : List Loc) : denR (x :: racc) = denR racc ++ den x := by
  simp [denR, denList_append]

@[simp] theorem den_between (p : Int) : den (between p) = [] := by simp [den]
@[simp] theorem den_point (p : Int) : den (point p) = [(p, false)] := by simp [den]
@[simp] theorem den_ranged (s e : Int) (a b : Bool) : den (ranged s e a b) = fwd (irange s (e - s).toNat) := by
  simp [den]
@[simp] theorem den_ambiguous (s e : Int) : den (ambiguous s e) = fwd (irange s (e - s).toNat) := by
  simp [den]
@[simp] theorem den_joined (ls : List Loc) : den (joined ls) = denList ls := by simp [den]
@[simp] theorem den_ordered (ls : List Loc) : den (ordered ls) = denList ls := by simp [den]
@[simp] theorem den_compl (l : Loc) : den (compl l) = flipDen (den l) := by simp [den]

/-- the inner join of the complemented-pair rule -/
theorem inner_den (j : List Loc) : den (ofParts j) = denList j := by
  match j with
  | [] => simp [ofParts]
  | [a] => simp [ofParts]
  | _ :: _ :: _ => simp [ofParts]

/-- The rules of `LocationList.Push` against the last element `v`, outcome by outcome:
`x` is appended; `x` is dropped; `x` replaces `v`; two abutting ranges merge; two complements
merge through the lower level.  Every outcome but the first names the kinds of `v` and `x`. -/
theorem pushOne_cons (low : List Loc → Loc → Bool → List Loc) (v x : Loc) (rest : List Loc) (f : Bool) :
    pushOne low (v :: rest) x f = x :: v :: rest ∨
    (pushOne low (v :: rest) x f = v :: rest ∧
      ((∃ p, v = between p ∧ x = between p) ∨ (∃ p, v = point p ∧ x = between (p + 1)) ∨
        (∃ vs ve v5 v3, v = ranged vs ve v5 v3 ∧ x = between ve) ∨ (∃ p, v = point p ∧ x = point p) ∨
        ∃ vs ve v5 v3, v = ranged vs ve v5 v3 ∧ x = point ve)) ∨
    (pushOne low (v :: rest) x f = x :: rest ∧
      ((∃ p, v = between p ∧ x = point p) ∨ (∃ p ue u5 u3, v = between p ∧ x = ranged p ue u5 u3) ∨
        ∃ p ue u5 u3, v = point p ∧ x = ranged p ue u5 u3)) ∨
    (∃ vs ve ue v5 v3 u5 u3, v = ranged vs ve v5 v3 ∧ x = ranged ve ue u5 u3 ∧ ((v3 && u5) || f) = true ∧
      pushOne low (v :: rest) x f = ranged vs ue v5 u3 :: rest) ∨
    ∃ vl ul, v = compl vl ∧ x = compl ul ∧
      pushOne low (v :: rest) x f =
        compl (ofParts (((low [ul] vl f).reverse.foldl (fun acc y => low acc y true) []).reverse)) :: rest := by
  generalize hr : pushOne low (v :: rest) x f = r
  simp only [pushOne] at hr
  -- one goal per rule and condition; where the condition fails, and in the catch-all case, `x` is appended
  split at hr <;> (try split at hr) <;> subst_vars
  any_goals exact .inl rfl
  · exact .inr (.inl ⟨rfl, .inl ⟨_, rfl, rfl⟩⟩)
  · exact .inr (.inr (.inl ⟨rfl, .inl ⟨_, rfl, rfl⟩⟩))
  · exact .inr (.inr (.inl ⟨rfl, .inr (.inl ⟨_, _, _, _, rfl, rfl⟩)⟩))
  · exact .inr (.inl ⟨rfl, .inr (.inl ⟨_, rfl, rfl⟩)⟩)
  · exact .inr (.inl ⟨rfl, .inr (.inr (.inr (.inl ⟨_, rfl, rfl⟩)))⟩)
  · exact .inr (.inr (.inl ⟨rfl, .inr (.inr ⟨_, _, _, _, rfl, rfl⟩)⟩))
  · exact .inr (.inl ⟨rfl, .inr (.inr (.inl ⟨_, _, _, _, rfl, rfl⟩))⟩)
  · exact .inr (.inl ⟨rfl, .inr (.inr (.inr (.inr ⟨_, _, _, _, rfl, rfl⟩)))⟩)
  · rename_i h
    obtain ⟨hf, he⟩ := Bool.and_eq_true_iff.mp h
    cases eq_of_beq he
    exact .inr (.inr (.inr (.inl ⟨_, _, _, _, _, _, _, rfl, rfl, hf, rfl⟩)))
  · exact .inr (.inr (.inr (.inr ⟨_, _, rfl, rfl, rfl⟩)))

/-- a rule of `Push` is written for the pair `v`, `x` and its test holds: the outcomes of
`pushOne_cons` but the first -/
inductive Fires (f : Bool) : Loc → Loc → Prop
  | bb {p} : Fires f (between p) (between p)
  | pb {p} : Fires f (point p) (between (p + 1))
  | rb {vs ve v5 v3} : Fires f (ranged vs ve v5 v3) (between ve)
  | pp {p} : Fires f (point p) (point p)
  | rp {vs ve v5 v3} : Fires f (ranged vs ve v5 v3) (point ve)
  | bp {p} : Fires f (between p) (point p)
  | br {p ue u5 u3} : Fires f (between p) (ranged p ue u5 u3)
  | pr {p ue u5 u3} : Fires f (point p) (ranged p ue u5 u3)
  | rr {vs ve ue v5 v3 u5 u3} : ((v3 && u5) || f) = true → Fires f (ranged vs ve v5 v3) (ranged ve ue u5 u3)
  | cc {vl ul} : Fires f (compl vl) (compl ul)

/-- where no rule fires, `x` is appended: a statement about the pair is refuted by `cases` on `Fires` -/
theorem pushOne_append (low : List Loc → Loc → Bool → List Loc) {v x : Loc} {f : Bool} (h : ¬ Fires f v x)
    (rest : List Loc) : pushOne low (v :: rest) x f = x :: v :: rest := by
  rcases pushOne_cons low v x rest f with e | ⟨_, hd⟩ | ⟨_, hd⟩ | ⟨_, _, _, _, _, _, _, rfl, rfl, hf, _⟩ |
    ⟨_, _, rfl, rfl, _⟩
  · exact e
  · rcases hd with ⟨_, rfl, rfl⟩ | ⟨_, rfl, rfl⟩ | ⟨_, _, _, _, rfl, rfl⟩ | ⟨_, rfl, rfl⟩ |
      ⟨_, _, _, _, rfl, rfl⟩ <;> exact absurd (by constructor) h
  · rcases hd with ⟨_, rfl, rfl⟩ | ⟨_, _, _, _, rfl, rfl⟩ | ⟨_, _, _, _, rfl, rfl⟩ <;>
      exact absurd (by constructor) h
  · exact absurd (.rr hf) h
  · exact absurd .cc h

theorem pushOne_length (low : List Loc → Loc → Bool → List Loc) (racc : List Loc) (x : Loc) (f : Bool) :
    racc.length ≤ (pushOne low racc x f).length ∧ (pushOne low racc x f).length ≤ racc.length + 1 ∧
      pushOne low racc x f ≠ [] := by
  cases racc with
  | nil => simp [pushOne]
  | cons v rest =>
    rcases pushOne_cons low v x rest f with e | ⟨e, _⟩ | ⟨e, _⟩ | ⟨_, _, _, _, _, _, _, _, _, _, e⟩ |
        ⟨_, _, _, _, e⟩ <;> rw [e] <;> simp

end Loc
end Gts
