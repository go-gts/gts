/-
  C11 — lemmas about the heap of arrays and the Go slices of `Gts/Model/Mem.lean`.  REFINEMENT goes
  through `Owned h0 h s xs` (`s` was allocated after `h0`, is well formed in `h` and reads `xs`):
  `make`, `append`, `copy`, a store and every helper of the operations keep it, so what the result
  reads is computed on lists.  FRAME (`h0 <+: h`) is proved apart from it, with no hypothesis on the
  slices.
-/
import Gts.Model.Mem
import Gts.Lemmas.LessOrder
import Gts.Lemmas.Table
namespace Gts.Mem
open Heap

variable {α : Type}

theorem get_append_left {h e : Heap α} {a : Nat} (ha : a < h.length) : (h ++ e).get a = h.get a := by
  simp [Heap.get, List.getD, List.getElem?_append_left ha]

theorem get_append_length (h : Heap α) (x : List α) : (h ++ [x]).get h.length = x := by
  simp [Heap.get, List.getD]

theorem get_of_le {h : Heap α} {a : Nat} (ha : h.length ≤ a) : h.get a = [] := by
  simp [Heap.get, List.getD, List.getElem?_eq_none ha]

theorem get_prefix {h0 h : Heap α} (hp : h0 <+: h) {a : Nat} (ha : a < h0.length) :
    h.get a = h0.get a := by
  obtain ⟨e, rfl⟩ := hp
  exact get_append_left ha

theorem length_write (h : Heap α) (a pos : Nat) (xs : List α) : (write h a pos xs).length = h.length := by
  simp [write]

theorem get_write_ne (h : Heap α) {a b : Nat} (pos : Nat) (xs : List α) (hab : a ≠ b) :
    (write h a pos xs).get b = h.get b := by
  simp [write, Heap.get, List.getD, List.getElem?_set_ne hab]

theorem get_write_eq (h : Heap α) {a : Nat} (pos : Nat) (xs : List α) (ha : a < h.length) :
    (write h a pos xs).get a = overwrite (h.get a) pos xs := by
  simp [write, Heap.get, List.getD, ha]

theorem overwrite_nil (arr : List α) (pos : Nat) : overwrite arr pos [] = arr := by
  simp [overwrite]

theorem write_nil (h : Heap α) (a pos : Nat) : write h a pos [] = h := by
  unfold write
  rw [overwrite_nil]
  by_cases ha : a < h.length
  · simp [Heap.get, List.getD, ha]
  · exact List.set_eq_of_length_le (by omega)

theorem length_overwrite (arr : List α) (pos : Nat) (xs : List α) (hle : pos + xs.length ≤ arr.length) :
    (overwrite arr pos xs).length = arr.length := by
  simp [overwrite]; omega

theorem prefix_write {h0 h : Heap α} (hp : h0 <+: h) {a : Nat} (ha : h0.length ≤ a) (pos : Nat)
    (xs : List α) : h0 <+: write h a pos xs := by
  obtain ⟨e, rfl⟩ := hp
  unfold write
  rw [List.set_append_right _ _ ha]
  exact List.prefix_append _ _

theorem prefix_snoc {h0 h : Heap α} (hp : h0 <+: h) (x : List α) : h0 <+: h ++ [x] :=
  hp.trans (List.prefix_append _ _)

theorem get_of_wf {h0 h : Heap α} (hp : h0 <+: h) {s : Slice} (hw : WF h0 s) :
    h.get s.arr = h0.get s.arr ∨ (s.off = 0 ∧ s.len = 0 ∧ s.cap = 0) := by
  by_cases ha : s.arr < h0.length
  · exact Or.inl (get_prefix hp ha)
  · unfold WF at hw
    rw [get_of_le (by omega)] at hw
    simp at hw
    omega

theorem wf_mono {h0 h : Heap α} (hp : h0 <+: h) {s : Slice} (hw : WF h0 s) : WF h s := by
  rcases get_of_wf hp hw with e | ⟨e1, e2, e3⟩
  · unfold WF; rw [e]; exact hw
  · simp [WF, e1, e2, e3]

theorem read_mono {h0 h : Heap α} (hp : h0 <+: h) {s : Slice} (hw : WF h0 s) :
    read h s = read h0 s := by
  rcases get_of_wf hp hw with e | ⟨_, e2, _⟩
  · unfold Heap.read; rw [e]
  · simp [Heap.read, e2]

theorem length_read {h : Heap α} {s : Slice} (hw : WF h s) : (read h s).length = s.len := by
  unfold WF at hw
  simp [Heap.read]
  omega

theorem wf_slice {h : Heap α} {s : Slice} (hw : WF h s) {lo hi : Nat} (h1 : lo ≤ hi) (h2 : hi ≤ s.cap) :
    WF h (s.slice lo hi) := by
  unfold WF at *
  simp [Slice.slice]
  omega

theorem read_slice {h : Heap α} {s : Slice} (lo hi : Nat) (h2 : hi ≤ s.len) :
    read h (s.slice lo hi) = ((read h s).take hi).drop lo := by
  simp only [Heap.read, Slice.slice]
  rw [List.take_take, Nat.min_eq_left h2, List.drop_take, List.drop_drop]

theorem read_upto {h : Heap α} {s : Slice} (hi : Nat) (h2 : hi ≤ s.len) :
    read h (s.upto hi) = (read h s).take hi := by
  simp [Slice.upto, read_slice 0 hi h2]

theorem read_since {h : Heap α} {s : Slice} (hw : WF h s) (lo : Nat) :
    read h (s.since lo) = (read h s).drop lo := by
  rw [Slice.since, read_slice lo s.len (Nat.le_refl _), List.take_of_length_le]
  rw [length_read hw]; exact Nat.le_refl _

theorem wf_upto {h : Heap α} {s : Slice} (hw : WF h s) {hi : Nat} (h2 : hi ≤ s.len) :
    WF h (s.upto hi) := wf_slice hw (Nat.zero_le _) (by unfold WF at hw; omega)

theorem wf_since {h : Heap α} {s : Slice} (hw : WF h s) {lo : Nat} (h2 : lo ≤ s.len) :
    WF h (s.since lo) := wf_slice hw h2 hw.1

theorem overwrite_zero (X A : List α) : overwrite X 0 A = A ++ X.drop A.length := by
  simp [overwrite]

theorem overwrite_full (X A : List α) (h : X.length ≤ A.length) : overwrite X 0 A = A := by
  simp [overwrite, List.drop_of_length_le h]

theorem overwrite_after (A Y B : List α) {i : Nat} (hi : A.length = i) :
    overwrite (A ++ Y) i B = A ++ B ++ Y.drop B.length := by
  subst hi; simp [overwrite, List.drop_append]

theorem overwrite_tail (A Y B : List α) {i : Nat} (hi : A.length = i) (hY : Y.length ≤ B.length) :
    overwrite (A ++ Y) i B = A ++ B := by
  rw [overwrite_after A Y B hi, List.drop_of_length_le hY, List.append_nil]

theorem mem_overwrite {A : List α} {p : Nat} {ys : List α} {x : α}
    (hx : x ∈ overwrite A p ys) : x ∈ A ∨ x ∈ ys := by
  simp only [overwrite, List.mem_append] at hx
  rcases hx with (h | h) | h
  · exact Or.inl (List.mem_of_mem_take h)
  · exact Or.inr h
  · exact Or.inl (List.mem_of_mem_drop h)

theorem mem_get_write {h : Heap α} {a pos b : Nat} {xs : List α} {x : α}
    (hx : x ∈ (write h a pos xs).get b) : x ∈ h.get b ∨ x ∈ xs := by
  by_cases hab : a = b
  · subst hab
    by_cases hl : a < h.length
    · rw [get_write_eq _ _ _ hl] at hx; exact mem_overwrite hx
    · rw [get_of_le (by rw [length_write]; omega)] at hx; cases hx
  · rw [get_write_ne _ _ _ hab] at hx; exact Or.inl hx

theorem getElem?_overwrite (A : List α) (p : Nat) (ys : List α) (hp : p ≤ A.length) (j : Nat) :
    (overwrite A p ys)[j]? =
      if j < p then A[j]? else if j < p + ys.length then ys[j - p]? else A[j]? := by
  unfold overwrite
  have h1 : (A.take p).length = p := by simp; omega
  rw [List.append_assoc, List.getElem?_append, h1]
  split
  · rename_i hj; rw [List.getElem?_take_of_lt hj]
  · rename_i hj
    rw [List.getElem?_append]
    split
    · rename_i hj2; rw [if_pos (by omega)]
    · rename_i hj2
      rw [if_neg (by omega), List.getElem?_drop]
      congr 1; omega

theorem getElem?_overwrite_one (A : List α) {p : Nat} (x : α) (hp : p < A.length) (j : Nat) :
    (overwrite A p [x])[j]? = if j = p then some x else A[j]? := by
  rw [getElem?_overwrite _ _ _ (Nat.le_of_lt hp)]
  by_cases h1 : j < p
  · rw [if_pos h1, if_neg (by omega)]
  · rw [if_neg h1]
    by_cases h2 : j = p
    · subst h2; simp
    · rw [if_neg (by simp; omega), if_neg h2]

theorem getElem?_read (h : Heap α) (s : Slice) (j : Nat) :
    (read h s)[j]? = if j < s.len then (h.get s.arr)[s.off + j]? else none := by
  simp only [Heap.read, List.getElem?_take, List.getElem?_drop]

theorem window_overwrite (A : List α) (off len p : Nat) (ys : List α) (h1 : off + len ≤ A.length)
    (h2 : p + ys.length ≤ len) :
    ((overwrite A (off + p) ys).drop off).take len = overwrite ((A.drop off).take len) p ys := by
  apply List.ext_getElem?
  intro j
  have hl : ((A.drop off).take len).length = len := by simp; omega
  rw [getElem?_overwrite _ _ _ (by omega)]
  simp only [List.getElem?_take, List.getElem?_drop, getElem?_overwrite _ _ _ (show off + p ≤ A.length by omega),
    Nat.add_lt_add_iff_left, Nat.add_assoc, Nat.add_sub_add_left]
  by_cases h3 : j < p
  · simp only [h3, if_true, show j < len by omega]
  · by_cases h4 : j < p + ys.length
    · simp only [h3, h4, if_true, if_false, show j < len by omega]
    · simp only [h3, h4, if_false]

/-- `s` was allocated after `h0` (so writes through it leave `h0` a prefix), it is well formed
in the current heap `h`, and currently reads `xs` -/
structure Owned (h0 h : Heap α) (s : Slice) (xs : List α) : Prop where
  pre : h0 <+: h
  fresh : Fresh h0.length s
  wf : WF h s
  rd : read h s = xs

theorem Owned.cast {h0 h : Heap α} {s : Slice} {xs ys : List α} (ho : Owned h0 h s xs) (e : xs = ys) :
    Owned h0 h s ys := e ▸ ho

theorem Owned.weaken {h0 h h' : Heap α} {s : Slice} {xs : List α} (hp : h0 <+: h)
    (ho : Owned h h' s xs) : Owned h0 h' s xs :=
  ⟨hp.trans ho.pre, ho.fresh.elim (fun x => Or.inl (Nat.le_trans hp.length_le x)) Or.inr, ho.wf, ho.rd⟩

theorem lt_length_of_get {h : Heap α} {a p : Nat} (hp : p < (h.get a).length) : a < h.length := by
  refine Nat.lt_of_not_le fun hn => ?_
  rw [get_of_le hn] at hp
  cases hp

theorem arr_lt_of_wf {h : Heap α} {s : Slice} (hw : WF h s) (hc : 0 < s.cap) : s.arr < h.length :=
  lt_length_of_get (p := 0) (by unfold WF at hw; omega)

theorem Owned.arr_bounds {h0 h : Heap α} {s : Slice} {xs : List α} (ho : Owned h0 h s xs)
    (hc : 0 < s.cap) : h0.length ≤ s.arr ∧ s.arr < h.length :=
  ⟨ho.fresh.elim id (by omega), arr_lt_of_wf ho.wf hc⟩

theorem mk_owned [Inhabited α] {h0 h : Heap α} (hp : h0 <+: h) {n c : Nat} (hn : n ≤ c) :
    Owned h0 (mk h n c).2 (mk h n c).1 (List.replicate n default) := by
  refine ⟨prefix_snoc hp _, Or.inl hp.length_le, ?_, ?_⟩
  · simp [WF, mk, get_append_length, hn]
  · simp [Heap.read, mk, get_append_length, List.take_replicate, Nat.min_eq_left hn]

theorem nil_owned {h0 h : Heap α} (hp : h0 <+: h) : Owned h0 h Slice.nil [] :=
  ⟨hp, Or.inr rfl, by simp [WF, Slice.nil], by simp [Heap.read, Slice.nil]⟩

theorem wf_nil (h : Heap α) : WF h Slice.nil := (nil_owned (List.prefix_refl h)).wf

theorem read_nil (h : Heap α) : read h Slice.nil = [] := (nil_owned (List.prefix_refl h)).rd

theorem write_owned {h0 h : Heap α} {s : Slice} {xs : List α} (ho : Owned h0 h s xs) (p : Nat)
    (ys : List α) (hle : p + ys.length ≤ s.len) :
    Owned h0 (write h s.arr (s.off + p) ys) s (overwrite xs p ys) := by
  cases ys with
  | nil => rw [write_nil, overwrite_nil]; exact ho
  | cons y ys =>
    have hw := ho.wf
    unfold WF at hw
    obtain ⟨hfr, ha⟩ := ho.arr_bounds (by simp at hle; omega)
    refine ⟨prefix_write ho.pre hfr _ _, Or.inl hfr, ?_, ?_⟩
    · unfold WF
      rw [get_write_eq _ _ _ ha, length_overwrite _ _ _ (by omega)]
      exact hw
    · rw [← ho.rd]
      unfold Heap.read
      rw [get_write_eq _ _ _ ha]
      exact window_overwrite _ _ _ _ _ (by omega) hle

theorem store_owned {h0 h : Heap α} {s : Slice} {xs : List α} (ho : Owned h0 h s xs) (i : Nat) (x : α)
    (hi : i < s.len) : Owned h0 (store h s i x) s (overwrite xs i [x]) :=
  write_owned ho i [x] (by simp; omega)

/-- `q := make([]T, n)` and then all `n` cells written: a new slice showing exactly `xs` -/
theorem mkWrite_owned [Inhabited α] {h0 h : Heap α} (hp : h0 <+: h) (xs : List α) {n : Nat}
    (hn : xs.length = n) :
    Owned h0 (write (mk h n n).2 (mk h n n).1.arr (mk h n n).1.off xs) (mk h n n).1 xs := by
  have o := write_owned (mk_owned hp (Nat.le_refl n)) 0 xs (by simp [mk, hn])
  rwa [Nat.add_zero, overwrite_full _ _ (by simp [hn])] at o

theorem append_owned [Inhabited α] (g : Grow) {h0 h : Heap α} {s : Slice} {xs : List α}
    (ho : Owned h0 h s xs) (ys : List α) :
    Owned h0 (append g h s ys).2 (append g h s ys).1 (xs ++ ys) := by
  have hlr := length_read ho.wf
  unfold Heap.append
  split
  · rename_i hfit
    -- in place: a write at the end of the window widened by `ys.length` cells
    have ho' : Owned h0 h ⟨s.arr, s.off, s.len + ys.length, s.cap⟩ _ := ⟨ho.pre, ho.fresh, ⟨hfit, ho.wf.2⟩, rfl⟩
    refine (write_owned ho' s.len ys (Nat.le_refl _)).cast ?_
    rw [← ho.rd]
    simp only [Heap.read] at hlr ⊢
    rw [List.take_add, overwrite_tail _ _ _ hlr (List.length_take_le _ _)]
  · refine ⟨prefix_snoc ho.pre _, Or.inl ho.pre.length_le, ?_, ?_⟩
    · simp [WF, get_append_length, hlr]; omega
    · rw [← ho.rd]
      generalize read h s = R at hlr ⊢
      have hl2 : (R ++ ys).length = s.len + ys.length := by simp [hlr]
      simp only [Heap.read, get_append_length, List.drop_zero]
      rw [List.take_append_of_le_length (by omega), List.take_of_length_le (by omega)]

/-- `append(s, t...)` where `t` is a slice that existed before the operation started -/
theorem append_old [Inhabited α] (g : Grow) {h0 h : Heap α} {s t : Slice} {xs : List α}
    (ho : Owned h0 h s xs) (ht : WF h0 t) :
    Owned h0 (append g h s (read h t)).2 (append g h s (read h t)).1 (xs ++ read h0 t) := by
  rw [← read_mono ho.pre ht]
  exact append_owned g ho _

/-- `copy(dst, t)` where `dst` is the window of the owned slice `s` that starts `p` cells in (`s`
itself, `s[:hi]`, `s[p:]`) and `t` is a slice that existed before the operation started and is not
longer than `dst`: the whole of `t` is copied -/
theorem copy_old {h0 h : Heap α} {s t dst : Slice} {xs : List α} (ho : Owned h0 h s xs) (ht : WF h0 t)
    {p : Nat} (ha : dst.arr = s.arr) (hoff : dst.off = s.off + p) (hfit : t.len ≤ dst.len)
    (hl : p + t.len ≤ s.len) : Owned h0 (copy h dst (read h t)) s (overwrite xs p (read h0 t)) := by
  have hlt := length_read ht
  rw [read_mono ho.pre ht]
  unfold Heap.copy
  rw [ha, hoff, List.take_of_length_le (by omega)]
  exact write_owned ho p _ (by omega)

structure Part {α : Type} (h0 : Heap α) (r : Slice × Heap α) (v : List α) : Prop where
  pre : h0 <+: r.2
  wf : WF r.2 r.1
  rd : read r.2 r.1 = v

theorem Owned.part {h0 : Heap α} {r : Slice × Heap α} {xs : List α}
    (ho : Owned h0 r.2 r.1 xs) : Part h0 r xs := ⟨ho.pre, ho.wf, ho.rd⟩

theorem Part.cast {α : Type} {h0 : Heap α} {r : Slice × Heap α} {v v' : List α} (p : Part h0 r v)
    (e : v = v') : Part h0 r v' := e ▸ p

section bytes
variable [Inhabited α]

theorem spliceMem_owned (g : Grow) {h : Heap α} {p q : Slice} {pos : Nat} (hp : WF h p) (hq : WF h q)
    (hpos : pos ≤ p.len) :
    Owned h (spliceMem g h p pos q).2 (spliceMem g h p pos q).1
      ((read h p).take pos ++ read h q ++ (read h p).drop pos) := by
  have o := append_old g (append_old g (append_old g
    (mk_owned (List.prefix_refl h) (Nat.zero_le (p.len + q.len))) (wf_upto hp hpos)) hq) (wf_since hp hpos)
  exact o.cast (by rw [read_upto pos hpos, read_since hp]; simp)

theorem rotMem_owned (g : Grow) {h : Heap α} {q : Slice} {m : Nat} (hq : WF h q) (hm : m ≤ q.len) :
    Owned h (rotMem g h q m).2 (rotMem g h q m).1 ((read h q).drop m ++ (read h q).take m) := by
  have o := append_old g (append_old g
    (mk_owned (List.prefix_refl h) (Nat.zero_le q.len)) (wf_since hq hm)) (wf_upto hq hm)
  exact o.cast (by rw [read_upto m hm, read_since hq]; simp)

/-- `p := make([]T, len(t)); copy(p, t)`: a new slice that reads as `t` -/
theorem mkCopy_owned {h : Heap α} {t : Slice} (ht : WF h t) :
    Owned h (copy (mk h t.len t.len).2 (mk h t.len t.len).1 (read (mk h t.len t.len).2 t))
      (mk h t.len t.len).1 (read h t) := by
  have o := copy_old (mk_owned (List.prefix_refl h) (Nat.le_refl t.len)) ht (p := 0) rfl rfl
    (Nat.le_refl _) (Nat.le_of_eq (Nat.zero_add _))
  exact o.cast (overwrite_full _ _ (by simp [length_read ht]))

theorem cutMem_owned {h : Heap α} {q : Slice} {offset length : Nat} (hq : WF h q)
    (hle : offset + length ≤ q.len) :
    Owned h (cutMem h q offset length).2 (cutMem h q offset length).1
      ((read h q).take offset ++ (read h q).drop (offset + length)) := by
  have hl := length_read hq
  have o := copy_old (copy_old (mk_owned (List.prefix_refl h) (Nat.le_refl (q.len - length)))
      (wf_upto hq (by omega : offset ≤ q.len)) (dst := (mk h _ _).1.upto offset) (p := 0) rfl rfl
      (Nat.le_refl _) (by show 0 + (offset - 0) ≤ q.len - length; omega))
    (wf_since hq hle) (dst := (mk h _ _).1.since offset) (p := offset) rfl rfl
    (by show q.len - (offset + length) ≤ q.len - length - offset; omega)
    (by show offset + (q.len - (offset + length)) ≤ q.len - length; omega)
  refine o.cast ?_
  rw [read_upto offset (by omega), read_since hq, overwrite_zero,
    overwrite_tail _ _ _ (by simp; omega) (by simp; omega)]

theorem subMem_owned {h : Heap α} {q : Slice} {start end_ : Nat} (hq : WF h q) (h1 : start ≤ end_)
    (h2 : end_ ≤ q.len) :
    Owned h (subMem h q start end_).2 (subMem h q start end_).1
      (((read h q).drop start).take (end_ - start)) := by
  have o := mkCopy_owned (wf_slice hq h1 (Nat.le_trans h2 hq.1))
  exact o.cast (by rw [read_slice start end_ h2, List.drop_take])

theorem revMem_owned {h : Heap α} {q : Slice} (hq : WF h q) :
    Owned h (revMem h q).2 (revMem h q).1 (read h q).reverse := by
  have o1 := mkCopy_owned hq
  have o2 := write_owned o1 0 (read h q).reverse (by simp [mk, length_read hq])
  rw [Nat.add_zero, overwrite_full _ _ (by simp)] at o2
  unfold revMem
  simp only []
  rw [o1.rd]
  exact o2

theorem replMem_owned (f : α → α) {h : Heap α} {p : Slice} (hp : WF h p) :
    Owned h (replMem f h p).2 (replMem f h p).1 ((read h p).map f) := by
  unfold replMem
  simp only []
  rw [read_mono (h := (mk h p.len p.len).2) (prefix_snoc (List.prefix_refl h) _) hp]
  exact mkWrite_owned (List.prefix_refl h) _ (by simp [length_read hp])

theorem catFold_owned (g : Grow) {h0 : Heap α} (tail : List Slice) (ht : ∀ q ∈ tail, WF h0 q)
    (st : Slice × Heap α) (xs : List α) (ho : Owned h0 st.2 st.1 xs) :
    Owned h0 (tail.foldl (fun (st : Slice × Heap α) q => append g st.2 st.1 (read st.2 q)) st).2
      (tail.foldl (fun (st : Slice × Heap α) q => append g st.2 st.1 (read st.2 q)) st).1
      (xs ++ (tail.map (read h0)).flatten) := by
  induction tail generalizing st xs with
  | nil => simpa using ho
  | cons q tail ih =>
    simp only [List.foldl_cons, List.map_cons, List.flatten_cons]
    have := ih (fun q' hq' => ht q' (List.mem_cons_of_mem _ hq')) _ _
      (append_old g ho (ht q (List.mem_cons_self ..)))
    rw [List.append_assoc] at this
    exact this

theorem catMem_owned (g : Grow) {h : Heap α} {head : Slice} (tail : List Slice) (hh : WF h head)
    (ht : ∀ q ∈ tail, WF h q) :
    Owned h (catMem g h head tail).2 (catMem g h head tail).1
      (read h head ++ (tail.map (read h)).flatten) := by
  have o := append_old g (nil_owned (List.prefix_refl h)) hh
  rw [List.nil_append] at o
  exact catFold_owned g tail ht _ _ o

end bytes

theorem load_eq_read {h : Heap α} {s : Slice} {i : Nat} (hi : i < s.len) :
    load h s i = (read h s)[i]? := by
  rw [getElem?_read, if_pos hi]; rfl

theorem load_of_getElem {h0 h : Heap α} {s : Slice} (hs : WF h0 s) (hp : h0 <+: h) {i : Nat} {u : α}
    (hu : (read h0 s)[i]? = some u) : load h s i = some u := by
  have hi : i < s.len := by
    rw [← length_read hs]; exact (List.getElem?_eq_some_iff.1 hu).1
  rw [load_eq_read hi, read_mono hp hs, hu]

/-- the next element a `range` loop over `s` loads -/
theorem load_of_read_eq {h0 h : Heap α} {s : Slice} (hs : WF h0 s) (hp : h0 <+: h) {done rest : List α}
    {u : α} (hrd : read h0 s = done ++ u :: rest) : load h s done.length = some u :=
  load_of_getElem hs hp (by rw [hrd]; simp)

section tables
variable {φ : Type} [Inhabited φ]

def insPure (pos : List φ → φ → Nat) (acc : List φ) (f : φ) : List φ :=
  acc.take (pos acc f) ++ f :: acc.drop (pos acc f)

theorem tabInsert_owned (pos : List φ → φ → Nat) (hpos : ∀ l f, pos l f ≤ l.length) {h : Heap φ}
    {ff : Slice} (f : φ) (hff : WF h ff) :
    Owned h (tabInsert pos h ff f).2 (tabInsert pos h ff f).1 (insPure pos (read h ff) f) := by
  have hl := length_read hff
  have hi : pos (read h ff) f ≤ ff.len := hl ▸ hpos _ _
  unfold tabInsert insPure
  simp only []
  generalize pos (read h ff) f = i at hi
  have o1 := copy_old (mk_owned (List.prefix_refl h) (Nat.le_refl (ff.len + 1))) (wf_upto hff hi)
    (p := 0) rfl rfl (by show i - 0 ≤ ff.len + 1; omega) (by show 0 + (i - 0) ≤ ff.len + 1; omega)
  have o3 := copy_old (store_owned o1 i f (by show i < ff.len + 1; omega)) (wf_since hff hi)
    (dst := (mk h _ _).1.since (i + 1)) (p := i + 1) rfl rfl
    (by show ff.len - i ≤ ff.len + 1 - (i + 1); omega) (by show i + 1 + (ff.len - i) ≤ ff.len + 1; omega)
  refine o3.cast ?_
  rw [read_upto i hi, read_since hff, overwrite_zero, overwrite_after _ _ _ (by simp; omega),
    overwrite_tail _ _ _ (by simp; omega) (by simp; omega)]
  simp

theorem tabCopy_owned {h : Heap φ} {src : Slice} (hs : WF h src) :
    Owned h (tabCopy h src).2 (tabCopy h src).1 (read h src) := mkCopy_owned hs

theorem tabFilter_owned (p : φ → Bool) {h : Heap φ} {ff : Slice} :
    Owned h (tabFilter p h ff).2 (tabFilter p h ff).1 ((read h ff).filter p) :=
  mkWrite_owned (List.prefix_refl h) _ rfl

theorem tabMapFresh_owned (T : φ → φ) {h : Heap φ} {src : Slice} (hs : WF h src) :
    Owned h (tabMapFresh T h src).2 (tabMapFresh T h src).1 ((read h src).map T) :=
  replMem_owned T hs

omit [Inhabited φ] in
/-- `for i, f := range ff { ff[i] = T(f) }` on an owned table -/
theorem mapLoop_owned (T : φ → φ) {h0 : Heap φ} {s : Slice} (todo : List φ) :
    ∀ (done : List φ) (h : Heap φ), Owned h0 h s (done ++ todo) →
      Owned h0 (mapLoop T s todo.length done.length h) s (done ++ todo.map T) := by
  induction todo with
  | nil => intro done h ho; simpa [mapLoop] using ho
  | cons x rest ih =>
    intro done h ho
    have hl := length_read ho.wf
    rw [ho.rd] at hl
    have hld := load_of_read_eq ho.wf (List.prefix_refl h) ho.rd
    simp only [List.length_cons, mapLoop, hld]
    have o1 := store_owned ho done.length (T x) (by rw [← hl]; simp)
    have := ih (done ++ [T x]) _ (o1.cast (by rw [overwrite_after _ _ _ rfl]; simp))
    simpa using this

omit [Inhabited φ] in
theorem mapLoop_all (T : φ → φ) {h0 h : Heap φ} {s : Slice} {xs : List φ} (ho : Owned h0 h s xs) :
    Owned h0 (mapLoop T s s.len 0 h) s (xs.map T) := by
  have hl := length_read ho.wf
  rw [ho.rd] at hl
  have := mapLoop_owned T xs [] h (by simpa using ho)
  rw [hl] at this
  simpa using this

/-- the insertion loop with the current `ff.Insert`: every iteration allocates a fresh table -/
theorem insertLoop_spec (pos : List φ → φ → Nat) (hpos : ∀ l f, pos l f ≤ l.length) (T : φ → φ)
    {h0 : Heap φ} {src : Slice} (hsrc : WF h0 src) (todo : List φ) :
    ∀ (done : List φ) (ff : Slice) (h : Heap φ), h0 <+: h → WF h ff → read h0 src = done ++ todo →
      Part h0 (insertLoop (tabInsert pos) T src todo.length done.length ff h)
        ((todo.map T).foldl (insPure pos) (read h ff)) := by
  induction todo with
  | nil => intro done ff h hp hff _; exact ⟨hp, hff, rfl⟩
  | cons x rest ih =>
    intro done ff h hp hff hrd
    simp only [List.length_cons, insertLoop, load_of_read_eq hsrc hp hrd, List.map_cons, List.foldl_cons]
    have o := tabInsert_owned pos hpos (T x) hff
    have := ih (done ++ [x]) _ _ (hp.trans o.pre) o.wf (by simpa using hrd)
    rw [o.rd] at this
    simpa using this

theorem insertLoop_all (pos : List φ → φ → Nat) (hpos : ∀ l f, pos l f ≤ l.length) (T : φ → φ)
    {h0 h : Heap φ} {src ff : Slice} (hsrc : WF h0 src) (hp : h0 <+: h) (hff : WF h ff) :
    Part h0 (insertLoop (tabInsert pos) T src src.len 0 ff h)
      (((read h0 src).map T).foldl (insPure pos) (read h ff)) := by
  have := insertLoop_spec pos hpos T hsrc (read h0 src) [] ff h hp hff rfl
  rwa [length_read hsrc] at this

end tables

/-! ### FRAME, without any hypothesis on the slices involved

Every write of the current operations goes into an array the operation allocated itself (or, for
`append` on the `nil` slice, nowhere); this needs no well-formedness of the arguments. -/

section frame
variable {β : Type} [Inhabited β]

theorem frame_mk {h0 h : Heap β} (hp : h0 <+: h) (n c : Nat) :
    h0 <+: (mk h n c).2 ∧ h0.length ≤ (mk h n c).1.arr :=
  ⟨prefix_snoc hp _, hp.length_le⟩

theorem frame_append (g : Grow) {h0 h : Heap β} {s : Slice} (hp : h0 <+: h)
    (hf : Fresh h0.length s) (xs : List β) :
    h0 <+: (append g h s xs).2 ∧ Fresh h0.length (append g h s xs).1 := by
  unfold Heap.append
  split
  · rename_i hfit
    cases hf with
    | inl ha => exact ⟨prefix_write hp ha _ _, Or.inl ha⟩
    | inr hc =>
      have : xs = [] := by
        cases xs with
        | nil => rfl
        | cons x xs => simp at hfit; omega
      subst this
      rw [write_nil]
      exact ⟨hp, Or.inr hc⟩
  · exact ⟨prefix_snoc hp _, Or.inl hp.length_le⟩

omit [Inhabited β] in
theorem frame_copy {h0 h : Heap β} (hp : h0 <+: h) {dst : Slice} (ha : h0.length ≤ dst.arr)
    (xs : List β) : h0 <+: copy h dst xs := prefix_write hp ha _ _

omit [Inhabited β] in
theorem frame_store {h0 h : Heap β} (hp : h0 <+: h) {s : Slice} (ha : h0.length ≤ s.arr) (i : Nat)
    (x : β) : h0 <+: store h s i x := prefix_write hp ha _ _

theorem spliceMem_frame (g : Grow) {h0 h : Heap β} (hp : h0 <+: h) (p : Slice) (pos : Nat) (q : Slice) :
    h0 <+: (spliceMem g h p pos q).2 := by
  have m := frame_mk hp 0 (p.len + q.len)
  have a1 := frame_append g m.1 (Or.inl m.2)
  have a2 := fun xs => frame_append g (a1 xs).1 (a1 xs).2
  exact (frame_append g (a2 _ _).1 (a2 _ _).2 _).1

theorem cutMem_frame {h0 h : Heap β} (hp : h0 <+: h) (q : Slice) (offset length : Nat) :
    h0 <+: (cutMem h q offset length).2 := by
  have m := frame_mk hp (q.len - length) (q.len - length)
  exact prefix_write (prefix_write m.1 m.2 _ _) m.2 _ _

theorem rotMem_frame (g : Grow) {h0 h : Heap β} (hp : h0 <+: h) (q : Slice) (m : Nat) :
    h0 <+: (rotMem g h q m).2 := by
  have m0 := frame_mk hp 0 q.len
  have a1 := frame_append g m0.1 (Or.inl m0.2)
  exact (frame_append g (a1 _).1 (a1 _).2 _).1

theorem subMem_frame {h0 h : Heap β} (hp : h0 <+: h) (q : Slice) (start end_ : Nat) :
    h0 <+: (subMem h q start end_).2 := by
  have m := frame_mk hp (end_ - start) (end_ - start)
  exact frame_copy m.1 m.2 _

theorem revMem_frame {h0 h : Heap β} (hp : h0 <+: h) (q : Slice) : h0 <+: (revMem h q).2 := by
  have m := frame_mk hp q.len q.len
  exact prefix_write (frame_copy m.1 m.2 _) m.2 _ _

theorem replMem_frame (f : β → β) {h0 h : Heap β} (hp : h0 <+: h) (p : Slice) :
    h0 <+: (replMem f h p).2 := by
  have m := frame_mk hp p.len p.len
  exact prefix_write m.1 m.2 _ _

theorem catFold_frame (g : Grow) {h0 : Heap β} (tail : List Slice) (st : Slice × Heap β)
    (hp : h0 <+: st.2) (hf : Fresh h0.length st.1) :
    h0 <+: (tail.foldl (fun (st : Slice × Heap β) q => append g st.2 st.1 (read st.2 q)) st).2 := by
  induction tail generalizing st with
  | nil => exact hp
  | cons q tail ih =>
    have a := frame_append g hp hf (read st.2 q)
    exact ih _ a.1 a.2

theorem catMem_frame (g : Grow) {h0 h : Heap β} (hp : h0 <+: h) (head : Slice) (tail : List Slice) :
    h0 <+: (catMem g h head tail).2 := by
  have a := frame_append g hp (Or.inr rfl : Fresh h0.length Slice.nil) (read h head)
  exact catFold_frame g tail _ a.1 a.2

theorem tabInsert_frame (pos : List β → β → Nat) {h0 h : Heap β} (hp : h0 <+: h) (ff : Slice) (f : β) :
    h0 <+: (tabInsert pos h ff f).2 ∧ h0.length ≤ (tabInsert pos h ff f).1.arr := by
  have m := frame_mk hp (ff.len + 1) (ff.len + 1)
  exact ⟨prefix_write (prefix_write (prefix_write m.1 m.2 _ _) m.2 _ _) m.2 _ _, m.2⟩

theorem tabCopy_frame {h0 h : Heap β} (hp : h0 <+: h) (src : Slice) :
    h0 <+: (tabCopy h src).2 ∧ h0.length ≤ (tabCopy h src).1.arr := by
  have m := frame_mk hp src.len src.len
  exact ⟨frame_copy m.1 m.2 _, m.2⟩

theorem tabFilter_frame (p : β → Bool) {h0 h : Heap β} (hp : h0 <+: h) (ff : Slice) :
    h0 <+: (tabFilter p h ff).2 ∧ h0.length ≤ (tabFilter p h ff).1.arr := by
  have m := frame_mk hp ((read h ff).filter p).length ((read h ff).filter p).length
  exact ⟨prefix_write m.1 m.2 _ _, m.2⟩

theorem tabMapFresh_frame (T : β → β) {h0 h : Heap β} (hp : h0 <+: h) (src : Slice) :
    h0 <+: (tabMapFresh T h src).2 := replMem_frame T hp src

omit [Inhabited β] in
theorem mapLoop_frame (T : β → β) {h0 : Heap β} {s : Slice} (ha : h0.length ≤ s.arr) (n : Nat) :
    ∀ (i : Nat) (h : Heap β), h0 <+: h → h0 <+: mapLoop T s n i h := by
  induction n with
  | zero => intro i h hp; exact hp
  | succ n ih =>
    intro i h hp
    unfold mapLoop
    split
    · exact ih _ _ (frame_store hp ha _ _)
    · exact hp

theorem insertLoop_frame (pos : List β → β → Nat) (T : β → β) {h0 : Heap β} (src : Slice) (n : Nat) :
    ∀ (i : Nat) (ff : Slice) (h : Heap β), h0 <+: h →
      h0 <+: (insertLoop (tabInsert pos) T src n i ff h).2 := by
  induction n with
  | zero => intro i ff h hp; exact hp
  | succ n ih =>
    intro i ff h hp
    unfold insertLoop
    split
    · exact ih _ _ _ (tabInsert_frame pos hp ff _).1
    · exact hp

end frame

theorem insertPos_le (ff : Table) (f : Feature) : insertPos ff f ≤ ff.length := by
  unfold insertPos
  simp only []
  have h1 := Table.sourceCount_le ff
  split
  · exact Nat.le_trans (Nat.add_le_add_left (sortSearch_general _ _).1 _) (by omega)
  · exact h1

theorem insPure_insertPos : insPure insertPos = Table.insert := by
  funext ff f
  rfl

theorem rotAmount_nonneg (L n : Int) (hL : 0 < L) : 0 ≤ rotAmount L n := by
  rw [rotAmount, Seq.rotAmount_emod n L hL]
  exact Int.emod_nonneg _ (Int.ne_of_gt hL)

structure Spec (w : World Feature) (r : MSeq × World Feature) (v : Seq) : Prop where
  frame : Frame w r.2
  wf : WFSeq r.2 r.1
  rd : readSeq r.2 r.1 = v

theorem Spec.cast {w : World Feature} {r : MSeq × World Feature} {v v' : Seq} (s : Spec w r v)
    (e : v = v') : Spec w r v' := e ▸ s

theorem Spec.ofParts {w : World Feature} {t : Slice × Heap Feature} {b : Slice × Heap UInt8}
    {vt : List Feature} {vb : List UInt8} (pt : Part w.T t vt) (pb : Part w.B b vb) :
    Spec w (⟨t.1, b.1⟩, ⟨b.2, t.2⟩) ⟨vt, vb⟩ :=
  ⟨⟨pb.pre, pt.pre⟩, ⟨pt.wf, pb.wf⟩, by simp [readSeq, World.readTab, World.readDat, pt.rd, pb.rd]⟩

theorem Frame.refl {φ : Type} (w : World φ) : Frame w w := ⟨List.prefix_refl _, List.prefix_refl _⟩

theorem Frame.trans {φ : Type} {a b c : World φ} (h1 : Frame a b) (h2 : Frame b c) : Frame a c :=
  ⟨h1.1.trans h2.1, h1.2.trans h2.2⟩

theorem WFSeq.mono {φ : Type} {w w' : World φ} (hf : Frame w w') {s : MSeq} (hs : WFSeq w s) :
    WFSeq w' s := ⟨wf_mono hf.2 hs.1, wf_mono hf.1 hs.2⟩

theorem readSeq_mono {w w' : World Feature} (hf : Frame w w') {s : MSeq} (hs : WFSeq w s) :
    readSeq w' s = readSeq w s := by
  simp [readSeq, World.readTab, World.readDat, read_mono hf.2 hs.1, read_mono hf.1 hs.2]

theorem len_readSeq {w : World Feature} {s : MSeq} (hs : WFSeq w s) : (readSeq w s).len = s.len := by
  simp [Seq.len, readSeq, World.readDat, MSeq.len, length_read hs.2]

theorem closed_write {n : Nat} {h : Heap MLoc} (hc : Closed n h) (a pos : Nat) {xs : List MLoc}
    (hx : ∀ c ∈ xs, RefsAbove n c) : Closed n (write h a pos xs) := fun b hb x hxm =>
  (mem_get_write hxm).elim (hc b hb x) (hx x)

theorem closed_store {n : Nat} {h : Heap MLoc} (hc : Closed n h) (s : Slice) (i : Nat) {c : MLoc}
    (hcr : RefsAbove n c) : Closed n (store h s i c) :=
  closed_write hc _ _ fun _ hx => List.mem_singleton.1 hx ▸ hcr

theorem mem_of_load {α : Type} {h : Heap α} {s : Slice} {i : Nat} {u : α} (hl : load h s i = some u) :
    u ∈ h.get s.arr := List.mem_of_getElem? hl

theorem acLoop_closed {h0 : Heap MLoc} (rec : Heap MLoc → MLoc → MLoc × Heap MLoc)
    (hrec : ∀ h m, h0 <+: h → Closed h0.length h → RefsAbove h0.length m →
      h0 <+: (rec h m).2 ∧ Closed h0.length (rec h m).2 ∧ RefsAbove h0.length (rec h m).1)
    (s : Slice) (hs : h0.length ≤ s.arr) (k : Nat) :
    ∀ (i : Nat) (h : Heap MLoc), h0 <+: h → Closed h0.length h →
      h0 <+: acLoop rec s k i h ∧ Closed h0.length (acLoop rec s k i h) := by
  induction k with
  | zero => intro i h hp hc; exact ⟨hp, hc⟩
  | succ k ih =>
    intro i h hp hc
    unfold acLoop
    split
    · rename_i u hu
      have hr := hrec h u hp hc (hc _ hs u (mem_of_load hu))
      exact ih _ _ (prefix_write hr.1 hs _ _) (closed_store hr.2.1 s i hr.2.2)
    · exact ⟨hp, hc⟩

/-- `asComplete` only writes through slices it can reach: in a heap whose arrays `≥ |h0|` refer
only to arrays `≥ |h0|`, called on a location that refers only to such arrays, it leaves `h0`
alone — whatever the nesting and the aliasing inside the new region -/
theorem asCompleteMem_closed {h0 : Heap MLoc} (fuel : Nat) :
    ∀ (h : Heap MLoc) (m : MLoc), h0 <+: h → Closed h0.length h → RefsAbove h0.length m →
      h0 <+: (asCompleteMem fuel h m).2 ∧ Closed h0.length (asCompleteMem fuel h m).2 ∧
      RefsAbove h0.length (asCompleteMem fuel h m).1 := by
  induction fuel with
  | zero => intro h m hp hc hm; exact ⟨hp, hc, hm⟩
  | succ fuel ih =>
    intro h m hp hc hm
    cases m with
    | leaf l => exact ⟨hp, hc, trivial⟩
    | joined s | ordered s =>
      have := acLoop_closed (asCompleteMem fuel) ih s hm s.len 0 h hp hc
      exact ⟨this.1, this.2, hm⟩
    | compl m =>
      have := ih h m hp hc hm
      exact ⟨this.1, this.2.1, this.2.2⟩

theorem closed_snoc {n : Nat} {h : Heap MLoc} (hc : Closed n h) {cells : List MLoc}
    (hcells : ∀ c ∈ cells, RefsAbove n c) : Closed n (h ++ [cells]) := by
  intro a ha x hx
  by_cases h1 : a < h.length
  · rw [get_append_left h1] at hx; exact hc a ha x hx
  · by_cases h2 : a = h.length
    · subst h2; rw [get_append_length] at hx; exact hcells x hx
    · rw [get_of_le (by simp; omega)] at hx; cases hx

mutual
theorem allocLoc_closed : ∀ (l : Loc) (h : Heap MLoc) (n : Nat), n ≤ h.length → Closed n h →
    h <+: (allocLoc l h).2 ∧ Closed n (allocLoc l h).2 ∧ RefsAbove n (allocLoc l h).1
  | .between _, h, n, _, hc | .point _, h, n, _, hc | .ranged .., h, n, _, hc
  | .ambiguous .., h, n, _, hc => ⟨List.prefix_refl _, hc, trivial⟩
  | .joined ls, h, n, hn, hc | .ordered ls, h, n, hn, hc => by
    have ih := allocList_closed ls h n hn hc
    unfold allocLoc
    exact ⟨prefix_snoc ih.1 _, closed_snoc ih.2.1 ih.2.2, Nat.le_trans hn ih.1.length_le⟩
  | .compl l, h, n, hn, hc => by
    unfold allocLoc
    exact allocLoc_closed l h n hn hc
theorem allocList_closed : ∀ (ls : List Loc) (h : Heap MLoc) (n : Nat), n ≤ h.length → Closed n h →
    h <+: (allocList ls h).2 ∧ Closed n (allocList ls h).2 ∧ ∀ c ∈ (allocList ls h).1, RefsAbove n c
  | [], h, n, _, hc => ⟨List.prefix_refl _, hc, fun _ hx => by cases hx⟩
  | l :: ls, h, n, hn, hc => by
    have i1 := allocLoc_closed l h n hn hc
    have i2 := allocList_closed ls (allocLoc l h).2 n (Nat.le_trans hn i1.1.length_le) i1.2.1
    unfold allocList
    -- the head was built in the smaller heap; `RefsAbove` does not depend on the heap
    exact ⟨i1.1.trans i2.1, i2.2.1, List.forall_mem_cons.2 ⟨i1.2.2, i2.2.2⟩⟩
end

theorem closed_self (h : Heap MLoc) : Closed h.length h := by
  intro a ha x hx
  rw [get_of_le ha] at hx
  cases hx

/-- the outer array of `p` was allocated after mark `nP`, and every row header in it points at an
array allocated after mark `nR` (or owns no cell) -/
def FreshProps (nR nP : Nat) (w : PWorld) (p : Slice) : Prop :=
  nP ≤ p.arr ∧ ∀ row ∈ w.P.get p.arr, Fresh nR row

theorem propsSet_frame (g : Grow) {R0 : Heap String} {P0 : Heap Slice} {w : PWorld} {p : Slice}
    (hR : R0 <+: w.R) (hP : P0 <+: w.P) (hf : FreshProps R0.length P0.length w p) (key : String)
    (values : List String) :
    R0 <+: (propsSet g w p key values).2.R ∧ P0 <+: (propsSet g w p key values).2.P := by
  have hR1 := fun pos xs => prefix_write (prefix_snoc hR (List.replicate (values.length + 1) default))
    hR.length_le pos xs
  unfold propsSet
  split
  · exact ⟨hR1 _ _, (frame_append g hP (Or.inl hf.1) _).1⟩
  · exact ⟨hR1 _ _, prefix_write hP hf.1 _ _⟩

theorem propsAdd_frame (g : Grow) {R0 : Heap String} {P0 : Heap Slice} {w : PWorld} {p : Slice}
    (hR : R0 <+: w.R) (hP : P0 <+: w.P) (hf : FreshProps R0.length P0.length w p) (key : String)
    (values : List String) :
    R0 <+: (propsAdd g w p key values).2.R ∧ P0 <+: (propsAdd g w p key values).2.P := by
  unfold propsAdd
  split
  · exact propsSet_frame g hR hP hf key values
  · split
    · rename_i row hrow
      exact ⟨(frame_append g hR (hf.2 row (mem_of_load hrow)) _).1, prefix_write hP hf.1 _ _⟩
    · exact ⟨hR, hP⟩

theorem propsDel_frame (g : Grow) {R0 : Heap String} {P0 : Heap Slice} {w : PWorld} {p : Slice}
    (hR : R0 <+: w.R) (hP : P0 <+: w.P) (hf : FreshProps R0.length P0.length w p) (key : String) :
    R0 <+: (propsDel g w p key).2.R ∧ P0 <+: (propsDel g w p key).2.P := by
  unfold propsDel
  split
  · exact ⟨hR, hP⟩
  · rename_i i _
    exact ⟨hR, (frame_append g hP (Or.inl hf.1 : Fresh P0.length (p.upto i)) _).1⟩

theorem cloneRows_fresh {R0 : Heap String} {P0 : Heap Slice} (ret : Slice) (hret : P0.length ≤ ret.arr)
    (rows : List Slice) :
    ∀ (i : Nat) (w : PWorld), R0 <+: w.R → P0 <+: w.P → (∀ row ∈ w.P.get ret.arr, Fresh R0.length row) →
      R0 <+: (cloneRows w ret rows i).R ∧ P0 <+: (cloneRows w ret rows i).P ∧
      ∀ row ∈ (cloneRows w ret rows i).P.get ret.arr, Fresh R0.length row := by
  induction rows with
  | nil => intro i w hR hP hc; exact ⟨hR, hP, hc⟩
  | cons row rows ih =>
    intro i w hR hP hc
    unfold cloneRows
    refine ih _ _ (frame_copy (prefix_snoc hR _) (dst := (mk w.R row.len row.len).1) hR.length_le _)
      (prefix_write hP hret _ _) ?_
    intro x hx
    rcases mem_get_write hx with h1 | h1
    · exact hc x h1
    · rw [List.mem_singleton.1 h1]; exact Or.inl hR.length_le

theorem propsClone_fresh (w : PWorld) (p : Slice) :
    w.R <+: (propsClone w p).2.R ∧ w.P <+: (propsClone w p).2.P ∧
    FreshProps w.R.length w.P.length (propsClone w p).2 (propsClone w p).1 := by
  have := cloneRows_fresh (R0 := w.R) (P0 := w.P) (mk w.P p.len p.len).1 (Nat.le_refl _) (read w.P p) 0
    ⟨w.R, (mk w.P p.len p.len).2⟩ (List.prefix_refl _) (prefix_snoc (List.prefix_refl _) _)
    (by
      intro row hrow
      have : (mk w.P p.len p.len).2.get (mk w.P p.len p.len).1.arr = List.replicate p.len default :=
        get_append_length _ _
      rw [this] at hrow
      rw [List.eq_of_mem_replicate hrow]
      exact Or.inr rfl)
  exact ⟨this.1, this.2.1, Nat.le_refl _, this.2.2⟩

end Gts.Mem
