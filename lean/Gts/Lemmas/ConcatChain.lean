/-
  slice*;concat on the feature table: the windows between the cuts `0 :: cuts ++ [L]`, the pieces `Seq.slice` makes of
  them, and `Concat` folded over a chain of pieces (each piece re-located by its window start, up to a permutation of
  the table).  Imports neither the `Marks` nor the `LessOrder` modules, so that C10 (Lemmas/ConcatPieces.lean) and C12
  (Lemmas/RepairRoundTrip.lean) both rest on it.  Core Lean only.
-/
import Gts.Lemmas.Cuts
import Gts.Lemmas.Table
namespace Gts
open Loc

/-- the location transformation applied by `gts.Slice(seq, a, b)` (forward case) -/
def Loc.sliceLoc (l : Loc) (a b L : Int) : Loc := (l.expand b (b - L)).expand 0 (-a)

namespace Seq

/-- the windows between consecutive cut points of `0 :: cuts ++ [L]` -/
def windowsFrom (a : Int) (pts : List Int) : List (Int × Int) := (a :: pts).zip pts

def windows (L : Int) (cuts : List Int) : List (Int × Int) := windowsFrom 0 (cuts ++ [L])

/-- the pieces `gts.Slice(seq, c_j, c_{j+1})` of a record cut at `cuts` -/
def pieces (s : Seq) (cuts : List Int) : List Seq := (windows s.len cuts).map fun w => s.slice w.1 w.2

/-- the cut points are sorted (repeats, a cut at 0 and a cut at the length allowed) -/
def CutsOk (L : Int) (cuts : List Int) : Prop := (0 :: cuts ++ [L]).Pairwise (· ≤ ·)

/-- the location `gts.Slice` gives a surviving feature on the forward window `[a, b)`:
`sliceLoc`, and `asComplete` of it when the key is `source` -/
def pieceLoc (f : Feature) (a b L : Int) : Loc :=
  if f.key = "source" then (sliceLoc f.loc a b L).asComplete else sliceLoc f.loc a b L

/-- the features of the piece `[a, b)` as `Seq.slice` produces them -/
def pieceFeats (s : Seq) (w : Int × Int) : List Feature :=
  (s.feats.filter fun f => f.loc.overlap w.1 w.2).map fun f => { f with loc := pieceLoc f w.1 w.2 s.len }

/-- … re-located by `Concat` with offset `w.1` -/
def pieceFeatsBack (s : Seq) (w : Int × Int) : List Feature :=
  (pieceFeats s w).map fun f => { f with loc := f.loc.expand 0 w.1 }

theorem sliceFwd_feats (s : Seq) (a b : Int) : (s.sliceFwd a b).feats = pieceFeats s (a, b) := by
  simp only [Seq.sliceFwd, pieceFeats, pieceLoc]
  apply List.map_congr_left
  intro f _
  split <;> rfl

theorem sliceFwd_len (s : Seq) (a b : Int) (h0 : 0 ≤ a) (hab : a ≤ b) (hb : b ≤ s.len) :
    (s.sliceFwd a b).len = b - a := by
  simp only [Seq.sliceFwd, Seq.len, List.length_take, List.length_drop] at hb ⊢
  omega

/-- the windows are those of the cut list `0, cuts…, L` (`Cli.windows`, Gts/Lemmas/Cuts.lean): each lies
inside `[0, L]` and is forward -/
theorem mem_windows {L : Int} {cuts : List Int} (h : CutsOk L cuts) :
    ∀ w ∈ windows L cuts, 0 ≤ w.1 ∧ w.1 ≤ w.2 ∧ w.2 ≤ L :=
  Cli.window_mem 0 (cuts ++ [L]) L h (Cli.getLast?_cuts cuts L)

/-- folding `concat2` over the pieces of a chain of windows that starts where the accumulator ends:
each piece is offset by its own window start -/
theorem foldl_concat2_chain (s : Seq) : ∀ (pts : List Int) (a : Int) (acc : Seq), 0 ≤ a →
    (a :: pts).Pairwise (· ≤ ·) → (a :: pts).getLast? = some s.len → acc.len = a →
    (((windowsFrom a pts).map fun w => s.slice w.1 w.2).foldl Seq.concat2 acc).feats.Perm
      (acc.feats ++ (windowsFrom a pts).flatMap (pieceFeatsBack s))
  | [], a, acc, _, _, _, _ => by simp [windowsFrom]
  | b :: pts, a, acc, h0, hs, hl, hacc => by
      obtain ⟨_, hab, hbL⟩ := Cli.window_mem a (b :: pts) s.len hs hl (a, b) (List.mem_cons_self ..)
      simp only [windowsFrom, List.zip_cons_cons, List.map_cons, List.foldl_cons, List.flatMap_cons]
      rw [slice_fwd_eq s a b h0 hab]
      have ih := foldl_concat2_chain s pts b (Seq.concat2 acc (s.sliceFwd a b)) (by omega)
        (List.Pairwise.of_cons hs) (by simpa using hl)
        (by rw [concat2_len, sliceFwd_len s a b h0 hab hbL]; omega)
      refine ih.trans ?_
      rw [← List.append_assoc]
      apply List.Perm.append_right
      refine (concat2_feats_perm acc _).trans ?_
      rw [sliceFwd_feats, hacc]
      exact List.Perm.refl _

/-- the table of `Concat` over the pieces: the first piece as `Slice` left it, every later piece offset
by its window start (= the running length) -/
theorem concat_pieces_feats_perm (s : Seq) (cuts : List Int) (h : CutsOk s.len cuts) :
    ∃ w0 ws, windows s.len cuts = w0 :: ws ∧ w0.1 = 0 ∧
      (Seq.concat (pieces s cuts)).feats.Perm (pieceFeats s w0 ++ ws.flatMap (pieceFeatsBack s)) := by
  obtain ⟨c, pts, hc⟩ : ∃ c pts, cuts ++ [s.len] = c :: pts := by
    cases cuts with
    | nil => exact ⟨_, _, rfl⟩
    | cons c cs => exact ⟨_, _, rfl⟩
  have hl : (c :: pts).getLast? = some s.len := by rw [← hc, List.getLast?_append]; rfl
  have hs : (0 :: c :: pts).Pairwise (· ≤ ·) := by
    have := h; unfold CutsOk at this; rwa [List.cons_append, hc] at this
  obtain ⟨_, h0c, hcL⟩ := mem_windows h (0, c) (by simp [windows, hc, windowsFrom])
  refine ⟨(0, c), windowsFrom c pts, ?_, rfl, ?_⟩
  · simp only [windows, hc, windowsFrom, List.zip_cons_cons]
  · have hp : pieces s cuts = s.sliceFwd 0 c :: (windowsFrom c pts).map fun w => s.slice w.1 w.2 := by
      simp only [pieces, windows, hc, windowsFrom, List.zip_cons_cons, List.map_cons,
        slice_fwd_eq s 0 c (Int.le_refl _) h0c]
    rw [hp, ← sliceFwd_feats]
    exact foldl_concat2_chain s pts c (s.sliceFwd 0 c) h0c (List.Pairwise.of_cons hs) hl
      (by rw [sliceFwd_len s 0 c (Int.le_refl _) h0c hcL]; omega)

end Seq

end Gts
