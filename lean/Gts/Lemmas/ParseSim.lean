/-
  Simulation of the flagged parser (C06, audit S7 item 1(b)): for EVERY guard `g`, `LocParseG.loc g`
  (Gts/Spec/ParseGuard.lean) and the model's `LocParse.loc` agree on success / failure / panic, on the
  location, and on the final state (rest and backtracking stack): the flag is ghost information.
  `Sim r p q`: `p` is `q` with its result mapped through `r`; it is `Pars.Rel` (Gts/Lemmas/ParsRel.lean) at the graph of
  `r` (`Rel.sim`), and the simulation is the walk `LocParseG.rel_all` read at `Prod.fst`.  Core Lean only.
-/
import Gts.Lemmas.ParsRel
namespace Gts.Pars
open Gts

def mapRes {α β} (r : β → α) (x : Except Err β × PS) : Except Err α × PS :=
  match x with
  | (.ok b, s) => (.ok (r b), s)
  | (.error e, s) => (.error e, s)

/-- `p` behaves as `q` with the result mapped through `r` (same errors, same final state) -/
def Sim {α β} (r : β → α) (p : P α) (q : P β) : Prop := ∀ st, p st = mapRes r (q st)

theorem Sim.rejects {α β} {r : β → α} {p : P α} {q : P β} (h : Sim r p q) {w : Bytes} (hp : Rejects p w) :
    Rejects q w := fun stk => by
  have := h ⟨w, stk⟩
  rw [hp stk] at this
  rcases hq : q ⟨w, stk⟩ with ⟨(e' | b), s⟩ <;> rw [hq] at this <;> cases this
  rfl

theorem Rel.sim {α β} {r : β → α} {p : P α} {q : P β} (h : Rel (fun _ => True) (fun a b => a = r b) p q) : Sim r p q :=
  fun st => by
    have h' := h st (.top st)
    generalize p st = x, q st = y at h' ⊢
    cases h' with
    | ok _ hr => rw [hr]; rfl
    | err _ => rfl

end Gts.Pars

namespace Gts
open Pars

namespace LocParseG

theorem sim_leaf (p : P Loc) : Sim Prod.fst p (leaf p) := by
  intro st
  unfold leaf
  rw [P.bind_run]
  rcases p st with ⟨(e | a), s⟩ <;> rfl

theorem sim_all (g : List Loc → Bool) : ∀ f : Nat,
    Sim Prod.fst (LocParse.loc f) (loc g f) ∧ Sim Prod.fst (LocParse.multiple f) (multiple g f) ∧
    Sim Prod.fst (LocParse.joinOf f) (joinOf g f) ∧ Sim Prod.fst (LocParse.orderOf f) (orderOf g f) ∧
    Sim Prod.fst (LocParse.complementOf f) (complementOf g f) :=
  fun f => by
    obtain ⟨hl, hm, hj, ho, hc⟩ := rel_all (G := fun _ => True) (g := g) (R := fun l v => l = v.1)
      (RM := fun ls w => ls = w.1)
      ⟨fun _ _ => rfl, fun _ _ h => by rw [h], fun _ _ _ _ h1 h2 => by rw [h1, h2], fun _ _ h => by rw [h],
        fun _ _ h => by rw [h], fun _ _ h => by rw [h], fun _ _ h => by rw [h]⟩ Rel.int_inv f
    exact ⟨hl.sim, hm.sim, hj.sim, ho.sim, hc.sim⟩

theorem loc_sim (g : List Loc → Bool) (f : Nat) (st : PS) :
    LocParse.loc f st = mapRes Prod.fst (loc g f st) := (sim_all g f).1 st

end LocParseG

theorem parseLocation_eq_G (g : List Loc → Bool) (s : Bytes) :
    parseLocation s = (parseLocationG g s).map (fun x => (x.1, x.2.2)) := by
  unfold parseLocation parseLocationG
  simp only [P.run', ExceptT.run, StateT.run]
  rw [LocParseG.loc_sim g]
  rcases LocParseG.loc g (s.length + 2) ⟨s, []⟩ with ⟨(e | v), st⟩ <;> rfl

theorem parseLocationG_of_parseLocation (g : List Loc → Bool) (s : Bytes) (l : Loc) (r : Bytes)
    (h : parseLocation s = .ok (l, r)) : ∃ b, parseLocationG g s = .ok (l, b, r) := by
  rw [parseLocation_eq_G g] at h
  rcases hq : parseLocationG g s with e | ⟨l', b, r'⟩
  · rw [hq] at h; cases h
  · rw [hq] at h
    injection h with h
    injection h with h1 h2
    exact ⟨b, by rw [← h1, ← h2]⟩

end Gts
