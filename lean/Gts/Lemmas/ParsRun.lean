/-
  Run equations of the `Gts.Pars` primitives on inputs of a known shape (C01): literals, printed
  integers, words, blanks (`sp n`), lines, line ends.  `p ⟨input, stk⟩ = (result, ⟨rest, stk'⟩)`.
-/
import Gts.Lemmas.ModText
import Gts.Lemmas.Eol
import Gts.Model.GenBankParse
namespace Gts.GenBank
open Gts.Pars

open Lean.Parser.Tactic in
/-- `simp` with the run equations of the monad and of the stack primitives -/
macro "gsimp" "[" ts:simpLemma,* "]" : tactic =>
  `(tactic| simp [P.bind_run, P.map_run, P.pure_run, attempt_run, push, pop, Pars.drop, Pars.fail, pushed,
      Pars.clear, getS, setS, advance1, advanceN, $ts,*])

theorem noEOL_sp (n : Nat) : noEOL (sp n) = true := by
  simp [noEOL, sp, List.all_replicate]

theorem take_beq_self (p r : Bytes) : ((p ++ r).take p.length == p) = true := by
  simp

theorem lit_ok (p r : Bytes) (stk : List Bytes) : lit p ⟨p ++ r, stk⟩ = (.ok (), ⟨r, stk⟩) := by
  simp [lit, P.bind_run, getS, advanceN, setS]

theorem lit_byte (c : UInt8) (X : Bytes) (stk : List Bytes) : lit [c] ⟨c :: X, stk⟩ = (.ok (), ⟨X, stk⟩) :=
  lit_ok [c] X stk

theorem isPrefixOf_eq_take (p inp : Bytes) :
    p.isPrefixOf inp = (inp.take p.length == p && decide (p.length ≤ inp.length)) := by
  rw [Bool.eq_iff_iff, List.isPrefixOf_iff_prefix, List.prefix_iff_eq_take, Bool.and_eq_true, beq_iff_eq,
    decide_eq_true_eq]
  refine ⟨fun h => ⟨h.symm, ?_⟩, fun h => h.1.symm⟩
  -- a `take` of full length does not run out of input
  have := congrArg List.length h
  rw [List.length_take] at this
  omega

theorem lit_fail (p inp : Bytes) (stk : List Bytes) (h : p.isPrefixOf inp = false) :
    lit p ⟨inp, stk⟩ = (.error .fail, ⟨inp, stk⟩) := by
  rw [isPrefixOf_eq_take] at h
  simp only [lit, P.bind_run, getS]
  rw [if_neg (by rw [h]; simp)]; rfl

theorem dropWhile_stop (f : UInt8 → Bool) (r : Bytes) (h : ∀ c, r.head? = some c → f c = false) :
    r.dropWhile f = r := by
  cases r with
  | nil => rfl
  | cons c r => simp [List.dropWhile, h c rfl]

theorem int_itoaB (z : Int) (r : Bytes) (stk : List Bytes) (h0 : 0 ≤ z) (hf : z ≤ 9223372036854775807)
    (hr : ∀ c, r.head? = some c → isDigit c = false) : int ⟨itoaB z ++ r, stk⟩ = (.ok z, ⟨r, stk⟩) := by
  obtain ⟨n, rfl⟩ : ∃ n : Nat, z = (n : Int) := ⟨z.toNat, by omega⟩
  have hz : itoaB (n : Int) = natDigits n := by simp [itoaB]
  rw [hz]
  exact int_natDigits n r stk (dropWhile_stop _ r hr) (by omega)

theorem word_ok (f : UInt8 → Bool) (w r : Bytes) (stk : List Bytes) (hw : w.all f = true) (hne : w ≠ [])
    (hr : ∀ c, r.head? = some c → f c = false) :
    word f ⟨w ++ r, stk⟩ = (.ok w, ⟨r, stk⟩) := by
  have hdw : (w ++ r).dropWhile f = r := by
    rw [dropWhile_append_all f w r hw, dropWhile_stop f r hr]
  have he : w.isEmpty = false := by cases w <;> simp_all
  simp only [word, P.bind_run, push, getS, setS, skipWhile, hdw, trail_spec]
  rw [if_neg (by simp [he])]; rfl

theorem word_fail (f : UInt8 → Bool) (r : Bytes) (stk : List Bytes)
    (hr : ∀ c, r.head? = some c → f c = false) :
    word f ⟨r, stk⟩ = (.error .fail, ⟨r, stk⟩) := by
  have hdw : r.dropWhile f = r := dropWhile_stop f r hr
  have := trail_spec [] r stk
  simp only [List.nil_append] at this
  simp [word, P.bind_run, push, getS, setS, skipWhile, hdw, this, Pars.fail]

theorem spaces_ok (w r : Bytes) (stk : List Bytes) (hw : w.all isSpace = true)
    (hr : ∀ c, r.head? = some c → isSpace c = false) :
    spaces ⟨w ++ r, stk⟩ = (.ok w, ⟨r, stk⟩) := by
  have hdw : (w ++ r).dropWhile isSpace = r := by
    rw [dropWhile_append_all isSpace w r hw, dropWhile_stop isSpace r hr]
  simp [spaces, P.bind_run, push, getS, setS, skipWhile, hdw, trail_spec]

theorem line_okE (e : Eol) (l r : Bytes) (stk : List Bytes) (h : noEOL l = true) :
    line ⟨l ++ (e.bytes ++ r), stk⟩ = (.ok l, ⟨r, stk⟩) := by
  have hlt : ¬ (e.bytes.length + r.length < e.bytes.length) := by omega
  simp [line, P.bind_run, P.map_run, getS, setS, calcLine_eol e l r 0 0 h, hlt]

theorem line_ok (l r : Bytes) (stk : List Bytes) (h : noEOL l = true) :
    line ⟨l ++ 10 :: r, stk⟩ = (.ok l, ⟨r, stk⟩) := line_okE .lf l r stk h

theorem eol_okE (e : Eol) (r : Bytes) (stk : List Bytes) : eol ⟨e.bytes ++ r, stk⟩ = (.ok e.bytes, ⟨r, stk⟩) := by
  cases e <;> simp [eol, Eol.bytes, P.bind_run, P.map_run, getS, advance1, advanceN, setS]

export Gts.Pars.Run (next_cons next_nil)

theorem attempt_next (rest : Bytes) (stk : List Bytes) :
    attempt next ⟨rest, stk⟩ = (.ok rest.head?, ⟨rest, stk⟩) := by
  cases rest with
  | nil => gsimp [next_nil]
  | cons c r => gsimp [next_cons]

theorem sp_length (n : Nat) : (sp n).length = n := by simp [sp]

theorem sp_succ (n : Nat) : sp (n + 1) = 32 :: sp n := by simp [sp, List.replicate_succ]

theorem sp_all_space (n : Nat) : (sp n).all isSpace = true := by
  simp [sp, List.all_replicate]; right; decide

theorem sp_prefix_cons (n : Nat) (c : UInt8) (r : Bytes) (hc : c ≠ 32) (hn : 0 < n) :
    (sp n).isPrefixOf (c :: r) = false := by
  cases n with
  | zero => omega
  | succ n =>
    rw [sp_succ]
    have : ((32 : UInt8) == c) = false := by simpa using fun h => hc h.symm
    simp [List.isPrefixOf, this]

theorem sp_prefix_nil (n : Nat) (hn : 0 < n) : (sp n).isPrefixOf ([] : Bytes) = false := by
  cases n with
  | zero => omega
  | succ n => rw [sp_succ]; rfl

theorem sp_prefix_head (n : Nat) (X : Bytes) (hX : ∀ c, X.head? = some c → c ≠ 32) (hn : 0 < n) :
    (sp n).isPrefixOf X = false := by
  cases X with
  | nil => exact sp_prefix_nil n hn
  | cons c r => exact sp_prefix_cons n c r (hX c rfl) hn

/-- the first byte of a padded text: a blank, or without padding the first byte of the text -/
theorem head_sp_append {p : UInt8 → Prop} (k : Nat) (X : Bytes) (h32 : p 32)
    (hX : k = 0 → ∀ c, X.head? = some c → p c) : ∀ c, (sp k ++ X).head? = some c → p c := by
  intro c hc
  cases k with
  | zero => exact hX rfl c hc
  | succ k =>
    rw [sp_succ] at hc
    simp only [List.cons_append, List.head?_cons, Option.some.injEq] at hc
    exact hc ▸ h32

end Gts.GenBank
