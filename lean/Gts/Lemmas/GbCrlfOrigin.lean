/-
  C01, CRLF input: the ORIGIN block.  The CRLF translation of the block `NewOrigin` formats is
  longer than the `toOriginLength(length)` bytes the reader requests; the fast path
  (`validateOrigin`) meets a carriage return where the first line's line feed should stand and
  reports an error (no panic: the first line lies inside the requested bytes); the slow path
  (`slowGenBankOriginParser`, `pars.Line` per line) then rebuilds exactly the written block and stops
  behind its last CR LF, whatever follows.  On top of the C16 lemmas (`Lemmas/Origin.lean`).
  Core Lean only.
-/
import Gts.Lemmas.GbCrlf
import Gts.Lemmas.GbSafeOrigin

namespace Gts.Origin
open Gts.Pars (Bytes Err P)

/-- the slow path on the CRLF translation of a formatted block, followed by ANY text: the block as
written (LF line ends), the following text untouched -/
theorem slowLines_crlf_fmt (L cap : Nat) (hL : L < 10 ^ 9) (f f' i : Nat) (r tail acc : Bytes)
    (hr : r.length = L - i) (hf : r.length ≤ 60 * f) (hf' : r.length ≤ 60 * f') (hb : printable r)
    (hcap : acc.length + tl r.length ≤ cap) :
    slowLines (L : Int) cap f i (crlf (fmtLinesS f' i r) ++ tail) acc = .ok (acc ++ fmtLinesS f' i r, tail) :=
  fmtLinesS_fuel f f' i r hf hf' ▸ slowLines_fmt .crlf L cap f i r tail acc (nine_of_lt hL) hr hf hb hcap

/-- the fast path on the first `toOriginLength(length)` bytes of the CRLF translation of a written,
non-empty block: an ERROR (a carriage return where the line feed of the first line should stand), not a
panic — the first line and the byte behind it lie inside the requested bytes -/
theorem validateOrigin_crlf_fail (p tail : Bytes) (hne : p ≠ []) (hb : printable p) (hL : p.length < 10 ^ 9) :
    validateOrigin ((crlf (originStream p) ++ tail).take (tl p.length)) p.length = .error .fail := by
  have hpos : 0 < p.length := List.length_pos_iff.mpr hne
  obtain ⟨k, hk⟩ : ∃ k, p.length = k + 1 := ⟨p.length - 1, by omega⟩
  have hln : Line 0 (min (p.length - 0) 60) (line 0 p) := Line.of_rest rfl hb
  have hn := hln.noEOL
  have hlnlen := hln.length (index9_length _ (by omega)) (Nat.min_le_right ..)
  have hw := hln.walk .panic p.length
  rw [Nat.sub_zero] at hlnlen
  have hstep := tl_step p.length hpos
  obtain ⟨m, hm⟩ : ∃ m, tl p.length = (line 0 p).length + (m + 1) :=
    ⟨tl p.length - (line 0 p).length - 1, by omega⟩
  have hfmt : originStream p = line 0 p ++ 10 :: fmtLinesS k (0 + 60) (p.drop 60) := by
    rw [originStream_eq_S, originStreamS, hk, fmtLinesS_cons k 0 p hne]
  rw [hfmt]
  generalize line 0 p = ln at hn hm hw
  rw [crlf_append_no10 _ _ (GenBank.noEOL_noLF _ hn)]
  simp only [crlf, if_true]
  rw [List.append_assoc, hm, List.take_append, List.take_of_length_le (by omega)]
  simp only [Nat.add_sub_cancel_left, List.cons_append, List.take_succ_cons]
  unfold validateOrigin
  simp only [Int.toNat_natCast]
  rw [hk]
  unfold validateLines
  rw [if_pos (by omega), ← hk, hw _ rfl]
  simp

end Gts.Origin

namespace Gts.GenBank
open Gts.Pars

/-- **ORIGIN, CRLF file**: the header line and the CRLF translation of the block written for
printable residues (at least one, fewer than 10^9), followed by ANY text that does not start with a
blank: the fast path reports an error, the slow path reads the block; the result is the written
block itself (LF line ends) — the same `Origin` as from the LF file. -/
theorem origin_roundtripC (p rest : Bytes) (stk : List Bytes) (hp : ∀ c ∈ p, Origin.isBase c = true)
    (hlen : p.length < 10 ^ 9) (hne : p ≠ []) (hrest : rest.head? ≠ some 32) :
    originField (p.length : Int) 12
        ⟨bs "ORIGIN      " ++ 13 :: 10 :: (Origin.crlf (Origin.originStream p) ++ rest), stk⟩ =
      (.ok (Origin.originStream p), ⟨rest, []⟩) := by
  have e : bs "ORIGIN      " ++ 13 :: 10 :: (Origin.crlf (Origin.originStream p) ++ rest) =
      bs "ORIGIN" ++ (sp (12 - (bs "ORIGIN").length) ++ ([] ++ 13 :: 10 :: (Origin.crlf (Origin.originStream p) ++ rest))) := by
    rw [show bs "ORIGIN      " = bs "ORIGIN" ++ sp (12 - (bs "ORIGIN").length) by decide +kernel,
      List.append_assoc]
    rfl
  rw [e]
  have hn := fun r s => fieldName_ok (bs "ORIGIN") 12 r s (by decide)
  have hline := fun s => line_okC [] (Origin.crlf (Origin.originStream p) ++ rest) s rfl
  have hl := Origin.originStream_length p hlen
  have hn0 : ¬ Origin.toOriginLength (p.length : Int) < 0 := by
    rw [Origin.toOriginLength_nat]; omega
  have htn : (Origin.toOriginLength (p.length : Int)).toNat = Origin.tl p.length := Origin.toNat_tl p.length
  have hge : ¬ ((Origin.crlf (Origin.originStream p)).length + rest.length < Origin.tl p.length) := by
    have := crlf_length_ge (Origin.originStream p)
    omega
  have hv := Origin.validateOrigin_crlf_fail p rest hne hp hlen
  have hslow : slowLines (p.length : Int) (Origin.tl p.length) p.length 0
      (Origin.crlf (Origin.originStream p) ++ rest) [] = .ok (Origin.originStream p, rest) := by
    rw [slowLines_eq, Origin.originStream_eq_S, Origin.originStreamS]
    have := Origin.slowLines_crlf_fmt p.length (Origin.tl p.length) hlen p.length p.length 0 p rest []
      (by omega) (by omega) (by omega) hp (by simp)
    simpa using this
  have hg : ¬ ((p.length : Int) > 1000000020) := by omega
  simp only [originField, P.bind_run, hn, hline, Pars.clear, getS, setS, P.pure_run, hg, hn0, if_false, htn,
    List.length_append, hge, hv, Int.toNat_natCast, hslow, hl, Nat.sub_self, List.replicate_zero,
    List.append_nil, attempt_next]

end Gts.GenBank
