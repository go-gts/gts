/-
  C01 ↔ C06: the locations of an edited record.  Guards of the record-level closure theorems
  (`Seq.featsWithin`, `Seq.featsWf`, `Seq.deleteK3`, `Seq.reverseK3`, `Seq.reverseIn`,
  `Seq.rotateK3`) and "every location of the edited table is canonical" for Insert / Delete /
  Reverse / Rotate / embed / concat2 / erase (`locsCanon_*`), from the location-level theorems of
  `Gts/Lemmas/CanonOps.lean` / `CanonKeys.lean`.  Core Lean only.
-/
import Gts.Lemmas.CanonKeys
import Gts.Lemmas.GbEdit
namespace Gts

namespace Seq

/-- every feature lies inside the sequence (the oracle's in-bounds predicate `coordsWithin`) -/
def featsWithin (s : Seq) : Bool := s.feats.all fun f => Loc.coordsWithin f.loc s.len

/-- every span of every feature is non-empty (`Loc.wf`: what `PartialRange` and the parser build) -/
def featsWf (s : Seq) : Bool := s.feats.all fun f => Loc.wf f.loc

/-- every location of the table is canonical (C06's round-trip domain) -/
def locsCanon (s : Seq) : Bool := s.feats.all fun f => Loc.canonP f.loc

/-- the K3 shape arises in the `Join`s of `gts.Delete(seq, offset, length)` -/
def deleteK3 (s : Seq) (offset length : Int) : Bool := s.feats.any fun f => Loc.expandK3 f.loc offset (-length)

/-- the K3 shape arises in the `Join`s of `gts.Reverse(seq)` -/
def reverseK3 (s : Seq) : Bool := s.feats.any fun f => Loc.reverseK3 f.loc s.len

/-- the mirror images of all features have non-negative coordinates (`Loc.revIn`: no between-site
at the very end, K1) -/
def reverseIn (s : Seq) : Bool := s.feats.all fun f => Loc.revIn s.len f.loc

/-- the amount `gts.Rotate(seq, n)` rotates by: `n` reduced into `[0, Len)` -/
def rotAmount (s : Seq) (n : Int) : Int :=
  Int.tmod (if n < 0 then n + ((-n + s.len - 1) / s.len) * s.len else n) s.len

/-- the K3 shape arises in the `Join`s of the `Normalize` step of `gts.Rotate(seq, n)` -/
def rotateK3 (s : Seq) (n : Int) : Bool :=
  s.feats.any fun f => Loc.normalizeK3 (f.loc.expand 0 (s.rotAmount n)) s.len

end Seq

namespace Loc

theorem coordsLe_eq_coordsC (M : Int) (l : Loc) : coordsLe M l = coordsC (fun x => decide (x ≤ M)) l := by
  rw [coordsLe_eq]
  rfl

theorem coordsLe_of_canon (l : Loc) (h : canonP l = true) : coordsLe 4611686018427387904 l = true := by
  rw [coordsLe_eq_coordsC]
  refine coordsC_mono (fun c hc => ?_) l ((canonP_iff l).mp h).1
  simp only [coordOk, Bool.and_eq_true] at hc
  exact hc.2

theorem coordsLe_mono (M M' : Int) (hM : M ≤ M') (l : Loc) (h : coordsLe M l = true) : coordsLe M' l = true := by
  rw [coordsLe_eq_coordsC] at *
  refine coordsC_mono (fun c hc => ?_) l h
  simp only [decide_eq_true_eq] at *
  omega

/-- an insertion (`0 ≤ n`) takes a well-formed canonical location inside `[0, L]` to a canonical one, without a
K3 guard: no reduction rule of `Join` fires (`expandK3_false`) -/
theorem expand_ins_canon (l : Loc) (i n L : Int) (hc : canonP l = true) (hw : wf l = true)
    (hin : coordsWithin l L = true) (hn : 0 ≤ n) (hL : L + n ≤ 4611686018427387904) :
    canonP (expand l i n) = true :=
  expand_canon l i n L hc (Or.inr hn) (coordsLe_of_within _ _ hin) hL
    (expandK3_false i n hn l ((canonP_iff l).mp hc).2 hw)

end Loc

namespace GenBank
open Gts.Loc

theorem ofSeq_locs (F : Fields) (s : Seq) :
    ((ofSeq F s).table.all fun f => Loc.canonP f.loc) = s.locsCanon := by
  simp only [ofSeq, Seq.locsCanon, List.all_map]
  rfl

theorem mem_insertAll_map (fs : List Feature) (φ : Feature → Feature) (g : Feature)
    (hg : g ∈ Table.insertAll [] (fs.map φ)) : ∃ f ∈ fs, g = φ f := by
  rcases (mem_insertAll [] _ g).mp hg with h | h
  · simp at h
  · obtain ⟨f, hf, rfl⟩ := List.mem_map.mp h
    exact ⟨f, hf, rfl⟩

theorem rotAmount_eq (s : Seq) (n : Int) (hL : 0 < s.len) : s.rotAmount n = n % s.len :=
  Seq.rotAmount_emod n s.len hL

theorem rotAmount_bounds (s : Seq) (n : Int) (hL : 0 < s.len) : 0 ≤ s.rotAmount n ∧ s.rotAmount n < s.len := by
  rw [rotAmount_eq s n hL]
  exact ⟨Int.emod_nonneg _ (by omega), Int.emod_lt_of_pos _ hL⟩

theorem rotate_feats (s : Seq) (n : Int) :
    (s.rotate n).feats = Table.insertAll []
      (s.feats.map fun f => { f with loc := (f.loc.expand 0 (s.rotAmount n)).normalize s.len }) := rfl

theorem locsCanon_delete (s : Seq) (offset length : Int) (hc : s.locsCanon = true) (ho : 0 ≤ offset)
    (hl : 0 ≤ length) (hk : s.deleteK3 offset length = false) : (s.delete offset length).locsCanon = true := by
  simp only [Seq.locsCanon, Seq.deleteK3, List.all_eq_true, List.any_eq_false, Seq.delete, List.mem_map] at *
  rintro g ⟨f, hf, rfl⟩
  exact expand_canon f.loc offset (-length) 4611686018427387904 (hc f hf) (Or.inl ho)
    (coordsLe_of_canon _ (hc f hf)) (by omega) (by simpa using hk f hf)

theorem locsCanon_reverse (s : Seq) (hc : s.locsCanon = true) (hL : s.len ≤ 4611686018427387904)
    (hin : s.reverseIn = true) (hk : s.reverseK3 = false) : s.reverse.locsCanon = true := by
  simp only [Seq.locsCanon, Seq.reverseIn, Seq.reverseK3, List.all_eq_true, List.any_eq_false] at *
  intro g hg
  obtain ⟨f, hf, rfl⟩ := mem_insertAll_map s.feats _ g (by simpa [Seq.reverse] using hg)
  exact reverse_canon f.loc s.len (hc f hf) hL (hin f hf) (by simpa using hk f hf)

theorem locsCanon_rotate (s : Seq) (n : Int) (hc : s.locsCanon = true) (hw : s.featsWf = true)
    (hin : s.featsWithin = true) (hL0 : 0 < s.len) (hL : 2 * s.len ≤ 4611686018427387904)
    (hk : s.rotateK3 n = false) : (s.rotate n).locsCanon = true := by
  have hb := rotAmount_bounds s n hL0
  simp only [Seq.locsCanon, Seq.featsWf, Seq.featsWithin, Seq.rotateK3, List.all_eq_true, List.any_eq_false] at *
  intro g hg
  rw [rotate_feats] at hg
  obtain ⟨f, hf, rfl⟩ := mem_insertAll_map s.feats _ g hg
  have hcf := hc f hf
  refine normalize_canon _ s.len ?_ hL0 (by omega) (by simpa using hk f hf)
  exact expand_ins_canon f.loc 0 _ s.len hcf (hw f hf) (hin f hf) hb.1 (by omega)

/-- **Insert**: the host's locations are shifted (no guard), the guest's are moved behind the
insertion point (well-formed guest features) -/
theorem locsCanon_insert (host guest : Seq) (index : Int) (hc : host.locsCanon = true)
    (hg : guest.locsCanon = true) (hgw : guest.featsWf = true) (hin : host.featsWithin = true)
    (hgin : guest.featsWithin = true) (hi0 : 0 ≤ index) (hi : index ≤ host.len)
    (hsum : host.len + guest.len ≤ 4611686018427387904) : (host.insert index guest).locsCanon = true := by
  simp only [Seq.locsCanon, Seq.featsWf, Seq.featsWithin, List.all_eq_true] at *
  intro g hgm
  have hgl : 0 ≤ guest.len := by simp [Seq.len]
  rcases (mem_insertAll _ _ g).mp (by simpa [Seq.insert] using hgm) with h | h
  · obtain ⟨f, hf, rfl⟩ := mem_insertAll_map host.feats _ g h
    have hcf := hc f hf
    exact shift_canon_guarded f.loc index guest.len host.len hcf hgl (coordsLe_of_within _ _ (hin f hf)) hsum
      (shiftK3_false index _ hgl f.loc ((canonP_iff _).mp hcf).2)
  · obtain ⟨f, hf, rfl⟩ := List.mem_map.mp h
    exact expand_ins_canon f.loc 0 index guest.len (hg f hf) (hgw f hf) (hgin f hf) hi0 (by omega)

/-- **Embed**: host and guest locations both go through an insertion `Expand` (well-formed features) -/
theorem locsCanon_embed (host guest : Seq) (index : Int) (hc : host.locsCanon = true)
    (hg : guest.locsCanon = true) (hw : host.featsWf = true) (hgw : guest.featsWf = true)
    (hin : host.featsWithin = true) (hgin : guest.featsWithin = true) (hi0 : 0 ≤ index) (hi : index ≤ host.len)
    (hsum : host.len + guest.len ≤ 4611686018427387904) : (host.embed index guest).locsCanon = true := by
  simp only [Seq.locsCanon, Seq.featsWf, Seq.featsWithin, List.all_eq_true] at *
  intro g hgm
  have hgl : 0 ≤ guest.len := by simp [Seq.len]
  rcases (mem_insertAll _ _ g).mp (by simpa [Seq.embed] using hgm) with h | h
  · obtain ⟨f, hf, rfl⟩ := mem_insertAll_map host.feats _ g h
    exact expand_ins_canon f.loc index guest.len host.len (hc f hf) (hw f hf) (hin f hf) hgl hsum
  · obtain ⟨f, hf, rfl⟩ := List.mem_map.mp h
    exact expand_ins_canon f.loc 0 index guest.len (hg f hf) (hgw f hf) (hgin f hf) hi0 (by omega)

/-- **Concat** of two: the first table as it is, the second moved behind the first sequence -/
theorem locsCanon_concat2 (a b : Seq) (hc : a.locsCanon = true) (hg : b.locsCanon = true)
    (hgw : b.featsWf = true) (hgin : b.featsWithin = true)
    (hsum : a.len + b.len ≤ 4611686018427387904) : (Seq.concat2 a b).locsCanon = true := by
  simp only [Seq.locsCanon, Seq.featsWf, Seq.featsWithin, List.all_eq_true] at *
  intro g hgm
  have hal : 0 ≤ a.len := by simp [Seq.len]
  rcases (mem_insertAll _ _ g).mp (by simpa [Seq.concat2] using hgm) with h | h
  · exact hc g h
  · obtain ⟨f, hf, rfl⟩ := List.mem_map.mp h
    exact expand_ins_canon f.loc 0 a.len b.len (hg f hf) (hgw f hf) (hgin f hf) hal (by omega)

/-- the features `gts.Erase` keeps -/
def eraseKept (s : Seq) (offset length : Int) : Seq :=
  ⟨s.feats.filter fun f => f.key = "source" || !(f.loc.within offset (offset + length)), s.bytes⟩

theorem erase_eq (s : Seq) (offset length : Int) :
    s.erase offset length = (eraseKept s offset length).delete offset length := rfl

theorem locsCanon_erase (s : Seq) (offset length : Int) (hc : s.locsCanon = true) (ho : 0 ≤ offset)
    (hl : 0 ≤ length) (hk : (eraseKept s offset length).deleteK3 offset length = false) :
    (s.erase offset length).locsCanon = true := by
  rw [erase_eq]
  refine locsCanon_delete _ offset length ?_ ho hl hk
  simp only [Seq.locsCanon, eraseKept, List.all_eq_true] at *
  exact fun f hf => hc f (List.mem_filter.mp hf).1

end GenBank
end Gts
