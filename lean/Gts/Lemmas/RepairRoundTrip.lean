/-
  `Repair` (property C12), part 8: slice;…;slice;concat;repair on a sequence whose features are
  forward ranges with table-unique classes gives back every feature (up to table order).
  Core Lean only.
-/
import Gts.Lemmas.RepairRestore
import Gts.Lemmas.ConcatChain
namespace Gts
open Loc

/-- the pieces of `s` between consecutive cut points -/
def cutPieces (s : Seq) : List Int → List Seq
  | a :: b :: rest => s.slice a b :: cutPieces s (b :: rest)
  | _ => []

/-- `slice;…;slice;concat;repair` with the cut positions `cuts` -/
def roundTrip (s : Seq) (cuts : List Int) : RepairOutcome :=
  repair (Seq.concat (cutPieces s (0 :: cuts ++ [s.len]))).feats

/-- the location of a feature in the piece `[a, b)`, moved back to offset `a` by `Concat` -/
def pieceLoc (l : Loc) (a b L : Int) : Loc := ((l.expand b (b - L)).expand 0 (-a)).expand 0 a

/-- the features `Concat` contributes for the piece `[a, b)` (no `source` features) -/
def pieceFeats (s : Seq) (a b : Int) : Table :=
  (s.feats.filter fun f => f.loc.overlap a b).map fun f => { f with loc := pieceLoc f.loc a b s.len }

def fragTable (s : Seq) : List Int → Table
  | a :: b :: rest => pieceFeats s a b ++ fragTable s (b :: rest)
  | _ => []

theorem cutPieces_eq (s : Seq) : ∀ (pts : List Int) (a : Int),
    cutPieces s (a :: pts) = (Seq.windowsFrom a pts).map fun w => s.slice w.1 w.2
  | [], _ => rfl
  | b :: pts, a => by rw [cutPieces, cutPieces_eq s pts b]; rfl

/-- without `source` features, the fragments are the re-located pieces of Gts/Lemmas/ConcatChain.lean -/
theorem fragTable_eq (s : Seq) (hns : ∀ f ∈ s.feats, f.key ≠ "source") : ∀ (pts : List Int) (a : Int),
    fragTable s (a :: pts) = (Seq.windowsFrom a pts).flatMap (Seq.pieceFeatsBack s)
  | [], _ => rfl
  | b :: pts, a => by
    rw [fragTable, fragTable_eq s hns pts b]
    simp only [Seq.windowsFrom, List.zip_cons_cons, List.flatMap_cons, Seq.pieceFeatsBack, Seq.pieceFeats, pieceFeats,
      List.map_map]
    congr 1
    apply List.map_congr_left
    intro f hf
    simp [hns f (List.mem_filter.mp hf).1, pieceLoc, Seq.pieceLoc, sliceLoc]

/-- a forward range inside `[0, L]` -/
def Loc.rangedIn (L : Int) : Loc → Bool
  | ranged s e _ _ => decide (0 ≤ s) && decide (s < e) && decide (e ≤ L)
  | _ => false

theorem overlap_ranged (s e : Int) (x y : Bool) (a b : Int) (hse : s < e) (hab : a < b) :
    (ranged s e x y).overlap a b = (decide (s < b) && decide (a < e)) := by
  simp only [overlap, rangeOverlap]
  have h1 : ¬ e < s := by omega
  have h2 : ¬ b < a := by omega
  simp [h1, h2]

/-- the first piece is not moved by `Concat`; for forward ranges that makes no difference -/
theorem first_piece_feats (s : Seq) (b : Int) (hb : 0 < b) (hbL : b ≤ s.len)
    (hns : ∀ f ∈ s.feats, f.key ≠ "source") (hr : ∀ f ∈ s.feats, f.loc.rangedIn s.len = true) :
    (s.sliceFwd 0 b).feats = pieceFeats s 0 b := by
  simp only [Seq.sliceFwd, pieceFeats]
  apply List.map_congr_left
  intro f hf
  have hfm := (List.mem_filter.mp hf).1
  have hov := (List.mem_filter.mp hf).2
  have hnsf := hns f hfm
  have hrf := hr f hfm
  simp only [hnsf, if_false]
  cases hl : f.loc <;> simp [hl, rangedIn] at hrf
  rename_i fs fe f5 f3
  rw [hl] at hov
  rw [overlap_ranged fs fe f5 f3 0 b hrf.1.2 hb] at hov
  simp only [Bool.and_eq_true, decide_eq_true_eq] at hov
  simp only [pieceLoc]
  rw [expand_cut_tail fs fe f5 f3 b s.len hrf.1.2 hrf.2 hov.1 hbL]
  rw [expand_cut_head fs _ f5 _ 0 hrf.1.1 (by split <;> omega) (Int.le_refl 0) (by split <;> omega)]
  simp [expand, rangedExpand]

theorem concat_pieces_perm (s : Seq) (c : Int) (rest : List Int)
    (hns : ∀ f ∈ s.feats, f.key ≠ "source") (hr : ∀ f ∈ s.feats, f.loc.rangedIn s.len = true)
    (hs : (0 :: c :: rest).Pairwise (· < ·)) (hl : (c :: rest).getLast? = some s.len) :
    (Seq.concat (cutPieces s (0 :: c :: rest))).feats.Perm (fragTable s (0 :: c :: rest)) := by
  have hc : 0 < c := (List.pairwise_cons.mp hs).1 c (by simp)
  have hs' : (c :: rest).Pairwise (· ≤ ·) := (List.pairwise_cons.mp hs).2.imp Int.le_of_lt
  have hcL : c ≤ s.len := Cli.le_getLast _ hs' _ hl c (by simp)
  have hf := Seq.foldl_concat2_chain s rest c (s.sliceFwd 0 c) (by omega) hs' hl
    (by rw [Seq.sliceFwd_len s 0 c (Int.le_refl _) (by omega) hcL]; omega)
  rw [first_piece_feats s c hc hcL hns hr] at hf
  rw [cutPieces, Seq.concat, fragTable, cutPieces_eq, fragTable_eq s hns, Seq.slice_fwd_eq s 0 c (Int.le_refl _) (by omega)]
  exact hf

/-- the fragments of the feature `f` over the pieces -/
def pieceFeatsOf (f : Feature) (L : Int) : List Int → Table
  | a :: b :: rest =>
    (if f.loc.overlap a b then [{ f with loc := pieceLoc f.loc a b L }] else []) ++ pieceFeatsOf f L (b :: rest)
  | _ => []

theorem featsOf_append (x y : Table) (k : String) :
    Table.featsOf (x ++ y) k = Table.featsOf x k ++ Table.featsOf y k := by
  simp [Table.featsOf]

/-- cutting does not touch key and qualifiers, so it commutes with taking a class -/
theorem featsOf_pieceFeats (s : Seq) (k : String) (a b : Int) :
    Table.featsOf (pieceFeats s a b) k =
      ((Table.featsOf s.feats k).filter fun f => f.loc.overlap a b).map
        fun f => { f with loc := pieceLoc f.loc a b s.len } := by
  simp only [Table.featsOf, pieceFeats, List.filter_map, List.filter_filter]
  refine congrArg _ (List.filter_congr fun f _ => ?_)
  rw [Bool.and_comm, Function.comp_apply]
  exact congrArg (_ && · == k) (classKey_congr rfl rfl)

theorem featsOf_fragTable (s : Seq) (k : String) (f : Feature) (hf : Table.featsOf s.feats k = [f]) :
    ∀ pts, Table.featsOf (fragTable s pts) k = pieceFeatsOf f s.len pts
  | [] => rfl
  | [_] => rfl
  | a :: b :: rest => by
    rw [fragTable, pieceFeatsOf, featsOf_append, featsOf_fragTable s k f hf (b :: rest),
      featsOf_pieceFeats, hf]
    congr 1
    by_cases h : f.loc.overlap a b = true <;> simp [h]

theorem featsOf_fragTable_nil (s : Seq) (k : String) (hf : Table.featsOf s.feats k = []) :
    ∀ pts, Table.featsOf (fragTable s pts) k = []
  | [] => rfl
  | [_] => rfl
  | a :: b :: rest => by
    rw [fragTable, featsOf_append, featsOf_fragTable_nil s k hf (b :: rest), featsOf_pieceFeats, hf]
    rfl

theorem pieceFeatsOf_keys (f : Feature) (L : Int) :
    ∀ pts, ∀ g ∈ pieceFeatsOf f L pts, g.key = f.key ∧ g.props = f.props
  | [] => by simp [pieceFeatsOf]
  | [_] => by simp [pieceFeatsOf]
  | a :: b :: rest => by
    intro g hg
    simp only [pieceFeatsOf, List.mem_append] at hg
    rcases hg with hg | hg
    · by_cases h : f.loc.overlap a b = true
      · simp only [h, if_true, List.mem_singleton] at hg
        subst hg
        exact ⟨rfl, rfl⟩
      · simp [h] at hg
    · exact pieceFeatsOf_keys f L (b :: rest) g hg

theorem pieceFeatsOf_nil (f : Feature) (s e : Int) (p5 p3 : Bool) (hl : f.loc = ranged s e p5 p3)
    (hse : s < e) (L : Int) :
    ∀ rest a, (a :: rest).Pairwise (· < ·) → e ≤ a → pieceFeatsOf f L (a :: rest) = []
  | [], _, _, _ => by simp [pieceFeatsOf]
  | b :: rest, a, hs, hea => by
    have hab : a < b := (List.pairwise_cons.mp hs).1 b (by simp)
    simp only [pieceFeatsOf, hl, overlap_ranged s e p5 p3 a b hse hab]
    have : ¬ a < e := by omega
    simp only [this, decide_false, Bool.and_false, Bool.false_eq_true, if_false, List.nil_append]
    have := pieceFeatsOf_nil f s e p5 p3 hl hse L rest b (List.pairwise_cons.mp hs).2 (by omega)
    simpa [hl] using this

theorem filter_congr_mem {α} (l : List α) (p q : α → Bool) (h : ∀ x ∈ l, p x = q x) :
    l.filter p = l.filter q := List.filter_congr h

/-- the cut positions strictly inside `(s', e)` -/
def innerCuts (s' e : Int) (pts : List Int) : List Int := pts.filter fun c => decide (s' < c) && decide (c < e)

theorem innerCuts_cons (s' e c : Int) (rest : List Int) :
    innerCuts s' e (c :: rest) = if s' < c ∧ c < e then c :: innerCuts s' e rest else innerCuts s' e rest := by
  simp only [innerCuts, List.filter_cons, Bool.and_eq_true, decide_eq_true_eq]

theorem innerCuts_shift (s' c e : Int) (rest : List Int) (hsc : s' < c)
    (hs : (c :: rest).Pairwise (· < ·)) : innerCuts s' e rest = innerCuts c e rest := by
  apply List.filter_congr
  intro x hx
  have : c < x := (List.pairwise_cons.mp hs).1 x hx
  have h1 : s' < x := by omega
  simp [h1, this]

theorem cutsOk_innerCuts (e : Int) : ∀ (rest : List Int) (s' : Int), s' < e → rest.Pairwise (· < ·) →
    cutsOk s' e (innerCuts s' e rest)
  | [], s', h, _ => by simpa [innerCuts, cutsOk] using h
  | c :: rest, s', h, hs => by
    rw [innerCuts_cons]
    split
    · rename_i hk
      rw [innerCuts_shift s' c e rest hk.1 hs]
      exact ⟨hk.1, cutsOk_innerCuts e rest c hk.2 (List.pairwise_cons.mp hs).2⟩
    · exact cutsOk_innerCuts e rest s' h (List.pairwise_cons.mp hs).2

/-- **the fragments of a forward range over the pieces are its `frags`** at the cut positions
strictly inside it -/
theorem pieceFeatsOf_ranged (f : Feature) (s e : Int) (p5 p3 : Bool) (hl : f.loc = ranged s e p5 p3)
    (L : Int) (h0 : 0 ≤ s) (hse : s < e) (heL : e ≤ L) :
    ∀ (rest : List Int) (a : Int), (a :: rest).Pairwise (· < ·) → 0 ≤ a → (a :: rest).getLast? = some L → a < e →
      (pieceFeatsOf f L (a :: rest)).map (·.loc) =
        frags true (if s < a then a else s) e (p5 || decide (s < a)) p3
          (innerCuts (if s < a then a else s) e rest)
  | [], a, _, _, hlast, hae => by
    -- the last cut point is `L`, behind the range
    rw [List.getLast?_singleton, Option.some.injEq] at hlast
    omega
  | b :: rest, a, hs, ha, hlast, hae => by
    have hab : a < b := (List.pairwise_cons.mp hs).1 b (by simp)
    have hs' := (List.pairwise_cons.mp hs).2
    rw [List.getLast?_cons_cons] at hlast
    have hbL : b ≤ L := Cli.le_getLast _ (hs'.imp Int.le_of_lt) _ hlast b (by simp)
    have ih := fun hbe : b < e => pieceFeatsOf_ranged f s e p5 p3 hl L h0 hse heL rest b hs' (by omega) hlast hbe
    simp only [pieceFeatsOf, List.map_append]
    by_cases hsb : s < b
    · -- the piece overlaps
      have hov : f.loc.overlap a b = true := by
        rw [hl, overlap_ranged s e p5 p3 a b hse hab]; simp [hsb, hae]
      simp only [hov, if_true, List.map_cons, List.map_nil, List.singleton_append]
      rw [hl, pieceLoc, slice_concat_ranged s e p5 p3 a b L h0 hse heL ha hab hbL ⟨hsb, hae⟩]
      have hsa' : (if s < a then a else s) < b := by split <;> omega
      by_cases hbe : b < e
      · -- a cut inside the range
        have hsb' : (if s < b then b else s) = b := by simp [hsb]
        rw [ih hbe, innerCuts_cons, if_pos (And.intro hsa' hbe), hsb', innerCuts_shift _ b e rest hsa' hs']
        simp [frags, hbe, hsb]
      · -- the last piece of the range
        have e1 : innerCuts (if s < a then a else s) e (b :: rest) = [] := by
          simp only [innerCuts, List.filter_eq_nil_iff, Bool.and_eq_true, decide_eq_true_eq, not_and]
          intro x hx _
          rcases List.mem_cons.mp hx with rfl | hx
          · exact hbe
          · have := (List.pairwise_cons.mp hs').1 x hx
            omega
        rw [pieceFeatsOf_nil f s e p5 p3 hl hse L rest b hs' (by omega), e1]
        simp [frags, hbe]
    · -- the piece ends before the range starts
      have hov : f.loc.overlap a b = false := by
        rw [hl, overlap_ranged s e p5 p3 a b hse hab]; simp [hsb]
      simp only [hov, Bool.false_eq_true, if_false, List.map_nil, List.nil_append]
      have hbe : b < e := by omega
      have hsa : ¬ s < a := by omega
      rw [ih hbe]
      simp only [hsb, hsa, if_false]
      rw [innerCuts_cons, if_neg fun h => hsb h.1]

theorem featsOf_unique (t : Table) (f : Feature) (hf : f ∈ t) (h1 : Table.classSize t f = 1) :
    Table.featsOf t (classKey f) = [f] := by
  have hmem : f ∈ Table.featsOf t (classKey f) := by simp [Table.featsOf, hf]
  have hlen : (Table.featsOf t (classKey f)).length ≤ 1 := by
    rw [featsOf_eq]
    exact Nat.le_trans (List.length_filterMap_le _ _) (by simpa [Table.classSize] using Nat.le_of_eq h1)
  cases hfe : Table.featsOf t (classKey f) with
  | nil => rw [hfe] at hmem; cases hmem
  | cons x xs =>
    rw [hfe] at hmem hlen
    cases xs with
    | nil => simp only [List.mem_singleton] at hmem; rw [hmem]
    | cons y ys => simp at hlen

theorem feature_ext (f g : Feature) (h1 : g.key = f.key) (h2 : g.loc = f.loc) (h3 : g.props = f.props) : g = f := by
  cases f; cases g; simp_all

/-- the hypotheses of the restoration theorem -/
structure Restorable (s : Seq) (cuts : List Int) : Prop where
  noSource : ∀ f ∈ s.feats, f.key ≠ "source"
  ranged : ∀ f ∈ s.feats, f.loc.rangedIn s.len = true
  unique : ∀ f ∈ s.feats, Table.classSize s.feats f = 1
  cuts : (0 :: cuts ++ [s.len]).Pairwise (· < ·)

theorem mem_classKeys_of_fragments (s : Seq) (pts : List Int) (u : Table) (hperm : u.Perm (fragTable s pts))
    (k : String) (hk : k ∈ Table.classKeys u) : k ∈ Table.classKeys s.feats := by
  apply Classical.byContradiction
  intro hnk
  have h1 : (Table.featsOf u k).Perm (Table.featsOf (fragTable s pts) k) := hperm.filter _
  rw [featsOf_fragTable_nil s k ((featsOf_eq_nil_iff s.feats k).mpr hnk)] at h1
  exact (featsOf_eq_nil_iff u k).mp h1.eq_nil hk

theorem Restorable.points {s : Seq} {cuts : List Int} (h : Restorable s cuts) :
    ∃ c rest, cuts ++ [s.len] = c :: rest ∧ (0 :: c :: rest).Pairwise (· < ·) ∧ (c :: rest).getLast? = some s.len := by
  obtain ⟨c, rest, hpts⟩ : ∃ c rest, cuts ++ [s.len] = c :: rest := by
    cases cuts with
    | nil => exact ⟨s.len, [], rfl⟩
    | cons c cs => exact ⟨c, cs ++ [s.len], rfl⟩
  have hc := h.cuts
  rw [List.cons_append, hpts] at hc
  exact ⟨c, rest, hpts, hc, by rw [← hpts, List.getLast?_append]; rfl⟩

/-- the class of an original feature `f` in the concatenated table `u`: its locations are the
`frags` of `f`, in some order, which `Repair` (without `force`) fuses into the location of `f`; key
and qualifiers are those of `f` -/
theorem class_of_fragments (sort : List Loc → List Loc) (hsort : CorrectSort sort) (s : Seq) (c : Int)
    (rest : List Int) (u : Table) (hs : (0 :: c :: rest).Pairwise (· < ·)) (hlast : (c :: rest).getLast? = some s.len)
    (hperm : u.Perm (fragTable s (0 :: c :: rest))) (f : Feature) (hf : f ∈ s.feats)
    (hin : f.loc.rangedIn s.len = true) (hu : Table.classSize s.feats f = 1) :
    newLocs sort false (Table.locsOf u (classKey f)) = [f.loc] ∧
      ∀ g ∈ Table.featsOf u (classKey f), g.key = f.key ∧ g.props = f.props := by
  cases hl : f.loc <;>
    simp only [hl, rangedIn, Bool.false_eq_true, Bool.and_eq_true, decide_eq_true_eq] at hin
  rename_i s0 e0 p5 p3
  have hfe := featsOf_unique s.feats f hf hu
  have h1 : (Table.featsOf u (classKey f)).Perm (pieceFeatsOf f s.len (0 :: c :: rest)) := by
    rw [← featsOf_fragTable s (classKey f) f hfe]
    exact hperm.filter _
  have hpf := pieceFeatsOf_ranged f s0 e0 p5 p3 hl s.len hin.1.1 hin.1.2 hin.2 (c :: rest) 0 hs (Int.le_refl 0)
    (by rwa [List.getLast?_cons_cons]) (by omega)
  have hn : ¬ s0 < 0 := by omega
  simp only [hn, if_false, decide_false, Bool.or_false] at hpf
  refine ⟨newLocs_frags sort hsort false true rfl s0 e0 p5 p3 _
    (cutsOk_innerCuts e0 (c :: rest) s0 hin.1.2 (List.pairwise_cons.mp hs).2) _ ?_, ?_⟩
  · rw [locsOf_eq_map, ← hpf]
    exact h1.map _
  · intro g hg
    exact pieceFeatsOf_keys f s.len _ g (h1.mem_iff.mp hg)

/-- `slice;…;slice;concat;repair` with the cut positions `cuts`, `sort.Sort` being `sort` -/
def roundTripWith (sort : List Loc → List Loc) (s : Seq) (cuts : List Int) : RepairOutcome :=
  repairWith sort (Seq.concat (cutPieces s (0 :: cuts ++ [s.len]))).feats

theorem roundTripWith_sortLocs (s : Seq) (cuts : List Int) : roundTripWith sortLocs s cuts = roundTrip s cuts :=
  repairWith_sortLocs _

/-- the classes of the concatenated table: each is the class of an original feature `f`, carries
key and qualifiers of `f`, and is fused by `Repair` into the one location of `f` -/
theorem Restorable.classes {s : Seq} {cuts : List Int} (h : Restorable s cuts) (sort : List Loc → List Loc)
    (hs : CorrectSort sort) :
    (∀ k ∈ Table.classKeys (Seq.concat (cutPieces s (0 :: cuts ++ [s.len]))).feats, k ∈ Table.classKeys s.feats) ∧
    ∀ f ∈ s.feats,
      newLocs sort (Table.forceOf (Seq.concat (cutPieces s (0 :: cuts ++ [s.len]))).feats (classKey f))
        (Table.locsOf (Seq.concat (cutPieces s (0 :: cuts ++ [s.len]))).feats (classKey f)) = [f.loc] ∧
      ∀ g ∈ Table.featsOf (Seq.concat (cutPieces s (0 :: cuts ++ [s.len]))).feats (classKey f),
        g.key = f.key ∧ g.props = f.props := by
  obtain ⟨c, rest, hpts, hcs', hlast⟩ := h.points
  have hperm := concat_pieces_perm s c rest h.noSource h.ranged hcs' hlast
  rw [List.cons_append, hpts]
  generalize (Seq.concat (cutPieces s (0 :: c :: rest))).feats = u at hperm
  refine ⟨mem_classKeys_of_fragments s _ u hperm, fun f hf => ?_⟩
  obtain ⟨h1, h3⟩ := class_of_fragments sort hs s c rest u hcs' hlast hperm f hf (h.ranged f hf) (h.unique f hf)
  have hforce : Table.forceOf u (classKey f) = false := by
    simp only [Table.forceOf]
    cases hh : (Table.featsOf u (classKey f)).head? with
    | none => rfl
    | some g => simpa [(h3 g (List.mem_of_head? hh)).1] using h.noSource f hf
  rw [hforce]
  exact ⟨h1, h3⟩

/-- **(g)**: `slice;…;slice;concat;repair` gives back, class by class, exactly the original
features, whatever the (correct) sort -/
theorem roundTripWith_restores (sort : List Loc → List Loc) (hs : CorrectSort sort) (s : Seq) (cuts : List Int)
    (h : Restorable s cuts) :
    ∃ t', roundTripWith sort s cuts = .ok t' ∧ ∀ k, Table.featsOf t' k = Table.featsOf s.feats k := by
  obtain ⟨hkeys, hcl⟩ := h.classes sort hs
  unfold roundTripWith
  generalize (Seq.concat (cutPieces s (0 :: cuts ++ [s.len]))).feats = u at hkeys hcl
  obtain ⟨t', ht'⟩ := repairWith_ok_of_classes sort u fun k hk => by
    obtain ⟨f, hf, rfl⟩ := (Table.mem_classKeys s.feats k).mp (hkeys k hk)
    rw [(hcl f hf).1]; simp
  refine ⟨t', ht', fun k => ?_⟩
  rw [featsOf_repairWith sort u t' ht' k]
  by_cases hk : k ∈ Table.classKeys s.feats
  · obtain ⟨f, hf, rfl⟩ := (Table.mem_classKeys s.feats _).mp hk
    obtain ⟨hN, hkp⟩ := hcl f hf
    rw [featsOf_unique s.feats f hf (h.unique f hf), hN]
    cases hfe : Table.featsOf u (classKey f) with
    | nil => rw [locsOf_eq_map, hfe] at hN; simp [newLocs_nil] at hN
    | cons g gs =>
      obtain ⟨hk0, hp0⟩ := hkp g (by rw [hfe]; simp)
      rw [List.zipWith_cons_cons, List.zipWith_nil_right, feature_ext f (g.setLoc f.loc) hk0 rfl hp0]
  · rw [(featsOf_eq_nil_iff u k).mpr fun h => hk (hkeys k h), (featsOf_eq_nil_iff s.feats k).mpr hk]
    rfl

theorem roundTripWith_eq (s1 s2 : List Loc → List Loc) (h1 : CorrectSort s1) (h2 : CorrectSort s2) (s : Seq)
    (cuts : List Int) (h : Restorable s cuts) : roundTripWith s1 s cuts = roundTripWith s2 s cuts := by
  apply repairWith_congr_classes
  intro k hk
  obtain ⟨f, hf, rfl⟩ := (Table.mem_classKeys s.feats k).mp ((h.classes s1 h1).1 k hk)
  rw [((h.classes s1 h1).2 f hf).1, ((h.classes s2 h2).2 f hf).1]

end Gts
