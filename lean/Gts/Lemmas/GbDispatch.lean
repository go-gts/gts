/-
  C01 helper lemmas: `tryAllParsers` — a field is taken by its own sub-parser after the earlier
  ones failed softly on its name — and one pass of the record loop.
-/
import Gts.Lemmas.GbReference
import Gts.Lemmas.GbDblinkContig
import Gts.Lemmas.GbFeatures
import Gts.Lemmas.GbOrigin
namespace Gts.GenBank
open Gts.Pars

theorem tryList_skip (p : Sub → P (Sub × Bool)) (ps : List (Sub → P (Sub × Bool))) (s : Sub)
    (inp : Bytes) (stk : List Bytes)
    (h : p s ⟨inp, inp :: stk⟩ = (.error .fail, ⟨inp, inp :: stk⟩)) :
    tryList (p :: ps) s ⟨inp, stk⟩ = tryList ps s ⟨inp, stk⟩ := by
  gsimp [tryList, h]

theorem tryList_hit (p : Sub → P (Sub × Bool)) (ps : List (Sub → P (Sub × Bool))) (s s' : Sub)
    (inp rest : Bytes) (stk stk' : List Bytes)
    (h : p s ⟨inp, inp :: stk⟩ = (.ok (s', true), ⟨rest, stk'⟩)) :
    tryList (p :: ps) s ⟨inp, stk⟩ = (.ok (s', true), ⟨rest, stk'.drop 1⟩) := by
  gsimp [tryList, h]

theorem tryList_nil (s : Sub) (st : PS) : tryList [] s st = (.ok (s, false), st) := rfl

/-- the names of the eleven sub-parsers in `tryAllParsers` order -/
def fieldNames : List String :=
  ["DEFINITION", "ACCESSION", "VERSION", "DBLINK", "KEYWORDS", "SOURCE", "REFERENCE", "COMMENT", "FEATURES",
   "CONTIG", "ORIGIN"]

/-- none of the first `k` field names starts the input -/
def notNames (k : Nat) (inp : Bytes) : Bool := (fieldNames.take k).all fun n => !(bs n).isPrefixOf inp

/-- `p` fails softly, the state untouched, on every input that does not start with the name `n` -/
def SoftOn (n : String) (p : Sub → P (Sub × Bool)) : Prop :=
  ∀ s inp stk, (bs n).isPrefixOf inp = false → p s ⟨inp, stk⟩ = (.error .fail, ⟨inp, stk⟩)

theorem SoftOn.liftF {n : String} {p : Fields → P (Fields × Bool)}
    (h : ∀ f inp stk, (bs n).isPrefixOf inp = false → p f ⟨inp, stk⟩ = (.error .fail, ⟨inp, stk⟩)) :
    SoftOn n (liftF p) := fun (f, t, o, r) inp stk hn => by gsimp [GenBank.liftF, h f inp stk hn]

/-- each sub-parser of the list fails softly off the name beside it -/
def SoftAll : List String → List (Sub → P (Sub × Bool)) → Prop
  | n :: ns, p :: ps => SoftOn n p ∧ SoftAll ns ps
  | [], [] => True
  | _, _ => False

theorem tryList_soft (ns : List String) (ps : List (Sub → P (Sub × Bool))) (h : SoftAll ns ps)
    (s : Sub) (inp : Bytes) (stk : List Bytes) (k : Nat)
    (hn : ∀ n ∈ ns.take k, (bs n).isPrefixOf inp = false) :
    tryList ps s ⟨inp, stk⟩ = tryList (ps.drop k) s ⟨inp, stk⟩ := by
  induction k generalizing ns ps with
  | zero => rfl
  | succ k ih =>
    match ns, ps, h with
    | [], [], _ => rfl
    | n :: ns, p :: ps, ⟨h1, h2⟩ =>
      rw [tryList_skip _ _ _ inp stk (h1 s inp _ (hn _ (by simp)))]
      exact ih ns ps h2 fun n hm => hn n (by simp [hm])

theorem fieldParsers_soft (length : Int) : SoftAll fieldNames (fieldParsers length 12) :=
  ⟨.liftF fun f inp stk h => by gsimp [definitionField, fieldName_other _ 12 inp _ h],
   .liftF fun f inp stk h => by
    gsimp [accessionField, mapped_fail _ inp inp stk (genericField_other (bs "ACCESSION") 12 inp (inp :: stk) h)],
   .liftF fun f inp stk h => by
    gsimp [versionField, mapped_fail _ inp inp stk (genericField_other (bs "VERSION") 12 inp (inp :: stk) h)],
   .liftF fun f inp stk h => by gsimp [dblinkField, fieldName_other _ 12 inp _ h],
   .liftF fun f inp stk h => by gsimp [keywordsField, fieldName_other _ 12 inp _ h],
   .liftF fun f inp stk h => by
    gsimp [sourceField, mapped_fail _ inp inp stk (genericField_other (bs "SOURCE") 12 inp (inp :: stk) h)],
   .liftF fun f inp stk h => by gsimp [referenceField, fieldName_other _ 12 inp _ h],
   .liftF fun f inp stk h => by
    gsimp [commentField, mapped_fail _ inp inp stk (genericField_other (bs "COMMENT") 12 inp (inp :: stk) h)],
   fun (f, t, o, r) inp stk h => by gsimp [featuresSub, featuresField, lit_fail _ _ _ h],
   .liftF fun f inp stk h => by gsimp [contigField, fieldName_other _ 12 inp _ h],
   fun (f, t, o, r) inp stk h => by gsimp [originSub, originField, fieldName_other _ 12 inp _ h], trivial⟩

theorem tryList_drop (k : Nat) (length : Int) (s : Sub) (inp : Bytes) (stk : List Bytes)
    (h : notNames k inp = true) :
    tryList (fieldParsers length 12) s ⟨inp, stk⟩ = tryList ((fieldParsers length 12).drop k) s ⟨inp, stk⟩ :=
  tryList_soft _ _ (fieldParsers_soft length) s inp stk k fun n hn => by
    simpa using List.all_eq_true.mp h n hn

theorem tryAll_at (k : Nat) (length : Int) (s s' : Sub) (inp rest : Bytes) (stk' : List Bytes)
    (hnot : notNames k inp = true) (p : Sub → P (Sub × Bool))
    (hp : (fieldParsers length 12)[k]? = some p)
    (hrun : p s ⟨inp, [inp]⟩ = (.ok (s', true), ⟨rest, stk'⟩)) (hstk : stk'.drop 1 = []) :
    tryAll length 12 s ⟨inp, []⟩ = (.ok (.parsed s'), ⟨rest, []⟩) := by
  obtain ⟨hlen, rfl⟩ := List.getElem?_eq_some_iff.1 hp
  simp only [tryAll, P.bind_run]
  rw [tryList_drop k length s inp [] hnot, List.drop_eq_getElem_cons hlen,
    tryList_hit _ _ s s' inp rest [] stk' hrun, hstk]
  rfl

theorem tryAll_extra (e : Eol) (length : Int) (f : Fields) (t : List QFeature) (o : OriginV) (r : Registry)
    (name value rest : Bytes)
    (hnot : notNames 11 (padRight 12 name ++ (tr e (addPrefix indent value) ++ (e.bytes ++ rest))) = true)
    (hw : WritableExtra name value = true) (hrest : (sp 12).isPrefixOf rest = false) :
    tryAll length 12 (f, t, o, r) ⟨padRight 12 name ++ (tr e (addPrefix indent value) ++ (e.bytes ++ rest)), []⟩ =
      (.ok (.parsed ({ f with extra := f.extra ++ [(name, value)] }, t, o, r)), ⟨rest, []⟩) := by
  simp only [tryAll, P.bind_run]
  rw [tryList_drop 11 length _ _ [] hnot]
  have : (fieldParsers length 12).drop 11 = [] := by simp [fieldParsers]
  rw [this, tryList_nil]
  have he := fun st => extra_roundtripE e f name value rest st hw hrest
  gsimp [he]

/-- a line that is no field at all (the line end behind CONTIG): skipped -/
theorem tryAll_blank (e : Eol) (length : Int) (s : Sub) (rest : Bytes) :
    tryAll length 12 s ⟨e.bytes ++ rest, []⟩ = (.ok (.skip s), ⟨e.bytes ++ rest, []⟩) := by
  obtain ⟨f, t, o, r⟩ := s
  simp only [tryAll, P.bind_run]
  rw [tryList_drop 11 length _ _ [] (by cases e <;> simp [Eol.bytes, notNames, fieldNames, bs, List.isPrefixOf])]
  have : (fieldParsers length 12).drop 11 = [] := by simp [fieldParsers]
  rw [this, tryList_nil]
  have hw := word_fail isUpper (e.bytes ++ rest) [e.bytes ++ rest] (by
    intro c hc; rcases e.head rest c hc with h | h <;> subst h <;> decide)
  gsimp [extraField, hw]

/-- what follows a section: a field name (upper case) or the terminator `//`, and none of the six
REFERENCE sub-field names -/
def startsField (rest : Bytes) : Bool :=
  (match rest with
   | c :: _ => isUpper c || c == 47
   | [] => false) && refStop rest

theorem startsField_spec (rest : Bytes) (h : startsField rest = true) :
    ∃ c r, rest = c :: r ∧ (isUpper c = true ∨ c = 47) := by
  cases rest with
  | nil => simp [startsField] at h
  | cons c r =>
    simp only [startsField, Bool.and_eq_true, Bool.or_eq_true, beq_iff_eq] at h
    exact ⟨c, r, rfl, h.1⟩

theorem startsField_refStop (rest : Bytes) (h : startsField rest = true) : refStop rest = true := by
  simp only [startsField, Bool.and_eq_true] at h; exact h.2

theorem upper_ne_blank (c : UInt8) (h : isUpper c = true) : c ≠ 32 := by
  rintro rfl
  exact absurd (upper_not_space _ h) (by decide)

theorem upper_ne_slash (c : UInt8) : isUpper c = true → c ≠ 47 := by
  simp only [isUpper, Bool.and_eq_true, decide_eq_true_eq, ne_eq, ← UInt8.toNat_inj, UInt8.le_iff_toNat_le,
    UInt8.toNat_ofNat]
  omega

theorem startsField_not_sp (n : Nat) (hn : 0 < n) (rest : Bytes) (h : startsField rest = true) :
    (sp n).isPrefixOf rest = false := by
  obtain ⟨c, r, rfl, hc⟩ := startsField_spec rest h
  apply sp_prefix_cons n c r _ hn
  rcases hc with hc | rfl
  · exact upper_ne_blank c hc
  · decide

theorem startsField_head (rest : Bytes) (h : startsField rest = true) : rest.head? ≠ some 32 := by
  obtain ⟨c, r, rfl, hc⟩ := startsField_spec rest h
  rcases hc with hc | rfl
  · simpa using upper_ne_blank c hc
  · simp

theorem endMark_upper (c : UInt8) (r : Bytes) (hc : isUpper c = true) :
    endMark ⟨c :: r, []⟩ = (.error .fail, ⟨c :: r, []⟩) := by
  have : (bs "//").isPrefixOf (c :: r) = false := by
    have h47 : c ≠ 47 := upper_ne_slash c hc
    have : ((47 : UInt8) == c) = false := by simpa using fun h => h47 h.symm
    simp [bs, List.isPrefixOf, this]
  gsimp [endMark, lit_fail _ _ _ this]

theorem endMark_eol (e : Eol) (r : Bytes) : endMark ⟨e.bytes ++ r, []⟩ = (.error .fail, ⟨e.bytes ++ r, []⟩) := by
  have : (bs "//").isPrefixOf (e.bytes ++ r) = false := by cases e <;> simp [Eol.bytes, bs, List.isPrefixOf]
  gsimp [endMark, lit_fail _ _ _ this]

theorem endMark_ok (e : Eol) (rest : Bytes) : endMark ⟨bs "//" ++ (e.bytes ++ rest), []⟩ = (.ok (), ⟨rest, []⟩) := by
  gsimp [endMark, lit_ok, eol_okE]

theorem loop_step (length : Int) (k : Nat) (s s' : Sub) (c : UInt8) (txt rest : Bytes) (hc : isUpper c = true)
    (h : tryAll length 12 s ⟨c :: txt, []⟩ = (.ok (.parsed s'), ⟨rest, []⟩)) :
    recordLoop length 12 (k + 1) s ⟨c :: txt, []⟩ = recordLoop length 12 k s' ⟨rest, []⟩ := by
  simp only [recordLoop, P.bind_run, attempt_run, endMark_upper c txt hc, h]

theorem loop_endE (e : Eol) (length : Int) (k : Nat) (s : Sub) (rest : Bytes) :
    recordLoop length 12 (k + 1) s ⟨bs "//" ++ (e.bytes ++ rest), []⟩ = (.ok s, ⟨rest, []⟩) := by
  simp only [recordLoop, P.bind_run, attempt_run, endMark_ok, P.pure_run]

theorem loop_end (length : Int) (k : Nat) (s : Sub) (rest : Bytes) :
    recordLoop length 12 (k + 1) s ⟨bs "//\n" ++ rest, []⟩ = (.ok s, ⟨rest, []⟩) := by
  rw [show bs "//\n" = bs "//" ++ [10] by decide +kernel, List.append_assoc]
  exact loop_endE .lf length k s rest

/-- the line end behind CONTIG: skipped as an empty unknown line (the input goes on) -/
theorem loop_blank (e : Eol) (length : Int) (k : Nat) (s : Sub) (c : UInt8) (rest : Bytes) :
    recordLoop length 12 (k + 1) s ⟨e.bytes ++ c :: rest, []⟩ = recordLoop length 12 k s ⟨c :: rest, []⟩ := by
  have hline := line_okE e [] (c :: rest) [] rfl
  simp only [List.nil_append] at hline
  simp only [recordLoop, P.bind_run, attempt_run, endMark_eol, tryAll_blank, hline, getS,
    List.isEmpty_cons, Bool.false_eq_true, if_false]

end Gts.GenBank
