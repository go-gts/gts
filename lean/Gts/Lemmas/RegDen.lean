/-
  The denotation of regions (`Reg.den`, Gts/Spec/Den.lean): which positions it contains (the leaves' spans, `cover`),
  the residues of a segment by offset from its head, length = number of residues, `Region.Complement`.
  Core Lean only.
-/
import Gts.Spec.Cover
import Gts.Lemmas.Basic
namespace Gts
open Reg

@[simp] theorem leaves_seg (h t : Int) : leaves (seg h t) = [(h, t)] := by simp [leaves]
@[simp] theorem leaves_many (rs : List Reg) : leaves (many rs) = leavesList rs := by simp [leaves]
@[simp] theorem leavesList_nil : leavesList [] = [] := by simp [leavesList]
@[simp] theorem leavesList_cons (r : Reg) (rs : List Reg) :
    leavesList (r :: rs) = leaves r ++ leavesList rs := by simp [leavesList]

theorem leavesList_append (a b : List Reg) : leavesList (a ++ b) = leavesList a ++ leavesList b := by
  induction a with
  | nil => simp
  | cons r rs ih => simp [ih]

theorem exists_mem_fwd {xs : List Int} {x : Int} : (∃ b, (x, b) ∈ fwd xs) ↔ x ∈ xs :=
  ⟨fun ⟨_, h⟩ => (Loc.mem_fwd.mp h).2, fun h => ⟨false, Loc.mem_fwd.mpr ⟨rfl, h⟩⟩⟩

theorem exists_mem_flipDen {d : List Pos} {x : Int} : (∃ b, (x, b) ∈ flipDen d) ↔ ∃ b, (x, b) ∈ d :=
  ⟨fun ⟨b, h⟩ => ⟨!b, Loc.mem_flipDen.mp h⟩, fun ⟨b, h⟩ => ⟨!b, Loc.mem_flipDen.mpr (by rwa [Bool.not_not])⟩⟩

theorem den_seg_iff (h t x : Int) :
    (∃ b, (x, b) ∈ den (seg h t)) ↔ (min h t ≤ x ∧ x < max h t) := by
  simp only [den]
  split <;> simp only [exists_mem_flipDen, exists_mem_fwd, mem_irange] <;> omega

mutual
theorem den_iff_leaves : ∀ (r : Reg) (x : Int),
    (∃ b, (x, b) ∈ den r) ↔ ∃ s ∈ leaves r, min s.1 s.2 ≤ x ∧ x < max s.1 s.2
  | .seg h t, x => by rw [den_seg_iff]; simp
  | .many rs, x => by rw [den, leaves_many]; exact denList_iff_leaves rs x
theorem denList_iff_leaves : ∀ (rs : List Reg) (x : Int),
    (∃ b, (x, b) ∈ denList rs) ↔ ∃ s ∈ leavesList rs, min s.1 s.2 ≤ x ∧ x < max s.1 s.2
  | [], x => by simp [denList]
  | r :: rs, x => by
    simp only [denList, leavesList_cons, List.mem_append, or_and_right, exists_or,
      den_iff_leaves r x, denList_iff_leaves rs x]
end

theorem gabs_eq (x : Int) : gabs x = max x (-x) := by unfold gabs; omega

/-- the residue at offset `i` from the head `h` of a segment, along the segment's direction -/
def Reg.posAt (h : Int) (bwd : Bool) (i : Int) : Pos := if bwd then (h - 1 - i, true) else (h + i, false)

theorem fwd_irange (h s : Int) (n : Nat) : fwd (irange (h + s) n) = (irange s n).map (posAt h false) := by
  rw [Int.add_comm h s, ← irange_map_of_eq s h n (h + ·) (fun x _ _ => Int.add_comm h x)]
  simp [fwd, posAt]

theorem flipDen_fwd_irange (h s : Int) (n : Nat) :
    flipDen (fwd (irange (h - s - n) n)) = (irange s n).map (posAt h true) := by
  induction n generalizing s with
  | zero => rfl
  | succ n ih =>
    have := ih (s + 1)
    rw [show h - (s + 1) - (n : Int) = h - s - ((n + 1 : Nat) : Int) by omega] at this
    rw [← irange_append _ n 1, fwd, List.map_append, ← fwd, flipDen_append, this]
    simp [flipDen, posAt, irange]; omega

/-- the residues between the offsets `lo ≤ hi` from the head of the segment `(h, t)`, as a
segment of the same orientation: the positions at these offsets, in order -/
theorem den_sub (h t lo hi : Int) (hl : lo ≤ hi) :
    den (if t < h then seg (h - lo) (h - hi) else seg (h + lo) (h + hi)) =
      (irange lo (hi - lo).toNat).map (posAt h (decide (t < h))) := by
  split
  · rename_i hth
    simp only [den, hth, decide_true]
    split
    · rw [← flipDen_fwd_irange]; congr 3 <;> omega
    · rw [show (hi - lo).toNat = 0 by omega, show (h - hi - (h - lo)).toNat = 0 by omega]; rfl
  · rename_i hth
    simp only [den, hth, decide_false]
    rw [if_neg (by omega), fwd_irange]; congr 2; omega

theorem den_seg (h t : Int) :
    den (seg h t) = (irange 0 (gabs (t - h)).toNat).map (posAt h (decide (t < h))) := by
  have hg := gabs_eq (t - h)
  rw [← Int.sub_zero (gabs (t - h)), ← den_sub h t 0 _ (by omega)]
  split <;> congr 2 <;> omega

mutual
theorem Cli.den_length : ∀ r : Reg, ((Reg.den r).length : Int) = Reg.len r
  | seg h t => by
    have hg := gabs_eq (t - h)
    rw [den_seg, List.length_map, length_irange, len]; omega
  | many rs => Cli.denList_length rs
theorem Cli.denList_length : ∀ rs : List Reg, ((Reg.denList rs).length : Int) = Reg.lenList rs
  | [] => rfl
  | r :: rs => by
      have h1 := Cli.den_length r
      have h2 := Cli.denList_length rs
      simp only [Reg.denList, Reg.lenList, List.length_append]
      omega
end

mutual
theorem len_nonneg : ∀ r : Reg, 0 ≤ len r
  | seg h t => by rw [len, gabs_eq]; omega
  | many rs => lenList_nonneg rs
theorem lenList_nonneg : ∀ rs : List Reg, 0 ≤ lenList rs
  | [] => Int.le_refl 0
  | r :: rs => by have := len_nonneg r; have := lenList_nonneg rs; rw [lenList]; omega
end

namespace Reg

theorem den_seg_complement (h t : Int) : den (seg t h) = flipDen (den (seg h t)) := by
  rcases Int.lt_trichotomy h t with ht | rfl | ht
  · simp only [den, ht, if_true, show ¬ t < h by omega, if_false]
  · simp [den, fwd]
  · simp only [den, ht, if_true, show ¬ h < t by omega, if_false, flipDen_flipDen]

mutual
/-- `Region.Complement()` denotes the same residues on the other strand, in opposite order -/
theorem den_complement : ∀ r : Reg, den (complement r) = flipDen (den r)
  | seg h t => by simp only [complement]; exact den_seg_complement h t
  | many rs => by
    have := denList_complementRev rs []
    simpa [complement, den, denList] using this
theorem denList_complementRev : ∀ (rs acc : List Reg),
    denList (complementRev rs acc) = flipDen (denList rs) ++ denList acc
  | [], acc => by simp [complementRev, denList]
  | r :: rs, acc => by
    rw [complementRev, denList_complementRev rs (complement r :: acc)]
    simp [denList, den_complement r, flipDen_append, List.append_assoc]
end

end Reg

end Gts
