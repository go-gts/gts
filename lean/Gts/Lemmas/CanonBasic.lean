/-
  Canonical locations (`Loc.canonP`) taken apart: the coordinate clause is a leaf-wise predicate
  (`coordsC`), the structural clauses are `structP`; a `joined` is a fixed point of the `Join`
  reduction exactly when no two neighbouring parts are reduced by `Push` (`irr`): `stableR`
  (Lemmas/CanonJoin.lean).
  Core Lean only.
-/
import Gts.Lemmas.Leafwise
import Gts.Lemmas.LocRoundTrip
import Gts.Spec.CanonGuard
namespace Gts
namespace Loc

theorem beq_refl : ∀ a : Loc, beq a a = true := beq_self
theorem beqList_refl : ∀ a : List Loc, beqList a a = true := beqList_self

/-- `Q` holds for the coordinates `canonP` looks at -/
def leafCoord (Q : Int → Bool) : Loc → Bool
  | between p => Q p
  | point p => Q p
  | ranged s e _ _ => Q s && Q e
  | ambiguous s e => Q s && Q e
  | _ => true

/-- every coordinate of the location satisfies `Q` -/
def coordsC (Q : Int → Bool) (l : Loc) : Bool := allLeaves (leafCoord Q) l
def coordsCList (Q : Int → Bool) (ls : List Loc) : Bool := allLeavesList (leafCoord Q) ls

theorem mergeOK_leafCoord (Q : Int → Bool) : MergeOK (leafCoord Q) := by
  intro vs ve ue v5 v3 u5 u3 h1 h2
  simp only [leafCoord, Bool.and_eq_true] at *
  exact ⟨h1.1, h2.2⟩

theorem coordsC_mono {Q Q' : Int → Bool} (h : ∀ c, Q c = true → Q' c = true) (l : Loc)
    (hl : coordsC Q l = true) : coordsC Q' l = true :=
  allLeaves_mono (fun u hu => by
    cases u <;> simp only [leafCoord, Bool.and_eq_true] at * <;>
      first | exact h _ hu | exact ⟨h _ hu.1, h _ hu.2⟩ | rfl) l hl

theorem leafCoord_and (Q Q' : Int → Bool) (u : Loc) :
    leafCoord (fun c => Q c && Q' c) u = (leafCoord Q u && leafCoord Q' u) := by
  cases u <;> first | rfl | simp only [leafCoord, Bool.and_assoc, Bool.and_left_comm]

theorem coordsC_and (Q Q' : Int → Bool) (l : Loc) (h1 : coordsC Q l = true) (h2 : coordsC Q' l = true) :
    coordsC (fun c => Q c && Q' c) l = true := by
  unfold coordsC at *
  rw [funext (leafCoord_and Q Q'), allLeaves_and_eq, h1, h2]
  rfl

mutual
/-- the structural clauses of `canonP` (everything but the coordinate range) -/
def structP : Loc → Bool
  | joined ls =>
      structPList ls && decide (2 ≤ ls.length) && !ls.any isJoinedC && (join ls).beq (joined ls)
  | ordered ls => structPList ls && decide (2 ≤ ls.length) && !ls.any isOrderedC
  | compl l => structP l && !isComplC l
  | _ => true
def structPList : List Loc → Bool
  | [] => true
  | l :: ls => structP l && structPList ls
end

@[simp] theorem structPList_nil : structPList [] = true := by simp [structPList]
@[simp] theorem structPList_cons (l : Loc) (ls : List Loc) :
    structPList (l :: ls) = (structP l && structPList ls) := by simp [structPList]

theorem structPList_iff (ls : List Loc) : structPList ls = true ↔ ∀ l ∈ ls, structP l = true := by
  induction ls with
  | nil => simp
  | cons a r ih => simp [ih]

theorem structPList_append (a b : List Loc) : structPList (a ++ b) = (structPList a && structPList b) := by
  induction a with
  | nil => simp
  | cons x xs ih => simp [ih, Bool.and_assoc]

mutual
theorem canonP_iff : ∀ (l : Loc), canonP l = true ↔ (coordsC coordOk l = true ∧ structP l = true)
  | between _ | point _ | ranged _ _ _ _ | ambiguous _ _ => by simp [canonP, coordsC, leafCoord, structP]
  | joined ls => by
      have := canonPList_iff ls
      simp only [canonP, structP, coordsC, allLeaves_joined, Bool.and_eq_true, this, coordsCList, and_assoc]
  | ordered ls => by
      have := canonPList_iff ls
      simp only [canonP, structP, coordsC, allLeaves_ordered, Bool.and_eq_true, this, coordsCList, and_assoc]
  | compl l => by
      have := canonP_iff l
      simp only [canonP, structP, coordsC, allLeaves_compl, Bool.and_eq_true, this, and_assoc]
theorem canonPList_iff : ∀ (ls : List Loc),
    canonPList ls = true ↔ (coordsCList coordOk ls = true ∧ structPList ls = true)
  | [] => by simp [canonPList, coordsCList]
  | l :: ls => by
      have h1 := canonP_iff l
      have h2 := canonPList_iff ls
      simp only [canonPList, coordsCList, allLeavesList_cons, structPList_cons, Bool.and_eq_true, h1, h2,
        coordsC, and_assoc, and_left_comm]
end

/-! ### `irr`: the pairs `Push` leaves alone -/

/-- `irr w ·` looks at a `Ranged` through its start only … -/
theorem irr_ranged_start (w : Loc) (s e e' : Int) (a b a' b' : Bool) :
    irr w (ranged s e a b) = irr w (ranged s e' a' b') := by
  cases w <;> rfl

/-- … and treats it like the `Point` at its start -/
theorem irr_point_ranged (w : Loc) (u e : Int) (a b : Bool) : irr w (point u) = irr w (ranged u e a b) := by
  cases w <;> rfl

/-- a replaced between-site: whatever stood in front of it stands as well in front of the point
(or the range starting there) that replaces it, unless it is that very point (K3) -/
theorem irr_between_point (w : Loc) (u : Int) (h : irr w (between u) = true)
    (hk : ∀ p, w = point p → p ≠ u) : irr w (point u) = true := by
  cases w <;> simp_all [irr]

theorem irr_not_compl_right (w x : Loc) (h : isComplC x = false) (hw : isComplC w = true) : irr w x = true := by
  cases w <;> cases x <;> first | rfl | (cases h; done) | (cases hw; done)

theorem irr_compl_left (w x : Loc) (h : isComplC w = false) (hx : isComplC x = true) : irr w x = true := by
  cases w <;> cases x <;> first | rfl | (cases h; done) | (cases hx; done)

theorem irr_compl_compl (w x : Loc) (h : irr w x = true) : (isComplC w && isComplC x) = false := by
  cases w <;> cases x <;> first | rfl | cases h

theorem pushW_of_not_joined (low : List Loc → Loc → Bool → List Loc) (racc : List Loc) (x : Loc) (f : Bool)
    (h : isJoinedC x = false) : pushW low racc x f = pushOne low racc x f := by
  cases x <;> simp_all [pushW, isJoinedC]

/-- `racc` is empty or `Push` leaves its last element and `x` alone -/
def irrHead : List Loc → Loc → Bool
  | [], _ => true
  | v :: _, x => irr v x

theorem pushOne_replaced (low : List Loc → Loc → Bool → List Loc) (v x : Loc) (rest : List Loc) (f : Bool) :
    pushOne low (v :: rest) x f = x :: v :: rest ∨
    ∃ u, pushOne low (v :: rest) x f = u :: rest ∧ isJoinedC u = false ∧
      isComplC u = isComplC v ∧ isComplC u = isComplC x := by
  rcases pushOne_cons low v x rest f with e | ⟨e, h⟩ | ⟨e, h⟩ | ⟨_, _, _, _, _, _, _, rfl, rfl, _, e⟩ |
      ⟨_, _, rfl, rfl, e⟩
  · exact .inl e
  · rcases h with ⟨_, rfl, rfl⟩ | ⟨_, rfl, rfl⟩ | ⟨_, _, _, _, rfl, rfl⟩ | ⟨_, rfl, rfl⟩ | ⟨_, _, _, _, rfl, rfl⟩ <;>
      exact .inr ⟨_, e, rfl, rfl, rfl⟩
  · rcases h with ⟨_, rfl, rfl⟩ | ⟨_, _, _, _, rfl, rfl⟩ | ⟨_, _, _, _, rfl, rfl⟩ <;>
      exact .inr ⟨_, e, rfl, rfl, rfl⟩
  · exact .inr ⟨_, e, rfl, rfl, rfl⟩
  · exact .inr ⟨_, e, rfl, rfl, rfl⟩

theorem pushOne_irr (low : List Loc → Loc → Bool → List Loc) (racc : List Loc) (x : Loc)
    (h : irrHead racc x = true) : pushOne low racc x true = x :: racc := by
  cases racc with
  | nil => rfl
  | cons v rest =>
    exact pushOne_append low (fun hf => by cases hf <;> simp [irrHead, irr] at h) rest

theorem pushOne_ne_nil (low : List Loc → Loc → Bool → List Loc) (racc : List Loc) (x : Loc) (f : Bool) :
    pushOne low racc x f ≠ [] := (pushOne_length low racc x f).2.2

theorem pushOne_length_le (low : List Loc → Loc → Bool → List Loc) (racc : List Loc) (x : Loc) :
    (pushOne low racc x true).length ≤ racc.length + 1 := (pushOne_length low racc x true).2.1

theorem pushOne_length_fired (low : List Loc → Loc → Bool → List Loc) (v : Loc) (rest : List Loc) (x : Loc)
    (h : irr v x = false) : (pushOne low (v :: rest) x true).length = rest.length + 1 := by
  -- no rule for the pair; or a rule whose test holds; or the complemented / complemented rule
  cases v <;> cases x <;> first
    | (cases h; done)
    | (simp only [irr, bne_eq_false_iff_eq, beq_iff_eq] at h
       simp only [pushOne, h, if_true, Bool.or_true, Bool.true_and, beq_self_eq_true, List.length_cons])
    | rfl

theorem flatJ_of_not_joined (x : Loc) (h : isJoinedC x = false) : flatJ x = [x] := by
  cases x <;> simp_all [flatJ, isJoinedC]

theorem flatJList_of_none : ∀ ls : List Loc, ls.any isJoinedC = false → flatJList ls = ls
  | [], _ => by simp [flatJList]
  | l :: ls, h => by
      simp only [List.any_cons, Bool.or_eq_false_iff] at h
      simp [flatJList, flatJ_of_not_joined l h.1, flatJList_of_none ls h.2]

theorem flatJList_eq_flatMap : ∀ (xs : List Loc), flatJList xs = xs.flatMap flatJ
  | [] => rfl
  | x :: xs => by rw [flatJList, List.flatMap_cons, flatJList_eq_flatMap xs]

theorem mem_flatJList {u : Loc} {xs : List Loc} : u ∈ flatJList xs ↔ ∃ x ∈ xs, u ∈ flatJ x := by
  rw [flatJList_eq_flatMap, List.mem_flatMap]

theorem flatJList_append (a b : List Loc) : flatJList (a ++ b) = flatJList a ++ flatJList b := by
  simp only [flatJList_eq_flatMap, List.flatMap_append]

mutual
theorem pushW_flat (low : List Loc → Loc → Bool → List Loc) (f : Bool) :
    ∀ (x : Loc) (racc : List Loc), pushW low racc x f = (flatJ x).foldl (fun acc y => pushOne low acc y f) racc
  | joined parts, racc => by simpa [pushW, flatJ] using pushListW_flat low f parts racc
  | between _, racc | point _, racc | ranged _ _ _ _, racc | ambiguous _ _, racc | ordered _, racc
  | compl _, racc => by simp [pushW, flatJ]
theorem pushListW_flat (low : List Loc → Loc → Bool → List Loc) (f : Bool) :
    ∀ (ps : List Loc) (racc : List Loc),
      pushListW low racc ps f = (flatJList ps).foldl (fun acc y => pushOne low acc y f) racc
  | [], racc => by simp [pushListW, flatJList]
  | p :: ps, racc => by
      simp only [pushListW, flatJList, List.foldl_append]
      rw [pushW_flat low f p racc, pushListW_flat low f ps]
end

/-- the one-element push of the executable model (`pushFuel` levels) -/
def push1 (racc : List Loc) (y : Loc) : List Loc := pushOne (pushD (pushFuel - 1)) racc y true

theorem push_eq_push1 (racc : List Loc) (y : Loc) (h : isJoinedC y = false) : push racc y true = push1 racc y := by
  show pushW (pushD (pushFuel - 1)) racc y true = _
  rw [pushW_of_not_joined _ _ _ _ h]; rfl

theorem pushAll_flat (racc xs : List Loc) :
    pushAll racc xs true = (flatJList xs).foldl push1 racc := by
  show xs.foldl (fun acc y => pushW (pushD (pushFuel - 1)) acc y true) racc = _
  induction xs generalizing racc with
  | nil => simp [flatJList]
  | cons x xs ih =>
    simp only [List.foldl_cons, flatJList, List.foldl_append]
    rw [ih, pushW_flat]; rfl

/-- `Join` is the fold of the one-element push over the flattened argument list -/
theorem join_flat (xs : List Loc) : join xs = ofParts ((flatJList xs).foldl push1 []).reverse := by
  show ofParts (pushAll [] xs true).reverse = _
  rw [pushAll_flat]

end Loc
end Gts
