/-
  C01 helper lemma: the ORIGIN field as `GenBank.String` writes it, read by
  `makeGenbankOriginParser(length)` — on top of the C16 lemmas about the block itself
  (`Gts.Origin`: the formatter's stream, its length, the fast validator).  Core Lean only.
-/
import Gts.Lemmas.Origin
import Gts.Lemmas.GbFields
namespace Gts.GenBank
open Gts.Pars

/-- **ORIGIN** round trip: the header line and the block written for printable residues (fewer
than 10^9), followed by text that does not start with a blank, is read on the fast path; the
result is the block itself (the reader keeps the formatted buffer), the stack is cleared. -/
theorem origin_roundtrip (p rest : Bytes) (stk : List Bytes) (hp : ∀ c ∈ p, Origin.isBase c = true)
    (hlen : p.length < 10 ^ 9) (hrest : rest.head? ≠ some 32) :
    originField (p.length : Int) 12 ⟨bs "ORIGIN      \n" ++ (Origin.originStream p ++ rest), stk⟩ =
      (.ok (Origin.originStream p), ⟨rest, []⟩) := by
  have e : bs "ORIGIN      \n" ++ (Origin.originStream p ++ rest) =
      bs "ORIGIN" ++ (sp (12 - (bs "ORIGIN").length) ++ ([] ++ 10 :: (Origin.originStream p ++ rest))) := by
    show _ = bs "ORIGIN" ++ (sp 6 ++ _)
    simp [bs, sp]
  rw [e]
  have hn := fun r s => fieldName_ok (bs "ORIGIN") 12 r s (by decide)
  have hline := fun s => line_ok [] (Origin.originStream p ++ rest) s rfl
  have hl := Origin.originStream_length p hlen
  have hn0 : ¬ Origin.toOriginLength (p.length : Int) < 0 := by
    rw [Origin.toOriginLength_nat]; omega
  have htn : (Origin.toOriginLength (p.length : Int)).toNat = (Origin.originStream p).length := by
    rw [Origin.toOriginLength_nat, hl]; simp
  have hv := Origin.validateOrigin_originStream p hp
  have hg : ¬ ((p.length : Int) > 1000000020) := by omega
  simp only [originField, P.bind_run, hn, hline, Pars.clear, getS, setS, P.pure_run, hg, hn0, if_false, htn,
    List.length_append, show ¬ ((Origin.originStream p).length + rest.length < (Origin.originStream p).length) by omega,
    List.take_left, hv, advanceN, List.drop_left, attempt_next]

end Gts.GenBank
