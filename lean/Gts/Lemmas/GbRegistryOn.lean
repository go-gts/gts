/-
  C01: the registry enters the domain of the round trip, the record that is read back and the written
  text only through `GetQualifierType` (`Registry.typeOf`) of the qualifier names of the table.  Two
  registries that answer alike on those names (`AgreeOn`) are interchangeable (`…_on`), and learning
  keeps them so.  The test vectors use this to be evaluated under the seven names of `vecReg` in place
  of the hundred of `Registry.default`, which is looked at once (`default_vecReg`).
-/
import Gts.Lemmas.GbReadWrite
import Gts.Lemmas.GbFixed
import Gts.Lemmas.GbProps
import Gts.Lemmas.GbCrlfReadWrite
namespace Gts.GenBank
open Gts.Pars

theorem all_congr_mem {α} {p q : α → Bool} {l : List α} (h : ∀ x ∈ l, p x = q x) : l.all p = l.all q := by
  induction l with
  | nil => rfl
  | cons x l ih => simp only [List.all_cons, h x List.mem_cons_self, ih fun y hy => h y (List.mem_cons_of_mem _ hy)]

/-- the names `GetQualifierType` is asked about when the table is written or read -/
def tableNames (fs : List QFeature) : List Bytes := fs.flatMap fun f => (propsItems f.props).map (·.1)

/-- two registries answer `GetQualifierType` alike on the names `ns` -/
def AgreeOn (ns : List Bytes) (a b : Registry) : Prop := ∀ n ∈ ns, a.typeOf n = b.typeOf n

theorem AgreeOn.sub {ms ns : List Bytes} {a b : Registry} (h : AgreeOn ms a b) (hs : ns.all (· ∈ ms) = true) :
    AgreeOn ns a b := fun n hn => h n (by simpa using List.all_eq_true.mp hs n hn)

theorem AgreeOn.item {fs : List QFeature} {a b : Registry} (h : AgreeOn (tableNames fs) a b) {f : QFeature}
    (hf : f ∈ fs) {kv : Bytes × Bytes} (hkv : kv ∈ propsItems f.props) : a.typeOf kv.1 = b.typeOf kv.1 :=
  h _ (List.mem_flatMap.mpr ⟨f, hf, List.mem_map.mpr ⟨kv, hkv, rfl⟩⟩)

theorem WritableQualifier_on {a b : Registry} {n : Bytes} (h : a.typeOf n = b.typeOf n) (d : Nat) (v : Bytes) :
    WritableQualifier a d n v = WritableQualifier b d n v := by simp only [WritableQualifier, h]

theorem tableWritable_on {fs : List QFeature} {a b : Registry} (h : AgreeOn (tableNames fs) a b) :
    tableWritable a fs = tableWritable b fs :=
  all_congr_mem fun f hf => by
    simp only [featOk]
    rw [all_congr_mem fun kv hkv => WritableQualifier_on (h.item hf hkv) 21 kv.2]

theorem tableFaithful_on {fs : List QFeature} {a b : Registry} (h : AgreeOn (tableNames fs) a b) :
    tableFaithful a fs = tableFaithful b fs := by
  simp only [tableFaithful, tableWritable_on h]

theorem quotedOneLine_on {fs : List QFeature} {a b : Registry} (h : AgreeOn (tableNames fs) a b) :
    quotedOneLine a fs = quotedOneLine b fs :=
  all_congr_mem fun f hf => all_congr_mem fun kv hkv => by rw [h.item hf hkv]

theorem Writable_on {r : Record} {a b : Registry} (h : AgreeOn (tableNames r.table) a b) (p : Bytes) :
    Writable a r p = Writable b r p := by
  simp only [Writable, tableWritable_on h]

theorem crlfValue_on {a b : Registry} {n : Bytes} (h : a.typeOf n = b.typeOf n) (v : Bytes) :
    crlfValue a n v = crlfValue b n v := by simp only [crlfValue, h]

theorem readFeature_on {fs : List QFeature} {a b : Registry} (h : AgreeOn (tableNames fs) a b) :
    fs.map (readFeature a) = fs.map (readFeature b) :=
  List.map_congr_left fun f hf => by
    have : readItems a f.props = readItems b f.props :=
      List.map_congr_left fun kv hkv => by simp only [readValue, h.item hf hkv]
    simp only [readFeature, this]

theorem readFeatureC_on {fs : List QFeature} {a b : Registry} (h : AgreeOn (tableNames fs) a b) :
    fs.map (readFeatureC a) = fs.map (readFeatureC b) :=
  List.map_congr_left fun f hf => by
    have : readItemsC a f.props = readItemsC b f.props :=
      List.map_congr_left fun kv hkv => by simp only [readValue, crlfValue, h.item hf hkv]
    simp only [readFeatureC, this]

theorem readBack_on {r : Record} {a b : Registry} (h : AgreeOn (tableNames r.table) a b) (p : Bytes) :
    readBack a r p = readBack b r p := by simp only [readBack, readFeature_on h]

theorem readBackC_on {r : Record} {a b : Registry} (h : AgreeOn (tableNames r.table) a b) (p : Bytes) :
    readBackC a r p = readBackC b r p := by simp only [readBackC, readFeatureC_on h]

theorem qualifierFmt_on {a b : Registry} {n : Bytes} (h : a.typeOf n = b.typeOf n) (pre v : Bytes) :
    qualifierFmt a pre n v = qualifierFmt b pre n v := by simp only [qualifierFmt, qualifierText, h]

theorem write_on {r : Record} {a b : Registry} (h : AgreeOn (tableNames r.table) a b) : write a r = write b r := by
  refine write_congr b a r r rfl (fun _ => rfl) rfl rfl rfl ?_ fun _ => rfl
  unfold tableText
  simpa only [List.map_id] using tableTextD_map b a _ id r.table fun f hf => by
    simp only [featureText, id]
    rw [flatMap_congr' _ _ _ fun kv hkv => by rw [qualifierFmt_on (h.item hf hkv)]]

/-- `QualifierParser` asks the registry for the type of the name it has read and for nothing else:
two registries that give a registered name the same type read its qualifier alike, and each
returns itself -/
theorem qualifier_known_on {a b : Registry} (pre : Bytes) (st : PS) (n : Bytes)
    (hn : (qualifierName pre st).1 = .ok n) (h : a.typeOf n = b.typeOf n) (hk : b.typeOf n ≠ .unknown) :
    qualifier pre a st = ((qualifier pre b st).1.map fun x => (x.1, a), (qualifier pre b st).2) := by
  rcases hq : qualifierName pre st with ⟨r, st'⟩
  simp only [hq] at hn
  subst hn
  simp only [qualifier, P.bind_run, hq, h]
  cases ht : b.typeOf n with
  | unknown => exact absurd ht hk
  | quoted => simp only [P.bind_run, P.pure_run]; cases quotedValue pre st' with | mk r s => cases r <;> rfl
  | literal => simp only [P.bind_run, P.pure_run]; cases literalValue pre st' with | mk r s => cases r <;> rfl
  | toggle => simp only [P.bind_run, P.pure_run]; cases eol st' with | mk r s => cases r <;> rfl

theorem AgreeOn.learn {ns : List Bytes} {a b : Registry} (h : AgreeOn ns a b) {n : Bytes} (hn : n ∈ ns) :
    AgreeOn ns (learn a n) (learn b n) := by
  intro m hm
  unfold GenBank.learn
  rw [h n hn]
  split
  · simp only [typeOf_addQuoted, h m hm]
  · exact h m hm

theorem AgreeOn.learnAll {ns : List Bytes} {a b : Registry} (items : List (Bytes × Bytes)) (h : AgreeOn ns a b)
    (hs : ∀ kv ∈ items, kv.1 ∈ ns) : AgreeOn ns (learnAll a items) (learnAll b items) := by
  induction items generalizing a b with
  | nil => exact h
  | cons kv items ih =>
    exact ih (h.learn (hs kv List.mem_cons_self)) fun x hx => hs x (List.mem_cons_of_mem _ hx)

theorem AgreeOn.learnTable {ns : List Bytes} {a b : Registry} (fs : List QFeature) (h : AgreeOn ns a b)
    (hs : (tableNames fs).all (· ∈ ns) = true) : AgreeOn ns (learnTable a fs) (learnTable b fs) := by
  have hs' : ∀ f ∈ fs, ∀ kv ∈ propsItems f.props, kv.1 ∈ ns := fun f hf kv hkv => by
    simpa using List.all_eq_true.mp hs kv.1 (List.mem_flatMap.mpr ⟨f, hf, List.mem_map.mpr ⟨kv, hkv, rfl⟩⟩)
  clear hs
  induction fs generalizing a b with
  | nil => exact h
  | cons f fs ih =>
    exact ih (h.learnAll _ (hs' f List.mem_cons_self)) fun g hg => hs' g (List.mem_cons_of_mem _ hg)

theorem AgreeOn.learnStream {ns : List Bytes} {a b : Registry} (rs : List Record) (h : AgreeOn ns a b)
    (hs : ∀ r ∈ rs, (tableNames r.table).all (· ∈ ns) = true) : AgreeOn ns (learnStream a rs) (learnStream b rs) := by
  induction rs generalizing a b with
  | nil => exact h
  | cons r rs ih => exact ih (h.learnTable _ (hs r List.mem_cons_self)) fun x hx => hs x (List.mem_cons_of_mem _ hx)

/-- the registered names the test vectors use, with their types in `Registry.default` -/
def vecReg : Registry :=
  ⟨namesOf ["note", "organism", "gene"], namesOf ["codon_start", "transl_except"], namesOf ["focus", "pseudo"]⟩

/-- every qualifier name of the test vectors: those of `vecReg` and three that are not registered -/
def vecNames : List Bytes :=
  namesOf ["note", "organism", "gene", "codon_start", "transl_except", "focus", "pseudo", "my_tag", "zzz", "other_tag"]

/-- the one evaluation that walks through `Registry.default` -/
theorem default_vecReg : AgreeOn vecNames Registry.default vecReg := by
  unfold AgreeOn
  decide +kernel

end Gts.GenBank
