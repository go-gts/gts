/-
  C07, "never hangs", second part: the fuelled loops of the GenBank reader model that are PURE
  functions of bytes (no parser state):

  * `splitOn` (`strings.Split` behind `FlatFileSplit` and `AsDate`, non-empty separator): at least
    one byte per step;
  * `stripContOld` (the in-place loop of `quotedQualifierParser` BEFORE 2612fae, the old reading; the
    loop of today is a counted loop and has no fuel): every round deletes the prefix, so the text
    gets shorter and the loop ends by its own condition — for a NON-EMPTY prefix.  With the empty
    prefix the old Go loop did not end and the old model stops with the loop condition still true
    (`stripContOld_empty_prefix_steps`).  Through `stripCont_onepass_eq` these are statements about
    the value of today's loop (`stripCont_exits`);
  * the counter loops of the ORIGIN reader (`walkChars`, `walkGroups`, `validateLines`, the reader's
    own copy of `slowLines`): `for k < 10`, `for j < 60; j += 10`, `for i < length; i += 60`;
  * `digitsAux` and `natDigitsF` (the models of `fmt.Sprintf("%9d", ·)` inside `walkLine` and of
    `strconv.Itoa` in the REFERENCE parser; library calls, listed for completeness).

  The `_fuel` statements have the shape "two fuels above the bound give the same value".
-/
import Gts.Lemmas.GbSafeOrigin
import Gts.Lemmas.GbStripOnePass
namespace Gts.GenBank
open Gts.Pars

theorem splitOn_fuel (sep : Bytes) (hsep : sep ≠ []) : ∀ (f f' : Nat) (cur s : Bytes), s.length < f → s.length < f' →
    splitOn sep f cur s = splitOn sep f' cur s
  | 0, _, _, _, h, _ => absurd h (Nat.not_lt_zero _)
  | _ + 1, 0, _, _, _, h => absurd h (Nat.not_lt_zero _)
  | f + 1, f' + 1, cur, [], _, _ => by rw [splitOn, splitOn]
  | f + 1, f' + 1, cur, c :: s, hf, hf' => by
    rw [splitOn, splitOn]
    simp only [List.length_cons] at hf hf'
    have hp : 0 < sep.length := List.length_pos_iff.mpr hsep
    split
    · rw [splitOn_fuel sep hsep f f' [] ((c :: s).drop sep.length)]
      · simp only [List.length_drop, List.length_cons]; omega
      · simp only [List.length_drop, List.length_cons]; omega
    · exact splitOn_fuel sep hsep f f' (c :: cur) s (by omega) (by omega)

theorem split_fuel (sep s : Bytes) (hsep : sep ≠ []) (m : Nat) (hm : s.length + 1 ≤ m) :
    splitOn sep m [] s = split sep s :=
  splitOn_fuel sep hsep m (s.length + 1) [] s (by omega) (by omega)

/-- a round of the old loop removes `len(prefix) ≥ 1` bytes -/
theorem oldRound_shorter (pre : Bytes) (hpre : pre ≠ []) (t : Bytes) (i : Nat)
    (h : findSub (10 :: pre) t 0 = some i) :
    (t.take (i + 1) ++ t.drop (i + 1 + pre.length)).length < t.length := by
  have hb := findSub_bound (10 :: pre) t 0 i h
  have hp : 0 < pre.length := List.length_pos_iff.mpr hpre
  simp only [List.length_cons, List.length_append, List.length_take, List.length_drop] at hb ⊢
  omega

theorem stripContOld_nil (pre : Bytes) (f : Nat) : stripContOld pre f [] = [] :=
  stripContOld_done pre f [] fun h => nomatch List.eq_nil_of_infix_nil h

/-- (the loop before 2612fae) every round of the loop removes `len(prefix) ≥ 1` bytes: with at least as much fuel as bytes
the text no longer depends on the fuel -/
theorem stripContOld_fuel (pre : Bytes) (hpre : pre ≠ []) : ∀ (f f' : Nat) (t : Bytes),
    t.length ≤ f → t.length ≤ f' → stripContOld pre f t = stripContOld pre f' t
  | 0, _, t, h, _ => by
    rw [List.length_eq_zero_iff.mp (Nat.le_zero.mp h), stripContOld_nil, stripContOld_nil]
  | _, 0, t, _, h => by
    rw [List.length_eq_zero_iff.mp (Nat.le_zero.mp h), stripContOld_nil, stripContOld_nil]
  | f + 1, f' + 1, t, hf, hf' => by
    rw [stripContOld, stripContOld]
    cases hfs : findSub (10 :: pre) t 0 with
    | none => rfl
    | some i =>
      have := oldRound_shorter pre hpre t i hfs
      exact stripContOld_fuel pre hpre f f' _ (by omega) (by omega)

/-- … and the loop has ENDED BY ITS OWN CONDITION: in the value returned `"\n" ++ prefix` does not
occur any more (`bytes.Index(token, p) < 0`) -/
theorem stripContOld_exits (pre : Bytes) (hpre : pre ≠ []) : ∀ (f : Nat) (t : Bytes), t.length ≤ f →
    findSub (10 :: pre) (stripContOld pre f t) 0 = none
  | 0, t, h => by
    rw [List.length_eq_zero_iff.mp (Nat.le_zero.mp h), stripContOld_nil]
    rfl
  | f + 1, t, hf => by
    rw [stripContOld]
    cases hfs : findSub (10 :: pre) t 0 with
    | none => exact hfs
    | some i =>
      have := oldRound_shorter pre hpre t i hfs
      exact stripContOld_exits pre hpre f _ (by omega)

/-- with the EMPTY prefix the loop of the Go code before 2612fae never ended (`"\n"` is found again and again, nothing
is deleted): the model returns a text that begins with a line feed unchanged for EVERY fuel, with the
loop condition still true — of the fuelled loops modelled for the reader this is the one whose fuel stands for a hang (today's loop
returns the token unchanged: `stripCont_nil`).  It could not be reached from `INSDCTableParser("")`: the prefix is the indent `pre + len(key) + pst ≥ 1` of the first
key line (`firstKeyline_key`, Gts/Lemmas/GbFuel2Agree.lean). -/
theorem stripContOld_empty_prefix_steps : ∀ (f : Nat) (t : Bytes), stripContOld [] f (10 :: t) = 10 :: t
  | 0, _ => rfl
  | f + 1, t => by
    rw [stripContOld]
    have : findSub [10] (10 :: t) 0 = some 0 := by
      unfold findSub; simp
    rw [this]
    exact stripContOld_empty_prefix_steps f t

/-- THE VALUE OF TODAY'S LOOP holds no `"\n" ++ prefix` any more (non-empty prefix): it is the value
of the old loop run to its end (`stripCont_onepass_eq`, `stripContOld_exits`) -/
theorem stripCont_exits (pre : Bytes) (hpre : pre ≠ []) (t : Bytes) :
    findSub (10 :: pre) (stripCont pre t) 0 = none := by
  rw [stripCont_onepass_eq pre hpre t t.length (Nat.le_refl _)]
  exact stripContOld_exits pre hpre t.length t (Nat.le_refl _)

/-! ### the counter loops of the ORIGIN reader

A fuel that covers the trip count from `k` covers it from the next counter value with one unit less, whether
or not the loop goes on: the induction hypothesis holds at the next counter value for every argument and is used as
a rewrite rule under the body, which is not taken apart. -/

theorem walkChars_fuel (oob : Err) (length : Int) (ij : Nat) :
    ∀ (f f' k : Nat) (rest : Bytes), 10 ≤ k + f → 10 ≤ k + f' →
      Origin.walkChars oob length ij f k rest = Origin.walkChars oob length ij f' k rest
  | 0, 0, _, _, _, _ => rfl
  | 0, f' + 1, k, rest, h, _ => by
    simp only [Origin.walkChars]; rw [if_neg (by omega)]
  | f + 1, 0, k, rest, _, h => by
    simp only [Origin.walkChars]; rw [if_neg (by omega)]
  | f + 1, f' + 1, k, rest, h, h' => by
    simp only [Origin.walkChars, fun r => walkChars_fuel oob length ij f f' (k + 1) r (by omega) (by omega)]

theorem walkGroups_fuel (oob : Err) (length : Int) (i : Nat) :
    ∀ (f f' j : Nat) (rest : Bytes), 60 ≤ j + 10 * f → 60 ≤ j + 10 * f' →
      Origin.walkGroups oob length i f j rest = Origin.walkGroups oob length i f' j rest
  | 0, 0, _, _, _, _ => rfl
  | 0, f' + 1, j, rest, h, _ => by
    simp only [Origin.walkGroups]; rw [if_neg (by omega)]
  | f + 1, 0, j, rest, _, h => by
    simp only [Origin.walkGroups]; rw [if_neg (by omega)]
  | f + 1, f' + 1, j, rest, h, h' => by
    simp only [Origin.walkGroups, fun r => walkGroups_fuel oob length i f f' (j + 10) r (by omega) (by omega)]

theorem validateLines_fuel (length : Int) :
    ∀ (f f' i : Nat) (rest : Bytes), length ≤ (i : Int) + 60 * (f : Int) →
      length ≤ (i : Int) + 60 * (f' : Int) →
      Origin.validateLines length f i rest = Origin.validateLines length f' i rest
  | 0, 0, _, _, _, _ => rfl
  | 0, f' + 1, i, rest, h, _ => by
    simp only [Origin.validateLines]; rw [if_neg (by omega)]
  | f + 1, 0, i, rest, _, h => by
    simp only [Origin.validateLines]; rw [if_neg (by omega)]
  | f + 1, f' + 1, i, rest, h, h' => by
    simp only [Origin.validateLines, fun r => validateLines_fuel length f f' (i + 60) r (by omega) (by omega)]

theorem slowLines_fuel (length : Int) (cap : Nat) :
    ∀ (f f' i : Nat) (st acc : Bytes), length ≤ (i : Int) + 60 * (f : Int) →
      length ≤ (i : Int) + 60 * (f' : Int) →
      slowLines length cap f i st acc = slowLines length cap f' i st acc
  | 0, 0, _, _, _, _, _ => rfl
  | 0, f' + 1, i, st, acc, h, _ => by
    simp only [slowLines]; rw [if_neg (by omega)]
  | f + 1, 0, i, st, acc, _, h => by
    simp only [slowLines]; rw [if_neg (by omega)]
  | f + 1, f' + 1, i, st, acc, h, h' => by
    simp only [slowLines, fun st acc => slowLines_fuel length cap f f' (i + 60) st acc (by omega) (by omega)]

theorem digitsAux_fuel : ∀ (f f' n : Nat), n < f → n < f' →
    Origin.digitsAux f n = Origin.digitsAux f' n
  | 0, _, _, h, _ => absurd h (Nat.not_lt_zero _)
  | _ + 1, 0, _, _, h => absurd h (Nat.not_lt_zero _)
  | f + 1, f' + 1, n, h, h' => by
    rw [Origin.digitsAux, Origin.digitsAux]
    split
    · rfl
    · rw [digitsAux_fuel f f' (n / 10) (by omega) (by omega)]

theorem natDigitsF_fuel : ∀ (f f' n : Nat), n < f → n < f' → natDigitsF f n = natDigitsF f' n
  | 0, _, _, h, _ => absurd h (Nat.not_lt_zero _)
  | _ + 1, 0, _, _, h => absurd h (Nat.not_lt_zero _)
  | f + 1, f' + 1, n, h, h' => by
    rw [natDigitsF, natDigitsF]
    split
    · rfl
    · rw [natDigitsF_fuel f f' (n / 10) (by omega) (by omega)]

end Gts.GenBank
