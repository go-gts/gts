/-
  Canonical locations under `Expand`, `Shift`, `Reverse`, `Normalize`: each is a `LocHom`
  (`Gts/Lemmas/CanonHom.lean`), so the structural clauses of `canonP` survive unless the K3 shape
  arises in one of the `Join`s (`…K3`, `Gts/Spec/CanonGuard.lean`); the coordinate clause survives
  under the natural bounds.  Core Lean only.
-/
import Gts.Lemmas.CanonHom
import Gts.Lemmas.Contig
namespace Gts
namespace Loc

theorem expandK3List_eq_any (i n : Int) : ∀ ls : List Loc, expandK3List ls i n = ls.any (fun l => expandK3 l i n)
  | [] => rfl
  | l :: ls => by simp [expandK3List, expandK3List_eq_any i n ls]
theorem shiftK3List_eq_any (i n : Int) : ∀ ls : List Loc, shiftK3List ls i n = ls.any (fun l => shiftK3 l i n)
  | [] => rfl
  | l :: ls => by simp [shiftK3List, shiftK3List_eq_any i n ls]
theorem reverseK3List_eq_any (L : Int) : ∀ ls : List Loc, reverseK3List ls L = ls.any (fun l => reverseK3 l L)
  | [] => rfl
  | l :: ls => by simp [reverseK3List, reverseK3List_eq_any L ls]
theorem normalizeK3List_eq_any (L : Int) : ∀ ls : List Loc, normalizeK3List ls L = ls.any (fun l => normalizeK3 l L)
  | [] => rfl
  | l :: ls => by simp [normalizeK3List, normalizeK3List_eq_any L ls]

theorem leaf_ok (y : Loc) (h : isLeafC y = true) : structP y = true ∧ plainOut y = true := by
  cases y <;> simp_all [isLeafC, structP, plainOut, flatJ, isComplC]

/-- `Join` of two ranges (the split of `Ranged.Shift`, the wrap-around of `Ranged.Normalize`): the
two ranges, or their merge when they abut -/
theorem join_two_ranged (a b c d : Int) (p q r s : Bool) :
    join [ranged a b p q, ranged c d r s] =
      if b = c then ranged a d p s else joined [ranged a b p q, ranged c d r s] := by
  split
  · rename_i h; subst h; exact join_two_ranged_abut a b d p q r s
  · rename_i h; exact join_two_ranged_ne a b c d p q r s h

theorem two_ranged_ok (a b c d : Int) (p q r s : Bool) :
    structP (join [ranged a b p q, ranged c d r s]) = true ∧
    plainOut (join [ranged a b p q, ranged c d r s]) = true := by
  rw [join_two_ranged]
  split
  · exact leaf_ok _ rfl
  · rename_i h
    refine ⟨structP_joined_of_stable _ ?_ (by simp), ?_⟩
    · simp [stableR, partOk, structP, isJoinedC, irr, h]
    · simp [plainOut, flatJ, flatJList, isComplC]

theorem ite_leaf (c : Prop) [Decidable c] (a b : Loc) (ha : isLeafC a = true) (hb : isLeafC b = true) :
    isLeafC (if c then a else b) = true := by split <;> assumption

theorem betweenExpand_leaf (p i n : Int) : isLeafC (betweenExpand p i n) = true := rfl
theorem pointExpand_leaf (p i n : Int) : isLeafC (pointExpand p i n) = true := by
  unfold pointExpand; exact ite_leaf _ _ _ rfl rfl
theorem rangedExpand_leaf (s e : Int) (a b : Bool) (i n : Int) : isLeafC (rangedExpand s e a b i n) = true := by
  unfold rangedExpand; exact ite_leaf _ _ _ rfl (ite_leaf _ _ _ rfl rfl)
theorem ambiguousExpand_leaf (s e i n : Int) : isLeafC (ambiguousExpand s e i n) = true := by
  unfold ambiguousExpand; exact ite_leaf _ _ _ rfl (ite_leaf _ _ _ rfl rfl)

theorem expand_leaf_ok (i n : Int) (l : Loc) (h : isLeafC l = true) :
    structP (expand l i n) = true ∧ plainOut (expand l i n) = true := by
  cases l <;> simp [isLeafC] at h
  · exact leaf_ok _ (betweenExpand_leaf _ _ _)
  · exact leaf_ok _ (pointExpand_leaf _ _ _)
  · exact leaf_ok _ (rangedExpand_leaf _ _ _ _ _ _)
  · exact leaf_ok _ (ambiguousExpand_leaf _ _ _ _)

theorem rangedShift_neg (s e : Int) (a b : Bool) (i n : Int) (hn : n < 0) :
    rangedShift s e a b i n = rangedExpand s e a b i n := by
  rw [rangedShift, if_neg (by omega), if_pos hn]

theorem ambiguousShift_neg (s e i n : Int) (hn : n < 0) :
    ambiguousShift s e i n = ambiguousExpand s e i n := by
  rw [ambiguousShift, if_neg (by omega), if_pos hn]

theorem shift_leaf_ok (i n : Int) (l : Loc) (h : isLeafC l = true) :
    structP (shift l i n) = true ∧ plainOut (shift l i n) = true := by
  cases l <;> simp only [isLeafC, Bool.false_eq_true] at h
  · exact leaf_ok _ (betweenExpand_leaf _ _ _)
  · exact leaf_ok _ (pointExpand_leaf _ _ _)
  · rw [shift, rangedShift]
    by_cases h0 : n = 0
    · rw [if_pos h0]; exact leaf_ok _ rfl
    · by_cases hn : n < 0
      · rw [if_neg h0, if_pos hn]; exact leaf_ok _ (rangedExpand_leaf _ _ _ _ _ _)
      · rw [if_neg h0, if_neg hn]
        split
        · exact two_ranged_ok _ _ _ _ _ _ _ _
        · exact leaf_ok _ rfl
  · rw [shift]
    by_cases hn : n < 0
    · rw [ambiguousShift_neg _ _ _ _ hn]; exact leaf_ok _ (ambiguousExpand_leaf _ _ _ _)
    · rw [ambiguousShift_ins _ _ _ _ (by omega)]
      split
      · simp [structP, isOrderedC, plainOut, flatJ, isComplC]
      · exact leaf_ok _ rfl

theorem reverse_leaf_ok (L : Int) (l : Loc) (h : isLeafC l = true) :
    structP (reverse l L) = true ∧ plainOut (reverse l L) = true := by
  cases l <;> simp [isLeafC] at h <;> exact leaf_ok _ rfl

theorem normalize_leaf_ok (L : Int) (l : Loc) (h : isLeafC l = true) :
    structP (normalize l L) = true ∧ plainOut (normalize l L) = true := by
  cases l <;> simp [isLeafC] at h
  · exact leaf_ok _ rfl
  · exact leaf_ok _ rfl
  · simp only [normalize, rangedNormalize]
    split
    · exact leaf_ok _ (rangedExpand_leaf _ _ _ _ _ _)
    · split
      · exact leaf_ok _ rfl
      · exact two_ranged_ok _ _ _ _ _ _ _ _
  · exact leaf_ok _ rfl

theorem expand_hom (i n : Int) : LocHom (fun l => expand l i n) (fun l => expandK3 l i n) id where
  perm := permOk_id
  joined ls := by simp [expand, expandList_eq_map]
  ordered ls := by simp [expand, expandList_eq_map]
  compl l := by simp [expand]
  gJoined ls := by simp [expandK3, expandK3List_eq_any, expandList_eq_map]
  gOrdered ls := by simp [expandK3, expandK3List_eq_any]
  gCompl l := by simp [expandK3]
  gLeaf l h := by cases l <;> simp_all [isLeafC, expandK3]
  leaf l h := expand_leaf_ok i n l h

theorem shift_hom (i n : Int) : LocHom (fun l => shift l i n) (fun l => shiftK3 l i n) id where
  perm := permOk_id
  joined ls := by simp [shift, shiftList_eq_map]
  ordered ls := by simp [shift, shiftList_eq_map]
  compl l := by simp [shift]
  gJoined ls := by simp [shiftK3, shiftK3List_eq_any, shiftList_eq_map]
  gOrdered ls := by simp [shiftK3, shiftK3List_eq_any]
  gCompl l := by simp [shiftK3]
  gLeaf l h := by cases l <;> simp_all [isLeafC, shiftK3]
  leaf l h := shift_leaf_ok i n l h

theorem reverse_hom (L : Int) : LocHom (fun l => reverse l L) (fun l => reverseK3 l L) List.reverse where
  perm := permOk_reverse
  joined ls := by simp [reverse, reverseList_eq_map]
  ordered ls := by simp [reverse, reverseList_eq_map]
  compl l := by simp [reverse]
  gJoined ls := by simp [reverseK3, reverseK3List_eq_any, reverseList_eq_map]
  gOrdered ls := by simp [reverseK3, reverseK3List_eq_any]
  gCompl l := by simp [reverseK3]
  gLeaf l h := by cases l <;> simp_all [isLeafC, reverseK3]
  leaf l h := reverse_leaf_ok L l h

theorem normalize_hom (L : Int) : LocHom (fun l => normalize l L) (fun l => normalizeK3 l L) id where
  perm := permOk_id
  joined ls := by simp [normalize, normalizeList_eq_map]
  ordered ls := by simp [normalize, normalizeList_eq_map]
  compl l := by simp [normalize]
  gJoined ls := by simp [normalizeK3, normalizeK3List_eq_any, normalizeList_eq_map]
  gOrdered ls := by simp [normalizeK3, normalizeK3List_eq_any]
  gCompl l := by simp [normalizeK3]
  gLeaf l h := by cases l <;> simp_all [isLeafC, normalizeK3]
  leaf l h := normalize_leaf_ok L l h

theorem coordOk_iff (x : Int) : coordOk x = true ↔ 0 ≤ x ∧ x ≤ 4611686018427387904 := by
  simp [coordOk]

/-- the coordinate hypothesis of `Expand` / `Shift`: in range, and at most `M` -/
def inLe (M : Int) (c : Int) : Bool := coordOk c && decide (c ≤ M)

theorem inLe_iff (M c : Int) : inLe M c = true ↔ 0 ≤ c ∧ c ≤ 4611686018427387904 ∧ c ≤ M := by
  simp [inLe, coordOk, and_assoc]

theorem coordsC_leaf (Q : Int → Bool) (y : Loc) (h : isLeafC y = true) : coordsC Q y = leafCoord Q y := by
  cases y <;> simp_all [isLeafC, coordsC]

theorem gmax_max (a b : Int) : gmax a b = max a b := gmax_eq_max a b

/-- the new start of a span -/
theorem expS_ok (i n M s : Int) (hi : 0 ≤ i ∨ 0 ≤ n) (hM : M + n ≤ 4611686018427387904)
    (hs : inLe M s = true) :
    coordOk (if (0 ≤ n ∧ i ≤ s) ∨ (n < 0 ∧ i < s) then gmax i (s + n) else s) = true := by
  rw [inLe_iff] at hs
  rw [coordOk_iff, gmax_max]
  split <;> omega

/-- the new end of a span -/
theorem expE_ok (i n M e : Int) (hi : 0 ≤ i ∨ 0 ≤ n) (hM : M + n ≤ 4611686018427387904)
    (he : inLe M e = true) :
    coordOk (if (0 ≤ n ∧ i < e) ∨ (n < 0 ∧ i ≤ e) then gmax i (e + n) else e) = true := by
  rw [inLe_iff] at he
  rw [coordOk_iff, gmax_max]
  split <;> omega

theorem coords_ite_ranged (c : Prop) [Decidable c] (x y : Int) (a b : Bool) (hx : coordOk x = true)
    (hy : coordOk y = true) : coordsC coordOk (if c then between x else ranged x y a b) = true := by
  split <;> simp [coordsC, leafCoord, hx, hy]

theorem coords_ite_ambiguous (c : Prop) [Decidable c] (x y : Int) (hx : coordOk x = true)
    (hy : coordOk y = true) : coordsC coordOk (if c then between x else ambiguous x y) = true := by
  split <;> simp [coordsC, leafCoord, hx, hy]

theorem inLe_coordOk (M c : Int) (h : inLe M c = true) : coordOk c = true := by
  simp only [inLe, Bool.and_eq_true] at h; exact h.1

theorem betweenExpand_coords (i n M p : Int) (hi : 0 ≤ i ∨ 0 ≤ n) (hM : M + n ≤ 4611686018427387904)
    (h : inLe M p = true) : coordsC coordOk (betweenExpand p i n) = true := by
  rw [inLe_iff] at h
  simp only [betweenExpand, coordsC, allLeaves_between, leafCoord, coordOk_iff, gmax_max]
  split <;> omega

theorem pointExpand_coords (i n M p : Int) (hi : 0 ≤ i ∨ 0 ≤ n) (hM : M + n ≤ 4611686018427387904)
    (h : inLe M p = true) : coordsC coordOk (pointExpand p i n) = true := by
  rw [inLe_iff] at h
  unfold pointExpand
  split
  · simp only [coordsC, allLeaves_between, leafCoord, coordOk_iff]; omega
  · simp only [coordsC, allLeaves_point, leafCoord, coordOk_iff, gmax_max]
    split <;> omega

theorem rangedExpand_coords (i n M s e : Int) (a b : Bool) (hi : 0 ≤ i ∨ 0 ≤ n)
    (hM : M + n ≤ 4611686018427387904) (hs : inLe M s = true) (he : inLe M e = true) :
    coordsC coordOk (rangedExpand s e a b i n) = true := by
  unfold rangedExpand
  split
  · simp [coordsC, leafCoord, inLe_coordOk M s hs, inLe_coordOk M e he]
  · exact coords_ite_ranged _ _ _ _ _ (expS_ok i n M s hi hM hs) (expE_ok i n M e hi hM he)

theorem ambiguousExpand_coords (i n M s e : Int) (hi : 0 ≤ i ∨ 0 ≤ n)
    (hM : M + n ≤ 4611686018427387904) (hs : inLe M s = true) (he : inLe M e = true) :
    coordsC coordOk (ambiguousExpand s e i n) = true := by
  unfold ambiguousExpand
  split
  · simp [coordsC, leafCoord, inLe_coordOk M s hs, inLe_coordOk M e he]
  · exact coords_ite_ambiguous _ _ _ (expS_ok i n M s hi hM hs) (expE_ok i n M e hi hM he)

theorem expand_leaf_coords (i n M : Int) (hi : 0 ≤ i ∨ 0 ≤ n) (hM : M + n ≤ 4611686018427387904)
    (l : Loc) (hl : isLeafC l = true) (h : leafCoord (inLe M) l = true) :
    coordsC coordOk (expand l i n) = true := by
  cases l <;> simp only [isLeafC, Bool.false_eq_true] at hl
  · exact betweenExpand_coords i n M _ hi hM h
  · exact pointExpand_coords i n M _ hi hM h
  · simp only [leafCoord, Bool.and_eq_true] at h
    exact rangedExpand_coords i n M _ _ _ _ hi hM h.1 h.2
  · simp only [leafCoord, Bool.and_eq_true] at h
    exact ambiguousExpand_coords i n M _ _ hi hM h.1 h.2

theorem two_ranged_coords (a b c d : Int) (p q r s : Bool) (ha : coordOk a = true) (hb : coordOk b = true)
    (hc : coordOk c = true) (hd : coordOk d = true) :
    coordsC coordOk (join [ranged a b p q, ranged c d r s]) = true := by
  refine join_leaves (mergeOK_leafCoord coordOk) _ ?_
  simp [leafCoord, ha, hb, hc, hd]

theorem shift_leaf_coords (i n M : Int) (hn : 0 ≤ n) (hM : M + n ≤ 4611686018427387904)
    (l : Loc) (hl : isLeafC l = true) (h : leafCoord (inLe M) l = true) :
    coordsC coordOk (shift l i n) = true := by
  cases l <;> simp only [isLeafC, Bool.false_eq_true] at hl
  · exact betweenExpand_coords i n M _ (Or.inr hn) hM h
  · exact pointExpand_coords i n M _ (Or.inr hn) hM h
  · rename_i s e a b
    simp only [leafCoord, Bool.and_eq_true, inLe_iff] at h
    rw [shift, rangedShift_ins _ _ _ _ _ _ hn]
    split
    · simp only [coordsC, allLeaves_joined, allLeavesList_cons, allLeaves_ranged, allLeavesList_nil, leafCoord,
        Bool.and_eq_true, coordOk_iff, Bool.and_true]
      omega
    · simp only [coordsC, allLeaves_ranged, leafCoord, Bool.and_eq_true, coordOk_iff]
      omega
  · rename_i s e
    simp only [leafCoord, Bool.and_eq_true, inLe_iff] at h
    rw [shift, ambiguousShift_ins _ _ _ _ hn]
    split
    · simp only [coordsC, allLeaves_ordered, allLeavesList_cons, allLeaves_ambiguous, allLeavesList_nil,
        leafCoord, Bool.and_eq_true, coordOk_iff, Bool.and_true]
      omega
    · simp only [coordsC, allLeaves_ambiguous, leafCoord, Bool.and_eq_true, coordOk_iff]
      omega

theorem reverse_leaf_coords (L : Int) (hL : L ≤ 4611686018427387904) (l : Loc) (hl : isLeafC l = true)
    (h : leafCoord coordOk l = true) (hr : leafRevIn L l = true) :
    coordsC coordOk (reverse l L) = true := by
  cases l <;> simp only [isLeafC, Bool.false_eq_true] at hl <;>
    simp only [leafCoord, leafRevIn, Bool.and_eq_true, coordOk_iff, decide_eq_true_eq] at h hr <;>
    simp only [reverse, rangedReverse, coordsC, allLeaves_between, allLeaves_point, allLeaves_ranged,
      allLeaves_ambiguous, leafCoord, Bool.and_eq_true, coordOk_iff] <;> omega

theorem tmod_bounds (p L : Int) (hp : 0 ≤ p) (hL : 0 < L) : 0 ≤ Int.tmod p L ∧ Int.tmod p L < L := by
  rw [Int.tmod_eq_emod_of_nonneg hp]
  exact ⟨Int.emod_nonneg _ (by omega), Int.emod_lt_of_pos _ hL⟩

theorem tmod_end_bounds (e L : Int) (he : 0 ≤ e) (hL : 0 < L) :
    0 ≤ Int.tmod (e - 1) L + 1 ∧ Int.tmod (e - 1) L + 1 ≤ L := by
  by_cases h0 : e = 0
  · subst h0
    have h1 : Int.tmod (0 - 1) L = -(Int.tmod 1 L) := by
      rw [show (0 - 1 : Int) = -1 by omega, Int.neg_tmod]
    have := tmod_bounds 1 L (by omega) hL
    have h2 : Int.tmod 1 L ≤ 1 := by
      rw [Int.tmod_eq_emod_of_nonneg (by omega)]
      by_cases hL1 : L = 1
      · subst hL1; simp
      · rw [Int.emod_eq_of_lt (by omega) (by omega)]; omega
    omega
  · have := tmod_bounds (e - 1) L (by omega) hL
    omega

theorem normalize_leaf_coords (L : Int) (hL0 : 0 < L) (hL : L ≤ 4611686018427387904) (l : Loc)
    (hl : isLeafC l = true) (h : leafCoord coordOk l = true) :
    coordsC coordOk (normalize l L) = true := by
  cases l <;> simp only [isLeafC, Bool.false_eq_true] at hl
  · rename_i p
    simp only [leafCoord, coordOk_iff] at h
    have := tmod_bounds p L h.1 hL0
    simp only [normalize, coordsC, allLeaves_between, leafCoord, coordOk_iff]; omega
  · rename_i p
    simp only [leafCoord, coordOk_iff] at h
    have := tmod_bounds p L h.1 hL0
    simp only [normalize, coordsC, allLeaves_point, leafCoord, coordOk_iff]; omega
  · rename_i s e a b
    simp only [leafCoord, Bool.and_eq_true] at h
    have hs := (coordOk_iff s).mp h.1
    have he := (coordOk_iff e).mp h.2
    have b1 := tmod_bounds s L hs.1 hL0
    have b2 := tmod_end_bounds e L he.1 hL0
    simp only [normalize, rangedNormalize]
    split
    · refine rangedExpand_coords 0 (-s) 4611686018427387904 s e a b (Or.inl (by omega)) (by omega) ?_ ?_ <;>
        rw [inLe_iff] <;> omega
    · split
      · simp only [coordsC, allLeaves_ranged, leafCoord, Bool.and_eq_true, coordOk_iff]; omega
      · refine two_ranged_coords _ _ _ _ _ _ _ _ ?_ ?_ ?_ ?_ <;> rw [coordOk_iff] <;> omega
  · rename_i s e
    simp only [leafCoord, Bool.and_eq_true] at h
    have hs := (coordOk_iff s).mp h.1
    have he := (coordOk_iff e).mp h.2
    have b1 := tmod_bounds s L hs.1 hL0
    have b2 := tmod_end_bounds e L he.1 hL0
    simp only [normalize, coordsC, allLeaves_ambiguous, leafCoord, Bool.and_eq_true, coordOk_iff]; omega

theorem coordsLe_eq (M : Int) (l : Loc) : coordsLe M l = allLeaves (leafLe M) l := by
  rw [allLeaves_eq_all]; rfl

theorem revIn_eq (L : Int) (l : Loc) : revIn L l = allLeaves (leafRevIn L) l := by
  rw [allLeaves_eq_all]; rfl

theorem leafCoord_inLe (M : Int) (u : Loc) (h1 : leafCoord coordOk u = true) (h2 : leafLe M u = true) :
    leafCoord (inLe M) u = true := by
  cases u <;> simp_all [leafCoord, leafLe, inLe]

theorem allLeaves_inLe (M : Int) (l : Loc) (h1 : coordsC coordOk l = true) (h2 : coordsLe M l = true) :
    allLeaves (leafCoord (inLe M)) l = true := by
  rw [coordsLe_eq] at h2
  unfold coordsC at h1
  rw [allLeaves_eq_all, List.all_eq_true] at *
  exact fun u hu => leafCoord_inLe M u (h1 u hu) (h2 u hu)

/-- **`Expand(i, n)` keeps a canonical location canonical** unless the K3 shape arises in one of
its `Join`s: `0 ≤ i` or `0 ≤ n`, every coordinate at most `M`, `M + n ≤ 2^62`. -/
theorem expand_canon (l : Loc) (i n M : Int) (hc : canonP l = true) (hi : 0 ≤ i ∨ 0 ≤ n)
    (hle : coordsLe M l = true) (hM : M + n ≤ 4611686018427387904) (hk : expandK3 l i n = false) :
    canonP (expand l i n) = true :=
  hom_canon (expand_hom i n) _ (expand_leaf_coords i n M hi hM) l hc (allLeaves_inLe M l · hle) hk

/-- **`Shift(i, n)`, `0 ≤ n`, keeps a canonical location canonical** unless the K3 shape arises -/
theorem shift_canon_guarded (l : Loc) (i n M : Int) (hc : canonP l = true) (hn : 0 ≤ n)
    (hle : coordsLe M l = true) (hM : M + n ≤ 4611686018427387904) (hk : shiftK3 l i n = false) :
    canonP (shift l i n) = true :=
  hom_canon (shift_hom i n) _ (shift_leaf_coords i n M hn hM) l hc (allLeaves_inLe M l · hle) hk

/-- **`Reverse(L)` keeps a canonical location canonical** unless the K3 shape arises: `L ≤ 2^62`
and the mirror image has non-negative coordinates (`revIn`) -/
theorem reverse_canon (l : Loc) (L : Int) (hc : canonP l = true) (hL : L ≤ 4611686018427387904)
    (hr : revIn L l = true) (hk : reverseK3 l L = false) : canonP (reverse l L) = true := by
  rw [revIn_eq] at hr
  refine hom_canon (reverse_hom L) (fun u => leafCoord coordOk u && leafRevIn L u) (fun u hu hq => ?_) l hc
    (allLeaves_and _ _ l · hr) hk
  simp only [Bool.and_eq_true] at hq
  exact reverse_leaf_coords L hL u hu hq.1 hq.2

/-- **`Normalize(L)`, `0 < L ≤ 2^62`, keeps a canonical location canonical** unless the K3 shape
arises -/
theorem normalize_canon (l : Loc) (L : Int) (hc : canonP l = true) (hL0 : 0 < L)
    (hL : L ≤ 4611686018427387904) (hk : normalizeK3 l L = false) : canonP (normalize l L) = true :=
  hom_canon (normalize_hom L) _ (normalize_leaf_coords L hL0 hL) l hc id hk

theorem coordsLe_of_within (l : Loc) (L : Int) (h : coordsWithin l L = true) : coordsLe L l = true := by
  unfold coordsWithin at h
  unfold coordsLe
  rw [List.all_eq_true] at *
  intro u hu
  have := (leafWithin_iff L u).mp (h u hu)
  cases u <;> simp only [leafSpan, leafLe, Bool.and_eq_true, decide_eq_true_eq] at * <;> omega

theorem revIn_of_within (l : Loc) (L : Int) (h : coordsWithin l L = true)
    (hb : (leaves l).all (fun u => !u.beq (between L)) = true) : revIn L l = true := by
  unfold coordsWithin at h
  unfold revIn
  rw [List.all_eq_true] at *
  intro u hu
  have := (leafWithin_iff L u).mp (h u hu)
  have hne := hb u hu
  cases u <;> simp only [leafSpan, leafRevIn, Bool.and_eq_true, decide_eq_true_eq] at * <;> try omega
  rename_i p
  have : p ≠ L := by
    intro he
    subst he
    simp [beq] at hne
  omega

end Loc
end Gts
