/-
  Helper lemmas for C16 (ORIGIN block layout): closed-form size arithmetic, length of the written
  stream, decoding a written block, the readers' loops described against the written text
  (`Walked`, `Line`: what they accept is what `NewOrigin` writes), the relation between the fast
  and the slow reader path, CRLF line ends.  The loops of `NewOrigin` and `Bytes` do not depend on
  a fuel that covers the trip count (`fmtLines_fuel`, `bytesLines_fuel`; for the loops of the
  readers see Lemmas/GbFuel2Pure.lean).  Core Lean only.
-/
import Gts.Lemmas.Eol
namespace Gts.Origin
open Gts.Pars (Bytes Err P)
open Gts.GenBank (noEOL noEOL_append noEOL_iff Eol tr)

/-- closed form on `Nat` -/
def tl (n : Nat) : Nat :=
  76 * (n / 60) + (if n % 60 = 0 then 0 else 10 + 11 * (n % 60 / 10) + (if n % 10 = 0 then 0 else n % 10 + 1))

theorem toOriginLength_nat (n : Nat) : toOriginLength (n : Int) = (tl n : Int) := by
  have h0 : (0 : Int) ≤ n := Int.natCast_nonneg n
  have h1 : (0 : Int) ≤ (n : Int) % 60 := Int.emod_nonneg _ (by decide)
  simp only [toOriginLength, tl, Int.tdiv_eq_ediv_of_nonneg h0, Int.tmod_eq_emod_of_nonneg h0,
    Int.tdiv_eq_ediv_of_nonneg h1, Int.tmod_eq_emod_of_nonneg h1]
  by_cases h : n % 60 = 0
  · rw [if_pos (by omega), if_pos h]; omega
  · by_cases h' : n % 10 = 0
    · rw [if_neg (by omega), if_pos (by omega), if_neg h, if_pos h']; omega
    · rw [if_neg (by omega), if_neg (by omega), if_neg h, if_neg h']; omega

/-- bytes of one line's groups for `m` residues: the residues and one space per started group -/
def gl (m : Nat) : Nat := m + (m + 9) / 10

theorem gl_step (m f : Nat) (h : 0 < m) :
    gl (min m (10 * (f + 1))) = 1 + min 10 m + gl (min (m - 10) (10 * f)) := by
  unfold gl; omega

/-- size of the last, partial line: the index and the groups -/
def lastLen (n : Nat) : Nat := if n % 60 = 0 then 0 else 10 + gl (n % 60)

theorem tl_eq (n : Nat) : tl n = 76 * (n / 60) + lastLen n := by
  unfold tl lastLen gl
  by_cases h : n % 60 = 0
  · rw [if_pos h, if_pos h]
  · rw [if_neg h, if_neg h]; split <;> omega

theorem lastLen_lt (n : Nat) : lastLen n < 76 := by
  unfold lastLen gl; split <;> omega

theorem tl_div (n : Nat) : tl n / 76 = n / 60 := by
  rw [tl_eq, Nat.mul_add_div (by decide), Nat.div_eq_of_lt (lastLen_lt n), Nat.add_zero]

theorem tl_mod (n : Nat) : tl n % 76 = lastLen n := by
  rw [tl_eq, Nat.mul_add_mod, Nat.mod_eq_of_lt (lastLen_lt n)]

theorem fromOriginLength_tl (n : Nat) : fromOriginLength (tl n : Int) = n := by
  have h0 : (0 : Int) ≤ (tl n : Int) := Int.natCast_nonneg _
  have hd := tl_div n
  have hm := tl_mod n
  unfold fromOriginLength
  simp only [Int.tdiv_eq_ediv_of_nonneg h0, Int.tmod_eq_emod_of_nonneg h0]
  unfold lastLen gl at hm
  by_cases h60 : n % 60 = 0
  · rw [if_pos h60] at hm
    rw [if_pos (by omega)]; omega
  · rw [if_neg h60] at hm
    have hge : (0 : Int) ≤ (tl n : Int) % 76 - 11 := by omega
    rw [if_neg (by omega)]
    simp only [Int.tdiv_eq_ediv_of_nonneg hge, Int.tmod_eq_emod_of_nonneg hge]
    omega

theorem tl_zero_iff (n : Nat) : tl n < 12 ↔ n = 0 := by
  rw [tl_eq, lastLen, gl]; split <;> omega

/-- `Origin.Len` reads the residue count off the byte length of an unparsed block -/
theorem originLen_of_length {b : Bytes} {n : Nat} (h : b.length = tl n) : originLen b = (n : Int) := by
  unfold originLen
  rw [h]
  split
  · rename_i h0
    have : n = 0 := (tl_zero_iff n).mp (by omega)
    omega
  · exact fromOriginLength_tl _

theorem tl_step (n : Nat) (h : 0 < n) : 9 + gl (min n 60) + 1 + tl (n - 60) = tl n := by
  by_cases h60 : 60 ≤ n
  · rw [tl_eq, tl_eq n, lastLen, lastLen, Nat.min_eq_right h60, show (n - 60) % 60 = n % 60 by omega,
      show n / 60 = (n - 60) / 60 + 1 by omega]
    simp only [gl]; omega
  · rw [tl_eq n, lastLen, Nat.min_eq_left (by omega), show n - 60 = 0 by omega, show n / 60 = 0 by omega,
      show n % 60 = n by omega, if_neg (by omega)]
    show _ + 0 = _; omega

theorem tl_sub_step {L i : Nat} (h : i < L) :
    9 + gl (min (L - i) 60) + 1 + tl (L - (i + 60)) = tl (L - i) := by
  rw [← tl_step (L - i) (Nat.sub_pos_of_lt h), Nat.sub_sub]

theorem digitsAux_length_le (f n k : Nat) (hk : 1 ≤ k) (h : n < 10 ^ k) : (digitsAux f n).length ≤ k := by
  induction f generalizing n k with
  | zero => simp [digitsAux]
  | succ f ih =>
    unfold digitsAux
    split
    · simpa using hk
    · rename_i h10
      have hk2 : 2 ≤ k := Nat.le_of_not_lt fun hk' => by
        obtain rfl : k = 1 := by omega
        omega
      have : n / 10 < 10 ^ (k - 1) := by
        have e : 10 ^ k = 10 ^ (k - 1) * 10 := by rw [← Nat.pow_succ]; congr 1; omega
        rw [e] at h
        exact Nat.div_lt_of_lt_mul (by rw [Nat.mul_comm]; exact h)
      have := ih (n / 10) (k - 1) (by omega) this
      simp only [List.length_append, List.length_cons, List.length_nil]
      omega

theorem index9_length (n : Nat) (h : n < 10 ^ 9) : (index9 n).length = 9 := by
  have := digitsAux_length_le (n + 1) n 9 (by omega) h
  simp only [index9, decimal, List.length_append, List.length_replicate]
  omega

theorem index9_length_ge (n : Nat) : 9 ≤ (index9 n).length := by
  simp only [index9, List.length_append, List.length_replicate]; omega

/-- every line index printed from the line start `i` on, for residues below `L`, is nine columns wide:
what `toOriginLength` counts on.  It holds below 10^9 residues, and from a multiple of 60 on up to
1000000020 = 60 · 16666667 residues, where the last line starts at residue 999999961
(`maxOriginResidues` of genbank_subparsers.go). -/
def Nine (i L : Nat) : Prop := ∀ k, i + 60 * k < L → (index9 (i + 60 * k + 1)).length = 9

theorem Nine.head {i L : Nat} (h : Nine i L) (hi : i < L) : (index9 (i + 1)).length = 9 := h 0 hi

theorem Nine.step {i L : Nat} (h : Nine i L) : Nine (i + 60) L :=
  fun k hk => (show i + 60 * (k + 1) = i + 60 + 60 * k by omega) ▸ h (k + 1) (by omega)

theorem nine_of_lt {i L : Nat} (hL : L < 10 ^ 9) : Nine i L := fun _ _ => index9_length _ (by omega)

theorem nine_of_le {i L : Nat} (hL : L ≤ 1000000020) (hi : i % 60 = 0) : Nine i L :=
  fun _ _ => index9_length _ (by omega)

@[simp] theorem fmtGroupsS_nil (f j : Nat) : fmtGroupsS f j [] = [] := by
  cases f <;> simp [fmtGroupsS]

@[simp] theorem fmtLinesS_nil (f i : Nat) : fmtLinesS f i [] = [] := by
  cases f <;> simp [fmtLinesS]

theorem fmtGroupsS_cons (f j : Nat) (q : Bytes) (hj : j < 60) (hq : q ≠ []) :
    fmtGroupsS (f + 1) j q = 32 :: (q.take 10 ++ fmtGroupsS f (j + 10) (q.drop 10)) := by
  rw [fmtGroupsS, if_pos ⟨hj, hq⟩]

/-- one line without its line feed: the `%9d` index and the groups -/
def line (i : Nat) (q : Bytes) : Bytes := index9 (i + 1) ++ fmtGroupsS 6 0 q

theorem fmtLinesS_cons (f i : Nat) (q : Bytes) (hq : q ≠ []) :
    fmtLinesS (f + 1) i q = line i q ++ 10 :: fmtLinesS f (i + 60) (q.drop 60) := by
  rw [fmtLinesS, if_pos hq, line, List.append_assoc]

theorem fmtLinesS_fuel (f f' i : Nat) (q : Bytes) (hf : q.length ≤ 60 * f) (hf' : q.length ≤ 60 * f') :
    fmtLinesS f i q = fmtLinesS f' i q := by
  induction f generalizing f' i q with
  | zero =>
    have : q = [] := List.eq_nil_of_length_eq_zero (by omega)
    subst this; simp
  | succ f ih =>
    by_cases hq : q = []
    · subst hq; simp
    · have hpos : 0 < q.length := List.length_pos_iff.mpr hq
      obtain ⟨f', rfl⟩ : ∃ k, f' = k + 1 := ⟨f' - 1, by omega⟩
      rw [fmtLinesS_cons f i q hq, fmtLinesS_cons f' i q hq,
        ih f' (i + 60) (q.drop 60) (by rw [List.length_drop]; omega) (by rw [List.length_drop]; omega)]

theorem fmtGroups_fuel (p : Bytes) (i f f' j : Nat) (h : 60 ≤ j + 10 * f) (h' : 60 ≤ j + 10 * f') :
    fmtGroups p i f j = fmtGroups p i f' j := by
  induction f generalizing f' j with
  | zero =>
    cases f' with
    | zero => rfl
    | succ f' => exact (if_neg (by omega)).symm
  | succ f ih =>
    cases f' with
    | zero => exact if_neg (by omega)
    | succ f' => simp only [fmtGroups, ih f' (j + 10) (by omega) (by omega)]

theorem fmtLines_fuel (p : Bytes) (f f' i : Nat) (h : p.length ≤ i + 60 * f) (h' : p.length ≤ i + 60 * f') :
    fmtLines p f i = fmtLines p f' i := by
  rw [fmtLines_eq, fmtLines_eq,
    fmtLinesS_fuel f f' i _ (by rw [List.length_drop]; omega) (by rw [List.length_drop]; omega)]

theorem bytesGroups_fuel (p : Bytes) (length : Int) (i f f' j start : Nat) (acc : Bytes)
    (h : 60 ≤ j + 10 * f) (h' : 60 ≤ j + 10 * f') :
    bytesGroups p length i f j start acc = bytesGroups p length i f' j start acc := by
  induction f generalizing f' j start acc with
  | zero =>
    cases f' with
    | zero => rfl
    | succ f' => exact (if_neg (by omega)).symm
  | succ f ih =>
    cases f' with
    | zero => exact if_neg (by omega)
    | succ f' => simp only [bytesGroups, fun s a => ih f' (j + 10) s a (by omega) (by omega)]

theorem bytesLines_fuel (p : Bytes) (length : Int) (f f' i start : Nat) (acc : Bytes)
    (h : length ≤ (i : Int) + 60 * (f : Int)) (h' : length ≤ (i : Int) + 60 * (f' : Int)) :
    bytesLines p length f i start acc = bytesLines p length f' i start acc := by
  induction f generalizing f' i start acc with
  | zero =>
    cases f' with
    | zero => rfl
    | succ f' => exact (if_neg (by omega)).symm
  | succ f ih =>
    cases f' with
    | zero => exact if_neg (by omega)
    | succ f' => simp only [bytesLines, fun s a => ih f' (i + 60) s a (by omega) (by omega)]

theorem fmtGroupsS_length (f j : Nat) (q : Bytes) (hj : j + 10 * f = 60) :
    (fmtGroupsS f j q).length = gl (min q.length (10 * f)) := by
  induction f generalizing j q with
  | zero => simp [fmtGroupsS, gl]
  | succ f ih =>
    by_cases hq : q = []
    · subst hq; simp [gl]
    · rw [fmtGroupsS_cons f j q (by omega) hq, gl_step _ _ (List.length_pos_iff.mpr hq), List.length_cons,
        List.length_append, List.length_take, ih (j + 10) _ (by omega), List.length_drop]
      omega

theorem fmtLinesS_length (f i L : Nat) (q : Bytes) (hf : q.length ≤ 60 * f) (hr : q.length = L - i) :
    tl q.length ≤ (fmtLinesS f i q).length ∧ (Nine i L → (fmtLinesS f i q).length = tl q.length) := by
  induction f generalizing i q with
  | zero =>
    have : q = [] := List.eq_nil_of_length_eq_zero (by omega)
    subst this; simp [fmtLinesS, tl]
  | succ f ih =>
    unfold fmtLinesS
    by_cases hq : q = []
    · subst hq; simp [tl]
    · have hpos : 0 < q.length := List.length_pos_iff.mpr hq
      rw [if_pos hq]
      have h1 := index9_length_ge (i + 1)
      obtain ⟨h2, h3⟩ := ih (i + 60) (q.drop 60) (by simp only [List.length_drop]; omega)
        (by simp only [List.length_drop]; omega)
      simp only [List.length_append, List.length_cons, fmtGroupsS_length 6 0 q (by omega), List.length_drop,
        Nat.reduceMul] at h2 h3 ⊢
      have := tl_step q.length hpos
      refine ⟨by omega, fun hN => ?_⟩
      have h9 := hN.head (by omega)
      have h3 := h3 hN.step
      omega

theorem originStream_length_le (p : Bytes) (h : p.length ≤ 1000000020) :
    (originStream p).length = tl p.length := by
  rw [originStream_eq_S]
  exact (fmtLinesS_length p.length 0 p.length p (by omega) rfl).2 (nine_of_le h rfl)

/-- no guard on the length: the `%9d` index has at least nine columns -/
theorem originStream_length_ge (p : Bytes) : tl p.length ≤ (originStream p).length := by
  rw [originStream_eq_S]
  exact (fmtLinesS_length p.length 0 p.length p (by omega) rfl).1

theorem originStream_length (p : Bytes) (h : p.length < 10 ^ 9) : (originStream p).length = tl p.length :=
  originStream_length_le p (by omega)

theorem newOrigin_ok_le (p : Bytes) (h : p.length ≤ 1000000020) : newOrigin p = .ok (originStream p) := by
  unfold newOrigin
  simp only [originStream_length_le p h, toOriginLength_nat, if_true]

theorem newOrigin_ok (p : Bytes) (h : p.length < 10 ^ 9) : newOrigin p = .ok (originStream p) :=
  newOrigin_ok_le p (by omega)

/-- one turn of the inner loop of `Bytes`: a separator, then the group `g` — ten bytes, or fewer when
nothing but the final line feed follows, which is where `len(p)-1` cuts the slice -/
theorem bytesGroupsS_group (plen : Nat) (L : Int) (i f j start : Nat) (c : UInt8) (g rest : Bytes)
    (hc : j < 60 ∧ ((i + j : Nat) : Int) < L) (hp : start + (1 + g.length + rest.length) = plen)
    (hg : g.length = 10 ∧ 1 ≤ rest.length ∨ g.length < 10 ∧ rest.length = 1) :
    bytesGroupsS plen L i (f + 1) j start (c :: (g ++ rest)) =
      match bytesGroupsS plen L i f (j + 10) (start + 1 + g.length) rest with
      | .error e => .error e
      | .ok (s, q', out) => .ok (s, q', g ++ out) := by
  have hstop : min (start + 1 + 10) (plen - 1) = start + 1 + g.length := by omega
  rw [bytesGroupsS, if_pos hc]
  simp only [hstop, List.drop_succ_cons, List.drop_zero]
  rw [if_neg (by omega), Nat.add_sub_cancel_left, List.drop_left, List.take_left]
  rfl

/-- inner loop of `Bytes` on the groups of one formatted line, followed by `'\n' :: t`;
`t = []` whenever this is the last line. -/
theorem bytesGroupsS_fmt (plen L i : Nat) (f j : Nat) (r t : Bytes) (start : Nat)
    (hj : j + 10 * f = 60) (hr : r.length = L - (i + j))
    (ht : r.length ≤ 10 * f → t = [])
    (hp : start + (fmtGroupsS f j r ++ 10 :: t).length = plen) :
    bytesGroupsS plen (L : Int) i f j start (fmtGroupsS f j r ++ 10 :: t)
      = .ok (plen - (t.length + 1), 10 :: t, r.take (10 * f)) := by
  induction f generalizing j r start with
  | zero =>
    rw [← hp]
    simp only [bytesGroupsS, fmtGroupsS, List.nil_append, Nat.mul_zero, List.take_zero, List.length_cons,
      Nat.add_sub_cancel]
  | succ f ih =>
    by_cases hq : r = []
    · subst hq
      rw [bytesGroupsS, if_neg (by simp only [List.length_nil] at hr; omega), ← hp]
      simp only [fmtGroupsS_nil, List.nil_append, List.length_cons, Nat.add_sub_cancel, List.take_nil]
    · have hpos : 0 < r.length := List.length_pos_iff.mpr hq
      rw [fmtGroupsS_cons f j r (by omega) hq] at hp ⊢
      simp only [List.cons_append, List.append_assoc, List.length_cons, List.length_append,
        List.length_take] at hp ⊢
      rw [bytesGroupsS_group plen L i f j start 32 (r.take 10) _ (by omega)
          (by simp only [List.length_take, List.length_append, List.length_cons]; omega)
          (by
            simp only [List.length_take, List.length_append, List.length_cons]
            rcases Nat.lt_or_ge r.length 10 with h | h
            · right
              rw [List.drop_eq_nil_iff.mpr (Nat.le_of_lt h), ht (by omega)]
              exact ⟨by omega, by rw [fmtGroupsS_nil]; rfl⟩
            · left; omega),
        ih (j + 10) (r.drop 10) _ (by omega) (by rw [List.length_drop, hr, Nat.sub_sub, Nat.add_assoc])
          (fun h => ht (by rw [List.length_drop] at h; omega))
          (by simp only [List.length_take, List.length_append, List.length_cons]; omega)]
      rw [show 10 * (f + 1) = 10 + 10 * f by omega, List.take_add]

theorem bytesLinesS_fmt (plen L : Nat) (f i : Nat) (r : Bytes) (start : Nat)
    (hr : r.length = L - i) (hf : r.length ≤ 60 * f) (hN : Nine i L)
    (hp : start + (fmtLinesS f i r).length = plen) :
    bytesLinesS plen (L : Int) f i start (fmtLinesS f i r) = .ok r := by
  induction f generalizing i r start with
  | zero =>
    have : r = [] := List.eq_nil_of_length_eq_zero (by omega)
    subst this; simp [bytesLinesS]
  | succ f ih =>
    by_cases hq : r = []
    · subst hq
      rw [bytesLinesS, if_neg (by rw [List.length_nil] at hr; omega)]
    · have hpos : 0 < r.length := List.length_pos_iff.mpr hq
      have h9 := hN.head (by omega)
      have hd : (r.drop 60).length = r.length - 60 := List.length_drop
      rw [fmtLinesS_cons f i r hq, line, List.append_assoc, List.length_append, h9] at hp
      rw [bytesLinesS, if_pos (by omega), fmtLinesS_cons f i r hq, line, List.append_assoc, ← h9, List.drop_left, h9,
        bytesGroupsS_fmt plen L i 6 0 r _ (start + 9) rfl (by omega)
          (fun h => by rw [List.drop_eq_nil_iff.mpr h, fmtLinesS_nil]) (by omega)]
      simp only [List.drop_succ_cons, List.drop_zero]
      rw [ih (i + 60) (r.drop 60) _ (by omega) (by omega) hN.step
        (by rw [List.length_append, List.length_cons] at hp; omega)]
      simp only [Nat.reduceMul, List.take_append_drop]

theorem originBytes_originStream_le (p : Bytes) (h : p.length ≤ 1000000020) :
    originBytes (originStream p) = .ok p := by
  have hlen := originStream_length_le p h
  unfold originBytes
  by_cases h0 : p = []
  · subst h0; rfl
  · have hpos : 0 < p.length := List.length_pos_iff.mpr h0
    have h12 : ¬ (originStream p).length < 12 := by
      rw [hlen, tl_zero_iff]; omega
    rw [if_neg h12]
    simp only [hlen, fromOriginLength_tl]
    rw [if_neg (by omega), bytesDecode_eq_S]
    simp only [bytesDecodeS, Int.toNat_natCast, hlen]
    rw [originStream_eq_S, originStreamS,
      bytesLinesS_fmt (tl p.length) p.length p.length 0 p 0 (by omega) (by omega)
        (nine_of_le h rfl) (by rw [← originStreamS, ← originStream_eq_S, hlen]; omega)]
    simp

theorem originBytes_originStream (p : Bytes) (h : p.length < 10 ^ 9) :
    originBytes (originStream p) = .ok p := originBytes_originStream_le p (by omega)

def printable (p : Bytes) : Prop := ∀ c ∈ p, isBase c = true

theorem printable_nil : printable [] := fun _ h => nomatch h

theorem printable_append {a b : Bytes} (ha : printable a) (hb : printable b) : printable (a ++ b) :=
  fun c hc => (List.mem_append.mp hc).elim (ha c) (hb c)

theorem isBase_noEOL {c : UInt8} (h : isBase c = true) : c ≠ 10 ∧ c ≠ 13 := by
  constructor <;> (intro e; subst e; revert h; decide)

theorem digit_noEOL : ∀ d, d < 10 → UInt8.ofNat (48 + d) ≠ 10 ∧ UInt8.ofNat (48 + d) ≠ 13 := by decide

theorem digitsAux_noEOL (f n : Nat) : noEOL (digitsAux f n) = true := by
  induction f generalizing n with
  | zero => rfl
  | succ f ih =>
    unfold digitsAux
    split
    · rename_i h; exact noEOL_iff.2 fun c hc => List.mem_singleton.1 hc ▸ digit_noEOL n h
    · rw [noEOL_append, ih]
      exact noEOL_iff.2 fun c hc => List.mem_singleton.1 hc ▸ digit_noEOL _ (Nat.mod_lt _ (by omega))

theorem index9_noEOL (n : Nat) : noEOL (index9 n) = true := by
  show noEOL (List.replicate _ 32 ++ digitsAux (n + 1) n) = true
  rw [noEOL_append, digitsAux_noEOL, Bool.and_true]
  exact noEOL_iff.2 fun c hc => by rw [(List.mem_replicate.1 hc).2]; decide

theorem mem_fmtGroupsS {c : UInt8} : ∀ (f j : Nat) (q : Bytes), c ∈ fmtGroupsS f j q → c = 32 ∨ c ∈ q
  | 0, _, _, h => nomatch h
  | f + 1, j, q, h => by
    unfold fmtGroupsS at h
    split at h
    · rcases List.mem_cons.mp h with h | h
      · exact .inl h
      · rcases List.mem_append.mp h with h | h
        · exact .inr (List.mem_of_mem_take h)
        · exact (mem_fmtGroupsS f _ _ h).imp_right List.mem_of_mem_drop
    · nomatch h

theorem fmtGroupsS_noEOL (f j : Nat) (q : Bytes) (hq : printable q) : noEOL (fmtGroupsS f j q) = true :=
  noEOL_iff.2 fun _ hc => (mem_fmtGroupsS f j q hc).elim (fun e => e ▸ by decide) fun h => isBase_noEOL (hq _ h)

theorem fmtGroupsS_take (f j : Nat) (p : Bytes) : fmtGroupsS f j (p.take (10 * f)) = fmtGroupsS f j p := by
  induction f generalizing j p with
  | zero => simp [fmtGroupsS]
  | succ f ih =>
    by_cases hp : p = []
    · subst hp; simp
    · have hpos : 0 < p.length := List.length_pos_iff.mpr hp
      have htne : p.take (10 * (f + 1)) ≠ [] := by
        intro he
        have := congrArg List.length he
        simp only [List.length_take, List.length_nil] at this; omega
      unfold fmtGroupsS
      by_cases hj : j < 60
      · rw [if_pos ⟨hj, htne⟩, if_pos ⟨hj, hp⟩]
        have e1 : (p.take (10 * (f + 1))).take 10 = p.take 10 := by
          rw [List.take_take]; congr 1 <;> omega
        have e2 : (p.take (10 * (f + 1))).drop 10 = (p.drop 10).take (10 * f) := by
          rw [List.drop_take]; congr 1 <;> omega
        rw [e1, e2, ih]
      · rw [if_neg (fun h => hj h.1), if_neg (fun h => hj h.1)]

/-- a chunk that is full, or the last one, is split off again by `take` / `drop` -/
theorem take_drop_chunk {g q : Bytes} {n : Nat} (hle : g.length ≤ n) (h : g.length < n → q = []) :
    (g ++ q).take n = g ∧ (g ++ q).drop n = q := by
  by_cases hn : g.length = n
  · subst hn; exact ⟨List.take_left, List.drop_left⟩
  · have := h (by omega)
    subst this
    rw [List.append_nil]
    exact ⟨List.take_of_length_le hle, List.drop_of_length_le hle⟩

/-! ### what a walk can do

The three loops of `validateOrigin` / `slowGenBankOriginParser` are each described once, against
the text the writer produces; everything else about them is read off `Walked`. -/

/-- the outcome of walking over text that should start with `w` bytes of the form `φ`: the piece is
there and what follows it is returned; a byte is wrong; or the text ends before `w` bytes, which
is where the unchecked index of `validateOrigin` panics -/
inductive Walked (oob : Err) (φ : Bytes → Prop) (w : Nat) (rest : Bytes) : Out Bytes → Prop
  | ok (g r : Bytes) : rest = g ++ r → φ g → Walked oob φ w rest (.ok r)
  | fail : Walked oob φ w rest (.error .fail)
  | short : rest.length < w → Walked oob φ w rest (.error oob)

theorem Walked.inv {oob φ w rest r} (h : Walked oob φ w rest (.ok r)) : ∃ g, rest = g ++ r ∧ φ g := by
  cases h with | ok g _ e hg => exact ⟨g, e, hg⟩

/-- the bounds-checked walk does not panic -/
theorem Walked.checked {φ w rest x} (h : Walked .fail φ w rest x) : x ≠ .error .panic := by
  cases h <;> simp

/-- the residues of one group -/
def Chars (n : Nat) (g : Bytes) : Prop := printable g ∧ g.length = n

theorem walkChars_ok (oob : Err) (L ij : Nat) (f k : Nat) (g rest : Bytes) (hk : k + f = 10)
    (hg : g.length = min f (L - (ij + k))) (hb : printable g) :
    walkChars oob (L : Int) ij f k (g ++ rest) = .ok rest := by
  induction f generalizing k g with
  | zero =>
    have : g = [] := List.eq_nil_of_length_eq_zero (by omega)
    subst this; rfl
  | succ f ih =>
    unfold walkChars
    by_cases hc : k < 10 ∧ ((ij + k : Nat) : Int) < (L : Int)
    · rw [if_pos hc]
      match g, hg, hb with
      | [], hg, _ => simp only [List.length_nil] at hg; omega
      | c :: g', hg, hb =>
        simp only [List.cons_append]
        rw [if_pos (hb c (by simp))]
        exact ih (k + 1) g' (by omega) (by simp only [List.length_cons] at hg; omega)
          (fun x hx => hb x (by simp [hx]))
    · rw [if_neg hc]
      have : g = [] := List.eq_nil_of_length_eq_zero (by omega)
      subst this; rfl

theorem walkChars_walked (oob : Err) (L ij f k : Nat) (rest : Bytes) (hk : k + f = 10) :
    Walked oob (Chars (min f (L - (ij + k)))) (min f (L - (ij + k))) rest
      (walkChars oob (L : Int) ij f k rest) := by
  induction f generalizing k rest with
  | zero => exact .ok [] rest rfl ⟨printable_nil, by simp⟩
  | succ f ih =>
    unfold walkChars
    by_cases hc : k < 10 ∧ ((ij + k : Nat) : Int) < (L : Int)
    · rw [if_pos hc]
      have hn : min (f + 1) (L - (ij + k)) = min f (L - (ij + (k + 1))) + 1 := by omega
      match rest with
      | [] => exact .short (by simp only [List.length_nil]; omega)
      | c :: t =>
        simp only
        by_cases hb : isBase c = true
        · rw [if_pos hb, hn]
          have h := ih (k + 1) t (by omega)
          generalize walkChars oob (L : Int) ij f (k + 1) t = x at h ⊢
          cases h with
          | ok g r e hg =>
            exact .ok (c :: g) r (by rw [e]; rfl)
              ⟨List.forall_mem_cons.2 ⟨hb, hg.1⟩, by rw [List.length_cons, hg.2]⟩
          | fail => exact .fail
          | short hs => exact .short (by simp only [List.length_cons]; omega)
        · rw [if_neg hb]; exact .fail
    · rw [if_neg hc]
      exact .ok [] rest rfl ⟨printable_nil, by simp only [List.length_nil]; omega⟩

/-- the groups of `m` residues as written -/
def Groups (f j m : Nat) (g : Bytes) : Prop := ∃ q, g = fmtGroupsS f j q ∧ printable q ∧ q.length = m

/-- `r` may be all the residues that remain, or those of this line only -/
theorem walkGroups_fmt (oob : Err) (L i : Nat) (f j : Nat) (r rest : Bytes) (hj : j + 10 * f = 60)
    (h1 : r.length ≤ L - (i + j)) (h2 : r.length < L - (i + j) → 10 * f ≤ r.length) (hb : printable r) :
    walkGroups oob (L : Int) i f j (fmtGroupsS f j r ++ rest) = .ok rest := by
  induction f generalizing j r with
  | zero => rfl
  | succ f ih =>
    unfold walkGroups
    by_cases hq : r = []
    · subst hq
      simp only [List.length_nil] at h1 h2
      rw [if_neg (by omega)]; simp
    · have hpos : 0 < r.length := List.length_pos_iff.mpr hq
      rw [if_pos (by omega), fmtGroupsS, if_pos ⟨by omega, hq⟩]
      simp only [List.cons_append, List.append_assoc, bne_self_eq_false, Bool.false_eq_true, if_false]
      rw [walkChars_ok oob L (i + j) 10 0 (r.take 10) _ (by omega) (by simp only [List.length_take]; omega)
        (fun x hx => hb x (List.mem_of_mem_take hx))]
      exact ih (j + 10) (r.drop 10) (by omega) (by simp only [List.length_drop]; omega)
        (by simp only [List.length_drop]; omega) (fun x hx => hb x (List.mem_of_mem_drop hx))

theorem walkGroups_walked (oob : Err) (L i f j : Nat) (rest : Bytes) (hj : j + 10 * f = 60) :
    Walked oob (Groups f j (min (L - (i + j)) (10 * f))) (gl (min (L - (i + j)) (10 * f))) rest
      (walkGroups oob (L : Int) i f j rest) := by
  induction f generalizing j rest with
  | zero => exact .ok [] rest rfl ⟨[], rfl, printable_nil, by simp⟩
  | succ f ih =>
    unfold walkGroups
    by_cases hc : j < 60 ∧ ((i + j : Nat) : Int) < (L : Int)
    · rw [if_pos hc]
      have hm : 0 < L - (i + j) := Nat.sub_pos_of_lt (Int.ofNat_lt.mp hc.2)
      have hgl := gl_step (L - (i + j)) f hm
      match rest with
      | [] => exact .short (by simp only [List.length_nil, gl]; omega)
      | c :: t =>
        simp only
        by_cases hs : (c != 32) = true
        · rw [if_pos hs]; exact .fail
        · rw [if_neg hs]
          have hc32 : c = 32 := by simpa using hs
          have h1 := walkChars_walked oob L (i + j) 10 0 t rfl
          generalize walkChars oob (L : Int) (i + j) 10 0 t = x at h1
          rw [Nat.add_zero] at h1
          cases h1 with
          | fail => exact .fail
          | short hs => exact .short (by simp only [List.length_cons]; omega)
          | ok g t' e1 hg =>
            simp only
            have h2 := ih (j + 10) t' (by omega)
            generalize walkGroups oob (L : Int) i f (j + 10) t' = y at h2
            rw [← Nat.add_assoc, Nat.sub_add_eq] at h2
            cases h2 with
            | fail => exact .fail
            | short hs =>
              refine .short ?_
              rw [e1, List.length_cons, List.length_append, hg.2]; omega
            | ok gs r e2 hgs =>
              obtain ⟨q, rfl, hq, hl⟩ := hgs
              have hgl1 := hg.2
              -- everything below is about `m`, the residues still missing in front of this group
              generalize L - (i + j) = m at *
              obtain ⟨htake, hdrop⟩ := take_drop_chunk (g := g) (q := q) (n := 10) (by omega)
                (fun hlt => List.eq_nil_of_length_eq_zero (by omega))
              have hgne : g ++ q ≠ [] :=
                List.append_ne_nil_of_left_ne_nil (List.ne_nil_of_length_pos (by omega)) _
              refine .ok (32 :: (g ++ fmtGroupsS f (j + 10) q)) r (by rw [e1, e2, hc32]; simp)
                ⟨g ++ q, ?_, printable_append hg.1 hq, by rw [List.length_append]; omega⟩
              rw [fmtGroupsS, if_pos ⟨hc.1, hgne⟩, htake, hdrop]
    · rw [if_neg hc]
      refine .ok [] rest rfl ⟨[], by simp, printable_nil, ?_⟩
      have : ¬ (j < 60 ∧ i + j < L) := fun hh => hc ⟨hh.1, Int.ofNat_lt.mpr hh.2⟩
      simp only [List.length_nil]; omega

theorem isPrefixOf_append (a b : Bytes) : a.isPrefixOf (a ++ b) = true :=
  List.isPrefixOf_iff_prefix.2 (List.prefix_append a b)

/-- a written line of `m` residues, without its line feed -/
def Line (i m : Nat) (g : Bytes) : Prop := ∃ q, g = line i q ∧ printable q ∧ q.length = m

theorem Line.walk {i m : Nat} {g : Bytes} (hg : Line i m g) (oob : Err) (L : Nat) (rest : Bytes)
    (hm : m = min (L - i) 60) : walkLine oob (L : Int) i (g ++ rest) = .ok rest := by
  obtain ⟨q, rfl, hb, hl⟩ := hg
  unfold walkLine line
  simp only [List.append_assoc, isPrefixOf_append, if_true, List.drop_left]
  exact walkGroups_fmt oob L i 6 0 q rest rfl (by omega) (by omega) hb

theorem Line.of_rest {L i : Nat} {r : Bytes} (hr : r.length = L - i) (hb : printable r) :
    Line i (min (L - i) 60) (line i r) :=
  ⟨r.take 60, congrArg (index9 (i + 1) ++ ·) (fmtGroupsS_take 6 0 r).symm,
    fun x hx => hb x (List.mem_of_mem_take hx), by rw [List.length_take]; omega⟩

theorem Line.noEOL {i m g} (h : Line i m g) : noEOL g = true := by
  obtain ⟨q, rfl, hq, _⟩ := h
  rw [line, noEOL_append, index9_noEOL, fmtGroupsS_noEOL 6 0 q hq]; rfl

theorem Line.length {i m g} (h : Line i m g) (h9 : (index9 (i + 1)).length = 9) (hm : m ≤ 60) :
    g.length = 9 + gl m := by
  obtain ⟨q, rfl, _, rfl⟩ := h
  rw [line, List.length_append, h9, fmtGroupsS_length 6 0 q rfl, Nat.min_eq_left hm]

theorem walkLine_walked (oob : Err) (L i : Nat) (rest : Bytes) :
    Walked oob (Line i (min (L - i) 60)) ((index9 (i + 1)).length + gl (min (L - i) 60)) rest
      (walkLine oob (L : Int) i rest) := by
  unfold walkLine
  simp only
  by_cases hp : (index9 (i + 1)).isPrefixOf rest = true
  · rw [if_pos hp]
    have h := walkGroups_walked oob L i 6 0 (rest.drop (index9 (i + 1)).length) rfl
    generalize walkGroups oob (L : Int) i 6 0 _ = x at h
    have hsp := isPrefixOf_split hp
    simp only [Nat.add_zero, Nat.reduceMul] at h
    cases h with
    | fail => exact .fail
    | short hs =>
      refine .short ?_
      rw [hsp, List.length_append]; omega
    | ok g r e hg =>
      obtain ⟨q, rfl, hq, hl⟩ := hg
      exact .ok (line i q) r (by rw [line, List.append_assoc, ← e]; exact hsp) ⟨q, rfl, hq, hl⟩
  · rw [if_neg hp]; exact .fail

/-- the walk over a line accepts exactly the written lines, whatever an index out of range does -/
theorem walkLine_ok_iff (oob : Err) (L i : Nat) (rest r : Bytes) :
    walkLine oob (L : Int) i rest = .ok r ↔ ∃ g, rest = g ++ r ∧ Line i (min (L - i) 60) g :=
  ⟨fun h => (h ▸ walkLine_walked oob L i rest).inv, fun ⟨_, e, hg⟩ => e ▸ hg.walk oob L r rfl⟩

theorem walkLine_split (oob : Err) (L i : Nat) (rest r : Bytes) (h9 : (index9 (i + 1)).length = 9)
    (h : walkLine oob (L : Int) i rest = .ok r) :
    ∃ ln, rest = ln ++ r ∧ noEOL ln = true ∧ ln.length = 9 + gl (min (L - i) 60) ∧
      ∀ oob' r', walkLine oob' (L : Int) i (ln ++ r') = .ok r' :=
  let ⟨g, e, hg⟩ := (walkLine_ok_iff ..).1 h
  ⟨g, e, hg.noEOL, hg.length h9 (Nat.min_le_right ..), fun oob' r' => hg.walk oob' L r' rfl⟩

theorem walkLine_fail_ne_panic (length : Int) (i : Nat) (rest : Bytes) :
    walkLine .fail length i rest ≠ .error .panic := by
  cases length with
  | ofNat L => exact (walkLine_walked .fail L i rest).checked
  | negSucc n => -- a negative length: no group is read
    unfold walkLine
    simp only
    split
    · unfold walkGroups; rw [if_neg (by omega)]; simp
    · simp

/-- a loop short of fuel stops early, and accepts -/
theorem validateLines_fmt (L f i : Nat) (r tail : Bytes) (hr : r.length = L - i) (hb : printable r) :
    validateLines (L : Int) f i (fmtLinesS f i r ++ tail) = .ok () := by
  induction f generalizing i r with
  | zero => rfl
  | succ f ih =>
    unfold validateLines
    by_cases hq : r = []
    · subst hq
      simp only [List.length_nil] at hr
      rw [if_neg (by omega)]
    · have hpos : 0 < r.length := List.length_pos_iff.mpr hq
      rw [if_pos (by omega), fmtLinesS_cons f i r hq, List.append_assoc,
        (Line.of_rest hr hb).walk .panic L _ rfl]
      simp only [List.cons_append, bne_self_eq_false, Bool.false_eq_true, if_false]
      exact ih (i + 60) (r.drop 60) (by simp only [List.length_drop]; omega)
        (fun x hx => hb x (List.mem_of_mem_drop hx))

theorem validateLines_inv (L f i : Nat) (rest : Bytes) (hf : L - i ≤ 60 * f)
    (h : validateLines (L : Int) f i rest = .ok ()) :
    ∃ p tail, rest = fmtLinesS f i p ++ tail ∧ printable p ∧ p.length = L - i := by
  induction f generalizing i rest with
  | zero =>
    exact ⟨[], rest, by simp [fmtLinesS], printable_nil, by simp only [List.length_nil]; omega⟩
  | succ f ih =>
    unfold validateLines at h
    by_cases hc : ((i : Nat) : Int) < (L : Int)
    · rw [if_pos hc] at h
      generalize hw : walkLine .panic (L : Int) i rest = w at h
      match w, hw, h with
      | .error e, _, h => cases h
      | .ok [], _, h => cases h
      | .ok (c :: r'), hw, h =>
        simp only at h
        by_cases hs : (c != 10) = true
        · rw [if_pos hs] at h; cases h
        · rw [if_neg hs] at h
          have hc10 : c = 10 := by simpa using hs
          obtain ⟨_, e1, q, rfl, hq, hl1⟩ := (walkLine_ok_iff ..).1 hw
          obtain ⟨p', tail, e2, hp', hl2⟩ := ih (i + 60) r' (by omega) h
          have hm : 0 < L - i := Nat.sub_pos_of_lt (Int.ofNat_lt.mp hc)
          rw [Nat.sub_add_eq] at hl2
          generalize L - i = m at hl1 hl2 hm hf
          obtain ⟨htake, hdrop⟩ := take_drop_chunk (g := q) (q := p') (n := 60) (by omega)
            (fun hg => List.eq_nil_of_length_eq_zero (by omega))
          have hne : q ++ p' ≠ [] :=
            List.append_ne_nil_of_left_ne_nil (List.ne_nil_of_length_pos (by omega)) _
          refine ⟨q ++ p', tail, ?_, printable_append hq hp', by rw [List.length_append]; omega⟩
          rw [fmtLinesS_cons f i _ hne, line, ← fmtGroupsS_take 6 0 (q ++ p'), htake, hdrop, e1, e2, hc10, line]
          simp only [List.append_assoc, List.cons_append]
    · exact ⟨[], rest, by simp, printable_nil, by simp only [List.length_nil]; omega⟩

/-- the loop of `validateOrigin` accepts exactly the blocks `NewOrigin` writes, whatever follows them -/
theorem validateLines_ok_iff (L f i : Nat) (rest : Bytes) (hf : L - i ≤ 60 * f) :
    validateLines (L : Int) f i rest = .ok () ↔
      ∃ p tail, rest = fmtLinesS f i p ++ tail ∧ printable p ∧ p.length = L - i :=
  ⟨validateLines_inv L f i rest hf, fun ⟨p, tail, e, hp, hl⟩ => e ▸ validateLines_fmt L f i p tail hl hp⟩

/-- the fast path accepts a written block of printable residues, whatever follows it and whatever
its length: the index is compared as printed -/
theorem validateOrigin_prefix (p tail : Bytes) (hb : printable p) :
    validateOrigin (originStream p ++ tail) p.length = .ok () := by
  rw [originStream_eq_S]
  simp only [validateOrigin, originStreamS, Int.toNat_natCast]
  exact validateLines_fmt p.length p.length 0 p tail (by omega) hb

theorem validateOrigin_originStream (p : Bytes) (hb : printable p) :
    validateOrigin (originStream p) p.length = .ok () := by
  have := validateOrigin_prefix p [] hb
  rwa [List.append_nil] at this

/-- an accepted buffer of `toOriginLength(L)` bytes is `NewOrigin(p)`'s stream for `L` printable
residues `p` -/
theorem validateOrigin_inv_le (b : Bytes) (L : Nat) (hL : L ≤ 1000000020) (hb : b.length = tl L)
    (h : validateOrigin b (L : Int) = .ok ()) :
    ∃ p, b = originStream p ∧ printable p ∧ p.length = L := by
  unfold validateOrigin at h
  simp only [Int.toNat_natCast] at h
  obtain ⟨p, tail, e, hp, hl⟩ := validateLines_inv L L 0 b (by omega) h
  simp only [Nat.sub_zero] at hl
  have hlen := (fmtLinesS_length L 0 L p (by omega) (by omega)).2 (nine_of_le hL rfl)
  have ht : tail = [] := by
    apply List.eq_nil_of_length_eq_zero
    have := congrArg List.length e
    simp only [List.length_append] at this
    rw [hlen, hl] at this; omega
  subst ht
  refine ⟨p, ?_, hp, hl⟩
  rw [originStream_eq_S, originStreamS, hl, e, List.append_nil]

theorem validateOrigin_inv (b : Bytes) (L : Nat) (hL : L < 10 ^ 9) (hb : b.length = tl L)
    (h : validateOrigin b (L : Int) = .ok ()) :
    ∃ p, b = originStream p ∧ printable p ∧ p.length = L :=
  validateOrigin_inv_le b L (by omega) hb h

/-- … hence it decodes, without a panic, to exactly `L` residues (`L ≤ maxOriginResidues`) -/
theorem accepted_decodes_le (b : Bytes) (L : Nat) (hL : L ≤ 1000000020) (hb : b.length = tl L)
    (h : validateOrigin b (L : Int) = .ok ()) :
    ∃ p, originBytes b = .ok p ∧ p.length = L ∧ printable p ∧ b = originStream p := by
  obtain ⟨p, e, hp, hl⟩ := validateOrigin_inv_le b L hL hb h
  exact ⟨p, by rw [e]; exact originBytes_originStream_le p (by omega), hl, hp, e⟩

theorem accepted_decodes (b : Bytes) (L : Nat) (hL : L < 10 ^ 9) (hb : b.length = tl L)
    (h : validateOrigin b (L : Int) = .ok ()) :
    ∃ p, originBytes b = .ok p ∧ p.length = L ∧ printable p ∧ b = originStream p :=
  accepted_decodes_le b L (by omega) hb h

/-- the block as written (LF line ends), the following text untouched -/
theorem slowLines_fmt (e : Eol) (L cap f i : Nat) (r tail acc : Bytes)
    (hN : Nine i L) (hr : r.length = L - i) (hf : r.length ≤ 60 * f) (hb : printable r)
    (hcap : acc.length + tl r.length ≤ cap) :
    slowLines (L : Int) cap f i (tr e (fmtLinesS f i r) ++ tail) acc = .ok (acc ++ fmtLinesS f i r, tail) := by
  induction f generalizing i r acc with
  | zero =>
    have : r = [] := List.eq_nil_of_length_eq_zero (by omega)
    subst this
    simp [slowLines, fmtLinesS]
  | succ f ih =>
    unfold slowLines
    by_cases hq : r = []
    · subst hq
      simp only [List.length_nil] at hr
      rw [if_neg (by omega)]
      simp
    · have hpos : 0 < r.length := List.length_pos_iff.mpr hq
      have hln := Line.of_rest hr hb
      have hw := hln.walk .fail L [] rfl
      have hlen := hln.length (hN.head (by omega)) (Nat.min_le_right ..)
      have hn := hln.noEOL
      rw [List.append_nil] at hw
      rw [← hr] at hlen
      rw [if_pos (by omega), fmtLinesS_cons f i r hq]
      generalize line i r = ln at hw hlen hn ⊢
      rw [GenBank.tr_line e _ _ hn, List.append_assoc, List.append_assoc, splitLine_eol e _ _ hn]
      simp only
      rw [hw]
      simp only [allBlank, List.all_nil, Bool.not_true, Bool.false_eq_true, if_false,
        List.length_nil, Nat.sub_zero, List.take_length]
      have hstep := tl_step r.length hpos
      have hfit : (acc ++ ln).length < cap := by
        simp only [List.length_append]
        omega
      rw [List.take_of_length_le (by omega), if_pos hfit]
      rw [ih (i + 60) (r.drop 60) _ hN.step (by simp only [List.length_drop]; omega)
        (by simp only [List.length_drop]; omega) (fun x hx => hb x (List.mem_of_mem_drop hx))
        (by
          simp only [List.length_append, List.length_cons, List.length_nil, List.length_drop]
          omega)]
      simp [List.append_assoc]

theorem validateLines_slow_le (L f i : Nat) (rest : Bytes) (hf : L - i ≤ 60 * f)
    (hN : Nine i L) (h : validateLines (L : Int) f i rest = .ok ()) :
    ∃ blk tail, rest = blk ++ tail ∧ blk.length = tl (L - i) ∧
      (∀ tail', validateLines (L : Int) f i (blk ++ tail') = .ok ()) ∧
      ∀ cap acc, acc.length + tl (L - i) ≤ cap →
        slowLines (L : Int) cap f i rest acc = .ok (acc ++ blk, tail) := by
  obtain ⟨p, tail, rfl, hp, hl⟩ := validateLines_inv L f i rest hf h
  exact ⟨_, tail, rfl, hl ▸ (fmtLinesS_length f i L p (by omega) hl).2 hN,
    fun tail' => validateLines_fmt L f i p tail' hl hp,
    fun cap acc hcap => slowLines_fmt .lf L cap f i p tail acc hN hl (by omega) hp (hl ▸ hcap)⟩

theorem validateLines_slow (L f i : Nat) (rest : Bytes) (hf : L - i ≤ 60 * f) (hL : L < 10 ^ 9)
    (h : validateLines (L : Int) f i rest = .ok ()) :
    ∃ blk tail, rest = blk ++ tail ∧ blk.length = tl (L - i) ∧
      (∀ tail', validateLines (L : Int) f i (blk ++ tail') = .ok ()) ∧
      ∀ cap acc, acc.length + tl (L - i) ≤ cap →
        slowLines (L : Int) cap f i rest acc = .ok (acc ++ blk, tail) :=
  validateLines_slow_le L f i rest hf (nine_of_lt hL) h

theorem slowOrigin_nat (st : Bytes) (L : Nat) :
    slowOrigin st L =
      match slowLines (L : Int) (tl L) L 0 st [] with
      | .error e => .error e
      | .ok (acc, st') => .ok (acc ++ List.replicate (tl L - acc.length) 0, st') := by
  unfold slowOrigin
  simp only [toOriginLength_nat, Int.toNat_natCast]
  rw [if_neg (by omega)]
  rfl

theorem validateOrigin_nat (b : Bytes) (L : Nat) : validateOrigin b L = validateLines (L : Int) L 0 b := by
  simp only [validateOrigin, Int.toNat_natCast]

theorem toNat_tl (L : Nat) : (toOriginLength (L : Int)).toNat = tl L := by
  rw [toOriginLength_nat]; simp

theorem fast_imp_slow_le (b : Bytes) (L : Nat) (hL : L ≤ 1000000020)
    (h : validateOrigin b L = .ok ()) :
    slowOrigin b L = .ok (b.take (tl L), b.drop (tl L)) := by
  rw [validateOrigin_nat] at h
  obtain ⟨blk, tail, e, hbl, _, hslow⟩ := validateLines_slow_le L L 0 b (by omega) (nine_of_le hL rfl) h
  simp only [Nat.sub_zero] at hbl hslow
  rw [slowOrigin_nat, hslow (tl L) [] (by simp)]
  simp only [List.nil_append, hbl, Nat.sub_self, List.replicate_zero, List.append_nil]
  rw [e, List.take_left' hbl, List.drop_left' hbl]

theorem fmtGroupsS_noCR (f j : Nat) (q : Bytes) (hq : noCR q) : noCR (fmtGroupsS f j q) :=
  fun c hc => (mem_fmtGroupsS f j q hc).elim (fun e => e ▸ by decide) (hq c)

theorem fmtLinesS_noCR (f i : Nat) (q : Bytes) (hq : noCR q) : noCR (fmtLinesS f i q) := by
  induction f generalizing i q with
  | zero => intro c hc; simp [fmtLinesS] at hc
  | succ f ih =>
    unfold fmtLinesS
    split
    · exact noCR_append (fun c hc => (noEOL_iff.1 (index9_noEOL _) c hc).2)
        (noCR_append (fmtGroupsS_noCR _ _ _ hq)
          (noCR_cons (by decide) (ih _ _ (fun c hc => hq c (List.mem_of_mem_drop hc)))))
    · intro c hc; simp at hc

theorem originStream_noCR (p : Bytes) (hp : printable p) : noCR (originStream p) := by
  rw [originStream_eq_S]
  exact fmtLinesS_noCR _ _ _ (fun c hc => (isBase_noEOL (hp c hc)).2)

theorem slowLines_crlf (length : Int) (cap f i : Nat) (st acc : Bytes) (h : noCR st) :
    slowLines length cap f i (crlf st) acc =
      match slowLines length cap f i st acc with
      | .ok (o, r) => .ok (o, crlf r)
      | .error e => .error e := by
  induction f generalizing i st acc with
  | zero => simp [slowLines]
  | succ f ih =>
    unfold slowLines
    by_cases hc : (i : Int) < length
    · rw [if_pos hc, if_pos hc]
      obtain ⟨q, t, e1, e2, hcr⟩ := splitLine_crlf st h
      rw [e1, e2]
      simp only
      cases hw : walkLine .fail length i q with
      | error e => rfl
      | ok r =>
        simp only
        split
        · rfl
        · split
          · exact ih (i + 60) t _ hcr
          · rfl
    · rw [if_neg hc, if_neg hc]

theorem slowOrigin_crlf (st : Bytes) (length : Int) (h : noCR st) :
    slowOrigin (crlf st) length =
      match slowOrigin st length with
      | .ok (o, r) => .ok (o, crlf r)
      | .error e => .error e := by
  unfold slowOrigin
  simp only
  split
  · rfl
  · rw [slowLines_crlf _ _ _ _ _ _ h]
    cases slowLines length (toOriginLength length).toNat length.toNat 0 st [] with
    | error e => rfl
    | ok v => obtain ⟨a, b⟩ := v; rfl

theorem slowLines_ne_panic_le (L cap f i : Nat) (st acc : Bytes)
    (hN : Nine i L) (hcap : acc.length + tl (L - i) ≤ cap) :
    slowLines (L : Int) cap f i st acc ≠ .error .panic := by
  induction f generalizing i st acc with
  | zero => simp [slowLines]
  | succ f ih =>
    unfold slowLines
    by_cases hc : ((i : Nat) : Int) < (L : Int)
    · rw [if_pos hc]
      generalize splitLine st = sp
      obtain ⟨q, st'⟩ := sp
      simp only
      cases hw : walkLine .fail (L : Int) i q with
      | error e =>
        simp only; intro h; apply walkLine_fail_ne_panic (L : Int) i q; rw [hw]; cases h; rfl
      | ok r =>
        simp only
        split
        · simp
        · obtain ⟨ln, e1, hn, hl, hloc⟩ := walkLine_split .fail L i q r (hN.head (by omega)) hw
          have hext : q.take (q.length - r.length) = ln := by rw [e1]; simp
          rw [hext]
          have hstep := tl_sub_step (Int.ofNat_lt.mp hc)
          have hle : (acc ++ ln).length < cap := by
            simp only [List.length_append, hl]; omega
          rw [List.take_of_length_le (by omega), if_pos hle]
          exact ih (i + 60) st' _ hN.step (by
            simp only [List.length_append, List.length_cons, List.length_nil, hl]; omega)
    · rw [if_neg hc]; simp

theorem slowLines_ne_panic (L cap f i : Nat) (st acc : Bytes) (hL : L < 10 ^ 9)
    (hcap : acc.length + tl (L - i) ≤ cap) :
    slowLines (L : Int) cap f i st acc ≠ .error .panic :=
  slowLines_ne_panic_le L cap f i st acc (nine_of_lt hL) hcap

theorem slowOrigin_ne_panic_le (st : Bytes) (L : Nat) (hL : L ≤ 1000000020) :
    slowOrigin st L ≠ .error .panic := by
  rw [slowOrigin_nat]
  have := slowLines_ne_panic_le L (tl L) L 0 st [] (nine_of_le hL rfl) (by simp)
  cases hs : slowLines (L : Int) (tl L) L 0 st [] with
  | error e => simp only; intro h; apply this; rw [hs]; exact h
  | ok v => obtain ⟨a, b⟩ := v; simp

/-- scan for a blank that stands directly before a line feed or at the very end of the input
(`prev`: the previous byte was a blank) -/
def tb : Bool → Bytes → Bool
  | prev, [] => prev
  | prev, c :: r => (prev && c == 10) || tb (c == 32) r

/-- some line of `b` carries blanks behind its last non-blank byte -/
def trailingBlank (b : Bytes) : Bool := tb false b

theorem tb_mono (prev : Bool) (y : Bytes) (h : tb false y = true) : tb prev y = true := by
  cases y with
  | nil => simp [tb] at h
  | cons c r => simp only [tb, Bool.false_and, Bool.false_or] at h; simp [tb, h]

theorem tb_suffix (prev : Bool) (x y : Bytes) (h : tb false y = true) : tb prev (x ++ y) = true := by
  induction x generalizing prev with
  | nil => exact tb_mono prev y h
  | cons c x ih => simp [tb, ih]

/-- blanks behind a blank keep the scan armed: it fires if what follows them does -/
theorem tb_true_blanks (r x : Bytes) (hb : allBlank r = true) (hx : tb true x = true) :
    tb true (r ++ x) = true := by
  induction r with
  | nil => exact hx
  | cons c r ih =>
    simp only [allBlank, List.all_cons, Bool.and_eq_true, beq_iff_eq] at hb
    simp [tb, hb.1, ih (by simpa [allBlank] using hb.2)]

/-- a run of blanks in front of a line feed or at the end of the input (`x` is `10 :: t` or `[]`) -/
theorem tb_blanks (prev : Bool) (r x : Bytes) (hr : r ≠ []) (hb : allBlank r = true)
    (hx : tb true x = true) : tb prev (r ++ x) = true := by
  cases r with
  | nil => exact absurd rfl hr
  | cons c r =>
    simp only [allBlank, List.all_cons, Bool.and_eq_true, beq_iff_eq] at hb
    simp [tb, hb.1, tb_true_blanks r x (by simpa [allBlank] using hb.2) hx]

/-- one line of an input without carriage returns and trailing blanks, as the slow path sees it:
`pars.Line`, then nothing but blanks `r` behind the walked part `ln` -/
theorem splitLine_copy {st ln r st' : Bytes} (hcr : noCR st) (hb : tb false st = false)
    (hsp : splitLine st = (ln ++ r, st')) (hbl : allBlank r = true) (hlong : ln.length < st.length) :
    r = [] ∧ st = ln ++ 10 :: st' ∧ noCR st' ∧ tb false st' = false := by
  obtain ⟨q, t, hsp', -, hst⟩ := splitLine_cases st hcr
  cases hsp.symm.trans hsp'
  -- blanks behind `ln`, in front of a line feed or the end of the input, would be trailing blanks of `st`
  have hr : ∀ x, st = ln ++ r ++ x → tb true x = true → r = [] := fun x est hx =>
    Classical.byContradiction fun hr => by
      rw [est, List.append_assoc, tb_suffix false ln _ (tb_blanks false r x hr hbl hx)] at hb
      cases hb
  rcases hst with est | ⟨est, _⟩
  · obtain rfl := hr _ est rfl
    rw [List.append_nil] at est
    refine ⟨rfl, est, fun c hc => hcr c (by rw [est]; simp [hc]), ?_⟩
    cases htb : tb false st' with
    | false => rfl
    | true =>
      rw [est, show ln ++ 10 :: st' = (ln ++ [10]) ++ st' by simp, tb_suffix false _ st' htb] at hb
      cases hb
  · -- the line runs to the end of the input
    obtain rfl := hr [] (by rw [List.append_nil]; exact est) rfl
    rw [est, List.append_nil] at hlong
    exact absurd hlong (Nat.lt_irrefl _)

/-- the slow loop inverted: `blk` is what a successful run has copied -/
theorem slowLines_valid_le (L cap f i : Nat) (st acc out rest : Bytes)
    (hN : Nine i L) (h : slowLines (L : Int) cap f i st acc = .ok (out, rest)) :
    ∃ blk, out = acc ++ blk ∧ (L - i ≤ 60 * f → blk.length = tl (L - i)) ∧
      (∀ tail', validateLines (L : Int) f i (blk ++ tail') = .ok ()) ∧
      (noCR st → tb false st = false → tl (L - i) ≤ st.length → st = blk ++ rest) := by
  induction f generalizing i st acc with
  | zero =>
    simp only [slowLines] at h; cases h
    exact ⟨[], by simp, fun hf => by rw [show L - i = 0 by omega]; rfl, fun _ => rfl, fun _ _ _ => rfl⟩
  | succ f ih =>
    unfold slowLines at h
    by_cases hc : ((i : Nat) : Int) < (L : Int)
    · rw [if_pos hc] at h
      generalize hsp : splitLine st = sp at h
      obtain ⟨q, st'⟩ := sp
      simp only at h
      generalize hw : walkLine .fail (L : Int) i q = w at h
      match w, hw, h with
      | .error e, _, h => cases h
      | .ok r, hw, h =>
        simp only at h
        split at h
        · cases h
        rename_i hbl
        obtain ⟨ln, e1, hn, hl, hloc⟩ := walkLine_split .fail L i q r (hN.head (by omega)) hw
        have hext : q.take (q.length - r.length) = ln := by
          rw [e1]; simp
        rw [hext] at h
        by_cases hfit : ((acc ++ ln).take cap).length < cap
        · rw [if_pos hfit] at h
          have hle : (acc ++ ln).length ≤ cap := by
            simp only [List.length_take] at hfit; omega
          rw [List.take_of_length_le hle] at h
          obtain ⟨blk, e2, hbl', hv, hcopy⟩ := ih (i + 60) st' (acc ++ ln ++ [10]) hN.step h
          have hstep := tl_sub_step (Int.ofNat_lt.mp hc)
          refine ⟨ln ++ 10 :: blk, by rw [e2]; simp, fun hf => ?_, fun tail' => ?_, fun hcr hb hlen => ?_⟩
          · simp only [List.length_append, List.length_cons, hl, hbl' (by omega)]; omega
          · unfold validateLines
            rw [if_pos hc]
            simp only [List.append_assoc, List.cons_append]
            rw [hloc]; simp only [bne_self_eq_false, Bool.false_eq_true, if_false]
            exact hv tail'
          · obtain ⟨rfl, est, hcr', hb'⟩ := splitLine_copy hcr hb (e1 ▸ hsp) (by simpa using hbl) (by omega)
            rw [est] at hlen ⊢
            rw [hcopy hcr' hb' (by simp only [List.length_append, List.length_cons, hl] at hlen; omega),
              List.append_assoc]
            rfl
        · rw [if_neg hfit] at h; cases h
    · rw [if_neg hc] at h; cases h
      exact ⟨[], by simp, fun _ => by rw [show L - i = 0 by omega]; rfl,
        fun _ => by unfold validateLines; rw [if_neg hc], fun _ _ _ => rfl⟩

theorem slowLines_valid (L cap f i : Nat) (st acc out rest : Bytes) (hL : L < 10 ^ 9)
    (h : slowLines (L : Int) cap f i st acc = .ok (out, rest)) :
    ∃ blk, out = acc ++ blk ∧ (L - i ≤ 60 * f → blk.length = tl (L - i)) ∧
      ∀ tail', validateLines (L : Int) f i (blk ++ tail') = .ok () :=
  let ⟨blk, e, hl, hv, _⟩ := slowLines_valid_le L cap f i st acc out rest (nine_of_lt hL) h
  ⟨blk, e, hl, hv⟩

theorem slow_token_valid_le (st : Bytes) (L : Nat) (out rest : Bytes) (hL : L ≤ 1000000020)
    (h : slowOrigin st L = .ok (out, rest)) :
    out.length = tl L ∧ ∀ tail, validateOrigin (out ++ tail) L = .ok () := by
  rw [slowOrigin_nat] at h
  generalize hs : slowLines (L : Int) (tl L) L 0 st [] = s at h
  match s, hs, h with
  | .error e, _, h => cases h
  | .ok (acc, st'), hs, h =>
    simp only [Except.ok.injEq, Prod.mk.injEq] at h
    obtain ⟨blk, e, hbl, hv, -⟩ := slowLines_valid_le L (tl L) L 0 st [] acc st' (nine_of_le hL rfl) hs
    simp only [List.nil_append, Nat.sub_zero] at e hbl
    have hlen : acc.length = tl L := by rw [e]; exact hbl (by omega)
    rw [hlen, Nat.sub_self, List.replicate_zero, List.append_nil] at h
    rw [← h.1]
    refine ⟨hlen, fun tail => ?_⟩
    rw [validateOrigin_nat, e]; exact hv tail

theorem slowLines_fast_le (L cap f i : Nat) (st acc out rest : Bytes)
    (hN : Nine i L) (hcr : noCR st) (hb : tb false st = false) (hlen : tl (L - i) ≤ st.length)
    (h : slowLines (L : Int) cap f i st acc = .ok (out, rest)) :
    validateLines (L : Int) f i st = .ok () := by
  obtain ⟨blk, -, -, hv, hcopy⟩ := slowLines_valid_le L cap f i st acc out rest hN h
  rw [hcopy hcr hb hlen]
  exact hv rest

theorem slowLines_fast (L cap f i : Nat) (st acc out rest : Bytes) (hL : L < 10 ^ 9)
    (hcr : noCR st) (hb : tb false st = false) (hlen : tl (L - i) ≤ st.length)
    (h : slowLines (L : Int) cap f i st acc = .ok (out, rest)) :
    validateLines (L : Int) f i st = .ok () :=
  slowLines_fast_le L cap f i st acc out rest (nine_of_lt hL) hcr hb hlen h

theorem slow_imp_fast_le (b : Bytes) (L : Nat) (o : Bytes × Bytes) (hL : L ≤ 1000000020) (hcr : noCR b)
    (hb : trailingBlank b = false) (hlen : tl L ≤ b.length)
    (h : slowOrigin b L = .ok o) : validateOrigin b L = .ok () := by
  rw [slowOrigin_nat] at h
  rw [validateOrigin_nat]
  cases hs : slowLines (L : Int) (tl L) L 0 b [] with
  | error e => rw [hs] at h; cases h
  | ok v =>
    obtain ⟨a, r⟩ := v
    exact slowLines_fast_le L (tl L) L 0 b [] a r (nine_of_le hL rfl) hcr hb (by simpa using hlen) hs

theorem tb_reset (prev : Bool) (c : UInt8) (x : Bytes) (h10 : c ≠ 10) (h32 : c ≠ 32) :
    tb prev (c :: x) = tb false x := by
  have e10 : (c == 10) = false := by simpa using h10
  have e32 : (c == 32) = false := by simpa using h32
  simp only [tb, e10, e32, Bool.and_false, Bool.false_or]

theorem tb_noLF_end (prev : Bool) (s0 : Bytes) (c : UInt8) (x : Bytes) (hs : ∀ y ∈ s0, y ≠ 10)
    (h10 : c ≠ 10) (h32 : c ≠ 32) : tb prev (s0 ++ c :: x) = tb false x := by
  induction s0 generalizing prev with
  | nil => exact tb_reset prev c x h10 h32
  | cons y s0 ih =>
    simp only [List.cons_append, tb]
    have : (y == 10) = false := by simpa using hs y (by simp)
    rw [this, Bool.and_false, Bool.false_or]
    exact ih _ (fun z hz => hs z (by simp [hz]))

theorem tb_base_run (prev : Bool) (g x : Bytes) (hg : g ≠ []) (hp : printable g) :
    tb prev (g ++ x) = tb false x := by
  have hl := hp _ (List.getLast_mem hg)
  rw [← List.dropLast_concat_getLast hg, List.append_assoc]
  exact tb_noLF_end prev _ _ x (fun y hy => (isBase_noEOL (hp y (List.dropLast_subset g hy))).1)
    (isBase_noEOL hl).1 (fun e => by rw [e] at hl; revert hl; decide)

theorem digit_ne : ∀ d, d < 10 → UInt8.ofNat (48 + d) ≠ 10 ∧ UInt8.ofNat (48 + d) ≠ 32 := by decide

theorem digitsAux_succ_split (f n : Nat) :
    ∃ s0 d, digitsAux (f + 1) n = s0 ++ [UInt8.ofNat (48 + d)] ∧ d < 10 := by
  rw [digitsAux]
  split
  · rename_i h; exact ⟨[], n, rfl, h⟩
  · exact ⟨_, n % 10, rfl, Nat.mod_lt _ (by omega)⟩

theorem tb_index9 (prev : Bool) (n : Nat) (x : Bytes) : tb prev (index9 n ++ x) = tb false x := by
  have hno := index9_noEOL n
  unfold index9 decimal at hno ⊢
  simp only at hno ⊢
  obtain ⟨s0, d, e, hd⟩ := digitsAux_succ_split n n
  rw [e] at hno ⊢
  have hdn := digit_ne d hd
  rw [← List.append_assoc, List.append_assoc _ [_] x]
  simp only [List.singleton_append]
  exact tb_noLF_end prev _ _ x
    (fun y hy => (noEOL_iff.1 hno y (by rw [← List.append_assoc]; exact List.mem_append.mpr (Or.inl hy))).1)
    hdn.1 hdn.2

theorem tb_fmtGroupsS (f j : Nat) (r x : Bytes) (hp : printable r) :
    tb false (fmtGroupsS f j r ++ x) = tb false x := by
  induction f generalizing j r with
  | zero => rfl
  | succ f ih =>
    unfold fmtGroupsS
    split
    · rename_i hc
      simp only [List.cons_append, List.append_assoc, tb, Bool.false_and, Bool.false_or]
      rw [show ((32 : UInt8) == 32) = true by decide]
      rw [tb_base_run true (r.take 10) _ (by simp [hc.2]) (fun y hy => hp y (List.mem_of_mem_take hy))]
      exact ih _ _ (fun y hy => hp y (List.mem_of_mem_drop hy))
    · rfl

theorem tb_fmtLinesS (f i : Nat) (r x : Bytes) (hp : printable r) :
    tb false (fmtLinesS f i r ++ x) = tb false x := by
  induction f generalizing i r with
  | zero => rfl
  | succ f ih =>
    unfold fmtLinesS
    split
    · simp only [List.append_assoc, List.cons_append]
      rw [tb_index9, tb_fmtGroupsS _ _ _ _ hp]
      simp only [tb, Bool.false_and, Bool.false_or]
      rw [show ((10 : UInt8) == 32) = false by decide]
      exact ih _ _ (fun y hy => hp y (List.mem_of_mem_drop hy))
    · rfl

theorem originStream_no_trailingBlank (p : Bytes) (hp : printable p) :
    trailingBlank (originStream p) = false := by
  rw [originStream_eq_S]
  have := tb_fmtLinesS p.length 0 p [] hp
  rw [List.append_nil] at this
  exact this
end Gts.Origin
