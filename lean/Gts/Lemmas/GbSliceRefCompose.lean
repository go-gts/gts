/-
  C03, slice of a slice: the REFERENCE base ranges of `Slice(Slice(F, a, b), c, d)` are those of
  `Slice(F, a + c, a + d)` (seeded change W35-1 broke this on the code: `GenBankFields.Slice` re-based
  its arguments by the head of an existing `Region` and clipped the already re-based ranges against
  that window).  Built on `parseRefInfo_sliceRanges` (what `Slice` writes into a reference is read
  back as the clipped ranges).  Core Lean only.
-/
import Gts.Lemmas.GbSliceRefInfo
import Gts.Lemmas.Basic
namespace Gts.GbSliceRef
open Gts Gts.Pars Gts.GenBank

theorem rangeOverlap_proper (s e l u : Int) (h1 : s < e) (h2 : l < u) :
    Loc.rangeOverlap s e l u = (decide (s < u) && decide (l < e)) := by
  have a : ¬ e < s := by omega
  have b : ¬ u < l := by omega
  simp only [Loc.rangeOverlap, if_neg a, if_neg b]

theorem overlap_clip (a b c d : Int) (r : Int × Int) (hr : r.1 < r.2) (hab : a < b)
    (ho : Loc.rangeOverlap r.1 r.2 a b = true) (hc : 0 ≤ c) (hcd : c < d) (hd : d ≤ b - a) :
    Loc.rangeOverlap (clipRange a b r).1 (clipRange a b r).2 c d =
      Loc.rangeOverlap r.1 r.2 (a + c) (a + d) := by
  rw [rangeOverlap_proper _ _ _ _ hr hab] at ho
  simp only [Bool.and_eq_true, decide_eq_true_eq] at ho
  have hcl : (clipRange a b r).1 < (clipRange a b r).2 := by
    simp only [clipRange, Loc.gmax_eq_max, Loc.gmin_eq_min]; omega
  rw [rangeOverlap_proper _ _ _ _ hcl hcd, rangeOverlap_proper _ _ _ _ hr (by omega)]
  simp only [clipRange, Loc.gmax_eq_max, Loc.gmin_eq_min]
  congr 1 <;> (rw [decide_eq_decide]; omega)

theorem clip_clip (a b c d : Int) (r : Int × Int) (hc : 0 ≤ c) (hd : d ≤ b - a) :
    clipRange c d (clipRange a b r) = clipRange (a + c) (a + d) r := by
  simp only [clipRange, Loc.gmax_eq_max, Loc.gmin_eq_min]
  refine Prod.ext ?_ ?_ <;> simp only <;> omega

theorem overlap_inner_outer (a b c d : Int) (r : Int × Int) (hr : r.1 < r.2) (hab : a < b)
    (hc : 0 ≤ c) (hcd : c < d) (hd : d ≤ b - a)
    (h : Loc.rangeOverlap r.1 r.2 (a + c) (a + d) = true) : Loc.rangeOverlap r.1 r.2 a b = true := by
  rw [rangeOverlap_proper _ _ _ _ hr (by omega)] at h
  rw [rangeOverlap_proper _ _ _ _ hr hab]
  simp only [Bool.and_eq_true, decide_eq_true_eq] at *
  omega

/-- the filter of the second slice over the ranges the first slice wrote -/
theorem filter_clip (a b c d : Int) (locs : List (Int × Int)) (hp : ∀ r ∈ locs, r.1 < r.2) (hab : a < b)
    (hc : 0 ≤ c) (hcd : c < d) (hd : d ≤ b - a) :
    (((locs.filter fun r => Loc.rangeOverlap r.1 r.2 a b).map (clipRange a b)).filter
        fun r => Loc.rangeOverlap r.1 r.2 c d).map (clipRange c d) =
      (locs.filter fun r => Loc.rangeOverlap r.1 r.2 (a + c) (a + d)).map (clipRange (a + c) (a + d)) := by
  -- both sides filter `locs` and map the survivors; the predicates agree range by range
  have hP : ∀ r ∈ locs, (Loc.rangeOverlap (clipRange a b r).1 (clipRange a b r).2 c d &&
      Loc.rangeOverlap r.1 r.2 a b) = Loc.rangeOverlap r.1 r.2 (a + c) (a + d) := by
    intro r hr
    cases ho : Loc.rangeOverlap r.1 r.2 a b with
    | true => rw [Bool.and_true]; exact overlap_clip a b c d r (hp r hr) hab ho hc hcd hd
    | false =>
      rw [Bool.and_false]
      cases hi : Loc.rangeOverlap r.1 r.2 (a + c) (a + d) with
      | false => rfl
      | true => exact ho.symm.trans (overlap_inner_outer a b c d r (hp r hr) hab hc hcd hd hi)
  rw [List.filter_map, List.filter_filter, List.map_map]
  exact (congrArg _ (List.filter_congr hP)).trans (List.map_congr_left fun r _ => clip_clip a b c d r hc hd)

/-- **one reference under a slice of a slice**: for windows `[a, b)` and `[c, d) ⊆ [0, b - a)`, both
non-empty, what the second `Slice` makes of what the first one wrote is what ONE `Slice` to
`[a + c, a + d)` makes of the original info — dropped in the same cases, the same text otherwise, an
unparsable info kept verbatim by both -/
theorem sliceRefInfo_compose (pref info : Bytes) (a b c d : Int) (hab : a < b)
    (hfit : b - a ≤ 9223372036854775807) (hc : 0 ≤ c) (hcd : c < d) (hd : d ≤ b - a) :
    (sliceRefInfo pref a b info).bind (sliceRefInfo pref c d) = sliceRefInfo pref (a + c) (a + d) info := by
  cases hp : parseRefInfo pref info with
  | none => simp [sliceRefInfo_eq, hp]
  | some locs =>
    -- on ranges the two slices compose; an empty first result gives an empty composite
    have hcomp : sliceRanges c d (sliceRanges a b locs) = sliceRanges (a + c) (a + d) locs :=
      filter_clip a b c d locs (RefInfo.parseRefInfo_proper pref info locs hp) hab hc hcd hd
    simp only [sliceRefInfo_eq pref _ _ info, hp]
    by_cases hol : sliceRanges a b locs = []
    · rw [← hcomp, hol]; rfl
    · simp [hol, sliceRefInfo_eq pref c d, parseRefInfo_sliceRanges pref info a b locs hab hfit hp hol, hcomp]

theorem renumber_infos (infos : List Bytes) : (renumber infos).map (·.info) = infos := by
  unfold renumber
  apply List.ext_getElem
  · simp
  · intro i h1 h2
    simp

theorem filterMap_info (g : Bytes → Option Bytes) (rs : List Ref) :
    rs.filterMap (fun r => g r.info) = (rs.map (·.info)).filterMap g := by
  induction rs with
  | nil => rfl
  | cons r rs ih => simp [List.filterMap_cons, ih]

/-- **slice of a slice, the whole reference list**: `sliceRefs c d ∘ sliceRefs a b = sliceRefs (a + c) (a + d)`
— clipped to the inner window, re-based, dropped when disjoint from it, renumbered `1..m` -/
theorem sliceRefs_compose (pref : Bytes) (a b c d : Int) (refs : List Ref) (hab : a < b)
    (hfit : b - a ≤ 9223372036854775807) (hc : 0 ≤ c) (hcd : c < d) (hd : d ≤ b - a) :
    sliceRefs pref c d (sliceRefs pref a b refs) = sliceRefs pref (a + c) (a + d) refs := by
  unfold sliceRefs
  rw [filterMap_info (sliceRefInfo pref c d), renumber_infos, filterMap_info (sliceRefInfo pref a b),
    filterMap_info (sliceRefInfo pref (a + c) (a + d)), List.filterMap_filterMap]
  have hfun : (fun x => (sliceRefInfo pref a b x).bind (sliceRefInfo pref c d)) =
      sliceRefInfo pref (a + c) (a + d) :=
    funext fun x => sliceRefInfo_compose pref x a b c d hab hfit hc hcd hd
  rw [hfun]

end Gts.GbSliceRef
