/-
  The checked Go slice operations — `p[i]`, `p[a:]`, `p[:b]`, `p[a:b]`, `p[i] = c` with `none` for the run-time panic —
  at indices that are natural numbers.  Every translator emits its own prelude with these five operations
  (`Gts/Gen/CliList.lean` `cl*`, `GoStrings` `ws*`, `SeqPrelude` `goAt …`, `GoBytes` `goIndex …`, `GoList`,
  `ParsPrelude`, `Props`); the texts are the same, so each copy IS the `cl*` copy (`rfl`: the equations stand next to
  the users of each copy, since not all preludes can be imported together) and this one set of lemmas serves all.
-/
import Gts.Gen.CliList
namespace Gts.Bridge
open Gts

theorem clAt_nat {α : Type} (p : List α) (n : Nat) : Gen.clAt p (n : Int) = p[n]? := by
  have : ¬ ((n : Int) < 0) := by omega
  simp only [Gen.clAt, this, if_false, Int.toNat_natCast]

theorem clAt_lt {α : Type} (p : List α) (n : Nat) (h : n < p.length) : Gen.clAt p (n : Int) = some p[n] := by
  rw [clAt_nat, List.getElem?_eq_getElem h]

theorem clAt_neg {α : Type} (p : List α) (i : Int) (h : i < 0) : Gen.clAt p i = none := if_pos h

theorem clAt_append_length {α : Type} (pre : List α) (a : α) (suf : List α) :
    Gen.clAt (pre ++ a :: suf) (pre.length : Int) = some a := by
  rw [clAt_nat]; simp

theorem clAt_zero {α : Type} (l : List α) : Gen.clAt l 0 = l.head? := by
  cases l <;> rfl

theorem clAt_zero_cons {α : Type} (a : α) (l : List α) : Gen.clAt (a :: l) 0 = some a := clAt_zero _

theorem clPut_nat {α : Type} (p : List α) (n : Nat) (c : α) (h : n < p.length) :
    Gen.clPut p (n : Int) c = some (p.set n c) := by
  unfold Gen.clPut
  rw [if_pos (by omega), Int.toNat_natCast]

theorem clPut_nat_none {α : Type} (p : List α) (n : Nat) (c : α) (h : p.length ≤ n) :
    Gen.clPut p (n : Int) c = none := if_neg (by omega)

theorem clPut_append_length {α : Type} (pre : List α) (a c : α) (suf : List α) :
    Gen.clPut (pre ++ a :: suf) (pre.length : Int) c = some (pre ++ c :: suf) := by
  rw [clPut_nat _ _ _ (by simp)]
  simp

theorem clFrom_nat {α : Type} (p : List α) (n : Nat) (h : n ≤ p.length) :
    Gen.clFrom p (n : Int) = some (p.drop n) := by
  have : (0 : Int) ≤ (n : Int) ∧ (n : Int) ≤ (p.length : Int) := by omega
  simp [Gen.clFrom, this]

theorem clTo_nat {α : Type} (p : List α) (n : Nat) (h : n ≤ p.length) :
    Gen.clTo p (n : Int) = some (p.take n) := by
  have : (0 : Int) ≤ (n : Int) ∧ (n : Int) ≤ (p.length : Int) := by omega
  simp [Gen.clTo, this]

theorem clSub_nat {α : Type} (p : List α) (a b : Nat) (hab : a ≤ b) (hb : b ≤ p.length) :
    Gen.clSub p (a : Int) (b : Int) = some ((p.drop a).take (b - a)) := by
  unfold Gen.clSub
  rw [if_pos (by omega)]
  rfl

theorem clSub_nat_none {α : Type} (p : List α) (a b : Nat) (hab : b < a) :
    Gen.clSub p (a : Int) (b : Int) = none := if_neg (by omega)

/-! the slices `s[:i]`, `s[i:]`, `s[i+1:]` at `i = len(a)` of `s = a ++ b`: how the Go sources cut a string at a separator
found by `IndexByte`, a table at a row found by `Index` -/

theorem clTo_append_length {α : Type} (a b : List α) : Gen.clTo (a ++ b) (a.length : Int) = some a :=
  (clTo_nat _ _ (by simp)).trans (congrArg some (List.take_left' rfl))

theorem clFrom_append_length {α : Type} (a b : List α) : Gen.clFrom (a ++ b) (a.length : Int) = some b :=
  (clFrom_nat _ _ (by simp)).trans (congrArg some (List.drop_left' rfl))

theorem clFrom_append_succ {α : Type} (a : List α) (x : α) (b : List α) :
    Gen.clFrom (a ++ x :: b) ((a.length : Int) + 1) = some b :=
  (clFrom_nat (a ++ x :: b) (a.length + 1) (by simp)).trans (by rw [List.drop_length_add_append]; rfl)

end Gts.Bridge
