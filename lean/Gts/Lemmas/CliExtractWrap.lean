/-
  Helper lemmas for the FEATURE clause of `gts extract` (C15) on regions that reach across the origin
  of a circular record.

  `Segment{h, t}.Locate(seq)` hands its ends to `gts.Slice`, which adds the length to a negative end
  and, when the end then lies before the start, rotates the record by `-start` and cuts the forward
  window `[0, L - start + end)`.  With `lo = min h t`, `hi = max h t`, `L = |seq|` this is the window
  `lo + L … L, 0 … hi` of the circle exactly when

      -L ≤ lo < 0 ≤ hi < lo + L        (`wrapSeg`).

  (`hi ≥ lo + L`, a segment as long as the circle or longer, is NOT read like that: the slice is the
  forward one from `lo + L` to `hi`, see `Gts.C15.locate_long_wrap_differs`; an end above `L` is outside
  what `Slice` accepts.)

  * `wrapFeatLoc`, `wrap_slice_feats_perm`, `wrapFeatLoc_facts`: the feature table of the wrap-around
    slice with the location of every feature EXPLICIT (`C03.slice_wrap_feature_partial` says "there is a
    feature"; the steps behind it — `Complement`, `Reverse`, the `Expand(0, offset)` of `Concat` — need the
    location to state their K2 guards);
  * `wsegFeatLoc`, `wsegAbs`, `wsegPull`, `locate_wseg_feature`: a wrap-around SEGMENT, forward or backward;
  * `concat_part_feature`: a feature of one element of `gts.Concat(seqs...)`.
  Core Lean only (plus the property modules the files it imports already use).
-/
import Gts.Lemmas.CliExtractFeat
import Gts.Lemmas.CliSplitCirc
import Gts.Lemmas.RotateCompose
namespace Gts.Cli
open Gts Loc Reg

theorem slice_neg_start (s : Seq) (a b : Int) (ha : a < 0) (haL : 0 ≤ a + s.len) (hb : 0 ≤ b) :
    s.slice a b = s.slice (a + s.len) b := by
  unfold Seq.slice
  simp only [ha, if_true, show ¬ b < 0 by omega, if_false, show ¬ (a + s.len < 0) by omega]

theorem slice_neg_both (s : Seq) (a b : Int) (ha : a < 0) (haL : 0 ≤ a + s.len) (hb : b < 0)
    (hbL : 0 ≤ b + s.len) : s.slice a b = s.slice (a + s.len) (b + s.len) := by
  unfold Seq.slice
  simp only [ha, hb, if_true, show ¬ (a + s.len < 0) by omega, show ¬ (b + s.len < 0) by omega, if_false]

/-- the location the wrap-around `gts.Slice(seq, a, b)` (`0 ≤ b < a ≤ L`) gives a feature:
`gts.Rotate(seq, -a)` (`rotLoc`), then the forward slice `[0, L - a + b)` -/
def wrapFeatLoc (f : Feature) (a b L : Int) : Loc :=
  sliceFeatLoc { f with loc := rotLoc f.loc a L } 0 (L - a + b) L

theorem wrap_slice_feats_perm (s : Seq) (a b : Int) (hb : 0 ≤ b) (hba : b < a) :
    (s.slice a b).feats.Perm
      ((s.feats.filter fun f => (rotLoc f.loc a s.len).overlap 0 (s.len - a + b)).map
        fun f => { f with loc := wrapFeatLoc f a b s.len }) := by
  refine (C03.slice_wrap_feats_perm s a b hb hba).trans (List.Perm.of_eq (List.map_congr_left fun f _ => ?_))
  rw [Seq.rotate_len]
  unfold wrapFeatLoc sliceFeatLoc
  split <;> rfl

theorem wrap_slice_len (s : Seq) (a b : Int) (hb : 0 ≤ b) (hba : b < a) (haL : a ≤ s.len) :
    (s.slice a b).len = s.len - a + b := by
  have h := C03.slice_bytes_wrap s a b hb hba haL
  unfold Seq.len at *
  rw [h]
  simp only [List.length_append, List.length_drop, List.length_take]
  omega

/-- a feature and the window `lo + L … L, 0 … hi` of `hi - lo` residues (`-L ≤ lo < 0 ≤ hi < lo + L`, see `wrapSeg`
below): when its rotated location overlaps the window it is in the wrap-around slice, at `wrapFeatLoc` -/
theorem wrapFeatLoc_facts (s : Seq) (lo hi : Int) (h1 : -s.len ≤ lo) (h2 : lo < 0) (h3 : 0 ≤ hi)
    (h4 : hi < lo + s.len) (f : Feature) (hf : f ∈ s.feats) (hw : wf f.loc = true) (hnn : nonneg f.loc = true)
    (hpos : ∀ p ∈ den f.loc, 0 ≤ p.1 ∧ p.1 < s.len)
    (hok : normOk s.len (f.loc.expand 0 (C04.rotN (-(lo + s.len)) s.len)) = true)
    (hov : (rotLoc f.loc (lo + s.len) s.len).overlap 0 (hi - lo) = true) :
    ({ f with loc := wrapFeatLoc f (lo + s.len) hi s.len } : Feature) ∈ (s.slice (lo + s.len) hi).feats ∧
    wf (wrapFeatLoc f (lo + s.len) hi s.len) = true ∧
    allLeaves (leafWithin (hi - lo)) (wrapFeatLoc f (lo + s.len) hi s.len) = true ∧
    (cwinAbs s.len f.loc (lo + s.len, hi) = false →
      den (wrapFeatLoc f (lo + s.len) hi s.len) ≼ filterMapPos (cwinMap s.len (lo + s.len) hi) (den f.loc)) := by
  have hL : 0 < s.len := by omega
  have eW : hi - lo = s.len - (lo + s.len) + hi := by omega
  rw [eW] at hov ⊢
  obtain ⟨hwf', hd'⟩ := rotLoc_facts f.loc (lo + s.len) s.len hL hw hnn hok
  have hcw : allLeaves (leafWithin s.len) (rotLoc f.loc (lo + s.len) s.len) = true := by
    rw [← coordsWithin_eq]
    exact C04.rotate_coords f.loc _ s.len hL (C04.rotN_nonneg _ s.len hL) hw hnn (ambOk_of_normOk s.len _ hok)
  obtain ⟨s1, s2, s3⟩ := sliceFeatLoc_facts { f with loc := rotLoc f.loc (lo + s.len) s.len } 0
    (s.len - (lo + s.len) + hi) s.len (Int.le_refl 0) (by omega) (by omega) hwf' hcw
  rw [Int.sub_zero] at s2
  refine ⟨(wrap_slice_feats_perm s _ hi h3 h4).symm.subset
    (List.mem_map_of_mem (List.mem_filter.mpr ⟨hf, hov⟩)), s1, s2, fun hg => ?_⟩
  simp only [cwinAbs, if_neg (show ¬ lo + s.len ≤ hi by omega), Bool.or_eq_false_iff] at hg
  obtain ⟨⟨⟨g1, g2⟩, g3⟩, g4⟩ := hg
  have d2 := (s3 g3 (by simpa using g4)).trans (filterMapPos_refines _ (hd' g1 g2))
  rwa [wrap_remap_eq s.len _ hi h3 h4 (by omega) _ hpos] at d2

/-- the segment `(h, t)` reads the window `lo + L … L, 0 … hi` of a circle of `L` residues
(`lo = min h t`, `hi = max h t`): decidable -/
def wrapSeg (L h t : Int) : Bool :=
  if t < h then decide (-L ≤ t) && decide (t < 0) && decide (0 ≤ h) && decide (h < t + L)
  else decide (-L ≤ h) && decide (h < 0) && decide (0 ≤ t) && decide (t < h + L)

/-- the location `Segment{h, t}.Locate(seq)` gives a feature when the segment wraps around the origin:
the wrap-around slice, and for a backward segment `Complement()` then `Reverse(h - t)` of it -/
def wsegFeatLoc (f : Feature) (h t L : Int) : Loc :=
  if t < h then ((wrapFeatLoc f (t + L) h L).complement).reverse (h - t) else wrapFeatLoc f (h + L) t L

/-- the `Overlap` filter of the slice inside `Segment{h, t}.Locate` when the segment wraps: it is put
to the ROTATED location -/
def wsegOverlap (f : Feature) (h t L : Int) : Bool :=
  if t < h then (rotLoc f.loc (t + L) L).overlap 0 (h - t)
  else (rotLoc f.loc (h + L) L).overlap 0 (t - h)

/-- the K2 guard of `wsegFeatLoc`: the four steps of the wrap-around slice (`cwinAbs`) and, backward
segment, the `Reverse` -/
def wsegAbs (f : Feature) (h t L : Int) : Bool :=
  if t < h then cwinAbs L f.loc (t + L, h) || reverseAbs ((wrapFeatLoc f (t + L) h L).complement) (h - t)
  else cwinAbs L f.loc (h + L, t)

/-- where the record extracted for the wrap-around segment `(h, t)` has input position `x` (`0 ≤ x < L`):
forward, the positions from `h + L` on first, then those before `t`; backward the mirror image -/
def wsegMap (L h t x : Int) : Option Int :=
  if t < h then (cwinMap L (t + L) h x).map fun y => h - t - 1 - y
  else cwinMap L (h + L) t x

/-- what a denotation of the input becomes in the record extracted for the wrap-around segment: the
residues inside the window, at their position there, in the same order; on a backward segment every
strand is flipped (and the order of the record is the reverse-complement's) -/
def wsegPull (L h t : Int) (d : List Pos) : List Pos :=
  d.filterMap fun p => (wsegMap L h t p.1).map fun y => (y, if t < h then !p.2 else p.2)

theorem wsegPull_fwd (L h t : Int) (hht : ¬ t < h) (d : List Pos) :
    wsegPull L h t d = filterMapPos (cwinMap L (h + L) t) d := by
  unfold wsegPull filterMapPos
  apply filterMap_congr'
  intro p _
  simp only [wsegMap, hht, if_false]

theorem wsegPull_bwd (L h t : Int) (hth : t < h) (d : List Pos) :
    wsegPull L h t d =
      (filterMapPos (cwinMap L (t + L) h) d).map fun p => (h - t - 1 - p.1, !p.2) := by
  unfold wsegPull filterMapPos
  rw [List.map_filterMap]
  apply filterMap_congr'
  intro p _
  simp only [wsegMap, hth, if_true]
  cases cwinMap L (t + L) h p.1 <;> rfl

theorem locate_wseg (s : Seq) (h t : Int) (hws : wrapSeg s.len h t = true) :
    (seg h t).locate s =
      if t < h then (Seq.complement (s.slice (t + s.len) h)).reverse else s.slice (h + s.len) t := by
  unfold wrapSeg at hws
  by_cases hth : t < h
  · simp only [hth, if_true, Bool.and_eq_true, decide_eq_true_eq] at hws
    simp only [Reg.locate, hth, if_true]
    rw [slice_neg_start s t h hws.1.1.2 (by omega) hws.1.2]
  · simp only [hth, if_false, Bool.and_eq_true, decide_eq_true_eq] at hws
    simp only [Reg.locate, hth, if_false]
    rw [slice_neg_start s h t hws.1.1.2 (by omega) hws.1.2]

theorem locate_wseg_len (s : Seq) (h t : Int) (hws : wrapSeg s.len h t = true) :
    ((seg h t).locate s).len = Reg.len (seg h t) := by
  rw [locate_wseg s h t hws]
  unfold wrapSeg at hws
  by_cases hth : t < h
  · simp only [hth, if_true, Bool.and_eq_true, decide_eq_true_eq] at hws
    simp only [hth, if_true]
    have h1 := wrap_slice_len s (t + s.len) h hws.1.2 (by omega) (by omega)
    have h2 : (Seq.complement (s.slice (t + s.len) h)).reverse.len = (s.slice (t + s.len) h).len := by
      simp [Seq.reverse, Seq.complement, Seq.len]
    rw [h2, h1]
    simp only [Reg.len, Reg.gabs]
    split <;> omega
  · simp only [hth, if_false, Bool.and_eq_true, decide_eq_true_eq] at hws
    simp only [hth, if_false]
    rw [wrap_slice_len s (h + s.len) t hws.1.2 (by omega) (by omega)]
    simp only [Reg.len, Reg.gabs]
    split <;> omega

theorem locate_wseg_feature (s : Seq) (h t : Int) (hws : wrapSeg s.len h t = true)
    (f : Feature) (hf : f ∈ s.feats) (hw : wf f.loc = true) (hnn : nonneg f.loc = true)
    (hpos : ∀ p ∈ den f.loc, 0 ≤ p.1 ∧ p.1 < s.len)
    (hok : normOk s.len (f.loc.expand 0 (C04.rotN (-((if t < h then t else h) + s.len)) s.len)) = true)
    (hov : wsegOverlap f h t s.len = true) :
    ({ f with loc := wsegFeatLoc f h t s.len } : Feature) ∈ ((seg h t).locate s).feats ∧
    wf (wsegFeatLoc f h t s.len) = true ∧ nonnegR (wsegFeatLoc f h t s.len) = true ∧
    (wsegAbs f h t s.len = false →
      den (wsegFeatLoc f h t s.len) ≼ wsegPull s.len h t (den f.loc)) := by
  rw [locate_wseg s h t hws]
  unfold wrapSeg at hws
  by_cases hth : t < h
  · simp only [hth, if_true, Bool.and_eq_true, decide_eq_true_eq] at hws hok
    simp only [wsegOverlap, hth, if_true] at hov
    -- the feature in the wrap-around slice
    obtain ⟨hm, s1, s2, s3⟩ :=
      wrapFeatLoc_facts s t h hws.1.1.1 hws.1.1.2 hws.1.2 hws.2 f hf hw hnn hpos hok hov
    -- complement, then reverse
    have hc : ({ f with loc := (wrapFeatLoc f (t + s.len) h s.len).complement } : Feature) ∈
        (Seq.complement (s.slice (t + s.len) h)).feats := by
      simp only [Seq.complement]
      exact List.mem_map_of_mem (f := fun g : Feature => { g with loc := g.loc.complement }) hm
    have hrl : (Seq.complement (s.slice (t + s.len) h)).len = h - t := by
      rw [complement_len, wrap_slice_len s (t + s.len) h hws.1.2 hws.2 (by omega)]; omega
    have hrev := (Seq.reverse_feats_perm (Seq.complement (s.slice (t + s.len) h))).symm.subset
      (List.mem_map_of_mem (f := fun g : Feature =>
        { g with loc := g.loc.reverse (Seq.complement (s.slice (t + s.len) h)).len }) hc)
    rw [hrl] at hrev
    obtain ⟨r1, r2, r3⟩ := revcomp_facts (wrapFeatLoc f (t + s.len) h s.len) (h - t) s1 s2
    simp only [hth, if_true, wsegFeatLoc, wsegAbs]
    refine ⟨hrev, r1, r2, ?_⟩
    intro hg
    simp only [Bool.or_eq_false_iff] at hg
    rw [wsegPull_bwd s.len h t hth]
    exact (r3 hg.2).trans ((s3 hg.1).map _)
  · simp only [hth, if_false, Bool.and_eq_true, decide_eq_true_eq] at hws hok
    simp only [wsegOverlap, hth, if_false] at hov
    obtain ⟨hm, s1, s2, s3⟩ :=
      wrapFeatLoc_facts s h t hws.1.1.1 hws.1.1.2 hws.1.2 hws.2 f hf hw hnn hpos hok hov
    simp only [hth, if_false, wsegFeatLoc, wsegAbs]
    refine ⟨hm, s1, nonnegR_of_within _ _ s2, ?_⟩
    intro hg
    rw [wsegPull_fwd s.len h t hth]
    exact s3 hg

theorem foldl_concat2_feats_subset (bs : List Seq) (acc : Seq) :
    ∀ g ∈ acc.feats, g ∈ (bs.foldl Seq.concat2 acc).feats := by
  induction bs generalizing acc with
  | nil => intro g hg; exact hg
  | cons b bs ih =>
    intro g hg
    simp only [List.foldl_cons]
    apply ih
    exact (Seq.concat2_feats_perm acc b).symm.subset (List.mem_append_left _ hg)

theorem foldl_concat2_len (bs : List Seq) (acc : Seq) :
    (bs.foldl Seq.concat2 acc).len = acc.len + ((bs.map Seq.len).foldl (· + ·) 0) := by
  induction bs generalizing acc with
  | nil => simp
  | cons b bs ih =>
    simp only [List.foldl_cons, List.map_cons]
    rw [ih, Seq.concat2_len, Int.add_comm 0, List.foldl_assoc, Int.add_assoc]

/-- **a feature of one element of `gts.Concat(pre..., x, post...)`**: when `x` is the first element it is
in the concatenation as it is; otherwise it is there re-located by `Expand(0, off)`, `off` the number of
residues of the elements in front -/
theorem concat_part_mem (pre post : List Seq) (x : Seq) (g : Feature) (hg : g ∈ x.feats) :
    (if pre = [] then g else { g with loc := g.loc.expand 0 (Seq.concat pre).len }) ∈
      (Seq.concat (pre ++ x :: post)).feats := by
  cases pre with
  | nil =>
    simp only [if_true, List.nil_append, Seq.concat]
    exact foldl_concat2_feats_subset post x g hg
  | cons p ps =>
    simp only [List.cons_ne_nil, if_false, List.cons_append, Seq.concat, List.foldl_append, List.foldl_cons]
    apply foldl_concat2_feats_subset
    apply (Seq.concat2_feats_perm _ x).symm.subset
    apply List.mem_append_right
    exact List.mem_map_of_mem (f := fun f : Feature => { f with loc := f.loc.expand 0 (ps.foldl Seq.concat2 p).len }) hg

/-- … and what it denotes: the element's residues, translated by the offset (K2 guard of that one
`Expand`) -/
theorem concat_part_feature (pre post : List Seq) (x : Seq) (g : Feature) (hg : g ∈ x.feats)
    (hw : wf g.loc = true) (hn : nonnegR g.loc = true)
    (ha : pre ≠ [] → expandAbs g.loc 0 (Seq.concat pre).len = false) :
    ∃ g' ∈ (Seq.concat (pre ++ x :: post)).feats, g'.key = g.key ∧ g'.props = g.props ∧
      den g'.loc ≼ mapPos (· + (Seq.concat pre).len) (den g.loc) := by
  refine ⟨_, concat_part_mem pre post x g hg, ?_, ?_, ?_⟩
  · split <;> rfl
  · split <;> rfl
  · by_cases hp : pre = []
    · subst hp
      simp only [if_true]
      have : (Seq.concat ([] : List Seq)).len = 0 := rfl
      rw [this]
      apply Refines.of_eq
      rw [mapPos_congr _ (fun x => x) _ (fun q _ => by simp), mapPos_id]
    · simp only [hp, if_false]
      have hk : 0 ≤ (Seq.concat pre).len := by unfold Seq.len; omega
      exact guest_translateR g.loc _ hw hn hk (ha hp)

end Gts.Cli
