/-
  Lemmas about the translator's reading of Go's slice operations on lists (Gts/Gen/GoList.lean, fixed
  text): the checked operations at indices that are natural numbers.
-/
import Gts.Gen.GoList
import Gts.Lemmas.GoSlice
namespace Gts.Gen

variable {α : Type}

/-! the checked slice operations of the prelude `Gts/Gen/GoList.lean` are those of `Gts/Gen/CliList.lean`
(`Gts/Lemmas/GoSlice.lean` has their lemmas) -/

theorem goIdx_eq : @goIdx = @clAt := rfl
theorem goFrom_eq : @goFrom = @clFrom := rfl
theorem goTo_eq : @goTo = @clTo := rfl
theorem goSet_eq : @goSet = @clPut := rfl

theorem goIdx_neg (p : List α) (i : Int) (h : i < 0) : goIdx p i = none := Bridge.clAt_neg p i h

theorem goSet_nat (p : List α) (n : Nat) (x : α) (h : n < p.length) :
    goSet p (n : Int) x = some (p.set n x) := Bridge.clPut_nat p n x h

theorem goMake_nat (z : α) (n : Nat) : goMake z (n : Int) = some (List.replicate n z) := by
  simp only [goMake, Int.toNat_natCast]
  rw [if_neg (by omega)]

theorem goMake3_zero (z : α) (c : Nat) : goMake3 z 0 (c : Int) = some [] := by
  simp only [goMake3]
  rw [if_pos (by omega)]
  rfl

theorem goCopyAt_nat (q : List α) (n : Nat) (src : List α) (h : n ≤ q.length) :
    goCopyAt q (n : Int) src = some (q.take n ++ goCopy (q.drop n) src) := by
  simp only [goCopyAt, Int.toNat_natCast]
  rw [if_pos (by omega)]

theorem goUint_nat (n : Nat) : goUint (n : Int) = some (n : Int) := by
  simp only [goUint]; rw [if_pos (by omega)]

/-- `copy(q, src)` keeps the length of the destination -/
theorem goCopy_length (q src : List α) : (goCopy q src).length = q.length := by
  simp only [goCopy, List.length_append, List.length_take, List.length_drop]; omega

/-- `copy(q, src)` with a source that fits: the source, then the untouched rest -/
theorem goCopy_le (q src : List α) (h : src.length ≤ q.length) : goCopy q src = src ++ q.drop src.length := by
  simp only [goCopy, List.take_of_length_le h]

end Gts.Gen
