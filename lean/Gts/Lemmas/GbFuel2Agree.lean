/-
  C07: the fuel-parametrised reader of Gts/Lemmas/GbFuel2X.lean IS the model, for every fuel
  policy that never lowers a fuel.

  * Loops whose adequacy holds in every state (`splitOn`, `natDigitsF`, `digitsAux`, `bodyMore`,
    `dblinkMore`, `taxonMore`, `literalMore`, the ORIGIN
    counters): the `…X` parser EQUALS the model parser as a term.
  * Loops whose adequacy needs a sorted state (`refSubfields`, `qualifiers`, `tableMore`,
    `ParseLocation`, `recordLoop`): equality of the runs from every sorted state, carried through
    the enclosing parsers by "the parser in front keeps the state sorted" (`KeepS`).
-/
import Gts.Lemmas.GbFuel2Pure
import Gts.Lemmas.GbFuel2Table
import Gts.Lemmas.GbFuel2X
import Gts.Lemmas.GbFuel
import Gts.Lemmas.Fuel
namespace Gts.Pars

def KeepS {α} (p : P α) : Prop :=
  ∀ (s : PS) r s', Sorted s.rest.length s.stk → p.run' s = (r, s') → Sorted s'.rest.length s'.stk

theorem SafeW.keepS {α} {p : P α} (hp : SafeW p) : KeepS p :=
  fun _ _ _ hs h => (hp.run hs h).2

theorem keepS_attempt {α} {p : P α} (hp : KeepS p) : KeepS (attempt p) := by
  intro s r s' hs h
  rw [run_attempt] at h
  rcases hr : p.run' s with ⟨r1, s1⟩
  rw [hr] at h
  have := hp s r1 s1 hs hr
  rcases r1 with e | a
  · cases e <;> (cases h; exact this)
  · cases h; exact this

theorem keepS_pop : KeepS pop := by
  intro s r s' hs h
  rw [run_pop] at h
  split at h
  · cases h; exact hs
  · rename_i f st hst
    cases h
    rw [hst] at hs
    exact hs.2

theorem keepS_drop : KeepS drop := by
  intro s r s' hs h
  rw [run_drop] at h
  cases h
  exact sorted_drop1 hs

theorem keepS_getS : KeepS getS := by
  intro s r s' hs h
  rw [run_getS] at h
  cases h; exact hs

theorem KeepS.bind {α β} {p : P α} {f : α → P β} (hp : KeepS p) (hf : ∀ a, KeepS (f a)) :
    KeepS (p >>= f) := by
  intro s r s' hs h
  rw [run_bind] at h
  rcases hr : p.run' s with ⟨r1, s1⟩
  rw [hr] at h
  rcases r1 with e | a
  · cases h; exact hp s _ _ hs hr
  · exact hf a s1 r s' (hp s _ s1 hs hr) h

theorem KeepS.pure {α} (a : α) : KeepS (Pure.pure a : P α) := fun _ _ _ hs h => by cases h; exact hs
theorem KeepS.fail {α} : KeepS (Pars.fail : P α) := fun _ _ _ hs h => by cases h; exact hs

theorem KeepS.bind_congr {α β} {p : P α} (hp : KeepS p) {f f' : α → P β} {s : PS}
    (hs : Sorted s.rest.length s.stk)
    (h : ∀ a s', Sorted s'.rest.length s'.stk → (f a).run' s' = (f' a).run' s') :
    (p >>= f).run' s = (p >>= f').run' s :=
  run_bind_congr fun a s' hr => h a s' (hp s _ s' hs hr)

end Gts.Pars

namespace Gts.GenBank
open Gts.Pars

theorem lt_of_ge {f : Nat → Nat} (h : ∀ n, n ≤ f n) (n : Nat) : n < f (n + 1) := by
  have := h (n + 1); omega

variable (g : Fuels) (hg : g.Ge)
include hg

theorem splitX_eq (sep s : Bytes) (hsep : sep ≠ []) : splitX g sep s = split sep s :=
  split_fuel sep s hsep _ (hg.split _)

theorem flatFileSplitX_eq (s : Bytes) : flatFileSplitX g s = flatFileSplit s := by
  unfold flatFileSplitX flatFileSplit
  simp only [splitX_eq g hg (bs "; ") _ (by decide)]

theorem asDateX_eq (s : Bytes) : asDateX g s = asDate s := by
  unfold asDateX asDate
  rw [splitX_eq g hg [45] _ (by decide)]
  all_goals rfl

theorem natDigitsX_eq (n : Nat) : natDigitsX g n = natDigits n := by
  unfold natDigitsX natDigits
  exact natDigitsF_fuel _ _ n (by have := hg.itoa (n + 1); omega) (by omega)

theorem itoaBX_eq (n : Int) : itoaBX g n = itoaB n := by
  unfold itoaBX itoaB
  rw [natDigitsX_eq g hg]

theorem locusParserX_eq : locusParserX g = locusParser := by
  unfold locusParserX locusParser
  simp only [asDateX_eq g hg]
  all_goals rfl

theorem fieldBodyX_eq (d : Nat) (sep : UInt8) (hd : 1 ≤ d) : fieldBodyX g d sep = fieldBody d sep := by
  funext s
  unfold fieldBodyX fieldBody
  refine run_bind_congr fun _ _ _ => ?_
  rw [run_bind, run_bind, run_getS]
  dsimp only
  exact bodyMore_fuel d sep hd _ _ _ _ _ (lt_of_ge hg.body _) (Nat.lt_succ_self _)

theorem dblinkFieldX_eq (d : Nat) (hd : 1 ≤ d) (f : Fields) :
    dblinkFieldX g d f = dblinkField d f := by
  funext s
  unfold dblinkFieldX dblinkField
  refine run_bind_congr fun _ _ _ => ?_
  refine run_bind_congr fun _ _ _ => ?_
  generalize dblinkPair _ = o
  rcases o with _ | ⟨db, id⟩
  · rfl
  · dsimp only
    rw [run_bind, run_bind, run_getS]
    dsimp only
    exact dblinkMore_fuel d hd _ _ _ _ (lt_of_ge hg.dblink _) (Nat.lt_succ_self _)

theorem sourceFieldX_eq (d : Nat) (hd : 1 ≤ d) (f : Fields) :
    sourceFieldX g d f = sourceField d f := by
  funext s
  unfold sourceFieldX sourceField genericFieldX genericField
  rw [fieldBodyX_eq g hg d _ hd]
  refine run_bind_congr fun _ _ _ => ?_
  dsimp only
  refine run_bind_congr (fun o _ _ => ?_)
  rcases o with _ | u
  · rfl
  · dsimp only
    refine run_bind_congr fun _ _ _ => ?_
    rw [run_bind, run_bind, run_getS]
    dsimp only
    refine run_bind_congr2 (taxonMore_fuel d hd _ _ _ _
      (lt_of_ge hg.taxon _) (Nat.lt_succ_self _)) (fun tax _ _ => ?_)
    simp only [flatFileSplitX_eq g hg]

theorem refSubX_eq (nm : String) (d st : Nat) (hd : 1 ≤ d) : refSubX g nm d st = refSub nm d st := by
  unfold refSubX refSub
  rw [fieldBodyX_eq g hg d _ hd]
  all_goals rfl

theorem refAltsX_eq (d st : Nat) (hd : 1 ≤ d) (r : Reference) :
    ∀ l, refAltsX g d st r l = refAlts d st r l
  | [] => by rw [refAltsX, refAlts]
  | (n, set) :: rest => by
    rw [refAltsX, refAlts, refSubX_eq g hg n d st hd]
    simp only [refAltsX_eq d st hd r rest]
    rfl

theorem refSubfieldX_eq (d st : Nat) (hd : 1 ≤ d) (r : Reference) :
    refSubfieldX g d st r = refSubfield d st r := by
  unfold refSubfieldX refSubfield
  rw [refAltsX_eq g hg d st hd]
  all_goals rfl

theorem refSubfieldsX_eq (d : Nat) (hd : 1 ≤ d) : ∀ k st r,
    refSubfieldsX g d k st r = refSubfields d k st r
  | 0, _, _ => by rw [refSubfieldsX, refSubfields]
  | k + 1, st, r => by
    rw [refSubfieldsX, refSubfields, refSubfieldX_eq g hg d st hd]
    simp only [refSubfieldsX_eq d hd k]
    rfl

/-! ### qualifier values: equal as terms (`quotedValue` carries no fuel since 2612fae: the loop over
the token is a counted loop, for the empty continuation prefix too) -/

theorem literalValueX_eq (pre : Bytes) : literalValueX g pre = literalValue pre := by
  funext s
  unfold literalValueX literalValue
  refine run_bind_congr fun _ _ _ => ?_
  refine run_bind_congr fun _ _ _ => ?_
  have tail : ∀ s : PS, (do
        advance1
        let l ← line
        push
        let n := (← getS).rest.length
        let v ← literalMore pre (g.literal (n + 1)) l
        drop
        pure v : P Bytes).run' s = (do
        advance1
        let l ← line
        push
        let n := (← getS).rest.length
        let v ← literalMore pre (n + 1) l
        drop
        pure v : P Bytes).run' s := by
    intro s
    refine run_bind_congr fun _ _ _ => ?_
    refine run_bind_congr fun _ _ _ => ?_
    refine run_bind_congr fun _ _ _ => ?_
    rw [run_bind, run_bind, run_getS]
    dsimp only
    exact run_bind_congr2 (literalMore_fuel pre _ _ _ _ (lt_of_ge hg.literal _) (Nat.lt_succ_self _))
      (fun _ _ _ => rfl)
  dsimp only
  split
  · refine run_bind_congr fun _ _ _ => ?_
    rw [run_bind, run_bind, run_fail]
  · exact tail _

theorem qualifierX_eq (pre : Bytes) (reg : Registry) :
    qualifierX g pre reg = qualifier pre reg := by
  unfold qualifierX qualifier
  rw [literalValueX_eq g hg pre]
  all_goals rfl

theorem qualifiersX_eq (pre : Bytes) : ∀ k reg acc,
    qualifiersX g pre k reg acc = qualifiers pre k reg acc
  | 0, _, _ => by rw [qualifiersX, qualifiers]
  | k + 1, reg, acc => by
    rw [qualifiersX, qualifiers, qualifierX_eq g hg pre]
    simp only [qualifiersX_eq pre k]
    rfl

theorem decimalX_eq (n : Nat) : decimalX g n = Origin.decimal n := by
  unfold decimalX Origin.decimal
  exact digitsAux_fuel _ _ n (lt_of_ge hg.digits _) (Nat.lt_succ_self _)

theorem index9X_eq (n : Nat) : index9X g n = Origin.index9 n := by
  unfold index9X Origin.index9
  rw [decimalX_eq g hg]

theorem walkGroupsX_eq (oob : Err) (length : Int) (i : Nat) : ∀ f j rest,
    walkGroupsX g oob length i f j rest = Origin.walkGroups oob length i f j rest
  | 0, _, _ => by simp only [walkGroupsX, Origin.walkGroups]
  | f + 1, j, rest => by
    simp only [walkGroupsX, Origin.walkGroups, walkGroupsX_eq oob length i f,
      fun ij r => walkChars_fuel oob length ij (g.chars 10) 10 0 r (by have := hg.chars 10; omega) (by omega)]
    rfl

theorem walkLineX_eq (oob : Err) (length : Int) (i : Nat) (rest : Bytes) :
    walkLineX g oob length i rest = Origin.walkLine oob length i rest := by
  unfold walkLineX Origin.walkLine
  rw [index9X_eq g hg]
  dsimp only
  split
  · rw [walkGroupsX_eq g hg]
    exact walkGroups_fuel oob length i _ _ 0 _ (by have := hg.groups 6; omega) (by omega)
  · rfl

theorem validateLinesX_eq (length : Int) : ∀ f i rest,
    validateLinesX g length f i rest = Origin.validateLines length f i rest
  | 0, _, _ => by rw [validateLinesX, Origin.validateLines]
  | f + 1, i, rest => by
    rw [validateLinesX, Origin.validateLines]
    simp only [walkLineX_eq g hg, validateLinesX_eq length f]
    rfl

theorem validateOriginX_eq (p : Bytes) (length : Int) :
    validateOriginX g p length = Origin.validateOrigin p length := by
  unfold validateOriginX Origin.validateOrigin
  rw [validateLinesX_eq g hg]
  exact validateLines_fuel length _ _ 0 p (by have := hg.validate length.toNat; omega) (by omega)

theorem slowLinesX_eq (length : Int) (cap : Nat) : ∀ f i st acc,
    slowLinesX g length cap f i st acc = slowLines length cap f i st acc
  | 0, _, _, _ => by rw [slowLinesX, slowLines]
  | f + 1, i, st, acc => by
    rw [slowLinesX, slowLines]
    simp only [walkLineX_eq g hg, slowLinesX_eq length cap f]
    rfl

theorem originFieldX_eq (length : Int) (d : Nat) : originFieldX g length d = originField length d := by
  unfold originFieldX originField
  simp only [validateOriginX_eq g hg, slowLinesX_eq g hg,
    fun (n : Nat) (st : Bytes) => slowLines_fuel length n (g.slow length.toNat) length.toNat 0 st []
      (by have := hg.slow length.toNat; omega) (by omega)]
  all_goals rfl

theorem referenceFieldX_run (d : Nat) (hd : 1 ≤ d) (f : Fields) (s : PS)
    (hs : Sorted s.rest.length s.stk) :
    (referenceFieldX g d f).run' s = (referenceField d f).run' s := by
  unfold referenceFieldX referenceField
  simp only [itoaBX_eq g hg, refSubfieldsX_eq g hg d hd]
  refine (fieldName_fwd (E := True) _ _).safeW.keepS.bind_congr hs fun _ s1 hs1 => ?_
  refine int_safe.toW.keepS.bind_congr hs1 fun _ s2 hs2 => ?_
  refine (keepS_attempt (lit_safe _).toW.keepS).bind_congr hs2 fun _ s3 hs3 => ?_
  refine line_safe.toW.keepS.bind_congr hs3 fun _ s4 hs4 => ?_
  rw [run_bind, run_bind, run_getS]
  dsimp only
  exact run_bind_congr2 (refSubfields_fuel d _ _ _ _ _ hs4 (lt_of_ge hg.refs _) (Nat.lt_succ_self _))
    (fun _ _ _ => rfl)

theorem locationX_run (s : PS) (hs : Sorted s.rest.length s.stk) :
    (locationX g).run' s = location.run' s := by
  unfold locationX location
  rw [run_bind, run_bind, run_getS]
  dsimp only
  exact (loc_fuel_stable s hs _ _ (by omega) (hg.loc _)).symm

theorem keylineX_run (pre depth : Nat) (s : PS) (hs : Sorted s.rest.length s.stk) :
    (keylineX g pre depth).run' s = (keyline pre depth).run' s := by
  unfold keylineX keyline
  refine (lit_safe _).toW.keepS.bind_congr hs fun _ s1 hs1 => ?_
  refine (word_safe _).toW.keepS.bind_congr hs1 fun _ s2 hs2 => ?_
  refine (blanks_safe _).toW.keepS.bind_congr hs2 fun _ s3 hs3 => ?_
  exact run_bind_congr2 (locationX_run g hg _ hs3) (fun _ _ _ => rfl)

theorem firstKeylineX_run (s : PS) (hs : Sorted s.rest.length s.stk) :
    (firstKeylineX g).run' s = firstKeyline.run' s := by
  unfold firstKeylineX firstKeyline
  refine SafeW.push.keepS.bind_congr hs fun _ s1 hs1 => ?_
  refine SafeW.push.keepS.bind_congr hs1 fun _ s2 hs2 => ?_
  refine spaces_safe.toW.keepS.bind_congr hs2 fun _ s3 hs3 => ?_
  refine KeepS.bind_congr (.bind (keepS_attempt (word_safe _).toW.keepS) fun o =>
    match o with
    | some k => .pure k
    | none => .bind (.bind keepS_pop fun _ => keepS_pop) fun _ => .fail) hs3 fun _ s4 hs4 => ?_
  refine spaces_safe.toW.keepS.bind_congr hs4 fun _ s5 hs5 => ?_
  refine run_bind_congr2 (run_bind_congr2 (run_attempt_congr (locationX_run g hg _ hs5))
    (fun _ _ _ => rfl)) (fun _ _ _ => rfl)

omit hg in
/-- the key of a key line is never empty (`pars.Word`), so the indent of the table is at least 1 -/
theorem firstKeyline_key (s : PS) :
    WP firstKeyline (fun r _ => ∀ v, r = .ok v → v.2.1 ≠ []) s := by
  have h : Post firstKeyline fun v => v.2.1 ≠ [] :=
    .bind' fun _ => .bind' fun _ => .bind' fun _ =>
    .bind (R := (· ≠ []))
      (.attempt_bind (fun _ _ _ h => (word_consumes _ h).1) (fun _ hk => .pure _ hk) (.bind' fun _ => .fail))
      fun _ hk => .bind' fun _ => .bind' fun _ => .bind' fun o =>
        match o with
        | none => .bind' fun _ => .fail
        | some _ => .bind' fun _ => .bind' fun _ => .pure _ hk
  exact fun v hv => h s v _ (Prod.ext hv rfl)

omit hg in
theorem sp_ne_nil (d : Nat) (hd : 1 ≤ d) : sp d ≠ [] := by
  intro h
  have := congrArg List.length h
  simp [sp] at this
  omega

/-- the qualifier loop as the table reader calls it: `…X` loop at the `…X` fuel = model loop at the
model fuel -/
theorem qualifiersX_run (depth : Nat) (reg : Registry) (s : PS)
    (hs : Sorted s.rest.length s.stk) :
    (qualifiersX g (sp depth) (g.quals (s.rest.length + 1)) reg []).run' s =
      (qualifiers (sp depth) (s.rest.length + 1) reg []).run' s := by
  rw [qualifiersX_eq g hg _]
  exact qualifiers_fuel _ _ _ _ _ s hs (lt_of_ge hg.quals _) (Nat.lt_succ_self _)

theorem tableMoreX_run (pre depth : Nat) : ∀ k reg acc (s : PS),
    Sorted s.rest.length s.stk →
    (tableMoreX g pre depth k reg acc).run' s = (tableMore pre depth k reg acc).run' s
  | 0, _, _, _, _ => by rw [tableMoreX, tableMore]
  | k + 1, reg, acc, s, hs => by
    rw [tableMoreX, tableMore]
    refine run_bind_congr2 (run_attempt_congr (keylineX_run g hg pre depth s hs)) (fun o s1 h1 => ?_)
    have hs1 := (keepS_attempt (keyline_safe pre depth).toW.keepS) _ _ _ hs h1
    rcases o with _ | ⟨key, l⟩
    · rfl
    · dsimp only
      rw [run_bind, run_bind, run_getS]
      dsimp only
      refine run_bind_congr2 (qualifiersX_run g hg depth reg s1 hs1) (fun x s2 h2 => ?_)
      have hs2 := (qualifiers_fwd (E := True) _ _ _ _).safeW.keepS _ _ _ hs1 h2
      obtain ⟨qs, reg'⟩ := x
      exact tableMoreX_run pre depth k reg' _ s2 hs2

theorem tableX_run (reg : Registry) (s : PS) (hs : Sorted s.rest.length s.stk) :
    (tableX g reg).run' s = (table reg).run' s := by
  unfold tableX table
  refine run_bind_congr2 (firstKeylineX_run g hg s hs) (fun v s1 h1 => ?_)
  have hs1 := (firstKeyline_fwd (E := True)).safeW.keepS _ _ _ hs h1
  obtain ⟨pre, key, pst, l⟩ := v
  dsimp only
  rw [run_bind, run_bind, run_getS]
  dsimp only
  refine run_bind_congr2 (qualifiersX_run g hg _ reg s1 hs1) (fun x s2 h2 => ?_)
  have hs2 := (qualifiers_fwd (E := True) _ _ _ _).safeW.keepS _ _ _ hs1 h2
  have hle := ((qualifiers_fwd (E := True) _ _ _ _).safeW.run hs1 h2).1
  obtain ⟨qs, reg'⟩ := x
  dsimp only
  rw [tableMoreX_run g hg pre _ _ _ _ s2 hs2]
  exact tableMore_fuel _ _ _ _ _ _ s2 hs2
    (by have := lt_of_ge hg.table s1.rest.length; omega) (by omega)

theorem featuresFieldX_run (reg : Registry) (s : PS) (hs : Sorted s.rest.length s.stk) :
    (featuresFieldX g reg).run' s = (featuresField reg).run' s := by
  unfold featuresFieldX featuresField
  refine (lit_safe _).toW.keepS.bind_congr hs fun _ s1 hs1 => ?_
  refine line_safe.toW.keepS.bind_congr hs1 fun _ s2 hs2 => ?_
  refine SafeW.clear.keepS.bind_congr hs2 fun _ s3 hs3 => ?_
  exact tableX_run g hg reg _ hs3

omit hg in
theorem tryList_run : ∀ (ps qs : List (Sub → P (Sub × Bool))),
    All2 (fun p q => ∀ sub, KeepS (q sub) ∧
      ∀ s : PS, Sorted s.rest.length s.stk → (p sub).run' s = (q sub).run' s) ps qs →
    ∀ sub (s : PS), Sorted s.rest.length s.stk → (tryList ps sub).run' s = (tryList qs sub).run' s
  | [], [], _, _, _, _ => rfl
  | p :: ps, q :: qs, .cons hpq hrest, sub, s, hs => by
    have ih := tryList_run ps qs hrest
    rw [tryList, tryList]
    refine SafeW.push.keepS.bind_congr hs fun _ s1 hs1 => ?_
    refine run_bind_congr2 (run_attempt_congr ((hpq sub).2 s1 hs1)) (fun o s2 h2 => ?_)
    have hs2 := (keepS_attempt (hpq sub).1) _ _ _ hs1 h2
    -- behind an alternative that did not parse the field
    have back : ∀ sub1, (do
          if !(← pushed) then fail
          pop
          tryList ps sub1 : P (Sub × Bool)).run' s2 = (do
          if !(← pushed) then fail
          pop
          tryList qs sub1 : P (Sub × Bool)).run' s2 := fun sub1 => by
      refine SafeW.pushed.keepS.bind_congr hs2 fun _ s3 hs3 => ?_
      split
      · rfl
      · exact keepS_pop.bind_congr hs3 fun _ s4 hs4 => ih _ _ hs4
    rcases o with _ | ⟨sub', _ | _⟩
    · exact back sub
    · exact back sub'
    · rfl

theorem fieldParsersX_all2 (length : Int) (d : Nat) (hd : 1 ≤ d) :
    All2 (fun p q => ∀ sub, KeepS (q sub) ∧
      ∀ s : PS, Sorted s.rest.length s.stk → (p sub).run' s = (q sub).run' s)
      (fieldParsersX g length d) (fieldParsers length d) := by
  have hk := fun q hq sub => (fieldParsers_strict length d hd q hq sub).safeW
  have same : ∀ q ∈ fieldParsers length d, ∀ sub, KeepS (q sub) ∧
      ∀ s : PS, Sorted s.rest.length s.stk → (q sub).run' s = (q sub).run' s :=
    fun q hq sub => ⟨(hk q hq sub).keepS, fun _ _ => rfl⟩
  -- up to the two fields handled below, the fuels sit in field bodies and in `strings.Split`
  unfold fieldParsersX definitionFieldX accessionFieldX versionFieldX commentFieldX keywordsFieldX
    genericFieldX originSubX
  simp only [fieldBodyX_eq g hg d _ hd, flatFileSplitX_eq g hg, originFieldX_eq g hg,
    funext (dblinkFieldX_eq g hg d hd), funext (sourceFieldX_eq g hg d hd)]
  unfold fieldParsers at same ⊢
  refine .cons (same _ (by simp)) <| .cons (same _ (by simp)) <| .cons (same _ (by simp)) <|
    .cons (same _ (by simp)) <| .cons (same _ (by simp)) <| .cons (same _ (by simp)) <|
    .cons ?_ <| .cons (same _ (by simp)) <| .cons ?_ <| .cons (same _ (by simp)) <|
    .cons (same _ (by simp)) .nil
  · intro sub
    refine ⟨((same _ (by simp)) sub).1, fun s hs => ?_⟩
    obtain ⟨f, t, o, r⟩ := sub
    unfold liftF
    exact run_bind_congr2 (referenceFieldX_run g hg d hd f s hs) (fun _ _ _ => rfl)
  · intro sub
    refine ⟨((same _ (by simp)) sub).1, fun s hs => ?_⟩
    obtain ⟨f, t, o, r⟩ := sub
    unfold featuresSubX featuresSub
    exact run_bind_congr2 (featuresFieldX_run g hg r s hs) (fun _ _ _ => rfl)

theorem tryAllX_run (length : Int) (d : Nat) (hd : 1 ≤ d) (sub : Sub) (s : PS)
    (hs : Sorted s.rest.length s.stk) :
    (tryAllX g length d sub).run' s = (tryAll length d sub).run' s := by
  unfold tryAllX tryAll extraFieldX extraField
  simp only [fieldBodyX_eq g hg d _ hd]
  exact run_bind_congr2 (tryList_run _ _ (fieldParsersX_all2 g hg length d hd) sub s hs)
    (fun _ _ _ => rfl)

theorem recordLoopX_run (length : Int) (d : Nat) (hd : 1 ≤ d) : ∀ k sub (s : PS),
    Sorted s.rest.length s.stk →
    (recordLoopX g length d k sub).run' s = (recordLoop length d k sub).run' s := by
  intro k
  induction k with
  | zero => intro _ _ _; rw [recordLoopX, recordLoop]
  | succ k ih =>
    intro sub s hs
    rw [recordLoopX, recordLoop]
    refine run_bind_congr (fun o s1 h1 => ?_)
    have hs1 := (keepS_attempt endMark_safe.toW.keepS) _ _ _ hs h1
    rcases o with _ | u
    · dsimp only
      refine run_bind_congr2 (tryAllX_run g hg length d hd sub s1 hs1) (fun st s2 h2 => ?_)
      have hs2 := (tryAll_fwd length d hd sub).safeW.keepS _ _ _ hs1 h2
      cases st with
      | parsed sub' => exact ih sub' s2 hs2
      | skip sub' =>
        dsimp only
        refine run_bind_congr (fun _ s3 h3 => ?_)
        have hs3 := (Safe.toW line_safe).keepS _ _ _ hs2 h3
        rw [run_bind, run_bind, run_getS]
        exact run_guard_congr (ih sub' s3 hs3)
    · rfl

/-- `GenBankParser` with every fuel a parameter = the model, from EVERY state (the record loop
starts behind `state.Clear()`, i.e. in a sorted state whatever the caller left on the stack) -/
theorem genbankParserX_run (reg : Registry) (s : PS) :
    (genbankParserX g reg).run' s = (genbankParser reg).run' s := by
  unfold genbankParserX genbankParser
  rw [locusParserX_eq g hg]
  refine run_bind_congr (fun l s1 h1 => ?_)
  have hdep := locusParser_depth s
  unfold WP at hdep
  rw [h1] at hdep
  have hd : 1 ≤ l.depth := by have := hdep l rfl; omega
  refine run_bind_congr (fun _ s2 h2 => ?_)
  have hs2 : Sorted s2.rest.length s2.stk := by
    rw [run_clear] at h2
    cases h2
    trivial
  refine run_guard_congr (run_guard_congr ?_)
  generalize asTopology l.topology = o
  rcases o with _ | top
  · rfl
  · dsimp only
    rw [run_bind, run_bind, run_getS]
    dsimp only
    refine run_bind_congr2 ?_ (fun _ _ _ => rfl)
    rw [recordLoopX_run g hg l.length l.depth hd _ _ s2 hs2]
    exact recordLoop_fuel l.length l.depth hd _ _ _ s2 hs2
      (by have := hg.record (2 * s2.rest.length + 2); omega) (by omega)

theorem genbankParserX_eq (reg : Registry) : genbankParserX g reg = genbankParser reg :=
  funext (genbankParserX_run g hg reg)

theorem parseAllX_eq : ∀ k (reg : Registry) (input : Bytes) (acc : List Record),
    parseAllX g reg k input acc = parseAll reg k input acc := by
  intro k
  induction k with
  | zero => intro _ _ _; rw [parseAllX, parseAll]
  | succ k ih =>
    intro reg input acc
    rw [parseAllX, parseAll, genbankParserX_run g hg reg ⟨input, []⟩]
    split
    · rfl
    · rcases (genbankParser reg).run' ⟨input, []⟩ with ⟨r, s'⟩
      rcases r with e | ⟨rec, reg'⟩
      · cases e <;> rfl
      · exact ih reg' s'.rest (rec :: acc)

theorem readAllX_eq (reg : Registry) (input : Bytes) : readAllX g reg input = readAll reg input := by
  unfold readAllX readAll
  rw [parseAllX_eq g hg]
  exact parseAll_fuel _ _ reg input [] (lt_of_ge hg.scan _) (Nat.lt_succ_self _)

end Gts.GenBank
