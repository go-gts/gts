/-
  Helper lemmas about the fault model of the cache-file writer (Gts/Model/CacheFault.lean):
  `writeAt`, the error `closeF` returns, invariants of a sequence of `Write` calls.
  Core Lean only.
-/
import Gts.Model.CacheFault
namespace Gts.Cache

theorem writeAt_nil (p : Bytes) : writeAt [] 0 p = p := by
  unfold writeAt; split <;> simp_all [zeros]

theorem writeAt_end (data p : Bytes) : writeAt data data.length p = data ++ p := by
  unfold writeAt
  split
  · simp_all
  · simp [zeros]

theorem writeAt_zero (data p : Bytes) : writeAt data 0 p = overwrite data p := by
  unfold writeAt overwrite
  split
  · simp_all
  · simp [zeros]

theorem closeF_nofault (H : Bytes → Bytes) (d : Nat) (deflate : Bytes → Bytes) (w : FWriter)
    (hp : w.pos = w.data.length) (hb : w.broken = false) :
    closeF H d deflate w {} = (close H d deflate ⟨w.data, w.r, w.q, w.plain⟩, none) := by
  simp [closeF, hb, hp, writeAt_end, writeAt_zero, close]

/-- the error `File.Close` returns, spelled out: the FIRST failing step in statement order
(a flate writer that is already broken fails the flush) -/
def closeErrSpec (w : FWriter) (cf : CloseFaults) : Option FErr :=
  if w.broken = true ∨ cf.flush.isSome = true then some .flate
  else if cf.seekBody.isSome = true then some .seek
  else if cf.copy.isSome = true then some .copy
  else if cf.seekStart.isSome = true then some .seek
  else if cf.header.isSome = true then some .write
  else none

theorem closeF_err (H : Bytes → Bytes) (d : Nat) (deflate : Bytes → Bytes) (w : FWriter) (cf : CloseFaults) :
    (closeF H d deflate w cf).2 = closeErrSpec w cf := by
  obtain ⟨data, pos, r, q, plain, broken⟩ := w
  obtain ⟨f1, f2, f3, f4, f5⟩ := cf
  cases broken <;> cases f1 <;> cases f2 <;> cases f3 <;> cases f4 <;> cases f5 <;> rfl

theorem closeErrSpec_none {w : FWriter} {cf : CloseFaults} (h : closeErrSpec w cf = none) :
    w.broken = false ∧ cf = {} := by
  obtain ⟨data, pos, r, q, plain, broken⟩ := w
  obtain ⟨f1, f2, f3, f4, f5⟩ := cf
  -- an entry, or a broken writer, makes `closeErrSpec` compute to an error
  cases broken <;> cases f1 <;> cases f2 <;> cases f3 <;> cases f4 <;> cases f5 <;> try cases h
  exact ⟨rfl, rfl⟩

/-- what the flush step of `Close` appends to the file -/
def flushed (deflate : Bytes → Bytes) (w : FWriter) (cf : CloseFaults) : Bytes :=
  if w.broken = true then []
  else match cf.flush with
    | none => deflate w.plain
    | some k => (deflate w.plain).take k

/-- `Close` whose seeks, hashing read and header write work (the flush may fail, the flate writer
may be broken): the header is computed over, and written in front of, whatever is on disk -/
theorem closeF_tail_ok (H : Bytes → Bytes) (d : Nat) (deflate : Bytes → Bytes) (w : FWriter)
    (cf : CloseFaults) (hend : w.pos = w.data.length)
    (h2 : cf.seekBody = none) (h3 : cf.copy = none) (h4 : cf.seekStart = none) (h5 : cf.header = none) :
    (closeF H d deflate w cf).1 =
      writeAt (w.data ++ flushed deflate w cf) 0
        (w.r ++ w.q ++ H ((w.data ++ flushed deflate w cf).drop (3 * d))) := by
  obtain ⟨data, pos, r, q, plain, broken⟩ := w
  obtain ⟨f1, f2, f3, f4, f5⟩ := cf
  simp only at hend h2 h3 h4 h5
  subst hend h2 h3 h4 h5
  cases broken
  · cases f1 <;> simp only [closeF, flushed, writeAt_end] <;> rfl
  · simp only [closeF, flushed, if_true, List.append_nil]

/-- the file offset is the end of the file (true from `CreateLevel` until `Close` seeks) -/
def FWriter.atEnd (w : FWriter) : Prop := w.pos = w.data.length

theorem writeF_grows (deflate : Bytes → Bytes) (w : FWriter) (p : Bytes) (f : Option Nat) (h : w.atEnd) :
    (writeF deflate w p f).1.atEnd ∧ (writeF deflate w p f).1.r = w.r ∧ (writeF deflate w p f).1.q = w.q ∧
      ∃ t, (writeF deflate w p f).1.data = w.data ++ t := by
  unfold FWriter.atEnd at *
  unfold writeF
  split
  · exact ⟨h, rfl, rfl, [], by simp⟩
  · cases f with
    | none => exact ⟨h, rfl, rfl, [], by simp⟩
    | some k => exact ⟨by simp [h, writeAt_end], rfl, rfl, (deflate (w.plain ++ p)).take k, by simp [h, writeAt_end]⟩

theorem writeF_err_broken (deflate : Bytes → Bytes) (w : FWriter) (p : Bytes) (f : Option Nat) :
    ((writeF deflate w p f).2 ≠ none ↔ (writeF deflate w p f).1.broken = true)
      ∧ (w.broken = true → (writeF deflate w p f).1.broken = true) := by
  unfold writeF
  cases hb : w.broken <;> cases f <;> simp [hb]

theorem writeF_ok (deflate : Bytes → Bytes) (w : FWriter) (p : Bytes) (f : Option Nat)
    (h : (writeF deflate w p f).2 = none) :
    (writeF deflate w p f).1 = { w with plain := w.plain ++ p } ∧ w.broken = false := by
  unfold writeF at h ⊢
  cases hb : w.broken <;> cases f <;> simp_all

theorem writesF_ind (deflate : Bytes → Bytes) {P : FWriter → Prop}
    (hstep : ∀ w p f, P w → P (writeF deflate w p f).1) (ws : List (Bytes × Option Nat)) :
    ∀ w : FWriter, P w → P (writesF deflate w ws).1 := by
  induction ws with
  | nil => intro w h; exact h
  | cons a t ih =>
    obtain ⟨p, f⟩ := a
    intro w h
    exact ih _ (hstep w p f h)

theorem writesF_grows (deflate : Bytes → Bytes) (ws : List (Bytes × Option Nat)) (w : FWriter) (h : w.atEnd) :
    (writesF deflate w ws).1.atEnd ∧ (writesF deflate w ws).1.r = w.r ∧ (writesF deflate w ws).1.q = w.q ∧
      ∃ t, (writesF deflate w ws).1.data = w.data ++ t :=
  writesF_ind deflate (P := fun w' => w'.atEnd ∧ w'.r = w.r ∧ w'.q = w.q ∧ ∃ t, w'.data = w.data ++ t)
    (fun w' p f ⟨h', hr, hq, t, ht⟩ =>
      let ⟨g, gr, gq, t', ht'⟩ := writeF_grows deflate w' p f h'
      ⟨g, gr.trans hr, gq.trans hq, t ++ t', by rw [ht', ht, List.append_assoc]⟩)
    ws w ⟨h, rfl, rfl, [], (List.append_nil _).symm⟩

theorem writesF_broken (deflate : Bytes → Bytes) (ws : List (Bytes × Option Nat)) :
    ∀ w : FWriter, w.broken = true → (writesF deflate w ws).1.broken = true :=
  writesF_ind deflate (fun w p f => (writeF_err_broken deflate w p f).2) ws

theorem writesF_err_broken (deflate : Bytes → Bytes) (ws : List (Bytes × Option Nat)) :
    ∀ w : FWriter, (∃ e ∈ (writesF deflate w ws).2, e ≠ none) → (writesF deflate w ws).1.broken = true := by
  induction ws with
  | nil => intro w ⟨e, he, _⟩; simp [writesF] at he
  | cons a t ih =>
    intro w ⟨e, he, hne⟩
    obtain ⟨p, f⟩ := a
    simp only [writesF, List.mem_cons] at he ⊢
    rcases he with rfl | he
    · exact writesF_broken deflate t _ ((writeF_err_broken deflate w p f).1.1 hne)
    · exact ih _ ⟨e, he, hne⟩

theorem writesF_clean (deflate : Bytes → Bytes) (ws : List (Bytes × Option Nat)) :
    ∀ w : FWriter, w.broken = false → (∀ e ∈ (writesF deflate w ws).2, e = none) →
      (writesF deflate w ws).1 = { w with plain := w.plain ++ (ws.map (·.1)).flatten } := by
  induction ws with
  | nil => intro w _ _; simp [writesF]
  | cons a t ih =>
    intro w hb hall
    obtain ⟨p, f⟩ := a
    simp only [writesF, List.mem_cons] at hall ⊢
    have h0 := hall _ (.inl rfl)
    obtain ⟨h1, _⟩ := writeF_ok deflate w p f h0
    have h2 := ih (writeF deflate w p f).1 (by rw [h1]; exact hb) (fun e he => hall e (.inr he))
    rw [h2, h1]
    simp [List.append_assoc]

end Gts.Cache
