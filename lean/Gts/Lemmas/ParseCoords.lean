/-
  The coordinate clause of "parser results are canonical" from the TEXT (C06): `PostI`, a postcondition judgement WITH
  a state invariant: the position and every saved position of the parser state are "good" texts — texts at every
  position of which a successful run of `Pars.int` yields a value in `1 .. 2^62` (`IntsIn`).  It is `Pars.Un` of
  Gts/Lemmas/ParsRel.lean at `IntsIn` (`Rel.postI`, `Rel.of_postI`): every primitive keeps the invariant (also on failure:
  `attempt` continues from the failed state), so every integer the location parser reads is in range (`int_RInt`), and
  `Join` / `Order` / `Complement()` only re-use coordinates (`respects_coords`).  Core Lean only.
-/
import Gts.Lemmas.ParsRel
import Gts.Lemmas.CanonBasic
namespace Gts
open Pars

namespace Pars

/-- the values a coordinate literal may have: `1 .. 2^62` -/
def RInt (v : Int) : Prop := 1 ≤ v ∧ v ≤ 4611686018427387904

/-- **the text-level hypothesis**: at every position `k` of the text `u` (and for every saved-position stack), if
`pars.Int` succeeds there its value lies in `1 .. 2^62` -/
def IntsIn (u : Bytes) : Prop :=
  ∀ (k : Nat) (stk : List Bytes) (v : Int) (st' : PS), int ⟨u.drop k, stk⟩ = (.ok v, st') → RInt v

theorem IntsIn.drop {u : Bytes} (h : IntsIn u) (n : Nat) : IntsIn (u.drop n) := by
  intro k stk v st' hr
  rw [List.drop_drop] at hr
  exact h _ stk v st' hr

/-- the state invariant: the position and every saved position are good texts -/
def Inv (st : PS) : Prop := IntsIn st.rest ∧ ∀ u ∈ st.stk, IntsIn u

/-- partial correctness with the state invariant, kept on success AND on failure -/
def PostI {α} (p : P α) (Q : α → Prop) : Prop :=
  ∀ st r st', Inv st → p st = (r, st') → Inv st' ∧ ∀ v, r = .ok v → Q v

theorem Inv_iff (st : PS) : Inv st ↔ InvG IntsIn st :=
  ⟨fun h => ⟨fun n => h.1.drop n, fun u hu n => (h.2 u hu).drop n⟩, fun h => ⟨h.1 0, fun u hu => h.2 u hu 0⟩⟩

theorem Rel.postI {α β} {R : α → β → Prop} {Q : α → Prop} {p : P α} {q : P β} (h : Rel IntsIn R p q)
    (hq : ∀ a b, R a b → Q a) : PostI p Q := fun st r st' hI hr => by
  have h' := h st ((Inv_iff st).1 hI)
  rw [hr] at h'
  generalize q st = y at h'
  cases h' with
  | ok hi hab => exact ⟨(Inv_iff _).2 hi, fun v hv => by cases hv; exact hq _ _ hab⟩
  | err hi => exact ⟨(Inv_iff _).2 hi, fun _ hv => nomatch hv⟩

theorem Rel.of_postI {α} {p : P α} {Q : α → Prop} (h : PostI p Q) : Un IntsIn p Q :=
  .of_run fun st hI => by
    obtain ⟨h1, h2⟩ := h st _ _ ((Inv_iff st).2 hI) rfl
    exact ⟨(Inv_iff _).1 h1, h2⟩

theorem int_RInt : Un IntsIn Pars.int RInt :=
  Rel.int fun u stk v st' hu hr => hu 0 stk v st' (by simpa using hr)

theorem PostI.attempt {α} {p : P α} {S : α → Prop} (hp : PostI p S) :
    PostI (Pars.attempt p) (fun o => ∀ v, o = some v → S v) :=
  (Rel.attemptU (Rel.of_postI hp)).postI fun _ _ h => h.2

theorem PostI.advanceN (n : Nat) : PostI (Pars.advanceN n) (fun _ => True) :=
  (Rel.advanceN n).postI fun _ _ _ => trivial

theorem PostI.skipWhile (f : UInt8 → Bool) : PostI (Pars.skipWhile f) (fun _ => True) :=
  (Rel.skipWhile f).postI fun _ _ _ => trivial

theorem PostI.pushed : PostI Pars.pushed (fun _ => True) := Rel.pushed.postI fun _ _ _ => trivial

theorem PostI.request (n : Nat) : PostI (Pars.request n) (fun _ => True) :=
  (Rel.request n).postI fun _ _ _ => trivial

end Pars

namespace LocParse
open Loc

theorem coordOk_of_RInt (v : Int) (h : RInt v) : coordOk v = true ∧ coordOk (v - 1) = true := by
  obtain ⟨h1, h2⟩ := h
  simp only [coordOk, Bool.and_eq_true, decide_eq_true_eq]
  omega

abbrev QC (l : Loc) : Prop := coordsC coordOk l = true
abbrev QCs (ls : List Loc) : Prop := coordsCList coordOk ls = true

theorem complement_coords (l : Loc) (h : QC l) : QC l.complement := by
  cases l <;> simpa [QC, coordsC, Loc.complement] using h

theorem LeafOf.coords {l : Loc} (h : LeafOf RInt l) : QC l := by
  cases h with
  | between h => exact (coordOk_of_RInt _ h).1
  | point h => exact (coordOk_of_RInt _ h).2
  | ranged _ _ ha hb =>
    simp only [QC, coordsC, allLeaves_ranged, leafCoord, (coordOk_of_RInt _ ha).2, (coordOk_of_RInt _ hb).1,
      Bool.and_self]
  | ambiguous ha hb =>
    simp only [QC, coordsC, allLeaves_ambiguous, leafCoord, (coordOk_of_RInt _ ha).2, (coordOk_of_RInt _ hb).1,
      Bool.and_self]

/-- `Join`, `Order` and `Complement()` only re-use coordinates -/
theorem respects_coords (g : List Loc → Bool) :
    LocParseG.Respects g RInt (fun l _ => QC l) (fun ls _ => QCs ls) := by
  refine ⟨fun _ h => h.coords, fun _ _ h => ?_, fun _ _ _ _ h1 h2 => ?_, fun _ _ h => ?_,
    fun _ _ h => Loc.join_leaves (mergeOK_leafCoord coordOk) _ h, fun _ _ h => Loc.order_leaves _ _ h,
    fun l _ h => complement_coords l h⟩
  · simpa [QC, QCs, coordsC, coordsCList] using h
  · simp only [QCs, coordsCList, allLeavesList_cons, Bool.and_eq_true]
    exact ⟨h2, h1⟩
  · simpa [QCs, coordsCList, allLeavesList_reverse] using h

/-- **every location the parser returns from a good state has its coordinates in `0 .. 2^62`** — all five mutual
parsers, every fuel -/
theorem posti_all : ∀ f : Nat, PostI (loc f) QC ∧ PostI (multiple f) QCs ∧ PostI (joinOf f) QC ∧
      PostI (orderOf f) QC ∧ PostI (complementOf f) QC :=
  fun f => by
    obtain ⟨hl, hm, hj, ho, hc⟩ := LocParseG.rel_all (respects_coords fun _ => false) int_RInt f
    exact ⟨hl.postI fun _ _ h => h, hm.postI fun _ _ h => h, hj.postI fun _ _ h => h, ho.postI fun _ _ h => h,
      hc.postI fun _ _ h => h⟩

end LocParse

theorem parseLocation_coords (s : Bytes) (l : Loc) (r : Bytes) (hp : parseLocation s = .ok (l, r))
    (hi : IntsIn s) : Loc.coordsC Loc.coordOk l = true := by
  unfold parseLocation at hp
  split at hp
  · rename_i v st heq
    injection hp with hp
    have h1 : v = l := congrArg Prod.fst hp
    have := (LocParse.posti_all _).1 ⟨s, []⟩ _ _ ⟨hi, fun u hu => by cases hu⟩ heq
    exact h1 ▸ this.2 v rfl
  · cases hp

/-- the text `4..7` meets the text-level hypothesis: `pars.Int` reads 4 at position 0, 7 at position 3, and fails
at the other positions -/
theorem intsIn_range47 : IntsIn [52, 46, 46, 55] := by
  intro k stk v st' h
  have h4 := int_natDigits 4 [46, 46, 55] stk rfl (by decide)
  have h7 := int_natDigits 7 [] stk rfl (by decide)
  rw [show natDigits 4 = [52] by decide] at h4
  rw [show natDigits 7 = [55] by decide] at h7
  match k with
  | 0 => cases h4.symm.trans h; exact ⟨by decide, by decide⟩
  | 1 => cases (int_dot [46, 55] stk).symm.trans h
  | 2 => cases (int_dot [55] stk).symm.trans h
  | 3 => cases h7.symm.trans h; exact ⟨by decide, by decide⟩
  | k + 4 => simp only [List.drop_succ_cons, List.drop_nil, int_nil] at h; cases h

/-- the hypothesis is not trivial: the text `0` does not meet it -/
theorem intsIn_zero_false : ¬ IntsIn [48] := by
  intro h
  have := h 0 [] 0 _ (int_zero [] [])
  simp [RInt] at this

end Gts
