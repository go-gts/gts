/-
  Helper lemmas for the cache-key encoding (C14), part 2: `strconv.QuoteToASCII` as a sequence of
  TOKENS (one per loop iteration of `appendQuotedWith`), the tokens form a prefix code, a token
  determines the source bytes it was made from; hence `quoteBody` is injective and pure ASCII.
  Core Lean only.
-/
import Gts.Lemmas.KeyEncBits
namespace Gts.KeyEnc

/-- `f` is a **prefix code**: a code word followed by anything determines the word and what follows.  Closed under a
constant first byte (`cons`), concatenation (`pair`), an injective map in front (`comap`) and terminated lists (`list`). -/
def Code {α β : Type} (f : α → List β) : Prop := ∀ a b x y, f a ++ x = f b ++ y → a = b ∧ x = y

namespace Code
variable {α β γ : Type} {f : α → List β}

theorem inj (h : Code f) {a b : α} (e : f a = f b) : a = b := (h a b [] [] (by rw [e])).1

theorem congr {g : α → List β} (h : Code f) (e : ∀ a, g a = f a) : Code g := by
  intro a b x y; rw [e, e]; exact h a b x y

theorem comap (h : Code f) {g : γ → α} (hg : ∀ a b, g a = g b → a = b) : Code fun c => f (g c) :=
  fun a b x y e => ⟨hg a b (h _ _ x y e).1, (h _ _ x y e).2⟩

theorem cons (c : β) (h : Code f) : Code fun a => c :: f a :=
  fun a b x y e => h a b x y (List.cons.inj e).2

theorem pair {g : γ → List β} (hf : Code f) (hg : Code g) : Code fun p : α × γ => f p.1 ++ g p.2 := by
  intro a b x y e
  simp only [List.append_assoc] at e
  obtain ⟨h1, e⟩ := hf _ _ _ _ e
  obtain ⟨h2, e⟩ := hg _ _ _ _ e
  exact ⟨Prod.ext h1 h2, e⟩

theorem list (T : β) (h : Code f) (hhead : ∀ a, ∃ c t, f a = c :: t ∧ c ≠ T) :
    Code fun l : List α => l.flatMap f ++ [T]
  | [], [], x, y, e => ⟨rfl, (List.cons.inj e).2⟩
  | [], b :: _, x, y, e => by
    obtain ⟨c, t, hc, hne⟩ := hhead b
    simp only [List.flatMap_nil, List.nil_append, List.flatMap_cons, hc, List.cons_append, List.cons.injEq] at e
    exact absurd e.1.symm hne
  | a :: _, [], x, y, e => by
    obtain ⟨c, t, hc, hne⟩ := hhead a
    simp only [List.flatMap_nil, List.nil_append, List.flatMap_cons, hc, List.cons_append, List.cons.injEq] at e
    exact absurd e.1 hne
  | a :: l₁, b :: l₂, x, y, e => by
    simp only [List.flatMap_cons, List.append_assoc] at e
    obtain ⟨hab, e⟩ := h a b _ _ e
    obtain ⟨hl, hx⟩ := list T h hhead l₁ l₂ x y (by simpa only [List.append_assoc] using e)
    exact ⟨by rw [hab, hl], hx⟩

/-- a code that needs the terminator `T` behind its words -/
theorem of_term {T : β} (h : ∀ a b x y, f a ++ T :: x = f b ++ T :: y → a = b ∧ x = y) : Code fun a => f a ++ [T] :=
  fun a b x y e => h a b x y (by simpa only [List.append_assoc, List.singleton_append] using e)

end Code

theorem span_inj {α : Type} (p : α → Prop) (T : α) (hT : ¬ p T) : ∀ (l₁ l₂ x y : List α), (∀ a ∈ l₁, p a) →
    (∀ a ∈ l₂, p a) → l₁ ++ T :: x = l₂ ++ T :: y → l₁ = l₂ ∧ x = y
  | [], [], x, y, _, _, h => ⟨rfl, (List.cons.inj h).2⟩
  | [], b :: _, x, y, _, h₂, h => absurd ((List.cons.inj h).1 ▸ h₂ b (List.mem_cons_self ..)) hT
  | a :: _, [], x, y, h₁, _, h => absurd ((List.cons.inj h).1 ▸ h₁ a (List.mem_cons_self ..)) hT
  | a :: l₁, b :: l₂, x, y, h₁, h₂, h => by
    have h := List.cons.inj h
    obtain ⟨rfl, hx⟩ := span_inj p T hT l₁ l₂ x y (fun c hc => h₁ c (List.mem_cons_of_mem _ hc))
      (fun c hc => h₂ c (List.mem_cons_of_mem _ hc)) h.2
    exact ⟨by rw [h.1], hx⟩

theorem hexDigit_inj16 : ∀ n m : Fin 16, hexDigit n.1 = hexDigit m.1 → n = m := by decide +kernel

theorem hexDigit_inj {n m : Nat} (hn : n < 16) (hm : m < 16) (h : hexDigit n = hexDigit m) : n = m :=
  Fin.mk.inj (hexDigit_inj16 ⟨n, hn⟩ ⟨m, hm⟩ h)

theorem hexDigit_range16 : ∀ n : Fin 16, 0x30 ≤ (hexDigit n.1).toNat ∧ (hexDigit n.1).toNat ≤ 0x66 := by
  decide +kernel

theorem hexDigit_range {n : Nat} (hn : n < 16) : 0x30 ≤ (hexDigit n).toNat ∧ (hexDigit n).toNat ≤ 0x66 :=
  hexDigit_range16 ⟨n, hn⟩

/-- what one iteration of the quoting loop appends -/
inductive Tok where
  /-- a printable ASCII byte, itself -/
  | plain (c : UInt8)
  /-- backslash and a letter: `\" \\ \a \b \f \n \r \t \v` -/
  | esc (c : UInt8)
  /-- `\xNN` -/
  | hex2 (b : Nat)
  /-- `\uNNNN` -/
  | u4 (r : Nat)
  /-- `\UNNNNNNNN` -/
  | u8 (r : Nat)

def Tok.render : Tok → Bytes
  | .plain c => [c]
  | .esc c => [0x5C, c]
  | .hex2 b => hexEscape b
  | .u4 r => [0x5C, 0x75] ++ hex4 r
  | .u8 r => [0x5C, 0x55] ++ hex8 r

/-- the letters behind a backslash -/
def escLetters : List UInt8 := [0x22, 0x5C, 0x61, 0x62, 0x66, 0x6E, 0x72, 0x74, 0x76]

/-- the byte a backslash letter stands for -/
def unesc (c : UInt8) : UInt8 :=
  if c = 0x61 then 0x07 else if c = 0x62 then 0x08 else if c = 0x66 then 0x0C else if c = 0x6E then 0x0A
  else if c = 0x72 then 0x0D else if c = 0x74 then 0x09 else if c = 0x76 then 0x0B else c

def Tok.wf : Tok → Prop
  | .plain c => 0x20 ≤ c.toNat ∧ c.toNat ≤ 0x7E ∧ c ≠ 0x5C
  | .esc c => c ∈ escLetters
  | .hex2 b => b < 256
  | .u4 r => r < 0x10000
  | .u8 r => r < 0x100000000

theorem hexDigit_mod_inj {a b : Nat} (h : hexDigit (a % 16) = hexDigit (b % 16)) : a % 16 = b % 16 :=
  hexDigit_inj (Nat.mod_lt _ (by decide)) (Nat.mod_lt _ (by decide)) h

theorem hex4_length (r : Nat) : (hex4 r).length = 4 := by
  simp only [hex4, List.length_cons, List.length_nil]

/-- the four digits are those of `r % 16^4` -/
theorem hex4_mod {r s : Nat} (h : hex4 r = hex4 s) : r % 0x10000 = s % 0x10000 := by
  simp only [hex4, Nat.shiftRight_eq_div_pow, and_0F, List.cons.injEq, and_true] at h
  have h3 := hexDigit_mod_inj h.1
  have h2 := hexDigit_mod_inj h.2.1
  have h1 := hexDigit_mod_inj h.2.2.1
  have h0 := hexDigit_mod_inj h.2.2.2
  omega

theorem hex8_eq (r : Nat) : hex8 r = hex4 (r / 0x10000) ++ hex4 r := by
  simp only [hex8, hex4, Nat.shiftRight_eq_div_pow, and_0F, List.cons_append, List.nil_append,
    Nat.div_div_eq_div_mul]

theorem hex8_length (r : Nat) : (hex8 r).length = 8 := by
  rw [hex8_eq, List.length_append, hex4_length, hex4_length]

theorem hex4_inj {r s : Nat} (hr : r < 0x10000) (hs : s < 0x10000) (h : hex4 r = hex4 s) : r = s := by
  have := hex4_mod h; omega

theorem hex8_inj {r s : Nat} (hr : r < 0x100000000) (hs : s < 0x100000000) (h : hex8 r = hex8 s) :
    r = s := by
  rw [hex8_eq, hex8_eq] at h
  have h := List.append_inj h ((hex4_length _).trans (hex4_length _).symm)
  have := hex4_mod h.1
  have := hex4_mod h.2
  omega

theorem hexPair_inj {b c : Nat} (hb : b < 256) (hc : c < 256)
    (h1 : hexDigit (b >>> 4) = hexDigit (c >>> 4)) (h2 : hexDigit (b &&& 0xF) = hexDigit (c &&& 0xF)) :
    b = c := by
  simp only [Nat.shiftRight_eq_div_pow, and_0F] at h1 h2
  have := hexDigit_inj (by omega) (by omega) h1
  have := hexDigit_inj (Nat.mod_lt _ (by decide)) (Nat.mod_lt _ (by decide)) h2
  omega

/-- **the tokens are a prefix code**: a rendered token followed by anything determines the token
and what follows -/
theorem Tok.render_prefix {t₁ t₂ : Tok} (h₁ : t₁.wf) (h₂ : t₂.wf) {x y : Bytes}
    (h : t₁.render ++ x = t₂.render ++ y) : t₁ = t₂ ∧ x = y := by
  cases t₁ <;> cases t₂ <;>
    simp only [Tok.render, hexEscape, List.cons_append, List.nil_append, List.cons.injEq] at h
  case plain.plain => exact ⟨by rw [h.1], h.2⟩
  case esc.esc => exact ⟨by rw [h.2.1], h.2.2⟩
  case hex2.hex2 b c => exact ⟨by rw [hexPair_inj h₁ h₂ h.2.2.1 h.2.2.2.1], h.2.2.2.2⟩
  case u4.u4 r s =>
    have := List.append_inj h.2.2 ((hex4_length r).trans (hex4_length s).symm)
    exact ⟨by rw [hex4_inj h₁ h₂ this.1], this.2⟩
  case u8.u8 r s =>
    have := List.append_inj h.2.2 ((hex8_length r).trans (hex8_length s).symm)
    exact ⟨by rw [hex8_inj h₁ h₂ this.1], this.2⟩
  -- a plain byte is not the backslash
  case plain.esc | plain.hex2 | plain.u4 | plain.u8 => exact absurd h.1 h₁.2.2
  case esc.plain | hex2.plain | u4.plain | u8.plain => exact absurd h.1.symm h₂.2.2
  -- `x`, `u`, `U` are no backslash letters, and differ
  case esc.hex2 c _ | esc.u4 c _ | esc.u8 c _ =>
    have : c ∈ escLetters := h₁
    rw [h.2.1] at this; exact absurd this (by decide)
  case hex2.esc _ c | u4.esc _ c | u8.esc _ c =>
    have : c ∈ escLetters := h₂
    rw [← h.2.1] at this; exact absurd this (by decide)
  case hex2.u4 | hex2.u8 | u4.hex2 | u4.u8 | u8.hex2 | u8.u4 => exact absurd h.2.1 (by decide)

/-! ### a token determines its source bytes -/

/-- `Src t s`: the token `t` is what the loop appends when the next rune of the input is `s` -/
inductive Src : Tok → Bytes → Prop
  | plain (c : UInt8) : Src (.plain c) [c]
  | esc (c : UInt8) : Src (.esc c) [unesc c]
  | hex2 (b : UInt8) : Src (.hex2 b.toNat) [b]
  | two (b0 b1 : UInt8) : 0xC2 ≤ b0.toNat → b0.toNat ≤ 0xDF → 0x80 ≤ b1.toNat → b1.toNat ≤ 0xBF →
      Src (.u4 (b0.toNat % 32 * 64 + b1.toNat % 64)) [b0, b1]
  | three (b0 b1 b2 : UInt8) : 0xE0 ≤ b0.toNat → b0.toNat ≤ 0xEF →
      (b0.toNat = 0xE0 → 0xA0 ≤ b1.toNat) →
      0x80 ≤ b1.toNat → b1.toNat ≤ 0xBF → 0x80 ≤ b2.toNat → b2.toNat ≤ 0xBF →
      Src (.u4 (b0.toNat % 16 * 4096 + b1.toNat % 64 * 64 + b2.toNat % 64)) [b0, b1, b2]
  | four (b0 b1 b2 b3 : UInt8) : 0xF0 ≤ b0.toNat → b0.toNat ≤ 0xF4 →
      0x80 ≤ b1.toNat → b1.toNat ≤ 0xBF → 0x80 ≤ b2.toNat → b2.toNat ≤ 0xBF →
      0x80 ≤ b3.toNat → b3.toNat ≤ 0xBF →
      Src (.u8 (b0.toNat % 8 * 262144 + b1.toNat % 64 * 4096 + b2.toNat % 64 * 64 + b3.toNat % 64))
        [b0, b1, b2, b3]

/-- a number in a window of `m` values above a multiple of `m` is known from its residue: continuation bytes
(`0x80 + x`, `m = 64`), the lead bytes of the two (`0xC0 + x`, 32), three (`0xE0 + x`, 16) and four (`0xF0 + x`, 8) byte forms -/
theorem eq_of_mod_window {a b lo m : Nat} (hm : m ∣ lo) (ha : lo ≤ a) (ha' : a < lo + m) (hb : lo ≤ b)
    (hb' : b < lo + m) (h : a % m = b % m) : a = b := by
  obtain ⟨k, rfl⟩ := hm
  obtain ⟨x, rfl⟩ := Nat.exists_eq_add_of_le ha
  obtain ⟨y, rfl⟩ := Nat.exists_eq_add_of_le hb
  rw [Nat.mul_add_mod, Nat.mul_add_mod, Nat.mod_eq_of_lt (by omega), Nat.mod_eq_of_lt (by omega)] at h
  rw [h]

/-- base-64 digits are determined by the number -/
theorem digits64 {a b a' b' : Nat} (h : a * 64 + b % 64 = a' * 64 + b' % 64) : a = a' ∧ b % 64 = b' % 64 := by
  omega

theorem digits64_3 {a b c a' b' c' : Nat}
    (h : a * 4096 + b % 64 * 64 + c % 64 = a' * 4096 + b' % 64 * 64 + c' % 64) :
    a = a' ∧ b % 64 = b' % 64 ∧ c % 64 = c' % 64 := by
  have h' : (a * 64 + b % 64) * 64 + c % 64 = (a' * 64 + b' % 64) * 64 + c' % 64 := by omega
  obtain ⟨h1, h2⟩ := digits64 h'
  exact ⟨(digits64 h1).1, (digits64 h1).2, h2⟩

theorem digits64_4 {a b c e a' b' c' e' : Nat}
    (h : a * 262144 + b % 64 * 4096 + c % 64 * 64 + e % 64 = a' * 262144 + b' % 64 * 4096 + c' % 64 * 64 + e' % 64) :
    a = a' ∧ b % 64 = b' % 64 ∧ c % 64 = c' % 64 ∧ e % 64 = e' % 64 := by
  have h' : (a * 4096 + b % 64 * 64 + c % 64) * 64 + e % 64 = (a' * 4096 + b' % 64 * 64 + c' % 64) * 64 + e' % 64 := by
    omega
  obtain ⟨h1, h2⟩ := digits64 h'
  exact ⟨(digits64_3 h1).1, (digits64_3 h1).2.1, (digits64_3 h1).2.2, h2⟩

/-- a two-byte form stays below `0x800` -/
theorem two_lt (b0 b1 : Nat) : b0 % 32 * 64 + b1 % 64 < 0x800 := by omega

theorem cont_eq {b c : UInt8} (h1 : 0x80 ≤ b.toNat) (h2 : b.toNat ≤ 0xBF) (k1 : 0x80 ≤ c.toNat) (k2 : c.toNat ≤ 0xBF)
    (h : b.toNat % 64 = c.toNat % 64) : b = c :=
  UInt8.toNat.inj (eq_of_mod_window ⟨2, rfl⟩ h1 (by omega) k1 (by omega) h)

/-- no overlong forms: the rune of a three-byte form is at least `0x800` -/
theorem three_ge {b0 b1 : Nat} (b2 : Nat) (h1 : 0xE0 ≤ b0) (h2 : b0 ≤ 0xEF) (h3 : b0 = 0xE0 → 0xA0 ≤ b1)
    (h4 : b1 ≤ 0xBF) : 0x800 ≤ b0 % 16 * 4096 + b1 % 64 * 64 + b2 % 64 := by
  by_cases hc : b0 = 0xE0
  · have := h3 hc; omega
  · omega

theorem Src.unique {t : Tok} {s s' : Bytes} (h : Src t s) (h' : Src t s') : s = s' := by
  cases h with
  | plain c => cases h'; rfl
  | esc c => cases h'; rfl
  | hex2 b =>
    generalize hb : b.toNat = n at h'
    cases h' with
    | hex2 b' => rw [UInt8.toNat.inj (b := b') hb]
  | two b0 b1 h1 h2 h3 h4 =>
    generalize hr : b0.toNat % 32 * 64 + b1.toNat % 64 = r at h'
    cases h' with
    | two c0 c1 k1 k2 k3 k4 =>
      obtain ⟨e0, e1⟩ := digits64 hr
      rw [cont_eq h3 h4 k3 k4 e1, UInt8.toNat.inj (eq_of_mod_window ⟨6, rfl⟩ (by omega) (by omega) (by omega) (by omega) e0)]
    | three c0 c1 c2 k1 k2 k3 k4 k5 k6 k7 =>
      exact absurd (hr ▸ two_lt _ _) (Nat.not_lt.mpr (three_ge c2.toNat k1 k2 k3 k5))
  | three b0 b1 b2 h1 h2 h3 h4 h5 h6 h7 =>
    generalize hr : b0.toNat % 16 * 4096 + b1.toNat % 64 * 64 + b2.toNat % 64 = r at h'
    cases h' with
    | two c0 c1 k1 k2 k3 k4 =>
      exact absurd (hr ▸ three_ge b2.toNat h1 h2 h3 h5) (Nat.not_le.mpr (two_lt _ _))
    | three c0 c1 c2 k1 k2 k3 k4 k5 k6 k7 =>
      obtain ⟨e0, e1, e2⟩ := digits64_3 hr
      rw [cont_eq h4 h5 k4 k5 e1, cont_eq h6 h7 k6 k7 e2,
        UInt8.toNat.inj (eq_of_mod_window ⟨14, rfl⟩ h1 (by omega) k1 (by omega) e0)]
  | four b0 b1 b2 b3 h1 h2 h3 h4 h5 h6 h7 h8 =>
    generalize hr : b0.toNat % 8 * 262144 + b1.toNat % 64 * 4096 + b2.toNat % 64 * 64 + b3.toNat % 64
      = r at h'
    cases h' with
    | four c0 c1 c2 c3 k1 k2 k3 k4 k5 k6 k7 k8 =>
      obtain ⟨e0, e1, e2, e3⟩ := digits64_4 hr
      rw [cont_eq h3 h4 k3 k4 e1, cont_eq h5 h6 k5 k6 e2, cont_eq h7 h8 k7 k8 e3,
        UInt8.toNat.inj (eq_of_mod_window ⟨30, rfl⟩ h1 (by omega) k1 (by omega) e0)]

/-- a token is made from at least one byte: behind it the input is shorter -/
theorem Src.drop_lt {t : Tok} {s : Bytes} {w : Nat} (h : Src t (s.take w)) : (s.drop w).length < s.length := by
  have : 0 < (s.take w).length := by generalize s.take w = u at h; cases h <;> simp
  rw [List.length_take] at this
  rw [List.length_drop]; omega

/-! ### the loop, one iteration at a time -/

theorem quoteGo_skip : ∀ (k : Nat) (s : Bytes), quoteGo k s = quoteGo 0 (s.drop k)
  | 0, s => by simp
  | k + 1, [] => by simp [quoteGo]
  | k + 1, _ :: rest => by
    rw [quoteGo, quoteGo_skip k rest]; rfl

theorem escapedRune_u4 (r : Nat) (h : 0x80 ≤ r) (hv : r < 0xD800 ∨ 0xDFFF < r) (h2 : r < 0x10000) :
    escapedRune r = [0x5C, 0x75] ++ hex4 r := by
  have hv' : validRune r = true := by
    simp only [validRune, Bool.or_eq_true, Bool.and_eq_true, decide_eq_true_eq]; omega
  unfold escapedRune
  simp only [isPrintASCII, Bool.and_eq_true, decide_eq_true_eq, hv']
  repeat rw [if_neg (by omega)]
  rw [if_neg (by simp), if_pos h2]

theorem escapedRune_u8 (r : Nat) (h : 0x10000 ≤ r) (h2 : r ≤ 0x10FFFF) :
    escapedRune r = [0x5C, 0x55] ++ hex8 r := by
  have hv' : validRune r = true := by
    simp only [validRune, Bool.or_eq_true, Bool.and_eq_true, decide_eq_true_eq]; omega
  unfold escapedRune
  simp only [isPrintASCII, Bool.and_eq_true, decide_eq_true_eq, hv']
  repeat rw [if_neg (by omega)]
  rw [if_neg (by simp), if_neg (by omega)]

def asciiTok (b : UInt8) : Tok :=
  if b = 0x22 ∨ b = 0x5C then .esc b
  else if 0x20 ≤ b.toNat ∧ b.toNat ≤ 0x7E then .plain b
  else match escLetters.find? fun l => unesc l = b ∧ l ≠ b with
    | some l => .esc l
    | none => .hex2 b.toNat

/-- `asciiTok b` is what `escapedRune` writes for `b`, is well formed and made from `[b]` -/
def asciiTokOk (b : UInt8) : Bool :=
  escapedRune b.toNat == (asciiTok b).render &&
    match asciiTok b with
    | .plain c => c == b && decide (0x20 ≤ c.toNat ∧ c.toNat ≤ 0x7E ∧ c ≠ 0x5C)
    | .esc c => unesc c == b && escLetters.contains c
    | .hex2 n => n == b.toNat
    | _ => false

/-- what strconv writes for each of the 128 ASCII bytes is a table: evaluated -/
theorem asciiTokOk_all : ∀ n : Fin 128, asciiTokOk (UInt8.ofNat n.1) = true := by decide +kernel

theorem escapedRune_ascii (b : UInt8) (h : b.toNat < 0x80) :
    ∃ t, t.wf ∧ Src t [b] ∧ escapedRune b.toNat = t.render := by
  have hk := asciiTokOk_all ⟨b.toNat, h⟩
  rw [UInt8.ofNat_toNat] at hk
  simp only [asciiTokOk, Bool.and_eq_true, beq_iff_eq] at hk
  refine ⟨asciiTok b, ?_, ?_, hk.1⟩ <;> revert hk <;> cases asciiTok b <;>
    simp only [Bool.and_eq_true, beq_iff_eq, decide_eq_true_eq, List.contains_iff_mem, Bool.false_eq_true, and_false,
      false_imp_iff, and_imp]
  · exact fun _ _ h1 h2 h3 => ⟨h1, h2, h3⟩
  · exact fun _ _ h1 => h1
  · rintro _ rfl; exact Nat.lt_trans h (by decide)
  · rintro _ rfl _ _ _; exact .plain _
  · rintro _ rfl _; exact .esc _
  · rintro _ rfl; exact .hex2 b

/-- **one iteration**: the loop on a non-empty input appends one well-formed token made from the
first `w ≥ 1` bytes and goes on behind them -/
theorem quote_step (b0 : UInt8) (rest : Bytes) :
    ∃ t w, t.wf ∧ Src t ((b0 :: rest).take w) ∧
      quoteBody (b0 :: rest) = t.render ++ quoteBody ((b0 :: rest).drop w) := by
  unfold quoteBody
  rw [quoteGo]
  by_cases hb : 0x80 ≤ b0.toNat
  · simp only [hb, if_true]
    have hd := decodeRune_dec b0 rest
    rcases hp : decodeRune b0 rest with ⟨r, w⟩
    rw [hp] at hd
    simp only at hd ⊢
    cases hd with
    | ascii h => omega
    | bad h =>
      simp only [and_self, if_true]
      exact ⟨.hex2 b0.toNat, 1, b0.toNat_lt, .hex2 b0, rfl⟩
    | two b1 tl h1 h2 h3 h4 =>
      have hr := two_lt b0.toNat b1.toNat
      have hr' := Nat.lt_trans hr (by decide : 0x800 < 0xD800)
      rw [if_neg (fun h => absurd h.1 (by decide)), escapedRune_u4 _ (by omega) (.inl hr') (Nat.lt_trans hr' (by decide))]
      exact ⟨.u4 _, 2, Nat.lt_trans hr' (by decide), .two b0 b1 h1 h2 h3 h4, by rw [quoteGo_skip]; rfl⟩
    | three b1 b2 tl h1 h2 h3 h4 h5 h6 h7 h8 =>
      have hr1 := three_ge b2.toNat h1 h2 h3 h6
      have hr2 : b0.toNat % 16 * 4096 + b1.toNat % 64 * 64 + b2.toNat % 64 < 0xD800 ∨
          0xDFFF < b0.toNat % 16 * 4096 + b1.toNat % 64 * 64 + b2.toNat % 64 := by
        by_cases h : b0.toNat = 0xED
        · have := h4 h; omega
        · omega
      have hr3 : b0.toNat % 16 * 4096 + b1.toNat % 64 * 64 + b2.toNat % 64 < 0x10000 := by omega
      rw [if_neg (fun h => absurd h.1 (by decide)), escapedRune_u4 _ (Nat.le_trans (by decide) hr1) hr2 hr3]
      exact ⟨.u4 _, 3, hr3, .three b0 b1 b2 h1 h2 h3 h5 h6 h7 h8, by rw [quoteGo_skip]; rfl⟩
    | four b1 b2 b3 tl h1 h2 h3 h4 h5 h6 h7 h8 h9 h10 =>
      have hr1 : 0x10000 ≤
          b0.toNat % 8 * 262144 + b1.toNat % 64 * 4096 + b2.toNat % 64 * 64 + b3.toNat % 64 := by
        by_cases h : b0.toNat = 0xF0
        · have := h3 h; omega
        · omega
      have hr2 : b0.toNat % 8 * 262144 + b1.toNat % 64 * 4096 + b2.toNat % 64 * 64 + b3.toNat % 64
          ≤ 0x10FFFF := by
        by_cases h : b0.toNat = 0xF4
        · have := h4 h; omega
        · omega
      rw [if_neg (fun h => absurd h.1 (by decide)), escapedRune_u8 _ hr1 hr2]
      exact ⟨.u8 _, 4, Nat.lt_of_le_of_lt hr2 (by decide), .four b0 b1 b2 b3 h1 h2 h5 h6 h7 h8 h9 h10,
        by rw [quoteGo_skip]; rfl⟩
  · simp only [hb, if_false]
    rw [if_neg (by omega)]
    obtain ⟨t, hw, hs, he⟩ := escapedRune_ascii b0 (by omega)
    exact ⟨t, 1, hw, hs, by rw [he]; rfl⟩

theorem quoteBody_nil : quoteBody [] = [] := rfl

theorem quoteBody_cons_ne_nil (b : UInt8) (r : Bytes) : quoteBody (b :: r) ≠ [] := by
  obtain ⟨t, w, _, _, he⟩ := quote_step b r
  rw [he]
  cases t <;> simp [Tok.render, hexEscape]

/-- induction along the loop: the empty input, and an input whose first token is known and for whose rest behind that
token the claim holds -/
theorem quoteBody_ind {P : Bytes → Prop} (nil : P [])
    (step : ∀ (s : Bytes) (t : Tok) (w : Nat), t.wf → Src t (s.take w) → quoteBody s = t.render ++ quoteBody (s.drop w) →
      P (s.drop w) → P s) : ∀ s, P s
  | [] => nil
  | b :: r => by
    obtain ⟨t, w, hw, hs, he⟩ := quote_step b r
    exact step _ t w hw hs he (quoteBody_ind nil step _)
termination_by s => s.length
decreasing_by exact hs.drop_lt

theorem quoteBody_injective (s₁ : Bytes) : ∀ s₂, quoteBody s₁ = quoteBody s₂ → s₁ = s₂ := by
  induction s₁ using quoteBody_ind with
  | nil =>
    intro s₂ h
    cases s₂ with
    | nil => rfl
    | cons b r => exact absurd h.symm (quoteBody_cons_ne_nil b r)
  | step s t w hw hs he ih =>
    intro s₂ h
    cases s₂ with
    | nil =>
      cases s with
      | nil => rfl
      | cons b r => exact absurd h (quoteBody_cons_ne_nil b r)
    | cons c q =>
      obtain ⟨t', w', hw', hs', he'⟩ := quote_step c q
      rw [he, he'] at h
      obtain ⟨rfl, hr⟩ := Tok.render_prefix hw hw' h
      rw [← List.take_append_drop w s, ← List.take_append_drop w' (c :: q), Src.unique hs hs', ih _ hr]

theorem Tok.render_ascii {t : Tok} (h : t.wf) : ∀ c ∈ t.render, 0x20 ≤ c.toNat ∧ c.toNat ≤ 0x7E := by
  have hd : ∀ n, 0x20 ≤ (hexDigit (n % 16)).toNat ∧ (hexDigit (n % 16)).toNat ≤ 0x7E := by
    intro n
    have := hexDigit_range (Nat.mod_lt n (by decide : 0 < 16))
    omega
  cases t with
  | plain c =>
    simp only [Tok.render, List.forall_mem_cons, List.not_mem_nil, false_imp_iff, implies_true, and_true]
    exact ⟨h.1, h.2.1⟩
  | esc c =>
    simp only [Tok.render, List.forall_mem_cons, List.not_mem_nil, false_imp_iff, implies_true, and_true]
    exact ⟨by decide, (by decide : ∀ c ∈ escLetters, 0x20 ≤ c.toNat ∧ c.toNat ≤ 0x7E) c h⟩
  | hex2 b =>
    have hb : b / 2 ^ 4 = b / 2 ^ 4 % 16 := by have : b < 256 := h; omega
    simp only [Tok.render, hexEscape, Nat.shiftRight_eq_div_pow, and_0F, List.forall_mem_cons, List.not_mem_nil,
      false_imp_iff, implies_true, and_true]
    rw [hb]
    exact ⟨by decide, by decide, hd _, hd _⟩
  | u4 r =>
    simp only [Tok.render, hex4, Nat.shiftRight_eq_div_pow, and_0F, List.cons_append, List.nil_append,
      List.forall_mem_cons, List.not_mem_nil, false_imp_iff, implies_true, and_true]
    exact ⟨by decide, by decide, hd _, hd _, hd _, hd _⟩
  | u8 r =>
    simp only [Tok.render, hex8, hex4, Nat.shiftRight_eq_div_pow, and_0F, List.cons_append, List.nil_append,
      List.forall_mem_cons, List.not_mem_nil, false_imp_iff, implies_true, and_true]
    exact ⟨by decide, by decide, hd _, hd _, hd _, hd _, hd _, hd _, hd _, hd _⟩

theorem quoteBody_ascii (s : Bytes) : ∀ c ∈ quoteBody s, 0x20 ≤ c.toNat ∧ c.toNat ≤ 0x7E := by
  induction s using quoteBody_ind with
  | nil => simp [quoteBody_nil]
  | step s t w hw hs he ih =>
    intro c hc
    rw [he, List.mem_append] at hc
    exact hc.elim (Tok.render_ascii hw c) (ih c)

end Gts.KeyEnc
