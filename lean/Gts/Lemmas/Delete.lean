/-
  `Location.Expand(i, -k)` (deletion of `[i, i+k)`): the denotation is filtered and re-mapped
  by `delMap`.  Core Lean only.
-/
import Gts.Lemmas.Contig
import Gts.Lemmas.TreeMap
namespace Gts
namespace Loc

/-- the new bounds of a range under deletion -/
def delStart (s i k : Int) : Int := if i < s then max i (s - k) else s
def delEnd (e i k : Int) : Int := if i ≤ e then max i (e - k) else e

theorem betweenExpand_del (p i k : Int) : betweenExpand p i (-k) = between (delStart p i k) := by
  unfold betweenExpand delStart; rw [gmax_eq_max]; rfl

theorem pointExpand_del (p i k : Int) (hk : 0 < k) :
    pointExpand p i (-k) = if i ≤ p ∧ p < i + k then between i else point (delStart p i k) := by
  unfold pointExpand delStart
  simp only [gmax_eq_max, show (-k < 0 ∧ i ≤ p ∧ p < i - -k) ↔ (i ≤ p ∧ p < i + k) by omega,
    show (0 ≤ -k ∧ i ≤ p ∨ -k < 0 ∧ i < p) ↔ i < p by omega]
  rfl

theorem delMap_eq_none {i k x : Int} : delMap i k x = none ↔ i ≤ x ∧ x < i + k := by
  unfold delMap
  split
  · simp only [reduceCtorEq, false_iff]; omega
  · split
    · simp only [true_iff]; omega
    · simp only [reduceCtorEq, false_iff]; omega

theorem delMap_eq_some {i k x y : Int} (hk : 0 ≤ k) :
    delMap i k x = some y ↔ (x < i ∧ y = x) ∨ (i + k ≤ x ∧ y = x - k) := by
  unfold delMap
  split
  · simp only [Option.some.injEq]; omega
  · split
    · simp only [reduceCtorEq, false_iff]; omega
    · simp only [Option.some.injEq]; omega

theorem den_pointExpand_del (p i k : Int) (hk : 0 < k) :
    den (pointExpand p i (-k)) = filterMapPos (delMap i k) (den (point p)) := by
  rw [pointExpand_del p i k hk]
  split
  · rename_i h; simp [filterMapPos, delMap_eq_none.mpr h]
  · rename_i h
    have : delMap i k p = some (delStart p i k) :=
      (delMap_eq_some (Int.le_of_lt hk)).mpr (by unfold delStart; omega)
    simp [filterMapPos, this]

/-- the two bounds are re-mapped alike: `delStart · i k` is where a position lands, the removed span
collapsing onto `i` -/
theorem delEnd_eq_delStart (e i k : Int) (hk : 0 ≤ k) : delEnd e i k = delStart e i k := by
  unfold delEnd delStart; omega

theorem filterMap_delMap_irange (s e i k : Int) (h : s < e) (hk : 0 < k) :
    (irange s (e - s).toNat).filterMap (delMap i k)
      = irange (delStart s i k) (delEnd e i k - delStart s i k).toNat := by
  have := (filterMap_irange_of_step (delMap i k) (delStart · i k)
    (fun x hx => by have := delMap_eq_none.mp hx; unfold delStart; omega)
    (fun x y hx => by
      rcases (delMap_eq_some (by omega)).mp hx with ⟨h1, rfl⟩ | ⟨h1, rfl⟩ <;> unfold delStart <;> omega) (e - s).toNat s).2
  rw [this, delEnd_eq_delStart e i k (by omega), show s + ((e - s).toNat : Int) = e by omega]

/-- the coordinate rules of `Expand` (start and end of a span) when `[i, i+k)` is deleted -/
theorem expandStart_del (s i k : Int) (hk : 0 < k) :
    (if (0 ≤ -k ∧ i ≤ s) ∨ (-k < 0 ∧ i < s) then gmax i (s + -k) else s) = delStart s i k := by
  unfold gmax delStart; omega

theorem expandEnd_del (e i k : Int) (hk : 0 < k) :
    (if (0 ≤ -k ∧ i < e) ∨ (-k < 0 ∧ i ≤ e) then gmax i (e + -k) else e) = delEnd e i k := by
  unfold gmax delEnd; omega

theorem rangedExpand_del_eq (s e : Int) (p5 p3 : Bool) (i k : Int) (hk : 0 < k) :
    rangedExpand s e p5 p3 i (-k) =
      if delStart s i k = delEnd e i k then between (delStart s i k)
      else ranged (delStart s i k) (delEnd e i k)
        (if i ≤ s ∧ s < i + k then true else p5) (if i < e ∧ e ≤ i + k then true else p3) := by
  unfold rangedExpand
  simp only [expandStart_del s i k hk, expandEnd_del e i k hk, if_neg (show ¬ -k = 0 by omega),
    show (-k < 0 ∧ i ≤ s ∧ s < i - -k) ↔ (i ≤ s ∧ s < i + k) by omega,
    show (-k < 0 ∧ i < e ∧ e ≤ i - -k) ↔ (i < e ∧ e ≤ i + k) by omega]

theorem rangedExpand_del_of_outside (s e : Int) (p5 p3 : Bool) (i k : Int) (hk : 0 < k)
    (h1 : ¬ (i ≤ s ∧ s < i + k)) (h2 : ¬ (i < e ∧ e ≤ i + k)) (hne : delStart s i k ≠ delEnd e i k) :
    rangedExpand s e p5 p3 i (-k) = ranged (delStart s i k) (delEnd e i k) p5 p3 := by
  rw [rangedExpand_del_eq s e p5 p3 i k hk, if_neg hne, if_neg h1, if_neg h2]

theorem rangedExpand_del_below (s e : Int) (p5 p3 : Bool) (i k : Int) (hk : 0 < k) (h : s < e) (he : e ≤ i) :
    rangedExpand s e p5 p3 i (-k) = ranged s e p5 p3 := by
  have e1 : delStart s i k = s := by unfold delStart; omega
  have e2 : delEnd e i k = e := by unfold delEnd; omega
  rw [rangedExpand_del_of_outside s e p5 p3 i k hk (by omega) (by omega) (by omega), e1, e2]

theorem rangedExpand_del_above (s e : Int) (p5 p3 : Bool) (i k : Int) (hk : 0 < k) (h : s < e) (hs : i + k ≤ s) :
    rangedExpand s e p5 p3 i (-k) = ranged (s - k) (e - k) p5 p3 := by
  have e1 : delStart s i k = s - k := by unfold delStart; omega
  have e2 : delEnd e i k = e - k := by unfold delEnd; omega
  rw [rangedExpand_del_of_outside s e p5 p3 i k hk (by omega) (by omega) (by omega), e1, e2]

theorem rangedExpand_del_around (s e : Int) (p5 p3 : Bool) (i k : Int) (hk : 0 < k) (hs : s < i) (he : i + k < e) :
    rangedExpand s e p5 p3 i (-k) = ranged s (e - k) p5 p3 := by
  have e1 : delStart s i k = s := by unfold delStart; omega
  have e2 : delEnd e i k = e - k := by unfold delEnd; omega
  rw [rangedExpand_del_of_outside s e p5 p3 i k hk (by omega) (by omega) (by omega), e1, e2]

theorem den_rangedExpand_del (s e : Int) (p5 p3 : Bool) (i k : Int) (h : s < e) (hk : 0 < k) :
    den (rangedExpand s e p5 p3 i (-k)) = filterMapPos (delMap i k) (den (ranged s e p5 p3)) := by
  rw [rangedExpand_del_eq _ _ _ _ _ _ hk, den_ranged, filterMapPos_fwd, filterMap_delMap_irange s e i k h hk]
  split
  · rename_i heq
    simp [heq, fwd]
  · simp

theorem ambiguousExpand_del_eq (s e i k : Int) (hk : 0 < k) :
    ambiguousExpand s e i (-k) =
      if delStart s i k = delEnd e i k then between (delStart s i k)
      else ambiguous (delStart s i k) (delEnd e i k) := by
  unfold ambiguousExpand
  simp only [expandStart_del s i k hk, expandEnd_del e i k hk, if_neg (show ¬ -k = 0 by omega)]

theorem den_ambiguousExpand_del (s e i k : Int) (h : s < e) (hk : 0 < k) :
    den (ambiguousExpand s e i (-k)) = filterMapPos (delMap i k) (den (ambiguous s e)) := by
  rw [ambiguousExpand_del_eq _ _ _ _ hk, den_ambiguous, filterMapPos_fwd, filterMap_delMap_irange s e i k h hk]
  split
  · rename_i heq
    simp [heq, fwd]
  · simp

theorem delStart_le_delEnd (s e i k : Int) (h : s ≤ e) : delStart s i k ≤ delEnd e i k := by
  unfold delStart delEnd; omega

theorem wf_rangedExpand_del (s e : Int) (a b : Bool) (i k : Int) (h : s < e) (hk : 0 < k) :
    wf (rangedExpand s e a b i (-k)) = true := by
  rw [rangedExpand_del_eq _ _ _ _ _ _ hk]
  have := delStart_le_delEnd s e i k (Int.le_of_lt h)
  split
  · simp [wf]
  · simp only [wf, decide_eq_true_eq]; omega

theorem wf_ambiguousExpand_del (s e i k : Int) (h : s < e) (hk : 0 < k) :
    wf (ambiguousExpand s e i (-k)) = true := by
  rw [ambiguousExpand_del_eq _ _ _ _ hk]
  have := delStart_le_delEnd s e i k (Int.le_of_lt h)
  split
  · simp [wf]
  · simp only [wf, decide_eq_true_eq]; omega

theorem filterMapPos_refines {a b : List Pos} (f : Int → Option Int) (h : a ≼ b) :
    filterMapPos f a ≼ filterMapPos f b := h.filterMap _

theorem expand_del_leafSpec (i k : Int) (hk : 0 < k) :
    LeafSpec (expand · i (-k)) (fun u => filterMapPos (delMap i k) (den u)) (fun _ => true) := fun u hu hw _ =>
  match u, hu, hw with
  | between p, _, _ => ⟨den_betweenExpand p i (-k), wf_betweenExpand p i (-k)⟩
  | point p, _, _ => ⟨den_pointExpand_del p i k hk, wf_pointExpand p i (-k)⟩
  | ranged s e a b, _, hw =>
      ⟨den_rangedExpand_del s e a b i k (of_decide_eq_true hw) hk,
        wf_rangedExpand_del s e a b i k (of_decide_eq_true hw) hk⟩
  | ambiguous s e, _, hw =>
      ⟨den_ambiguousExpand_del s e i k (of_decide_eq_true hw) hk,
        wf_ambiguousExpand_del s e i k (of_decide_eq_true hw) hk⟩

/-- Delete: every location keeps exactly its surviving residues (re-mapped), unless K2 fires. -/
theorem expand_del (l : Loc) (i k : Int) (hw : wf l = true) (hk : 0 < k) :
    (expandAbs l i (-k) = false → den (expand l i (-k)) ≼ filterMapPos (delMap i k) (den l)) ∧
    wf (expand l i (-k)) = true := by
  rw [(expand_eq_tmap i (-k) l).1, (expand_eq_tmap i (-k) l).2.1, ← dfold_hom (DenHom.filterMapPos _)]
  exact tmap_spec (expand_del_leafSpec i k hk) l hw (allLeaves_true l)

end Loc
end Gts
