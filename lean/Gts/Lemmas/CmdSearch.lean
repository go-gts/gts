/-
  Helper lemmas for the glue of `gts search` (Gts/Model/CliGlue.lean `Cli.searchStep`): every segment `Match` / `Search`
  report is a proper range `[i, i + |query|)` with a non-empty query, so `gts.Range(head, tail)` never panics on it, and
  the reverse of a `Ranged` is a `Ranged` (the type assertion `loc.Reverse(n).(gts.Ranged)` never fails).
-/
import Gts.Model.CliGlue
import Gts.Lemmas.Nuc
import Gts.Lemmas.LessOrder
namespace Gts.Cli
open Gts Gts.Nuc

theorem search_seg (seq query : List UInt8) : ∀ sg ∈ search seq query,
    ∃ i : Nat, sg = toSeg query.length i ∧ 0 < query.length := by
  intro sg h
  by_cases hs : seq = []
  · subst hs; simp [search] at h
  by_cases hq : query = []
  · subst hq; simp [search] at h
  rw [search_eq seq query hs hq] at h
  obtain ⟨i, _, rfl⟩ := List.mem_map.1 h
  exact ⟨i, rfl, List.length_pos_iff.2 hq⟩

theorem match_seg (seq query : List UInt8) : ∀ sg ∈ matchSegs seq query,
    ∃ i : Nat, sg = toSeg query.length i ∧ 0 < query.length := by
  intro sg h
  by_cases hs : seq = []
  · subst hs; simp [matchSegs] at h
  by_cases hq : query = []
  · subst hq; simp [matchSegs] at h
  rw [matchSegs_eq seq query hs hq] at h
  obtain ⟨i, _, rfl⟩ := List.mem_map.1 h
  exact ⟨i, rfl, List.length_pos_iff.2 hq⟩

/-- **every segment the matcher of `gts search` reports is a proper range**: `head < tail` -/
theorem matcher_proper (exact : Bool) (s q : Seq) : ∀ sg ∈ matcher exact s q, sg.1 < sg.2 := by
  intro sg h
  have : ∃ i : Nat, sg = toSeg q.bytes.length i ∧ 0 < q.bytes.length := by
    cases exact
    · exact match_seg _ _ sg (by simpa [matcher, seqMatch] using h)
    · exact search_seg _ _ sg (by simpa [matcher, seqSearch] using h)
  obtain ⟨i, rfl, hpos⟩ := this
  simp only [toSeg]
  omega

theorem rangeOf_proper (a b : Int) (h : a < b) : rangeOf a b = some (.ranged a b false false) := by
  simp only [rangeOf]
  rw [if_neg (by omega)]

/-- the reverse of a `Ranged` is a `Ranged`: the assertion `.(gts.Ranged)` holds -/
theorem asRanged_reverse (a b : Int) (p5 p3 : Bool) (L : Int) :
    asRanged ((Loc.ranged a b p5 p3).reverse L) = some ((Loc.ranged a b p5 p3).reverse L) := by
  simp only [Loc.reverse, Loc.rangedReverse]
  rfl

theorem foldl_insert_perm {α : Type} (g : α → Feature) (l : List α) (ff : Table) :
    (l.foldl (fun (ff : Table) x => ff.insert (g x)) ff).Perm (ff ++ l.map g) := by
  rw [← List.foldl_map]
  exact Table.insertAll_perm ff (l.map g)

/-- the features `gts search` adds to a record for ONE query: one per forward hit, then — unless `--no-complement` —
one per hit on the reverse complement -/
def searchHits (exact nocomplement : Bool) (key : String) (props : Props) (s q : Seq) : List Feature :=
  (matcher exact s q).map (fwdFeature key props) ++
    (if nocomplement then [] else (matcher exact (revcompOf s) q).map (bwdFeature key props s.len))

theorem searchQuery_perm (exact nocomplement : Bool) (key : String) (props : Props) (s : Seq) (ff : Table) (q : Seq) :
    (searchQuery exact nocomplement key props s ff q).Perm (ff ++ searchHits exact nocomplement key props s q) := by
  unfold searchQuery searchHits
  cases nocomplement
  · simp only [Bool.false_eq_true, if_false]
    refine (foldl_insert_perm _ _ _).trans ?_
    rw [← List.append_assoc]
    exact (foldl_insert_perm _ _ _).append_right _
  · simp only [if_true, List.append_nil]
    exact foldl_insert_perm _ _ _

theorem searchStep_perm (exact nocomplement : Bool) (key : String) (props : Props) (queries : List Seq) (s : Seq) :
    (searchStep exact nocomplement key props queries s).feats.Perm
      (s.feats ++ queries.flatMap (searchHits exact nocomplement key props s)) :=
  foldl_perm_flatMap _ _ (searchQuery_perm exact nocomplement key props s) queries s.feats

/-- the residues `gts search` looks for reverse hits in: complemented and flipped -/
theorem revcompOf_bytes (s : Seq) : (revcompOf s).bytes = (s.bytes.map Nuc.complementByte).reverse := rfl

/-- the feature of a forward hit at offset `i` of width `w` -/
theorem fwdFeature_toSeg (key : String) (props : Props) (w i : Nat) :
    fwdFeature key props (toSeg w i) = ⟨key, .ranged (i : Int) ((i + w : Nat) : Int) false false, props⟩ := rfl

/-- the feature of a hit at offset `i` of the reverse complement of a record of `L` residues: on the complement
strand, at `[L − (i+w), L − i)` -/
theorem bwdFeature_toSeg (key : String) (props : Props) (L : Int) (w i : Nat) :
    bwdFeature key props L (toSeg w i) =
      ⟨key, .compl (.ranged (L - ((i + w : Nat) : Int)) (L - (i : Int)) false false), props⟩ := rfl

end Gts.Cli
