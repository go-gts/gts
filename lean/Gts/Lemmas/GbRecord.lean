/-
  C01 helper lemmas: the record as a list of sections, each taken by one (CONTIG: two) pass(es)
  of the loop of `GenBankParser`, for either line end (`SecOKE e`: the section's text with the line
  end `e`; `SecOK` is the case LF, `SecOKC` of `GbCrlfReadWrite.lean` the case CR LF; `SecOKR` the form
  for a section that needs something of the reader's registry, which FEATURES does).
-/
import Gts.Lemmas.GbDispatch
namespace Gts.GenBank
open Gts.Pars

/-- a piece of the written record: its text, what reading it does to the record read so far,
and the number of loop passes it takes -/
structure Section where
  text : Bytes
  act : Sub → Sub
  iters : Nat

def SecOK (length : Int) (sec : Section) : Prop :=
  (∀ rest, startsField (sec.text ++ rest) = true) ∧ sec.iters ≤ sec.text.length ∧
  ∀ (k : Nat) (s : Sub) (rest : Bytes), startsField rest = true →
    recordLoop length 12 (k + sec.iters) s ⟨sec.text ++ rest, []⟩ = recordLoop length 12 k (sec.act s) ⟨rest, []⟩

def secsText (secs : List Section) : Bytes := secs.flatMap (·.text)
def secsIters (secs : List Section) : Nat := (secs.map (·.iters)).sum
def secsAct (secs : List Section) (s : Sub) : Sub := secs.foldl (fun s x => x.act s) s

variable (e : Eol)

/-- `SecOK` for the section's text with the line end `e`: the same number of passes, the same action
on the record read so far -/
def SecOKE (length : Int) (sec : Section) : Prop :=
  (∀ rest, startsField (tr e sec.text ++ rest) = true) ∧ sec.iters ≤ sec.text.length ∧
  ∀ (k : Nat) (s : Sub) (rest : Bytes), startsField rest = true →
    recordLoop length 12 (k + sec.iters) s ⟨tr e sec.text ++ rest, []⟩ =
      recordLoop length 12 k (sec.act s) ⟨rest, []⟩

theorem tr_secsText_cons (x : Section) (xs : List Section) :
    tr e (secsText (x :: xs)) = tr e x.text ++ tr e (secsText xs) := by
  simp [secsText, List.flatMap_cons, tr_append]

/-- `SecOKE` for a reader whose registry satisfies `R`, which the section keeps: FEATURES is read
under a registry that writes the same text as the writer's and teaches it names; the other
sections do not look at the registry -/
def SecOKR (R : Registry → Prop) (length : Int) (sec : Section) : Prop :=
  (∀ rest, startsField (tr e sec.text ++ rest) = true) ∧ sec.iters ≤ sec.text.length ∧
  ∀ (k : Nat) (s : Sub) (rest : Bytes), R s.2.2.2 → startsField rest = true →
    recordLoop length 12 (k + sec.iters) s ⟨tr e sec.text ++ rest, []⟩ =
      recordLoop length 12 k (sec.act s) ⟨rest, []⟩ ∧ R (sec.act s).2.2.2

theorem SecOKE.toR {R : Registry → Prop} {length : Int} {sec : Section} (h : SecOKE e length sec)
    (hr : ∀ s, R s.2.2.2 → R (sec.act s).2.2.2) : SecOKR e R length sec :=
  ⟨h.1, h.2.1, fun k s rest hR hrest => ⟨h.2.2 k s rest hrest, hr s hR⟩⟩

section
variable (R : Registry → Prop)

theorem secsText_startsR (length : Int) (secs : List Section) (h : ∀ x ∈ secs, SecOKR e R length x) (rest : Bytes)
    (hrest : startsField rest = true) : startsField (tr e (secsText secs) ++ rest) = true := by
  cases secs with
  | nil => simpa [secsText] using hrest
  | cons x xs =>
    have := (h x (by simp)).1 (tr e (secsText xs) ++ rest)
    rw [tr_secsText_cons, List.append_assoc]
    exact this

theorem loop_sectionsR (length : Int) (secs : List Section) (h : ∀ x ∈ secs, SecOKR e R length x) (k : Nat) (s : Sub)
    (rest : Bytes) (hR : R s.2.2.2) (hrest : startsField rest = true) :
    recordLoop length 12 (k + secsIters secs) s ⟨tr e (secsText secs) ++ rest, []⟩ =
      recordLoop length 12 k (secsAct secs s) ⟨rest, []⟩ := by
  induction secs generalizing k s with
  | nil => simp [secsIters, secsText, secsAct]
  | cons x xs ih =>
    have hxs : ∀ y ∈ xs, SecOKR e R length y := fun y hy => h y (by simp [hy])
    have e1 : k + secsIters (x :: xs) = (k + secsIters xs) + x.iters := by
      simp [secsIters]; omega
    obtain ⟨h1, h2⟩ := (h x (by simp)).2.2 (k + secsIters xs) s _ hR (secsText_startsR e R length xs hxs rest hrest)
    rw [e1, tr_secsText_cons, List.append_assoc, h1, ih hxs _ _ h2]
    rfl

theorem secsIters_leR (length : Int) (secs : List Section) (h : ∀ x ∈ secs, SecOKR e R length x) :
    secsIters secs ≤ (secsText secs).length := by
  induction secs with
  | nil => simp [secsIters, secsText]
  | cons x xs ih =>
    have := (h x (by simp)).2.1
    have := ih (fun y hy => h y (by simp [hy]))
    simp only [secsIters, secsText, List.map_cons, List.sum_cons, List.flatMap_cons, List.length_append] at *
    omega

end

theorem secOKE_all (length : Int) (secs : List Section) (h : ∀ x ∈ secs, SecOKE e length x) :
    ∀ x ∈ secs, SecOKR e (fun _ => True) length x := fun x hx => (h x hx).toR e fun _ _ => trivial

/-- the names an extra field must not start with: the eleven field names (their sub-parsers would
claim the line) and the six REFERENCE sub-field names -/
def reservedNames : List String := fieldNames ++ refNames

/-- an extra field's name as written (`%-12s`) starts with none of the reserved names -/
def extraNameOk (name : Bytes) : Bool := reservedNames.all fun n => !(bs n).isPrefixOf (padRight 12 name)

theorem isPrefixOf_append_long (p a Y : Bytes) (h : p.length ≤ a.length) :
    p.isPrefixOf (a ++ Y) = p.isPrefixOf a := by
  induction p generalizing a with
  | nil => simp
  | cons x p ih =>
    cases a with
    | nil => simp at h
    | cons y a =>
      simp only [List.cons_append, List.isPrefixOf]
      rw [ih a (by simp only [List.length_cons] at h; omega)]

theorem reserved_lengths : ∀ n ∈ reservedNames, (bs n).length ≤ 12 := by decide +kernel

/-! ### a field whose text starts with its padded name

Whether a text starts a field, and which sub-parsers pass it by, is decided by its first twelve
bytes: no field or sub-field name is longer. -/

theorem startsField_append_long (a Y : Bytes) (h : 7 ≤ a.length) : startsField (a ++ Y) = startsField a := by
  cases a with
  | nil => simp at h
  | cons c a =>
    have hr : refAltList.all (fun x => !(bs x.1).isPrefixOf (c :: a ++ Y)) =
        refAltList.all (fun x => !(bs x.1).isPrefixOf (c :: a)) := by
      rw [Bool.eq_iff_iff]
      simp only [List.all_eq_true]
      have hl : ∀ x ∈ refAltList, (bs x.1).length ≤ 7 := by decide
      constructor <;> intro H x hx <;> have := H x hx <;>
        rw [isPrefixOf_append_long _ _ _ (Nat.le_trans (hl x hx) h)] at * <;> exact this
    simp only [startsField, refStop, List.cons_append, List.head?_cons] at hr ⊢
    rw [hr]

theorem notNames_append_long (k : Nat) (a Y : Bytes) (h : 12 ≤ a.length) : notNames k (a ++ Y) = notNames k a := by
  rw [Bool.eq_iff_iff]
  simp only [notNames, List.all_eq_true]
  have hl : ∀ n ∈ fieldNames.take k, (bs n).length ≤ a.length := fun n hn =>
    Nat.le_trans (reserved_lengths n (List.mem_append_left _ (List.mem_of_mem_take hn))) h
  constructor <;> intro H n hn <;> have := H n hn <;>
    rw [isPrefixOf_append_long _ _ _ (hl n hn)] at * <;> exact this

/-- what the record loop has to know about the first twelve bytes `hd` of the text of its `k`-th
field: no line feed, an upper-case first byte, a field start, none of the earlier field names
(`k = 11`: none of the eleven, an extra field).  For the closed texts below it is evaluated, for the
padded name of an extra field it is `extra_headOk`. -/
def headOk (k : Nat) (hd : Bytes) : Bool :=
  hd.all (· != 10) && decide (12 ≤ hd.length) && hd.head?.any isUpper && startsField hd && notNames k hd

theorem headOk_tr {k : Nat} {hd : Bytes} (h : headOk k hd = true) (X rest : Bytes) :
    tr e (hd ++ X) ++ rest = hd ++ (tr e X ++ rest) := by
  simp only [headOk, Bool.and_eq_true] at h
  rw [tr_append, tr_noLF e hd (noLF_of_all _ h.1.1.1.1), List.append_assoc]

theorem headOk_starts {k : Nat} {hd : Bytes} (h : headOk k hd = true) (Y : Bytes) :
    startsField (hd ++ Y) = true := by
  simp only [headOk, Bool.and_eq_true, decide_eq_true_eq] at h
  rw [startsField_append_long _ _ (by omega), h.1.2]

theorem headOk_notNames {k : Nat} {hd : Bytes} (h : headOk k hd = true) (Y : Bytes) :
    notNames k (hd ++ Y) = true := by
  simp only [headOk, Bool.and_eq_true, decide_eq_true_eq] at h
  rw [notNames_append_long _ _ _ h.1.1.1.2, h.2]

theorem loop_tried {k : Nat} {hd : Bytes} (h : headOk k hd = true) (length : Int) (n : Nat)
    (s s' : Sub) (X rest : Bytes)
    (ht : tryAll length 12 s ⟨hd ++ X, []⟩ = (.ok (.parsed s'), ⟨rest, []⟩)) :
    recordLoop length 12 (n + 1) s ⟨hd ++ X, []⟩ = recordLoop length 12 n s' ⟨rest, []⟩ := by
  simp only [headOk, Bool.and_eq_true, decide_eq_true_eq] at h
  cases hd with
  | nil => simp at h
  | cons c hd => exact loop_step length n s s' c _ rest (by simpa using h.1.1.2) ht

theorem loop_head {k : Nat} {hd : Bytes} (h : headOk k hd = true) (length : Int) (n : Nat)
    (s s' : Sub) (X rest : Bytes) (stk' : List Bytes) (p : Sub → P (Sub × Bool))
    (hp : (fieldParsers length 12)[k]? = some p)
    (hrun : p s ⟨hd ++ X, [hd ++ X]⟩ = (.ok (s', true), ⟨rest, stk'⟩)) (hstk : stk'.drop 1 = []) :
    recordLoop length 12 (n + 1) s ⟨hd ++ X, []⟩ = recordLoop length 12 n s' ⟨rest, []⟩ :=
  loop_tried h length n s s' X rest
    (tryAll_at k length s s' (hd ++ X) rest stk' (headOk_notNames h X) p hp hrun hstk)

/-- a section `hd ++ body` under a legal head: left to show are its passes of the loop over
`hd ++ tl rest`, where `tl rest` is `body` with the line end `e`, in front of `rest` -/
theorem secOK_head {k : Nat} {hd : Bytes} (hhd : headOk k hd = true) (length : Int) (body : Bytes)
    {tl : Bytes → Bytes} (act : Sub → Sub) (iters : Nat) (hit : iters ≤ 12)
    (hc : ∀ rest, tr e body ++ rest = tl rest)
    (hloop : ∀ n s rest, startsField rest = true →
      recordLoop length 12 (n + iters) s ⟨hd ++ tl rest, []⟩ = recordLoop length 12 n (act s) ⟨rest, []⟩) :
    SecOKE e length ⟨hd ++ body, act, iters⟩ := by
  have eq : ∀ rest, tr e (hd ++ body) ++ rest = hd ++ tl rest := fun rest => by
    rw [headOk_tr e hhd, hc]
  refine ⟨fun rest => ?_, ?_, fun n s rest hrest => ?_⟩
  · show startsField (tr e (hd ++ body) ++ rest) = true
    rw [eq, headOk_starts hhd]
  · simp only [headOk, Bool.and_eq_true, decide_eq_true_eq] at hhd
    show iters ≤ (hd ++ body).length
    rw [List.length_append]; omega
  · show recordLoop length 12 (n + iters) s ⟨tr e (hd ++ body) ++ rest, []⟩ = _
    rw [eq]
    exact hloop n s rest hrest

/-- a one-pass section `hd ++ body` taken by the `k`-th sub-parser, a parser `p` on the header
fields; `tl rest` is `body` with the line end `e`, in front of `rest` -/
theorem secOK_field (length : Int) (k : Nat) (hd body : Bytes) {tl : Bytes → Bytes} {upd : Fields → Fields}
    (p : Fields → P (Fields × Bool)) (hhd : headOk k hd = true)
    (hp : (fieldParsers length 12)[k]? = some (liftF p))
    (hrun : ∀ f rest stk, (sp 12).isPrefixOf rest = false → refStop rest = true →
      p f ⟨hd ++ tl rest, stk⟩ = (.ok (upd f, true), ⟨rest, stk⟩))
    (hc : ∀ rest, tr e body ++ rest = tl rest) :
    SecOKE e length ⟨hd ++ body, fun (f, t, o, r) => (upd f, t, o, r), 1⟩ :=
  secOK_head e hhd length body _ 1 (by decide) hc fun n (f, t, o, r) rest hrest =>
    loop_head hhd length n _ _ _ rest [hd ++ tl rest] (liftF p) hp
      (by gsimp [liftF, hrun f rest _ (startsField_not_sp 12 (by omega) rest hrest) (startsField_refStop rest hrest)])
      rfl

def secDefinition (v : Bytes) : Section :=
  ⟨bs "DEFINITION  " ++ (addPrefix indent v ++ bs ".\n"), fun (f, t, o, r) => ({ f with definition := v }, t, o, r), 1⟩

theorem secDefinition_okE (length : Int) (v : Bytes) (hv : noCR v = true) : SecOKE e length (secDefinition v) :=
  secOK_field e length 0 (bs "DEFINITION  ") _ (definitionField 12) (by decide +kernel) rfl
    (fun f rest stk h12 _ => definition_roundtripE e f v rest stk hv h12)
    (fun rest => by
      rw [tr_append, List.append_assoc, show bs ".\n" = [46, 10] by decide +kernel,
        tr_cons_ne e 46 _ (by decide), tr_eol]
      rfl)

def secAccession (l : Bytes) : Section :=
  ⟨bs "ACCESSION   " ++ (l ++ [10]), fun (f, t, o, r) => ({ f with accession := l }, t, o, r), 1⟩

theorem secAccession_okE (length : Int) (l : Bytes) (hl : noEOL l = true) : SecOKE e length (secAccession l) :=
  secOK_field e length 1 (bs "ACCESSION   ") _ (accessionField 12) (by decide +kernel) rfl
    (fun f rest stk h12 _ => accession_roundtripE e f l rest stk hl h12)
    (fun rest => by rw [tr_lf_end e, tr_noLF e l (noEOL_noLF l hl), List.append_assoc])

def secVersion (l : Bytes) : Section :=
  ⟨bs "VERSION     " ++ (l ++ [10]), fun (f, t, o, r) => ({ f with version := l }, t, o, r), 1⟩

theorem secVersion_okE (length : Int) (l : Bytes) (hl : noEOL l = true) : SecOKE e length (secVersion l) :=
  secOK_field e length 2 (bs "VERSION     ") _ (versionField 12) (by decide +kernel) rfl
    (fun f rest stk h12 _ => version_roundtripE e f l rest stk hl h12)
    (fun rest => by rw [tr_lf_end e, tr_noLF e l (noEOL_noLF l hl), List.append_assoc])

def secDblink (p : Bytes × Bytes) (ps : List (Bytes × Bytes)) : Section :=
  ⟨dblinkText (p :: ps) true, fun (f, t, o, r) => ({ f with dblink := dictSetAll f.dblink (p :: ps) }, t, o, r), 1⟩

theorem secDblink_okE (length : Int) (p : Bytes × Bytes) (ps : List (Bytes × Bytes))
    (hps : ∀ q ∈ p :: ps, pairOk q = true) : SecOKE e length (secDblink p ps) := by
  obtain ⟨h1, _, _⟩ := pairOk_spec p (hps p (by simp))
  have ht := dblinkText_eq p ps []
  simp only [List.append_nil] at ht
  rw [← List.append_assoc] at ht
  unfold secDblink
  rw [ht]
  refine secOK_field e length 3 (bs "DBLINK" ++ sp 6) _ (dblinkField 12) (by decide +kernel) rfl
    (upd := fun f => { f with dblink := dictSetAll f.dblink (p :: ps) })
    (tl := fun rest => (p.1 ++ 58 :: 32 :: p.2) ++ (e.bytes ++ (dblinkMoreTextE e ps ++ rest)))
    (fun f rest stk h12 _ => ?_) (fun rest => ?_)
  · rw [List.append_assoc]
    exact dblink_okE e f p ps rest stk hps h12
  · rw [tr_append, tr_cons_lf, tr_noLF e _ (noEOL_noLF _ h1),
      tr_dblinkMoreText e ps (fun q hq => hps q (by simp [hq]))]
    simp only [List.append_assoc]

def secKeywords (kws : List Bytes) : Section :=
  ⟨bs "KEYWORDS    " ++ (addPrefix indent (wrapSpace (joinWith (bs "; ") kws ++ [46])) ++ [10]),
   fun (f, t, o, r) => ({ f with keywords := kws }, t, o, r), 1⟩

theorem secKeywords_okE (length : Int) (kws : List Bytes) (h : listOk kws = true) : SecOKE e length (secKeywords kws) :=
  secOK_field e length 4 (bs "KEYWORDS    ") _ (keywordsField 12) (by decide +kernel) rfl
    (fun f rest stk h12 _ => keywords_roundtripE e f kws rest stk h h12)
    (fun rest => by rw [tr_lf_end e, List.append_assoc])

def secSource (species name : Bytes) (taxon : List Bytes) : Section :=
  ⟨bs "SOURCE      " ++ (addPrefix indent (species) ++ 10 ::
      (bs "  ORGANISM  " ++ (addPrefix indent (name) ++ 10 ::
      (indent ++ (addPrefix indent (wrapSpace (joinWith (bs "; ") taxon ++ [46])) ++ [10]))))),
   fun (f, t, o, r) => ({ f with species := species, organism := name, taxon := taxon }, t, o, r), 1⟩

theorem secSource_okE (length : Int) (species name : Bytes) (taxon : List Bytes)
    (hs : noCR (species) = true) (hn : organismOk name = true) (ht : taxonOk taxon = true) :
    SecOKE e length (secSource species name taxon) := by
  have hn2 : noEOL name = true := by
    simp only [organismOk, Bool.and_eq_true] at hn; exact hn.1
  refine secOK_field e length 5 (bs "SOURCE      ") _ (sourceField 12) (by decide +kernel) rfl
    (fun f rest stk h12 _ => source_roundtripE e f species name taxon rest stk hs hn ht h12) (fun rest => ?_)
  rw [addPrefix_noLF _ name hn2]
  simp only [tr_append, tr_cons_lf, tr_noLF e name (noEOL_noLF name hn2), indent, tr_noLF e _ (noLF_sp 12),
    tr_nil e, tr_noLF e _ (noLF_of_all (bs "  ORGANISM  ") (by decide +kernel)),
    List.append_assoc, List.nil_append]

def secComment (v : Bytes) : Section :=
  ⟨bs "COMMENT     " ++ (addPrefix indent v ++ [10]), fun (f, t, o, r) => ({ f with comments := f.comments ++ [v] }, t, o, r), 1⟩

theorem secComment_okE (length : Int) (v : Bytes) (hv : noCR v = true) : SecOKE e length (secComment v) :=
  secOK_field e length 7 (bs "COMMENT     ") _ (commentField 12) (by decide +kernel) rfl
    (fun f rest stk h12 _ => comment_roundtripE e f v rest stk hv h12)
    (fun rest => by rw [tr_lf_end e, List.append_assoc])

def secReference (x : Reference) : Section :=
  ⟨refHead x ++ 10 :: subLinesText (presentLines x),
   fun (f, t, o, r) => ({ f with references := f.references ++ [x] }, t, o, r), 1⟩

theorem refHead_eq (x : Reference) :
    ∃ tl, refHead x = bs "REFERENCE   " ++ tl := by
  unfold refHead; split
  · exact ⟨_, rfl⟩
  · exact ⟨itoaB x.number ++ sp (3 - (itoaB x.number).length) ++ x.info, by simp [List.append_assoc]⟩

theorem refHead_noLF (x : Reference) (h : referenceOk x = true) : noLF (refHead x) := by
  simp only [referenceOk, Bool.and_eq_true] at h
  unfold refHead
  split <;>
    simp only [noLF_append_iff, noLF_itoaB, noLF_sp, noEOL_noLF _ h.1.1.1.2, and_true] <;>
    exact noLF_of_all _ (by decide +kernel)

theorem secReference_okE (length : Int) (x : Reference) (h : referenceOk x = true) : SecOKE e length (secReference x) := by
  obtain ⟨tl, htl⟩ := refHead_eq x
  have hlf := refHead_noLF x h
  unfold secReference
  rw [htl, noLF_append_iff] at hlf
  rw [htl, List.append_assoc]
  refine secOK_field e length 6 (bs "REFERENCE   ") _ (referenceField 12) (by decide +kernel) rfl
    (upd := fun f => { f with references := f.references ++ [x] })
    (tl := fun rest => tl ++ (e.bytes ++ (subLinesTextE e (presentLines x) ++ rest)))
    (fun f rest stk _ hstop => ?_) (fun rest => ?_)
  · have hr := reference_roundtripE e f x rest stk h hstop
    rwa [htl, List.append_assoc] at hr
  · rw [tr_append, tr_cons_lf, tr_noLF e _ hlf.2, tr_subLinesText]
    simp only [List.append_assoc]

def secExtra (name value : Bytes) : Section :=
  ⟨extraText name value ++ [10], fun (f, t, o, r) => ({ f with extra := f.extra ++ [(name, value)] }, t, o, r), 1⟩

/-- the padded name of an extra field is a legal head behind all eleven fields: upper case, so no
line end in it and no blank in front; twelve bytes; no field or sub-field name in front -/
theorem extra_headOk (name value : Bytes) (hw : WritableExtra name value = true)
    (hn : extraNameOk name = true) : headOk 11 (padRight 12 name) = true := by
  simp only [WritableExtra, Bool.and_eq_true, Bool.not_eq_true', List.isEmpty_eq_false_iff] at hw
  obtain ⟨⟨⟨⟨hne, hup⟩, -⟩, -⟩, -⟩ := hw
  obtain ⟨c, tl, rfl⟩ := List.exists_cons_of_ne_nil hne
  have hcu : isUpper c = true := by
    rw [List.all_cons, Bool.and_eq_true] at hup; exact hup.1
  simp only [extraNameOk, reservedNames, List.all_append, Bool.and_eq_true] at hn
  simp only [headOk, Bool.and_eq_true, decide_eq_true_eq]
  refine ⟨⟨⟨⟨?_, ?_⟩, ?_⟩, ?_⟩, hn.1⟩
  · have h : noLF (padRight 12 (c :: tl)) := noLF_append (noLF_of_class isUpper (by decide) _ hup) (noLF_sp _)
    exact List.all_eq_true.2 fun x hx => bne_iff_ne.2 (h x hx)
  · simp only [padRight, List.length_append, sp_length]; omega
  · simpa [padRight] using hcu
  · have hr := hn.2
    rw [show refNames = refAltList.map (·.1) from rfl, List.all_map] at hr
    simp only [startsField, refStop, padRight, List.cons_append, List.head?_cons, hcu, Bool.true_or, Bool.true_and,
      Bool.and_eq_true, bne_iff_ne, ne_eq, Option.some.injEq]
    exact ⟨upper_ne_blank c hcu, hr⟩

/-- an extra field is the section whose head is the padded name: all eleven sub-parsers pass it by
and `tryAll` hands it to `extraField` -/
theorem secExtra_okE (length : Int) (name value : Bytes) (hw : WritableExtra name value = true)
    (hn : extraNameOk name = true) : SecOKE e length (secExtra name value) := by
  have hhd := extra_headOk name value hw hn
  unfold secExtra
  rw [extraText, List.append_assoc]
  exact secOK_head e hhd length _ _ 1 (by decide)
    (fun rest => by rw [tr_lf_end e, List.append_assoc])
    fun n (f, t, o, r) rest hrest => loop_tried hhd length n _ _ _ rest
      (tryAll_extra e length f t o r name value rest (headOk_notNames hhd _) hw
        (startsField_not_sp 12 (by omega) rest hrest))

theorem contigText_noLF (g : Fields) (h : contigOk g = true) : noLF (contigText g) := by
  simp only [contigOk, Bool.and_eq_true, Bool.not_eq_true'] at h
  simp only [contigText, h.1.1.1, Bool.false_eq_true, if_false, noLF_append_iff, noLF_cons_iff, noLF_itoaB,
    noEOL_noLF _ h.1.1.2, noLF_nil, and_true]
  exact ⟨⟨⟨noLF_of_all _ (by decide +kernel), by decide⟩, noLF_of_all _ (by decide +kernel)⟩, by decide⟩

/-- CONTIG: the field, then its line end as an empty unknown line: two passes -/
def secContig (g : Fields) : Section :=
  ⟨bs "CONTIG      " ++ (contigText g ++ [10]),
   fun (f, t, o, r) => ({ f with contigAcc := g.contigAcc, contigHead := g.contigHead, contigTail := g.contigTail }, t, o, r), 2⟩

theorem secContig_okE (length : Int) (g : Fields) (h : contigOk g = true) : SecOKE e length (secContig g) := by
  have hhd : headOk 9 (bs "CONTIG      ") = true := by decide +kernel
  refine secOK_head e hhd length _ _ 2 (by decide)
    (tl := fun rest => contigText g ++ (e.bytes ++ rest))
    (fun rest => by rw [tr_lf_end e, tr_noLF e _ (contigText_noLF g h), List.append_assoc]) ?_
  rintro k ⟨f, t, o, r⟩ rest hrest
  obtain ⟨c, rr, hcr, _⟩ := startsField_spec rest hrest
  rw [show k + 2 = k + 1 + 1 from rfl, loop_head hhd length (k + 1) _ ((secContig g).act (f, t, o, r)) _ (e.bytes ++ rest)
    [bs "CONTIG      " ++ (contigText g ++ (e.bytes ++ rest))] (liftF (contigField 12)) rfl
    (by gsimp [liftF, contig_roundtrip f g (e.bytes ++ rest) _ h]; rfl) rfl, hcr, loop_blank e]
  rfl

theorem secOKE_lf (length : Int) (sec : Section) : SecOKE .lf length sec ↔ SecOK length sec := by
  simp only [SecOKE, SecOK, tr_lf]

theorem secDefinition_ok (length : Int) (v : Bytes) (hv : noCR v = true) : SecOK length (secDefinition v) :=
  (secOKE_lf length _).mp (secDefinition_okE .lf length v hv)

def secOrigin (p : Bytes) : Section :=
  ⟨bs "ORIGIN      \n" ++ Origin.originStream p, fun (f, t, _, r) => (f, t, .buffer (Origin.originStream p), r), 1⟩

theorem secOrigin_ok (p : Bytes) (hp : ∀ c ∈ p, Origin.isBase c = true) (hlen : p.length < 10 ^ 9) :
    SecOK (p.length : Int) (secOrigin p) := by
  have hhd : headOk 10 (bs "ORIGIN      ") = true := by decide +kernel
  have hr := fun rest st => origin_roundtrip p rest st hp hlen
  rw [← secOKE_lf, secOrigin]
  simp only [show bs "ORIGIN      \n" = bs "ORIGIN      " ++ [10] by decide +kernel, List.append_assoc,
    List.singleton_append] at hr ⊢
  refine secOK_head .lf hhd _ _ _ 1 (by decide) (fun rest => by rw [tr_lf]) ?_
  rintro k ⟨f, t, o, r⟩ rest hrest
  exact loop_head hhd _ k _ _ _ rest [] (originSub (p.length : Int) 12) rfl
    (by gsimp [originSub, hr rest _ (startsField_head rest hrest)]) rfl

/-- the ORIGIN section of any residues is taken in one pass from a file with the line end `e`; the
reader takes it by a different path for each line end -/
def OriginSec (e : Eol) : Prop :=
  ∀ p : Bytes, (∀ c ∈ p, Origin.isBase c = true) → p.length < 10 ^ 9 → p ≠ [] →
    SecOKE e (p.length : Int) (secOrigin p)

theorem originSec_lf : OriginSec .lf := fun p hp hlen _ => (secOKE_lf _ _).mpr (secOrigin_ok p hp hlen)

end Gts.GenBank
