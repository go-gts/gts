/-
  C01: closure of the writable domain under `gts.Slice` at the record level.
  `sliceRecord F s a b` = the GenBank record `gts.Slice` returns for the record with header `F`,
  table and residues `s`: header `sliceHeader` (REGION set to the window, references clipped /
  dropped / renumbered by `GenBankFields.Slice`, topology linear), table and residues `Seq.slice`
  (C03).  `Writable` is kept: field by field below.  Core Lean only.
-/
import Gts.Lemmas.GbEdit
import Gts.Lemmas.GbSliceRefInfo
import Gts.Model.GbSliceRec
namespace Gts.GenBank
open Gts.Pars

/-- **the record `gts.Slice(record, start, end)` returns** -/
def sliceRecord (F : Fields) (s : Seq) (a b : Int) : Record :=
  ofSeq (sliceHeader F s.len a b) (s.slice a b)

theorem slice_eq (s : Seq) (a b : Int) :
    s.slice a b =
      if sliceIndex s.len b < sliceIndex s.len a then
        (s.rotate (-(sliceIndex s.len a))).sliceFwd 0 (s.len - sliceIndex s.len a + sliceIndex s.len b)
      else s.sliceFwd (sliceIndex s.len a) (sliceIndex s.len b) := rfl

theorem cut_sliceFwd (s : Seq) (a b : Int) : Cut s (s.sliceFwd a b) := by
  refine ⟨fun g hg => ?_, fun c hc => List.mem_of_mem_drop (List.mem_of_mem_take hc), ?_⟩
  · exact fromTable_mono (fun f hf => (List.mem_filter.mp hf).1)
      (fromTable_mapLoc (s.feats.filter fun f => f.loc.overlap a b) _ g hg)
  · simp only [Seq.sliceFwd, List.length_take, List.length_drop]
    omega

/-- a backward window is a forward window of the rotated record -/
theorem cut_slice (s : Seq) (a b : Int) : Cut s (s.slice a b) := by
  rw [slice_eq]
  split
  · exact (cut_rotate s _).trans (cut_sliceFwd _ _ _)
  · exact cut_sliceFwd s _ _

theorem slice_fromTable (s : Seq) (a b : Int) : ∀ g ∈ (s.slice a b).feats, FromTable s.feats g :=
  (cut_slice s a b).feats

theorem rotate_bytes (s : Seq) (n : Int) :
    (∀ c ∈ (s.rotate n).bytes, c ∈ s.bytes) ∧ (s.rotate n).bytes.length = s.bytes.length :=
  ⟨(cut_rotate s n).mem, s.rotate_bytes_length n⟩

theorem slice_bytes (s : Seq) (a b : Int) :
    (∀ c ∈ (s.slice a b).bytes, c ∈ s.bytes) ∧ (s.slice a b).bytes.length ≤ s.bytes.length :=
  ⟨(cut_slice s a b).mem, (cut_slice s a b).len⟩

/-- the info does not start with a digit (the clause of `referenceOk` for numbers of three or more
digits, which are written without a blank in front of the info) -/
def infoNoDigit (i : Bytes) : Bool := match i with | [] => true | c :: _ => !isDigit c

/-- **guard of the closure theorem**: at most 99 references (every new number `1..m` then has fewer
than three digits), or no info starts with a digit (and the count fits Go's `int`).  Without it a
reference that moves to a number of three or more digits with an info like `5 x` is written
`REFERENCE   1005 x` (`writable_slice_full_refuted`). -/
def renumberOk (refs : List Reference) : Bool :=
  decide (refs.length ≤ 99) ||
    (decide (refs.length ≤ 9223372036854775807) && refs.all fun r => infoNoDigit r.info)

theorem counterWord_noEOL (m : Bytes) : noEOL (counterWord m) = true := by
  unfold counterWord
  split <;> decide

theorem natDigits_short : ∀ m : Fin 100, (natDigits m.1).length < 3 := by decide +kernel

theorem itoaB_short (n : Nat) (h : n + 1 ≤ 99) : (itoaB ((n : Int) + 1)).length < 3 := by
  have e : (n : Int) + 1 = ((n + 1 : Nat) : Int) := by omega
  have hneg : ¬ (((n + 1 : Nat) : Int) < 0) := by omega
  rw [e, itoaB, if_neg hneg, Int.natAbs_natCast]
  exact natDigits_short ⟨n + 1, by omega⟩

theorem sliceRefInfo_line (pref : Bytes) (a b : Int) (info i : Bytes) (hp : noEOL pref = true)
    (hi : noEOL info = true) (h : sliceRefInfo pref a b info = some i) :
    noEOL i = true ∧ (infoNoDigit info = true → infoNoDigit i = true) := by
  rw [GbSliceRef.sliceRefInfo_eq] at h
  split at h
  · cases h; exact ⟨hi, id⟩
  · split at h
    · cases h
    · cases h
      obtain ⟨t, ht⟩ := GbSliceRef.fmtRanges_head pref (GbSliceRef.sliceRanges a b ‹_›)
      exact ⟨GbSliceRef.fmtRanges_noEOL pref _ hp, fun _ => by rw [ht]; rfl⟩

theorem referenceOk_renum (r : Reference) (i : Bytes) (n : Nat) (hr : referenceOk r = true)
    (hi : noEOL i = true) (hn : n + 1 ≤ 9223372036854775807) (hd : n + 1 ≤ 99 ∨ infoNoDigit i = true) :
    referenceOk { r with info := i, number := (n : Int) + 1 } = true := by
  simp only [referenceOk, Bool.and_eq_true, Bool.or_eq_true, decide_eq_true_eq] at hr ⊢
  obtain ⟨⟨⟨⟨_, _⟩, _⟩, hpm⟩, hsub⟩ := hr
  refine ⟨⟨⟨⟨⟨by omega, by omega⟩, hi⟩, ?_⟩, hpm⟩, hsub⟩
  rcases hd with hd | hd
  · exact Or.inl (itoaB_short n hd)
  · right
    unfold infoNoDigit at hd
    exact hd

theorem mem_renumberRefs (rs : List Reference) (x : Reference) (hx : x ∈ renumberRefs rs) :
    ∃ r ∈ rs, ∃ k : Nat, k < rs.length ∧ x = { r with number := (k : Int) + 1 } := by
  simp only [renumberRefs, List.mem_map] at hx
  obtain ⟨⟨r, k⟩, hm, rfl⟩ := hx
  have := List.mem_zipIdx hm
  simp only [Nat.zero_add] at this
  exact ⟨r, by rw [this.2.2]; exact List.getElem_mem _, k, by omega, rfl⟩

theorem sliceReferences_ok (pref : Bytes) (a b : Int) (refs : List Reference) (hp : noEOL pref = true)
    (hall : ∀ r ∈ refs, referenceOk r = true) (hg : renumberOk refs = true) :
    ∀ x ∈ sliceReferences pref a b refs, referenceOk x = true := by
  intro x hx
  unfold sliceReferences at hx
  obtain ⟨r, hr, k, hk, rfl⟩ := mem_renumberRefs _ x hx
  obtain ⟨r0, hr0, hopt⟩ := List.mem_filterMap.mp hr
  cases hsl : sliceRefInfo pref a b r0.info with
  | none => rw [hsl] at hopt; simp at hopt
  | some i =>
    rw [hsl] at hopt
    simp only [Option.map_some, Option.some.injEq] at hopt
    subst hopt
    have h0 := hall r0 hr0
    have hinfo : noEOL r0.info = true := by
      simp only [referenceOk, Bool.and_eq_true] at h0
      exact h0.1.1.1.2
    obtain ⟨hline, hdig⟩ := sliceRefInfo_line pref a b r0.info i hp hinfo hsl
    have hlen : (refs.filterMap fun r => (sliceRefInfo pref a b r.info).map fun i => { r with info := i }).length
        ≤ refs.length := List.length_filterMap_le _ _
    simp only [renumberOk, Bool.or_eq_true, Bool.and_eq_true, decide_eq_true_eq, List.all_eq_true] at hg
    have hk' : k < refs.length := by omega
    refine referenceOk_renum r0 i k h0 hline ?_ ?_
    · rcases hg with hg | hg
      · omega
      · omega
    · rcases hg with hg | hg
      · left; omega
      · right; exact hdig (hg.2 r0 hr0)

theorem accessionLine_sliceHeader (F : Fields) (L a b : Int) :
    accessionLine (sliceHeader F L a b) =
      F.accession ++
        (if (sliceWindow L a b).2 ≤ (sliceWindow L a b).1 then []
         else bs " REGION: " ++ itoaB ((sliceWindow L a b).1 + 1) ++ bs ".." ++ itoaB (sliceWindow L a b).2) := rfl

theorem accessionLine_prefix (F : Fields) : ∃ t, accessionLine F = F.accession ++ t := ⟨_, rfl⟩

theorem accessionLine_sliceHeader_noEOL (F : Fields) (L a b : Int) (h : noEOL (accessionLine F) = true) :
    noEOL (accessionLine (sliceHeader F L a b)) = true := by
  obtain ⟨t, ht⟩ := accessionLine_prefix F
  rw [ht, noEOL_append, Bool.and_eq_true] at h
  rw [accessionLine_sliceHeader, noEOL_append, h.1, Bool.true_and]
  split
  · rfl
  · rw [noEOL_append, noEOL_append, noEOL_append, GbSliceRef.itoaB_noEOL,
      GbSliceRef.itoaB_noEOL]
    decide

theorem headerOk_sliceHeader (F : Fields) (L a b : Int) (h : headerOk F = true)
    (hg : renumberOk F.references = true) : headerOk (sliceHeader F L a b) = true := by
  simp only [headerOk, Bool.and_eq_true] at h ⊢
  obtain ⟨⟨⟨⟨⟨⟨⟨⟨⟨⟨⟨hdef, hacc⟩, hver⟩, hdb⟩, hdk⟩, hkw⟩, hsp⟩, horg⟩, htax⟩, href⟩, hcom⟩, hext⟩ := h
  refine ⟨⟨⟨⟨⟨⟨⟨⟨⟨⟨⟨hdef, accessionLine_sliceHeader_noEOL F L a b hacc⟩, hver⟩, hdb⟩, hdk⟩, hkw⟩, hsp⟩, horg⟩, htax⟩,
    ?_⟩, hcom⟩, hext⟩
  rw [List.all_eq_true] at href ⊢
  exact sliceReferences_ok _ _ _ _ (counterWord_noEOL _) href hg

theorem writable_sliceHeader (reg : Registry) (F : Fields) (t : List QFeature) (o : OriginV) (p : Bytes)
    (L a b : Int) (hw : Writable reg ⟨F, t, o⟩ p = true) (hg : renumberOk F.references = true) :
    Writable reg ⟨sliceHeader F L a b, t, o⟩ p = true := by
  obtain ⟨hlocus, hrange, hmol, hh, htw, hc, hp, hlen⟩ := writable_parts reg ⟨F, t, o⟩ p hw
  simp only at hlocus hrange hmol hh htw hc
  have hlocus' : locusOk (sliceHeader F L a b) (locusLength F p) = true := by
    simp only [locusOk, Bool.and_eq_true] at hlocus ⊢
    obtain ⟨⟨⟨⟨⟨h1, h2⟩, _⟩, h4⟩, h5⟩, h6⟩ := hlocus
    exact ⟨⟨⟨⟨⟨h1, h2⟩, rfl⟩, h4⟩, h5⟩, h6⟩
  exact writable_intro reg ⟨sliceHeader F L a b, t, o⟩ p hlocus' hrange hmol (headerOk_sliceHeader F L a b hh hg) htw hc hp hlen

theorem writable_sliceRecord (reg : Registry) (F : Fields) (s : Seq) (a b : Int)
    (hw : Writable reg (ofSeq F s) s.bytes = true) (hg : renumberOk F.references = true)
    (hne : 0 < (s.slice a b).bytes.length ∨ F.contigAcc.isEmpty = true) :
    Writable reg (sliceRecord F s a b) (s.slice a b).bytes = true :=
  writable_sliceHeader reg F _ _ _ s.len a b (writable_cut reg F (cut_slice s a b) hw (.inr hne)) hg

end Gts.GenBank
