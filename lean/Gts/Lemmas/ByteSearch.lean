/-
  What the byte searches of the reader model compute: `findSub` (`bytes.Index`), `indexOf` (`strings.IndexByte`),
  `Pars.indexWhere` (the scan of `pars.Until(filter)`), `scanQ` (the scan of `pars.Quoted`).
  `findSub_spec` is the characterisation of `findSub` (the first occurrence, or none); `indexOf` and `indexWhere` are
  core's `List.findIdx?`.
-/
import Gts.Model.InsdcParse
namespace Gts.GenBank
open Gts.Pars

theorem findSub_shift (pat : Bytes) : ∀ (t : Bytes) (i : Nat),
    findSub pat t i = (findSub pat t 0).map (· + i)
  | [], i => by
    simp only [findSub]
    split <;> simp
  | c :: t, i => by
    simp only [findSub]
    split
    · simp
    · rw [findSub_shift pat t (i + 1), findSub_shift pat t 1]
      cases findSub pat t 0 with
      | none => rfl
      | some k => simp only [Option.map_some]; congr 1; omega

/-- WHAT `bytes.Index` COMPUTES: `some k` iff `k` is the first position at which `sep` occurs; `none`
iff it occurs nowhere (positions `0 … len(s)`, so that an empty `sep` is found at 0) -/
theorem findSub_spec (pat : Bytes) : ∀ (t : Bytes),
    (∃ k, findSub pat t 0 = some k ∧ k ≤ t.length ∧ pat <+: t.drop k ∧ ∀ j, j < k → ¬ pat <+: t.drop j) ∨
    (findSub pat t 0 = none ∧ ∀ j, j ≤ t.length → ¬ pat <+: t.drop j)
  | [] => by
    simp only [findSub]
    by_cases he : pat.isEmpty = true
    · left
      refine ⟨0, by rw [if_pos he], Nat.le_refl _, ?_, fun j hj => absurd hj (Nat.not_lt_zero j)⟩
      have : pat = [] := by simpa using he
      subst this; exact List.nil_prefix
    · right
      refine ⟨by rw [if_neg he], fun j _ hp => he ?_⟩
      have : pat = [] := by simpa using hp
      simp [this]
  | c :: t => by
    simp only [findSub]
    by_cases hp : pat.isPrefixOf (c :: t) = true
    · left
      exact ⟨0, by rw [if_pos hp], Nat.zero_le _, by simpa using List.isPrefixOf_iff_prefix.mp hp,
        fun j hj => absurd hj (Nat.not_lt_zero j)⟩
    · rw [if_neg hp, findSub_shift pat t 1]
      have hnp : ¬ pat <+: c :: t := fun h => hp (List.isPrefixOf_iff_prefix.mpr h)
      rcases findSub_spec pat t with ⟨k, hk, hle, hpre, hmin⟩ | ⟨hn, hall⟩
      · left
        refine ⟨k + 1, by rw [hk]; rfl, by simp only [List.length_cons]; omega, by simpa using hpre, ?_⟩
        intro j hj
        cases j with
        | zero => simpa using hnp
        | succ j => simpa using hmin j (by omega)
      · right
        refine ⟨by rw [hn]; rfl, ?_⟩
        intro j hj
        cases j with
        | zero => simpa using hnp
        | succ j => simpa using hall j (by simp only [List.length_cons] at hj; omega)

theorem findSub_bound (pat : Bytes) : ∀ (t : Bytes) (i k : Nat), findSub pat t i = some k →
    i ≤ k ∧ (k - i) + pat.length ≤ t.length := by
  intro t i k h
  rw [findSub_shift] at h
  rcases findSub_spec pat t with ⟨k', hk, hle, hpre, _⟩ | ⟨hn, _⟩
  · rw [hk, Option.map_some, Option.some.injEq] at h
    have := hpre.length_le
    rw [List.length_drop] at this
    omega
  · rw [hn] at h; cases h

theorem findSub_skip (pat a Y : Bytes) (n : Nat)
    (h : ∀ i, i < a.length → pat.isPrefixOf (a.drop i ++ Y) = false) :
    findSub pat (a ++ Y) n = findSub pat Y (n + a.length) := by
  induction a generalizing n with
  | nil => simp
  | cons c a ih =>
    have h0 := h 0 (by simp)
    simp only [List.drop_zero] at h0
    have h' : ∀ i, i < a.length → pat.isPrefixOf (a.drop i ++ Y) = false := by
      intro i hi
      have := h (i + 1) (by simp only [List.length_cons]; omega)
      simpa using this
    simp only [List.cons_append] at h0 ⊢
    rw [findSub, h0]
    simp only [Bool.false_eq_true, if_false]
    rw [ih (n + 1) h', List.length_cons]; congr 1; omega

theorem findSub_here (pat X : Bytes) (n : Nat) (hne : pat ≠ []) : findSub pat (pat ++ X) n = some n := by
  cases pat with
  | nil => exact absurd rfl hne
  | cons p ps =>
    simp only [List.cons_append, findSub]
    have : (p :: ps).isPrefixOf (p :: ps ++ X) = true := List.isPrefixOf_iff_prefix.mpr (List.prefix_append _ _)
    simp only [List.cons_append] at this
    simp [this]

theorem findSub_none (pat a : Bytes) (n : Nat) (hne : pat ≠ [])
    (h : ∀ i, i < a.length → pat.isPrefixOf (a.drop i) = false) : findSub pat a n = none := by
  have := findSub_skip pat a [] n (by simpa using h)
  simp only [List.append_nil] at this
  rw [this]
  cases pat with
  | nil => exact absurd rfl hne
  | cons p ps => simp [findSub]

theorem findSub_none_of_not_infix (pat t : Bytes) (n : Nat) (h : ¬ pat <:+: t) : findSub pat t n = none :=
  findSub_none pat t n (by rintro rfl; exact h (List.nil_infix))
    fun i _ => Bool.eq_false_iff.mpr fun hp =>
      h ((List.isPrefixOf_iff_prefix.mp hp).isInfix.trans (List.drop_suffix i t).isInfix)

theorem indexOf_eq_findIdx? (c : UInt8) : ∀ (s : Bytes), indexOf c s = s.findIdx? (· == c)
  | [] => rfl
  | x :: xs => by
    simp only [indexOf, List.findIdx?_cons, indexOf_eq_findIdx? c xs]
    by_cases h : x = c <;> simp [h]

theorem indexOf_bound (c : UInt8) : ∀ (s : Bytes) (i : Nat), indexOf c s = some i → i < s.length := by
  intro s i h
  rw [indexOf_eq_findIdx?] at h
  exact (List.findIdx?_eq_some_iff_getElem.mp h).1

theorem indexOf_append_at (k r : Bytes) (c : UInt8) (h : ∀ x ∈ k, x ≠ c) : indexOf c (k ++ c :: r) = some k.length := by
  induction k with
  | nil => simp [indexOf]
  | cons x k ih =>
    have hx : x ≠ c := h x (by simp)
    simp only [List.cons_append, indexOf, hx, if_false, ih (fun y hy => h y (by simp [hy]))]
    simp

theorem scanQ_lt : ∀ (e : Bool) (r : Bytes) (k k' : Nat), scanQ e r k = some k' →
    k' < k + r.length
  | _, [], _, _, h => by simp [scanQ] at h
  | true, _ :: r, k, k', h => by
    rw [scanQ] at h
    have := scanQ_lt false r (k + 1) k' h
    simp only [List.length_cons]; omega
  | false, x :: r, k, k', h => by
    rw [scanQ] at h
    simp only [List.length_cons]
    split at h
    · cases h; omega
    · split at h
      · have := scanQ_lt true r (k + 1) k' h; omega
      · have := scanQ_lt false r (k + 1) k' h; omega

end Gts.GenBank

namespace Gts.Pars

theorem indexWhere_eq_findIdx? (f : UInt8 → Bool) : ∀ l : Bytes, indexWhere f l = l.findIdx? f
  | [] => rfl
  | x :: xs => by simp only [indexWhere, List.findIdx?_cons, indexWhere_eq_findIdx? f xs]

theorem indexWhere_le (f : UInt8 → Bool) (l : Bytes) (i : Nat) (h : indexWhere f l = some i) : i < l.length := by
  rw [indexWhere_eq_findIdx?] at h
  exact (List.findIdx?_eq_some_iff_getElem.mp h).1

theorem indexWhere_split (f : UInt8 → Bool) (l : Bytes) (i : Nat) (h : indexWhere f l = some i) :
    i ≤ l.length ∧ ∀ x ∈ l.take i, f x = false := by
  rw [indexWhere_eq_findIdx?] at h
  obtain ⟨hi, _, hlt⟩ := List.findIdx?_eq_some_iff_getElem.mp h
  refine ⟨Nat.le_of_lt hi, fun x hx => ?_⟩
  obtain ⟨j, hj, rfl⟩ := List.getElem_of_mem hx
  rw [List.length_take] at hj
  have := hlt j (by omega)
  simpa [List.getElem_take] using this

theorem indexWhere_none (f : UInt8 → Bool) (l : Bytes) (h : indexWhere f l = none) : ∀ x ∈ l, f x = false := by
  rw [indexWhere_eq_findIdx?, List.findIdx?_eq_none_iff] at h
  exact fun x hx => by simpa using h x hx

theorem indexWhere_append_at (f : UInt8 → Bool) (k r : Bytes) (c : UInt8) (h : ∀ x ∈ k, f x = false)
    (hc : f c = true) : indexWhere f (k ++ c :: r) = some k.length := by
  induction k with
  | nil => simp [indexWhere, hc]
  | cons x k ih =>
    have hx : f x = false := h x (by simp)
    simp only [List.cons_append, indexWhere, hx, Bool.false_eq_true, if_false,
      ih (fun y hy => h y (by simp [hy]))]
    simp

end Gts.Pars
