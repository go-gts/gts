/-
  C01 helper lemmas: the qualifier lines of one feature (`pars.Many(QualifierParser)`), with the
  registry threaded through: names learned on the way do not change how the rest of the text
  (written under the initial registry) is read.
-/
import Gts.Lemmas.GbQualifier
namespace Gts.GenBank
open Gts.Pars

/-- letters, digits and `_` lie above the blank; white space does not -/
theorem snake_not_space (c : UInt8) : isSnake c = true → isSpace c = false := by
  simp only [isSnake, isUpper, isLower, isDigit, isSpace, Bool.or_eq_true, Bool.and_eq_true, decide_eq_true_eq,
    beq_iff_eq, Bool.or_eq_false_iff, beq_eq_false_iff_ne, ne_eq, ← UInt8.toNat_inj, UInt8.le_iff_toNat_le,
    UInt8.toNat_ofNat]
  omega

theorem snake_ne_blank (c : UInt8) (h : isSnake c = true) : c ≠ 32 := by
  rintro rfl
  exact absurd (snake_not_space _ h) (by decide)

/-- `b` is `a` with some of `a`'s unknown names registered as quoted: both write every qualifier
the same way -/
def sameText (a b : Registry) : Prop :=
  ∀ m, b.typeOf m = a.typeOf m ∨ (a.typeOf m = .unknown ∧ b.typeOf m = .quoted)

theorem sameText_refl (a : Registry) : sameText a a := fun _ => Or.inl rfl

theorem typeOf_addQuoted (reg : Registry) (n m : Bytes) :
    (reg.addQuoted n).typeOf m = if m = n then .quoted else reg.typeOf m := by
  unfold Registry.typeOf Registry.addQuoted
  by_cases h : m = n
  · simp [h]
  · simp [h]

theorem sameText_learn (a b : Registry) (n : Bytes) (h : sameText a b) : sameText a (learn b n) := by
  intro m
  unfold learn
  by_cases hu : b.typeOf n = .unknown
  · rw [if_pos hu, typeOf_addQuoted]
    by_cases hm : m = n
    · subst hm
      rw [if_pos rfl]
      rcases h m with h1 | ⟨_, h2⟩
      · right; exact ⟨by rw [← h1, hu], rfl⟩
      · rw [hu] at h2; cases h2
    · rw [if_neg hm]; exact h m
  · rw [if_neg hu]; exact h m

theorem qualifierText_same (a b : Registry) (h : sameText a b) (n v : Bytes) :
    qualifierText b n v = qualifierText a n v := by
  unfold qualifierText
  rcases h n with h1 | ⟨h1, h2⟩
  · rw [h1]
  · rw [h1, h2]

theorem qualifierFmt_same (a b : Registry) (h : sameText a b) (pre n v : Bytes) :
    qualifierFmt b pre n v = qualifierFmt a pre n v := by
  unfold qualifierFmt; rw [qualifierText_same a b h]

theorem writable_same (a b : Registry) (h : sameText a b) (d : Nat) (n v : Bytes) :
    WritableQualifier b d n v = WritableQualifier a d n v := by
  unfold WritableQualifier
  rcases h n with h1 | ⟨h1, h2⟩
  · rw [h1]
  · rw [h1, h2]

theorem readValue_same (a b : Registry) (h : sameText a b) (n v : Bytes) :
    readValue b n v = readValue a n v := by
  unfold readValue
  rcases h n with h1 | ⟨h1, h2⟩
  · rw [h1]
  · rw [h1, h2]; simp

/-- the qualifier lines of a feature as they stand in the file -/
def qualLines (reg : Registry) (d : Nat) (items : List (Bytes × Bytes)) : Bytes :=
  items.flatMap fun kv => qualifierFmt reg (sp d) kv.1 kv.2 ++ [10]

theorem qualLines_cons (reg : Registry) (d : Nat) (kv : Bytes × Bytes) (items : List (Bytes × Bytes)) :
    qualLines reg d (kv :: items) = qualifierFmt reg (sp d) kv.1 kv.2 ++ 10 :: qualLines reg d items := by
  simp [qualLines, List.flatMap_cons]

/-- every registry step of reading the items -/
def learnAll (reg : Registry) (items : List (Bytes × Bytes)) : Registry :=
  items.foldl (fun r kv => learn r kv.1) reg

theorem sameText_learnAll (a b : Registry) (items : List (Bytes × Bytes)) (h : sameText a b) :
    sameText a (learnAll b items) := by
  induction items generalizing b with
  | nil => exact h
  | cons kv items ih => exact ih (learn b kv.1) (sameText_learn a b kv.1 h)

theorem le_trans' {a b c : Registry} (h1 : a.le b) (h2 : b.le c) : a.le c :=
  ⟨fun n hn => h2.1 n (h1.1 n hn), fun n hn => h2.2.1 n (h1.2.1 n hn), fun n hn => h2.2.2 n (h1.2.2 n hn)⟩

theorem le_refl' (a : Registry) : a.le a := ⟨fun _ h => h, fun _ h => h, fun _ h => h⟩

theorem learnAll_le (reg : Registry) (items : List (Bytes × Bytes)) : reg.le (learnAll reg items) := by
  induction items generalizing reg with
  | nil => exact le_refl' reg
  | cons kv items ih => exact le_trans' (learn_le reg kv.1) (ih (learn reg kv.1))

/-- the qualifier lines of a feature as they stand in a file with the line end `e` -/
def qualLinesE (e : Eol) (reg : Registry) (d : Nat) (items : List (Bytes × Bytes)) : Bytes :=
  items.flatMap fun kv => tr e (qualifierFmt reg (sp d) kv.1 kv.2) ++ e.bytes

theorem qualLinesE_cons (e : Eol) (reg : Registry) (d : Nat) (kv : Bytes × Bytes) (items : List (Bytes × Bytes)) :
    qualLinesE e reg d (kv :: items) =
      tr e (qualifierFmt reg (sp d) kv.1 kv.2) ++ (e.bytes ++ qualLinesE e reg d items) := by
  simp [qualLinesE, List.flatMap_cons]

theorem tr_qualLines (e : Eol) (reg : Registry) (d : Nat) (items : List (Bytes × Bytes)) :
    tr e (qualLines reg d items) = qualLinesE e reg d items :=
  tr_flatMap e _ _ items fun _ _ => tr_lf_end e _

theorem qualLinesE_length_ge (e : Eol) (reg : Registry) (d : Nat) (items : List (Bytes × Bytes)) :
    items.length ≤ (qualLinesE e reg d items).length := by
  induction items with
  | nil => simp [qualLinesE]
  | cons kv items ih =>
    have := e.bytes_pos
    rw [qualLinesE_cons]; simp only [List.length_append, List.length_cons]; omega

/-- the next qualifier line starts with the indent and a slash: a literal value stops there -/
theorem litStop_qualLines (e : Eol) (reg : Registry) (d : Nat) (kv : Bytes × Bytes) (items : List (Bytes × Bytes))
    (rest : Bytes) : litStop d (qualLinesE e reg d (kv :: items) ++ rest) := by
  right; right
  have h47 : (47 : UInt8) ≠ 10 := by decide
  rw [qualLinesE_cons, qualifierFmt, qualifierText_eq]
  simp only [addPrefix, h47, if_false, tr_append, tr_noLF e _ (noLF_sp d), tr_cons_ne e 47 _ h47, List.append_assoc,
    List.cons_append]
  exact ⟨_, rfl⟩

theorem sp_slash_prefix_false (d : Nat) (rest : Bytes) (h : (sp d).isPrefixOf rest = false) :
    (sp d ++ [47]).isPrefixOf rest = false := by
  rw [← Bool.not_eq_true, List.isPrefixOf_iff_prefix] at h ⊢
  exact fun hb => h ((List.prefix_append _ _).trans hb)

theorem trValue_same (e : Eol) (a b : Registry) (h : sameText a b) (n v : Bytes) :
    trValue e b n v = trValue e a n v := by
  unfold trValue
  rcases h n with h1 | ⟨h1, h2⟩
  · rw [h1]
  · rw [h1, h2]

theorem qualifiers_roundtripE (e : Eol) (reg0 : Registry) (d : Nat) (items : List (Bytes × Bytes)) (rest : Bytes)
    (stk : List Bytes) (reg : Registry) (acc : List (Bytes × Bytes)) (f : Nat)
    (hs : sameText reg0 reg)
    (hw : ∀ kv ∈ items, WritableQualifier reg0 d kv.1 kv.2 = true)
    (hrest : (sp d).isPrefixOf rest = false) (hf : items.length < f) :
    qualifiers (sp d) f reg acc ⟨qualLinesE e reg0 d items ++ rest, stk⟩ =
      (.ok (acc.reverse ++ items.map (fun kv => (kv.1, readValue reg0 kv.1 (trValue e reg0 kv.1 kv.2))),
        learnAll reg items), ⟨rest, stk⟩) := by
  induction items generalizing reg acc f with
  | nil =>
    cases f with
    | zero => omega
    | succ f =>
      have hl := lit_fail (sp d ++ [47]) rest stk (sp_slash_prefix_false d rest hrest)
      gsimp [qualifiers, qualLinesE, qualifier, qualifierName, hl, learnAll]
  | cons kv items ih =>
    cases f with
    | zero => omega
    | succ f =>
      have hw1 : WritableQualifier reg d kv.1 kv.2 = true := by
        rw [writable_same reg0 reg hs]; exact hw kv (by simp)
      have hstop : litStop d (qualLinesE e reg0 d items ++ rest) := by
        cases items with
        | nil => left; simpa [qualLinesE] using hrest
        | cons kv' items' => exact litStop_qualLines e reg0 d kv' items' rest
      have hq := qualifier_roundtripE e reg d kv.1 kv.2 (qualLinesE e reg0 d items ++ rest) stk hw1 hstop
      rw [qualifierFmt_same reg0 reg hs, readValue_same reg0 reg hs, trValue_same e reg0 reg hs] at hq
      rw [qualLinesE_cons]
      simp only [List.append_assoc]
      simp only [qualifiers, P.bind_run, attempt_run, hq]
      rw [ih (learn reg kv.1) ((kv.1, readValue reg0 kv.1 (trValue e reg0 kv.1 kv.2)) :: acc) f
        (sameText_learn reg0 reg kv.1 hs)
        (fun x hx => hw x (by simp [hx])) (by simp only [List.length_cons] at hf; omega)]
      simp [learnAll]

end Gts.GenBank
