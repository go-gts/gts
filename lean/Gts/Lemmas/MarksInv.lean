/-
  insert;delete and embed;delete restore the outer partial markers: after `Shift(i, n)` /
  `Expand(i, n)` (`n > 0`) no leaf has an outer end inside the span `[i, i+n)` that the deletion
  removes (`leafAvoid`, a merge-stable leaf invariant), so the deletion leaves every marker as it is.
-/
import Gts.Lemmas.MarksDel
import Gts.Lemmas.MarksOps
import Gts.Lemmas.Leafwise
namespace Gts
namespace Loc

/-- no outer end of the leaf is cut by deleting `[i, i+n)`: its first residue is not removed and
neither is its last one -/
def leafAvoid (i n : Int) : Loc → Bool
  | point p => !(decide (i ≤ p ∧ p < i + n))
  | ranged s e _ _ => !(decide (i ≤ s ∧ s < i + n)) && !(decide (i < e ∧ e ≤ i + n))
  | ambiguous s e => !(decide (i ≤ s ∧ s < i + n)) && !(decide (i < e ∧ e ≤ i + n))
  | _ => true

theorem mergeOK_leafAvoid (i n : Int) : MergeOK (leafAvoid i n) := by
  intro vs ve ue v5 v3 u5 u3 h1 h2
  simp only [leafAvoid, Bool.and_eq_true, Bool.not_eq_true', decide_eq_false_iff_not] at *
  exact ⟨h1.1, h2.2⟩

mutual
theorem delMarks_of_avoid (i n : Int) (hn : 0 < n) : ∀ (l : Loc), wf l = true →
    allLeaves (leafAvoid i n) l = true → delMarks i n l = marks l
  | between p, _, _ => by simp
  | point p, _, h => by
      simp only [allLeaves_point, leafAvoid, Bool.not_eq_true', decide_eq_false_iff_not] at h
      simp [h]
  | ranged s e .., hw, h | ambiguous s e, hw, h => by
      have hse : s < e := of_decide_eq_true hw
      simp only [allLeaves_ranged, allLeaves_ambiguous, leafAvoid, Bool.and_eq_true, Bool.not_eq_true',
        decide_eq_false_iff_not] at h
      have hne : delStart s i n ≠ delEnd e i n := by
        unfold delStart delEnd; split <;> split <;> omega
      simp [hne, h.1, h.2, hse]
  | joined ls, hw, h | ordered ls, hw, h =>
      delMarksList_of_avoid i n hn ls hw h
  | compl l, hw, h => by
      rw [delMarks_compl, marks_compl, delMarks_of_avoid i n hn l hw h]
theorem delMarksList_of_avoid (i n : Int) (hn : 0 < n) : ∀ (ls : List Loc), wfList ls = true →
    allLeavesList (leafAvoid i n) ls = true → delMarksList i n ls = marksList ls
  | [], _, _ => by simp
  | l :: ls, hw, h => by
      obtain ⟨hw1, hw2⟩ := Bool.and_eq_true_iff.mp hw
      obtain ⟨h1, h2⟩ := Bool.and_eq_true_iff.mp h
      rw [delMarksList_cons, marksList_cons, delMarks_of_avoid i n hn l hw1 h1,
        delMarksList_of_avoid i n hn ls hw2 h2]
end

theorem avoid_pointExpand_ins (p i n : Int) (hn : 0 < n) :
    allLeaves (leafAvoid i n) (pointExpand p i n) = true := by
  unfold pointExpand
  rw [if_neg (by omega)]
  simp only [gmax_eq_max, allLeaves_point, leafAvoid, Bool.not_eq_true', decide_eq_false_iff_not]
  split <;> omega

theorem avoid_rangedShift_ins (s e : Int) (a b : Bool) (i n : Int) (hn : 0 < n) :
    allLeaves (leafAvoid i n) (rangedShift s e a b i n) = true := by
  rw [rangedShift_ins s e a b i n (Int.le_of_lt hn)]
  split <;>
    simp only [allLeaves_joined, allLeavesList_cons, allLeavesList_nil, allLeaves_ranged, leafAvoid,
      Bool.and_true, Bool.and_eq_true, Bool.not_eq_true', decide_eq_false_iff_not] <;> omega

theorem avoid_ambiguousShift_ins (s e i n : Int) (hn : 0 < n) :
    allLeaves (leafAvoid i n) (ambiguousShift s e i n) = true := by
  rw [ambiguousShift_ins s e i n (Int.le_of_lt hn)]
  split <;>
    simp only [allLeaves_ordered, allLeavesList_cons, allLeavesList_nil, allLeaves_ambiguous, leafAvoid,
      Bool.and_true, Bool.and_eq_true, Bool.not_eq_true', decide_eq_false_iff_not] <;> omega

theorem avoid_rangedExpand_ins (s e : Int) (a b : Bool) (i n : Int) (h : s < e) (hn : 0 < n) :
    allLeaves (leafAvoid i n) (rangedExpand s e a b i n) = true := by
  rw [rangedExpand_ins_eq s e a b i n h hn]
  simp only [allLeaves_ranged, leafAvoid, Bool.and_eq_true, Bool.not_eq_true', decide_eq_false_iff_not]
  split <;> split <;> omega

theorem avoid_ambiguousExpand_ins (s e i n : Int) (h : s < e) (hn : 0 < n) :
    allLeaves (leafAvoid i n) (ambiguousExpand s e i n) = true := by
  rw [ambiguousExpand_ins_eq s e i n h hn]
  simp only [allLeaves_ambiguous, leafAvoid, Bool.and_eq_true, Bool.not_eq_true', decide_eq_false_iff_not]
  split <;> split <;> omega

theorem shift_avoid_leaf (i n : Int) (hn : 0 < n) (u : Loc) (hu : isContig u = true) :
    allLeaves (leafAvoid i n) (shift u i n) = true :=
  match u, hu with
  | between p, _ => by simp [shift, betweenExpand, leafAvoid]
  | point p, _ => avoid_pointExpand_ins p i n hn
  | ranged s e a b, _ => avoid_rangedShift_ins s e a b i n hn
  | ambiguous s e, _ => avoid_ambiguousShift_ins s e i n hn

theorem shift_avoid (i n : Int) (hn : 0 < n) (l : Loc) :
    allLeaves (leafAvoid i n) (shift l i n) = true := by
  rw [(shift_eq_tmap i n l).1]
  exact tmap_leaves (mergeOK_leafAvoid i n) (fun u hu _ => shift_avoid_leaf i n hn u hu) l (allLeaves_true l)

theorem shiftList_avoid (i n : Int) (hn : 0 < n) : ∀ (ls : List Loc), wfList ls = true →
    allLeavesList (leafAvoid i n) (shiftList ls i n) = true := by
  intro ls _
  rw [(shiftList_eq_tmap i n ls).1]
  exact tmapList_leaves (rev := false) (mergeOK_leafAvoid i n) (fun u hu _ => shift_avoid_leaf i n hn u hu) ls
    (allLeavesList_true ls)

theorem expand_avoid_leaf (i n : Int) (hn : 0 < n) (u : Loc) (hu : isContig u = true)
    (hw : wf u = true) : allLeaves (leafAvoid i n) (expand u i n) = true :=
  match u, hu, hw with
  | between p, _, _ => by simp [expand, betweenExpand, leafAvoid]
  | point p, _, _ => avoid_pointExpand_ins p i n hn
  | ranged s e a b, _, hw => avoid_rangedExpand_ins s e a b i n (of_decide_eq_true hw) hn
  | ambiguous s e, _, hw => avoid_ambiguousExpand_ins s e i n (of_decide_eq_true hw) hn

theorem expand_avoid (i n : Int) (hn : 0 < n) (l : Loc) (hw : wf l = true) :
    allLeaves (leafAvoid i n) (expand l i n) = true := by
  rw [(expand_eq_tmap i n l).1]
  exact tmap_leaves (mergeOK_leafAvoid i n) (expand_avoid_leaf i n hn) l (wf_eq_allLeaves l ▸ hw)

theorem expandList_avoid (i n : Int) (hn : 0 < n) : ∀ (ls : List Loc), wfList ls = true →
    allLeavesList (leafAvoid i n) (expandList ls i n) = true := by
  intro ls hw
  rw [(expandList_eq_tmap i n ls).1]
  exact tmapList_leaves (rev := false) (mergeOK_leafAvoid i n) (expand_avoid_leaf i n hn) ls
    (wfList_eq_allLeaves ls ▸ hw)

theorem shift_then_delete_marks_aux (l : Loc) (i n : Int) (hw : wf l = true) (hn : 0 < n)
    (g1 : shiftMarkAbs l i n = false) (g2 : expandMarkAbs (shift l i n) i (-n) = false) :
    marks (expand (shift l i n) i (-n)) = marks l := by
  have wfs : wf (shift l i n) = true := (shift_ins l i n hw (by omega)).2
  rw [expand_del_marks_aux (shift l i n) i n wfs hn g2,
    delMarks_of_avoid i n hn (shift l i n) wfs (shift_avoid i n hn l),
    shift_marks_aux l i n hw (by omega) g1]

theorem embed_then_delete_marks_aux (l : Loc) (i n : Int) (hw : wf l = true) (hn : 0 < n)
    (g1 : expandMarkAbs l i n = false) (g2 : expandMarkAbs (expand l i n) i (-n) = false) :
    marks (expand (expand l i n) i (-n)) = marks l := by
  have wfe : wf (expand l i n) = true := (expand_ins l i n hw (by omega)).2
  rw [expand_del_marks_aux (expand l i n) i n wfe hn g2,
    delMarks_of_avoid i n hn (expand l i n) wfe (expand_avoid i n hn l hw),
    expand_ins_marks_aux l i n hw (by omega) g1]

end Loc
end Gts
