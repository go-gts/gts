/-
  `Location.Expand(i, n)` with `n ≥ 0` (Embed): like Insert, except that a part spanning `i`
  is extended over the guest.  `stripGuest` removes the guest residues `[i, i+n)`; what remains of
  the exact meaning `embedDen` is the insert image.  Core Lean only.
-/
import Gts.Lemmas.EmbedExact
namespace Gts

/-- drop the residues of the guest `[i, i+n)` -/
def stripGuest (i n : Int) (d : List Pos) : List Pos :=
  d.filter fun p => decide (p.1 < i ∨ i + n ≤ p.1)

theorem Refines.filter {a b : List Pos} (q : Pos → Bool) (h : a ≼ b) : a.filter q ≼ b.filter q := by
  refine ⟨h.1.filter q, ?_⟩
  intro x hx
  rw [List.mem_filter] at hx ⊢
  exact ⟨h.2 x hx.1, hx.2⟩

@[simp] theorem stripGuest_append (i n : Int) (a b : List Pos) :
    stripGuest i n (a ++ b) = stripGuest i n a ++ stripGuest i n b := by simp [stripGuest]

@[simp] theorem stripGuest_nil (i n : Int) : stripGuest i n [] = [] := rfl

theorem stripGuest_flipDen (i n : Int) (a : List Pos) :
    stripGuest i n (flipDen a) = flipDen (stripGuest i n a) := by
  simp only [stripGuest, flipDen, List.filter_map, List.filter_reverse]
  congr 1

theorem stripGuest_fwd (i n : Int) (xs : List Int) :
    stripGuest i n (fwd xs) = fwd (xs.filter fun x => decide (x < i ∨ i + n ≤ x)) := by
  simp only [stripGuest, fwd, List.filter_map]
  congr 1

namespace Loc

theorem filter_guest_outside (s i n : Int) (m : Nat) (h : s + m ≤ i ∨ i + n ≤ s) :
    (irange s m).filter (fun x => decide (x < i ∨ i + n ≤ x)) = irange s m :=
  List.filter_eq_self.mpr fun a ha => by have := mem_irange.mp ha; simp only [decide_eq_true_eq]; omega

theorem filter_guest_inside (s i n : Int) (m : Nat) (h1 : i ≤ s) (h2 : s + m ≤ i + n) :
    (irange s m).filter (fun x => decide (x < i ∨ i + n ≤ x)) = [] :=
  List.filter_eq_nil_iff.mpr fun a ha => by have := mem_irange.mp ha; simp only [decide_eq_true_eq]; omega

theorem stripGuest_zero (i : Int) (d : List Pos) : stripGuest i 0 d = d :=
  List.filter_eq_self.mpr fun p _ => by simp only [decide_eq_true_eq]; omega

/-- the insert image holds no position of the guest -/
theorem stripGuest_insMap (i n : Int) (d : List Pos) :
    stripGuest i n (mapPos (insMap i n) d) = mapPos (insMap i n) d :=
  List.filter_eq_self.mpr fun p hp => by
    obtain ⟨q, _, rfl⟩ := List.mem_map.mp hp
    exact decide_eq_true (by show insMap i n q.1 < i ∨ i + n ≤ insMap i n q.1; unfold insMap; omega)

/-- Embed on an interval: without the guest block it is the insert image -/
theorem stripGuest_embedSeg (s e i n : Int) (h : s < e) (hn : 0 ≤ n) :
    stripGuest i n (embedSeg s e i n) = mapPos (insMap i n) (fwd (irange s (e - s).toNat)) := by
  by_cases hsp : s < i ∧ i < e
  · obtain ⟨e1, e2⟩ := embedSeg_span s e i n hsp.1 hsp.2
    rw [e1, e2, stripGuest_append, stripGuest_append, stripGuest_fwd, stripGuest_fwd, stripGuest_fwd,
      filter_guest_outside s i n _ (by omega), filter_guest_inside i i n _ (Int.le_refl i) (by omega),
      filter_guest_outside (i + n) i n _ (by omega)]
    exact congrArg (· ++ _) (List.append_nil _)
  · rw [embedSeg_outside s e i n (by omega), stripGuest_insMap i n]

mutual
theorem stripGuest_embedDen (i n : Int) (hn : 0 ≤ n) : ∀ l : Loc, wf l = true →
    stripGuest i n (embedDen l i n) = mapPos (insMap i n) (den l)
  | between _, _ => rfl
  | point p, _ => stripGuest_insMap i n [(p, false)]
  | ranged s e _ _, hw => stripGuest_embedSeg s e i n (of_decide_eq_true hw) hn
  | ambiguous s e, hw => stripGuest_embedSeg s e i n (of_decide_eq_true hw) hn
  | joined ls, hw => stripGuest_embedDenList i n hn ls hw
  | ordered ls, hw => stripGuest_embedDenList i n hn ls hw
  | compl l, hw => by
      rw [embedDen, stripGuest_flipDen, stripGuest_embedDen i n hn l hw, den_compl, mapPos_flipDen]
theorem stripGuest_embedDenList (i n : Int) (hn : 0 ≤ n) : ∀ ls : List Loc, wfList ls = true →
    stripGuest i n (embedDenList ls i n) = mapPos (insMap i n) (denList ls)
  | [], _ => rfl
  | l :: ls, hw => by
      obtain ⟨hw1, hw2⟩ := Bool.and_eq_true_iff.mp hw
      rw [embedDenList, stripGuest_append, stripGuest_embedDen i n hn l hw1,
        stripGuest_embedDenList i n hn ls hw2, denList_cons, mapPos_append]
end

/-- Embed: identical to Insert on the host's residues (a spanning part additionally covers the
guest), unless K2 fires. -/
theorem expand_ins (l : Loc) (i n : Int) (hw : wf l = true) (hn : 0 ≤ n) :
    (expandAbs l i n = false →
      stripGuest i n (den (expand l i n)) ≼ mapPos (insMap i n) (den l)) ∧
    wf (expand l i n) = true :=
  have h := expand_embed l i n hw hn
  ⟨fun ha => stripGuest_embedDen i n hn l hw ▸ (h.1 ha).filter _, h.2⟩

end Loc
end Gts
