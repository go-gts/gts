/-
  Helper lemmas for C09: cover of segment lists, `flattenRegion`, `sort.Sort(BySegment)`
  (insertion-sort model; sorted permutations are unique), the merge loop of `Minimize`,
  `invertSegments`, `InvertCircular`.  Core Lean only.
-/
import Gts.Lemmas.RegDen
namespace Gts
open Reg

@[simp] theorem segsCover_nil (x : Int) : segsCover [] x ↔ False := by simp [segsCover]

@[simp] theorem segsCover_cons (a : Seg) (l : List Seg) (x : Int) :
    segsCover (a :: l) x ↔ (a.1 ≤ x ∧ x < a.2) ∨ segsCover l x := by simp [segsCover]

theorem segsCover_append (a b : List Seg) (x : Int) :
    segsCover (a ++ b) x ↔ segsCover a x ∨ segsCover b x := by
  simp only [segsCover, List.mem_append, or_and_right, exists_or]

theorem segsCover_perm {a b : List Seg} (h : a.Perm b) (x : Int) : segsCover a x ↔ segsCover b x := by
  simp only [segsCover, h.mem_iff]

@[simp] theorem segHas_iff (s : Seg) (x : Int) : segHas s x = true ↔ s.1 ≤ x ∧ x < s.2 := by
  simp [segHas]

@[simp] theorem coverCount_nil (x : Int) : coverCount [] x = 0 := rfl

theorem coverCount_cons (a : Seg) (l : List Seg) (x : Int) :
    coverCount (a :: l) x = coverCount l x + if a.1 ≤ x ∧ x < a.2 then 1 else 0 := by
  simp only [coverCount, List.countP_cons, segHas_iff]

theorem coverCount_append (a b : List Seg) (x : Int) :
    coverCount (a ++ b) x = coverCount a x + coverCount b x := by
  simp [coverCount]

theorem coverCount_perm {a b : List Seg} (h : a.Perm b) (x : Int) : coverCount a x = coverCount b x :=
  h.countP_eq _

theorem coverCount_pos_iff (l : List Seg) (x : Int) : 0 < coverCount l x ↔ segsCover l x := by
  simp only [coverCount, segsCover, List.countP_pos_iff, segHas_iff]

theorem coverCount_eq_zero_iff (l : List Seg) (x : Int) : coverCount l x = 0 ↔ ¬ segsCover l x := by
  rw [← coverCount_pos_iff]; omega

@[simp] theorem flatten_many (rs : List Reg) : flatten (many rs) = flattenList rs := by simp [flatten]
@[simp] theorem flattenList_nil : flattenList [] = [] := by simp [flattenList]
@[simp] theorem flattenList_cons (r : Reg) (rs : List Reg) :
    flattenList (r :: rs) = flatten r ++ flattenList rs := by simp [flattenList]

theorem flatten_seg (h t : Int) : flatten (seg h t) = [orient (h, t)] := by
  simp only [flatten, orient]; split <;> rfl

mutual
theorem flatten_eq_map : ∀ r : Reg, flatten r = (leaves r).map orient
  | .seg h t => by simp [flatten_seg]
  | .many rs => by simp [flattenList_eq_map rs]
theorem flattenList_eq_map : ∀ rs : List Reg, flattenList rs = (leavesList rs).map orient
  | [] => by simp
  | r :: rs => by simp [flatten_eq_map r, flattenList_eq_map rs]
end

theorem orient_fwd (s : Seg) : (orient s).1 ≤ (orient s).2 := by
  unfold orient; split <;> (try simp) <;> omega

theorem orient_of_fwd {s : Seg} (h : s.1 ≤ s.2) : orient s = s := by
  unfold orient; split
  · omega
  · rfl

theorem orient_fst (s : Seg) : (orient s).1 = min s.1 s.2 := by
  unfold orient; split <;> (try simp) <;> omega

theorem orient_snd (s : Seg) : (orient s).2 = max s.1 s.2 := by
  unfold orient; split <;> (try simp) <;> omega

theorem flatten_fwd (r : Reg) : ∀ s ∈ flatten r, s.1 ≤ s.2 := by
  rw [flatten_eq_map]
  exact List.forall_mem_map.mpr fun u _ => orient_fwd u

theorem cover_iff_flatten (r : Reg) (x : Int) : cover r x ↔ segsCover (flatten r) x := by
  simp only [cover, segsCover, flatten_eq_map, List.mem_map]
  constructor
  · rintro ⟨s, hs, hx⟩
    exact ⟨orient s, ⟨s, hs, rfl⟩, by rw [orient_fst, orient_snd]; exact hx⟩
  · rintro ⟨_, ⟨s, hs, rfl⟩, hx⟩
    exact ⟨s, hs, by rw [orient_fst, orient_snd] at hx; exact hx⟩

/-- `a` may stand before `b` in a list sorted by `BySegment`: `!Less(b, a)` -/
def segLe (a b : Seg) : Prop := segLess b a = false

instance (a b : Seg) : Decidable (segLe a b) := by unfold segLe; infer_instance

theorem segLess_iff (a b : Seg) : segLess a b = true ↔
    ((orient a).1 < (orient b).1 ∨ ((orient a).1 = (orient b).1 ∧ (orient a).2 < (orient b).2)) := by
  simp only [segLess, ← orient.eq_1]
  simp
  omega

theorem segLe_iff (a b : Seg) : segLe a b ↔
    ((orient a).1 < (orient b).1 ∨ ((orient a).1 = (orient b).1 ∧ (orient a).2 ≤ (orient b).2)) := by
  unfold segLe
  rw [← Bool.not_eq_true, segLess_iff]
  omega

theorem segLe_total (a b : Seg) : segLe a b ∨ segLe b a := by
  rw [segLe_iff, segLe_iff]; omega

theorem segLe_trans {a b c : Seg} (h₁ : segLe a b) (h₂ : segLe b c) : segLe a c := by
  rw [segLe_iff] at *; omega

theorem segLe_of_less {a b : Seg} (h : segLess a b = true) : segLe a b := by
  rw [segLess_iff] at h; rw [segLe_iff]; omega

theorem segLe_antisymm {a b : Seg} (ha : a.1 ≤ a.2) (hb : b.1 ≤ b.2) (h₁ : segLe a b) (h₂ : segLe b a) :
    a = b := by
  rw [segLe_iff, orient_of_fwd ha, orient_of_fwd hb] at *
  apply Prod.ext <;> omega

theorem segLe_lo {a b : Seg} (ha : a.1 ≤ a.2) (hb : b.1 ≤ b.2) (h : segLe a b) : a.1 ≤ b.1 := by
  rw [segLe_iff, orient_of_fwd ha, orient_of_fwd hb] at h; omega

theorem insertSeg_perm (x : Seg) (l : List Seg) : (insertSeg x l).Perm (x :: l) := by
  induction l with
  | nil => simp [insertSeg]
  | cons y ys ih =>
    simp only [insertSeg]
    split
    · exact (List.Perm.cons y ih).trans (List.Perm.swap x y ys)
    · exact List.Perm.refl _

theorem sortSegs_perm (l : List Seg) : (sortSegs l).Perm l := by
  induction l with
  | nil => simp [sortSegs]
  | cons x xs ih =>
    simp only [sortSegs]
    exact (insertSeg_perm x _).trans (List.Perm.cons x ih)

theorem insertSeg_sorted (x : Seg) (l : List Seg) (h : l.Pairwise segLe) :
    (insertSeg x l).Pairwise segLe := by
  induction l with
  | nil => simp [insertSeg]
  | cons y ys ih =>
    simp only [insertSeg]
    rw [List.pairwise_cons] at h
    split
    · rename_i hlt
      rw [List.pairwise_cons]
      refine ⟨?_, ih h.2⟩
      intro z hz
      have := (insertSeg_perm x ys).subset hz
      rcases List.mem_cons.mp this with rfl | hz'
      · exact segLe_of_less hlt
      · exact h.1 z hz'
    · rename_i hnl
      have hxy : segLe x y := by simpa [segLe] using hnl
      rw [List.pairwise_cons]
      refine ⟨?_, List.pairwise_cons.mpr h⟩
      intro z hz
      rcases List.mem_cons.mp hz with rfl | hz'
      · exact hxy
      · exact segLe_trans hxy (h.1 z hz')

/-- sorted in the sense of `sort.Sort`: no later element is `Less` than an earlier one -/
theorem sortSegs_sorted (l : List Seg) : (sortSegs l).Pairwise segLe := by
  induction l with
  | nil => simp [sortSegs]
  | cons x xs ih => exact insertSeg_sorted x _ ih

/-- REMARK (why the sorting algorithm does not matter): two `BySegment`-sorted arrangements of
the same forward segments are the same list, because ties of `Less` are equal values. -/
theorem sorted_perm_unique {l₁ l₂ : List Seg} (hf : ∀ s ∈ l₁, s.1 ≤ s.2) (hp : l₁.Perm l₂)
    (h₁ : l₁.Pairwise segLe) (h₂ : l₂.Pairwise segLe) : l₁ = l₂ :=
  List.Perm.eq_of_pairwise
    (fun a b ha hb hab hba => segLe_antisymm (hf a ha) (hf b (hp.symm.subset hb)) hab hba) h₁ h₂ hp

theorem sortSegs_congr {l l' : List Seg} (hf : ∀ s ∈ l, s.1 ≤ s.2) (hp : l.Perm l') :
    sortSegs l = sortSegs l' :=
  sorted_perm_unique (fun s hs => hf s ((sortSegs_perm l).subset hs))
    ((sortSegs_perm l).trans (hp.trans (sortSegs_perm l').symm)) (sortSegs_sorted l) (sortSegs_sorted l')

def Fwd (l : List Seg) : Prop := ∀ s ∈ l, s.1 ≤ s.2
/-- sorted by lower end (all the merge loop needs from the sort) -/
def LoSorted (l : List Seg) : Prop := l.Pairwise (fun a b => a.1 ≤ b.1)

/-- the merge loop with the current segment `ss[i]` held apart (structural recursion) -/
def mergeAcc (a : Seg) : List Seg → List Seg
  | [] => [a]
  | b :: rest =>
    if a.2 < b.1 then a :: mergeAcc b rest
    else mergeAcc (Loc.gmin a.1 b.1, Loc.gmax a.2 b.2) rest

def mergeList : List Seg → List Seg
  | [] => []
  | a :: rest => mergeAcc a rest

theorem mergeSegs_cons (a : Seg) (rest : List Seg) : mergeSegs (a :: rest) = mergeAcc a rest := by
  induction rest generalizing a with
  | nil => simp [mergeSegs, mergeAcc]
  | cons b rest ih =>
    rw [mergeSegs]
    simp only [mergeAcc]
    split
    · rw [ih]
    · rw [ih]

theorem mergeSegs_eq (l : List Seg) : mergeSegs l = mergeList l := by
  cases l with
  | nil => simp [mergeSegs, mergeList]
  | cons a rest => simp [mergeSegs_cons, mergeList]

/-- `minimize` in structurally recursive form (lets `decide` evaluate it) -/
theorem minimize_eq (r : Reg) : minimize r = mergeList (sortSegs (flatten r)) := by
  simp [minimize, mergeSegs_eq]

theorem Fwd.cons {a : Seg} {l : List Seg} (h : Fwd (a :: l)) : a.1 ≤ a.2 ∧ Fwd l :=
  List.forall_mem_cons.mp h

theorem LoSorted.cons {a : Seg} {l : List Seg} (h : LoSorted (a :: l)) :
    (∀ s ∈ l, a.1 ≤ s.1) ∧ LoSorted l := List.pairwise_cons.mp h

theorem Fwd.merge {a b : Seg} {rest : List Seg} (h : Fwd (a :: b :: rest)) :
    Fwd ((Loc.gmin a.1 b.1, Loc.gmax a.2 b.2) :: rest) := by
  refine List.forall_mem_cons.mpr ⟨?_, h.cons.2.cons.2⟩
  have := h.cons.1; have := h.cons.2.cons.1
  simp only [Loc.gmin_eq_min, Loc.gmax_eq_max]; omega

theorem LoSorted.merge {a b : Seg} {rest : List Seg} (h : LoSorted (a :: b :: rest)) :
    LoSorted ((Loc.gmin a.1 b.1, Loc.gmax a.2 b.2) :: rest) := by
  refine List.pairwise_cons.mpr ⟨fun s hs => ?_, h.cons.2.cons.2⟩
  have := h.cons.1 s (List.mem_cons_of_mem _ hs)
  simp only [Loc.gmin_eq_min]; omega

theorem mergeSegs_hull (l : List Seg) :
    ∀ o ∈ mergeSegs l, ∃ s ∈ l, s.1 = o.1 ∧ s.2 ≤ o.2 ∧ ∃ t ∈ l, t.2 = o.2 := by
  induction l using mergeSegs.induct with
  | case1 => intro o ho; rw [mergeSegs] at ho; cases ho
  | case2 a => intro o ho; rw [mergeSegs] at ho; exact ⟨o, ho, rfl, Int.le_refl _, o, ho, rfl⟩
  | case3 a b rest hlt ih =>
    intro o ho
    rw [mergeSegs, if_pos hlt] at ho
    rcases List.mem_cons.mp ho with rfl | ho
    · exact ⟨o, by simp, rfl, Int.le_refl _, o, by simp, rfl⟩
    · obtain ⟨s, hs, h1, h2, t, ht, h3⟩ := ih o ho
      exact ⟨s, List.mem_cons_of_mem _ hs, h1, h2, t, List.mem_cons_of_mem _ ht, h3⟩
  | case4 a b rest hlt ih =>
    intro o ho
    rw [mergeSegs, if_neg hlt] at ho
    obtain ⟨s, hs, h1, h2, t, ht, h3⟩ := ih o ho
    -- an end of the hull of `a` and `b` is an end of `a` or of `b`
    have hl : ∃ s' ∈ a :: b :: rest, s'.1 = o.1 ∧ s'.2 ≤ o.2 := by
      rcases List.mem_cons.mp hs with rfl | hs
      · simp only [Loc.gmin_eq_min, Loc.gmax_eq_max] at h1 h2
        by_cases h : a.1 ≤ b.1
        · exact ⟨a, by simp, by omega, by omega⟩
        · exact ⟨b, by simp, by omega, by omega⟩
      · exact ⟨s, by simp [hs], h1, h2⟩
    obtain ⟨s', hs', h1', h2'⟩ := hl
    refine ⟨s', hs', h1', h2', ?_⟩
    rcases List.mem_cons.mp ht with rfl | ht
    · simp only [Loc.gmax_eq_max] at h3
      by_cases h : b.2 ≤ a.2
      · exact ⟨a, by simp, by omega⟩
      · exact ⟨b, by simp, by omega⟩
    · exact ⟨t, by simp [ht], h3⟩

theorem mergeSegs_pairwise (l : List Seg) (hs : LoSorted l) :
    (mergeSegs l).Pairwise (fun x y => x.2 < y.1) := by
  induction l using mergeSegs.induct with
  | case1 => rw [mergeSegs]; exact .nil
  | case2 a => rw [mergeSegs]; exact List.pairwise_singleton _ _
  | case3 a b rest hlt ih =>
    rw [mergeSegs, if_pos hlt, List.pairwise_cons]
    refine ⟨fun o ho => ?_, ih hs.cons.2⟩
    -- `o` starts at some later input, and inputs are sorted by lower end
    obtain ⟨s, hs', h1, _⟩ := mergeSegs_hull _ o ho
    rcases List.mem_cons.mp hs' with rfl | hs'
    · omega
    · have := hs.cons.2.cons.1 s hs'; omega
  | case4 a b rest hlt ih => rw [mergeSegs, if_neg hlt]; exact ih hs.merge

theorem mergeSegs_cover (l : List Seg) (hf : Fwd l) (hs : LoSorted l) (x : Int) :
    segsCover (mergeSegs l) x ↔ segsCover l x := by
  induction l using mergeSegs.induct with
  | case1 => rw [mergeSegs]
  | case2 a => rw [mergeSegs]
  | case3 a b rest hlt ih => rw [mergeSegs, if_pos hlt, segsCover_cons, ih hf.cons.2 hs.cons.2, segsCover_cons a]
  | case4 a b rest hlt ih =>
    have ha := hf.cons.1
    have hb := hf.cons.2.cons.1
    have hab := hs.cons.1 b (by simp)
    have key : (min a.1 b.1 ≤ x ∧ x < max a.2 b.2) ↔ ((a.1 ≤ x ∧ x < a.2) ∨ (b.1 ≤ x ∧ x < b.2)) := by omega
    rw [mergeSegs, if_neg hlt, ih hf.merge hs.merge]
    simp only [segsCover_cons, Loc.gmin_eq_min, Loc.gmax_eq_max]
    rw [key, or_assoc]

theorem mergeSegs_ne_nil (l : List Seg) (h : l ≠ []) : mergeSegs l ≠ [] := by
  induction l using mergeSegs.induct with
  | case1 => exact absurd rfl h
  | case2 a => rw [mergeSegs]; exact List.cons_ne_nil _ _
  | case3 a b rest hlt ih => rw [mergeSegs, if_pos hlt]; exact List.cons_ne_nil _ _
  | case4 a b rest hlt ih => rw [mergeSegs, if_neg hlt]; exact ih (List.cons_ne_nil _ _)

theorem sorted_flatten_fwd (r : Reg) : Fwd (sortSegs (flatten r)) :=
  fun s hs => flatten_fwd r s ((sortSegs_perm _).subset hs)

theorem sorted_flatten_lo (r : Reg) : LoSorted (sortSegs (flatten r)) :=
  (sortSegs_sorted (flatten r)).imp_of_mem fun ha hb h =>
    segLe_lo (sorted_flatten_fwd r _ ha) (sorted_flatten_fwd r _ hb) h

/-! ### canonical form: the cover determines the minimised list -/

theorem segsCover_head {a : Seg} (t : List Seg) (h : a.1 < a.2) : segsCover (a :: t) a.1 :=
  ⟨a, List.mem_cons_self .., Int.le_refl _, h⟩

theorem head_lo_le {a a' : Seg} {t t' : List Seg} (ha : a.1 < a.2) (ha' : a'.1 < a'.2)
    (hp' : ∀ s ∈ t', a'.2 < s.1) (hc : ∀ x, segsCover (a :: t) x → segsCover (a' :: t') x) :
    a'.1 ≤ a.1 := by
  rcases (segsCover_cons ..).mp (hc a.1 (segsCover_head t ha)) with h | ⟨s, hs, hx⟩
  · exact h.1
  · have := hp' s hs; omega

theorem head_hi_le {a a' : Seg} {t t' : List Seg} (ha' : a'.1 < a'.2) (h1 : a.1 = a'.1)
    (hp' : ∀ s ∈ t', a'.2 < s.1) (hc : ∀ x, segsCover (a :: t) x → segsCover (a' :: t') x) :
    a.2 ≤ a'.2 := by
  refine Int.not_lt.mp fun hlt => ?_
  rcases (segsCover_cons ..).mp (hc a'.2 ((segsCover_cons ..).mpr (.inl (by omega)))) with
    h | ⟨s, hs, hx⟩
  · omega
  · have := hp' s hs; omega

theorem tail_cover {a : Seg} {t t' : List Seg} (hp : ∀ s ∈ t, a.2 < s.1)
    (hc : ∀ x, segsCover (a :: t) x → segsCover (a :: t') x) (x : Int) (hx : segsCover t x) :
    segsCover t' x := by
  obtain ⟨s, hs, hx⟩ := hx
  rcases (segsCover_cons ..).mp (hc x ⟨s, List.mem_cons_of_mem _ hs, hx⟩) with h | h
  · have := hp s hs; omega
  · exact h

theorem canonical_unique (l l' : List Seg)
    (hn : ∀ s ∈ l, s.1 < s.2) (hn' : ∀ s ∈ l', s.1 < s.2)
    (hp : l.Pairwise (fun a b => a.2 < b.1)) (hp' : l'.Pairwise (fun a b => a.2 < b.1))
    (hc : ∀ x, segsCover l x ↔ segsCover l' x) : l = l' := by
  induction l generalizing l' with
  | nil =>
    cases l' with
    | nil => rfl
    | cons a' t' =>
      exact absurd ((hc a'.1).mpr (segsCover_head t' (hn' a' (List.mem_cons_self ..)))) (by simp)
  | cons a t ih =>
    cases l' with
    | nil =>
      exact absurd ((hc a.1).mp (segsCover_head t (hn a (List.mem_cons_self ..)))) (by simp)
    | cons a' t' =>
      have ⟨ha, hnt⟩ := List.forall_mem_cons.mp hn
      have ⟨ha', hnt'⟩ := List.forall_mem_cons.mp hn'
      rw [List.pairwise_cons] at hp hp'
      have hlo : a.1 = a'.1 := Int.le_antisymm (head_lo_le ha' ha hp.1 fun x => (hc x).mpr)
        (head_lo_le ha ha' hp'.1 fun x => (hc x).mp)
      have hhi : a.2 = a'.2 := Int.le_antisymm (head_hi_le ha' hlo hp'.1 fun x => (hc x).mp)
        (head_hi_le ha hlo.symm hp.1 fun x => (hc x).mpr)
      obtain rfl : a = a' := Prod.ext hlo hhi
      congr 1
      exact ih t' hnt hnt' hp.2 hp'.2 fun x =>
        ⟨tail_cover hp.1 (fun x => (hc x).mp) x, tail_cover hp'.1 (fun x => (hc x).mpr) x⟩

/-- precondition of the gap enumeration: the walk position `start` never overtakes the next
segment, segments are forward, and the last one ends at or before `n` -/
def GapChain (n : Int) : Int → List Seg → Prop
  | start, [] => start ≤ n
  | start, s :: t => start ≤ s.1 ∧ s.1 ≤ s.2 ∧ GapChain n s.2 t

theorem gapChain_of (n : Int) (ss : List Seg) (start : Int) (hf : Fwd ss)
    (hp : ss.Pairwise (fun a b => a.2 < b.1)) (hb : ∀ s ∈ ss, start ≤ s.1 ∧ s.2 ≤ n) (hn : start ≤ n) :
    GapChain n start ss := by
  induction ss generalizing start with
  | nil => exact hn
  | cons s t ih =>
    rw [List.pairwise_cons] at hp
    have ⟨hs, ht⟩ := List.forall_mem_cons.mp hb
    refine ⟨hs.1, hf.cons.1, ih s.2 hf.cons.2 hp.2 (fun u hu => ⟨?_, (ht u hu).2⟩) hs.2⟩
    have := hp.1 u hu
    omega

theorem gapChain_le {n start : Int} {ss : List Seg} (h : GapChain n start ss) : start ≤ n := by
  induction ss generalizing start with
  | nil => exact h
  | cons s t ih => have := ih h.2.2; have := h.1; have := h.2.1; omega

theorem invertFrom_nil (start n : Int) :
    invertFrom start n [] = if start ≠ n then [(start, n)] else [] := by simp [invertFrom]

theorem invertFrom_cons (start n : Int) (s : Seg) (t : List Seg) :
    invertFrom start n (s :: t) = (if start ≠ s.1 then [(start, s.1)] else []) ++ invertFrom s.2 n t := by
  simp [invertFrom]

theorem mem_gap {g : Seg} {start e : Int} :
    g ∈ (if start ≠ e then [(start, e)] else []) ↔ start ≠ e ∧ g = (start, e) := by
  split <;> simp [*]

theorem coverCount_gap (start e x : Int) :
    coverCount (if start ≠ e then [(start, e)] else []) x = if start ≤ x ∧ x < e then 1 else 0 := by
  split
  · rw [coverCount_cons]; simp
  · rw [if_neg (by omega)]; rfl

theorem indicator_add (a b c x : Int) (h1 : a ≤ b) (h2 : b ≤ c) :
    ((if a ≤ x ∧ x < b then 1 else 0) + (if b ≤ x ∧ x < c then 1 else 0) : Nat) =
      if a ≤ x ∧ x < c then 1 else 0 := by
  split <;> split <;> split <;> omega

/-- THE PARTITION, from any walk position: every gap is a non-empty forward segment inside `[start, n]`,
between any two gaps lies one of the segments (so gaps are disjoint and increasing; they may abut across a
zero-length segment), and segments and gaps together contain every position of `[start, n)` exactly once and
nothing else -/
theorem invertFrom_spec (n : Int) (ss : List Seg) (start : Int) (h : GapChain n start ss) :
    (∀ g ∈ invertFrom start n ss, start ≤ g.1 ∧ g.1 < g.2 ∧ g.2 ≤ n) ∧
    (invertFrom start n ss).Pairwise (fun a b => ∃ s ∈ ss, a.2 ≤ s.1 ∧ s.1 ≤ s.2 ∧ s.2 ≤ b.1) ∧
    ∀ x, coverCount ss x + coverCount (invertFrom start n ss) x = if start ≤ x ∧ x < n then 1 else 0 := by
  induction ss generalizing start with
  | nil =>
    have hle : start ≤ n := h
    rw [invertFrom_nil]
    refine ⟨fun g hg => ?_, by split; exact List.pairwise_singleton _ _; exact .nil,
      fun x => by rw [coverCount_gap, coverCount_nil, Nat.zero_add]⟩
    obtain ⟨hne, rfl⟩ := mem_gap.mp hg
    simp only; omega
  | cons s t ih =>
    obtain ⟨h1, h2, h3⟩ := h
    obtain ⟨ihb, ihp, ihc⟩ := ih s.2 h3
    have hle := gapChain_le h3
    rw [invertFrom_cons]
    refine ⟨fun g hg => ?_, ?_, fun x => ?_⟩
    · rw [List.mem_append, mem_gap] at hg
      rcases hg with ⟨hne, rfl⟩ | hg
      · simp only; omega
      · have := ihb g hg; omega
    · rw [List.pairwise_append]
      refine ⟨by split; exact List.pairwise_singleton _ _; exact .nil,
        ihp.imp fun ⟨u, hu, hh⟩ => ⟨u, List.mem_cons_of_mem _ hu, hh⟩, fun a ha b hb => ?_⟩
      obtain ⟨_, rfl⟩ := mem_gap.mp ha
      exact ⟨s, List.mem_cons_self .., Int.le_refl _, h2, (ihb b hb).1⟩
    · -- [start, s.1) + [s.1, s.2) + [s.2, n) = [start, n); the `if`s are atoms for `omega`
      have := ihc x
      have := indicator_add start s.1 s.2 x h1 h2
      have := indicator_add start s.2 n x (by omega) hle
      rw [coverCount_append, coverCount_cons, coverCount_gap]
      omega

/-- where the gap walk stands after the last segment -/
def lastHi : Int → List Seg → Int
  | start, [] => start
  | _, s :: t => lastHi s.2 t

theorem invertFrom_last (n : Int) (ss : List Seg) (start : Int) (h : lastHi start ss ≠ n) :
    ∃ init, invertFrom start n ss = init ++ [(lastHi start ss, n)] := by
  induction ss generalizing start with
  | nil => exact ⟨[], (invertFrom_nil ..).trans (if_pos h)⟩
  | cons s t ih =>
    obtain ⟨init, hi⟩ := ih s.2 h
    exact ⟨_ ++ init, by rw [invertFrom_cons, hi, List.append_assoc]; rfl⟩

theorem getLast?_lastHi (s : Seg) (t : List Seg) (l : Seg) (h : (s :: t).getLast? = some l) :
    l.2 = lastHi s.2 t := by
  induction t generalizing s with
  | nil => simp at h; subst h; rfl
  | cons u t ih =>
    rw [List.getLast?_cons_cons] at h
    simpa [lastHi] using ih u h

/-- a segment list as a list of `Segment` regions (what `InvertLinear` returns) -/
def asRegs (l : List Seg) : List Reg := l.map fun s => seg s.1 s.2

@[simp] theorem leavesList_asRegs (l : List Seg) : leavesList (asRegs l) = l := by
  induction l with
  | nil => rfl
  | cons a l ih =>
    have : asRegs (a :: l) = seg a.1 a.2 :: asRegs l := rfl
    rw [this, leavesList_cons, ih]; simp

theorem invertLinear_eq (r : Reg) (n : Int) : invertLinear r n = asRegs (invertFrom 0 n (minimize r)) := rfl

theorem leaves_invertLinear (r : Reg) (n : Int) :
    leaves (many (invertLinear r n)) = invertFrom 0 n (minimize r) := by
  rw [invertLinear_eq, leaves_many, leavesList_asRegs]

theorem cover_of_fwd_leaves (r : Reg) (hf : Fwd (leaves r)) (x : Int) : cover r x ↔ segsCover (leaves r) x :=
  exists_congr fun s => and_congr_right fun hs => by have := hf s hs; omega

theorem cover_perm {r r' : Reg} (h : (leaves r).Perm (leaves r')) (x : Int) : cover r x ↔ cover r' x := by
  simp only [cover, h.mem_iff]

theorem flattenList_append (a b : List Reg) : flattenList (a ++ b) = flattenList a ++ flattenList b := by
  induction a with
  | nil => simp
  | cons r rs ih => simp [ih]

mutual
theorem flatten_complement : ∀ r : Reg, flatten (complement r) = (flatten r).reverse
  | .seg h t => by
    simp only [complement, flatten]
    split <;> split <;> simp <;> omega
  | .many rs => by
    simp only [complement, flatten_many]
    rw [flattenList_complementRev rs []]; simp
theorem flattenList_complementRev : ∀ (rs acc : List Reg),
    flattenList (complementRev rs acc) = (flattenList rs).reverse ++ flattenList acc
  | [], acc => by simp [complementRev]
  | r :: rs, acc => by
    simp only [complementRev]
    rw [flattenList_complementRev rs (complement r :: acc)]
    simp [flatten_complement r]
end

theorem mem_flatten {r : Reg} {s : Seg} : s ∈ flatten r ↔ ∃ u ∈ leaves r, orient u = s := by
  rw [flatten_eq_map, List.mem_map]

theorem flattenList_asRegs (l : List Seg) : flattenList (asRegs l) = l.map orient := by
  rw [flattenList_eq_map, leavesList_asRegs]

theorem minimize_hull (r : Reg) :
    ∀ o ∈ minimize r, ∃ s ∈ flatten r, s.1 = o.1 ∧ s.2 ≤ o.2 ∧ ∃ t ∈ flatten r, t.2 = o.2 := fun o ho =>
  let ⟨s, hs, h1, h2, t, ht, h3⟩ := mergeSegs_hull _ o ho
  ⟨s, (sortSegs_perm _).subset hs, h1, h2, t, (sortSegs_perm _).subset ht, h3⟩

theorem minimize_fwd (r : Reg) : Fwd (minimize r) := fun o ho => by
  obtain ⟨s, hs, h1, h2, _⟩ := minimize_hull r o ho
  have := flatten_fwd r s hs; omega

theorem minimize_point (r : Reg) : ∀ o ∈ minimize r, o.1 = o.2 → o ∈ flatten r := fun o ho hz => by
  obtain ⟨s, hs, h1, h2, _⟩ := minimize_hull r o ho
  have := flatten_fwd r s hs
  obtain rfl : s = o := Prod.ext h1 (by omega)
  exact hs

theorem minimize_within (r : Reg) (n : Int) (hw : within n r) : ∀ o ∈ minimize r, 0 ≤ o.1 ∧ o.2 ≤ n := by
  intro o ho
  obtain ⟨s, hs, h1, _, t, ht, h2⟩ := minimize_hull r o ho
  obtain ⟨u, hu, rfl⟩ := mem_flatten.mp hs
  obtain ⟨v, hv, rfl⟩ := mem_flatten.mp ht
  have := hw u hu
  have := hw v hv
  rw [orient_fst] at h1
  rw [orient_snd] at h2
  omega

theorem minimize_ne_nil (r : Reg) (h : leaves r ≠ []) : minimize r ≠ [] := by
  rw [minimize]
  apply mergeSegs_ne_nil
  intro h0
  have hp := sortSegs_perm (flatten r)
  rw [h0, List.nil_perm, flatten_eq_map, List.map_eq_nil_iff] at hp
  exact h hp

theorem minimize_nil_of (r : Reg) (h : leaves r = []) : minimize r = [] := by
  rw [minimize_eq, flatten_eq_map, h]; rfl

theorem coverCount_le_one (l : List Seg) (hp : l.Pairwise (fun a b => a.2 < b.1))
    (x : Int) : coverCount l x ≤ 1 := by
  induction l with
  | nil => simp
  | cons a t ih =>
    rw [List.pairwise_cons] at hp
    rw [coverCount_cons]
    split
    · rename_i hx
      have : coverCount t x = 0 := by
        rw [coverCount_eq_zero_iff]
        rintro ⟨s, hs, hx'⟩
        have := hp.1 s hs; omega
      omega
    · have := ih hp.2; omega

end Gts
