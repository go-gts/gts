/-
  Embed (`Expand(i, n)`, `n ≥ 0`) keeps a duplicate-free denotation duplicate-free (a guest
  residue appears in a part only if that part spans `i`, i.e. contains residue `i - 1`; counting),
  hence its marker guard follows from the K2 guard and `Nodup` as for the other operations.
-/
import Gts.Lemmas.MarkGuardOps
import Gts.Lemmas.Embed
namespace Gts
namespace Loc

theorem count_le_of_mem_imp {a b : Pos} {E D : List Pos} (hE : E.Nodup) (h : a ∈ E → b ∈ D) :
    List.count a E ≤ List.count b D := by
  by_cases ha : a ∈ E
  · have h1 := List.nodup_iff_count.mp hE a
    have h2 := List.one_le_count_iff.mpr (h ha)
    omega
  · rw [List.count_eq_zero_of_not_mem ha]; omega

theorem nodup_fwd_irange (s : Int) (m : Nat) : (fwd (irange s m)).Nodup := by
  unfold fwd
  rw [List.Nodup, List.pairwise_map]
  refine List.Pairwise.imp ?_ (irange_pairwise s m)
  intro a b hab he
  have := (Prod.mk.inj he).1
  omega

mutual
/-- a guest residue occurs in what the embedded location has to denote at most as often as residue
`i - 1` (same strand) occurred in the original -/
theorem count_embedDen_le (i n : Int) (hn : 0 ≤ n) : ∀ (l : Loc), wf l = true →
    ∀ (g : Int) (st : Bool), i ≤ g → g < i + n →
      List.count ((g, st) : Pos) (embedDen l i n) ≤ List.count ((i - 1, st) : Pos) (den l)
  | between p, _, g, st, _, _ => by simp [embedDen]
  | point p, _, g, st, h1, h2 => by
      rw [embedDen]
      apply count_le_of_mem_imp (by simp)
      intro hm
      exfalso
      have := (Prod.mk.inj (List.mem_singleton.mp hm)).1
      unfold insMap at this
      split at this <;> omega
  | ranged s e .., hw, g, st, h1, h2 | ambiguous s e, hw, g, st, h1, h2 => by
      have hse : s < e := of_decide_eq_true hw
      rw [embedDen, ← den_embed_interval s e i n hse hn]
      simp only [den_ranged, den_ambiguous]
      apply count_le_of_mem_imp (nodup_fwd_irange _ _)
      intro hm
      rw [mem_fwd, mem_irange] at hm ⊢
      refine ⟨hm.1, ?_⟩
      have h3 := hm.2.1
      have h4 := hm.2.2
      split at h3 <;> split at h4 <;> omega
  | joined ls, hw, g, st, h1, h2 | ordered ls, hw, g, st, h1, h2 => by
      rw [embedDen]
      exact count_embedDenList_le i n hn ls hw g st h1 h2
  | compl l, hw, g, st, h1, h2 => by
      rw [embedDen, den_compl, count_flipDen, count_flipDen]
      exact count_embedDen_le i n hn l hw g (!st) h1 h2
theorem count_embedDenList_le (i n : Int) (hn : 0 ≤ n) : ∀ (ls : List Loc), wfList ls = true →
    ∀ (g : Int) (st : Bool), i ≤ g → g < i + n →
      List.count ((g, st) : Pos) (embedDenList ls i n) ≤ List.count ((i - 1, st) : Pos) (denList ls)
  | [], _, _, _, _, _ => by simp [embedDenList]
  | l :: ls, hw, g, st, h1, h2 => by
      obtain ⟨hw1, hw2⟩ := Bool.and_eq_true_iff.mp hw
      rw [embedDenList, denList_cons, List.count_append, List.count_append]
      have a := count_embedDen_le i n hn l hw1 g st h1 h2
      have b := count_embedDenList_le i n hn ls hw2 g st h1 h2
      omega
end

/-- a list is duplicate-free when its host part is and every guest residue is counted by a
residue of a duplicate-free list -/
theorem nodup_of_strip (i n : Int) (E D : List Pos) (hs : (stripGuest i n E).Nodup) (hD : D.Nodup)
    (hg : ∀ (g : Int) (st : Bool), i ≤ g → g < i + n →
      List.count ((g, st) : Pos) E ≤ List.count ((i - 1, st) : Pos) D) : E.Nodup := by
  rw [List.nodup_iff_count]
  intro a
  obtain ⟨x, st⟩ := a
  by_cases hx : i ≤ x ∧ x < i + n
  · exact Nat.le_trans (hg x st hx.1 hx.2) (List.nodup_iff_count.mp hD _)
  · have hp : decide (((x, st) : Pos).1 < i ∨ i + n ≤ ((x, st) : Pos).1) = true := by
      simp only [decide_eq_true_eq]; omega
    have := List.count_filter (p := fun p : Pos => decide (p.1 < i ∨ i + n ≤ p.1)) (l := E) hp
    unfold stripGuest at hs
    rw [← this]
    exact List.nodup_iff_count.mp hs _

theorem embedDen_nodup (l : Loc) (i n : Int) (hw : wf l = true) (hn : 0 ≤ n) (hnd : (den l).Nodup) :
    (embedDen l i n).Nodup :=
  nodup_of_strip i n _ _ (stripGuest_embedDen i n hn l hw ▸ nodup_mapPos_insMap i n hn _ hnd) hnd
    (count_embedDen_le i n hn l hw)

theorem expandInsMarkAbs_of_nodup (l : Loc) (i n : Int) (hw : wf l = true) (hn : 0 ≤ n)
    (hk : expandAbs l i n = false) (hnd : (den l).Nodup) : expandMarkAbs l i n = false := by
  rw [(expand_eq_tmap i n l).2.1] at hk
  rw [(expand_eq_tmap i n l).2.2]
  exact tguard_mark_of_nodup (expand_ins_leafSpec i n hn) l hw (allLeaves_true l) hk
    (embedDen_eq_dfold i n l ▸ embedDen_nodup l i n hw hn hnd)

theorem expandInsMarkAbsList_of_nodup : ∀ (ls : List Loc) (i n : Int), wfList ls = true → 0 ≤ n →
    expandAbsList ls i n = false → (denList ls).Nodup → expandMarkAbsList ls i n = false :=
  fun ls => expandInsMarkAbs_of_nodup (ordered ls)

theorem expand_ins_nodup (l : Loc) (i n : Int) (hw : wf l = true) (hn : 0 ≤ n)
    (hk : expandAbs l i n = false) (hnd : (den l).Nodup) : (den (expand l i n)).Nodup :=
  Refines.nodup ((expand_embed l i n hw hn).1 hk) (embedDen_nodup l i n hw hn hnd)

end Loc
end Gts
