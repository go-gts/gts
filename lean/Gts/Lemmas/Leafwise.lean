/-
  Leaf-wise invariants (`LeafInv`) against the oracle's `leaves`: `allLeaves Q` is `Q` on every element
  of `leaves`; the in-bounds predicate `coordsWithin` (C03, C04) is one.
  Every residue a location denotes lies in the span of one of its leaves (`den_span`); with the tests of
  the model read leaf by leaf (`within_eq_all`, `overlap_eq_any`) that is what they say about residues.
  Core Lean only.
-/
import Gts.Lemmas.LeafInv
import Gts.Spec.Marks
namespace Gts
namespace Loc

section
variable (Q : Loc → Bool)

mutual
theorem allLeaves_eq_all : ∀ (l : Loc), allLeaves Q l = (leaves l).all Q
  | between _ | point _ | ranged _ _ _ _ | ambiguous _ _ => (Bool.and_true _).symm
  | joined ls => allLeavesList_eq_all ls
  | ordered ls => allLeavesList_eq_all ls
  | compl l => allLeaves_eq_all l
theorem allLeavesList_eq_all : ∀ (ls : List Loc), allLeavesList Q ls = (leavesList ls).all Q
  | [] => rfl
  | l :: ls => by
      rw [allLeavesList_cons, leavesList, List.all_append, allLeaves_eq_all l, allLeavesList_eq_all ls]
end

end

theorem allLeaves_and_eq (P Q : Loc → Bool) (l : Loc) :
    allLeaves (fun u => P u && Q u) l = (allLeaves P l && allLeaves Q l) := by
  simp only [allLeaves_eq_all]
  induction leaves l with
  | nil => rfl
  | cons x xs ih => simp only [List.all_cons, ih]; cases P x <;> cases Q x <;> simp

theorem allLeaves_mono {P Q : Loc → Bool} (h : ∀ u, P u = true → Q u = true) (l : Loc)
    (hl : allLeaves P l = true) : allLeaves Q l = true := by
  rw [allLeaves_eq_all, List.all_eq_true] at *
  exact fun u hu => h u (hl u hu)

theorem leafWithin_iff (L : Int) (u : Loc) :
    leafWithin L u = true ↔
      0 ≤ (leafSpan u).1 ∧ (leafSpan u).2 ≤ L ∧ (leafSpan u).1 ≤ (leafSpan u).2 := by
  simp only [leafWithin, Bool.not_eq_true', Bool.or_eq_false_iff, decide_eq_false_iff_not]
  omega

mutual
theorem den_span : ∀ (l : Loc) (p : Pos), p ∈ den l →
    ∃ u ∈ leaves l, (leafSpan u).1 ≤ p.1 ∧ p.1 < (leafSpan u).2
  | between _, _, hp => absurd hp List.not_mem_nil
  | point q, p, hp => by
      rw [List.mem_singleton.mp hp]
      exact ⟨point q, List.mem_singleton.mpr rfl, Int.le_refl q, Int.lt_succ q⟩
  | ranged s e _ _, p, hp | ambiguous s e, p, hp => by
      have := mem_irange.mp (mem_fwd.mp hp).2
      exact ⟨_, List.mem_singleton.mpr rfl, this.1, by show p.1 < e; omega⟩
  | joined ls, p, hp => denList_span ls p hp
  | ordered ls, p, hp => denList_span ls p hp
  | compl l, p, hp => den_span l (p.1, !p.2) (mem_flipDen.mp hp)
theorem denList_span : ∀ (ls : List Loc) (p : Pos), p ∈ denList ls →
    ∃ u ∈ leavesList ls, (leafSpan u).1 ≤ p.1 ∧ p.1 < (leafSpan u).2
  | [], _, hp => absurd hp List.not_mem_nil
  | l :: ls, p, hp => by
      rcases List.mem_append.mp hp with hp | hp
      · obtain ⟨u, hu, h⟩ := den_span l p hp
        exact ⟨u, List.mem_append.mpr (Or.inl hu), h⟩
      · obtain ⟨u, hu, h⟩ := denList_span ls p hp
        exact ⟨u, List.mem_append.mpr (Or.inr hu), h⟩
end

mutual
/-- `LocationWithin` asks every leaf, `LocationOverlap` some leaf -/
theorem within_eq_all : ∀ (l : Loc) (lo hi : Int),
    within l lo hi = (leaves l).all fun u => rangeWithin (leafSpan u).1 (leafSpan u).2 lo hi
  | between _, _, _ | point _, _, _ | ranged _ _ _ _, _, _ | ambiguous _ _, _, _ => (Bool.and_true _).symm
  | joined ls, lo, hi | ordered ls, lo, hi => withinAll_eq_all ls lo hi
  | compl l, lo, hi => within_eq_all l lo hi
theorem withinAll_eq_all : ∀ (ls : List Loc) (lo hi : Int),
    withinAll ls lo hi = (leavesList ls).all fun u => rangeWithin (leafSpan u).1 (leafSpan u).2 lo hi
  | [], _, _ => rfl
  | l :: ls, lo, hi => by rw [withinAll, leavesList, List.all_append, within_eq_all l, withinAll_eq_all ls]
end

mutual
theorem overlap_eq_any : ∀ (l : Loc) (lo hi : Int),
    overlap l lo hi = (leaves l).any fun u => rangeOverlap (leafSpan u).1 (leafSpan u).2 lo hi
  | between _, _, _ | point _, _, _ | ranged _ _ _ _, _, _ | ambiguous _ _, _, _ => (Bool.or_false _).symm
  | joined ls, lo, hi | ordered ls, lo, hi => overlapAny_eq_any ls lo hi
  | compl l, lo, hi => overlap_eq_any l lo hi
theorem overlapAny_eq_any : ∀ (ls : List Loc) (lo hi : Int),
    overlapAny ls lo hi = (leavesList ls).any fun u => rangeOverlap (leafSpan u).1 (leafSpan u).2 lo hi
  | [], _, _ => rfl
  | l :: ls, lo, hi => by rw [overlapAny, leavesList, List.any_append, overlap_eq_any l, overlapAny_eq_any ls]
end

/-- the oracle's in-bounds predicate, leaf-wise -/
theorem coordsWithin_eq (l : Loc) (L : Int) : coordsWithin l L = allLeaves (leafWithin L) l := by
  rw [allLeaves_eq_all]; rfl

end Loc
end Gts
