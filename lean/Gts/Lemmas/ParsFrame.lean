/-
  Three shapes that the location parsers are made of, under names of their own: a member of a `pars.Seq`
  ("`p`, or else `Pop` and fail"), the frame that `parseJoin`, `parseOrder` and `parseComplement` share with
  their flagged copies of Gts/Spec/ParseGuard.lean, and the frame "number, marker, number" of `parseBetween` and
  `parseAmbiguous`.  The judgement `Pars.Rel` (Gts/Lemmas/ParsRel.lean) and the run lemmas (Gts/Lemmas/LocRun.lean) have
  one rule per frame; the parsers are its instances (`*_succ`, `between_eq`, `ambiguous_eq` below).
-/
import Gts.Lemmas.ModText
import Gts.Spec.ParseGuard
import Gts.Model.Locator
namespace Gts
open Pars

namespace Pars

def orPop {α β} (p : P α) (g : α → β) : P β := do
  match ← attempt p with
  | some v => pure (g v)
  | none => do pop; fail

/-- `Push`, the keyword `kw` (`n` bytes), `body`, `)`, `Drop`; a failure of `body` itself does not `Pop` -/
def wrapped {α β} (n : Nat) (kw : Bytes) (body : P α) (mk : α → β) : P β := do
  push
  match ← attempt (request n) with
  | none => do pop; fail
  | some b => if b != kw then do pop; fail
  advanceN n
  let x ← body
  let c ← orPop next id
  if c != 41 then do pop; fail
  advance1
  drop
  pure (mk x)

end Pars

/-! The do-blocks of the parsers are these frames literally, up to the names of the auxiliary `match` functions
each definition was compiled to, which the elaborator does not unfold by itself. -/

namespace LocParse

theorem joinOf_succ (f : Nat) : joinOf (f + 1) = wrapped 5 (str "join(") (multiple f) Loc.join := by
  rw [joinOf]
  delta wrapped orPop wrapped.match_1 orPop.match_1 range.match_1 between.match_3
  rfl

theorem orderOf_succ (f : Nat) : orderOf (f + 1) = wrapped 6 (str "order(") (multiple f) Loc.order := by
  rw [orderOf]
  delta wrapped orPop wrapped.match_1 orPop.match_1 range.match_1 between.match_3
  rfl

theorem complementOf_succ (f : Nat) :
    complementOf (f + 1) = wrapped 11 (str "complement(") (orPop (loc f) id) Loc.complement := by
  rw [complementOf]
  delta wrapped orPop wrapped.match_1 orPop.match_1 range.match_1 between.match_3 multiple.match_1
  rfl

end LocParse

namespace LocParseG

theorem joinOf_succ (g : List Loc → Bool) (f : Nat) :
    joinOf g (f + 1) = wrapped 5 (str "join(") (multiple g f) fun ls => (Loc.join ls.1, ls.2 || g ls.1) := by
  rw [joinOf]
  delta wrapped orPop wrapped.match_1 orPop.match_1 joinOf.match_1 joinOf.match_3
  rfl

theorem orderOf_succ (g : List Loc → Bool) (f : Nat) :
    orderOf g (f + 1) = wrapped 6 (str "order(") (multiple g f) fun ls => (Loc.order ls.1, ls.2) := by
  rw [orderOf]
  delta wrapped orPop wrapped.match_1 orPop.match_1 joinOf.match_1 joinOf.match_3
  rfl

theorem complementOf_succ (g : List Loc → Bool) (f : Nat) :
    complementOf g (f + 1) =
      wrapped 11 (str "complement(") (orPop (loc g f) id) fun l => (l.1.complement, l.2) := by
  rw [complementOf]
  delta wrapped orPop wrapped.match_1 orPop.match_1 joinOf.match_1 joinOf.match_3 multiple.match_1
  rfl

end LocParseG

def Pars.numMarkNum {α} (m : UInt8) (g : Int → Int) (k : Int → Int → P α) : P α := do
  push
  let start ← orPop int g
  let c ← orPop next id
  if c != m then do pop; fail
  advance1
  let end_ ← orPop int id
  k start end_

namespace LocParse

theorem between_eq : between = numMarkNum 94 id (fun s e => do
    if s + 1 ≠ e then fail
    drop
    pure (.between s)) := by
  delta between numMarkNum orPop orPop.match_1 between.match_1 between.match_3
  rfl

theorem ambiguous_eq : ambiguous = numMarkNum 46 (· - 1) (fun s e => do
    drop
    pure (.ambiguous s e)) := by
  delta ambiguous numMarkNum orPop orPop.match_1 between.match_1 between.match_3
  rfl

end LocParse

open LocParse in
/-- `parseComplement(q)` of `tryLocation` is the keyword frame too -/
theorem complementWith_eq (inner : P Loc) :
    complementWith inner = wrapped 11 (str "complement(") (orPop inner id) Loc.complement := by
  rw [complementWith]
  delta wrapped orPop wrapped.match_1 orPop.match_1 complementWith.match_1 complementWith.match_3
    complementWith.match_5
  rfl

end Gts
