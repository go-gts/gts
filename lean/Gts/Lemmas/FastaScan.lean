/-
  C07, FASTA streams: the scan loop over `FastaParser` and the first `Scan` of `NewAutoScanner`
  (modelled fragment: input that does not begin with `LOCUS`) never report a panic, for every byte
  string.  On top of `fastaParse_run` (C17).  Core Lean only.
-/
import Gts.Lemmas.Fasta
import Gts.Lemmas.ParsSafe
namespace Gts.Fasta
open Gts.Pars

theorem run_push_then {α} (p : P α) (s : PS) :
    (do push; p : P α).run' s = p.run' ⟨s.rest, s.rest :: s.stk⟩ := by
  rw [run_bind, run_push]

theorem fastaParse_cases (s : PS) :
    (∃ a s', fastaParse.run' s = (.ok a, s')) ∨ fastaParse.run' s = (.error .fail, s) := by
  obtain ⟨t, stk⟩ := s
  rw [run'_eq, fastaParse_run]
  cases t with
  | nil => exact .inr rfl
  | cons c t' => by_cases h : (c == 62) = true <;> simp [h]

theorem fastaParse_ne_panic (s : PS) : (fastaParse.run' s).1 ≠ .error .panic := by
  rcases fastaParse_cases s with ⟨a, s', h⟩ | h <;> rw [h] <;> exact fun e => nomatch e

/-- the loop of `Scanner.Scan` over `FastaParser` ends regularly or with a plain error -/
theorem scanLoop_done : ∀ fuel s, ∃ rs c, scanLoop fuel s = .done rs c
  | 0, _ => ⟨[], false, rfl⟩
  | fuel + 1, s => by
    unfold scanLoop
    split
    · exact ⟨[], true, rfl⟩
    · rcases fastaParse_cases s with ⟨a, s', h⟩ | h <;> rw [h]
      · obtain ⟨rs, c, h1⟩ := scanLoop_done fuel s'
        exact ⟨a :: rs, c, by dsimp only; rw [h1]⟩
      · exact ⟨[], false, rfl⟩

theorem scanLoop_ne_panic (fuel : Nat) (s : PS) : scanLoop fuel s ≠ .panic := by
  obtain ⟨rs, c, h⟩ := scanLoop_done fuel s
  rw [h]; nofun

/-- `seqio.NewScanner(seqio.FastaParser, r)` and, on input that does not begin with `LOCUS`,
`seqio.NewAutoScanner(r)`: no panic, for every byte string -/
theorem scanAll_ne_panic (auto : Bool) (text : Bytes) : scanAll auto text ≠ .panic := by
  unfold scanAll
  cases auto with
  | false => exact scanLoop_ne_panic _ _
  | true =>
    show scanFirstAuto ⟨text, []⟩ ≠ .panic
    unfold scanFirstAuto
    split
    · nofun
    · split
      · nofun
      · -- the pushed first parse: a record, then the loop; or a plain failure
        rw [run_push_then, run_attempt]
        rcases fastaParse_cases ⟨text, [text]⟩ with ⟨a, s', h⟩ | h <;> rw [h]
        · obtain ⟨rs, c, h1⟩ := scanLoop_done ((drop.run' s').2.rest.length + 1) (drop.run' s').2
          dsimp only
          rw [h1]; nofun
        · nofun

end Gts.Fasta
