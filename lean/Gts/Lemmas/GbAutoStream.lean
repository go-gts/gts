/-
  The auto scanner on a WRITTEN GenBank stream that is followed by something else (C17): the first
  `Scan` reads the first record behind the scanner's own `Push` (`genbankParser_stack_indep_ok` turns
  C01's `read_write`, stated on the empty stack, into a statement about that state), every later
  `Scan` reads one written record from the empty stack, and the loop stops with an error at the first
  byte that does not begin a LOCUS line.
-/
import Gts.Lemmas.GbStackIndep
import Gts.Lemmas.GbReadWrite
import Gts.Lemmas.FastaAutoMixed
namespace Gts.Auto
open Gts.Pars
open Gts.GenBank (Record Registry genbankParser Writable LocRT learnTable readBack writeAll)

/-- the hypothesis of `GenBank.read_stream` on every record of a stream -/
def StreamOk (reg : Registry) (rs : List (Record × Bytes)) : Prop :=
  ∀ x ∈ rs, x.1.origin = .residues x.2 ∧ Writable reg x.1 x.2 = true ∧ (∀ f ∈ x.1.table, LocRT f.loc) ∧
    learnTable reg x.1.table = reg

/-- the GenBank loop on a written stream followed by `tail` (not empty, no LOCUS line): the records,
then an error -/
theorem gbLoop_written (reg : Registry) (tail : Bytes) (hne : tail.isEmpty = false)
    (hl : startsLocus tail = false) : ∀ (rs : List (Record × Bytes)), StreamOk reg rs →
    ∃ t, writeAll reg (rs.map (·.1)) = .ok t ∧ rs.length ≤ t.length ∧ ∀ fuel, rs.length < fuel →
      gbLoop fuel reg ⟨t ++ tail, []⟩ = .done (rs.map fun x => .gb (readBack reg x.1 x.2)) reg false
  | [], _ => ⟨[], rfl, Nat.le_refl _, fun fuel hf => by
      obtain ⟨k, rfl⟩ : ∃ k, fuel = k + 1 := ⟨fuel - 1, by omega⟩
      exact gbLoop_stops k reg ⟨tail, []⟩ hne hl⟩
  | x :: rs, hall => by
    obtain ⟨ho, hw, hloc, hstable⟩ := hall x (by simp)
    obtain ⟨t2, hw2, hl2, hp2⟩ := gbLoop_written reg tail hne hl rs (fun y hy => hall y (by simp [hy]))
    obtain ⟨t1, hw1, hne1, hp1⟩ := GenBank.read_write reg x.1 x.2 ho hw hloc (t2 ++ tail)
    rw [hstable] at hp1
    have hp1' : (genbankParser reg).run' ⟨t1 ++ (t2 ++ tail), []⟩ =
        (.ok (readBack reg x.1 x.2, reg), ⟨t2 ++ tail, []⟩) := hp1
    have h1 : 1 ≤ t1.length := by cases t1 with | nil => exact absurd rfl hne1 | cons _ _ => simp
    refine ⟨t1 ++ t2, by simp only [List.map_cons, writeAll, hw1, hw2]; rfl,
      by simp only [List.length_cons, List.length_append]; omega, fun fuel hf => ?_⟩
    obtain ⟨k, rfl⟩ : ∃ k, fuel = k + 1 := ⟨fuel - 1, by omega⟩
    have hne' : (PS.mk (t1 ++ t2 ++ tail) []).rest.isEmpty = false := by
      cases t1 with | nil => exact absurd rfl hne1 | cons _ _ => rfl
    unfold gbLoop
    rw [if_neg (by rw [hne']; exact Bool.false_ne_true), List.append_assoc, hp1']
    dsimp only
    rw [hp2 k (by simp only [List.length_cons] at hf; omega)]
    rfl

/-- **the auto scanner on a written GenBank stream followed by `tail`**: at least one record, `tail`
not empty and not beginning with `LOCUS` -/
theorem scanAll_written_then (reg : Registry) (x : Record × Bytes) (rs : List (Record × Bytes))
    (hall : StreamOk reg (x :: rs)) (tail : Bytes) (hne : tail.isEmpty = false)
    (hl : startsLocus tail = false) :
    ∃ t, writeAll reg ((x :: rs).map (·.1)) = .ok t ∧
      scanAll reg (t ++ tail) = .done ((x :: rs).map fun y => .gb (readBack reg y.1 y.2)) reg false := by
  obtain ⟨ho, hw, hloc, hstable⟩ := hall x (by simp)
  have hall' : StreamOk reg rs := fun y hy => hall y (by simp [hy])
  obtain ⟨t2, hw2, hl2, hp2⟩ := gbLoop_written reg tail hne hl rs hall'
  obtain ⟨t1, hw1, hne1, hp1⟩ := GenBank.read_write reg x.1 x.2 ho hw hloc (t2 ++ tail)
  rw [hstable] at hp1
  have hp1' : (genbankParser reg).run' ⟨t1 ++ (t2 ++ tail), []⟩ =
      (.ok (readBack reg x.1 x.2, reg), ⟨t2 ++ tail, []⟩) := hp1
  -- behind the scanner's `Push`
  have hpush := GenBank.genbankParser_stack_indep_ok reg (t1 ++ (t2 ++ tail)) [t1 ++ (t2 ++ tail)] _ _ hp1'
  refine ⟨t1 ++ t2, ?_, ?_⟩
  · simp only [List.map_cons, writeAll, hw1, hw2]; rfl
  · have hne' : (PS.mk (t1 ++ (t2 ++ tail)) []).rest.isEmpty = false := by
      cases t1 with | nil => exact absurd rfl hne1 | cons _ _ => rfl
    have := scanFirst_first_ok reg reg ⟨t1 ++ (t2 ++ tail), []⟩ ⟨t2 ++ tail, []⟩ (readBack reg x.1 x.2) hne' hpush
    unfold scanAll
    rw [List.append_assoc, this]
    show (gbLoop ((t2 ++ tail).length + 1) reg ⟨t2 ++ tail, []⟩).cons _ = _
    rw [hp2 _ (by simp only [List.length_append]; omega)]
    rfl

end Gts.Auto
