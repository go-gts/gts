/-
  Guest features of Insert/Embed/Concat: `Expand(0, k)` on non-negative coordinates is a
  translation by `k`.  Core Lean only.
-/
import Gts.Lemmas.Embed
namespace Gts
namespace Loc

mutual
/-- every coordinate is ≥ 0 -/
def nonneg : Loc → Bool
  | between p => decide (0 ≤ p)
  | point p => decide (0 ≤ p)
  | ranged s _ _ _ => decide (0 ≤ s)
  | ambiguous s _ => decide (0 ≤ s)
  | joined ls => nonnegList ls
  | ordered ls => nonnegList ls
  | compl l => nonneg l
def nonnegList : List Loc → Bool
  | [] => true
  | l :: ls => nonneg l && nonnegList ls
end

/-- the leaf form of `nonnegR`: like `nonneg` on a leaf, but a between-site may lie anywhere -/
def leafNonnegR : Loc → Bool
  | point p => decide (0 ≤ p)
  | ranged s _ _ _ => decide (0 ≤ s)
  | ambiguous s _ => decide (0 ≤ s)
  | _ => true

/-- every point, range and ambiguous span starts at a position `≥ 0` (decidable) -/
def nonnegR (l : Loc) : Bool := allLeaves leafNonnegR l

mutual
theorem nonneg_eq_allLeaves : ∀ l : Loc, nonneg l = allLeaves nonneg l
  | between _ | point _ | ranged .. | ambiguous .. => by simp only [allLeaves]
  | joined ls | ordered ls => by simpa [nonneg] using nonnegList_eq_allLeaves ls
  | compl l => by simpa [nonneg] using nonneg_eq_allLeaves l
theorem nonnegList_eq_allLeaves : ∀ ls : List Loc, nonnegList ls = allLeavesList nonneg ls
  | [] => by simp [nonnegList]
  | l :: ls => by simp [nonnegList, ← nonneg_eq_allLeaves l, ← nonnegList_eq_allLeaves ls]
end

theorem leafNonnegR_of_nonneg (u : Loc) (h : nonneg u = true) : leafNonnegR u = true := by
  cases u <;> first | exact h | rfl

theorem nonnegR_of_nonneg (l : Loc) (h : nonneg l = true) : allLeaves leafNonnegR l = true :=
  allLeaves_mono leafNonnegR_of_nonneg l (nonneg_eq_allLeaves l ▸ h)

theorem rangedExpand0_eq_rangedShift0 (s e : Int) (a b : Bool) (k : Int) (h : s < e) (h0 : 0 ≤ s) (hk : 0 ≤ k) :
    rangedExpand s e a b 0 k = rangedShift s e a b 0 k := by
  rw [rangedExpand_ins s e a b 0 k h hk, rangedShift_ins s e a b 0 k hk,
    if_neg (show ¬ (k ≠ 0 ∧ s < 0 ∧ 0 < e) by omega)]

theorem ambiguousExpand0_eq_ambiguousShift0 (s e k : Int) (h : s < e) (h0 : 0 ≤ s) (hk : 0 ≤ k) :
    ambiguousExpand s e 0 k = ambiguousShift s e 0 k := by
  rw [ambiguousExpand_ins s e 0 k h hk, ambiguousShift_ins s e 0 k hk,
    if_neg (show ¬ (k ≠ 0 ∧ s < 0 ∧ 0 < e) by omega)]

/-- `Expand(0, k)` and `Shift(0, k)` differ only on a range that spans the index: not on a leaf that
starts at a non-negative position, nor on a between-site -/
theorem expand0_eq_shift0_leaf (k : Int) (hk : 0 ≤ k) (u : Loc) (hu : isContig u = true)
    (hq : (wf u && leafNonnegR u) = true) : expand u 0 k = shift u 0 k := by
  obtain ⟨hw, hn⟩ := Bool.and_eq_true_iff.mp hq
  match u, hu, hw, hn with
  | between _, _, _, _ => rfl
  | point _, _, _, _ => rfl
  | ranged s e a b, _, hw, hn =>
      exact rangedExpand0_eq_rangedShift0 s e a b k (of_decide_eq_true hw) (of_decide_eq_true hn) hk
  | ambiguous s e, _, hw, hn =>
      exact ambiguousExpand0_eq_ambiguousShift0 s e k (of_decide_eq_true hw) (of_decide_eq_true hn) hk

/-- so they rebuild the same location and meet the same guard where every residue-bearing leaf is
non-negative -/
theorem expand0_shift0_congr (jg : List Loc → Bool) (l : Loc) (k : Int) (hw : wf l = true)
    (hn : allLeaves leafNonnegR l = true) (hk : 0 ≤ k) :
    tmap (expand · 0 k) false l = tmap (shift · 0 k) false l ∧
      tguard jg (expand · 0 k) false l = tguard jg (shift · 0 k) false l :=
  tmap_congr jg (expand0_eq_shift0_leaf k hk) l
    (by rw [allLeaves_and_eq, ← wf_eq_allLeaves, hw, hn]; rfl)

theorem expand0_eq_shift0R (l : Loc) (k : Int) (hw : wf l = true) (hn : allLeaves leafNonnegR l = true)
    (hk : 0 ≤ k) : expand l 0 k = shift l 0 k := by
  rw [(expand_eq_tmap 0 k l).1, (shift_eq_tmap 0 k l).1]
  exact (expand0_shift0_congr joinAbs l k hw hn hk).1

theorem shiftAbs0_eqR (l : Loc) (k : Int) (hw : wf l = true) (hn : allLeaves leafNonnegR l = true)
    (hk : 0 ≤ k) : shiftAbs l 0 k = expandAbs l 0 k := by
  rw [(expand_eq_tmap 0 k l).2.1, (shift_eq_tmap 0 k l).2.1]
  exact (expand0_shift0_congr joinAbs l k hw hn hk).2.symm

theorem shiftAbsList0_eqR : ∀ (ls : List Loc) (k : Int), wfList ls = true →
    allLeavesList leafNonnegR ls = true → 0 ≤ k → shiftAbsList ls 0 k = expandAbsList ls 0 k :=
  fun ls k hw hn hk => shiftAbs0_eqR (ordered ls) k hw hn hk

theorem shiftAbs0_eq (l : Loc) (k : Int) (hw : wf l = true) (hn : nonneg l = true) (hk : 0 ≤ k) :
    shiftAbs l 0 k = expandAbs l 0 k := shiftAbs0_eqR l k hw (nonnegR_of_nonneg l hn) hk

theorem shiftAbsList0_eq : ∀ (ls : List Loc) (k : Int), wfList ls = true → nonnegList ls = true →
    0 ≤ k → shiftAbsList ls 0 k = expandAbsList ls 0 k :=
  fun ls k hw hn hk => shiftAbs0_eq (ordered ls) k hw hn hk

/-- the residues of a location lie at non-negative positions when its residue-bearing leaves do -/
theorem den_nonnegR (l : Loc) (h : allLeaves leafNonnegR l = true) : ∀ p ∈ den l, 0 ≤ p.1 := by
  intro p hp
  obtain ⟨u, hu, h1, h2⟩ := den_span l p hp
  rw [allLeaves_eq_all, List.all_eq_true] at h
  have hq := h u hu
  cases u <;> simp [leafNonnegR, leafSpan] at hq h1 h2 <;> omega

theorem den_nonneg (l : Loc) (_ : wf l = true) (hn : nonneg l = true) : ∀ p ∈ den l, 0 ≤ p.1 :=
  den_nonnegR l (nonnegR_of_nonneg l hn)

theorem denList_nonneg : ∀ (ls : List Loc), wfList ls = true → nonnegList ls = true →
    ∀ p ∈ denList ls, 0 ≤ p.1 :=
  fun ls hw hn => den_nonneg (joined ls) hw hn

/-- **`Expand(0, k)` translates** every location whose residue-bearing leaves are non-negative
(the features of a piece `gts.Concat` appends; a between-site denotes no residue and may lie
anywhere: `Between.Reverse` is off by one, known finding K1) -/
theorem guest_translateR (l : Loc) (k : Int) (hw : wf l = true) (hn : nonnegR l = true) (hk : 0 ≤ k)
    (ha : expandAbs l 0 k = false) :
    den (expand l 0 k) ≼ mapPos (· + k) (den l) := by
  -- `Expand(0, k)` is `Shift(0, k)` here, and on positions `≥ 0` the insert map at 0 is the translation
  have h2 : mapPos (insMap 0 k) (den l) = mapPos (· + k) (den l) := by
    unfold mapPos
    apply List.map_congr_left
    intro p hp
    have := den_nonnegR l hn p hp
    simp only [insMap]
    rw [if_neg (by omega)]
  rw [expand0_eq_shift0R l k hw hn hk, ← h2]
  exact (shift_ins l 0 k hw hk).1 (by rw [shiftAbs0_eqR l k hw hn hk]; exact ha)

/-- Guest features are translated by the insertion index. -/
theorem guest_translate (l : Loc) (k : Int) (hw : wf l = true) (hn : nonneg l = true) (hk : 0 ≤ k)
    (ha : expandAbs l 0 k = false) :
    den (expand l 0 k) ≼ mapPos (· + k) (den l) :=
  guest_translateR l k hw (nonnegR_of_nonneg l hn) hk ha

end Loc
end Gts
