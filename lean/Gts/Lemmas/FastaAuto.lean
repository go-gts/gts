/-
  C17, auto-detection with the real GenBank reader (`Gts.Model.AutoScan`):
  * `GenBankParser` on input that does not begin with `LOCUS`: fails in place (`genbankParser_not_locus`);
  * the real first `Scan` on such input IS the stand-in `Gts.Fasta.scanFirstAuto` (`scanFirst_not_locus`);
  * the loops `gbLoop` / `faLoop`: what kind of record they return, where they stop, no panic, fuel.
  Built on the stable statements about the reader: `GenBank.scan_cases` (= `Gts.C07.genbankParser_nopanic` and
  `Gts.C07.genbankParser_consumes` as one case distinction), `lit_fail` (ParsRun).  Core Lean only.
-/
import Gts.Model.AutoScan
import Gts.Lemmas.FastaScan
import Gts.Lemmas.GbFuel
import Gts.Lemmas.ParsRun
namespace Gts.Auto
open Gts.Pars
open Gts.GenBank (Record Registry genbankParser locusParser locusTry locusBack bs)
open Gts.Fasta (fastaParse)

theorem bs_locus : bs "LOCUS" = [76, 79, 67, 85, 83] := by decide

theorem startsLocus_iff (t : Bytes) : startsLocus t = (bs "LOCUS").isPrefixOf t := by
  rw [GenBank.isPrefixOf_eq_take, bs_locus]
  cases h : startsLocus t with
  | false => exact (Bool.and_eq_false_iff.2 (.inl h)).symm
  | true =>
    have hl : min 5 t.length = 5 := List.length_take.symm.trans (congrArg List.length (beq_iff_eq.mp h))
    exact (Bool.and_eq_true_iff.2 ⟨h, decide_eq_true (by show 5 ≤ t.length; omega)⟩).symm

/-- `genbankLocusParser` fails at its first literal, pops its two frames and leaves the state
exactly as it found it -/
theorem locusParser_not_locus (s : PS) (h : startsLocus s.rest = false) :
    locusParser.run' s = (.error .fail, s) := by
  rw [startsLocus_iff] at h
  have hl := GenBank.lit_fail (bs "LOCUS") s.rest (s.rest :: s.rest :: s.stk) h
  unfold locusParser
  rw [Fasta.run_push_then, Fasta.run_push_then, run_bind]
  have ht : (locusTry (Pars.lit (bs "LOCUS"))).run' ⟨s.rest, s.rest :: s.rest :: s.stk⟩ =
      (.error .fail, s) := by
    unfold locusTry
    rw [run_bind, run_attempt]
    have hl' : (Pars.lit (bs "LOCUS")).run' ⟨s.rest, s.rest :: s.rest :: s.stk⟩ =
        (.error .fail, ⟨s.rest, s.rest :: s.rest :: s.stk⟩) := hl
    rw [hl']
    dsimp only
    unfold locusBack
    rw [run_bind, run_pop]; dsimp only
    rw [run_bind, run_pop]; dsimp only
    rfl
  rw [ht]

theorem genbankParser_not_locus (reg : Registry) (s : PS) (h : startsLocus s.rest = false) :
    (genbankParser reg).run' s = (.error .fail, s) := by
  unfold genbankParser
  rw [run_bind, locusParser_not_locus s h]

theorem cons_done (r : Rec) (rs : List Rec) (reg : Registry) (c : Bool) :
    (Out.done rs reg c).cons r = .done (r :: rs) reg c := rfl

theorem faLoop_eq (reg : Registry) : ∀ fuel (s : PS),
    ∃ rs c, Fasta.scanLoop fuel s = .done rs c ∧ faLoop fuel reg s = .done (faRecs rs) reg c
  | 0, _ => ⟨[], false, rfl, rfl⟩
  | fuel + 1, s => by
    unfold Fasta.scanLoop faLoop
    by_cases he : s.rest.isEmpty = true
    · rw [if_pos he, if_pos he]; exact ⟨[], true, rfl, rfl⟩
    · rw [if_neg he, if_neg he]
      rcases Fasta.fastaParse_cases s with ⟨a, s', hrun⟩ | hrun <;> rw [hrun]
      · obtain ⟨rs, c, h1, h2⟩ := faLoop_eq reg fuel s'
        dsimp only
        rw [h1, h2]
        exact ⟨a :: rs, c, rfl, rfl⟩
      · exact ⟨[], false, rfl, rfl⟩

/-- the first alternative of the real first `Scan` (`Push`; `GenBankParser`; `Pop`) on input that
does not begin with `LOCUS`: a plain failure, and the state is back where it was -/
theorem first_alternative_not_locus (reg : Registry) (s : PS) (h : startsLocus s.rest = false) :
    (do push; attempt (genbankParser reg) : P _).run' s = (.ok none, ⟨s.rest, s.rest :: s.stk⟩) ∧
      (pop.run' ⟨s.rest, s.rest :: s.stk⟩).2 = s := by
  constructor
  · rw [Fasta.run_push_then, run_attempt, genbankParser_not_locus reg ⟨s.rest, s.rest :: s.stk⟩ h]
  · rfl

/-- **the stand-in is a theorem of the real reader**: on a state whose input does not begin with
`LOCUS` the real first `Scan` (and everything after it) returns exactly what the stand-in model
`Gts.Fasta.scanFirstAuto` returns — FASTA records only, the registry untouched, never a panic,
never `unmodelled` -/
theorem scanFirst_not_locus (reg : Registry) (s : PS) (h : startsLocus s.rest = false) :
    ∃ rs c, Fasta.scanFirstAuto s = .done rs c ∧ scanFirst reg s = .done (faRecs rs) reg c := by
  unfold scanFirst Fasta.scanFirstAuto
  by_cases he : s.rest.isEmpty = true
  · rw [if_pos he, if_pos he]; exact ⟨[], true, rfl, rfl⟩
  · rw [if_neg he, if_neg he]
    have hl : ¬ (s.rest.take 5 == [76, 79, 67, 85, 83]) = true := fun e => Bool.false_ne_true (h.symm.trans e)
    rw [if_neg hl]
    obtain ⟨h1, h2⟩ := first_alternative_not_locus reg s h
    rw [h1]; dsimp only
    rw [h2]
    rw [Fasta.run_push_then, run_attempt]
    rcases Fasta.fastaParse_cases ⟨s.rest, s.rest :: s.stk⟩ with ⟨a, s', hrun⟩ | hrun <;> rw [hrun]
    · dsimp only
      obtain ⟨rs, c, h3, h4⟩ := faLoop_eq reg ((drop.run' s').2.rest.length + 1) (drop.run' s').2
      rw [h3, h4]
      exact ⟨a :: rs, c, rfl, rfl⟩
    · exact ⟨[], false, rfl, rfl⟩

theorem scanAll_not_locus (reg : Registry) (text : Bytes) (h : startsLocus text = false) :
    ∃ rs c, Fasta.scanAll true text = .done rs c ∧ scanAll reg text = .done (faRecs rs) reg c :=
  scanFirst_not_locus reg ⟨text, []⟩ h

theorem gbLoop_done : ∀ fuel (reg : Registry) (s : PS), Sorted s.rest.length s.stk →
    ∃ rs rg c, gbLoop fuel reg s = .done rs rg c ∧ rs.all Rec.isGb = true
  | 0, reg, _, _ => ⟨[], reg, false, rfl, rfl⟩
  | fuel + 1, reg, s, hs => by
    unfold gbLoop
    split
    · exact ⟨[], reg, true, rfl, rfl⟩
    · rcases GenBank.scan_cases reg s hs with ⟨rec, reg', s', hrun, hsort, _⟩ | ⟨s', hrun⟩ <;> rw [hrun]
      · obtain ⟨rs, rg, c, h1, h2⟩ := gbLoop_done fuel reg' s' hsort
        dsimp only
        rw [h1]
        exact ⟨.gb rec :: rs, rg, c, rfl, by simpa [Rec.isGb] using h2⟩
      · exact ⟨[], reg, false, rfl, rfl⟩

theorem faLoop_all_fa (reg : Registry) (fuel : Nat) (s : PS) :
    ∃ rs c, faLoop fuel reg s = .done rs reg c ∧ rs.all Rec.isFa = true := by
  obtain ⟨rs, c, _, h⟩ := faLoop_eq reg fuel s
  refine ⟨_, c, h, ?_⟩
  simp [faRecs, Rec.isFa]

/-- **the GenBank loop stops at whatever is not a LOCUS line**: with input left that does not
begin with `LOCUS` (a FASTA record, for one) the next `Scan` returns false, `Err()` is not `nil`,
and nothing was consumed or registered -/
theorem gbLoop_stops (fuel : Nat) (reg : Registry) (s : PS) (hne : s.rest.isEmpty = false)
    (h : startsLocus s.rest = false) : gbLoop (fuel + 1) reg s = .done [] reg false := by
  unfold gbLoop
  rw [if_neg (by rw [hne]; exact Bool.false_ne_true), genbankParser_not_locus reg s h]

/-- the fuel `len + 1` of the GenBank loop is adequate: a returned record consumed its LOCUS
keyword, so any two fuels above the number of bytes left give the same result -/
theorem gbLoop_fuel : ∀ k k' (reg : Registry) (s : PS), Sorted s.rest.length s.stk →
    s.rest.length < k → s.rest.length < k' → gbLoop k reg s = gbLoop k' reg s
  | 0, _, _, _, _, h, _ => absurd h (Nat.not_lt_zero _)
  | _ + 1, 0, _, _, _, _, h => absurd h (Nat.not_lt_zero _)
  | k + 1, k' + 1, reg, s, hs, hk, hk' => by
    unfold gbLoop
    split
    · rfl
    · rcases GenBank.scan_cases reg s hs with ⟨rec, reg', s', hrun, hsort, hc⟩ | ⟨s', hrun⟩
      · rw [hrun]
        dsimp only
        rw [gbLoop_fuel k k' reg' s' hsort (by omega) (by omega)]
      · rw [hrun]

end Gts.Auto
