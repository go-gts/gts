/-
  Outer partial markers under `Reverse` (they swap ends), `Shift` and `Expand` with `n ≥ 0`
  (Insert / Embed, the translation step of Rotate: unchanged) and `Normalize` (the second step of
  Rotate: unchanged) — every kind and arity: the four contiguous kinds here, the rest through
  `tmap_marks` (`Gts/Lemmas/TreeMap.lean`).
-/
import Gts.Lemmas.MarksPush
import Gts.Lemmas.Reverse
import Gts.Lemmas.Shift
import Gts.Lemmas.Embed
import Gts.Lemmas.Normalize
import Gts.Lemmas.Guest
namespace Gts
namespace Loc

mutual
/-- the markers read in mirrored order with every leaf swapped: the markers, swapped -/
theorem mfold_mswap : ∀ l : Loc, mfold (fun u => mswap (marks u)) true l = mswap (marks l)
  | between _ | point _ | ranged _ _ _ _ | ambiguous _ _ => by simp only [mfold]
  | joined ls => by rw [mfold, marks_joined, mfoldList_mswap ls]
  | ordered ls => by rw [mfold, marks_ordered, mfoldList_mswap ls]
  | compl l => by rw [mfold, marks_compl, mfold_mswap l]
theorem mfoldList_mswap : ∀ ls : List Loc,
    mfoldList (fun u => mswap (marks u)) true ls = mswap (marksList ls)
  | [] => by simp [mfoldList]
  | l :: ls => by
      rw [mfoldList, marksList_cons, mswap_mcomb, mfold_mswap l, mfoldList_mswap ls]; rfl
end

theorem reverse_marks_leaf (L : Int) (u : Loc) (hu : isContig u = true) (_ : rwf u = true)
    (hw : wf u = true) : marks (reverse u L) = mswap (marks u) ∧ rwf (reverse u L) = true :=
  ⟨match u, hu, hw with
    | between _, _, _ | point _, _, _ | ambiguous _ _, _, _ => by simp [reverse]
    | ranged s e a b, _, hw => by
        have h : s < e := of_decide_eq_true hw
        have h' : L - e < L - s := by omega
        simp [reverse, rangedReverse, h, h'],
   rwf_of_wf _ (reverse_leafSpec L u hu hw rfl).2⟩

theorem reverse_marks_aux (l : Loc) (L : Int) (hw : wf l = true) (hk : reverseMarkAbs l L = false) :
    marks (reverse l L) = mswap (marks l) := by
  rw [(reverse_eq_tmap L l).2.2] at hk
  rw [(reverse_eq_tmap L l).1, ← mfold_mswap l]
  exact (tmap_marks (reverse_marks_leaf L) l (rwf_of_wf l hw) (wf_eq_allLeaves l ▸ hw)).1 hk

theorem reverseList_marks_aux : ∀ (ls : List Loc) (L : Int), wfList ls = true →
    reverseMarkAbsList ls L = false →
    marksList (reverseList ls L).reverse = mswap (marksList ls) :=
  fun ls L hw hk => (order_marks _).symm.trans (reverse_marks_aux (ordered ls) L hw hk)

theorem marks_betweenExpand (p i n : Int) : marks (betweenExpand p i n) = none := by
  simp [betweenExpand]

theorem marks_pointExpand_ins (p i n : Int) (hn : 0 ≤ n) : marks (pointExpand p i n) = some (false, false) := by
  rw [pointExpand_ins p i n hn]
  rfl

theorem marks_rangedShift_ins (s e : Int) (a b : Bool) (i n : Int) (h : s < e) (hn : 0 ≤ n) :
    marks (rangedShift s e a b i n) = some (a, b) := by
  rw [rangedShift_ins s e a b i n hn]
  split
  · rename_i hs
    have h1 : i + n < e + n := by omega
    simp [hs.2.1, h1, mcomb]
  · simp [ins_lt i n s e hn h]

theorem marks_ambiguousShift_ins (s e i n : Int) (hn : 0 ≤ n) :
    marks (ambiguousShift s e i n) = some (false, false) := by
  rw [ambiguousShift_ins s e i n hn]
  split <;> simp [mcomb]

theorem marks_rangedExpand_ins (s e : Int) (a b : Bool) (i n : Int) (h : s < e) (hn : 0 ≤ n) :
    marks (rangedExpand s e a b i n) = some (a, b) := by
  rw [rangedExpand_ins s e a b i n h hn]
  simp [ins_lt i n s e hn h]

theorem marks_ambiguousExpand_ins (s e i n : Int) (h : s < e) (hn : 0 ≤ n) :
    marks (ambiguousExpand s e i n) = some (false, false) := by
  rw [ambiguousExpand_ins s e i n h hn]
  simp

theorem shift_marks_leaf (i n : Int) (hn : 0 ≤ n) (u : Loc) (hu : isContig u = true)
    (_ : rwf u = true) (hw : wf u = true) : marks (shift u i n) = marks u ∧ rwf (shift u i n) = true :=
  ⟨match u, hu, hw with
    | between p, _, _ => marks_betweenExpand p i n
    | point p, _, _ => marks_pointExpand_ins p i n hn
    | ranged s e a b, _, hw =>
        have h : s < e := of_decide_eq_true hw
        (marks_rangedShift_ins s e a b i n h hn).trans (marks_ranged_wf s e a b h).symm
    | ambiguous s e, _, _ => marks_ambiguousShift_ins s e i n hn,
   rwf_of_wf _ (shift_leafSpec i n hn u hu hw rfl).2⟩

theorem shift_marks_aux (l : Loc) (i n : Int) (hw : wf l = true) (hn : 0 ≤ n)
    (hk : shiftMarkAbs l i n = false) : marks (shift l i n) = marks l := by
  rw [(shift_eq_tmap i n l).2.2] at hk
  rw [(shift_eq_tmap i n l).1, ← mfold_marks l]
  exact (tmap_marks (shift_marks_leaf i n hn) l (rwf_of_wf l hw) (wf_eq_allLeaves l ▸ hw)).1 hk

theorem shiftList_marks_aux : ∀ (ls : List Loc) (i n : Int), wfList ls = true → 0 ≤ n →
    shiftMarkAbsList ls i n = false → marksList (shiftList ls i n) = marksList ls :=
  fun ls i n hw hn hk => (order_marks _).symm.trans (shift_marks_aux (ordered ls) i n hw hn hk)

theorem expand_ins_marks_leaf (i n : Int) (hn : 0 ≤ n) (u : Loc) (hu : isContig u = true)
    (_ : rwf u = true) (hw : wf u = true) : marks (expand u i n) = marks u ∧ rwf (expand u i n) = true :=
  ⟨match u, hu, hw with
    | between p, _, _ => marks_betweenExpand p i n
    | point p, _, _ => marks_pointExpand_ins p i n hn
    | ranged s e a b, _, hw =>
        have h : s < e := of_decide_eq_true hw
        (marks_rangedExpand_ins s e a b i n h hn).trans (marks_ranged_wf s e a b h).symm
    | ambiguous s e, _, hw => marks_ambiguousExpand_ins s e i n (of_decide_eq_true hw) hn,
   rwf_of_wf _ (expand_ins_leafSpec i n hn u hu hw rfl).2⟩

theorem expand_ins_marks_aux (l : Loc) (i n : Int) (hw : wf l = true) (hn : 0 ≤ n)
    (hk : expandMarkAbs l i n = false) : marks (expand l i n) = marks l := by
  rw [(expand_eq_tmap i n l).2.2] at hk
  rw [(expand_eq_tmap i n l).1, ← mfold_marks l]
  exact (tmap_marks (expand_ins_marks_leaf i n hn) l (rwf_of_wf l hw) (wf_eq_allLeaves l ▸ hw)).1 hk

theorem expandList_ins_marks_aux : ∀ (ls : List Loc) (i n : Int), wfList ls = true → 0 ≤ n →
    expandMarkAbsList ls i n = false → marksList (expandList ls i n) = marksList ls :=
  fun ls i n hw hn hk => (order_marks _).symm.trans (expand_ins_marks_aux (ordered ls) i n hw hn hk)

theorem marks_rangedNormalize (s e : Int) (a b : Bool) (L : Int) (hL : 0 < L) (hs : 0 ≤ s) (h : s < e) :
    marks (rangedNormalize s e a b L) = some (a, b) ∧ rwf (rangedNormalize s e a b L) = true := by
  have hr1 := Int.emod_lt_of_pos s hL
  have he0 : 0 < (e - 1) % L + 1 := Int.lt_add_one_of_le (Int.emod_nonneg (e - 1) (Int.ne_of_gt hL))
  rw [rangedNormalize_cases s e a b L hL hs h]
  split
  · simp [hL, rwf]
  · split
    · rename_i hc; simp [hc, rwf]
    · simp [hr1, he0, mcomb, rwf]

theorem normalize_marks_leaf (L : Int) (hL : 0 < L) (u : Loc) (hu : isContig u = true)
    (hw : rwf u = true) (hnn : nonneg u = true) :
    marks (normalize u L) = marks u ∧ rwf (normalize u L) = true :=
  match u, hu, hw, hnn with
  | between _, _, _, _ | point _, _, _, _ | ambiguous _ _, _, _, _ => by simp [normalize, rwf]
  | ranged s e a b, _, hw, hnn => by
      have h : s < e := of_decide_eq_true hw
      have := marks_rangedNormalize s e a b L hL (of_decide_eq_true hnn) h
      simp [normalize, this.1, this.2, h]

theorem normalize_marks_aux (l : Loc) (L : Int) (hL : 0 < L) (hw : rwf l = true)
    (hnn : nonneg l = true) :
    (normalizeMarkAbs l L = false → marks (normalize l L) = marks l) ∧ rwf (normalize l L) = true := by
  rw [(normalize_eq_tmap L l).1, (normalize_eq_tmap L l).2.2, ← mfold_marks l]
  exact tmap_marks (normalize_marks_leaf L hL) l hw (nonneg_eq_allLeaves l ▸ hnn)

theorem normalizeList_marks_aux : ∀ (ls : List Loc) (L : Int), 0 < L → rwfList ls = true →
    nonnegList ls = true →
    (normalizeMarkAbsList ls L = false → marksList (normalizeList ls L) = marksList ls) ∧
    rwfList (normalizeList ls L) = true := by
  intro ls L hL hw hnn
  rw [(normalizeList_eq_tmap L ls).1, (normalizeList_eq_tmap L ls).2.2, ← mfoldList_marks ls]
  exact tmapList_marks (rev := false) (normalize_marks_leaf L hL) ls hw (nonnegList_eq_allLeaves ls ▸ hnn)

theorem outerMarks_of_marks {a b : Loc} (h : marks a = marks b) : outerMarks a = outerMarks b := by
  rw [outerMarks_eq, outerMarks_eq, h]

theorem outerMarks_of_marks_swap {a b : Loc} (h : marks a = mswap (marks b)) :
    outerMarks a = ((outerMarks b).2, (outerMarks b).1) := by
  rw [outerMarks_eq, outerMarks_eq, h]
  cases marks b <;> rfl

end Loc
end Gts
