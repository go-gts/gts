/-
  Helper lemmas for the locator theorems of C08: the `@` split, printed modifiers contain no
  `@`, strings that cannot be modifiers, `parseRange` and `tryLocation` on printed points and ranges
  (from the run lemmas of Lemmas/LocRun.lean).  Core Lean only.
-/
import Gts.Lemmas.LocRun
import Gts.Model.Locator
namespace Gts
open Pars Pars.Run ModParse LocParse

theorem splitAt_noAt (s : Bytes) (h : (64 : UInt8) ∉ s) : splitAt s = (s, none) := by
  induction s with
  | nil => rfl
  | cons c r ih =>
    simp only [List.mem_cons, not_or] at h
    simp only [splitAt, ih h.2]
    rw [if_neg (fun hc => h.1 hc.symm)]

theorem splitAt_at (x y : Bytes) (h : (64 : UInt8) ∉ x) : splitAt (x ++ 64 :: y) = (x, some y) := by
  induction x with
  | nil => simp [splitAt]
  | cons c r ih =>
    simp only [List.mem_cons, not_or] at h
    simp only [List.cons_append, splitAt, ih h.2]
    rw [if_neg (fun hc => h.1 hc.symm)]

theorem natDigits_noAt (k : Nat) : (64 : UInt8) ∉ natDigits k := by
  intro h
  have := (natDigits_spec k).2.1
  rw [List.all_eq_true] at this
  exact isDigit_ne _ 64 (this _ h) (by decide) rfl

theorem fmtPlus_noAt (n : Int) : (64 : UInt8) ∉ fmtPlus n := by
  unfold fmtPlus
  intro h
  rcases List.mem_cons.mp h with h | h
  · split at h <;> revert h <;> decide
  · exact natDigits_noAt _ h

theorem printB_noAt (m : Mod) : (64 : UInt8) ∉ m.printB := by
  have hm : ∀ (c : UInt8) (p : Int), c ≠ 64 → (64 : UInt8) ∉ (if p = 0 then [c] else c :: fmtPlus p) := by
    intro c p hc
    split <;> simp [Ne.symm hc, fmtPlus_noAt]
  cases m <;> simp [Mod.printB, Mod.headB, Mod.tailB, hm]

/-- all five alternatives of `parseModifier` start with `parseHead` or `parseTail` -/
theorem asModifier_of_rejects {s : Bytes} (h1 : Rejects parseHead s) (h2 : Rejects parseTail s) :
    asModifier s = .error .fail := by
  have : Rejects parseModifier s := fun stk => by
    unfold parseModifier parseHeadTail parseHeadHead parseTailTail
    rw [anyOf_cons_of_rejects ((h1.seq3 _ _).mapP _), anyOf_cons_of_rejects ((h1.seq3 _ _).mapP _),
      anyOf_cons_of_rejects ((h2.seq3 _ _).mapP _), anyOf_cons_of_rejects (h1.map _),
      anyOf_cons_of_rejects (h2.map _), anyOf_nil]
  exact congrArg Prod.fst (this.exact [])

/-- a string that does not start with `^` or `$` is not a modifier -/
theorem asModifier_err_of_first (c : UInt8) (r : Bytes) (h1 : c ≠ 94) (h2 : c ≠ 36) :
    asModifier (c :: r) = .error .fail :=
  asModifier_of_rejects (parseMark_rejects 94 (by simpa using h1)) (parseMark_rejects 36 (by simpa using h2))

theorem asModifier_nil : asModifier [] = .error .fail :=
  asModifier_of_rejects (parseMark_rejects 94 (by simp)) (parseMark_rejects 36 (by simp))

theorem asModifier_natDigits (n : Nat) (r : Bytes) : asModifier (natDigits n ++ r) = .error .fail := by
  obtain ⟨d, ds, h3, hd⟩ := natDigits_cons n
  rw [h3]
  exact asModifier_err_of_first d _ (isDigit_ne d 94 hd (by decide)) (isDigit_ne d 36 hd (by decide))

theorem range_natDigits (a b : Nat) (hfa : a ≤ 9223372036854775807) (hfb : b ≤ 9223372036854775807) :
    Reads LocParse.range (natDigits a ++ 46 :: 46 :: natDigits b) (.ranged ((a : Int) - 1) b false false) [] := by
  intro stk
  have h := range_from false a (46 :: 46 :: natDigits b) stk
  have h1 := rangeFrom_run false false a b [] (natDigits a ++ 46 :: 46 :: natDigits b) stk hfa
  have h2 := rangeEnd_run ((a : Int) - 1) false false b [] (natDigits a ++ 46 :: 46 :: natDigits b) stk hfb rfl
    (fun _ h => nomatch h)
  simp only [Bool.false_eq_true, if_false, List.nil_append, List.append_nil] at h h1 h2
  rw [h, h1, h2]

/-- on a digit `parseComplement` is out: `parseRange` and `parsePoint` remain -/
theorem tryLoc_natDigits (fuel n : Nat) (r : Bytes) (stk : List Bytes) :
    tryLoc (fuel + 1) ⟨natDigits n ++ r, stk⟩ =
      anyOf [LocParse.range, LocParse.point] ⟨natDigits n ++ r, stk⟩ := by
  obtain ⟨d, ds, h3, hd⟩ := natDigits_cons n
  rw [tryLoc, h3, List.cons_append,
    anyOf_cons_of_rejects (complementWith_other _ d _ (isDigit_ne d 99 hd (by decide)))]

theorem tryLoc_point (fuel n : Nat) (r : Bytes) (stk : List Bytes)
    (hf : n ≤ 9223372036854775807) (hr : r.dropWhile isDigit = r) (h2 : r.take 2 ≠ [46, 46]) :
    tryLoc (fuel + 1) ⟨natDigits n ++ r, stk⟩ = (.ok (.point ((n : Int) - 1)), ⟨r, stk⟩) := by
  rw [tryLoc_natDigits]
  exact Runs.anyOf_skip (range_num_fail n r hf hr h2) (.anyOf_ok (point_natDigits n r hf hr) _) stk

/-- `tryLocation` accepts what its parser reads iff nothing is left over (`pars.Exact`) -/
theorem tryLocation_of_ok {s r : Bytes} {l : Loc}
    (h : ∀ fuel stk, tryLoc (fuel + 1) ⟨s, stk⟩ = (.ok l, ⟨r, stk⟩)) :
    tryLocation s = if r = [] then .ok l else .error .fail := by
  show (ModParse.exact (tryLoc (s.length + 1 + 1)) ⟨s, []⟩).1 = _
  rw [exact_of_ok (h _)]
  split <;> rfl

theorem tryLocation_point (n : Nat) (hf : n ≤ 9223372036854775807) :
    tryLocation (natDigits n) = .ok (.point ((n : Int) - 1)) := by
  have := tryLocation_of_ok fun fuel stk => tryLoc_point fuel n [] stk hf rfl (by simp)
  rwa [List.append_nil] at this

theorem tryLocation_range (a b : Nat) (hfa : a ≤ 9223372036854775807) (hfb : b ≤ 9223372036854775807) :
    tryLocation (natDigits a ++ 46 :: 46 :: natDigits b) = .ok (.ranged ((a : Int) - 1) b false false) :=
  tryLocation_of_ok fun fuel stk => by
    rw [tryLoc_natDigits]
    exact Runs.anyOf_ok (range_natDigits a b hfa hfb) _ stk
end Gts
