/-
  C07: `AsDate` reads back every date stamp the GenBank writer prints, never panics, and
  `isLeapYear` is the Gregorian rule.
-/
import Gts.Model.Date
import Gts.Lemmas.ModText
namespace Gts.Date
open Pars

theorem splitDash_ne_nil (a : Bytes) : splitDash a ≠ [] := by
  cases a with
  | nil => simp [splitDash]
  | cons c r =>
    unfold splitDash
    split
    · simp
    · split <;> simp

theorem splitDash_nodash (a : Bytes) (h : (45 : UInt8) ∉ a) : splitDash a = [a] := by
  induction a with
  | nil => rfl
  | cons c r ih =>
    have hc : c ≠ 45 := fun e => h (e ▸ List.mem_cons_self ..)
    have hr : (45 : UInt8) ∉ r := fun m => h (List.mem_cons_of_mem _ m)
    unfold splitDash
    rw [if_neg hc, ih hr]

theorem splitDash_append (a r : Bytes) (h : (45 : UInt8) ∉ a) :
    splitDash (a ++ 45 :: r) = a :: splitDash r := by
  induction a with
  | nil => simp [splitDash]
  | cons c a ih =>
    have hc : c ≠ 45 := fun e => h (e ▸ List.mem_cons_self ..)
    have ha : (45 : UInt8) ∉ a := fun m => h (List.mem_cons_of_mem _ m)
    rw [List.cons_append, splitDash, if_neg hc, ih ha]

/-- the number of parts is the number of `-` plus one -/
theorem splitDash_length (a : Bytes) : (splitDash a).length = a.count 45 + 1 := by
  induction a with
  | nil => rfl
  | cons c r ih =>
    unfold splitDash
    by_cases hc : c = 45
    · subst hc; simp [ih]
    · rw [if_neg hc]
      have : List.count 45 (c :: r) = List.count 45 r := by
        rw [List.count_cons]; simp [hc]
      rw [this, ← ih]
      cases h : splitDash r with
      | nil => exact absurd h (splitDash_ne_nil r)
      | cons p ps => rfl

theorem digits_nodash (ds : Bytes) (h : ds.all isDigit = true) : (45 : UInt8) ∉ ds := by
  intro hm
  have := List.all_eq_true.mp h 45 hm
  revert this; decide

theorem digitsVal_zero_cons (ds : Bytes) : digitsVal (48 :: ds) = digitsVal ds := by
  simp [digitsVal]

theorem digitsVal_pad (k : Nat) (ds : Bytes) : digitsVal (List.replicate k 48 ++ ds) = digitsVal ds := by
  induction k with
  | zero => rfl
  | succ k ih => rw [List.replicate_succ, List.cons_append, digitsVal_zero_cons, ih]

theorem all_pad (k : Nat) (ds : Bytes) (h : ds.all isDigit = true) :
    (List.replicate k 48 ++ ds).all isDigit = true := by
  rw [List.all_append, h, Bool.and_true, List.all_eq_true]
  intro x hx
  rw [List.eq_of_mem_replicate hx]; decide

theorem padZero_spec (w n : Nat) (hn : n ≤ 9223372036854775807) :
    atoi (padZero w (natDigits n)) = some (n : Int) ∧ (45 : UInt8) ∉ padZero w (natDigits n) := by
  obtain ⟨h1, h2, d, ds, h3, _⟩ := natDigits_spec n
  have hall := all_pad (w - (natDigits n).length) _ h2
  refine ⟨?_, digits_nodash _ hall⟩
  have hval : digitsVal (padZero w (natDigits n)) = n := by
    unfold padZero; rw [digitsVal_pad, h1]
  have := atoi_digits (padZero w (natDigits n)) (by unfold padZero; rw [h3]; simp) hall
    (by rw [hval]; exact hn)
  rw [this, hval]

theorem month_names : ∀ i : Fin 12,
    monthOf (monthNames.getD i.1 []) = some (i.1 + 1) ∧ (45 : UInt8) ∉ monthNames.getD i.1 [] := by
  decide +kernel

theorem mem_of_lookup {α β} [BEq α] [LawfulBEq α] (l : List (α × β)) (k : α) (v : β)
    (h : l.lookup k = some v) : (k, v) ∈ l := by
  obtain ⟨l₁, l₂, rfl, _⟩ := List.lookup_eq_some_iff.mp h
  exact List.mem_append_right _ (List.mem_cons_self ..)

theorem monthOf_range (s : Bytes) (m : Nat) (h : monthOf s = some m) : 1 ≤ m ∧ m ≤ 12 := by
  have hall : ∀ p ∈ monthTable, 1 ≤ p.2 ∧ p.2 ≤ 12 := by decide +kernel
  exact hall _ (mem_of_lookup _ _ _ h)

/-- `AsDate` never panics: the index expressions `parts[0..2]` are guarded by the length test -/
theorem asDate_nopanic (s : Bytes) : asDate s ≠ .error .panic := by
  unfold asDate
  dsimp only
  split
  · intro h; cases h
  · rename_i hlen
    have hlen : (splitDash s).length = 3 := Decidable.of_not_not hlen
    match hs : splitDash s, hlen with
    | [a, b, c], _ =>
      simp only [List.getElem?_cons_zero, List.getElem?_cons_succ]
      repeat' split
      all_goals first | (intro h; cases h; done) | skip
      all_goals simp_all

/-- what `AsDate` accepts is a calendar date -/
theorem asDate_valid (s : Bytes) (d : DateV) (h : asDate s = .ok d) : validDate d := by
  unfold asDate at h
  dsimp only at h
  repeat' split at h
  all_goals first | (cases h; done) | skip
  rename_i hm _ _ _ hc
  injection h with h
  subst h
  exact ⟨(monthOf_range _ _ hm).1, (monthOf_range _ _ hm).2, hc⟩

theorem checkDate_day (y : Int) (m : Nat) (d : Int) (h : checkDate y m d = true) : 1 ≤ d ∧ d ≤ 31 := by
  unfold checkDate at h
  cases hl : dayTable.lookup m with
  | none => rw [hl] at h; cases h
  | some dayMax =>
    rw [hl] at h
    have hall : ∀ p ∈ dayTable, p.2 ≤ 31 ∧ (p.1 = 2 → p.2 = 28) := by decide +kernel
    have hmax := hall _ (mem_of_lookup _ _ _ hl)
    dsimp only at h hmax
    split at h
    · cases h
    · split at h
      · rename_i hf
        simp only [Bool.and_eq_true, decide_eq_true_eq] at hf
        have := hmax.2 hf.1
        split at h
        · cases h
        · omega
      · split at h
        · cases h
        · omega

theorem asDate_fmtDate (d : DateV) (hv : validDate d) (hy0 : 0 ≤ d.year)
    (hy1 : d.year ≤ 9223372036854775807) : asDate (fmtDate d) = .ok d := by
  obtain ⟨hm1, hm12, hc⟩ := hv
  obtain ⟨hd1, hd31⟩ := checkDate_day _ _ _ hc
  obtain ⟨y, m, dd⟩ := d
  dsimp only at *
  obtain ⟨hday, hdayND⟩ := padZero_spec 2 dd.natAbs (by omega)
  obtain ⟨hyear, hyearND⟩ := padZero_spec 4 y.natAbs (by omega)
  have hmon := month_names ⟨m - 1, by omega⟩
  dsimp only at hmon
  rw [show m - 1 + 1 = m by omega] at hmon
  have hday' : (dd.natAbs : Int) = dd := by omega
  have hyear' : (y.natAbs : Int) = y := by omega
  have hfy : fmtYear y = padZero 4 (natDigits y.natAbs) := by
    unfold fmtYear; rw [if_neg (by omega)]
  have hsplit : splitDash (fmtDate ⟨y, m, dd⟩) =
      [padZero 2 (natDigits dd.natAbs), monthNames.getD (m - 1) [], padZero 4 (natDigits y.natAbs)] := by
    unfold fmtDate
    dsimp only
    rw [splitDash_append _ _ hdayND, splitDash_append _ _ hmon.2, hfy, splitDash_nodash _ hyearND]
  unfold asDate
  simp only [hsplit, List.length_cons, List.length_nil, ne_eq, not_true_eq_false, if_false,
    List.getElem?_cons_zero, List.getElem?_cons_succ, hday, hmon.1, hyear, hday', hyear', hc, if_true]

/-- `isLeapYear` is the Gregorian rule: divisible by 4, and by 400 if divisible by 100 -/
theorem isLeapYear_gregorian (y : Int) :
    isLeapYear y = true ↔ (4 ∣ y ∧ (¬ 100 ∣ y ∨ 400 ∣ y)) := by
  unfold isLeapYear
  simp only [← Int.dvd_iff_tmod_eq_zero]
  split
  · rename_i h400
    simp only [true_iff]
    exact ⟨Int.dvd_trans ⟨100, rfl⟩ h400, .inr h400⟩
  · rename_i h400
    split
    · rename_i h100
      simp only [Bool.false_eq_true, false_iff]
      exact fun ⟨_, h⟩ => h.elim (· h100) h400
    · rename_i h100
      simp only [decide_eq_true_eq]
      exact ⟨fun h => ⟨h, .inl h100⟩, (·.1)⟩

end Gts.Date
