/-
  Helper lemmas for C18 (alphabet operations, Search, Match).  No property statements here.
-/
import Gts.Model.Nuc
import Gts.Spec.Iupac
namespace Gts.Nuc
open Gts Gts.Reg Gts.Iupac

/-- a statement about every byte follows from its 256 instances (decided in the kernel) -/
theorem forall_uint8 {P : UInt8 → Prop} (h : ∀ n, n < 256 → P (UInt8.ofNat n)) : ∀ c : UInt8, P c := by
  intro c
  have := h c.toNat c.toNat_lt
  simpa using this

theorem indexByte_eq_none {old : List UInt8} {c : UInt8} (h : c ∉ old) : indexByte old c = none := by
  induction old with
  | nil => rfl
  | cons x xs ih =>
    rw [indexByte, if_neg (by simpa using Ne.symm (List.ne_of_not_mem_cons h)),
      ih (List.not_mem_of_not_mem_cons h)]; rfl

theorem indexByte_lt {old : List UInt8} {c : UInt8} {j : Nat} (h : indexByte old c = some j) :
    j < old.length := by
  induction old generalizing j with
  | nil => cases h
  | cons x xs ih =>
    rw [indexByte] at h
    split at h
    · cases h; exact Nat.zero_lt_succ _
    · cases hi : indexByte xs c with
      | none => rw [hi] at h; cases h
      | some i => rw [hi] at h; cases h; exact Nat.succ_lt_succ (ih hi)

theorem replaceByte_of_not_mem {old : List UInt8} (new : List UInt8) {c : UInt8} (h : c ∉ old) :
    replaceByte old new c = some c := by
  rw [replaceByte, indexByte_eq_none h]

theorem complementByte_of_not_mem {c : UInt8} (h : c ∉ Gen.complementFrom) : complementByte c = c := by
  rw [complementByte, replaceByte_of_not_mem _ h]; rfl

theorem transcribeByte_of_not_mem {c : UInt8} (h : c ∉ Gen.transcribeFrom) : transcribeByte c = c := by
  rw [transcribeByte, replaceByte_of_not_mem _ h]; rfl

/-- Both operations replace the same 26 bytes and fix every other byte: a statement about all 256
byte values is evaluated on the alphabet, and outside it only a fixed byte is left to consider. -/
theorem byte_cases {P : UInt8 → Prop} (hin : ∀ c ∈ Gen.complementFrom, P c)
    (hout : ∀ c, c ∉ Gen.complementFrom → complementByte c = c → transcribeByte c = c → P c)
    (c : UInt8) : P c :=
  if h : c ∈ Gen.complementFrom then hin c h
  else hout c h (complementByte_of_not_mem h) (transcribeByte_of_not_mem h)

theorem mem_letters : ∀ c : UInt8, isLetter c = true ↔ c ∈ letters := fun c =>
  ⟨forall_uint8 (P := fun c => isLetter c = true → c ∈ letters) (by decide +kernel) c,
    (by decide +kernel : ∀ c ∈ letters, isLetter c = true) c⟩

/-- what the IUPAC code asks of Complement (`rna = false`) and of Transcribe (`rna` at A, a): the
letter of the same case for the complementary base set; any other byte stays -/
def iupacComplement (rna : Bool) (c : UInt8) : UInt8 :=
  if isLetter c then letterOf (complementSet (baseSet c)) (isUpper c) rna else c

/-- the letters the code's alphabets leave out (S, W, N) denote self-complementary sets -/
theorem iupacComplement_of_not_mem (rna : Bool) {c : UInt8} (h : c ∉ Gen.complementFrom) :
    iupacComplement rna c = c := by
  unfold iupacComplement
  split
  next hl =>
    exact (by decide +kernel : ∀ c ∈ letters, c ∉ Gen.complementFrom → ∀ rna,
      letterOf (complementSet (baseSet c)) (isUpper c) rna = c) c ((mem_letters c).1 hl) h rna
  next => rfl

/-- the table of `Complement` is the specification: evaluated once, on its 26 entries -/
theorem complementByte_eq : ∀ c : UInt8, complementByte c = iupacComplement false c :=
  byte_cases (by decide +kernel) fun c hc h _ => by rw [h, iupacComplement_of_not_mem false hc]

/-- the table of `Transcribe` is the specification, with U for the complement of A -/
theorem transcribeByte_eq : ∀ c : UInt8, transcribeByte c = iupacComplement (c = 65 ∨ c = 97) c :=
  byte_cases (by decide +kernel) fun c hc _ h => by rw [h, iupacComplement_of_not_mem _ hc]

theorem iupacComplement_letters : ∀ c ∈ letters,
    isLetter (iupacComplement false c) = true ∧
    baseSet (iupacComplement false c) = complementSet (baseSet c) ∧
    isUpper (iupacComplement false c) = isUpper c ∧
    iupacComplement false (iupacComplement false c) = (if c = 85 then 84 else if c = 117 then 116 else c) ∧
    iupacComplement false c ≠ 85 ∧ iupacComplement false c ≠ 117 := by
  decide +kernel

theorem complementByte_of_not_letter {c : UInt8} (h : isLetter c = false) : complementByte c = c := by
  rw [complementByte_eq, iupacComplement, h]; rfl

/-- complementing twice gives the byte back, except that U comes back as T (U → A → T) -/
theorem complementByte_complementByte (c : UInt8) :
    complementByte (complementByte c) = if c = 85 then 84 else if c = 117 then 116 else c := by
  cases hl : isLetter c
  · rw [complementByte_of_not_letter hl, complementByte_of_not_letter hl, if_neg, if_neg] <;>
      (rintro rfl; cases hl)
  · rw [complementByte_eq, complementByte_eq]
    exact (iupacComplement_letters c ((mem_letters c).1 hl)).2.2.2.1

theorem complementByte_ne_U (c : UInt8) : complementByte c ≠ 85 ∧ complementByte c ≠ 117 := by
  cases hl : isLetter c
  · rw [complementByte_of_not_letter hl]; constructor <;> (rintro rfl; cases hl)
  · rw [complementByte_eq]; exact (iupacComplement_letters c ((mem_letters c).1 hl)).2.2.2.2

theorem replaceByte_isSome {old new : List UInt8} (h : old.length ≤ new.length) (c : UInt8) :
    (replaceByte old new c).isSome = true := by
  unfold replaceByte
  cases hi : indexByte old c with
  | none => rfl
  | some j =>
    show (new[j]?).isSome = true
    rw [List.getElem?_eq_getElem (Nat.lt_of_lt_of_le (indexByte_lt hi) h)]; rfl

/-- the `switch` of `Match`: a clause is chosen only by one of its own keys -/
theorem lookupCase_eq_some {cases : List (List UInt8 × List UInt8)} {c : UInt8} {t : List UInt8}
    (h : lookupCase cases c = some t) : ∃ ks, (ks, t) ∈ cases ∧ c ∈ ks := by
  induction cases with
  | nil => cases h
  | cons kt rest ih =>
    obtain ⟨ks, t'⟩ := kt
    rw [lookupCase] at h
    split at h
    next hc => cases h; exact ⟨ks, List.mem_cons_self, List.contains_iff_mem.1 hc⟩
    next => obtain ⟨ks', hm, hc⟩ := ih h; exact ⟨ks', List.mem_cons_of_mem _ hm, hc⟩

theorem replaceBytes_eq_map (p old new : List UInt8)
    (h : ∀ c, (replaceByte old new c).isSome = true) :
    replaceBytes p old new = some (p.map fun c => (replaceByte old new c).getD c) := by
  induction p with
  | nil => rfl
  | cons c cs ih =>
    have hc := h c
    cases hr : replaceByte old new c with
    | none => rw [hr] at hc; cases hc
    | some x => simp [replaceBytes, hr, ih]

/-- `Complement` never panics in `replaceBytes` (the two alphabets have matching positions) and
acts byte by byte -/
theorem complementBytes_eq_map (p : List UInt8) : complementBytes p = some (p.map complementByte) :=
  replaceBytes_eq_map p _ _ (replaceByte_isSome (by decide))

theorem transcribeBytes_eq_map (p : List UInt8) : transcribeBytes p = some (p.map transcribeByte) :=
  replaceBytes_eq_map p _ _ (replaceByte_isSome (by decide))

theorem replaceBytes_length (p old new q : List UInt8) (h : replaceBytes p old new = some q) :
    q.length = p.length := by
  induction p generalizing q with
  | nil => cases h; rfl
  | cons c cs ih =>
    rw [replaceBytes] at h
    split at h
    · next xs _ hs => cases h; rw [List.length_cons, ih xs hs, List.length_cons]
    · cases h

/-- the `w` bytes of `s` starting at offset `i` -/
def window (s : List UInt8) (i w : Nat) : List UInt8 := (s.drop i).take w

/-- two byte strings of equal length related position by position -/
def pointwise (rel : UInt8 → UInt8 → Bool) : List UInt8 → List UInt8 → Bool
  | [], [] => true
  | q :: qs, c :: cs => rel q c && pointwise rel qs cs
  | _, _ => false

theorem pointwise_congr (r1 r2 : UInt8 → UInt8 → Bool) (qs ss : List UInt8)
    (h : ∀ q ∈ qs, ∀ s ∈ ss, r1 q s = r2 q s) : pointwise r1 qs ss = pointwise r2 qs ss := by
  induction qs generalizing ss with
  | nil => cases ss <;> rfl
  | cons q qs ih =>
    cases ss with
    | nil => rfl
    | cons s ss =>
      simp only [pointwise]
      rw [h q (by simp) s (by simp), ih ss (fun a ha b hb => h a (by simp [ha]) b (by simp [hb]))]

/-- `lowerByte` on the numeric value: upper-case letters move up by 32, no wrap-around -/
theorem toNat_lowerByte (c : UInt8) :
    (lowerByte c).toNat = if isUpper c then c.toNat + 32 else c.toNat := by
  have h : (65 ≤ c ∧ c ≤ 90) ↔ isUpper c = true := by
    simp [isUpper, UInt8.le_iff_toNat_le]
  by_cases hu : isUpper c = true
  · have : c.toNat ≤ 90 := by simp [isUpper] at hu; exact hu.2
    rw [lowerByte, if_pos (h.2 hu), if_pos hu, UInt8.toNat_add]
    exact Nat.mod_eq_of_lt (by simp only [UInt8.reduceToNat]; omega)
  · rw [lowerByte, if_neg (mt h.1 hu), if_neg hu]

theorem toLower_length (p : List UInt8) : (toLower p).length = p.length := by simp [toLower]

theorem pattern_length (q : List UInt8) : (pattern q).length = q.length := by
  simp [pattern, toLower]

theorem toLower_window (s : List UInt8) (i w : Nat) : toLower (window s i w) = window (toLower s) i w := by
  simp [toLower, window, List.map_take, List.map_drop]

theorem mem_window {s : List UInt8} {i w : Nat} {c : UInt8} (h : c ∈ window s i w) : c ∈ s :=
  List.mem_of_mem_drop (List.mem_of_mem_take h)

/-- per-position acceptance of `Match`: pattern position of the (lower-cased) query byte against
the (lower-cased) sequence byte -/
def posMatch (q s : UInt8) : Bool := (patOf (lowerByte q)).accepts (lowerByte s)

theorem matchAt_pattern (q t : List UInt8) :
    matchAt (pattern q) (toLower t) = true ↔
      q.length ≤ t.length ∧ pointwise posMatch q (t.take q.length) = true := by
  induction q generalizing t with
  | nil => simp [pattern, toLower, matchAt, pointwise]
  | cons a q ih =>
    cases t with
    | nil => simp [pattern, toLower, matchAt]
    | cons c t =>
      have := ih t
      simp only [pattern, toLower, List.map_cons, matchAt, List.length_cons, List.take_succ_cons,
        pointwise, Bool.and_eq_true] at this ⊢
      rw [this]
      simp only [posMatch]
      constructor
      · rintro ⟨h1, h2, h3⟩; exact ⟨by omega, h1, h3⟩
      · rintro ⟨h1, h2, h3⟩; exact ⟨h2, by omega, h3⟩

theorem scan_sound (pat : List Pat) (s : List UInt8) (pos skip : Nat) :
    ∀ a ∈ scan pat s pos skip, ∃ j, a = pos + j ∧ skip ≤ j ∧ j < s.length ∧ matchAt pat (s.drop j) = true := by
  induction s generalizing pos skip with
  | nil => simp [scan]
  | cons c cs ih =>
    intro a ha
    -- what the scan of the tail reports lies one byte further in
    have tail : ∀ k, skip ≤ k + 1 → a ∈ scan pat cs (pos + 1) k →
        ∃ j, a = pos + j ∧ skip ≤ j ∧ j < (c :: cs).length ∧ matchAt pat ((c :: cs).drop j) = true := by
      intro k hk ha
      obtain ⟨j, rfl, h1, h2, h3⟩ := ih (pos + 1) k a ha
      exact ⟨j + 1, by omega, by omega, by simp; omega, by simpa using h3⟩
    cases skip with
    | succ k => exact tail k (Nat.le_refl _) (by simpa only [scan] using ha)
    | zero =>
      simp only [scan] at ha
      split at ha
      next hm =>
        rcases List.mem_cons.1 ha with rfl | ha
        · exact ⟨0, by omega, by omega, by simp, by simpa using hm⟩
        · exact tail _ (Nat.zero_le _) ha
      next hm => exact tail _ (Nat.zero_le _) ha

/-- every offset (beyond the skipped prefix) at which the pattern matches lies inside a
reported window -/
theorem scan_complete (pat : List Pat) (hp : 0 < pat.length) (s : List UInt8) (pos skip : Nat) :
    ∀ j, skip ≤ j → j < s.length → matchAt pat (s.drop j) = true →
      ∃ a ∈ scan pat s pos skip, a ≤ pos + j ∧ pos + j < a + pat.length := by
  induction s generalizing pos skip with
  | nil => intro j _ h; simp at h
  | cons c cs ih =>
    intro j hj hlt hm
    -- a match behind the first byte is reported by the scan of the tail, whatever that scan skips (up to `j - 1`)
    have tail : ∀ k, k + 1 ≤ j → ∃ a ∈ scan pat cs (pos + 1) k, a ≤ pos + j ∧ pos + j < a + pat.length := by
      intro k hk
      obtain ⟨j', rfl⟩ : ∃ j', j = j' + 1 := ⟨j - 1, by omega⟩
      obtain ⟨a, ha, h1, h2⟩ := ih (pos + 1) k j' (by omega) (by simpa using hlt) (by simpa using hm)
      exact ⟨a, ha, by omega, by omega⟩
    cases skip with
    | succ k => simpa [scan] using tail k hj
    | zero =>
      simp only [scan]
      split
      next hhead =>
        by_cases hw : j < pat.length
        · exact ⟨pos, by simp, by omega, by omega⟩
        · obtain ⟨a, ha, hb⟩ := tail (pat.length - 1) (by omega)
          exact ⟨a, by simp [ha], hb⟩
      next hhead =>
        cases j with
        | zero => simp at hm; exact absurd hm hhead
        | succ j' => exact tail 0 (by omega)

theorem scan_pairwise (pat : List Pat) (hp : 0 < pat.length) (s : List UInt8) (pos skip : Nat) :
    (scan pat s pos skip).Pairwise (fun a b => a + pat.length ≤ b) := by
  induction s generalizing pos skip with
  | nil => simp [scan]
  | cons c cs ih =>
    cases skip with
    | succ k => simpa [scan] using ih (pos + 1) k
    | zero =>
      simp only [scan]
      split
      next hm =>
        refine List.pairwise_cons.2 ⟨?_, ih _ _⟩
        intro b hb
        obtain ⟨j, rfl, h1, _, _⟩ := scan_sound pat cs (pos + 1) (pat.length - 1) b hb
        omega
      next hm => exact ih _ _

theorem mem_occ (sep s : List UInt8) (pos i : Nat) :
    i ∈ occ sep s pos ↔ ∃ j, i = pos + j ∧ j < s.length ∧ sep.isPrefixOf (s.drop j) = true := by
  induction s generalizing pos with
  | nil => simp [occ]
  | cons c cs ih =>
    have key : i ∈ occ sep (c :: cs) pos ↔
        (sep.isPrefixOf (c :: cs) = true ∧ i = pos) ∨ i ∈ occ sep cs (pos + 1) := by
      simp only [occ]
      split <;> simp [*]
    rw [key, ih]
    constructor
    · rintro (⟨h, rfl⟩ | ⟨j, rfl, h1, h2⟩)
      · exact ⟨0, by omega, by simp, by simpa using h⟩
      · exact ⟨j + 1, by omega, by simp; omega, by simpa using h2⟩
    · rintro ⟨j, rfl, h1, h2⟩
      cases j with
      | zero => exact Or.inl ⟨by simpa using h2, by omega⟩
      | succ j' => exact Or.inr ⟨j', by omega, by simpa using h1, by simpa using h2⟩

theorem occ_pairwise (sep s : List UInt8) (pos : Nat) : (occ sep s pos).Pairwise (· < ·) := by
  induction s generalizing pos with
  | nil => simp [occ]
  | cons c cs ih =>
    simp only [occ]
    split
    · refine List.pairwise_cons.2 ⟨?_, ih _⟩
      intro b hb
      obtain ⟨j, rfl, _⟩ := (mem_occ sep cs (pos + 1) b).1 hb
      omega
    · exact ih _

theorem isPrefixOf_drop_iff (sep s : List UInt8) (j : Nat) :
    sep.isPrefixOf (s.drop j) = true ↔ (j + sep.length ≤ s.length ∨ sep = []) ∧ window s j sep.length = sep := by
  rw [List.isPrefixOf_iff_prefix, List.prefix_iff_eq_take]
  unfold window
  constructor
  · intro h
    refine ⟨?_, h.symm⟩
    have := congrArg List.length h
    simp at this
    cases sep with
    | nil => exact Or.inr rfl
    | cons a t => left; simp at this ⊢; omega
  · rintro ⟨_, h⟩; exact h.symm

/-! ### sort.Sort(BySegment(…)) on ascending windows of one width is the identity -/

theorem segLess_toSeg (w a b : Nat) : segLess (toSeg w a) (toSeg w b) = decide (a < b) := by
  have h1 : ¬ (((a + w : Nat) : Int) < (a : Int)) := by omega
  have h2 : ¬ (((b + w : Nat) : Int) < (b : Int)) := by omega
  simp only [segLess, toSeg, h1, h2, if_false, Int.ofNat_lt]
  split
  · simp [*]
  · split <;> simp <;> omega

theorem sortSegs_toSeg (w : Nat) (l : List Nat) (h : l.Pairwise (· < ·)) :
    sortSegs (l.map (toSeg w)) = l.map (toSeg w) := by
  induction l with
  | nil => rfl
  | cons x xs ih =>
    have hx := List.pairwise_cons.1 h
    simp only [List.map_cons, sortSegs]
    rw [ih hx.2]
    cases xs with
    | nil => rfl
    | cons y ys =>
      have : ¬ (y < x) := by have := hx.1 y (by simp); omega
      simp [insertSeg, segLess_toSeg, this]

theorem pairwise_lt_of_windows {w : Nat} (hw : 0 < w) {l : List Nat}
    (h : l.Pairwise (fun a b => a + w ≤ b)) : l.Pairwise (· < ·) :=
  h.imp (fun {a b} hab => by omega)

theorem matchSegs_eq (seq query : List UInt8) (hs : seq ≠ []) (hq : query ≠ []) :
    matchSegs seq query = (matchStarts seq query).map (toSeg query.length) := by
  have h1 : ¬ (seq.length = 0 ∨ query.length = 0) := by
    simp [List.length_eq_zero_iff, hs, hq]
  have hp : 0 < (pattern query).length := by
    rw [pattern_length]; exact List.length_pos_iff.2 hq
  unfold matchSegs matchStarts
  rw [if_neg h1, sortSegs_toSeg _ _ (pairwise_lt_of_windows hp (scan_pairwise _ hp _ _ _)), pattern_length]

theorem search_eq (seq query : List UInt8) (hs : seq ≠ []) (hq : query ≠ []) :
    search seq query = (occ (toLower query) (toLower seq) 0).map (toSeg query.length) := by
  have h1 : ¬ (seq.length = 0 ∨ query.length = 0) := by
    simp [List.length_eq_zero_iff, hs, hq]
  have h2 : toLower query ≠ [] := by simpa [toLower] using hq
  unfold search
  rw [if_neg h1]
  simp only [indexAll, if_neg h2]
  rw [sortSegs_toSeg _ _ (occ_pairwise _ _ _), toLower_length]

theorem toSeg_inj {w a b : Nat} (h : toSeg w a = toSeg w b) : a = b := by
  unfold toSeg at h
  have := congrArg Prod.fst h
  simp at this
  omega

end Gts.Nuc
