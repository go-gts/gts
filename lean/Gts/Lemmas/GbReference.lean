/-
  C01 helper lemmas: REFERENCE blocks — number, padding, info line, and the sub-fields AUTHORS,
  CONSRTM, TITLE, JOURNAL, PUBMED, REMARK read by `pars.Any` over six `Map`ped alternatives.
-/
import Gts.Lemmas.GbSource
namespace Gts.GenBank
open Gts.Pars

/-- a sub-field value: no carriage return, not starting with a blank (the indent is counted up to
the first non-blank) -/
def subValueOk (v : Bytes) : Bool := noCR v && v.head? != some 32

theorem addPrefix_head (e : Eol) (pre v X : Bytes) (h : v.head? ≠ some 32) :
    ∀ c, (tr e (addPrefix pre v) ++ (e.bytes ++ X)).head? = some c → c ≠ 32 :=
  tr_addPrefix_head e pre v X (by decide) (by decide) fun _ hc h32 => h (h32 ▸ hc)

theorem refSub_ok (e : Eol) (n : String) (a b : Nat) (v more : Bytes) (stk : List Bytes) (stale : Nat)
    (ha : 0 < a) (hb : 0 < b) (hab : a + (bs n).length + b = 12)
    (hn : ∀ X c, (bs n ++ X).head? = some c → c ≠ 32)
    (hv : subValueOk v = true) (hmore : (sp 12).isPrefixOf more = false) :
    refSub n 12 stale ⟨sp a ++ (bs n ++ (sp b ++ (tr e (addPrefix (sp 12) v) ++ (e.bytes ++ more)))), stk⟩ =
      (.ok v, ⟨more, stk⟩) := by
  simp only [subValueOk, Bool.and_eq_true, bne_iff_ne, ne_eq] at hv
  have h1 := fun s => blankWord_ok a (bs n ++ (sp b ++ (tr e (addPrefix (sp 12) v) ++ (e.bytes ++ more)))) s ha (hn _)
  have h2 := fun s => blankWord_ok b (tr e (addPrefix (sp 12) v) ++ (e.bytes ++ more)) s hb
    (addPrefix_head e _ _ _ hv.2)
  have hbody := fun s => fieldBody_addPrefix e 12 v more s hv.1 hmore
  unfold refSub
  apply mapped_ok
  have ha0 : ¬ a = 0 := by omega
  gsimp [subfieldName, h1, lit_ok, h2, sp_length, hab, hbody, ha0]

theorem refSub_other (n : String) (a : Nat) (X : Bytes) (stk : List Bytes) (stale : Nat) (ha : 0 < a)
    (hX : ∀ c, X.head? = some c → c ≠ 32) (hne : (bs n).isPrefixOf X = false) :
    refSub n 12 stale ⟨sp a ++ X, stk⟩ = (.error .fail, ⟨sp a ++ X, stk⟩) := by
  have h1 := fun s => blankWord_ok a X s ha hX
  unfold refSub
  apply mapped_fail (r := X)
  have hsp : ¬ (sp a).length = 0 := by rw [sp_length]; omega
  gsimp [subfieldName, h1, hsp, lit_fail _ _ _ hne]

theorem refSub_stop (n : String) (X : Bytes) (stk : List Bytes) (stale : Nat)
    (hX : ∀ c, X.head? = some c → (c == 32) = false) (hne : (bs n).isPrefixOf X = false) :
    refSub n 12 stale ⟨X, stk⟩ = (.error .fail, ⟨X, stk⟩) := by
  have h1 := fun s => word_fail (· == 32) X s hX
  unfold refSub
  apply mapped_fail (r := X)
  by_cases h0 : stale = 0
  · gsimp [subfieldName, h1, h0]
  · gsimp [subfieldName, h1, h0, lit_fail _ _ _ hne]

theorem refAlts_skip (stale : Nat) (r : Reference) (x : String × (Reference → Bytes → Reference))
    (alts : List (String × (Reference → Bytes → Reference))) (inp fr : Bytes) (stk : List Bytes)
    (h : refSub x.1 12 stale ⟨inp, fr :: stk⟩ = (.error .fail, ⟨inp, fr :: stk⟩)) :
    refAlts 12 stale r (x :: alts) ⟨inp, fr :: stk⟩ = refAlts 12 stale r alts ⟨inp, fr :: stk⟩ := by
  obtain ⟨n, set⟩ := x
  gsimp [refAlts, h]

theorem refAlts_hit (stale : Nat) (r : Reference) (x : String × (Reference → Bytes → Reference))
    (alts : List (String × (Reference → Bytes → Reference))) (inp fr more b : Bytes) (stk : List Bytes)
    (h : refSub x.1 12 stale ⟨inp, fr :: stk⟩ = (.ok b, ⟨more, fr :: stk⟩)) :
    refAlts 12 stale r (x :: alts) ⟨inp, fr :: stk⟩ = (.ok (x.2 r b, b.length), ⟨more, stk⟩) := by
  obtain ⟨n, set⟩ := x
  gsimp [refAlts, h]

theorem refAlts_nil (stale : Nat) (r : Reference) (inp fr : Bytes) (stk : List Bytes) :
    refAlts 12 stale r [] ⟨inp, fr :: stk⟩ = (.error .fail, ⟨fr, stk⟩) := by
  gsimp [refAlts]

/-- what must follow a REFERENCE block: no blank, none of the six sub-field names -/
def refStop (more : Bytes) : Bool :=
  more.head? != some 32 && refAltList.all fun x => !(bs x.1).isPrefixOf more

theorem refAlts_allfail (stale : Nat) (r : Reference) (alts : List (String × (Reference → Bytes → Reference)))
    (more fr : Bytes) (stk : List Bytes) (hX : ∀ c, more.head? = some c → (c == 32) = false)
    (h : ∀ x ∈ alts, (bs x.1).isPrefixOf more = false) :
    refAlts 12 stale r alts ⟨more, fr :: stk⟩ = (.error .fail, ⟨fr, stk⟩) := by
  induction alts with
  | nil => exact refAlts_nil stale r more fr stk
  | cons x alts ih =>
    rw [refAlts_skip stale r x alts more fr stk (refSub_stop x.1 more _ stale hX (h x (by simp)))]
    exact ih (fun y hy => h y (by simp [hy]))

theorem refSubfield_stop (stale : Nat) (r : Reference) (more : Bytes) (stk : List Bytes)
    (h : refStop more = true) :
    refSubfield 12 stale r ⟨more, stk⟩ = (.error .fail, ⟨more, stk⟩) := by
  simp only [refStop, Bool.and_eq_true, bne_iff_ne, ne_eq, List.all_eq_true, Bool.not_eq_true'] at h
  obtain ⟨h0, hall⟩ := h
  have hX : ∀ c, more.head? = some c → (c == 32) = false := by
    intro c hc'; rw [hc'] at h0; simpa using h0
  simp only [refSubfield, P.bind_run, push, getS, setS]
  exact refAlts_allfail stale r refAltList more more stk hX hall

end Gts.GenBank

namespace Gts.GenBank
open Gts.Pars

theorem refAlts_reach (e : Eol) (stale : Nat) (r : Reference)
    (pre : List (String × (Reference → Bytes → Reference))) (x : String × (Reference → Bytes → Reference))
    (post : List (String × (Reference → Bytes → Reference))) (a b : Nat) (v more fr : Bytes) (stk : List Bytes)
    (ha : 0 < a) (hb : 0 < b) (hab : a + (bs x.1).length + b = 12)
    (hn : ∀ X c, (bs x.1 ++ X).head? = some c → c ≠ 32)
    (hv : subValueOk v = true) (hmore : (sp 12).isPrefixOf more = false)
    (hpre : ∀ y ∈ pre, ∀ Z, (bs y.1).isPrefixOf (bs x.1 ++ Z) = false) :
    refAlts 12 stale r (pre ++ x :: post)
        ⟨sp a ++ (bs x.1 ++ (sp b ++ (tr e (addPrefix (sp 12) v) ++ (e.bytes ++ more)))), fr :: stk⟩ =
      (.ok (x.2 r v, v.length), ⟨more, stk⟩) := by
  induction pre with
  | nil =>
    exact refAlts_hit stale r x post _ fr more v stk (refSub_ok e x.1 a b v more _ stale ha hb hab hn hv hmore)
  | cons y pre ih =>
    rw [List.cons_append, refAlts_skip stale r y _ _ fr stk
      (refSub_other y.1 a _ _ stale ha (hn _) (hpre y (by simp) _))]
    exact ih (fun z hz => hpre z (by simp [hz]))

/-- the six sub-fields: index into `refAltList`, blanks in front of and behind the name -/
structure SubLine where
  idx : Fin 6
  v : Bytes

def refNames : List String := ["AUTHORS", "CONSRTM", "TITLE", "JOURNAL", "PUBMED", "REMARK"]

def slotA (i : Fin 6) : Nat := if i.1 = 4 then 3 else 2
def slotB (i : Fin 6) : Nat := match i.1 with | 2 => 5 | 5 => 4 | _ => 3
def slotName (i : Fin 6) : String := refNames.getD i.1 ""
def slotSet (i : Fin 6) : Reference → Bytes → Reference :=
  match i.1 with
  | 0 => fun r b => { r with authors := b }
  | 1 => fun r b => { r with group := b }
  | 2 => fun r b => { r with title := b }
  | 3 => fun r b => { r with journal := b }
  | 4 => fun r b => { r with pubmed := some b }
  | _ => fun r b => { r with comment := b }

/-- the line(s) of one sub-field as they stand in the file -/
def subLineText (l : SubLine) : Bytes :=
  sp (slotA l.idx) ++ (bs (slotName l.idx) ++ (sp (slotB l.idx) ++ (addPrefix (sp 12) l.v ++ [10])))

/-- the line(s) of one sub-field in a file with the line end `e` -/
def subLineTextE (e : Eol) (l : SubLine) : Bytes :=
  sp (slotA l.idx) ++ (bs (slotName l.idx) ++ (sp (slotB l.idx) ++ (tr e (addPrefix (sp 12) l.v) ++ e.bytes)))

def differ : Bytes → Bytes → Bool
  | c :: d :: _, c' :: d' :: _ => c != c' || d != d'
  | _, _ => false

theorem slot_table : ∀ i : Fin 6,
    (0 < slotA i ∧ 0 < slotB i ∧ slotA i + (bs (slotName i)).length + slotB i = 12 ∧
      (bs (slotName i)).head? ≠ some 32 ∧ (bs (slotName i)).head? ≠ none) ∧
    ∀ j : Fin 6, j.1 < i.1 → differ (bs (slotName j)) (bs (slotName i)) = true := by
  decide +kernel

theorem slotName_head (i : Fin 6) : ∃ c t, bs (slotName i) = c :: t ∧ c ≠ 32 := by
  obtain ⟨⟨_, _, _, h32, hnone⟩, _⟩ := slot_table i
  cases hb : bs (slotName i) with
  | nil => rw [hb] at hnone; exact absurd rfl hnone
  | cons c t => rw [hb] at h32; exact ⟨c, t, rfl, by simpa using h32⟩

theorem slot_split (i : Fin 6) :
    refAltList = refAltList.take i.1 ++ (slotName i, slotSet i) :: refAltList.drop (i.1 + 1) ∧
    ∀ y ∈ refAltList.take i.1, ∃ j : Fin 6, j.1 < i.1 ∧ y.1 = slotName j := by
  constructor
  · obtain ⟨n, hn⟩ := i
    have : n = 0 ∨ n = 1 ∨ n = 2 ∨ n = 3 ∨ n = 4 ∨ n = 5 := by omega
    rcases this with rfl | rfl | rfl | rfl | rfl | rfl <;> rfl
  · -- a statement about the names alone, which can be compared
    have names : ∀ i : Fin 6, ∀ nm ∈ refNames.take i.1, ∃ j : Fin 6, j.1 < i.1 ∧ nm = slotName j := by
      decide +kernel
    intro y hy
    refine names i y.1 ?_
    rw [show refNames = refAltList.map (·.1) from rfl, ← List.map_take]
    exact List.mem_map_of_mem hy

theorem prefix_mismatch (p q : Bytes) (Z : Bytes) (h : differ p q = true) : p.isPrefixOf (q ++ Z) = false := by
  match p, q, h with
  | c :: d :: t, c' :: d' :: t', h =>
    simp only [differ, Bool.or_eq_true, bne_iff_ne, ne_eq] at h
    rcases h with h | h
    · have : (c == c') = false := by simpa using h
      simp [List.isPrefixOf, this]
    · have : (d == d') = false := by simpa using h
      simp [List.isPrefixOf, this]

theorem refSubfield_line (e : Eol) (l : SubLine) (stale : Nat) (r : Reference) (more : Bytes) (stk : List Bytes)
    (hv : subValueOk l.v = true) (hmore : (sp 12).isPrefixOf more = false) :
    refSubfield 12 stale r ⟨subLineTextE e l ++ more, stk⟩ = (.ok (slotSet l.idx r l.v, l.v.length), ⟨more, stk⟩) := by
  obtain ⟨⟨ha, hb, hab, _⟩, hdiff⟩ := slot_table l.idx
  obtain ⟨c, t, hc, hc32⟩ := slotName_head l.idx
  obtain ⟨hlist, hpre⟩ := slot_split l.idx
  have eq : subLineTextE e l ++ more =
      sp (slotA l.idx) ++ (bs (slotName l.idx) ++ (sp (slotB l.idx) ++ (tr e (addPrefix (sp 12) l.v) ++ (e.bytes ++ more)))) := by
    simp [subLineTextE, List.append_assoc]
  rw [eq]
  simp only [refSubfield, P.bind_run, push, getS, setS]
  rw [hlist]
  exact refAlts_reach e stale r _ (slotName l.idx, slotSet l.idx) _ _ _ l.v more _ stk ha hb hab
    (head_of_cons hc hc32) hv hmore
    (fun y hy Z => by
      obtain ⟨j, hj, hy1⟩ := hpre y hy
      rw [hy1]
      exact prefix_mismatch _ _ Z (hdiff j hj))

def subLinesText (ls : List SubLine) : Bytes := ls.flatMap subLineText

def subLinesTextE (e : Eol) (ls : List SubLine) : Bytes := ls.flatMap (subLineTextE e)

theorem slotName_noLF : ∀ i : Fin 6, (bs (slotName i)).all (fun c => c != 10) = true := by decide +kernel

theorem tr_subLinesText (e : Eol) (ls : List SubLine) : tr e (subLinesText ls) = subLinesTextE e ls :=
  tr_flatMap e _ _ ls fun l _ => by
    have hn : noLF (bs (slotName l.idx)) := noLF_of_all _ (slotName_noLF l.idx)
    simp only [subLineText, subLineTextE, tr_append, tr_noLF e _ (noLF_sp _), tr_noLF e _ hn, tr_eol]

theorem subLineText_not_indent (e : Eol) (l : SubLine) (X : Bytes) :
    (sp 12).isPrefixOf (subLineTextE e l ++ X) = false := by
  have hA : slotA l.idx ≤ 3 := by unfold slotA; split <;> omega
  obtain ⟨c, t, hc, hc32⟩ := slotName_head l.idx
  rw [subLineTextE, List.append_assoc, List.append_assoc]
  exact sp_short_prefix _ 12 _ (head_of_cons hc hc32 _) (by omega)

theorem refSubfields_lines (e : Eol) (ls : List SubLine) (more : Bytes) (stk : List Bytes) (stale : Nat) (r : Reference)
    (k : Nat) (hv : ∀ l ∈ ls, subValueOk l.v = true) (hstop : refStop more = true)
    (hk : (subLinesTextE e ls ++ more).length < k) :
    refSubfields 12 k stale r ⟨subLinesTextE e ls ++ more, stk⟩ =
      (.ok (ls.foldl (fun r l => slotSet l.idx r l.v) r), ⟨more, stk⟩) := by
  induction ls generalizing stale r k with
  | nil =>
    cases k with
    | zero => omega
    | succ k => gsimp [refSubfields, subLinesTextE, refSubfield_stop stale r more stk hstop]
  | cons l ls ih =>
    cases k with
    | zero => omega
    | succ k =>
      have hmore : (sp 12).isPrefixOf (subLinesTextE e ls ++ more) = false := by
        cases ls with
        | nil =>
          simp only [refStop, Bool.and_eq_true, bne_iff_ne, ne_eq] at hstop
          exact sp_prefix_head 12 more (fun c hc h32 => hstop.1 (h32 ▸ hc)) (by omega)
        | cons l' ls' =>
          simp only [subLinesTextE, List.flatMap_cons, List.append_assoc]
          exact subLineText_not_indent e l' _
      have eq : subLinesTextE e (l :: ls) ++ more = subLineTextE e l ++ (subLinesTextE e ls ++ more) := by
        simp [subLinesTextE, List.flatMap_cons, List.append_assoc]
      rw [eq] at hk ⊢
      simp only [refSubfields, P.bind_run, attempt_run,
        refSubfield_line e l stale r _ stk (hv l (by simp)) hmore]
      rw [ih _ _ k (fun x hx => hv x (by simp [hx])) (by
        have := e.bytes_pos; simp only [subLineTextE, List.length_append] at hk ⊢; omega)]
      simp

end Gts.GenBank

namespace Gts.GenBank
open Gts.Pars

/-- the sub-field lines `GenBank.String` writes for a reference, in its order -/
def presentLines (r : Reference) : List SubLine :=
  (if r.authors.isEmpty then [] else [⟨0, r.authors⟩]) ++
  (if r.group.isEmpty then [] else [⟨1, r.group⟩]) ++
  (if r.title.isEmpty then [] else [⟨2, r.title⟩]) ++
  (if r.journal.isEmpty then [] else [⟨3, r.journal⟩]) ++
  (match r.pubmed with | some v => [⟨4, v⟩] | none => []) ++
  (if r.comment.isEmpty then [] else [⟨5, r.comment⟩])

/-- the reference the reader starts from: number and info, everything else empty -/
def blankRef (r : Reference) : Reference :=
  { number := r.number, info := r.info, authors := [], group := [], title := [], journal := [],
    pubmed := none, comment := [] }

theorem foldl_optLine (i : Fin 6) (v : Bytes) (q : Reference) (h : slotSet i q [] = q) :
    (if v.isEmpty then [] else [SubLine.mk i v]).foldl (fun q l => slotSet l.idx q l.v) q = slotSet i q v := by
  cases v with
  | nil => exact h.symm
  | cons c v => rfl

theorem fold_present (r : Reference) :
    (presentLines r).foldl (fun q l => slotSet l.idx q l.v) (blankRef r) = r := by
  obtain ⟨n, i, a, g, t, j, p, c⟩ := r
  simp only [presentLines, List.foldl_append]
  rw [foldl_optLine 0 a _ rfl, foldl_optLine 1 g _ rfl, foldl_optLine 2 t _ rfl, foldl_optLine 3 j _ rfl]
  cases p <;> exact foldl_optLine 5 c _ rfl

/-- the head line of a reference without its line feed -/
def refHead (r : Reference) : Bytes :=
  if r.info.isEmpty then bs "REFERENCE   " ++ itoaB r.number
  else bs "REFERENCE   " ++ itoaB r.number ++ sp (3 - (itoaB r.number).length) ++ r.info

theorem subLinesText_append (a b : List SubLine) :
    subLinesText (a ++ b) = subLinesText a ++ subLinesText b := List.flatMap_append

/-- the text of one optional sub-field line, `lab` being the twelve columns in front of the value -/
theorem subLinesText_optLine (i : Fin 6) (lab v : Bytes)
    (h : lab = sp (slotA i) ++ (bs (slotName i) ++ sp (slotB i))) :
    subLinesText (if v.isEmpty then [] else [⟨i, v⟩]) =
      if v.isEmpty then [] else lab ++ addPrefix indent v ++ [10] := by
  cases v <;> simp [subLinesText, subLineText, indent, h]

theorem referenceText_eq (r : Reference) (hp : ∀ v, r.pubmed = some v → noEOL v = true) :
    referenceText r = .ok (refHead r ++ 10 :: subLinesText (presentLines r)) := by
  simp only [referenceText, refHead, presentLines, subLinesText_append,
    subLinesText_optLine 0 (bs "  AUTHORS   ") _ (by decide +kernel),
    subLinesText_optLine 1 (bs "  CONSRTM   ") _ (by decide +kernel),
    subLinesText_optLine 2 (bs "  TITLE     ") _ (by decide +kernel),
    subLinesText_optLine 3 (bs "  JOURNAL   ") _ (by decide +kernel),
    subLinesText_optLine 5 (bs "  REMARK    ") _ (by decide +kernel)]
  have h4 : bs "   PUBMED   " = sp (slotA 4) ++ (bs (slotName 4) ++ sp (slotB 4)) := by decide +kernel
  -- PUBMED is written without continuation indent: it is one line
  cases h : r.pubmed with
  | none =>
    simp only [subLinesText, List.flatMap_nil, pure, Except.pure, List.append_assoc, List.cons_append,
      List.nil_append]
  | some v =>
    simp only [subLinesText, List.flatMap_cons, List.flatMap_nil, subLineText, addPrefix_noLF _ v (hp v h), h4,
      pure, Except.pure, List.append_assoc, List.cons_append, List.nil_append]

/-- the domain of a reference: a non-negative number, an info line without line end that does not
start with a digit when the number leaves no room for a blank, sub-field values without carriage
return that do not start with a blank -/
def referenceOk (r : Reference) : Bool :=
  decide (0 ≤ r.number ∧ r.number ≤ 9223372036854775807) && noEOL r.info &&
  (decide ((itoaB r.number).length < 3) || match r.info with | [] => true | c :: _ => !isDigit c) &&
  (match r.pubmed with | some v => noEOL v | none => true) &&
  (presentLines r).all fun l => subValueOk l.v

theorem reference_roundtripE (e : Eol) (f : Fields) (r : Reference) (more : Bytes) (stk : List Bytes)
    (h : referenceOk r = true) (hstop : refStop more = true) :
    referenceField 12 f ⟨refHead r ++ (e.bytes ++ (subLinesTextE e (presentLines r) ++ more)), stk⟩ =
      (.ok ({ f with references := f.references ++ [r] }, true), ⟨more, stk⟩) := by
  simp only [referenceOk, Bool.and_eq_true, Bool.or_eq_true, decide_eq_true_eq, List.all_eq_true] at h
  obtain ⟨⟨⟨⟨⟨hn0, hn1⟩, hinfo⟩, hdig⟩, _⟩, hsub⟩ := h
  generalize hT : subLinesTextE e (presentLines r) ++ more = T
  have hloop : ∀ s, refSubfields 12 (T.length + 1) r.info.length (blankRef r) ⟨T, s⟩ = (.ok r, ⟨more, s⟩) := by
    intro s
    have := refSubfields_lines e (presentLines r) more s r.info.length (blankRef r) (T.length + 1) hsub hstop
      (hT ▸ Nat.lt_succ_self _)
    rw [hT, fold_present] at this; exact this
  simp only [blankRef] at hloop
  have hfn := fun X s => fieldName_ok (bs "REFERENCE") 12 X s (by decide +kernel)
  have hline := fun s => line_okE e r.info T s hinfo
  rw [refHead]
  cases hi : r.info with
  | nil =>
    -- no info: the line end follows the number, and its first byte is neither a digit nor a blank
    have heol : ∀ c, (e.bytes ++ T).head? = some c → isDigit c = false ∧ c ≠ 32 := fun c hc => by
      rcases e.head T c hc with rfl | rfl <;> decide
    rw [List.isEmpty_nil, if_pos rfl, List.append_assoc,
      field_label (bs "REFERENCE   ") (bs "REFERENCE") 12 (by decide +kernel)]
    have hint := fun s => int_itoaB r.number (e.bytes ++ T) s hn0 hn1 fun c hc => (heol c hc).1
    -- the optional padding: none to read, or none there
    have hlit : ∀ s, attempt (lit (sp (3 - (itoaB r.number).length))) ⟨e.bytes ++ T, s⟩ =
        (.ok (if 3 - (itoaB r.number).length = 0 then some () else none), ⟨e.bytes ++ T, s⟩) := by
      intro s
      by_cases h0 : 3 - (itoaB r.number).length = 0
      · have hl : lit (sp 0) ⟨e.bytes ++ T, s⟩ = (.ok (), ⟨e.bytes ++ T, s⟩) := lit_ok [] (e.bytes ++ T) s
        simp only [h0, attempt_run, hl, if_true]
      · have hp := sp_prefix_head (3 - (itoaB r.number).length) (e.bytes ++ T) (fun c hc => (heol c hc).2) (by omega)
        simp only [if_neg h0, attempt_run, lit_fail _ _ s hp]
    simp only [hi, List.nil_append, List.length_nil] at hloop hline
    simp only [referenceField, P.bind_run, P.pure_run, hfn, hint, hlit, hline, getS, List.length_nil, hloop]
  | cons x t =>
    -- info: padding, then the info line; without padding the info does not start with a digit
    simp only [hi, Bool.not_eq_true'] at hdig hloop hline
    simp only [List.isEmpty_cons, Bool.false_eq_true, if_false, List.append_assoc]
    rw [field_label (bs "REFERENCE   ") (bs "REFERENCE") 12 (by decide +kernel)]
    have hint := fun s => int_itoaB r.number _ s hn0 hn1
      (head_sp_append (3 - (itoaB r.number).length) (x :: t ++ (e.bytes ++ T)) (by decide) fun h0 =>
        head_of_cons rfl (hdig.resolve_left (by omega)) _)
    simp only [referenceField, P.bind_run, P.pure_run, hfn, hint, attempt_run, lit_ok, hline, getS, hloop]

end Gts.GenBank
