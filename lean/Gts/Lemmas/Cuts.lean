/-
  Cut lists and the windows between consecutive cuts: what `gts split` (`Cli.pieces`, C15) and the
  slice*;concat program (`Seq.pieces`, C10) cut a record into.  Pure facts about lists of integers:
  the last cut, the windows of a non-decreasing cut list (each forward and between the first and the
  last cut; together a partition of that stretch), the cut list `0, cuts…, L`.  Core Lean only.
-/
namespace Gts.Cli

/-- the last element of `a :: l` -/
def lastFrom : Int → List Int → Int
  | a, [] => a
  | _, b :: l => lastFrom b l

theorem getLast?_lastFrom (a : Int) (l : List Int) : (a :: l).getLast? = some (lastFrom a l) := by
  induction l generalizing a with
  | nil => rfl
  | cons b l ih => rw [List.getLast?_cons_cons, ih b]; rfl

theorem lastFrom_append (a z : Int) (l : List Int) : lastFrom a (l ++ [z]) = z := by
  induction l generalizing a with
  | nil => rfl
  | cons b l ih => exact ih b

theorem lastFrom_mem (a : Int) (l : List Int) : lastFrom a l ∈ a :: l := by
  induction l generalizing a with
  | nil => simp [lastFrom]
  | cons b l ih => exact List.mem_cons_of_mem _ (ih b)

theorem le_getLast (l : List Int) (hs : l.Pairwise (fun x y => x ≤ y)) (c : Int)
    (hc : l.getLast? = some c) (y : Int) (hy : y ∈ l) : y ≤ c := by
  obtain ⟨ini, rfl⟩ := List.getLast?_eq_some_iff.mp hc
  rcases List.mem_append.mp hy with h | h
  · exact (List.pairwise_append.mp hs).2.2 _ h c (by simp)
  · rw [List.mem_singleton.mp h]; exact Int.le_refl _

theorem le_lastFrom (a : Int) (l : List Int) (hs : (a :: l).Pairwise (fun x y => x ≤ y)) :
    a ≤ lastFrom a l :=
  le_getLast _ hs _ (getLast?_lastFrom a l) a (List.mem_cons_self ..)

/-- consecutive pairs of a cut list: the windows `[a, b)` of the pieces of `gts split` -/
def windows (l : List Int) : List (Int × Int) := l.zip l.tail

theorem windows_cons_cons (a b : Int) (l : List Int) :
    windows (a :: b :: l) = (a, b) :: windows (b :: l) := rfl

theorem mem_windows (l : List Int) (w : Int × Int) (h : w ∈ windows l) : w.1 ∈ l ∧ w.2 ∈ l.tail :=
  List.of_mem_zip h

theorem window_mem (a : Int) (l : List Int) (L : Int) (hs : (a :: l).Pairwise (fun x y => x ≤ y))
    (hl : (a :: l).getLast? = some L) : ∀ w ∈ windows (a :: l), a ≤ w.1 ∧ w.1 ≤ w.2 ∧ w.2 ≤ L := by
  induction l generalizing a with
  | nil => intro w hw; cases hw
  | cons b l ih =>
    intro w hw
    have hp := List.pairwise_cons.mp hs
    have hab : a ≤ b := hp.1 b (List.mem_cons_self ..)
    have hl' : (b :: l).getLast? = some L := by simpa using hl
    rw [windows_cons_cons] at hw
    rcases List.mem_cons.mp hw with rfl | hw
    · exact ⟨Int.le_refl _, hab, le_getLast _ hp.2 L hl' b (List.mem_cons_self ..)⟩
    · have := ih b hp.2 hl' w hw
      omega

theorem window_exists (a : Int) (cuts : List Int) (L x : Int) (hl : (a :: cuts).getLast? = some L)
    (h0 : a ≤ x) (h1 : x < L) : ∃ w ∈ windows (a :: cuts), w.1 ≤ x ∧ x < w.2 := by
  induction cuts generalizing a with
  | nil => simp at hl; omega
  | cons b cuts ih =>
    by_cases hx : x < b
    · exact ⟨(a, b), by simp [windows_cons_cons], h0, hx⟩
    · obtain ⟨w, hw, hw2⟩ := ih b (by simpa using hl) (by omega)
      exact ⟨w, by rw [windows_cons_cons]; exact List.mem_cons_of_mem _ hw, hw2⟩

theorem window_unique (l : List Int) (hs : l.Pairwise (fun a b => a ≤ b)) (w w' : Int × Int)
    (hw : w ∈ windows l) (hw' : w' ∈ windows l) (x : Int) (h : w.1 ≤ x ∧ x < w.2)
    (h' : w'.1 ≤ x ∧ x < w'.2) : w = w' := by
  induction l with
  | nil => cases hw
  | cons a l ih =>
    cases l with
    | nil => cases hw
    | cons b l =>
      have hp := List.pairwise_cons.mp hs
      have hpb := List.pairwise_cons.mp hp.2
      rw [windows_cons_cons] at hw hw'
      have tailge : ∀ v ∈ windows (b :: l), b ≤ v.1 := by
        intro v hv
        rcases List.mem_cons.mp (mem_windows _ v hv).1 with h | h
        · omega
        · exact hpb.1 _ h
      rcases List.mem_cons.mp hw with rfl | hw <;> rcases List.mem_cons.mp hw' with rfl | hw'
      · rfl
      · have := tailge _ hw'; simp only at h; omega
      · have := tailge _ hw; simp only at h'; omega
      · exact ih hp.2 hw hw'

theorem windows_partition (a : Int) (l : List Int) (L : Int) (hs : (a :: l).Pairwise (fun x y => x ≤ y))
    (hl : (a :: l).getLast? = some L) (x : Int) (h0 : a ≤ x) (h1 : x < L) :
    ∃ w ∈ windows (a :: l), (w.1 ≤ x ∧ x < w.2) ∧
      ∀ w' ∈ windows (a :: l), w'.1 ≤ x ∧ x < w'.2 → w' = w := by
  obtain ⟨w, hwm, hwx⟩ := window_exists a l L x hl h0 h1
  exact ⟨w, hwm, hwx, fun w' hw' hx' => window_unique _ hs w' w hw' hwm x hx' hwx⟩

theorem cuts_sorted (cuts : List Int) (L : Int) (hL : 0 ≤ L) (h : ∀ x ∈ cuts, 0 ≤ x ∧ x ≤ L)
    (hs : cuts.Pairwise (fun a b => a ≤ b)) :
    ((0 : Int) :: cuts ++ [L]).Pairwise (fun x y => x ≤ y) := by
  refine List.pairwise_append.mpr ⟨List.pairwise_cons.mpr ⟨fun b hb => (h b hb).1, hs⟩, by simp, ?_⟩
  intro a ha b hb
  rw [List.mem_singleton.mp hb]
  rcases List.mem_cons.mp ha with rfl | ha
  · exact hL
  · exact (h a ha).2

theorem getLast?_cuts (cuts : List Int) (L : Int) : ((0 : Int) :: cuts ++ [L]).getLast? = some L := by
  rw [List.getLast?_append]; rfl

end Gts.Cli
