/-
  `Expand`, `Shift`, `Normalize` and `Reverse` all rebuild a location in the same way: a rule of
  their own on the contiguous kinds, `Join` / `Order` of the rebuilt parts (`Reverse`: in mirrored
  order), recursion under a complement.  `tmap f rev` is that rebuild for an arbitrary leaf map `f`,
  `tguard jg f rev` the guard "`jg` fires at one of its `Join`s".  What a leaf map does to the meaning,
  the well-formedness, a leaf invariant or the outer markers of a leaf, `tmap` does to those of the
  whole location; each operation of the model is `tmap` of itself (`shift_eq_tmap`, …), so a fact
  about an edit needs its four leaf cases and nothing else.  Core Lean only.
-/
import Gts.Lemmas.Leafwise
import Gts.Lemmas.LessGoOrder
import Gts.Lemmas.MarkGuardNodup
import Gts.Lemmas.MarksPush
namespace Gts
namespace Loc

/-- the order in which the rebuilt parts are handed to `Join` / `Order` -/
def orient {α : Type} (rev : Bool) (xs : List α) : List α := if rev then xs.reverse else xs

mutual
/-- rebuild the location with `f` on the contiguous leaves -/
def tmap (f : Loc → Loc) (rev : Bool) : Loc → Loc
  | joined ls => join (orient rev (tmapList f rev ls))
  | ordered ls => order (orient rev (tmapList f rev ls))
  | compl l => compl (tmap f rev l)
  | l => f l
def tmapList (f : Loc → Loc) (rev : Bool) : List Loc → List Loc
  | [] => []
  | l :: ls => tmap f rev l :: tmapList f rev ls
end

mutual
/-- `jg` (`joinAbs`: K2; `joinMarkAbs`: a marker-moving rule) fires at some `Join` of `tmap f rev` -/
def tguard (jg : List Loc → Bool) (f : Loc → Loc) (rev : Bool) : Loc → Bool
  | joined ls => tguardList jg f rev ls || jg (orient rev (tmapList f rev ls))
  | ordered ls => tguardList jg f rev ls
  | compl l => tguard jg f rev l
  | _ => false
def tguardList (jg : List Loc → Bool) (f : Loc → Loc) (rev : Bool) : List Loc → Bool
  | [] => false
  | l :: ls => tguard jg f rev l || tguardList jg f rev ls
end

mutual
/-- `den` with `g` on the leaves (`rev`: the parts of a join / order are read in mirrored order) -/
def dfold (g : Loc → List Pos) (rev : Bool) : Loc → List Pos
  | joined ls => dfoldList g rev ls
  | ordered ls => dfoldList g rev ls
  | compl l => flipDen (dfold g rev l)
  | l => g l
def dfoldList (g : Loc → List Pos) (rev : Bool) : List Loc → List Pos
  | [] => []
  | l :: ls => if rev then dfoldList g rev ls ++ dfold g rev l else dfold g rev l ++ dfoldList g rev ls
end

mutual
/-- `marks` with `g` on the leaves -/
def mfold (g : Loc → Mk) (rev : Bool) : Loc → Mk
  | joined ls => mfoldList g rev ls
  | ordered ls => mfoldList g rev ls
  | compl l => mswap (mfold g rev l)
  | l => g l
def mfoldList (g : Loc → Mk) (rev : Bool) : List Loc → Mk
  | [] => none
  | l :: ls => if rev then mcomb (mfoldList g rev ls) (mfold g rev l) else mcomb (mfold g rev l) (mfoldList g rev ls)
end

theorem wfList_orient (rev : Bool) (xs : List Loc) : wfList (orient rev xs) = wfList xs := by
  cases rev <;> simp [orient, wfList_reverse]

theorem allLeavesList_orient (Q : Loc → Bool) (rev : Bool) (xs : List Loc) :
    allLeavesList Q (orient rev xs) = allLeavesList Q xs := by
  cases rev <;> simp [orient, allLeavesList_reverse]

theorem rwfList_orient (rev : Bool) (xs : List Loc) : rwfList (orient rev xs) = rwfList xs := by
  cases rev <;> simp [orient, rwfList_reverse]

/-- what an operation supplies: on a well-formed contiguous leaf satisfying `Q`, `f` yields a
well-formed location that denotes `g` of the leaf -/
def LeafSpec (f : Loc → Loc) (g : Loc → List Pos) (Q : Loc → Bool) : Prop :=
  ∀ u, isContig u = true → wf u = true → Q u = true → den (f u) = g u ∧ wf (f u) = true

mutual
/-- What the leaf map does to the meaning of a leaf, `tmap` does to the meaning of the location, up
to the duplicates `Join` merges and unless K2 fires. -/
theorem tmap_spec {f g rev Q} (hleaf : LeafSpec f g Q) : ∀ l : Loc, wf l = true → allLeaves Q l = true →
    (tguard joinAbs f rev l = false → den (tmap f rev l) ≼ dfold g rev l) ∧ wf (tmap f rev l) = true
  | between _, hw, hq | point _, hw, hq | ranged _ _ _ _, hw, hq | ambiguous _ _, hw, hq =>
      have h := hleaf _ rfl hw hq; ⟨fun _ => .of_eq h.1, h.2⟩
  | joined ls, hw, hq => by
      have ih := tmapList_spec hleaf (rev := rev) ls hw hq
      have hwo := (wfList_orient rev _).trans ih.2
      refine ⟨fun hk => ?_, join_wf _ hwo⟩
      obtain ⟨h1, h2⟩ := Bool.or_eq_false_iff.mp hk
      exact (join_den _ hwo h2).trans (ih.1 h1)
  | ordered ls, hw, hq => by
      have ih := tmapList_spec hleaf (rev := rev) ls hw hq
      exact ⟨fun hk => (order_den _).symm ▸ ih.1 hk, order_wf _ ((wfList_orient rev _).trans ih.2)⟩
  | compl l, hw, hq => by
      have ih := tmap_spec hleaf (rev := rev) l hw hq
      exact ⟨fun hk => (ih.1 hk).flip, ih.2⟩
theorem tmapList_spec {f g rev Q} (hleaf : LeafSpec f g Q) : ∀ ls : List Loc, wfList ls = true →
    allLeavesList Q ls = true →
    (tguardList joinAbs f rev ls = false → denList (orient rev (tmapList f rev ls)) ≼ dfoldList g rev ls) ∧
      wfList (tmapList f rev ls) = true
  | [], _, _ => ⟨fun _ => by cases rev <;> exact Refines.refl _, rfl⟩
  | l :: ls, hw, hq => by
      obtain ⟨hw1, hw2⟩ := Bool.and_eq_true_iff.mp hw
      obtain ⟨hq1, hq2⟩ := Bool.and_eq_true_iff.mp hq
      have h1 := tmap_spec hleaf (rev := rev) l hw1 hq1
      have h2 := tmapList_spec hleaf (rev := rev) ls hw2 hq2
      refine ⟨fun hk => ?_, Bool.and_eq_true_iff.mpr ⟨h1.2, h2.2⟩⟩
      obtain ⟨k1, k2⟩ := Bool.or_eq_false_iff.mp hk
      cases rev
      · exact (h1.1 k1).append (h2.1 k2)
      · simpa [tmapList, dfoldList, orient, denList_append] using (h2.1 k2).append (h1.1 k1)
end

/-- a map of residue lists that respects concatenation (`rev`: mirrors it) and the strand flip -/
structure DenHom (rev : Bool) (T : List Pos → List Pos) : Prop where
  nil : T [] = []
  append : ∀ a b, T (a ++ b) = if rev then T b ++ T a else T a ++ T b
  flip : ∀ a, T (flipDen a) = flipDen (T a)

mutual
theorem dfold_hom {rev T} (h : DenHom rev T) : ∀ l : Loc, dfold (fun u => T (den u)) rev l = T (den l)
  | between _ | point _ | ranged _ _ _ _ | ambiguous _ _ => by simp only [dfold]
  | joined ls => by rw [dfold, den_joined, dfoldList_hom h ls]
  | ordered ls => by rw [dfold, den_ordered, dfoldList_hom h ls]
  | compl l => by rw [dfold, den_compl, h.flip, dfold_hom h l]
theorem dfoldList_hom {rev T} (h : DenHom rev T) :
    ∀ ls : List Loc, dfoldList (fun u => T (den u)) rev ls = T (denList ls)
  | [] => by rw [dfoldList, denList_nil, h.nil]
  | l :: ls => by rw [dfoldList, denList_cons, h.append, dfold_hom h l, dfoldList_hom h ls]
end

theorem DenHom.mapPos (f : Int → Int) : DenHom false (mapPos f) :=
  ⟨rfl, mapPos_append f, mapPos_flipDen f⟩

theorem DenHom.filterMapPos (f : Int → Option Int) : DenHom false (filterMapPos f) :=
  ⟨rfl, filterMapPos_append f, filterMapPos_flipDen f⟩

theorem allLeaves_true (l : Loc) : allLeaves (fun _ => true) l = true := by
  rw [allLeaves_eq_all]; exact List.all_eq_true.mpr fun _ _ => rfl

theorem allLeavesList_true (ls : List Loc) : allLeavesList (fun _ => true) ls = true :=
  allLeaves_true (joined ls)

theorem allLeaves_contig (Q : Loc → Bool) : ∀ {u : Loc}, isContig u = true → allLeaves Q u = Q u
  | between _, _ | point _, _ | ranged _ _ _ _, _ | ambiguous _ _, _ => by simp only [allLeaves]

mutual
/-- a leaf invariant `Q'` that survives the merge of abutting ranges holds of `tmap f rev l` when `f`
sends the `Q`-leaves to locations all of whose leaves satisfy `Q'` -/
theorem tmap_leaves {f rev Q Q'} (hm : MergeOK Q')
    (hleaf : ∀ u, isContig u = true → Q u = true → allLeaves Q' (f u) = true) :
    ∀ l : Loc, allLeaves Q l = true → allLeaves Q' (tmap f rev l) = true
  | between _, h | point _, h | ranged _ _ _ _, h | ambiguous _ _, h => hleaf _ rfl h
  | joined ls, h =>
      join_leaves hm _ ((allLeavesList_orient Q' rev _).trans (tmapList_leaves hm hleaf (rev := rev) ls h))
  | ordered ls, h =>
      order_leaves _ _ ((allLeavesList_orient Q' rev _).trans (tmapList_leaves hm hleaf (rev := rev) ls h))
  | compl l, h => tmap_leaves hm hleaf (rev := rev) l h
theorem tmapList_leaves {f rev Q Q'} (hm : MergeOK Q')
    (hleaf : ∀ u, isContig u = true → Q u = true → allLeaves Q' (f u) = true) :
    ∀ ls : List Loc, allLeavesList Q ls = true → allLeavesList Q' (tmapList f rev ls) = true
  | [], _ => rfl
  | l :: ls, h =>
      have ⟨h1, h2⟩ := Bool.and_eq_true_iff.mp h
      Bool.and_eq_true_iff.mpr ⟨tmap_leaves hm hleaf (rev := rev) l h1, tmapList_leaves hm hleaf (rev := rev) ls h2⟩
end

mutual
/-- two leaf maps that agree on the `Q`-leaves rebuild the same location and meet the same guard -/
theorem tmap_congr {f g : Loc → Loc} {rev : Bool} {Q : Loc → Bool} (jg : List Loc → Bool)
    (h : ∀ u, isContig u = true → Q u = true → f u = g u) :
    ∀ l : Loc, allLeaves Q l = true → tmap f rev l = tmap g rev l ∧ tguard jg f rev l = tguard jg g rev l
  | between _, hq | point _, hq | ranged _ _ _ _, hq | ambiguous _ _, hq => ⟨h _ rfl hq, rfl⟩
  | joined ls, hq => by
      have := tmapList_congr (rev := rev) jg h ls hq; simp only [tmap, tguard, this.1, this.2, and_self]
  | ordered ls, hq => by
      have := tmapList_congr (rev := rev) jg h ls hq; simp only [tmap, tguard, this.1, this.2, and_self]
  | compl l, hq => by
      have := tmap_congr (rev := rev) jg h l hq; simp only [tmap, tguard, this.1, this.2, and_self]
theorem tmapList_congr {f g : Loc → Loc} {rev : Bool} {Q : Loc → Bool} (jg : List Loc → Bool)
    (h : ∀ u, isContig u = true → Q u = true → f u = g u) :
    ∀ ls : List Loc, allLeavesList Q ls = true →
      tmapList f rev ls = tmapList g rev ls ∧ tguardList jg f rev ls = tguardList jg g rev ls
  | [], _ => ⟨rfl, rfl⟩
  | l :: ls, hq => by
      have ⟨h1, h2⟩ := Bool.and_eq_true_iff.mp hq
      have a := tmap_congr (rev := rev) jg h l h1
      have b := tmapList_congr (rev := rev) jg h ls h2
      simp only [tmapList, tguardList, a.1, a.2, b.1, b.2, and_self]
end

theorem dfoldList_nodup {g rev l ls} (h : (dfoldList g rev (l :: ls)).Nodup) :
    (dfold g rev l).Nodup ∧ (dfoldList g rev ls).Nodup := by
  rw [dfoldList] at h
  cases rev
  · exact ⟨(List.nodup_append.mp h).1, (List.nodup_append.mp h).2.1⟩
  · exact ⟨(List.nodup_append.mp h).2.1, (List.nodup_append.mp h).1⟩

mutual
/-- where the image is duplicate-free, no marker-moving rule fires unless K2 does -/
theorem tguard_mark_of_nodup {f g rev Q} (hleaf : LeafSpec f g Q) : ∀ l : Loc, wf l = true →
    allLeaves Q l = true → tguard joinAbs f rev l = false → (dfold g rev l).Nodup →
    tguard joinMarkAbs f rev l = false
  | between _, _, _, _, _ | point _, _, _, _, _ | ranged _ _ _ _, _, _, _, _ | ambiguous _ _, _, _, _, _ => rfl
  | joined ls, hw, hq, hk, hnd => by
      obtain ⟨k1, k2⟩ := Bool.or_eq_false_iff.mp hk
      have ih := tmapList_spec hleaf (rev := rev) ls hw hq
      exact Bool.or_eq_false_iff.mpr ⟨tguardList_mark_of_nodup hleaf ls hw hq k1 hnd,
        joinMarkAbs_of_nodup _ ((wfList_orient rev _).trans ih.2) k2 (Refines.nodup (ih.1 k1) hnd)⟩
  | ordered ls, hw, hq, hk, hnd => tguardList_mark_of_nodup hleaf ls hw hq hk hnd
  | compl l, hw, hq, hk, hnd => tguard_mark_of_nodup hleaf l hw hq hk (nodup_flipDen.mp hnd)
theorem tguardList_mark_of_nodup {f g rev Q} (hleaf : LeafSpec f g Q) : ∀ ls : List Loc,
    wfList ls = true → allLeavesList Q ls = true → tguardList joinAbs f rev ls = false →
    (dfoldList g rev ls).Nodup → tguardList joinMarkAbs f rev ls = false
  | [], _, _, _, _ => rfl
  | l :: ls, hw, hq, hk, hnd => by
      obtain ⟨hw1, hw2⟩ := Bool.and_eq_true_iff.mp hw
      obtain ⟨hq1, hq2⟩ := Bool.and_eq_true_iff.mp hq
      obtain ⟨k1, k2⟩ := Bool.or_eq_false_iff.mp hk
      exact Bool.or_eq_false_iff.mpr ⟨tguard_mark_of_nodup hleaf l hw1 hq1 k1 (dfoldList_nodup hnd).1,
        tguardList_mark_of_nodup hleaf ls hw2 hq2 k2 (dfoldList_nodup hnd).2⟩
end

mutual
/-- What the leaf map does to the outer markers of a leaf, `tmap` does to those of the location,
unless a marker-moving rule fires. -/
theorem tmap_marks {f g rev} {Q : Loc → Bool}
    (hleaf : ∀ u, isContig u = true → rwf u = true → Q u = true → marks (f u) = g u ∧ rwf (f u) = true) :
    ∀ l : Loc, rwf l = true → allLeaves Q l = true →
      (tguard joinMarkAbs f rev l = false → marks (tmap f rev l) = mfold g rev l) ∧ rwf (tmap f rev l) = true
  | between _, hw, hq | point _, hw, hq | ranged _ _ _ _, hw, hq | ambiguous _ _, hw, hq =>
      have h := hleaf _ rfl hw hq; ⟨fun _ => h.1, h.2⟩
  | joined ls, hw, hq => by
      have ih := tmapList_marks hleaf (rev := rev) ls hw hq
      have hwo := (rwfList_orient rev _).trans ih.2
      refine ⟨fun hk => ?_, join_rwf _ hwo⟩
      obtain ⟨h1, h2⟩ := Bool.or_eq_false_iff.mp hk
      exact (join_marks _ hwo h2).trans (ih.1 h1)
  | ordered ls, hw, hq => by
      have ih := tmapList_marks hleaf (rev := rev) ls hw hq
      exact ⟨fun hk => (order_marks _).trans (ih.1 hk), order_rwf _ ((rwfList_orient rev _).trans ih.2)⟩
  | compl l, hw, hq => by
      have ih := tmap_marks hleaf (rev := rev) l hw hq
      exact ⟨fun hk => by rw [tmap, marks_compl, ih.1 hk, mfold], ih.2⟩
theorem tmapList_marks {f g rev} {Q : Loc → Bool}
    (hleaf : ∀ u, isContig u = true → rwf u = true → Q u = true → marks (f u) = g u ∧ rwf (f u) = true) :
    ∀ ls : List Loc, rwfList ls = true → allLeavesList Q ls = true →
      (tguardList joinMarkAbs f rev ls = false →
        marksList (orient rev (tmapList f rev ls)) = mfoldList g rev ls) ∧
      rwfList (tmapList f rev ls) = true
  | [], _, _ => ⟨fun _ => by cases rev <;> rfl, rfl⟩
  | l :: ls, hw, hq => by
      obtain ⟨hw1, hw2⟩ := Bool.and_eq_true_iff.mp hw
      obtain ⟨hq1, hq2⟩ := Bool.and_eq_true_iff.mp hq
      have h1 := tmap_marks hleaf (rev := rev) l hw1 hq1
      have h2 := tmapList_marks hleaf (rev := rev) ls hw2 hq2
      refine ⟨fun hk => ?_, Bool.and_eq_true_iff.mpr ⟨h1.2, h2.2⟩⟩
      obtain ⟨k1, k2⟩ := Bool.or_eq_false_iff.mp hk
      have e1 := h1.1 k1
      have e2 := h2.1 k2
      cases rev <;> simp_all [tmapList, mfoldList, orient, marksList_append]
end

mutual
theorem mfold_marks : ∀ l : Loc, mfold marks false l = marks l
  | between _ | point _ | ranged _ _ _ _ | ambiguous _ _ => by simp only [mfold]
  | joined ls => by rw [mfold, marks_joined, mfoldList_marks ls]
  | ordered ls => by rw [mfold, marks_ordered, mfoldList_marks ls]
  | compl l => by rw [mfold, marks_compl, mfold_marks l]
theorem mfoldList_marks : ∀ ls : List Loc, mfoldList marks false ls = marksList ls
  | [] => by simp [mfoldList]
  | l :: ls => by rw [mfoldList, marksList_cons, mfold_marks l, mfoldList_marks ls]; rfl
end

/-! ### the operations of the model are `tmap`s, their guards `tguard`s -/

mutual
theorem expand_eq_tmap (i n : Int) : ∀ l : Loc, expand l i n = tmap (expand · i n) false l ∧
    expandAbs l i n = tguard joinAbs (expand · i n) false l ∧
    expandMarkAbs l i n = tguard joinMarkAbs (expand · i n) false l
  | between _ | point _ | ranged _ _ _ _ | ambiguous _ _ => by simp [tmap, tguard, expandAbs, expandMarkAbs]
  | joined ls | ordered ls => by
      simp [expand, expandAbs, expandMarkAbs, tmap, tguard, orient, expandList_eq_tmap i n ls]
  | compl l => by simp [expand, expandAbs, expandMarkAbs, tmap, tguard, ← expand_eq_tmap i n l]
theorem expandList_eq_tmap (i n : Int) : ∀ ls : List Loc,
    expandList ls i n = tmapList (expand · i n) false ls ∧
    expandAbsList ls i n = tguardList joinAbs (expand · i n) false ls ∧
    expandMarkAbsList ls i n = tguardList joinMarkAbs (expand · i n) false ls
  | [] => by simp [expandList, tmapList, expandAbsList, expandMarkAbsList, tguardList]
  | l :: ls => by
      simp [expandList, tmapList, expandAbsList, expandMarkAbsList, tguardList, ← expand_eq_tmap i n l,
        ← expandList_eq_tmap i n ls]
end

mutual
theorem shift_eq_tmap (i n : Int) : ∀ l : Loc, shift l i n = tmap (shift · i n) false l ∧
    shiftAbs l i n = tguard joinAbs (shift · i n) false l ∧
    shiftMarkAbs l i n = tguard joinMarkAbs (shift · i n) false l
  | between _ | point _ | ranged _ _ _ _ | ambiguous _ _ => by simp [tmap, tguard, shiftAbs, shiftMarkAbs]
  | joined ls | ordered ls => by
      simp [shift, shiftAbs, shiftMarkAbs, tmap, tguard, orient, shiftList_eq_tmap i n ls]
  | compl l => by simp [shift, shiftAbs, shiftMarkAbs, tmap, tguard, ← shift_eq_tmap i n l]
theorem shiftList_eq_tmap (i n : Int) : ∀ ls : List Loc,
    shiftList ls i n = tmapList (shift · i n) false ls ∧
    shiftAbsList ls i n = tguardList joinAbs (shift · i n) false ls ∧
    shiftMarkAbsList ls i n = tguardList joinMarkAbs (shift · i n) false ls
  | [] => by simp [shiftList, tmapList, shiftAbsList, shiftMarkAbsList, tguardList]
  | l :: ls => by
      simp [shiftList, tmapList, shiftAbsList, shiftMarkAbsList, tguardList, ← shift_eq_tmap i n l,
        ← shiftList_eq_tmap i n ls]
end

mutual
theorem normalize_eq_tmap (L : Int) : ∀ l : Loc, normalize l L = tmap (normalize · L) false l ∧
    normalizeAbs l L = tguard joinAbs (normalize · L) false l ∧
    normalizeMarkAbs l L = tguard joinMarkAbs (normalize · L) false l
  | between _ | point _ | ranged _ _ _ _ | ambiguous _ _ => by
      simp [tmap, tguard, normalizeAbs, normalizeMarkAbs]
  | joined ls | ordered ls => by
      simp [normalize, normalizeAbs, normalizeMarkAbs, tmap, tguard, orient, normalizeList_eq_tmap L ls]
  | compl l => by simp [normalize, normalizeAbs, normalizeMarkAbs, tmap, tguard, ← normalize_eq_tmap L l]
theorem normalizeList_eq_tmap (L : Int) : ∀ ls : List Loc,
    normalizeList ls L = tmapList (normalize · L) false ls ∧
    normalizeAbsList ls L = tguardList joinAbs (normalize · L) false ls ∧
    normalizeMarkAbsList ls L = tguardList joinMarkAbs (normalize · L) false ls
  | [] => by simp [normalizeList, tmapList, normalizeAbsList, normalizeMarkAbsList, tguardList]
  | l :: ls => by
      simp [normalizeList, tmapList, normalizeAbsList, normalizeMarkAbsList, tguardList,
        ← normalize_eq_tmap L l, ← normalizeList_eq_tmap L ls]
end

mutual
theorem reverse_eq_tmap (L : Int) : ∀ l : Loc, reverse l L = tmap (reverse · L) true l ∧
    reverseAbs l L = tguard joinAbs (reverse · L) true l ∧
    reverseMarkAbs l L = tguard joinMarkAbs (reverse · L) true l
  | between _ | point _ | ranged _ _ _ _ | ambiguous _ _ => by simp [tmap, tguard, reverseAbs, reverseMarkAbs]
  | joined ls | ordered ls => by
      simp [reverse, reverseAbs, reverseMarkAbs, tmap, tguard, orient, reverseList_eq_tmap L ls]
  | compl l => by simp [reverse, reverseAbs, reverseMarkAbs, tmap, tguard, ← reverse_eq_tmap L l]
theorem reverseList_eq_tmap (L : Int) : ∀ ls : List Loc,
    reverseList ls L = tmapList (reverse · L) true ls ∧
    reverseAbsList ls L = tguardList joinAbs (reverse · L) true ls ∧
    reverseMarkAbsList ls L = tguardList joinMarkAbs (reverse · L) true ls
  | [] => by simp [reverseList, tmapList, reverseAbsList, reverseMarkAbsList, tguardList]
  | l :: ls => by
      simp [reverseList, tmapList, reverseAbsList, reverseMarkAbsList, tguardList, ← reverse_eq_tmap L l,
        ← reverseList_eq_tmap L ls]
end

end Loc
end Gts
