/-
  The edit operations on locations (`Expand`, `Shift`, `Reverse`, `Normalize`) all have one shape:
  a leaf function, `Join` / `Order` of the element-wise results (in list order or mirrored),
  `Complemented` of the inner result.  For any function of that shape (`LocHom`): structurally
  canonical stays structurally canonical unless the K3 shape arises in one of its `Join`s
  (`hom_struct`), and a coordinate predicate carries over from the leaves (`hom_coords`); together:
  canonical stays canonical (`hom_canon`).  Core Lean only.
-/
import Gts.Lemmas.CanonJoin
namespace Gts
namespace Loc

def isLeafC : Loc → Bool
  | between _ => true
  | point _ => true
  | ranged _ _ _ _ => true
  | ambiguous _ _ => true
  | _ => false

/-- pushed as one or more elements none of which is a `Complemented` -/
def plainOut (y : Loc) : Bool := (flatJ y).all (fun u => !isComplC u) && !(flatJ y).isEmpty

theorem plainOut_not_compl (y : Loc) (h : plainOut y = true) : isComplC y = false := by
  cases y with
  | compl c => simp [plainOut, flatJ, isComplC] at h
  | _ => rfl

theorem plainOut_of_leafy (y : Loc) (h1 : isComplC y = false) (h2 : isJoinedC y = false) : plainOut y = true := by
  rw [plainOut, flatJ_of_not_joined y h2]
  simp [h1]

/-- the list is handed on as it is or mirrored -/
structure PermOk (π : List Loc → List Loc) : Prop where
  mem : ∀ xs y, y ∈ π xs ↔ y ∈ xs
  noAdj : ∀ xs, noAdjCompl (π xs) = noAdjCompl xs
  len : ∀ xs, (π xs).length = xs.length
  leaves : ∀ Q xs, allLeavesList Q (π xs) = allLeavesList Q xs

theorem noAdjCompl_append_single (xs : List Loc) (y : Loc) :
    noAdjCompl (xs ++ [y]) = (noAdjCompl xs && !((xs.getLast?.map isComplC).getD false && isComplC y)) := by
  induction xs with
  | nil => simp [noAdjCompl]
  | cons a r ih =>
    cases r with
    | nil => simp [noAdjCompl]
    | cons b t =>
      simp only [List.cons_append, noAdjCompl] at ih ⊢
      rw [ih]
      simp [List.getLast?_cons_cons, Bool.and_assoc]

theorem noAdjCompl_reverse : ∀ xs : List Loc, noAdjCompl xs.reverse = noAdjCompl xs
  | [] => rfl
  | [a] => rfl
  | a :: b :: r => by
      have ih := noAdjCompl_reverse (b :: r)
      have : (((b :: r).reverse.getLast?).map isComplC).getD false = isComplC b := by simp
      rw [List.reverse_cons, noAdjCompl_append_single, ih, this]
      simp only [noAdjCompl]
      cases isComplC a <;> cases isComplC b <;> simp

theorem permOk_id : PermOk id := ⟨fun _ _ => Iff.rfl, fun _ => rfl, fun _ => rfl, fun _ _ => rfl⟩

theorem permOk_reverse : PermOk List.reverse :=
  ⟨fun _ _ => List.mem_reverse, noAdjCompl_reverse, fun _ => List.length_reverse, fun Q xs => allLeavesList_reverse Q xs⟩

theorem flattenOrd_struct (y : Loc) (h : structP y = true) :
    (∀ u ∈ flattenOrd y, structP u = true ∧ isOrderedC u = false) ∧ 1 ≤ (flattenOrd y).length := by
  by_cases ho : isOrderedC y = true
  · cases y <;> simp [isOrderedC] at ho
    rename_i ls
    simp only [structP, Bool.and_eq_true, Bool.not_eq_true', decide_eq_true_eq] at h
    obtain ⟨⟨h1, h2⟩, h3⟩ := h
    simp only [flattenOrd]
    rw [flattenOrdList_of_none ls h3]
    refine ⟨fun u hu => ⟨(structPList_iff ls).mp h1 u hu, ?_⟩, by omega⟩
    simpa using List.any_eq_false.mp h3 u hu
  · have ho' : isOrderedC y = false := by simpa using ho
    rw [flattenOrd_of_not_ordered y ho']
    simp [h, ho']

theorem flattenOrdList_struct : ∀ (xs : List Loc), structPList xs = true →
    (∀ u ∈ flattenOrdList xs, structP u = true ∧ isOrderedC u = false) ∧ xs.length ≤ (flattenOrdList xs).length
  | [], _ => by simp [flattenOrdList]
  | x :: xs, h => by
      simp only [structPList_cons, Bool.and_eq_true] at h
      have h1 := flattenOrd_struct x h.1
      have h2 := flattenOrdList_struct xs h.2
      simp only [flattenOrdList, List.mem_append, List.length_append, List.length_cons]
      refine ⟨fun u hu => hu.elim (h1.1 u) (h2.1 u), by omega⟩

theorem order_struct (xs : List Loc) (h : structPList xs = true) (h2 : 2 ≤ xs.length) :
    structP (order xs) = true ∧ isComplC (order xs) = false ∧ isJoinedC (order xs) = false ∧
    isOrderedC (order xs) = true := by
  have hf := flattenOrdList_struct xs h
  unfold order
  generalize flattenOrdList xs = j at hf
  obtain ⟨hj, hl⟩ := hf
  match j, hj, hl with
  | [], _, hl => simp only [List.length_nil] at hl; omega
  | [a], _, hl => simp only [List.length_cons, List.length_nil] at hl; omega
  | a :: b :: r, hj, _ =>
    refine ⟨?_, rfl, rfl, rfl⟩
    simp only [structP, Bool.and_eq_true, Bool.not_eq_true', decide_eq_true_eq]
    refine ⟨⟨(structPList_iff _).mpr fun u hu => (hj u hu).1, by simp⟩, ?_⟩
    rw [List.any_eq_false]
    intro u hu
    simpa using (hj u hu).2

theorem noAdjCompl_plain_append : ∀ (b r : List Loc), b.all (fun u => !isComplC u) = true →
    noAdjCompl (b ++ r) = noAdjCompl r
  | [], r, _ => rfl
  | a :: b, r, h => by
      rw [List.all_cons, Bool.and_eq_true] at h
      rw [List.cons_append, noAdjCompl_cons, h.1, Bool.true_or, Bool.true_and, noAdjCompl_plain_append b r h.2]

theorem headPlain_append_plain (b r : List Loc) (h : b.all (fun u => !isComplC u) = true) (hne : b ≠ []) :
    headPlain (b ++ r) = true := by
  cases b with
  | nil => exact absurd rfl hne
  | cons a t =>
    rw [List.all_cons, Bool.and_eq_true] at h
    rw [List.cons_append, headPlain_cons, h.1]

/-- every argument is a `Complemented` or is pushed as plain elements; no two `Complemented`
arguments are neighbours: then no two `Complemented` elements meet in the flattened list -/
theorem noAdj_flat : ∀ (xs : List Loc), (∀ y ∈ xs, isComplC y = true ∨ plainOut y = true) →
    noAdjCompl xs = true →
    noAdjCompl (flatJList xs) = true ∧ (headPlain xs = true → headPlain (flatJList xs) = true)
  | [], _, _ => ⟨rfl, fun _ => rfl⟩
  | x :: xs, hx, hn => by
      rw [noAdjCompl_cons, Bool.and_eq_true, Bool.or_eq_true] at hn
      have ih := noAdj_flat xs (fun y hy => hx y (List.mem_cons_of_mem _ hy)) hn.2
      rw [flatJList, headPlain_cons]
      rcases hx x (List.mem_cons_self ..) with hc | hp
      · -- a complemented argument is pushed as it is; the next argument starts plain
        obtain ⟨c, rfl⟩ : ∃ c, x = compl c := by cases x <;> first | exact ⟨_, rfl⟩ | cases hc
        simp only [flatJ, List.singleton_append]
        rw [noAdjCompl_cons, ih.1, ih.2 (hn.1.resolve_left (by rw [hc]; decide))]
        exact ⟨rfl, fun h => h⟩
      · simp only [plainOut, Bool.and_eq_true, Bool.not_eq_true', List.isEmpty_eq_false_iff] at hp
        rw [noAdjCompl_plain_append _ _ hp.1]
        exact ⟨ih.1, fun _ => headPlain_append_plain _ _ hp.1 hp.2⟩

theorem stableR_noAdj : ∀ (racc : List Loc), stableR racc = true → noAdjCompl racc = true
  | [], _ => rfl
  | [a], _ => rfl
  | a :: b :: r, h => by
      simp only [stableR, Bool.and_eq_true] at h
      have ih := stableR_noAdj (b :: r) h.2
      simp only [noAdjCompl, Bool.and_eq_true, Bool.not_eq_true']
      refine ⟨?_, ih⟩
      have := irr_compl_compl b a h.1.2
      rw [Bool.and_comm]; exact this

theorem noAdjCompl_map (f : Loc → Loc) : ∀ (ls : List Loc),
    (∀ l ∈ ls, isComplC l = false → isComplC (f l) = false) → noAdjCompl ls = true →
    noAdjCompl (ls.map f) = true
  | [], _, _ => rfl
  | [a], _, _ => rfl
  | a :: b :: r, hf, hn => by
      simp only [noAdjCompl, Bool.and_eq_true, Bool.not_eq_true', Bool.and_eq_false_iff] at hn
      have ih := noAdjCompl_map f (b :: r) (fun l hl => hf l (by simp [hl])) hn.2
      simp only [List.map_cons, noAdjCompl, Bool.and_eq_true, Bool.not_eq_true', Bool.and_eq_false_iff] at ih ⊢
      exact ⟨hn.1.imp (hf a (by simp)) (hf b (by simp)), ih⟩

/-- `f` acts leaf-wise, through `Join` / `Order` of the element-wise results (handed on by `π`) and
through `Complemented`; `g` says whether the K3 shape arises in one of those `Join`s. -/
structure LocHom (f : Loc → Loc) (g : Loc → Bool) (π : List Loc → List Loc) : Prop where
  perm : PermOk π
  joined : ∀ ls, f (joined ls) = join (π (ls.map f))
  ordered : ∀ ls, f (ordered ls) = order (π (ls.map f))
  compl : ∀ l, f (compl l) = Loc.compl (f l)
  gJoined : ∀ ls, g (Loc.joined ls) = (ls.any g || joinK3 (π (ls.map f)))
  gOrdered : ∀ ls, g (Loc.ordered ls) = ls.any g
  gCompl : ∀ l, g (Loc.compl l) = g l
  gLeaf : ∀ l, isLeafC l = true → g l = false
  leaf : ∀ l, isLeafC l = true → structP (f l) = true ∧ plainOut (f l) = true

/-- what the induction carries: the result is structurally canonical; a `Complemented` comes from a
`Complemented` only; a plain part is pushed as plain elements -/
def HomOk (f : Loc → Loc) (l : Loc) : Prop :=
  structP (f l) = true ∧ (isComplC l = false → isComplC (f l) = false) ∧
  (isComplC l = false → isJoinedC l = false → plainOut (f l) = true) ∧
  (isOrderedC l = true → isOrderedC (f l) = true)

theorem flatJ_ne_nil_of_struct (y : Loc) (h : structP y = true) : flatJ y ≠ [] :=
  (stableR_flatJ y h).2

section
variable {f : Loc → Loc} {g : Loc → Bool} {π : List Loc → List Loc}

theorem homOk_leaf (h : LocHom f g π) (l : Loc) (hl : isLeafC l = true) : HomOk f l := by
  have := h.leaf l hl
  refine ⟨this.1, fun _ => plainOut_not_compl _ this.2, fun _ _ => this.2, fun ho => ?_⟩
  cases l <;> first | (cases hl; done) | (cases ho; done)

theorem structPList_hom (h : LocHom f g π) (ls : List Loc) (ih : ∀ l ∈ ls, HomOk f l) :
    structPList (π (ls.map f)) = true := by
  rw [structPList_iff]
  intro y hy
  rw [h.perm.mem, List.mem_map] at hy
  obtain ⟨l, hl, rfl⟩ := hy
  exact (ih l hl).1

theorem hom_joined (h : LocHom f g π) (ls : List Loc) (hs : structP (Loc.joined ls) = true)
    (hg : g (Loc.joined ls) = false) (ih : ∀ l ∈ ls, HomOk f l) : HomOk f (Loc.joined ls) := by
  obtain ⟨hst, h2, hnj⟩ := stable_of_structP_joined ls hs
  rw [h.gJoined, Bool.or_eq_false_iff] at hg
  have hparts : ∀ l ∈ ls, partOk l = true := fun l hl => stableR_parts _ hst l (by simpa using hl)
  have hnadj : noAdjCompl ls = true := by
    have := stableR_noAdj _ hst
    rwa [noAdjCompl_reverse] at this
  have hxs := structPList_hom h ls ih
  have hcls : ∀ y ∈ ls.map f, isComplC y = true ∨ plainOut y = true := by
    intro y hy
    rw [List.mem_map] at hy
    obtain ⟨l, hl, rfl⟩ := hy
    cases hc : isComplC l with
    | true =>
      left
      cases l <;> simp [isComplC] at hc
      rw [h.compl]; rfl
    | false => exact Or.inr ((ih l hl).2.2.1 hc (partOk_not_joined l (hparts l hl)))
  have hmapadj := noAdjCompl_map f ls (fun l hl => (ih l hl).2.1) hnadj
  have hflat := noAdj_flat (π (ls.map f)) (fun y hy => hcls y ((h.perm.mem _ _).mp hy))
    (by rw [h.perm.noAdj]; exact hmapadj)
  have hplain : ∃ l ∈ ls, isComplC l = false := by
    match ls, h2, hnadj with
    | a :: b :: r, _, hn =>
      simp only [noAdjCompl, Bool.and_eq_true, Bool.not_eq_true', Bool.and_eq_false_iff] at hn
      rcases hn.1 with h | h
      · exact ⟨a, by simp, h⟩
      · exact ⟨b, by simp, h⟩
  obtain ⟨l0, hl0, hc0⟩ := hplain
  have hp0 := (ih l0 hl0).2.2.1 hc0 (partOk_not_joined l0 (hparts l0 hl0))
  simp only [plainOut, Bool.and_eq_true, Bool.not_eq_true', List.isEmpty_eq_false_iff] at hp0
  obtain ⟨u0, hu0⟩ := List.exists_mem_of_ne_nil _ hp0.2
  have hmem0 : u0 ∈ flatJList (π (ls.map f)) :=
    mem_flatJList.mpr ⟨f l0, (h.perm.mem _ _).mpr (List.mem_map_of_mem hl0), hu0⟩
  have hne : flatJList (π (ls.map f)) ≠ [] := List.ne_nil_of_mem hmem0
  have hpl : ∃ y ∈ flatJList (π (ls.map f)), isComplC y = false :=
    ⟨u0, hmem0, by simpa using List.all_eq_true.mp hp0.1 u0 hu0⟩
  refine ⟨?_, fun _ => ?_, fun _ hj => by simp [isJoinedC] at hj, fun ho => by simp [isOrderedC] at ho⟩
  · rw [h.joined]; exact join_struct _ hxs hne hflat.1 hg.2
  · rw [h.joined]; exact join_not_compl _ hxs hflat.1 hg.2 hpl

theorem hom_ordered (h : LocHom f g π) (ls : List Loc) (hs : structP (Loc.ordered ls) = true)
    (ih : ∀ l ∈ ls, HomOk f l) : HomOk f (Loc.ordered ls) := by
  simp only [structP, Bool.and_eq_true, Bool.not_eq_true', decide_eq_true_eq] at hs
  have hxs := structPList_hom h ls ih
  have := order_struct (π (ls.map f)) hxs (by rw [h.perm.len, List.length_map]; exact hs.1.2)
  unfold HomOk
  rw [h.ordered]
  exact ⟨this.1, fun _ => this.2.1, fun _ _ => plainOut_of_leafy _ this.2.1 this.2.2.1, fun _ => this.2.2.2⟩

mutual
/-- **a function of the shape of the edit operations keeps structurally canonical locations
structurally canonical unless the K3 shape arises in one of its `Join`s** -/
theorem hom_struct (h : LocHom f g π) : ∀ (l : Loc), structP l = true → g l = false → HomOk f l
  | between _, _, _ | point _, _, _ | ranged _ _ _ _, _, _ | ambiguous _ _, _, _ => homOk_leaf h _ rfl
  | Loc.joined ls, hs, hg => by
      have hs' := hs
      simp only [structP, Bool.and_eq_true] at hs'
      have hg' := hg
      rw [h.gJoined, Bool.or_eq_false_iff] at hg'
      exact hom_joined h ls hs hg (hom_structList h ls hs'.1.1.1 hg'.1)
  | Loc.ordered ls, hs, hg => by
      have hs' := hs
      simp only [structP, Bool.and_eq_true] at hs'
      rw [h.gOrdered] at hg
      exact hom_ordered h ls hs (hom_structList h ls hs'.1.1 hg)
  | Loc.compl l, hs, hg => by
      simp only [structP, Bool.and_eq_true, Bool.not_eq_true'] at hs
      rw [h.gCompl] at hg
      have ih := hom_struct h l hs.1 hg
      refine ⟨?_, fun hc => by simp [isComplC] at hc, fun hc => by simp [isComplC] at hc,
        fun ho => by simp [isOrderedC] at ho⟩
      rw [h.compl]
      simp only [structP, Bool.and_eq_true, Bool.not_eq_true']
      exact ⟨ih.1, ih.2.1 hs.2⟩
theorem hom_structList (h : LocHom f g π) : ∀ (ls : List Loc), structPList ls = true → ls.any g = false →
    ∀ l ∈ ls, HomOk f l
  | [], _, _ => by simp
  | x :: xs, hs, hg => by
      simp only [structPList_cons, Bool.and_eq_true] at hs
      simp only [List.any_cons, Bool.or_eq_false_iff] at hg
      exact List.forall_mem_cons.mpr ⟨hom_struct h x hs.1 hg.1, hom_structList h xs hs.2 hg.2⟩
end

end

section
variable {f : Loc → Loc} {π : List Loc → List Loc}

mutual
/-- a coordinate predicate carries over from the leaves (`Join` only copies coordinates or merges
two abutting ranges, `Order` only copies) -/
theorem hom_coords (hp : PermOk π) (hj : ∀ ls, f (joined ls) = join (π (ls.map f)))
    (ho : ∀ ls, f (ordered ls) = order (π (ls.map f))) (hc : ∀ l, f (compl l) = Loc.compl (f l))
    (P : Loc → Bool) (Q' : Int → Bool)
    (hleaf : ∀ l, isLeafC l = true → P l = true → coordsC Q' (f l) = true) :
    ∀ (l : Loc), allLeaves P l = true → coordsC Q' (f l) = true
  | between _, h | point _, h | ranged _ _ _ _, h | ambiguous _ _, h => hleaf _ rfl (by simpa using h)
  | joined ls, h => by
      rw [hj]
      refine join_leaves (mergeOK_leafCoord Q') _ ?_
      rw [hp.leaves]
      exact hom_coordsList hp hj ho hc P Q' hleaf ls (by simpa using h)
  | ordered ls, h => by
      rw [ho]
      refine order_leaves _ _ ?_
      rw [hp.leaves]
      exact hom_coordsList hp hj ho hc P Q' hleaf ls (by simpa using h)
  | compl l, h => by
      rw [hc]
      simpa [coordsC] using hom_coords hp hj ho hc P Q' hleaf l (by simpa using h)
theorem hom_coordsList (hp : PermOk π) (hj : ∀ ls, f (joined ls) = join (π (ls.map f)))
    (ho : ∀ ls, f (ordered ls) = order (π (ls.map f))) (hc : ∀ l, f (compl l) = Loc.compl (f l))
    (P : Loc → Bool) (Q' : Int → Bool)
    (hleaf : ∀ l, isLeafC l = true → P l = true → coordsC Q' (f l) = true) :
    ∀ (ls : List Loc), allLeavesList P ls = true →
      allLeavesList (leafCoord Q') (ls.map f) = true
  | [], _ => by simp
  | l :: ls, h => by
      simp only [allLeavesList_cons, Bool.and_eq_true] at h
      simp only [List.map_cons, allLeavesList_cons, Bool.and_eq_true]
      exact ⟨hom_coords hp hj ho hc P Q' hleaf l h.1, hom_coordsList hp hj ho hc P Q' hleaf ls h.2⟩
end

end

/-- a `LocHom` keeps a canonical location canonical unless its guard `g` is raised, when the leaf
function keeps the coordinates of the leaves that satisfy `P` in range -/
theorem hom_canon {f : Loc → Loc} {g : Loc → Bool} {π : List Loc → List Loc} (h : LocHom f g π) (P : Loc → Bool)
    (hleaf : ∀ u, isLeafC u = true → P u = true → coordsC coordOk (f u) = true) (l : Loc)
    (hc : canonP l = true) (hP : coordsC coordOk l = true → allLeaves P l = true) (hk : g l = false) :
    canonP (f l) = true := by
  rw [canonP_iff] at hc ⊢
  exact ⟨hom_coords h.perm h.joined h.ordered h.compl P _ hleaf l (hP hc.1), (hom_struct h l hc.2 hk).1⟩

theorem allLeaves_and (P1 P2 : Loc → Bool) (l : Loc) (h1 : allLeaves P1 l = true) (h2 : allLeaves P2 l = true) :
    allLeaves (fun u => P1 u && P2 u) l = true := by
  rw [allLeaves_and_eq, h1, h2]
  rfl

end Loc
end Gts
