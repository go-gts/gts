/-
  Helper lemmas for the FEATURE clause of `gts extract` (C15): what `Region.Locate`
  (`Reg.locate`, Gts/Model/Cli.lean) does to the feature table.

  * `Cli.locPieces L f r`: the PIECES an input feature `f` has in `r.Locate(seq)` (`|seq| = L`) —
    one per leaf segment of the region tree whose window the feature overlaps (the `Overlap`
    filter of `gts.Slice`), each with the leaf, the offset of that leaf in the emitted record (the
    lengths of the leaves in front of it: `gts.Concat`), the location (`Slice`: two `Expand`s,
    `asComplete` for `source`; backward leaf: `Complement` then `Reverse`; every `Concat` level but
    the first element: `Expand(0, offset)`) and the K2 guard of exactly these steps folded along the
    way (`Piece.abs`, like `Cli.delAbs`);
  * `locate_feats_perm`: the feature table of `r.Locate(seq)` is, up to the order `Insert` gives it,
    exactly these pieces (nothing lost, nothing added);
  * `locPieces_ok`: every piece denotes the feature's residues inside its leaf, at their offset in
    the emitted record, on the strand relative to the leaf (`segPull`);
  * `leafOffs`, `locPieces_keys`, `leafOffs_den`: which leaves, where in `Reg.den r`;
  * `backPos`, `piece_back`, `readAt_back`: a residue of the emitted record read back as the input
    residue it stands for.
  Core Lean only (plus the C02 / C03 / C04 property modules `Gts/Lemmas/CliFeatures.lean` already uses).
-/
import Gts.Lemmas.CliExtractFeatLoc
import Gts.Lemmas.Cli
import Gts.Lemmas.CliFeatures
import Gts.Lemmas.Locate
namespace Gts.Cli
open Gts Loc Reg

/-- the location the forward `gts.Slice(seq, a, b)` (`|seq| = L`) gives a feature: `Expand(b, b-L)`,
`Expand(0, -a)`, and `asComplete` for a `source` feature -/
def sliceFeatLoc (f : Feature) (a b L : Int) : Loc :=
  if f.key = "source" then (sliceLoc f.loc a b L).asComplete else sliceLoc f.loc a b L

/-- the location `Segment{h, t}.Locate(seq)` gives a feature: the forward slice, and for a
backward segment (`t < h`) `Complement()` then `Reverse(h - t)` of the slice `[t, h)` -/
def segFeatLoc (f : Feature) (h t L : Int) : Loc :=
  if t < h then ((sliceFeatLoc f t h L).complement).reverse (h - t) else sliceFeatLoc f h t L

/-- the K2 guard of `segFeatLoc`: K2 in neither `Expand` of the slice nor (backward segment) in
the `Reverse` -/
def segAbs (f : Feature) (h t L : Int) : Bool :=
  if t < h then
    expandAbs f.loc h (h - L) || expandAbs (f.loc.expand h (h - L)) 0 (-t) ||
      reverseAbs ((sliceFeatLoc f t h L).complement) (h - t)
  else expandAbs f.loc t (t - L) || expandAbs (f.loc.expand t (t - L)) 0 (-h)

/-- the `Overlap` filter of the `gts.Slice` inside `Segment{h, t}.Locate` -/
def segOverlap (f : Feature) (h t : Int) : Bool :=
  if t < h then f.loc.overlap t h else f.loc.overlap h t

/-- where the record extracted for the segment `(h, t)` has input position `x`: forward `x - h`;
backward (`t < h`, reverse complement of `[t, h)`) `h - 1 - x`; `none` outside the segment -/
def segMap (h t x : Int) : Option Int :=
  if t < h then (if t ≤ x ∧ x < h then some (h - 1 - x) else none)
  else (if h ≤ x ∧ x < t then some (x - h) else none)

/-- what a denotation `d` of the input becomes in the record extracted for the segment `(h, t)`:
the residues inside the segment, at their position there, in the same order; on a backward
segment every strand is flipped -/
def segPull (h t : Int) (d : List Pos) : List Pos :=
  d.filterMap fun p => (segMap h t p.1).map fun y => (y, if t < h then !p.2 else p.2)

/-- a piece of a feature in `r.Locate(seq)`: leaf segment, offset of the leaf in the emitted
record, location, and whether K2 fired in a step that produced the location -/
structure Piece where
  leaf : Seg
  off : Int
  loc : Loc
  abs : Bool
  deriving Repr

/-- `gts.Concat`: a feature of a later element is re-located by `Expand(0, k)`, `k` the length of
what is in front of it -/
def Piece.shift (k : Int) (p : Piece) : Piece :=
  ⟨p.leaf, p.off + k, p.loc.expand 0 k, p.abs || expandAbs p.loc 0 k⟩

mutual
/-- the pieces of feature `f` in `r.Locate(seq)`, `|seq| = L` -/
def locPieces (L : Int) (f : Feature) : Reg → List Piece
  | seg h t => if segOverlap f h t then [⟨(h, t), 0, segFeatLoc f h t L, segAbs f h t L⟩] else []
  | many rs => locPiecesList L f rs
/-- `gts.Concat(seqs...)`: the first element as it is … -/
def locPiecesList (L : Int) (f : Feature) : List Reg → List Piece
  | [] => []
  | r :: rs => locPieces L f r ++ locPiecesTail L f rs (Reg.len r)
/-- … every later one shifted by the length in front of it -/
def locPiecesTail (L : Int) (f : Feature) : List Reg → Int → List Piece
  | [], _ => []
  | r :: rs, off => (locPieces L f r).map (Piece.shift off) ++ locPiecesTail L f rs (off + Reg.len r)
end

/-- the feature a piece is written as -/
def pieceFeat (f : Feature) (p : Piece) : Feature := { f with loc := p.loc }

mutual
/-- the leaf segments of a region tree with their offsets in the emitted record (`o` = offset of
the region itself) -/
def leafOffs : Reg → Int → List (Seg × Int)
  | seg h t, o => [((h, t), o)]
  | many rs, o => leafOffsList rs o
def leafOffsList : List Reg → Int → List (Seg × Int)
  | [], _ => []
  | r :: rs, o => leafOffs r o ++ leafOffsList rs (o + Reg.len r)
end

theorem flatMap_ite_eq {α β} (l : List α) (c : α → Bool) (g : α → β) :
    l.flatMap (fun x => if c x then [g x] else []) = (l.filter c).map g := by
  induction l with
  | nil => rfl
  | cons a l ih =>
    rw [List.flatMap_cons, ih, List.filter_cons]
    by_cases h : c a = true <;> simp [h]

theorem flatMap_append_perm {α β} (l : List α) (g1 g2 : α → List β) :
    (l.flatMap g1 ++ l.flatMap g2).Perm (l.flatMap fun x => g1 x ++ g2 x) := by
  induction l with
  | nil => simp
  | cons a l ih =>
    simp only [List.flatMap_cons, List.append_assoc]
    exact ((List.perm_append_comm_assoc ..).trans (ih.append_left _)).append_left _

theorem slice_len (s : Seq) (a b : Int) (h0 : 0 ≤ a) (hab : a ≤ b) (hbL : b ≤ s.len) :
    (s.slice a b).len = b - a :=
  Seq.slice_fwd_eq s a b h0 hab ▸ Seq.sliceFwd_len s a b h0 hab hbL

theorem locate_len (r : Reg) (s : Seq) (hw : within s.len r) : (locate r s).len = Reg.len r := by
  have h := Reg.locate_bytes_den r s (Reg.denIn_of_within hw)
  unfold Seq.len
  rw [h, List.length_map]
  exact den_length r

theorem complement_len (s : Seq) : (Seq.complement s).len = s.len := by
  simp [Seq.complement, Seq.len]

theorem pieces_seg_feats (L : Int) (h t : Int) (ff : Table) :
    ff.flatMap (fun f => (locPieces L f (seg h t)).map (pieceFeat f)) =
      (ff.filter fun f => segOverlap f h t).map fun f => { f with loc := segFeatLoc f h t L } := by
  rw [← flatMap_ite_eq]
  apply flatMap_congr'
  intro f _
  simp only [locPieces]
  split <;> simp [pieceFeat]

theorem locate_seg_feats (s : Seq) (h t : Int) (hw : within s.len (seg h t)) :
    (locate (seg h t) s).feats.Perm
      (s.feats.flatMap fun f => (locPieces s.len f (seg h t)).map (pieceFeat f)) := by
  have hb := hw (h, t) (by simp)
  simp only at hb
  rw [pieces_seg_feats]
  by_cases hth : t < h
  · simp only [locate, segOverlap, hth, if_true]
    have hsl := slice_len s t h hb.2.2.1 (by omega) hb.2.1
    have h1 := Seq.reverse_feats_perm (Seq.complement (s.slice t h))
    rw [complement_len, hsl] at h1
    refine h1.trans (List.Perm.of_eq ?_)
    simp only [Seq.complement, C03.slice_feats_fwd s t h hb.2.2.1 (by omega), List.map_map]
    apply List.map_congr_left
    intro f _
    simp only [Function.comp, segFeatLoc, hth, if_true, sliceFeatLoc, sliceLoc]
  · simp only [locate, segOverlap, hth, if_false]
    rw [C03.slice_feats_fwd s h t hb.1 (by omega)]
    apply List.Perm.of_eq
    apply List.map_congr_left
    intro f _
    simp only [segFeatLoc, hth, if_false, sliceFeatLoc, sliceLoc]

theorem pieceFeat_shift (f : Feature) (k : Int) (p : Piece) :
    pieceFeat f (p.shift k) = { pieceFeat f p with loc := (pieceFeat f p).loc.expand 0 k } := rfl

mutual
theorem locate_feats_perm (s : Seq) : ∀ (r : Reg), within s.len r →
    (locate r s).feats.Perm (s.feats.flatMap fun f => (locPieces s.len f r).map (pieceFeat f))
  | seg h t, hw => locate_seg_feats s h t hw
  | many rs, hw => locateList_feats_perm s rs ((within_many_iff _ _).mp hw)
theorem locateList_feats_perm (s : Seq) : ∀ (rs : List Reg), (∀ r ∈ rs, within s.len r) →
    (Seq.concat (locateList rs s)).feats.Perm
      (s.feats.flatMap fun f => (locPiecesList s.len f rs).map (pieceFeat f))
  | [], _ => by
      simp only [locateList, Seq.concat, locPiecesList, List.map_nil]
      rw [List.flatMap_eq_nil_iff.mpr fun _ _ => rfl]
  | r :: rs, hw => by
      obtain ⟨hr, hrs⟩ := List.forall_mem_cons.mp hw
      have h1 := locate_feats_perm s r hr
      have h2 := locateTail_feats_perm s rs hrs (locate r s)
      rw [locate_len r s hr] at h2
      simp only [locateList, Seq.concat, locPiecesList, List.map_append]
      refine h2.trans ?_
      refine (List.Perm.append_right _ h1).trans ?_
      exact flatMap_append_perm _ _ _
theorem locateTail_feats_perm (s : Seq) : ∀ (rs : List Reg), (∀ r ∈ rs, within s.len r) →
    ∀ acc : Seq, ((locateList rs s).foldl Seq.concat2 acc).feats.Perm
      (acc.feats ++ s.feats.flatMap fun f => (locPiecesTail s.len f rs acc.len).map (pieceFeat f))
  | [], _, acc => by
      simp only [locateList, List.foldl_nil, locPiecesTail, List.map_nil]
      rw [List.flatMap_eq_nil_iff.mpr fun _ _ => rfl, List.append_nil]
  | r :: rs, hw, acc => by
      obtain ⟨hr, hrs⟩ := List.forall_mem_cons.mp hw
      have h1 := locate_feats_perm s r hr
      have h2 := locateTail_feats_perm s rs hrs (Seq.concat2 acc (locate r s))
      rw [Seq.concat2_len, locate_len r s hr] at h2
      simp only [locateList, List.foldl_cons, locPiecesTail, List.map_append]
      refine h2.trans ?_
      have h3 := Seq.concat2_feats_perm acc (locate r s)
      have h4 : ((locate r s).feats.map fun f => { f with loc := f.loc.expand 0 acc.len }).Perm
          (s.feats.flatMap fun f => ((locPieces s.len f r).map (Piece.shift acc.len)).map (pieceFeat f)) := by
        refine (h1.map _).trans (List.Perm.of_eq ?_)
        rw [List.map_flatMap]
        exact flatMap_congr' _ _ _ fun f _ => by simp only [List.map_map]; rfl
      refine (List.Perm.append_right _ (h3.trans (List.Perm.append_left _ h4))).trans ?_
      rw [List.append_assoc]
      exact List.Perm.append_left _ (flatMap_append_perm _ _ _)
end

theorem segMap_eq_some {h t x y : Int} (hm : segMap h t x = some y) :
    (t < h ∧ t ≤ x ∧ x < h ∧ y = h - 1 - x) ∨ (¬ t < h ∧ h ≤ x ∧ x < t ∧ y = x - h) := by
  unfold segMap at hm
  split at hm <;> split at hm
  · exact Or.inl ⟨‹_›, ‹_ ∧ _›.1, ‹_ ∧ _›.2, (Option.some.inj hm).symm⟩
  · cases hm
  · exact Or.inr ⟨‹_›, ‹_ ∧ _›.1, ‹_ ∧ _›.2, (Option.some.inj hm).symm⟩
  · cases hm

theorem segPull_fwd (h t : Int) (hht : ¬ t < h) (d : List Pos) :
    segPull h t d = filterMapPos (winMap h t) d := by
  unfold segPull filterMapPos
  apply filterMap_congr'
  intro p _
  simp only [segMap, winMap, hht, if_false]

theorem segPull_bwd (h t : Int) (hth : t < h) (d : List Pos) :
    segPull h t d = (filterMapPos (winMap t h) d).map fun p => (h - t - 1 - p.1, !p.2) := by
  unfold segPull filterMapPos
  rw [List.map_filterMap]
  apply filterMap_congr'
  intro p _
  simp only [segMap, winMap, hth, if_true]
  by_cases c : t ≤ p.1 ∧ p.1 < h
  · simp only [c, and_self, if_true, Option.map_some]
    congr 2; omega
  · simp only [c, if_false, Option.map_none]

theorem segPull_nodup (h t : Int) (d : List Pos) (hd : d.Nodup) : (segPull h t d).Nodup :=
  nodup_filterMap_pos (segMap h t) (fun b => if t < h then !b else b) d
    (fun x x' y h1 h2 => by
      rcases segMap_eq_some h1 with h1 | h1 <;> rcases segMap_eq_some h2 with h2 | h2 <;> omega)
    (fun b b' hb => by by_cases c : t < h <;> simpa [c] using hb) hd

theorem revcomp_facts (l : Loc) (W : Int) (hw : wf l = true) (hin : allLeaves (leafWithin W) l = true) :
    wf ((complement l).reverse W) = true ∧ nonnegR ((complement l).reverse W) = true ∧
    (reverseAbs (complement l) W = false →
      den ((complement l).reverse W) ≼ (den l).map fun p => (W - 1 - p.1, !p.2)) := by
  have hr := reverse_mirror (complement l) W (by rw [Loc.wf_complement]; exact hw)
  refine ⟨hr.2, reverse_nonnegR W _ (by rw [allLeaves_complement]; exact hin),
    fun hg => (hr.1 hg).trans (Refines.of_eq ?_)⟩
  -- mirroring the flipped denotation: position `W - 1 - x`, opposite strand, same order
  rw [Loc.den_complement]
  simp [flipDen, mirrorDen, mapPos, mirrorMap, List.map_reverse, Function.comp_def]

theorem sliceFeatLoc_facts (f : Feature) (a b L : Int) (h0 : 0 ≤ a) (hab : a ≤ b) (hbL : b ≤ L)
    (hw : wf f.loc = true) (hcw : allLeaves (leafWithin L) f.loc = true) :
    wf (sliceFeatLoc f a b L) = true ∧ allLeaves (leafWithin (b - a)) (sliceFeatLoc f a b L) = true ∧
    (expandAbs f.loc b (b - L) = false → expandAbs (f.loc.expand b (b - L)) 0 (-a) = false →
      den (sliceFeatLoc f a b L) ≼ filterMapPos (winMap a b) (den f.loc)) := by
  have hpos := den_in_of_within L f.loc hcw
  have hwf : wf (sliceLoc f.loc a b L) = true := by
    unfold sliceLoc
    rw [← Int.neg_sub L b]
    exact (expand_del0 _ 0 a (expand_del0 f.loc b (L - b) hw (by omega)).2 h0).2
  -- the facts for `sliceLoc`; `asComplete` (key `source`) changes none of the three
  have key := And.intro hwf (And.intro (sliceLoc_within f.loc a b L h0 hab hbL hcw)
    fun g1 g2 => (sliceLoc_den f.loc a b L h0 hab hbL hw hpos g1 g2).1)
  unfold sliceFeatLoc
  split
  · rw [wf_asComplete, within_asComplete, den_asComplete]; exact key
  · exact key

theorem segFeatLoc_facts (f : Feature) (h t L : Int) (hb : 0 ≤ h ∧ h ≤ L ∧ 0 ≤ t ∧ t ≤ L)
    (hw : wf f.loc = true) (hcw : allLeaves (leafWithin L) f.loc = true) :
    wf (segFeatLoc f h t L) = true ∧ nonnegR (segFeatLoc f h t L) = true ∧
    (segAbs f h t L = false → den (segFeatLoc f h t L) ≼ segPull h t (den f.loc)) := by
  by_cases hth : t < h
  · obtain ⟨s1, s2, s3⟩ := sliceFeatLoc_facts f t h L hb.2.2.1 (by omega) hb.2.1 hw hcw
    obtain ⟨r1, r2, r3⟩ := revcomp_facts (sliceFeatLoc f t h L) (h - t) s1 s2
    simp only [segFeatLoc, segAbs, hth, if_true]
    refine ⟨r1, r2, ?_⟩
    intro hg
    simp only [Bool.or_eq_false_iff] at hg
    rw [segPull_bwd h t hth]
    exact (r3 hg.2).trans ((s3 hg.1.1 hg.1.2).map _)
  · obtain ⟨s1, s2, s3⟩ := sliceFeatLoc_facts f h t L hb.1 (by omega) hb.2.2.2 hw hcw
    simp only [segFeatLoc, segAbs, hth, if_false]
    refine ⟨s1, nonnegR_of_within _ _ s2, ?_⟩
    intro hg
    simp only [Bool.or_eq_false_iff] at hg
    rw [segPull_fwd h t hth]
    exact s3 hg.1 hg.2

/-- the invariant of a piece of feature `f`: well-formed, residue-bearing leaves non-negative, and —
unless K2 fired on the way — denoting the feature's residues inside its leaf, at their position in
the emitted record -/
def Piece.Ok (f : Feature) (p : Piece) : Prop :=
  wf p.loc = true ∧ nonnegR p.loc = true ∧
  (p.abs = false → den p.loc ≼ mapPos (· + p.off) (segPull p.leaf.1 p.leaf.2 (den f.loc)))

theorem Piece.Ok.shift {f : Feature} {p : Piece} (hp : p.Ok f) (k : Int) (hk : 0 ≤ k) :
    (p.shift k).Ok f := by
  obtain ⟨h1, h2, h3⟩ := hp
  refine ⟨(expand_ins p.loc 0 k h1 hk).2, expand0_nonnegR p.loc k hk h1 h2, fun hg => ?_⟩
  have hg' := Bool.or_eq_false_iff.mp hg
  have d1 := guest_translateR p.loc k h1 h2 hk hg'.2
  have d2 := mapPos_refines (· + k) (h3 hg'.1)
  simp only [mapPos_mapPos, Int.add_assoc] at d2
  exact d1.trans d2

mutual
theorem locPieces_ok (L : Int) (f : Feature) (hw : wf f.loc = true)
    (hcw : allLeaves (leafWithin L) f.loc = true) :
    ∀ (r : Reg), within L r → ∀ p ∈ locPieces L f r, p.Ok f
  | seg h t, hr, p, hp => by
      have hb := hr (h, t) (by simp)
      simp only at hb
      simp only [locPieces] at hp
      split at hp
      · rw [List.mem_singleton] at hp
        subst hp
        obtain ⟨s1, s2, s3⟩ := segFeatLoc_facts f h t L hb hw hcw
        refine ⟨s1, s2, fun hg => ?_⟩
        show den (segFeatLoc f h t L) ≼ mapPos (· + (0 : Int)) (segPull h t (den f.loc))
        simp only [Int.add_zero, mapPos_id]
        exact s3 hg
      · cases hp
  | many rs, hr, p, hp => locPiecesList_ok L f hw hcw rs ((within_many_iff _ _).mp hr) p hp
theorem locPiecesList_ok (L : Int) (f : Feature) (hw : wf f.loc = true)
    (hcw : allLeaves (leafWithin L) f.loc = true) :
    ∀ (rs : List Reg), (∀ r ∈ rs, within L r) → ∀ p ∈ locPiecesList L f rs, p.Ok f
  | [], _, p, hp => by simp [locPiecesList] at hp
  | r :: rs, hr, p, hp => by
      obtain ⟨hr1, hrs⟩ := List.forall_mem_cons.mp hr
      simp only [locPiecesList, List.mem_append] at hp
      rcases hp with hp | hp
      · exact locPieces_ok L f hw hcw r hr1 p hp
      · exact locPiecesTail_ok L f hw hcw rs hrs (Reg.len r) (Gts.len_nonneg r) p hp
theorem locPiecesTail_ok (L : Int) (f : Feature) (hw : wf f.loc = true)
    (hcw : allLeaves (leafWithin L) f.loc = true) :
    ∀ (rs : List Reg), (∀ r ∈ rs, within L r) → ∀ off : Int, 0 ≤ off →
      ∀ p ∈ locPiecesTail L f rs off, p.Ok f
  | [], _, _, _, p, hp => by simp [locPiecesTail] at hp
  | r :: rs, hr, off, hoff, p, hp => by
      obtain ⟨hr1, hrs⟩ := List.forall_mem_cons.mp hr
      simp only [locPiecesTail, List.mem_append, List.mem_map] at hp
      rcases hp with ⟨q, hq, rfl⟩ | hp
      · exact (locPieces_ok L f hw hcw r hr1 q hq).shift off hoff
      · exact locPiecesTail_ok L f hw hcw rs hrs (off + Reg.len r)
          (by have := Gts.len_nonneg r; omega) p hp
end

/-- leaf and offset of a piece -/
def Piece.key (p : Piece) : Seg × Int := (p.leaf, p.off)

mutual
theorem leafOffs_add : ∀ (r : Reg) (o k : Int),
    leafOffs r (o + k) = (leafOffs r o).map fun lo => (lo.1, lo.2 + k)
  | seg h t, o, k => by simp [leafOffs]
  | many rs, o, k => leafOffsList_add rs o k
theorem leafOffsList_add : ∀ (rs : List Reg) (o k : Int),
    leafOffsList rs (o + k) = (leafOffsList rs o).map fun lo => (lo.1, lo.2 + k)
  | [], _, _ => by simp [leafOffsList]
  | r :: rs, o, k => by
      simp only [leafOffsList, List.map_append, leafOffs_add r o k, Int.add_right_comm o k,
        leafOffsList_add rs (o + Reg.len r) k]
end

theorem filter_overlap_shift (f : Feature) (k : Int) (l : List (Seg × Int)) :
    ((l.filter fun lo => segOverlap f lo.1.1 lo.1.2).map fun lo => (lo.1, lo.2 + k)) =
      (l.map fun lo => (lo.1, lo.2 + k)).filter fun lo => segOverlap f lo.1.1 lo.1.2 := by
  rw [List.filter_map]
  rfl

mutual
theorem locPieces_keys (L : Int) (f : Feature) : ∀ (r : Reg),
    (locPieces L f r).map Piece.key = (leafOffs r 0).filter fun lo => segOverlap f lo.1.1 lo.1.2
  | seg h t => by
      simp only [locPieces, leafOffs, List.filter_cons, List.filter_nil]
      split <;> simp [Piece.key]
  | many rs => locPiecesList_keys L f rs
theorem locPiecesList_keys (L : Int) (f : Feature) : ∀ (rs : List Reg),
    (locPiecesList L f rs).map Piece.key = (leafOffsList rs 0).filter fun lo => segOverlap f lo.1.1 lo.1.2
  | [] => by simp [locPiecesList, leafOffsList]
  | r :: rs => by
      simp only [locPiecesList, leafOffsList, List.map_append, List.filter_append, Int.zero_add,
        locPieces_keys L f r, locPiecesTail_keys L f rs (Reg.len r)]
theorem locPiecesTail_keys (L : Int) (f : Feature) : ∀ (rs : List Reg) (off : Int),
    (locPiecesTail L f rs off).map Piece.key =
      (leafOffsList rs off).filter fun lo => segOverlap f lo.1.1 lo.1.2
  | [], _ => by simp [locPiecesTail, leafOffsList]
  | r :: rs, off => by
      have e1 : ((locPieces L f r).map (Piece.shift off)).map Piece.key =
          ((locPieces L f r).map Piece.key).map fun lo => (lo.1, lo.2 + off) := by
        simp only [List.map_map]; rfl
      have e2 := leafOffs_add r 0 off
      rw [Int.zero_add] at e2
      simp only [locPiecesTail, leafOffsList, List.map_append, List.filter_append, e1,
        locPieces_keys L f r, filter_overlap_shift, ← e2, locPiecesTail_keys L f rs (off + Reg.len r)]
end

theorem locPieces_key_mem {L : Int} {f : Feature} {r : Reg} {p : Piece} (hp : p ∈ locPieces L f r) :
    p.key ∈ leafOffs r 0 ∧ segOverlap f p.leaf.1 p.leaf.2 = true := by
  have : p.key ∈ (locPieces L f r).map Piece.key := List.mem_map_of_mem hp
  rw [locPieces_keys] at this
  exact List.mem_filter.mp this

mutual
theorem leafOffs_den : ∀ (r : Reg) (o : Int), ∀ lo ∈ leafOffs r o,
    ∃ pre post, Reg.den r = pre ++ Reg.den (seg lo.1.1 lo.1.2) ++ post ∧ (pre.length : Int) = lo.2 - o
  | seg h t, o, lo, hlo => by
      simp only [leafOffs, List.mem_singleton] at hlo
      subst hlo
      exact ⟨[], [], by simp, by simp⟩
  | many rs, o, lo, hlo => leafOffsList_den rs o lo hlo
theorem leafOffsList_den : ∀ (rs : List Reg) (o : Int), ∀ lo ∈ leafOffsList rs o,
    ∃ pre post, Reg.denList rs = pre ++ Reg.den (seg lo.1.1 lo.1.2) ++ post ∧
      (pre.length : Int) = lo.2 - o
  | [], _, lo, hlo => by simp [leafOffsList] at hlo
  | r :: rs, o, lo, hlo => by
      simp only [leafOffsList, List.mem_append] at hlo
      rcases hlo with h | h
      · obtain ⟨pre, post, e, hl⟩ := leafOffs_den r o lo h
        refine ⟨pre, post ++ Reg.denList rs, ?_, hl⟩
        simp only [Reg.denList, e, List.append_assoc]
      · obtain ⟨pre, post, e, hl⟩ := leafOffsList_den rs (o + Reg.len r) lo h
        refine ⟨Reg.den r ++ pre, post, ?_, ?_⟩
        · simp only [Reg.denList, e, List.append_assoc]
        · have := den_length r
          simp only [List.length_append]
          omega
end

theorem getElem?_irange (s : Int) (n k : Nat) (hk : k < n) : (irange s n)[k]? = some (s + k) := by
  obtain ⟨m, rfl⟩ := Nat.exists_eq_add_of_lt hk
  rw [Nat.add_assoc, ← irange_append, List.getElem?_append_right (by simp), length_irange, Nat.sub_self]
  rfl

theorem seg_den_get (h t x y : Int) (hm : segMap h t x = some y) :
    0 ≤ y ∧ (Reg.den (seg h t))[y.toNat]? = some (x, decide (t < h)) := by
  have hg := gabs_eq (t - h)
  -- the residues of a segment by offset from its head (`den_seg`): `x` sits at offset `y`
  rw [den_seg, List.getElem?_map]
  rcases segMap_eq_some hm with ⟨hth, _, _, rfl⟩ | ⟨hth, _, _, rfl⟩
  · refine ⟨by omega, ?_⟩
    rw [getElem?_irange _ _ _ (by omega), Option.map_some, decide_eq_true hth, posAt, if_pos rfl]
    congr 2; omega
  · refine ⟨by omega, ?_⟩
    rw [getElem?_irange _ _ _ (by omega), Option.map_some, decide_eq_false hth, posAt, if_neg Bool.false_ne_true]
    congr 2; omega

/-- the input residue (position, strand) that the residue `q` of the emitted record stands for, `D`
being the residues the region reads (`Reg.den r`): position `q.1` of the emitted record IS input
residue `D[q.1]`, so reading it on strand `q.2` reads input position `D[q.1].1` on the strand
`D[q.1].2` flipped by `q.2` -/
def backPos (D : List Pos) (q : Pos) : Option Pos :=
  if q.1 < 0 then none else (D[q.1.toNat]?).map fun d => (d.1, d.2 != q.2)

theorem backPos_seg (r : Reg) (lo : Seg × Int) (hlo : lo ∈ leafOffs r 0) (p : Pos) (y : Int)
    (hm : segMap lo.1.1 lo.1.2 p.1 = some y) :
    backPos (Reg.den r) (y + lo.2, if lo.1.2 < lo.1.1 then !p.2 else p.2) = some p := by
  obtain ⟨pre, post, hD, hl⟩ := leafOffs_den r 0 lo hlo
  obtain ⟨hy0, hget⟩ := seg_den_get lo.1.1 lo.1.2 p.1 y hm
  unfold backPos
  simp only
  rw [if_neg (by omega), hD]
  have hidx : (y + lo.2).toNat = pre.length + y.toNat := by omega
  have hlt : y.toNat < (Reg.den (seg lo.1.1 lo.1.2)).length := (List.getElem?_eq_some_iff.mp hget).1
  rw [hidx, List.append_assoc, List.getElem?_append_right (by omega), Nat.add_sub_cancel_left,
    List.getElem?_append_left hlt, hget]
  simp only [Option.map_some]
  congr 1
  apply Prod.ext
  · rfl
  · by_cases c : lo.1.2 < lo.1.1 <;> cases hp2 : p.2 <;> simp [c]

theorem segPull_back (r : Reg) (lo : Seg × Int) (hlo : lo ∈ leafOffs r 0) (d : List Pos) :
    (mapPos (· + lo.2) (segPull lo.1.1 lo.1.2 d)).filterMap (backPos (Reg.den r)) =
      d.filter fun p => (segMap lo.1.1 lo.1.2 p.1).isSome := by
  induction d with
  | nil => rfl
  | cons p d ih =>
    simp only [segPull, mapPos, List.filterMap_cons, List.filter_cons] at ih ⊢
    cases hm : segMap lo.1.1 lo.1.2 p.1 with
    | none => simpa [hm] using ih
    | some y =>
      simp only [Option.map_some, List.map_cons, List.filterMap_cons, Option.isSome_some, if_true]
      rw [backPos_seg r lo hlo p y hm]
      simp only [ih]

theorem segPull_back_some (r : Reg) (lo : Seg × Int) (hlo : lo ∈ leafOffs r 0) (d : List Pos)
    (q : Pos) (hq : q ∈ mapPos (· + lo.2) (segPull lo.1.1 lo.1.2 d)) :
    ∃ p ∈ d, backPos (Reg.den r) q = some p := by
  simp only [mapPos, segPull, List.mem_map, List.mem_filterMap] at hq
  obtain ⟨q0, ⟨p, hp, hq0⟩, rfl⟩ := hq
  obtain ⟨y, hm, rfl⟩ := Option.map_eq_some_iff.mp hq0
  exact ⟨p, hp, backPos_seg r lo hlo p y hm⟩

theorem map_eq_of_filterMap {α β γ} (l : List α) (g : α → Option β) (φ : α → γ) (ψ : β → γ)
    (h : ∀ q ∈ l, ∃ p, g q = some p ∧ φ q = ψ p) : l.map φ = (l.filterMap g).map ψ := by
  rw [List.map_filterMap, ← List.filterMap_eq_map']
  exact filterMap_congr' _ _ _ fun q hq => by
    obtain ⟨p, h1, h2⟩ := h q hq
    rw [h1, h2]; rfl

theorem piece_back (L : Int) (f : Feature) (hw : wf f.loc = true)
    (hcw : allLeaves (leafWithin L) f.loc = true) (r : Reg) (hr : within L r)
    (p : Piece) (hp : p ∈ locPieces L f r) (hg : p.abs = false) :
    (den p.loc).filterMap (backPos (Reg.den r)) ≼
      (den f.loc).filter fun q => (segMap p.leaf.1 p.leaf.2 q.1).isSome :=
  -- the piece denotes the pulled residues at their offset (`locPieces_ok`); read back they are the
  -- feature's residues inside the leaf (`segPull_back`)
  (((locPieces_ok L f hw hcw r hr p hp).2.2 hg).filterMap _).trans
    (Refines.of_eq (segPull_back r p.key (locPieces_key_mem hp).1 (den f.loc)))

theorem uToT_uToT : ∀ c : UInt8, uToT (uToT c) = uToT c :=
  Nuc.forall_uint8 (by decide +kernel)

/-- **reading the emitted record is reading the input**: for a region inside the record, the residue
`q` of the emitted record, read on its strand, is the input residue `backPos (Reg.den r) q` read on
its strand — up to U → T where both the region and the feature are on the complement strand (the
byte is complemented twice) -/
theorem readAt_back (r : Reg) (s : Seq) (hr : within s.len r) (q p0 : Pos)
    (hb : backPos (Reg.den r) q = some p0) :
    uToT (readAt (locate r s).bytes q) = uToT (readAt s.bytes p0) := by
  unfold backPos at hb
  split at hb
  · cases hb
  · rename_i hq
    obtain ⟨d, hd, rfl⟩ := Option.map_eq_some_iff.mp hb
    have hin := Reg.denIn_of_within hr d (List.mem_of_getElem? hd)
    -- position `q.1` of the emitted record holds the input residue `d` as read on its strand
    have hbytes := Reg.locate_bytes_den r s (Reg.denIn_of_within hr)
    have hget : (locate r s).bytes[q.1.toNat]? = some (readAt s.bytes d) := by
      rw [hbytes, List.getElem?_map, hd, Option.map_some]
    obtain ⟨b, hx⟩ : ∃ b, s.bytes[d.1.toNat]? = some b :=
      ⟨_, List.getElem?_eq_getElem (by have : s.len = s.bytes.length := rfl; omega)⟩
    rw [readAt_of_get (Int.not_lt.mp hq) hget, readAt_of_get hin.1 hx, readAt_of_get (p := (d.1, d.2 != q.2)) hin.1 hx]
    cases q.2 <;> cases d.2 <;> simp [rd, complementByte_complementByte, uToT_uToT]

end Gts.Cli
