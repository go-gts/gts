/-
  `Repair` (property C12), part 1: the loop over the classes computes, for every class, a
  function of the *original* table only; the result is independent of the order in which the
  classes are visited; explicit form of the result; `Repair` never panics.  All of it for
  `repairWith sort` (Gts/Model/RepairSort.lean) with an ARBITRARY function `sort` — no property of
  the sort is used — and, as the instance `sort := sortLocs`, for the model's `repair`.
  Core Lean only.
-/
import Gts.Spec.RepairSortGuard
import Gts.Lemmas.Basic
namespace Gts

theorem flatMap_sublist_flatten {α} (l : List (List α)) (f : List α → List α) (h : ∀ a ∈ l, (f a).Sublist a) :
    (l.flatMap f).Sublist l.flatten := by
  induction l with
  | nil => simp
  | cons a as ih =>
    simp only [List.flatMap_cons, List.flatten_cons]
    exact (h a (by simp)).append (ih fun b hb => h b (by simp [hb]))

theorem classKey_congr {f g : Feature} (h1 : g.key = f.key) (h2 : g.props = f.props) :
    classKey g = classKey f := by
  simp [classKey, classKeyChars, h1, h2]

theorem insNat_perm (x : Nat) (l : List Nat) : (insNat x l).Perm (x :: l) := by
  induction l with
  | nil => simp [insNat]
  | cons y r ih =>
    simp only [insNat]
    split
    · exact List.Perm.refl _
    · exact ((List.Perm.cons y ih).trans (List.Perm.swap x y r))

theorem insNat_sorted (x : Nat) (l : List Nat) (h : l.Pairwise (· ≤ ·)) :
    (insNat x l).Pairwise (· ≤ ·) := by
  induction l with
  | nil => simp [insNat]
  | cons y r ih =>
    simp only [insNat]
    split
    · rename_i hxy
      refine List.Pairwise.cons ?_ h
      intro a ha
      rcases List.mem_cons.mp ha with rfl | ha
      · exact hxy
      · exact Nat.le_trans hxy ((List.pairwise_cons.mp h).1 a ha)
    · rename_i hxy
      have h' := List.pairwise_cons.mp h
      refine List.Pairwise.cons ?_ (ih h'.2)
      intro a ha
      rcases List.mem_cons.mp ((insNat_perm x r).mem_iff.mp ha) with rfl | ha
      · omega
      · exact h'.1 a ha

theorem sortNat_perm (l : List Nat) : (sortNat l).Perm l := by
  induction l with
  | nil => simp [sortNat]
  | cons x r ih =>
    simp only [sortNat, List.foldr_cons]
    exact (insNat_perm x _).trans (List.Perm.cons x ih)

theorem sortNat_sorted (l : List Nat) : (sortNat l).Pairwise (· ≤ ·) := by
  induction l with
  | nil => simp [sortNat]
  | cons x r ih => simpa [sortNat] using insNat_sorted x _ ih

theorem sortNat_eq_self_of_sorted {a b : List Nat} (h : a.Perm b) (hb : b.Pairwise (· ≤ ·)) :
    sortNat a = b :=
  ((sortNat_perm a).trans h).eq_of_pairwise
    (le := (· ≤ ·)) (fun _ _ _ _ h1 h2 => Nat.le_antisymm h1 h2) (sortNat_sorted a) hb

theorem sortNat_eq_of_perm {a b : List Nat} (h : a.Perm b) : sortNat a = sortNat b :=
  sortNat_eq_self_of_sorted (h.trans (sortNat_perm b).symm) (sortNat_sorted b)

@[simp] theorem length_writeLocs (gg : Table) (ws : List (Nat × Loc)) :
    (writeLocs gg ws).length = gg.length := by
  induction ws generalizing gg with
  | nil => rfl
  | cons w ws ih => obtain ⟨i, l⟩ := w; simp [writeLocs, ih]

theorem writeLocs_append (gg : Table) (a b : List (Nat × Loc)) :
    writeLocs gg (a ++ b) = writeLocs (writeLocs gg a) b := by
  induction a generalizing gg with
  | nil => rfl
  | cons w ws ih => obtain ⟨i, l⟩ := w; simp [writeLocs, ih]

theorem getElem?_writeLocs_of_not_mem (gg : Table) (ws : List (Nat × Loc)) (j : Nat)
    (h : j ∉ ws.map Prod.fst) : (writeLocs gg ws)[j]? = gg[j]? := by
  induction ws generalizing gg with
  | nil => rfl
  | cons w ws ih =>
    obtain ⟨i, l⟩ := w
    simp only [List.map_cons, List.mem_cons, not_or] at h
    simp only [writeLocs]
    rw [ih _ h.2, List.getElem?_modify]
    have : ¬ i = j := fun e => h.1 e.symm
    simp [this]

theorem getElem?_writeLocs_of_mem (gg : Table) (ws : List (Nat × Loc)) (j : Nat) (l : Loc)
    (hnd : (ws.map Prod.fst).Nodup) (h : (j, l) ∈ ws) :
    (writeLocs gg ws)[j]? = gg[j]?.map fun f => { f with loc := l } := by
  induction ws generalizing gg with
  | nil => simp at h
  | cons w ws ih =>
    obtain ⟨i, l'⟩ := w
    simp only [List.map_cons, List.nodup_cons] at hnd
    simp only [writeLocs]
    rcases List.mem_cons.mp h with he | hm
    · cases he
      rw [getElem?_writeLocs_of_not_mem _ _ _ hnd.1, List.getElem?_modify]
      simp
    · have hji : ¬ i = j := by
        intro e
        subst e
        exact hnd.1 (List.mem_map.mpr ⟨(i, l), hm, rfl⟩)
      rw [ih _ hnd.2 hm, List.getElem?_modify]
      simp [hji]

theorem writeLocs_key (gg : Table) (ws : List (Nat × Loc)) (j : Nat) :
    (writeLocs gg ws)[j]?.map (fun f => (f.key, f.props)) = gg[j]?.map fun f => (f.key, f.props) := by
  induction ws generalizing gg with
  | nil => rfl
  | cons w ws ih =>
    obtain ⟨i, l⟩ := w
    simp only [writeLocs]
    rw [ih, List.getElem?_modify]
    cases gg[j]? with
    | none => rfl
    | some f => by_cases e : i = j <;> simp [e]

theorem writeLocs_some (gg : Table) (ws : List (Nat × Loc)) (j : Nat) (g : Feature)
    (h : (writeLocs gg ws)[j]? = some g) : ∃ f, gg[j]? = some f ∧ g.key = f.key ∧ g.props = f.props := by
  have hkey := writeLocs_key gg ws j
  rw [h] at hkey
  cases hf : gg[j]? with
  | none => rw [hf] at hkey; cases hkey
  | some f =>
    rw [hf] at hkey
    simp only [Option.map_some, Option.some.injEq, Prod.mk.injEq] at hkey
    exact ⟨f, rfl, hkey⟩

theorem writeLocs_congr (gg : Table) (a b : List (Nat × Loc))
    (ha : (a.map Prod.fst).Nodup) (hb : (b.map Prod.fst).Nodup) (h : ∀ w, w ∈ a ↔ w ∈ b) :
    writeLocs gg a = writeLocs gg b := by
  apply List.ext_getElem?
  intro j
  by_cases hj : j ∈ a.map Prod.fst
  · obtain ⟨⟨j', l⟩, hm, rfl⟩ := List.mem_map.mp hj
    rw [getElem?_writeLocs_of_mem gg a j' l ha hm, getElem?_writeLocs_of_mem gg b j' l hb ((h _).mp hm)]
  · have hj' : j ∉ b.map Prod.fst := by
      intro hb'
      obtain ⟨⟨j', l⟩, hm, rfl⟩ := List.mem_map.mp hb'
      exact hj (List.mem_map.mpr ⟨(j', l), (h _).mpr hm, rfl⟩)
    rw [getElem?_writeLocs_of_not_mem gg a j hj, getElem?_writeLocs_of_not_mem gg b j hj']

/-- the pushed list of the class (from the original table) when `sort.Sort` is `sort` -/
def classPW (sort : List Loc → List Loc) (t : Table) (idx : List Nat) : List Loc := pushedOfWith sort (classForce t idx) (classLocs t idx)

/-- `len(list.Slice())` of the class -/
def classNW (sort : List Loc → List Loc) (t : Table) (idx : List Nat) : Nat := sliceLen (classPW sort t idx)

/-- what the class appends to `keep` -/
def classKeptW (sort : List Loc → List Loc) (t : Table) (idx : List Nat) : List Nat :=
  if classNW sort t idx < idx.length then idx.take (classNW sort t idx) else idx

/-- the location writes of the class -/
def classWritesW (sort : List Loc → List Loc) (t : Table) (idx : List Nat) : List (Nat × Loc) :=
  if classNW sort t idx < idx.length then idx.zip (classPW sort t idx) else []

/-- the class writes a `nil` location -/
def classNilW (sort : List Loc → List Loc) (t : Table) (idx : List Nat) : Bool :=
  decide (classNW sort t idx < idx.length) && (classPW sort t idx).isEmpty

/-! The same for the model's insertion sort: `classP t = classPW sortLocs t` and so on, by `rfl`;
every statement below about `repair` is the instance `sort := sortLocs` of the one about
`repairWith sort` in front of it. -/

def classP (t : Table) (idx : List Nat) : List Loc := pushedOf (classForce t idx) (classLocs t idx)

def classN (t : Table) (idx : List Nat) : Nat := sliceLen (classP t idx)

def classKept (t : Table) (idx : List Nat) : List Nat :=
  if classN t idx < idx.length then idx.take (classN t idx) else idx

def classWrites (t : Table) (idx : List Nat) : List (Nat × Loc) :=
  if classN t idx < idx.length then idx.zip (classP t idx) else []

def classNil (t : Table) (idx : List Nat) : Bool :=
  decide (classN t idx < idx.length) && (classP t idx).isEmpty

theorem classLocs_congr (gg t : Table) (idx : List Nat) (h : ∀ i ∈ idx, gg[i]? = t[i]?) :
    classLocs gg idx = classLocs t idx :=
  filterMap_congr' idx _ _ fun i hi => by rw [h i hi]

theorem classStep_eqW (sort : List Loc → List Loc) (t : Table) (st : RepairSt) (idx : List Nat)
    (h : ∀ i ∈ idx, st.gg[i]? = t[i]?) :
    classStepWith sort t st idx =
      ⟨writeLocs st.gg (classWritesW sort t idx), st.keep ++ classKeptW sort t idx, st.nil || classNilW sort t idx⟩ := by
  simp only [classStepWith, classLocs_congr st.gg t idx h, classKeptW, classWritesW, classNilW, classNW, classPW]
  by_cases h3 : sliceLen (pushedOfWith sort (classForce t idx) (classLocs t idx)) < idx.length
  · simp [h3]
  · simp [h3, writeLocs]

theorem classKept_eq_takeW (sort : List Loc → List Loc) (t : Table) (idx : List Nat) : classKeptW sort t idx = idx.take (classNW sort t idx) := by
  simp only [classKeptW]
  split
  · rfl
  · rw [List.take_of_length_le (by omega)]

theorem le_sliceLen (p : List Loc) : p.length ≤ sliceLen p := by
  cases p <;> simp [sliceLen]

theorem zip_fst_sublist {α β} (a : List α) (b : List β) : ((a.zip b).map Prod.fst).Sublist a := by
  induction a generalizing b with
  | nil => simp
  | cons x xs ih =>
    cases b with
    | nil => simp
    | cons y ys => simpa using (ih ys)

theorem classWrites_keys_sublistW (sort : List Loc → List Loc) (t : Table) (idx : List Nat) :
    ((classWritesW sort t idx).map Prod.fst).Sublist idx := by
  simp only [classWritesW]
  split
  · exact zip_fst_sublist _ _
  · simp

/-- the loop over pairwise disjoint classes, started on a table that agrees with the original
on those classes: every class contributes its own writes / kept indices -/
theorem foldl_classStepW (sort : List Loc → List Loc) (t : Table) (cs : List (List Nat)) (st : RepairSt)
    (hnd : cs.flatten.Nodup) (hag : ∀ i ∈ cs.flatten, st.gg[i]? = t[i]?) :
    cs.foldl (classStepWith sort t) st =
      ⟨writeLocs st.gg (cs.flatMap (classWritesW sort t)), st.keep ++ cs.flatMap (classKeptW sort t),
       st.nil || cs.any (classNilW sort t)⟩ := by
  induction cs generalizing st with
  | nil => simp [writeLocs]
  | cons c cs ih =>
    simp only [List.flatten_cons, List.nodup_append] at hnd
    obtain ⟨hc, hcs, hdis⟩ := hnd
    have hagc : ∀ i ∈ c, st.gg[i]? = t[i]? := fun i hi => hag i (by simp [hi])
    simp only [List.foldl_cons, classStep_eqW sort t st c hagc, List.any_cons]
    rw [ih]
    · simp only [List.flatMap_cons, writeLocs_append, List.append_assoc, Bool.or_assoc]
    · exact hcs
    · intro i hi
      have hnot : i ∉ (classWritesW sort t c).map Prod.fst := by
        intro hm
        exact hdis i ((classWrites_keys_sublistW sort t c).subset hm) i hi rfl
      rw [getElem?_writeLocs_of_not_mem _ _ _ hnot]
      exact hag i (by simp [hi])

theorem repairOrd_eqW (sort : List Loc → List Loc) (t : Table) (cs : List (List Nat)) (hnd : cs.flatten.Nodup) :
    repairOrdWith sort t cs =
      match compact (writeLocs t (cs.flatMap (classWritesW sort t))) (sortNat (cs.flatMap (classKeptW sort t))) with
        | none => .panic
        | some gg => if cs.any (classNilW sort t) then .nilLoc else .ok gg := by
  simp only [repairOrdWith, foldl_classStepW sort t cs ⟨t, [], false⟩ hnd (fun _ _ => rfl)]
  simp only [Bool.false_or, List.nil_append]
  rfl

theorem classWrites_flat_nodupW (sort : List Loc → List Loc) (t : Table) (cs : List (List Nat)) (hnd : cs.flatten.Nodup) :
    ((cs.flatMap (classWritesW sort t)).map Prod.fst).Nodup := by
  rw [List.map_flatMap]
  exact (flatMap_sublist_flatten cs _ fun c _ => classWrites_keys_sublistW sort t c).nodup hnd

/-- **the result does not depend on the order in which Go's `range` visits the map** -/
theorem repairOrd_permW (sort : List Loc → List Loc) (t : Table) (cs cs' : List (List Nat)) (hp : cs.Perm cs')
    (hnd : cs.flatten.Nodup) : repairOrdWith sort t cs = repairOrdWith sort t cs' := by
  have hnd' : cs'.flatten.Nodup := (hp.flatten.nodup_iff).mp hnd
  rw [repairOrd_eqW sort t cs hnd, repairOrd_eqW sort t cs' hnd']
  rw [hp.any_eq (f := classNilW sort t)]
  rw [sortNat_eq_of_perm (hp.flatMap_right (classKeptW sort t))]
  rw [writeLocs_congr t _ _ (classWrites_flat_nodupW sort t cs hnd) (classWrites_flat_nodupW sort t cs' hnd')
    (fun w => (hp.flatMap_right (classWritesW sort t)).mem_iff)]

theorem repairOrd_perm (t : Table) (cs cs' : List (List Nat)) (hp : cs.Perm cs')
    (hnd : cs.flatten.Nodup) : repairOrd t cs = repairOrd t cs' :=
  repairOrd_permW sortLocs t cs cs' hp hnd

theorem mem_dedup (l : List String) (x : String) : x ∈ dedup l ↔ x ∈ l := by
  induction l with
  | nil => simp [dedup]
  | cons a as ih =>
    simp only [dedup, List.mem_cons, List.mem_filter, ih, bne_iff_ne, ne_eq]
    by_cases e : x = a <;> simp [e]

theorem nodup_dedup (l : List String) : (dedup l).Nodup := by
  induction l with
  | nil => simp [dedup]
  | cons a as ih =>
    simp only [dedup, List.nodup_cons, List.mem_filter, bne_iff_ne, ne_eq]
    exact ⟨fun h => h.2 trivial, ih.sublist List.filter_sublist⟩

namespace Table

theorem mem_memberIdx (t : Table) (k : String) (i : Nat) :
    i ∈ memberIdx t k ↔ ∃ f, t[i]? = some f ∧ classKey f = k := by
  simp only [memberIdx, List.mem_filter, List.mem_range]
  constructor
  · rintro ⟨hi, h⟩
    rw [List.getElem?_eq_getElem hi] at h
    exact ⟨t[i], List.getElem?_eq_getElem hi, by simpa using h⟩
  · rintro ⟨f, hf, hk⟩
    have hi : i < t.length := (List.getElem?_eq_some_iff.mp hf).1
    refine ⟨hi, ?_⟩
    rw [hf]
    simpa using hk

theorem memberIdx_sorted (t : Table) (k : String) : (memberIdx t k).Pairwise (· < ·) :=
  List.pairwise_lt_range.filter _

theorem memberIdx_nodup (t : Table) (k : String) : (memberIdx t k).Nodup :=
  (memberIdx_sorted t k).imp fun h => Nat.ne_of_lt h

theorem mem_classKeys (t : Table) (k : String) : k ∈ classKeys t ↔ ∃ f ∈ t, classKey f = k := by
  simp [classKeys, mem_dedup]

theorem flatten_memberIdx_nodup (t : Table) (ks : List String) (h : ks.Nodup) :
    (ks.map (memberIdx t)).flatten.Nodup := by
  induction ks with
  | nil => simp
  | cons k ks ih =>
    simp only [List.nodup_cons] at h
    simp only [List.map_cons, List.flatten_cons, List.nodup_append]
    refine ⟨memberIdx_nodup t k, ih h.2, ?_⟩
    intro a ha b hb e
    subst e
    obtain ⟨l, hl, hal⟩ := List.mem_flatten.mp hb
    obtain ⟨k', hk', rfl⟩ := List.mem_map.mp hl
    obtain ⟨f, hf, hfk⟩ := (mem_memberIdx t k a).mp ha
    obtain ⟨f', hf', hfk'⟩ := (mem_memberIdx t k' a).mp hal
    rw [hf] at hf'
    cases hf'
    rw [hfk] at hfk'
    subst hfk'
    exact h.1 hk'

theorem groups_flatten_nodup (t : Table) : (groups t).flatten.Nodup :=
  flatten_memberIdx_nodup t _ (nodup_dedup _)

theorem mem_groups_flatten (t : Table) (i : Nat) : i ∈ (groups t).flatten ↔ i < t.length := by
  simp only [groups, List.mem_flatten, List.mem_map]
  constructor
  · rintro ⟨l, ⟨k, _, rfl⟩, hi⟩
    obtain ⟨f, hf, _⟩ := (mem_memberIdx t k i).mp hi
    exact (List.getElem?_eq_some_iff.mp hf).1
  · intro hi
    refine ⟨memberIdx t (classKey t[i]), ⟨classKey t[i], ?_, rfl⟩, ?_⟩
    · exact (mem_classKeys t _).mpr ⟨t[i], List.getElem_mem hi, rfl⟩
    · exact (mem_memberIdx t _ i).mpr ⟨t[i], List.getElem?_eq_getElem hi, rfl⟩

theorem groups_flatten_perm (t : Table) : (groups t).flatten.Perm (List.range t.length) :=
  (List.perm_ext_iff_of_nodup (groups_flatten_nodup t) List.nodup_range).mpr fun i => by
    rw [mem_groups_flatten, List.mem_range]

end Table

theorem compactLoop_incr (gg : Table) (i : Nat) (js : List Nat)
    (hs : js.Pairwise (· < ·)) (hb : ∀ j ∈ js, i ≤ j ∧ j < gg.length) :
    ∃ gg', compactLoop gg i js = some gg' ∧
      gg'.take (i + js.length) = gg.take i ++ js.filterMap (fun j => gg[j]?) := by
  induction js generalizing gg i with
  | nil => exact ⟨gg, rfl, by simp⟩
  | cons j js ih =>
    have hj := hb j (by simp)
    have hs' := List.pairwise_cons.mp hs
    have hjlt : j < gg.length := hj.2
    have hilt : i < gg.length := by omega
    simp only [compactLoop, List.getElem?_eq_getElem hjlt, hilt, if_true]
    obtain ⟨gg', h1, h2⟩ := ih (gg.set i gg[j]) (i + 1) hs'.2 (by
      intro j' hj'
      have := hs'.1 j' hj'
      have := (hb j' (by simp [hj'])).2
      simp only [List.length_set]
      omega)
    refine ⟨gg', h1, ?_⟩
    have e1 : i + (j :: js).length = i + 1 + js.length := by simp; omega
    rw [e1, h2]
    have e2 : (gg.set i gg[j]).take (i + 1) = gg.take i ++ [gg[j]] := by
      rw [List.take_add_one, List.getElem?_set_self hilt, List.take_set_of_le (Nat.le_refl i)]
      rfl
    have e3 : js.filterMap (fun j' => (gg.set i gg[j])[j']?) = js.filterMap (fun j' => gg[j']?) := by
      apply filterMap_congr'
      intro j' hj'
      have := hs'.1 j' hj'
      have hne : ¬ i = j' := by omega
      simp [hne]
    rw [e2, e3]
    simp [List.getElem?_eq_getElem hjlt]

theorem compact_incr (gg : Table) (js : List Nat)
    (hs : js.Pairwise (· < ·)) (hb : ∀ j ∈ js, j < gg.length) :
    compact gg js = some (js.filterMap fun j => gg[j]?) := by
  obtain ⟨gg', h1, h2⟩ := compactLoop_incr gg 0 js hs (fun j hj => ⟨Nat.zero_le _, hb j hj⟩)
  simp only [compact, h1, Option.map_some]
  simpa using h2

/-- the kept indices, ascending -/
def specKeepW (sort : List Loc → List Loc) (t : Table) : List Nat := sortNat ((Table.groups t).flatMap (classKeptW sort t))

/-- the table after the location writes -/
def specGGW (sort : List Loc → List Loc) (t : Table) : Table := writeLocs t ((Table.groups t).flatMap (classWritesW sort t))

/-- the table `Repair` returns (when it writes no `nil` location) -/
def specRepairW (sort : List Loc → List Loc) (t : Table) : Table := (specKeepW sort t).filterMap fun j => (specGGW sort t)[j]?

def specKeep (t : Table) : List Nat := sortNat ((Table.groups t).flatMap (classKept t))

def specGG (t : Table) : Table := writeLocs t ((Table.groups t).flatMap (classWrites t))

def specRepair (t : Table) : Table := (specKeep t).filterMap fun j => (specGG t)[j]?

theorem noNil_iffW (sort : List Loc → List Loc) (t : Table) :
    Table.noNilWith sort t = true ↔ (Table.groups t).any (classNilW sort t) = false := by
  simp only [Table.noNilWith, classNilW, classNW, classPW, List.all_eq_true, List.any_eq_false,
    Bool.not_eq_true', Bool.not_eq_true]
  exact Iff.rfl

theorem classN_of_ne_nilW {sort : List Loc → List Loc} {t : Table} {idx : List Nat} (h : classPW sort t idx ≠ []) :
    classNW sort t idx = (classPW sort t idx).length := by
  simp only [classNW, sliceLen]
  cases hp : classPW sort t idx with
  | nil => exact absurd hp h
  | cons a as => simp

theorem specKeep_sublistW (sort : List Loc → List Loc) (t : Table) :
    ((Table.groups t).flatMap (classKeptW sort t)).Sublist (Table.groups t).flatten :=
  flatMap_sublist_flatten _ _ fun idx _ => by rw [classKept_eq_takeW sort]; exact List.take_sublist _ _

theorem specKeep_sortedW (sort : List Loc → List Loc) (t : Table) : (specKeepW sort t).Pairwise (· < ·) := by
  have hnd : (specKeepW sort t).Nodup :=
    ((sortNat_perm _).nodup_iff).mpr (List.Nodup.sublist (specKeep_sublistW sort t) (Table.groups_flatten_nodup t))
  have h1 := sortNat_sorted ((Table.groups t).flatMap (classKeptW sort t))
  have h2 : (specKeepW sort t).Pairwise (· ≠ ·) := hnd
  exact (h1.and h2).imp fun ⟨a, b⟩ => Nat.lt_of_le_of_ne a b

/-- **`Repair` on every table**: never a panic; the explicit table, or the `nil`-location
outcome when some class of two or more members has an empty pushed list -/
theorem repair_eqW (sort : List Loc → List Loc) (t : Table) :
    repairWith sort t = if (Table.groups t).any (classNilW sort t) then .nilLoc else .ok (specRepairW sort t) := by
  have hb : ∀ j ∈ specKeepW sort t, j < (specGGW sort t).length := by
    intro j hj
    have hj' : j ∈ (Table.groups t).flatten := (specKeep_sublistW sort t).subset ((sortNat_perm _).mem_iff.mp hj)
    simpa [specGGW] using (Table.mem_groups_flatten t j).mp hj'
  rw [repairWith, repairOrd_eqW sort t _ (Table.groups_flatten_nodup t)]
  have := compact_incr (specGGW sort t) (specKeepW sort t) (specKeep_sortedW sort t) hb
  simp only [specGGW, specKeepW] at this
  rw [this]
  rfl

theorem repair_eq (t : Table) :
    repair t = if (Table.groups t).any (classNil t) then .nilLoc else .ok (specRepair t) :=
  repair_eqW sortLocs t

theorem repair_eq_specW (sort : List Loc → List Loc) (t : Table) (h : (Table.groups t).any (classNilW sort t) = false) :
    repairWith sort t = .ok (specRepairW sort t) := by
  rw [repair_eqW sort, h]; rfl

theorem repair_okW (sort : List Loc → List Loc) (t t' : Table) (h : repairWith sort t = .ok t') :
    (Table.groups t).any (classNilW sort t) = false ∧ t' = specRepairW sort t := by
  rw [repair_eqW sort] at h
  cases hn : (Table.groups t).any (classNilW sort t) with
  | true => rw [hn] at h; simp at h
  | false => rw [hn] at h; simp at h; exact ⟨rfl, h.symm⟩

theorem repair_ok (t t' : Table) (h : repair t = .ok t') :
    (Table.groups t).any (classNil t) = false ∧ t' = specRepair t :=
  repair_okW sortLocs t t' h

end Gts
