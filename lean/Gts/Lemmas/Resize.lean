/-
  Helper lemmas for C08: `Modifier.Apply` in closed form, the segment walk of
  `Regions.Resize`, slicing of denotations (over the residues of a segment by offset from its head,
  Lemmas/RegDen.lean), offsets outside the region, strand mirroring.  Core Lean only.
-/
import Gts.Lemmas.RegDen
import Gts.Spec.Resize
namespace Gts
open Reg

theorem Mod.applyFwd_eq (m : Mod) (h t : Int) :
    m.applyFwd h t =
      (h + (bounds m (t - h)).1, h + Loc.gmax (bounds m (t - h)).1 (bounds m (t - h)).2) := by
  cases m <;> simp only [Mod.applyFwd, bounds, Loc.gmax_eq_max, Prod.mk.injEq, true_and] <;> omega

/-- all five `Apply` in one closed form: with `(lo, hi)` the modifier's bounds measured from
the head over the pair's length, the result is `(h ± lo, h ± max lo hi)` along the pair's
own direction. -/
theorem Mod.apply_eq (m : Mod) (h t : Int) :
    m.apply h t =
      if t < h then (h - (bounds m (gabs (t - h))).1,
                     h - Loc.gmax (bounds m (gabs (t - h))).1 (bounds m (gabs (t - h))).2)
      else (h + (bounds m (gabs (t - h))).1,
            h + Loc.gmax (bounds m (gabs (t - h))).1 (bounds m (gabs (t - h))).2) := by
  unfold Mod.apply
  split
  · rw [Mod.applyFwd_eq, show gabs (t - h) = -t - -h by rw [gabs_eq]; omega]
    simp only [Prod.mk.injEq]; omega
  · rw [Mod.applyFwd_eq, show gabs (t - h) = t - h by rw [gabs_eq]; omega]

theorem gabs_mirror (L h t : Int) : gabs (L - t - (L - h)) = gabs (t - h) := by
  simp only [gabs_eq]; omega

/-- `Apply` commutes with every reflection `x ↦ c - x` of a non-empty pair: the negation trick
of the Go code (`c = 0`) and the change to the reverse-complemented record (`c = L`) -/
theorem Mod.apply_reflect (m : Mod) (c h t : Int) (hne : h ≠ t) :
    m.apply (c - h) (c - t) = (c - (m.apply h t).1, c - (m.apply h t).2) := by
  rw [Mod.apply_eq m h t, Mod.apply_eq m (c - h) (c - t), gabs_mirror]
  by_cases hth : t < h
  · rw [if_pos hth, if_neg (by omega)]; simp only [Prod.mk.injEq]; omega
  · rw [if_neg hth, if_pos (by omega)]; simp only [Prod.mk.injEq]; omega

/-- where one half of the walk (an index with its residual offset) ends up when the walk
continues at element `k` over the lengths `ls`: a half that stopped before `k` stays put -/
def walkHalf (ls : List Int) (k : Nat) (p : Nat × Int) : Nat × Int :=
  if p.1 = k then (k + (findL ls p.2).1, (findL ls p.2).2) else p

theorem walkHalf_cons (n m : Int) (rest : List Int) (k i : Nat) (x : Int) (hi : i ≤ k) :
    walkHalf (n :: m :: rest) k (i, x) =
      walkHalf (m :: rest) (k + 1) (if i = k ∧ n < x then (k + 1, x - n) else (i, x)) := by
  unfold walkHalf
  by_cases h1 : i = k <;> by_cases h2 : n < x <;> simp [findL, h1, h2] <;> omega

/-- one iteration of the walk: the two halves do not interact -/
theorem walkStep_eq (w : Walk) (k : Nat) (n : Int) :
    walkStep w k n =
      ⟨(if w.left = k ∧ n < w.lower then (k + 1, w.lower - n) else (w.left, w.lower)).1,
       (if w.left = k ∧ n < w.lower then (k + 1, w.lower - n) else (w.left, w.lower)).2,
       (if w.right = k ∧ n < w.upper then (k + 1, w.upper - n) else (w.right, w.upper)).1,
       (if w.right = k ∧ n < w.upper then (k + 1, w.upper - n) else (w.right, w.upper)).2⟩ := by
  simp only [walkStep]
  split <;> split <;> rfl

/-- the walk stops before the last element -/
theorem walkHalf_short (ls : List Int) (h : ls.length ≤ 1) (k : Nat) (p : Nat × Int) : walkHalf ls k p = p := by
  unfold walkHalf
  split
  · rename_i hk; subst hk; match ls, h with | [], _ | [_], _ => rfl
  · rfl

theorem walkLens_eq (ls : List Int) (k : Nat) (w : Walk) (hl : w.left ≤ k) (hr : w.right ≤ k) :
    walkLens ls k w =
      ⟨(walkHalf ls k (w.left, w.lower)).1, (walkHalf ls k (w.left, w.lower)).2,
       (walkHalf ls k (w.right, w.upper)).1, (walkHalf ls k (w.right, w.upper)).2⟩ := by
  induction ls generalizing k w with
  | nil => simp only [walkLens, walkHalf_short [] (Nat.zero_le 1)]
  | cons n tl ih =>
    cases tl with
    | nil => simp only [walkLens, walkHalf_short [n] (Nat.le_refl 1)]
    | cons m rest =>
      rw [walkLens, walkHalf_cons _ _ _ _ _ _ hl, walkHalf_cons _ _ _ _ _ _ hr, walkStep_eq, ih (k + 1)]
      · dsimp only; split <;> dsimp only <;> omega
      · dsimp only; split <;> dsimp only <;> omega

theorem slice_irange (s : Int) (n a c : Nat) (h : a + c ≤ n) :
    ((irange s n).drop a).take c = irange (s + a) c := by
  obtain ⟨k, rfl⟩ := Nat.exists_eq_add_of_le h
  rw [← irange_append s (a + c) k, ← irange_append s a c, List.append_assoc,
    List.drop_left' (length_irange ..), List.take_left' (length_irange ..)]

theorem sliceDen_map_irange (f : Int → Pos) (s : Int) (n : Nat) (lo hi : Int) (h0 : 0 ≤ lo) (h1 : lo ≤ hi)
    (h2 : hi ≤ n) : sliceDen ((irange s n).map f) lo hi = (irange (s + lo) (hi - lo).toNat).map f := by
  rw [sliceDen, ← List.map_drop, ← List.map_take, slice_irange _ _ _ _ (by omega), Int.toNat_of_nonneg h0]

theorem gmax_right {a b : Int} (h : a ≤ b) : Loc.gmax a b = b := by rw [Loc.gmax_eq_max]; omega

theorem resize_seg_eq (h t : Int) (m : Mod) (h1 : (bounds m (gabs (t - h))).1 ≤ (bounds m (gabs (t - h))).2) :
    resize (seg h t) m =
      if t < h then seg (h - (bounds m (gabs (t - h))).1) (h - (bounds m (gabs (t - h))).2)
      else seg (h + (bounds m (gabs (t - h))).1) (h + (bounds m (gabs (t - h))).2) := by
  rw [resize.eq_1, Mod.apply_eq, gmax_right h1]
  split <;> rfl

/-- the segment `(h, t)` with its head moved outward by `a` and its tail by `b` -/
def Reg.extSeg (h t a b : Int) : Reg := if t < h then seg (h + a) (t - b) else seg (h - a) (t + b)

theorem resize_seg_ext_den (h t : Int) (m : Mod) (lo hi a b : Int)
    (hb : bounds m (gabs (t - h)) = (lo, hi)) (h1 : lo ≤ hi) (ha : -lo ≤ a) (hbb : hi - gabs (t - h) ≤ b) :
    den (resize (seg h t) m) = sliceDen (den (extSeg h t a b)) (lo + a) (hi + a) := by
  have hg := gabs_eq (t - h)
  have he : extSeg h t a b = if t < h then seg (h - -a) (h - (gabs (t - h) + b))
      else seg (h + -a) (h + (gabs (t - h) + b)) := by
    unfold extSeg; split <;> congr 1 <;> omega
  rw [resize_seg_eq h t m (by rw [hb]; exact h1), hb, den_sub h t lo hi h1, he, den_sub h t _ _ (by omega),
    sliceDen_map_irange _ _ _ _ _ (by omega) (by omega) (by omega)]
  congr 2 <;> omega

theorem findL_cons (n : Int) (ls : List Int) (x : Int) (hne : ls ≠ []) :
    findL (n :: ls) x = if n < x then ((findL ls (x - n)).1 + 1, (findL ls (x - n)).2) else (0, x) := by
  cases ls with
  | nil => exact absurd rfl hne
  | cons m rest => rfl

theorem length_lens (rs : List Reg) : (lens rs).length = rs.length := by
  induction rs with
  | nil => rfl
  | cons a tl ih => simp [lens, ih]

/-- the three-way result of `Regions.Resize` in terms of the closed form of the walk -/
def Reg.resizeCore (rs : List Reg) (lo hi : Int) : Reg :=
  let L := findL (lens rs) lo
  let R := findL (lens rs) hi
  if R.1 < L.1 then resizeNth rs L.1 (.head L.2)
  else if L.1 = R.1 then resizeNth rs L.1 (.headHead L.2 R.2)
  else many (resizeSpan rs L.1 R.1 L.2 R.2)

theorem resize_many_eq (rs : List Reg) (m : Mod) :
    resize (many rs) m = resizeCore rs (bounds m (lenList rs)).1 (bounds m (lenList rs)).2 := by
  rw [resize.eq_2, walkLens_eq _ 0 _ (Nat.le_refl _) (Nat.le_refl _)]
  simp [resizeCore, walkHalf]

/-- a modifier acts through its two offsets only -/
theorem resize_eq_headHead (r : Reg) (m : Mod) :
    resize r m = resize r (.headHead (bounds m (len r)).1 (bounds m (len r)).2) := by
  cases r with
  | seg h t => rw [resize.eq_1, resize.eq_1, Mod.apply_eq m, Mod.apply_eq (.headHead ..)]; rfl
  | many rs => rw [resize_many_eq, resize_many_eq]; rfl

theorem sliceDen_append_right (d1 d2 : List Pos) (lo hi : Int) (h : (d1.length : Int) ≤ lo) :
    sliceDen (d1 ++ d2) lo hi = sliceDen d2 (lo - d1.length) (hi - d1.length) := by
  unfold sliceDen
  rw [List.drop_append, List.drop_eq_nil_of_le (by omega), List.nil_append]
  congr 2 <;> omega

theorem sliceDen_append_left (d1 d2 : List Pos) (lo hi : Int) (h : hi ≤ (d1.length : Int)) (h0 : 0 ≤ lo) :
    sliceDen (d1 ++ d2) lo hi = sliceDen d1 lo hi := by
  unfold sliceDen
  rw [List.drop_append, List.take_append_of_le_length (by rw [List.length_drop]; omega)]

theorem sliceDen_append_mid (d1 d2 : List Pos) (lo hi : Int) (h0 : 0 ≤ lo) (h1 : lo ≤ (d1.length : Int))
    (h2 : (d1.length : Int) ≤ hi) :
    sliceDen (d1 ++ d2) lo hi = sliceDen d1 lo d1.length ++ sliceDen d2 0 (hi - d1.length) := by
  unfold sliceDen
  rw [List.drop_append_of_le_length (by omega), List.take_append, List.length_drop]
  congr 1
  · rw [List.take_of_length_le (by rw [List.length_drop]; omega),
      List.take_of_length_le (by rw [List.length_drop]; omega)]
  · rw [Int.toNat_zero, List.drop_zero]; congr 1; omega

theorem sliceDen_all (d : List Pos) : sliceDen d 0 d.length = d := by
  rw [sliceDen, Int.toNat_zero, List.drop_zero, Int.sub_zero, Int.toNat_natCast, List.take_length]

theorem extTail_zero (r : Reg) : extTail 0 r = r := by
  cases r with
  | seg h t => simp only [extTail, Int.sub_zero, Int.add_zero, ite_self]
  | many rs => rfl

theorem extLast_zero (rs : List Reg) : extLast 0 rs = rs := by
  induction rs using extLast.induct with
  | case1 => rfl
  | case2 r => rw [extLast, extTail_zero]
  | case3 r r2 rs ih => rw [extLast, ih]

theorem extHead_zero (r : Reg) : extHead 0 r = r := by
  cases r with
  | seg h t => simp only [extHead, Int.sub_zero, Int.add_zero, ite_self]
  | many rs => rfl

theorem extFirst_zero (rs : List Reg) : extFirst 0 rs = rs := by
  cases rs with
  | nil => rfl
  | cons r rs => rw [extFirst, extHead_zero]

/-- the slicing law of one region when the offsets may lie up to `a` before its head and up to `b`
beyond its tail: `HeadHead` (to which every modifier reduces, `resize_eq_headHead`) reads the slice of
the region with its head moved outward by `a` and its tail by `b` -/
def ExtLaw (a b : Int) (r : Reg) : Prop :=
  len (extTail b (extHead a r)) = len r + a + b ∧
  ∀ lo hi, -a ≤ lo → lo ≤ hi → hi ≤ len r + b →
    den (resize r (.headHead lo hi)) = sliceDen (den (extTail b (extHead a r))) (lo + a) (hi + a)

theorem extTail_extHead_seg (h t a b : Int) (ha : 0 ≤ a) :
    extTail b (extHead a (seg h t)) = extSeg h t a b := by
  unfold extSeg
  by_cases hth : t < h
  · simp only [extHead, hth, if_true, extTail]; rw [if_pos (by omega)]
  · simp only [extHead, hth, if_false, extTail]; rw [if_neg (by omega)]

theorem extLaw_seg (h t a b : Int) (ha : 0 ≤ a) (hb : 0 ≤ b) : ExtLaw a b (seg h t) := by
  rw [ExtLaw, extTail_extHead_seg h t a b ha]
  refine ⟨?_, fun lo hi h0 h1 h2 =>
    resize_seg_ext_den h t (.headHead lo hi) lo hi a b rfl h1 (by omega) (by rw [len] at h2; omega)⟩
  unfold extSeg
  split <;> rw [len, len, gabs_eq, gabs_eq] <;> omega

theorem ExtLaw.inside {r : Reg} (h : ExtLaw 0 0 r) {lo hi : Int} (h0 : 0 ≤ lo) (h1 : lo ≤ hi) (h2 : hi ≤ len r) :
    den (resize r (.headHead lo hi)) = sliceDen (den r) lo hi := by
  have := h.2 lo hi (by omega) h1 (by omega)
  rwa [extHead_zero, extTail_zero, Int.add_zero, Int.add_zero] at this

/-- every element obeys the law with the allowance `a` before its head or none and `b` beyond its tail or
none: what `Regions.Resize` asks of its elements when the lower offset may lie up to `a` before the first
and the upper one up to `b` beyond the last (the only element of a one-element list gets both) -/
def ExtLaws (a b : Int) (rs : List Reg) : Prop :=
  ∀ r ∈ rs, ∀ a' b', a' = 0 ∨ a' = a → b' = 0 ∨ b' = b → ExtLaw a' b' r

theorem ExtLaws.tl {a b : Int} {r : Reg} {rs : List Reg} (H : ExtLaws a b (r :: rs)) : ExtLaws 0 b rs :=
  fun q hq a' b' ha' => H q (List.mem_cons_of_mem _ hq) a' b' (.inl (ha'.elim id id))

/-- the elements after `left` (`resizeTail`): everything up to the offset `x` -/
theorem resizeTail_den (b : Int) (rs : List Reg) (H : ExtLaws 0 b rs) (hne : rs ≠ []) (x : Int)
    (h0 : 0 ≤ x) (h1 : x ≤ lenList rs + b) :
    denList (resizeTail rs ((findL (lens rs) x).1 + 1) (findL (lens rs) x).2) =
      sliceDen (denList (extLast b rs)) 0 x := by
  induction rs generalizing x with
  | nil => exact absurd rfl hne
  | cons r tl ih =>
    rw [lenList] at h1
    cases tl with
    | nil =>
      rw [lenList] at h1
      have hr := (H r (by simp) 0 b (.inl rfl) (.inr rfl)).2 0 x (by omega) h0 (by omega)
      rw [extHead_zero, Int.add_zero, Int.add_zero] at hr
      simp only [lens, findL, resizeTail.eq_2, Nat.le_refl, ↓reduceIte, extLast, denList, List.append_nil]
      exact hr
    | cons r2 rest =>
      have hr := H r (by simp) 0 0 (.inl rfl) (.inl rfl)
      have hl := Cli.den_length r
      rw [lens, lens, findL, ← lens, extLast, denList.eq_2 r]
      split
      · rw [resizeTail.eq_2, if_neg (by omega), Nat.add_sub_cancel, denList,
          ih H.tl (List.cons_ne_nil _ _) (x - len r) (by omega) (by omega),
          sliceDen_append_mid _ _ _ _ (Int.le_refl 0) (by omega) (by omega), sliceDen_all, hl]
      · rw [resizeTail.eq_2, if_pos (Nat.le_refl _), denList, denList, List.append_nil,
          hr.inside (Int.le_refl 0) h0 (by omega), sliceDen_append_left _ _ _ _ (by omega) (Int.le_refl 0)]

theorem resizeCore_cons (r : Reg) {tl : List Reg} (hne : tl ≠ []) (lo hi : Int) :
    resizeCore (r :: tl) lo hi =
      if len r < lo then
        if len r < hi then resizeCore tl (lo - len r) (hi - len r)
        else resizeNth tl (findL (lens tl) (lo - len r)).1 (.head (findL (lens tl) (lo - len r)).2)
      else if len r < hi then
        many (resize r (.headTail lo 0) ::
          resizeTail tl ((findL (lens tl) (hi - len r)).1 + 1) (findL (lens tl) (hi - len r)).2)
      else resize r (.headHead lo hi) := by
  cases tl with
  | nil => exact absurd rfl hne
  | cons r2 rest =>
    by_cases h1 : len r < lo <;> by_cases h2 : len r < hi <;>
      simp only [resizeCore, lens, findL, h1, h2, ↓reduceIte, Nat.add_lt_add_iff_right,
        Nat.add_right_cancel_iff, Nat.not_lt_zero, Nat.lt_irrefl, Nat.zero_lt_succ, resizeNth, resizeSpan,
        Nat.add_sub_cancel] <;> rfl

/-- the slicing law lifts from the elements of a `Regions` value to the value: the lower offset may lie up
to `a` before the head of the first element, the upper one up to `b` beyond the tail of the last -/
theorem resizeCore_den (a b : Int) (rs : List Reg) (H : ExtLaws a b rs) (hne : rs ≠ []) (lo hi : Int)
    (h0 : -a ≤ lo) (h1 : lo ≤ hi) (h2 : hi ≤ lenList rs + b) :
    den (resizeCore rs lo hi) = sliceDen (denList (extLast b (extFirst a rs))) (lo + a) (hi + a) := by
  induction rs generalizing a lo hi with
  | nil => exact absurd rfl hne
  | cons r tl ih =>
    rw [lenList] at h2
    cases tl with
    | nil =>
      rw [lenList] at h2
      simp only [resizeCore, lens, findL, Nat.lt_irrefl, ↓reduceIte, resizeNth, extFirst, extLast, denList,
        List.append_nil]
      exact (H r (by simp) a b (.inr rfl) (.inr rfl)).2 lo hi h0 h1 (by omega)
    | cons r2 rest =>
      have hr := H r (by simp) a 0 (.inr rfl) (.inl rfl)
      rw [ExtLaw, extTail_zero, Int.add_zero, ← Cli.den_length] at hr
      rw [extFirst, extLast, denList, resizeCore_cons r (List.cons_ne_nil _ _)]
      split
      · -- both offsets beyond `r`: the rest of the list, with no allowance at its head
        have := ih 0 H.tl (List.cons_ne_nil _ _) (lo - len r) (hi - len r) (by omega) (by omega) (by omega)
        rw [extFirst_zero, Int.add_zero, Int.add_zero] at this
        rw [if_pos (by omega), this, sliceDen_append_right _ _ _ _ (by omega), hr.1]
        congr 1 <;> omega
      · split
        · have hT : den (resize r (.headTail lo 0)) =
              sliceDen (den (extHead a r)) (lo + a) (den (extHead a r)).length := by
            rw [resize_eq_headHead, hr.1]
            simpa only [bounds, Int.zero_add] using hr.2 lo (len r) h0 (by omega) (by omega)
          rw [den, denList, resizeTail_den b _ H.tl (List.cons_ne_nil _ _) _ (by omega) (by omega), hT,
            sliceDen_append_mid _ _ _ _ (by omega) (by omega) (by omega), hr.1]
          congr 2; omega
        · rw [hr.2 lo hi h0 h1 (by omega), sliceDen_append_left _ _ _ _ (by omega) (by omega)]

mutual
theorem extLaw_of_nonvoid : ∀ r : Reg, nonvoid r = true → ExtLaw 0 0 r
  | seg h t, _ => extLaw_seg h t 0 0 (Int.le_refl 0) (Int.le_refl 0)
  | many rs, hv => by
    simp only [nonvoid, Bool.and_eq_true, Bool.not_eq_true', List.isEmpty_eq_false_iff] at hv
    have H : ExtLaws 0 0 rs := fun r hr a' b' ha' hb' => by
      rw [ha'.elim id id, hb'.elim id id]; exact extLaw_of_nonvoidList rs hv.2 r hr
    refine ⟨by rw [extHead_zero, extTail_zero]; omega, fun lo hi h0 h1 h2 => ?_⟩
    have := resizeCore_den 0 0 rs H hv.1 lo hi h0 h1 h2
    rw [extFirst_zero, extLast_zero] at this
    rw [resize_many_eq]; exact this
theorem extLaw_of_nonvoidList : ∀ rs : List Reg, nonvoidList rs = true → ∀ r ∈ rs, ExtLaw 0 0 r
  | [], _ => fun _ hr => nomatch hr
  | a :: tl, hv => by
    simp only [nonvoidList, Bool.and_eq_true] at hv
    exact List.forall_mem_cons.mpr ⟨extLaw_of_nonvoid a hv.1, extLaw_of_nonvoidList tl hv.2⟩
end

theorem resize_den_of_nonvoid (r : Reg) (m : Mod) (hv : nonvoid r = true)
    (h0 : 0 ≤ (bounds m (len r)).1) (h1 : (bounds m (len r)).1 ≤ (bounds m (len r)).2)
    (h2 : (bounds m (len r)).2 ≤ len r) :
    den (resize r m) = sliceDen (den r) (bounds m (len r)).1 (bounds m (len r)).2 :=
  resize_eq_headHead r m ▸ (extLaw_of_nonvoid r hv).inside h0 h1 h2

mutual
theorem len_mirror (L : Int) : ∀ r : Reg, len (mirror L r) = len r
  | seg h t => by simp only [mirror, len, gabs_mirror]
  | many rs => by simp only [mirror, len, lenList_mirrorList L rs]
theorem lenList_mirrorList (L : Int) : ∀ rs : List Reg, lenList (mirrorList L rs) = lenList rs
  | [] => rfl
  | r :: rs => by simp only [mirrorList, lenList, len_mirror L r, lenList_mirrorList L rs]
end

theorem lens_mirrorList (L : Int) (rs : List Reg) : lens (mirrorList L rs) = lens rs := by
  induction rs with
  | nil => rfl
  | cons a tl ih => simp only [mirrorList, lens, len_mirror, ih]

theorem resize_mirror_seg (L h t : Int) (hne : h ≠ t) (m : Mod) :
    resize (mirror L (seg h t)) m = mirror L (resize (seg h t) m) := by
  simp only [mirror, resize.eq_1, Mod.apply_reflect m L h t hne]

def MirrorLaw (L : Int) (r : Reg) : Prop := ∀ m, resize (mirror L r) m = mirror L (resize r m)

theorem resizeNth_mirror (L : Int) (rs : List Reg) (H : ∀ r ∈ rs, MirrorLaw L r) (k : Nat) (m : Mod) :
    resizeNth (mirrorList L rs) k m = mirror L (resizeNth rs k m) := by
  induction rs generalizing k with
  | nil => rfl
  | cons a tl ih =>
    have ⟨ha, ht⟩ := List.forall_mem_cons.mp H
    cases k with
    | zero => exact ha m
    | succ k => exact ih ht k

theorem resizeTail_mirror (L : Int) (rs : List Reg) (H : ∀ r ∈ rs, MirrorLaw L r) (k : Nat) (u : Int) :
    resizeTail (mirrorList L rs) k u = mirrorList L (resizeTail rs k u) := by
  induction rs generalizing k with
  | nil => rfl
  | cons a tl ih =>
    have ⟨ha, ht⟩ := List.forall_mem_cons.mp H
    rw [mirrorList, resizeTail.eq_2, resizeTail.eq_2]
    split
    · rw [mirrorList, mirrorList, ha]
    · rw [mirrorList, ih ht]

theorem resizeSpan_mirror (L : Int) (rs : List Reg) (H : ∀ r ∈ rs, MirrorLaw L r) (l k : Nat) (a u : Int) :
    resizeSpan (mirrorList L rs) l k a u = mirrorList L (resizeSpan rs l k a u) := by
  induction rs generalizing l k with
  | nil => rfl
  | cons x tl ih =>
    have ⟨hx, ht⟩ := List.forall_mem_cons.mp H
    cases l with
    | zero => rw [mirrorList, resizeSpan, resizeSpan, mirrorList, hx, resizeTail_mirror L tl ht]
    | succ l => exact ih ht l _

mutual
theorem mirrorLaw_of_proper (L : Int) : ∀ r : Reg, proper r = true → MirrorLaw L r
  | seg h t, hp => resize_mirror_seg L h t (by simpa [proper] using hp)
  | many rs, hp => by
    simp only [proper, Bool.and_eq_true] at hp
    have H := mirrorLaw_of_properList L rs hp.2
    intro m
    simp only [mirror]
    rw [resize_many_eq, resize_many_eq, lenList_mirrorList]
    simp only [resizeCore, lens_mirrorList]
    split
    · exact resizeNth_mirror L rs H _ _
    · split
      · exact resizeNth_mirror L rs H _ _
      · simp only [mirror, resizeSpan_mirror L rs H]
theorem mirrorLaw_of_properList (L : Int) : ∀ rs : List Reg, properList rs = true → ∀ r ∈ rs, MirrorLaw L r
  | [], _ => fun _ hr => nomatch hr
  | a :: tl, hp => by
    simp only [properList, Bool.and_eq_true] at hp
    exact List.forall_mem_cons.mpr ⟨mirrorLaw_of_proper L a hp.1, mirrorLaw_of_properList L tl hp.2⟩
end

theorem mirrorPos_posAt (L h : Int) (b : Bool) (i : Int) : mirrorPos L (posAt h b i) = posAt (L - h) (!b) i := by
  cases b <;> simp only [mirrorPos, posAt, Bool.not_true, Bool.not_false, Bool.false_eq_true, if_false, if_true,
    Prod.mk.injEq, and_true] <;> omega

theorem den_mirror_seg (L h t : Int) (hne : h ≠ t) :
    den (mirror L (seg h t)) = (den (seg h t)).map (mirrorPos L) := by
  have hd : decide (L - t < L - h) = !decide (t < h) := by
    by_cases hth : t < h <;> simp [hth] <;> omega
  rw [mirror, den_seg, den_seg, gabs_mirror, hd, List.map_map]
  exact List.map_congr_left fun i _ => (mirrorPos_posAt L h _ i).symm

mutual
theorem den_mirror (L : Int) : ∀ r : Reg, proper r = true → den (mirror L r) = (den r).map (mirrorPos L)
  | seg h t, hp => den_mirror_seg L h t (by simpa [proper] using hp)
  | many rs, hp => by
    simp only [proper, Bool.and_eq_true] at hp
    simp only [mirror, den, denList_mirror L rs hp.2]
theorem denList_mirror (L : Int) : ∀ rs : List Reg, properList rs = true →
    denList (mirrorList L rs) = (denList rs).map (mirrorPos L)
  | [], _ => rfl
  | r :: rs, hp => by
    simp only [properList, Bool.and_eq_true] at hp
    simp only [mirrorList, denList, List.map_append, den_mirror L r hp.1, denList_mirror L rs hp.2]
end

theorem length_extLast (b : Int) (rs : List Reg) : (extLast b rs).length = rs.length := by
  induction rs using extLast.induct with
  | case1 => rfl
  | case2 r => rfl
  | case3 r r2 rs ih => simp only [extLast, List.length_cons, ih]

theorem isSeg_extHead (a : Int) (r : Reg) : isSeg (extHead a r) = isSeg r := by
  cases r with
  | seg h t => simp only [extHead]; split <;> rfl
  | many rs => rfl

theorem isSeg_extTail (b : Int) (r : Reg) : isSeg (extTail b r) = isSeg r := by
  cases r with
  | seg h t => simp only [extTail]; split <;> rfl
  | many rs => rfl

end Gts
