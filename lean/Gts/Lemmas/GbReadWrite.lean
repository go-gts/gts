/-
  C01: `read (write r)` — `GenBankParser` on the text of `GenBank.String`, for either line end
  (`read_write_E`; `read_write_gen` is the case LF), and streams of records
  (`learnStream`, `parseAll_records`, `read_stream`).
-/
import Gts.Lemmas.GbCompose
namespace Gts.GenBank
open Gts.Pars

/-- the record `GenBankParser` starts from after the LOCUS line -/
def startFields (f : Fields) : Fields :=
  { Fields.empty with locusName := f.locusName, molecule := f.molecule, topology := f.topology,
                      division := f.division, date := f.date }

theorem locusOk_parts (f : Fields) (L : Int) (h : locusOk f L = true) : 0 ≤ L ∧ (f.topology = 0 ∨ f.topology = 1) := by
  simp only [locusOk, Bool.and_eq_true, Bool.or_eq_true, beq_iff_eq, decide_eq_true_eq] at h
  exact ⟨h.2.1, h.1.1.1.2⟩

/-- `GenBankParser` = LOCUS line, then the loop, then the length check of 6813da5 -/
theorem genbankParser_of_loop (e : Eol) (reg reg' : Registry) (f fF : Fields) (L : Int) (REST rest' : Bytes)
    (tab : List QFeature) (org : OriginV) (hlocus : locusOk f L = true)
    (hrange : Origin.toOriginLength L ≤ 9223372036854775807) (hmol : isMolecule f.molecule = true)
    (hloop : recordLoop L 12 (2 * REST.length + 2) (startFields f, [], .buffer [], reg) ⟨REST, []⟩ =
      (.ok (fF, tab, org, reg'), ⟨rest', []⟩))
    (hfinal : ¬ (org.len ≠ L ∧ (org.len ≠ 0 ∨ fF.contigAcc.isEmpty = true))) :
    genbankParser reg ⟨locusLine f L ++ (e.bytes ++ REST), []⟩ = (.ok (⟨fF, tab, org⟩, reg'), ⟨rest', []⟩) := by
  obtain ⟨hL0, htop⟩ := locusOk_parts f L hlocus
  have hl := locus_roundtripE e f L REST [] hlocus
  have hneg : ¬ (L < 0 ∨ Origin.toOriginLength L > 9223372036854775807) := by omega
  have htopo := asTopology_text f.topology htop
  simp only [startFields] at hloop
  simp only [genbankParser, P.bind_run, hl, Pars.clear, getS, setS, hneg, if_false, hmol,
    Bool.not_true, Bool.false_eq_true, htopo, hloop]
  rw [if_neg hfinal]
  rfl

end Gts.GenBank

namespace Gts.GenBank
open Gts.Pars

theorem originLen_stream (p : Bytes) (h : p.length < 10 ^ 9) :
    Origin.originLen (Origin.originStream p) = (p.length : Int) :=
  Origin.originLen_of_length (Origin.originStream_length p h)

theorem headerOk_distinct (f : Fields) (h : headerOk f = true) : distinctKeys f.dblink = true := by
  simp only [headerOk, Bool.and_eq_true] at h
  exact h.1.1.1.1.1.1.1.2

/-- the fields after the header sections -/
def headerRead (g : Fields) : Fields :=
  { startFields g with
    definition := g.definition, accession := accessionLine g, version := g.version, dblink := g.dblink,
    keywords := g.keywords, species := g.species, organism := g.organism, taxon := g.taxon,
    references := g.references, comments := g.comments, extra := g.extra }

theorem secsAct_tail (g f : Fields) (p : Bytes) (t : List QFeature) (o : OriginV) (r : Registry) :
    secsAct (tailSecs g p) (f, t, o, r) =
      ((if g.contigAcc.isEmpty then f
        else { f with contigAcc := g.contigAcc, contigHead := g.contigHead, contigTail := g.contigTail }),
       t, (if p.isEmpty then o else .buffer (Origin.originStream p)), r) := by
  by_cases h1 : g.contigAcc.isEmpty = true <;> by_cases h2 : p.isEmpty = true <;>
    simp [tailSecs, secsAct, secContig, secOrigin, h1, h2]

/-- the record assembled by the loop is `readBack` -/
theorem readBack_eq (reg : Registry) (r : Record) (p : Bytes) (tab : List QFeature)
    (hc : (if r.fields.contigAcc.isEmpty then decide (r.fields.contigHead = 0 ∧ r.fields.contigTail = 0)
      else contigOk r.fields) = true)
    (htab : tab = r.table.map (readFeature reg)) :
    (⟨(if r.fields.contigAcc.isEmpty then headerRead r.fields
        else { headerRead r.fields with contigAcc := r.fields.contigAcc, contigHead := r.fields.contigHead,
                                        contigTail := r.fields.contigTail }),
      tab, (if p.isEmpty then .buffer [] else .buffer (Origin.originStream p))⟩ : Record) = readBack reg r p := by
  obtain ⟨f, tb, og⟩ := r
  obtain ⟨a1, a2, a3, a4, a5, a6, a7, a8, a9, a10, a11, a12, a13, a14, a15, a16, a17, a18, a19, a20⟩ := f
  simp only at hc
  subst htab
  by_cases hca : a17.isEmpty = true
  · simp only [hca, if_true, decide_eq_true_eq] at hc
    have hnil : a17 = [] := by simpa using hca
    simp [readBack, headerRead, startFields, Fields.empty, hnil, hc.1, hc.2]
  · simp [readBack, headerRead, startFields, Fields.empty, hca]

/-- the record assembled by the loop from a file with the line end `e` is `readBackE e` -/
theorem readBackE_eq (e : Eol) (reg : Registry) (r : Record) (p : Bytes)
    (hc : (if r.fields.contigAcc.isEmpty then decide (r.fields.contigHead = 0 ∧ r.fields.contigTail = 0)
      else contigOk r.fields) = true) :
    (⟨(if r.fields.contigAcc.isEmpty then headerRead r.fields
        else { headerRead r.fields with contigAcc := r.fields.contigAcc, contigHead := r.fields.contigHead,
                                        contigTail := r.fields.contigTail }),
      r.table.map (readFeatureE e reg),
      (if p.isEmpty then .buffer [] else .buffer (Origin.originStream p))⟩ : Record) = readBackE e reg r p := by
  have h := readBack_eq reg r p (r.table.map (readFeature reg)) hc rfl
  exact congrArg (fun x : Record => (⟨x.fields, r.table.map (readFeatureE e reg), x.origin⟩ : Record)) h

theorem tr_recordText (e : Eol) (ll H mid T rest' : Bytes) (hll : noLF ll) :
    tr e (ll ++ 10 :: (H ++ (mid ++ (T ++ bs "//\n")))) ++ rest' =
      ll ++ (e.bytes ++ (tr e H ++ (tr e mid ++ (tr e T ++ (bs "//" ++ (e.bytes ++ rest')))))) := by
  rw [show bs "//\n" = bs "//" ++ [10] by decide +kernel]
  simp only [tr_append, tr_cons_lf, tr_noLF e ll hll, tr_noLF e (bs "//") (noLF_of_all _ (by decide +kernel)),
    tr_nil e, List.append_assoc, List.nil_append]

/-- **read (write r), either line end, under a grown registry.**  `GenBankParser` under `reg` on the
text `GenBank.String` wrote under `reg0` for a record of the domain `Writable`, every line feed
replaced by the line end `e`, followed by any further text `rest'`, for every `reg` that writes the same
text as `reg0`: it returns `readBackE e reg0 r p` (a value written between quotes keeps the line ends of the
file), leaves exactly `rest'`, and ends with `learnTable reg r.table`.  The ORIGIN section is a
hypothesis (`OriginSec e`): the reader takes it by a different path for each line end. -/
theorem read_write_E (e : Eol) (reg0 : Registry) (r : Record) (p : Bytes)
    (ho : r.origin = .residues p)
    (hw : Writable reg0 r p = true) (hloc : ∀ x ∈ r.table, LocRTE e x.loc)
    (horigin : OriginSec e) :
    ∃ t, write reg0 r = .ok t ∧ t ≠ [] ∧ ∀ reg, sameText reg0 reg → ∀ rest',
      genbankParser reg ⟨tr e t ++ rest', []⟩ = (.ok (readBackE e reg0 r p, learnTable reg r.table), ⟨rest', []⟩) := by
  obtain ⟨hlocus, hrange, hmol, hh, htw, hc, hp, hlen⟩ := writable_parts reg0 r p hw
  refine ⟨_, write_text reg0 r p ho hh hlen htw, by simp, fun reg hs rest' => ?_⟩
  let secs := headerSecs r.fields ++ (featuresSecs e reg0 r.table ++ tailSecs r.fields p)
  have hok : ∀ x ∈ secs, SecOKR e (sameText reg0) (locusLength r.fields p) x := fun x hx =>
    (List.mem_append.mp hx).elim (headerSecs_ok e _ r.fields _ hh x) fun hx =>
      (List.mem_append.mp hx).elim (featuresSecs_ok e reg0 _ r.table htw hloc x)
        (tailSecs_okE e _ r.fields p hc (fun hpe => horigin p (fun c hc => List.all_eq_true.mp hp c hc) hlen
          (by rintro rfl; cases hpe)) x)
  rw [tr_recordText e _ _ _ _ rest' (locusLine_noLF r.fields _ hlocus)]
  have htext : tr e (secsText (headerSecs r.fields)) ++ (tr e (featuresText reg0 r.table) ++
      (tr e (secsText (tailSecs r.fields p)) ++ (bs "//" ++ (e.bytes ++ rest')))) =
      tr e (secsText secs) ++ (bs "//" ++ (e.bytes ++ rest')) := by
    simp only [secs, secsText_append, tr_append, featuresSecs_text, List.append_assoc]
  rw [htext]
  -- header sections, the table, tail sections, the terminator
  have hloop := loop_record e _ _ secs hok (startFields r.fields, [], .buffer [], reg) hs rest'
    (2 * (tr e (secsText secs) ++ (bs "//" ++ (e.bytes ++ rest'))).length + 2) (by
      have := secsIters_leR e _ _ secs hok
      have := tr_length_ge e (secsText secs)
      simp only [List.length_append]; omega)
  simp only [secs, secsAct_append] at hloop
  have hsA : secsAct (headerSecs r.fields) (startFields r.fields, [], .buffer [], reg) =
      (headerRead r.fields, [], .buffer [], reg) :=
    secsAct_header r.fields (startFields r.fields) [] (.buffer []) reg (headerOk_distinct _ hh)
      (by simp [startFields, Fields.empty])
  rw [hsA, featuresSecs_act, secsAct_tail] at hloop
  have := genbankParser_of_loop e reg _ r.fields _ (locusLength r.fields p) _ rest' _ _ hlocus hrange hmol hloop (by
    -- the length check of 6813da5 passes
    by_cases hpe : p.isEmpty = true
    · simp only [hpe, if_true, OriginV.len, Origin.originLen, List.length_nil, if_true]
      by_cases hca : r.fields.contigAcc.isEmpty = true
      · simp only [hca, if_true, decide_eq_true_eq] at hc
        have : locusLength r.fields p = 0 := by
          simp [locusLength, hpe, contigLen, hc.1, hc.2]
        simp [this]
      · simp [hca]
    · simp only [hpe, Bool.false_eq_true, if_false, OriginV.len, originLen_stream p hlen]
      have : locusLength r.fields p = (p.length : Int) := by simp [locusLength, hpe]
      simp [this])
  rw [readBackE_eq e reg0 r p hc] at this
  exact this

theorem read_write_gen (reg0 reg : Registry) (hs : sameText reg0 reg) (r : Record) (p : Bytes)
    (ho : r.origin = .residues p)
    (hw : Writable reg0 r p = true) (hloc : ∀ x ∈ r.table, LocRT x.loc) (rest' : Bytes) :
    ∃ t, write reg0 r = .ok t ∧ t ≠ [] ∧
      genbankParser reg ⟨t ++ rest', []⟩ = (.ok (readBack reg0 r p, learnTable reg r.table), ⟨rest', []⟩) := by
  obtain ⟨t, h1, h2, h3⟩ := read_write_E .lf reg0 r p ho hw (fun x hx => (hloc x hx).toE) originSec_lf
  exact ⟨t, h1, h2, readBackE_lf reg0 r p ▸ h3 reg hs rest'⟩

/-- **read (write r)**: `GenBankParser` on the text `GenBank.String` wrote for a record of the
domain `Writable`, followed by any further text `rest'` (the next record of a stream): it returns
`readBack reg r p`, leaves exactly `rest'`, and the registry has only grown. -/
theorem read_write (reg : Registry) (r : Record) (p : Bytes) (ho : r.origin = .residues p)
    (hw : Writable reg r p = true) (hloc : ∀ x ∈ r.table, LocRT x.loc) (rest' : Bytes) :
    ∃ t, write reg r = .ok t ∧ t ≠ [] ∧
      genbankParser reg ⟨t ++ rest', []⟩ = (.ok (readBack reg r p, learnTable reg r.table), ⟨rest', []⟩) :=
  read_write_gen reg reg (sameText_refl reg) r p ho hw hloc rest'

/-- the registry after reading the records of a stream one after the other -/
def learnStream (reg : Registry) (rs : List Record) : Registry :=
  rs.foldl (fun g r => learnTable g r.table) reg

theorem learnStream_fixed (reg : Registry) (rs : List Record) (h : ∀ r ∈ rs, learnTable reg r.table = reg) :
    learnStream reg rs = reg := by
  induction rs with
  | nil => rfl
  | cons r rs ih =>
    simp only [learnStream, List.foldl_cons, h r (by simp)]
    exact ih fun x hx => h x (by simp [hx])

theorem parseAll_recordsE (e : Eol) (reg0 : Registry) (rs : List (Record × Bytes))
    (horigin : OriginSec e)
    (hall : ∀ x ∈ rs, x.1.origin = .residues x.2 ∧ Writable reg0 x.1 x.2 = true ∧
      ∀ f ∈ x.1.table, LocRTE e f.loc) :
    ∃ t, writeAll reg0 (rs.map (·.1)) = .ok t ∧ rs.length ≤ (tr e t).length ∧
      ∀ (reg : Registry), sameText reg0 reg → ∀ (acc : List Record) (fuel : Nat), rs.length < fuel →
        parseAll reg fuel (tr e t) acc =
          some (acc.reverse ++ rs.map (fun x => readBackE e reg0 x.1 x.2), learnStream reg (rs.map (·.1)), true) := by
  induction rs with
  | nil =>
    refine ⟨[], rfl, by simp, fun reg _ acc fuel hf => ?_⟩
    cases fuel with
    | zero => omega
    | succ k => simp [parseAll, learnStream]
  | cons x rs ih =>
    obtain ⟨ho, hw, hloc⟩ := hall x (by simp)
    obtain ⟨t2, hw2, hl2, hp2⟩ := ih (fun y hy => hall y (by simp [hy]))
    obtain ⟨t1, hw1, hne, hp1⟩ := read_write_E e reg0 x.1 x.2 ho hw hloc horigin
    have hpos : 1 ≤ (tr e t1).length := by
      have := tr_length_ge e t1
      cases t1 with
      | nil => exact absurd rfl hne
      | cons _ _ => simp only [List.length_cons] at this; omega
    refine ⟨t1 ++ t2, ?_, ?_, fun reg hs acc fuel hf => ?_⟩
    · simp only [List.map_cons, writeAll, hw1, hw2]; rfl
    · simp only [tr_append, List.length_cons, List.length_append]; omega
    · cases fuel with
      | zero => omega
      | succ k =>
        have hne' : (tr e t1 ++ tr e t2).isEmpty = false := by
          cases h : tr e t1 with
          | nil => rw [h] at hpos; simp at hpos
          | cons _ _ => rfl
        have hp1' : (genbankParser reg).run' ⟨tr e t1 ++ tr e t2, []⟩ =
            (.ok (readBackE e reg0 x.1 x.2, learnTable reg x.1.table), ⟨tr e t2, []⟩) := hp1 reg hs (tr e t2)
        simp only [tr_append, parseAll, hne', Bool.false_eq_true, if_false, hp1']
        rw [hp2 _ (sameText_learnTable reg0 reg x.1.table hs) _ k (by simp only [List.length_cons] at hf; omega)]
        simp [learnStream]

theorem parseAll_records (reg0 : Registry) (rs : List (Record × Bytes))
    (hall : ∀ x ∈ rs, x.1.origin = .residues x.2 ∧ Writable reg0 x.1 x.2 = true ∧ (∀ f ∈ x.1.table, LocRT f.loc)) :
    ∃ t, writeAll reg0 (rs.map (·.1)) = .ok t ∧ rs.length ≤ t.length ∧
      ∀ (reg : Registry), sameText reg0 reg → ∀ (acc : List Record) (fuel : Nat), rs.length < fuel →
        parseAll reg fuel t acc =
          some (acc.reverse ++ rs.map (fun x => readBack reg0 x.1 x.2), learnStream reg (rs.map (·.1)), true) := by
  have := parseAll_recordsE .lf reg0 rs originSec_lf
    fun x hx => ⟨(hall x hx).1, (hall x hx).2.1, fun f hf => ((hall x hx).2.2 f hf).toE⟩
  simpa only [tr_lf, readBackE_lf] using this

/-- **Framing of multi-record streams.**  A stream of `Writable` records (whose qualifier names
are all registered, so that the registry is the same for every record) written with `WriteSeq` and
read until the input is used up yields exactly the records, each as `readBack`, and no error. -/
theorem read_stream (reg : Registry) (rs : List (Record × Bytes))
    (hall : ∀ x ∈ rs, x.1.origin = .residues x.2 ∧ Writable reg x.1 x.2 = true ∧ (∀ f ∈ x.1.table, LocRT f.loc) ∧
      learnTable reg x.1.table = reg) :
    ∃ t, writeAll reg (rs.map (·.1)) = .ok t ∧
      readAll reg t = some (rs.map (fun x => readBack reg x.1 x.2), reg, true) := by
  obtain ⟨t, hw, hl, hp⟩ := parseAll_records reg rs fun x hx => ⟨(hall x hx).1, (hall x hx).2.1, (hall x hx).2.2.1⟩
  have hfix : learnStream reg (rs.map (·.1)) = reg :=
    learnStream_fixed reg _ fun r hr => by
      obtain ⟨x, hx, rfl⟩ := List.mem_map.mp hr
      exact (hall x hx).2.2.2
  have := hp reg (sameText_refl reg) [] (t.length + 1) (by omega)
  rw [hfix] at this
  exact ⟨t, hw, by simpa [readAll] using this⟩

end Gts.GenBank
