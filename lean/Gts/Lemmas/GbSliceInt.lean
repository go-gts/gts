/-
  C01 / slice helper lemmas: the integers `GenBankFields.Slice` prints with `%d`.
  The model (`intBytes`, Model/GbSlice.lean) prints with Lean's `toString`; here that is shown to
  be `strconv.Itoa` as the writer and reader models know it (`itoaB` / `natDigits`): the UTF-8
  bytes of `Nat.repr n` are the decimal digits of `n`.  Core Lean only.
-/
import Gts.Model.GbSlice
import Gts.Model.GenBank
import Gts.Lemmas.ModText
import Gts.Lemmas.BsLit
namespace Gts.GbSliceInt
open Gts Gts.Pars Gts.GenBank


theorem digitChar_bytes : ∀ d : Fin 10, String.utf8EncodeChar (Nat.digitChar d.1) = [digitByte d.1] := by
  decide

theorem encode_append (a b : List Char) :
    (a ++ b).utf8Encode.data.toList = a.utf8Encode.data.toList ++ b.utf8Encode.data.toList := by
  rw [List.utf8Encode_append, ByteArray.data_append, Array.toList_append]

theorem encode_digit (d : Nat) (h : d < 10) : [Nat.digitChar d].utf8Encode.data.toList = [digitByte d] := by
  rw [List.utf8Encode_singleton, List.data_toByteArray]
  exact digitChar_bytes ⟨d, h⟩

/-- the UTF-8 bytes of the decimal digit characters are `natDigitsF`, for every fuel above `n` -/
theorem toDigits_bytes (f n : Nat) (h : n < f) :
    (Nat.toDigits 10 n).utf8Encode.data.toList = natDigitsF f n := by
  induction f generalizing n with
  | zero => omega
  | succ f ih =>
    unfold natDigitsF
    by_cases hn : n < 10
    · rw [if_pos hn, Nat.toDigits_of_lt_base hn]
      exact encode_digit n hn
    · rw [if_neg hn, Nat.toDigits_of_base_le (by omega) (by omega), encode_append, ih (n / 10) (by omega),
        encode_digit (n % 10) (by omega)]

theorem repr_bytes (n : Nat) : (Nat.repr n).toUTF8.toList = natDigits n := by
  rw [toList_eq, Nat.repr, String.toUTF8, String.toByteArray_ofList]
  exact toDigits_bytes (n + 1) n (by omega)

/-- **`%d` of a non-negative `int`**: `toString` and `strconv.Itoa` print the same bytes -/
theorem intBytes_ofNat (n : Nat) : intBytes (n : Int) = natDigits n := by
  unfold intBytes
  show (Int.repr (Int.ofNat n)).toUTF8.toList = natDigits n
  exact repr_bytes n

theorem minus_bytes : ("-" : String).toUTF8.toList = [45] := by decide +kernel

/-- … and of every `int` -/
theorem intBytes_eq (n : Int) : intBytes n = itoaB n := by
  cases n with
  | ofNat m =>
    rw [show Int.ofNat m = (m : Int) from rfl, intBytes_ofNat]
    simp [itoaB]
  | negSucc m =>
    unfold intBytes
    show (Int.repr (Int.negSucc m)).toUTF8.toList = _
    have h1 : Int.repr (Int.negSucc m) = "-" ++ Nat.repr (m + 1) := rfl
    rw [h1, toList_eq, String.toUTF8, String.toByteArray_append, ByteArray.data_append, Array.toList_append,
      ← toList_eq, ← toList_eq]
    have h2 := repr_bytes (m + 1)
    have h3 := minus_bytes
    simp only [String.toUTF8] at h2 h3
    rw [h2, h3]
    have hneg : Int.negSucc m < 0 := Int.negSucc_lt_zero m
    simp [itoaB, hneg, Int.natAbs]

end Gts.GbSliceInt
