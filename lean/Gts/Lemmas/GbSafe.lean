/-
  C07, record scanners: what the GenBank field parsers of `Gts.Model.GenBankParse` are made of.
  The LOCUS line parser, the field-body loop, the end mark and `pars.Until` are balanced: they keep the
  frame invariant `Fr` (`Safe`).  The DEFINITION retry rewrites the saved frames in place
  (`patchFrames`); it keeps every frame's length because a joined field body is never longer than the
  bytes it was read from (`fieldBodyAt_len`, `fixFrame_length`).  The field parsers themselves `Clear`
  the stack and `Pop` on a possibly empty one; they are taken apart under the forward invariant in
  `Gts.Lemmas.GbProgress`.
-/
import Gts.Lemmas.ParsSorted
import Gts.Lemmas.Eol
import Gts.Model.GenBankParse
namespace Gts.GenBank
open Gts.Pars

theorem locusBack_framed {α} {e : Nat} : Framed 2 e (locusBack : P α) :=
  .bind .pop fun _ => .bind .pop fun _ => .fail

theorem locusTry_framed {α} {p : P α} (hp : Safe p) : Framed 2 2 (locusTry p) :=
  .attempt_bind hp (fun _ => .pure _) locusBack_framed

theorem bpOrAa_safe : Safe bpOrAa := .attempt_bind (lit_safe _) (fun _ => .pure _) (lit_safe _)

theorem divisionParser_safe : Safe divisionParser := .bind .getS fun _ => by
  split
  · exact .ite _ (.bind (.advanceN 3) fun _ => .pure _) (.pure _)
  · exact .pure _

theorem locusParser_safe : Safe locusParser :=
  .ofFramed <| .bind .push fun _ => .bind .push fun _ =>
  .bind (locusTry_framed (lit_safe _)) fun _ => .bind spaces_safe.framed fun _ =>
  .bind (locusTry_framed (word_safe _)) fun _ => .bind spaces_safe.framed fun _ =>
  .bind (locusTry_framed int_safe) fun _ => .bind (locusTry_framed bpOrAa_safe) fun _ =>
  .bind spaces_safe.framed fun _ => .bind (locusTry_framed (word_safe _)) fun _ =>
  .bind spaces_safe.framed fun _ => .bind (locusTry_framed (word_safe _)) fun _ =>
  .bind spaces_safe.framed fun _ => .bind divisionParser_safe.framed fun _ =>
  .bind spaces_safe.framed fun _ => .bind line_safe.framed fun dl =>
  match asDate dl with
  | none => locusBack_framed
  | some _ => .bind .drop fun _ => .bind .drop fun _ => .pure _

theorem fieldLine_safe (d : Nat) : Safe (fieldLine d) := .bind (lit_safe _) fun _ => line_safe

theorem bodyMore_safe (d : Nat) (sep : UInt8) : ∀ f acc k, Safe (bodyMore d sep f acc k)
  | 0, _, _ => .pure _
  | f + 1, _, _ => .attempt_bind (fieldLine_safe d) (fun _ => bodyMore_safe d sep f _ _) (.pure _)

theorem fieldBody_safe (d : Nat) (sep : UInt8) : Safe (fieldBody d sep) :=
  .bind line_safe fun _ => .bind .getS fun _ => bodyMore_safe d sep _ _ _

end Gts.GenBank
namespace Gts.Pars

theorem wp_and {α} {p : P α} {Q1 Q2} {s : PS} (h1 : WP p Q1 s) (h2 : WP p Q2 s) :
    WP p (fun r s' => Q1 r s' ∧ Q2 r s') s := ⟨h1, h2⟩

theorem wp_mono {α} {p : P α} {Q1 Q2 : Except Err α → PS → Prop} {s : PS} (h1 : WP p Q1 s)
    (h : ∀ r s', Q1 r s' → Q2 r s') : WP p Q2 s := h _ _ h1

theorem run_lit (p : Bytes) (s : PS) : (lit p).run' s =
    if (s.rest.take p.length == p && decide (p.length ≤ s.rest.length)) = true then
      (.ok (), { s with rest := s.rest.drop p.length })
    else (.error .fail, s) := by
  unfold lit
  rw [run_bind, run_getS]
  dsimp only
  split <;> rfl

theorem splitLine_len (st : Bytes) :
    (Origin.splitLine st).1.length + (Origin.splitLine st).2.length ≤ st.length := by
  unfold Origin.splitLine
  generalize calcLine st 0 0 false = c
  obtain ⟨i, n⟩ := c
  dsimp only
  split <;> simp only [List.length_take, List.length_drop] <;> omega

end Gts.Pars
namespace Gts.GenBank
open Gts.Pars

theorem run_fieldLine (d : Nat) (s : PS) : (fieldLine d).run' s =
    if (s.rest.take (sp d).length == sp d && decide ((sp d).length ≤ s.rest.length)) = true then
      (.ok (Origin.splitLine (s.rest.drop (sp d).length)).1,
        { rest := (Origin.splitLine (s.rest.drop (sp d).length)).2, stk := s.stk })
    else (.error .fail, s) := by
  unfold fieldLine
  rw [run_bind, run_lit]
  by_cases hc : (s.rest.take (sp d).length == sp d && decide ((sp d).length ≤ s.rest.length)) = true
  · rw [if_pos hc, if_pos hc]; rfl
  · rw [if_neg hc, if_neg hc]

theorem bodyMore_len (d : Nat) (sep : UInt8) (hd : 1 ≤ d) : ∀ f acc k (s : PS) b k' s',
    (bodyMore d sep f acc k).run' s = (.ok (b, k'), s') →
      b.length + s'.rest.length ≤ acc.length + s.rest.length
  | 0, acc, k, s, b, k', s', h => by
    rw [bodyMore, run_pure] at h
    cases h; exact Nat.le_refl _
  | f + 1, acc, k, s, b, k', s', h => by
    rw [bodyMore, run_bind, run_attempt, run_fieldLine] at h
    by_cases hc : (s.rest.take (sp d).length == sp d && decide ((sp d).length ≤ s.rest.length)) = true
    · rw [if_pos hc] at h
      dsimp only at h
      have ih := bodyMore_len d sep hd f _ _ _ _ _ _ h
      have hl := splitLine_len (s.rest.drop (sp d).length)
      simp only [Bool.and_eq_true, decide_eq_true_eq] at hc
      have hsp : (sp d).length = d := by simp [sp]
      rw [hsp] at hl hc ih
      simp only [List.length_append, List.length_cons, List.length_drop] at ih hl ⊢
      omega
    · rw [if_neg hc] at h
      dsimp only at h
      rw [run_pure] at h
      cases h; exact Nat.le_refl _

theorem fieldBody_len (d : Nat) (sep : UInt8) (hd : 1 ≤ d) (s : PS) b k s'
    (h : (fieldBody d sep).run' s = (.ok (b, k), s')) : b.length + s'.rest.length ≤ s.rest.length := by
  unfold fieldBody at h
  rw [run_bind, Origin.line_eq_splitLine] at h
  dsimp only at h
  rw [run_bind, run_getS] at h
  dsimp only at h
  have := bodyMore_len d sep hd _ _ _ _ _ _ _ h
  have hl := splitLine_len s.rest
  dsimp only at this
  omega

/-- the in-place rewrite of one saved frame -/
def fixFrame (rb joined fr : Bytes) : Bytes :=
  if fr.length ≥ rb.length then fr.take (fr.length - rb.length) ++ joined ++ rb.drop joined.length
  else fr

theorem run_patchFrames (rb joined : Bytes) (s : PS) :
    (patchFrames rb joined).run' s = (.ok (), { s with stk := s.stk.map (fixFrame rb joined) }) := rfl

theorem fixFrame_length (rb joined fr : Bytes) (hj : joined.length ≤ rb.length) :
    (fixFrame rb joined fr).length = fr.length := by
  unfold fixFrame
  split
  · simp only [List.length_append, List.length_take, List.length_drop]; omega
  · rfl

theorem sorted_map_len (g : Bytes → Bytes) (hg : ∀ f, (g f).length = f.length) :
    ∀ n st, Sorted n st → Sorted n (st.map g)
  | _, [], _ => trivial
  | n, f :: st, h => ⟨by rw [hg]; exact h.1, by rw [hg]; exact sorted_map_len g hg _ st h.2⟩

/-- `q`, then a field body: the joined text is not longer than the bytes it was read from -/
theorem fieldBodyAt_len {α} (q : P α) (d : Nat) (sep : UInt8) (hd : 1 ≤ d) {s s' : PS} {p rb : Bytes}
    {k : Nat}
    (h : (do
      let _ ← q
      let rb := (← getS).rest
      let (b, k) ← fieldBody d sep
      pure (b, k, rb) : P (Bytes × Nat × Bytes)).run' s = (.ok (p, k, rb), s')) :
    p.length ≤ rb.length := by
  rw [run_bind] at h
  generalize q.run' s = r at h
  rcases r with ⟨_ | _, s1⟩
  · cases h
  · dsimp only at h
    rw [run_bind, run_getS] at h
    dsimp only at h
    rw [run_bind] at h
    have hl := fieldBody_len d sep hd s1
    generalize (fieldBody d sep).run' s1 = r at h hl
    rcases r with ⟨_ | ⟨b, k⟩, s2⟩
    · cases h
    · cases h
      have := hl _ _ _ rfl
      dsimp only
      omega

theorem untilColon_safe : Safe untilColon := .bind .getS fun s =>
  match indexOf 58 s.rest with
  | none => .fail
  | some _ => .bind (.advanceN _) fun _ => .pure _

theorem untilFilter_safe (f : UInt8 → Bool) : Safe (untilFilter f) := .bind .getS fun s =>
  match indexWhere f s.rest with
  | none => .fail
  | some _ => .bind (.advanceN _) fun _ => .pure _

theorem endMark_safe : Safe endMark :=
  .ofFramed <| .bind .push fun _ =>
  .attempt_bind (lit_safe _) (fun _ => .attempt_bind eol_safe (fun _ => .drop) .popFail) .popFail

end Gts.GenBank
