/-
  `Repair` (property C12), part 4: the sort-and-push loop on a class of forward ranges —
  which members are fused, and into what; plain tables (every class is a set of forward ranges or a
  single feature): no `nil` location, nothing changed without a fusable pair, what is fused are chains.
  Core Lean only.
-/
import Gts.Lemmas.RepairClass
namespace Gts
open Loc

namespace Loc

/-- the pair `LocationList.Push` fuses among forward ranges: `v` ends where `u` starts and the
meeting ends are marked partial (or `force`) -/
def mergeable (force : Bool) : Loc → Loc → Bool
  | ranged _ ve _ v3, ranged us _ u5 _ => ((v3 && u5) || force) && ve == us
  | _, _ => false

end Loc

/-- Boolean `Pairwise` -/
def allPairs {α} (r : α → α → Bool) : List α → Bool
  | [] => true
  | a :: as => as.all (r a) && allPairs r as

theorem allPairs_iff {α} (r : α → α → Bool) (l : List α) :
    allPairs r l = true ↔ l.Pairwise fun a b => r a b = true := by
  induction l with
  | nil => simp [allPairs]
  | cons a as ih => simp [allPairs, ih, List.pairwise_cons]

/-- neither order of the pair is fused -/
def unmergeable (force : Bool) (a b : Loc) : Bool := !mergeable force a b && !mergeable force b a

theorem pushD_ranged (d : Nat) (racc : List Loc) (s e : Int) (a b f : Bool) :
    pushD (d + 1) racc (ranged s e a b) f = pushOne (pushD d) racc (ranged s e a b) f := rfl

theorem inertPair_ranged {f : Bool} {a b : Loc} (ha : a.isRanged = true) (hb : b.isRanged = true) :
    inertPair f a b = !mergeable f a b := by
  cases a <;> simp [isRanged] at ha
  cases b <;> simp [isRanged] at hb
  rfl

theorem chainP_pairwise {α} {r : α → α → Prop} (ht : ∀ a b c, r a b → r b c → r a c) :
    ∀ {l : List α}, ChainP r l → l.Pairwise r
  | [], _ => List.Pairwise.nil
  | [_], _ => by simp
  | a :: b :: l, h => by
    have ih := chainP_pairwise ht (l := b :: l) h.2
    refine List.Pairwise.cons ?_ ih
    intro c hc
    rcases List.mem_cons.mp hc with rfl | hc
    · exact h.1
    · exact ht _ _ _ h.1 ((List.pairwise_cons.mp ih).1 c hc)

theorem pairwise_chainP {α} {r : α → α → Prop} : ∀ {l : List α}, l.Pairwise r → ChainP r l
  | [], _ => trivial
  | [_], _ => trivial
  | a :: b :: l, h => by
    have h' := List.pairwise_cons.mp h
    exact ⟨h'.1 b (by simp), pairwise_chainP h'.2⟩

theorem pushAll_unmerged_adj (f : Bool) (ys : List Loc) (hy : ∀ y ∈ ys, y.isRanged = true)
    (h : ChainP (fun a b => mergeable f a b = false) ys) : pushAll [] ys f = ys.reverse :=
  pushAllD_inert_nil (pushFuel - 1) f ys (fun y h => isJoined_of_isRanged (hy y h))
    (chainP_imp ys (fun a b ha hb h => by rw [inertPair_ranged (hy a ha) (hy b hb), h]; rfl) h)

/-- no two features of a class form a pair that `Push` fuses (3'-partial end meeting 5'-partial
start at the same coordinate; any abutting ends when the class is a `source` class) -/
def Table.noMergeablePair (t : Table) : Bool :=
  (Table.groups t).all fun idx => allPairs (unmergeable (classForce t idx)) (classLocs t idx)

theorem plain_locsOf (t : Table) (hp : Table.plain t = true) (k : String) :
    (Table.locsOf t k).length = 1 ∨ ∀ l ∈ Table.locsOf t k, l.isRanged = true := by
  by_cases h1 : (Table.locsOf t k).length = 1
  · exact Or.inl h1
  · refine Or.inr fun l hl => ?_
    obtain ⟨f, hf, rfl⟩ := List.mem_map.mp hl
    obtain ⟨hft, hfk⟩ := List.mem_filter.mp hf
    simp only [Table.plain, List.all_eq_true, Bool.or_eq_true, beq_iff_eq] at hp
    refine (hp f hft).resolve_right fun h => h1 ?_
    rw [locsOf_length, ← h, Table.classSize, beq_iff_eq.mp hfk]

/-- **(a)**: a plain table never gets a `nil` location, whatever the sort -/
theorem repairWith_of_plain (sort : List Loc → List Loc) (hp : PermSort sort) (t : Table)
    (hpl : Table.plain t = true) : repairWith sort t = .ok (specRepairW sort t) := by
  obtain ⟨t', h⟩ := repairWith_ok_of_classes sort t fun k hk =>
    newLocs_ne_nil sort hp _ _
      (fun e => (featsOf_eq_nil_iff t k).mp (List.map_eq_nil_iff.mp (locsOf_eq_map t k ▸ e)) hk)
      ((plain_locsOf t hpl k).imp_right fun hr l hl => isJoined_of_isRanged (hr l hl))
  rw [h, (repair_okW sort t t' h).2]

theorem pushAllD_single (d : Nat) (l : Loc) (f : Bool) (h : l.isJoined = false) :
    (pushAllD d [] [l] f).length = 1 := by
  have := pushD_length d [] l f h
  simp only [pushAllD, List.foldl_cons, List.foldl_nil]
  simp only [List.length_nil, Nat.zero_add] at this
  cases hp : pushD d [] l f with
  | nil => exact absurd hp this.2.2
  | cons a as => rw [hp] at this; simp at this ⊢; omega

theorem sortLocs_single (l : Loc) : sortLocs [l] = [l] := rfl

/-- **(c), one class**: forward ranges no two of which are fused are kept as they are, whatever the sort -/
theorem newLocs_unmerged (sort : List Loc → List Loc) (hp : PermSort sort) (f : Bool) (ls : List Loc)
    (h : ls.length = 1 ∨ ∀ l ∈ ls, l.isRanged = true) (hm : allPairs (unmergeable f) ls = true) :
    newLocs sort f ls = ls := by
  rw [newLocs_eq_self_iff]
  rcases h with h1 | hr
  · have := sliceLen_pos (pushedOfWith sort f ls); omega
  · have hpw : (sort ls).Pairwise fun a b => unmergeable f a b = true :=
      ((hp ls).pairwise_iff fun {a b} h => by
        simp only [unmergeable, Bool.and_eq_true] at h ⊢; exact ⟨h.2, h.1⟩).mpr ((allPairs_iff _ _).mp hm)
    have := pushAll_unmerged_adj f (sort ls) (fun y hy => hr y ((hp ls).mem_iff.mp hy))
      (pairwise_chainP (hpw.imp fun h => by
        simp only [unmergeable, Bool.and_eq_true, Bool.not_eq_true'] at h; exact h.1))
    refine Nat.le_trans (Nat.le_of_eq ?_) (le_sliceLen _)
    simp only [pushedOfWith, this, List.length_reverse, (hp ls).length_eq]

/-- **(c)**: a plain table without a fusable pair is returned as it is, whatever the sort -/
theorem repairWith_unchanged_of_unmerged (sort : List Loc → List Loc) (hp : PermSort sort) (t : Table)
    (hpl : Table.plain t = true) (hm : Table.noMergeablePair t = true) : repairWith sort t = .ok t :=
  repairWith_unchanged_of_classes sort t fun k hk =>
    newLocs_unmerged sort hp _ _ (plain_locsOf t hpl k) (by
      rw [Table.noMergeablePair, groups_all t fun f ls => allPairs (unmergeable f) ls, List.all_eq_true] at hm
      exact hm k hk)

/-- `Chain f ms l`: `l` is the single location `ms = [l]`, or `ms` is a chain of forward ranges
each of which ends where the next one starts, the meeting ends marked partial (or `f`), and `l`
is its span with the outer partial markers -/
inductive Chain (f : Bool) : List Loc → Loc → Prop
  | single (l : Loc) : Chain f [l] l
  | snoc {ms : List Loc} {s m e : Int} {a b c d : Bool} :
      Chain f ms (ranged s m a b) → ((b && c) || f) = true →
      Chain f (ms ++ [ranged m e c d]) (ranged s e a d)

/-- the locations `ls` are, one by one, the chains `gs` -/
def ChainsOf (f : Bool) : List (List Loc) → List Loc → Prop
  | [], [] => True
  | g :: gs, l :: ls => Chain f g l ∧ ChainsOf f gs ls
  | _, _ => False

theorem chainsOf_append (f : Bool) {a : List (List Loc)} {b : List Loc} {c : List (List Loc)} {d : List Loc}
    (h1 : ChainsOf f a b) (h2 : ChainsOf f c d) : ChainsOf f (a ++ c) (b ++ d) := by
  induction a generalizing b with
  | nil =>
    cases b with
    | nil => simpa using h2
    | cons x xs => simp [ChainsOf] at h1
  | cons g gs ih =>
    cases b with
    | nil => simp [ChainsOf] at h1
    | cons x xs =>
      simp only [ChainsOf] at h1
      exact ⟨h1.1, ih h1.2⟩

theorem chainsOf_reverse (f : Bool) {a : List (List Loc)} {b : List Loc} (h : ChainsOf f a b) :
    ChainsOf f a.reverse b.reverse := by
  induction a generalizing b with
  | nil =>
    cases b with
    | nil => simpa using h
    | cons x xs => simp [ChainsOf] at h
  | cons g gs ih =>
    cases b with
    | nil => simp [ChainsOf] at h
    | cons x xs =>
      simp only [ChainsOf] at h
      simp only [List.reverse_cons]
      exact chainsOf_append f (ih h.2) ⟨h.1, trivial⟩

theorem chainsOf_singletons (f : Bool) (ls : List Loc) : ChainsOf f (ls.map fun l => [l]) ls := by
  induction ls with
  | nil => trivial
  | cons l ls ih => exact ⟨Chain.single l, ih⟩

theorem push_chain_step (d : Nat) (f : Bool) (rgs : List (List Loc)) (racc : List Loc) (y : Loc)
    (hc : ChainsOf f rgs racc)
    (hr : ∀ v, racc.head? = some v → v.isRanged = true) (hy : y.isRanged = true) :
    ∃ rgs', ChainsOf f rgs' (pushD (d + 1) racc y f) ∧ rgs'.reverse.flatten = rgs.reverse.flatten ++ [y] ∧
      ∀ v, (pushD (d + 1) racc y f).head? = some v → v.isRanged = true := by
  cases y <;> simp [isRanged] at hy
  rename_i us ue u5 u3
  cases racc with
  | nil =>
    cases rgs with
    | nil =>
      refine ⟨[[ranged us ue u5 u3]], ⟨Chain.single _, trivial⟩, rfl, ?_⟩
      rintro _ ⟨⟩
      rfl
    | cons g gs => simp [ChainsOf] at hc
  | cons v rest =>
    cases rgs with
    | nil => simp [ChainsOf] at hc
    | cons g gs =>
      simp only [ChainsOf] at hc
      have hv := hr v rfl
      cases v <;> simp [isRanged] at hv
      rename_i vs ve v5 v3
      simp only [pushD_ranged, pushOne]
      by_cases hm : (((v3 && u5) || f) && ve == us) = true
      · simp only [hm, if_true]
        simp only [Bool.and_eq_true, beq_iff_eq] at hm
        obtain ⟨hm1, rfl⟩ := hm
        refine ⟨(g ++ [ranged ve ue u5 u3]) :: gs, ⟨Chain.snoc hc.1 hm1, hc.2⟩, by simp, ?_⟩
        rintro _ ⟨⟩
        rfl
      · simp only [hm, if_false, Bool.false_eq_true]
        refine ⟨[ranged us ue u5 u3] :: g :: gs, ⟨Chain.single _, hc.1, hc.2⟩, by simp, ?_⟩
        rintro _ ⟨⟩
        rfl

theorem pushAll_chains (d : Nat) (f : Bool) (ys : List Loc) (rgs : List (List Loc)) (racc : List Loc)
    (hc : ChainsOf f rgs racc)
    (hr : ∀ v, racc.head? = some v → v.isRanged = true) (hy : ∀ y ∈ ys, y.isRanged = true) :
    ∃ rgs', ChainsOf f rgs' (pushAllD (d + 1) racc ys f) ∧ rgs'.reverse.flatten = rgs.reverse.flatten ++ ys := by
  induction ys generalizing rgs racc with
  | nil => exact ⟨rgs, by simpa [pushAllD] using hc, by simp⟩
  | cons y ys ih =>
    obtain ⟨rgs1, h1, h2, h3⟩ := push_chain_step d f rgs racc y hc hr (hy y (by simp))
    obtain ⟨rgs2, h4, h5⟩ := ih rgs1 _ h1 h3 (fun z hz => hy z (by simp [hz]))
    exact ⟨rgs2, by simpa [pushAllD] using h4, by rw [h5, h2]; simp⟩

/-- **(d)(e), one class**: pushing the sorted forward ranges of a class partitions them into
chains, and the pushed list consists of the spans of these chains -/
theorem pushedOfWith_chains (sort : List Loc → List Loc) (hp : PermSort sort) (f : Bool) (locs : List Loc)
    (hr : ∀ l ∈ locs, l.isRanged = true) :
    ∃ gs : List (List Loc), gs.flatten.Perm locs ∧ ChainsOf f gs (pushedOfWith sort f locs) := by
  obtain ⟨rgs, h1, h2⟩ := pushAll_chains (pushFuel - 1) f (sort locs) [] []
    trivial (by simp) (fun y hy => hr y ((hp _).mem_iff.mp hy))
  refine ⟨rgs.reverse, ?_, ?_⟩
  · rw [h2]; simpa using hp locs
  · exact chainsOf_reverse f h1

theorem newLocs_chains (sort : List Loc → List Loc) (hp : PermSort sort) (f : Bool) (ls : List Loc)
    (h : ls.length = 1 ∨ ∀ l ∈ ls, l.isRanged = true) :
    ∃ gs : List (List Loc), gs.flatten.Perm ls ∧ ChainsOf f gs (newLocs sort f ls) := by
  unfold newLocs
  split
  · rcases h with h1 | hr
    · have := sliceLen_pos (pushedOfWith sort f ls); omega
    · exact pushedOfWith_chains sort hp f ls hr
  · exact ⟨_, by rw [← List.flatMap_def, List.flatMap_singleton'], chainsOf_singletons _ _⟩

/-- **(d)(e)**: on a plain table the locations of a class after `Repair` are the spans of a
partition of the class's locations into chains, whatever the sort, as long as it permutes -/
theorem repairWith_chains (sort : List Loc → List Loc) (hp : PermSort sort) (t t' : Table)
    (hpl : Table.plain t = true) (h : repairWith sort t = .ok t') (k : String) :
    ∃ gs, gs.flatten.Perm (Table.locsOf t k) ∧ ChainsOf (Table.forceOf t k) gs (Table.locsOf t' k) := by
  rw [locsOf_repairWith sort t t' h k]
  exact newLocs_chains sort hp _ _ (plain_locsOf t hpl k)

end Gts
