/-
  C01 helper lemmas for quoted qualifier values: the scan of `pars.Quoted('"')` and the removal of
  the continuation indent (`stripCont`) undo `AddPrefix` — on the exact domain: the scan passes
  (`quoteClean`) and no line feed of the value is followed by the whole indent (`noCont`).
-/
import Gts.Lemmas.GbFieldBody
import Gts.Lemmas.GbStripOnePass
namespace Gts.GenBank
open Gts.Pars

/-- the automaton of `pars.Between('"','"')` on the text between the quotes: `esc` = the previous
byte was an unescaped backslash.  `true` iff no unescaped quote is met and the text does not end
inside an escape. -/
def qscan : Bool → Bytes → Bool
  | esc, [] => !esc
  | true, _ :: r => qscan false r
  | false, c :: r => if c = 34 then false else if c = 92 then qscan true r else qscan false r

/-- a value that survives the quote scan -/
def quoteClean (v : Bytes) : Bool := qscan false v

theorem scanQ_clean (v t : Bytes) (e : Bool) (k : Nat) (h : qscan e v = true) :
    scanQ e (v ++ 34 :: t) k = some (k + v.length) := by
  induction v generalizing e k with
  | nil =>
    cases e
    · simp [scanQ]
    · simp [qscan] at h
  | cons c v ih =>
    -- each step of the scan counts the byte it passes
    rw [List.cons_append, List.length_cons, ← Nat.add_assoc, Nat.add_right_comm]
    cases e
    · simp only [qscan] at h
      by_cases h34 : c = 34
      · simp [h34] at h
      · by_cases h92 : c = 92
        · subst h92
          have n34 : ¬ ((92 : UInt8) = 34) := by decide
          simp only [n34, if_false, if_true] at h
          simp only [scanQ, n34, if_false, if_true]
          exact ih true (k + 1) h
        · simp only [h34, h92, if_false] at h
          simp only [scanQ, h34, h92, if_false]
          exact ih false (k + 1) h
    · simp only [qscan] at h
      simp only [scanQ]
      exact ih false (k + 1) h

theorem qscan_sp (n : Nat) (v : Bytes) : qscan false (sp n ++ v) = qscan false v := by
  induction n with
  | zero => simp [sp]
  | succ n ih => rw [sp_succ]; simp [qscan, ih]

/-- the quote scan does not see the continuation indent: in either state a line feed and the
blanks behind it leave it where the line feed alone does -/
theorem qscan_addPrefix (n : Nat) (v : Bytes) : ∀ e, qscan e (addPrefix (sp n) v) = qscan e v := by
  induction v with
  | nil => intro e; rfl
  | cons c v ih =>
    intro e
    by_cases hc : c = 10
    · subst hc
      cases e <;> simp [addPrefix, qscan, qscan_sp, ih]
    · simp only [addPrefix, hc, if_false]
      cases e <;> simp only [qscan, ih]

theorem quoted_ok (w t : Bytes) (stk : List Bytes) (hw : qscan false w = true) :
    quoted ⟨34 :: (w ++ 34 :: t), stk⟩ = (.ok w, ⟨t, stk⟩) := by
  have h := scanQ_clean w t false 0 hw
  simp only [Nat.zero_add] at h
  gsimp [quoted, scanQuoted, h]

/-- what may follow the done part: nothing, or something that starts with a line feed -/
def okY (Y : Bytes) : Prop := Y = [] ∨ ∃ y, Y = 10 :: y

/-- no occurrence of `LF ++ indent` starts inside `a`, whatever (admissible) text follows -/
def NM (d : Nat) (a : Bytes) : Prop :=
  ∀ Y, okY Y → ∀ i, i < a.length → (10 :: sp d).isPrefixOf (a.drop i ++ Y) = false

theorem lf_prefix_false (d : Nat) (l Y : Bytes) (hl : noLF l) (i : Nat) (hi : i < l.length) :
    (10 :: sp d).isPrefixOf (l.drop i ++ Y) = false := by
  -- the text at position `i` starts with a byte of `l`
  have : ((10 : UInt8) == l[i]) = false := by simpa using fun h => hl l[i] (List.getElem_mem hi) h.symm
  rw [List.drop_eq_getElem_cons hi, List.cons_append, List.isPrefixOf, this, Bool.false_and]

theorem NM_line (d : Nat) (l : Bytes) (hl : noLF l) : NM d l :=
  fun Y _ i hi => lf_prefix_false d l Y hl i hi

theorem sp_prefix_append (d : Nat) (l Y : Bytes) (hY : Y.head? ≠ some 32) (h : (sp d).isPrefixOf l = false) :
    (sp d).isPrefixOf (l ++ Y) = false := by
  rw [← Bool.not_eq_true, List.isPrefixOf_iff_prefix] at h
  by_cases h1 : l <+: sp d
  · -- `l` is a run of blanks, fewer than the indent
    obtain ⟨t, ht⟩ := h1
    obtain ⟨hlen, hl, _⟩ := List.append_eq_replicate_iff.mp ht
    rw [hl]
    refine sp_short_prefix l.length d Y (fun c hc h32 => hY (h32 ▸ hc)) ?_
    rcases Nat.lt_or_ge l.length d with h2 | h2
    · exact h2
    · exact absurd ⟨[], by rw [List.append_nil, hl, sp, show l.length = d by omega]⟩ h
  · -- `l` and the indent both stand in front of `l ++ Y`: one of them stands in front of the other
    rw [← Bool.not_eq_true, List.isPrefixOf_iff_prefix]
    exact fun hp => (List.prefix_or_prefix_of_prefix hp (List.prefix_append l Y)).elim h h1

theorem NM_extend (d : Nat) (a l : Bytes) (ha : NM d a) (hl : noLF l)
    (hp : (sp d).isPrefixOf l = false) : NM d (a ++ 10 :: l) := by
  intro Y hY i hi
  by_cases h1 : i < a.length
  · have := ha (10 :: l ++ Y) (Or.inr ⟨l ++ Y, rfl⟩) i h1
    rw [List.drop_append_of_le_length (by omega)]
    simpa [List.append_assoc] using this
  · have hge : a.length ≤ i := by omega
    rw [List.drop_append, List.drop_eq_nil_of_le hge, List.nil_append]
    by_cases h2 : i - a.length = 0
    · rw [h2]
      simp only [List.drop_zero, List.cons_append, List.isPrefixOf, beq_self_eq_true, Bool.true_and]
      exact sp_prefix_append d l Y (by rcases hY with rfl | ⟨y, rfl⟩ <;> simp) hp
    · obtain ⟨j, hj⟩ : ∃ j, i - a.length = j + 1 := ⟨i - a.length - 1, by omega⟩
      rw [hj]
      simp only [List.drop_succ_cons]
      apply lf_prefix_false d l Y hl j
      simp only [List.length_append, List.length_cons] at hi
      omega

/-- continuation lines as `QualifierFormatter` writes them inside a value: LF, indent, line -/
def contLines (d : Nat) (ls : List Bytes) : Bytes := ls.flatMap fun l => 10 :: (sp d ++ l)

theorem contLines_cons (d : Nat) (l : Bytes) (ls : List Bytes) :
    contLines d (l :: ls) = 10 :: (sp d ++ (l ++ contLines d ls)) := by
  simp [contLines, List.flatMap_cons]

/-- the loop before 2612fae on continuation lines: one round per line, so the length of their text is
fuel enough -/
theorem stripContOld_lines (d : Nat) (ls : List Bytes) (a : Bytes) (f : Nat)
    (ha : NM d a) (hls : ∀ x ∈ ls, noLF x ∧ (sp d).isPrefixOf x = false) (hf : (contLines d ls).length ≤ f) :
    stripContOld (sp d) f (a ++ contLines d ls) = a ++ sepText 10 ls := by
  induction ls generalizing a f with
  | nil =>
    simp only [contLines, List.flatMap_nil, List.append_nil, sepText]
    cases f with
    | zero => rfl
    | succ f =>
      have := findSub_none (10 :: sp d) a 0 (by simp) (by
        intro i hi
        have := ha [] (Or.inl rfl) i hi
        simpa using this)
      simp [stripContOld, this]
  | cons l ls ih =>
    rw [contLines_cons, List.length_cons, List.length_append, List.length_append] at hf
    cases f with
    | zero => omega
    | succ f =>
      obtain ⟨hl, hp⟩ := hls l (by simp)
      have hls' : ∀ x ∈ ls, noLF x ∧ (sp d).isPrefixOf x = false :=
        fun x hx => hls x (by simp [hx])
      rw [contLines_cons, sepText_cons]
      refine (stripContOld_step (sp d) a (l ++ contLines d ls) f
        fun i hi => ha _ (Or.inr ⟨sp d ++ (l ++ contLines d ls), rfl⟩) i hi).trans ?_
      rw [show a ++ 10 :: (l ++ contLines d ls) = (a ++ 10 :: l) ++ contLines d ls by simp,
        ih (a ++ 10 :: l) f (NM_extend d a l ha hl hp) hls' (by omega)]
      simp

/-- no line feed of the value is followed by the whole indent (decidable) -/
def noCont (d : Nat) (v : Bytes) : Bool := (tailLines v).all fun l => !(sp d).isPrefixOf l

theorem addPrefix_value (d : Nat) (v : Bytes) :
    addPrefix (sp d) v = headLine v ++ contLines d (tailLines v) := by
  refine lines_induction (P := fun v h t => addPrefix (sp d) v = h ++ contLines d t) v rfl
    (fun v ih => ?_) (fun c v hc ih => ?_)
  · rw [contLines_cons, ← ih]; simp only [addPrefix, if_true, List.nil_append]
  · simp only [addPrefix, hc, if_false, List.cons_append, ih]

theorem lines_noLF (v : Bytes) : noLF (headLine v) ∧ ∀ x ∈ tailLines v, noLF x := by
  refine lines_induction (P := fun _ h t => noLF h ∧ ∀ x ∈ t, noLF x) v (by simp [noLF])
    (fun v ih => ?_) (fun c v hc ih => ?_)
  · exact ⟨by simp [noLF], List.forall_mem_cons.mpr ih⟩
  · exact ⟨List.forall_mem_cons.mpr ⟨hc, ih.1⟩, ih.2⟩

/-- the one-pass loop of today on continuation lines: through `stripCont_onepass_eq` (an indent of
at least one column) resp. `stripCont_nil` (no indent: then there is no continuation line) -/
theorem stripCont_lines (d : Nat) (ls : List Bytes) (a : Bytes)
    (ha : NM d a) (hls : ∀ x ∈ ls, noLF x ∧ (sp d).isPrefixOf x = false) :
    stripCont (sp d) (a ++ contLines d ls) = a ++ sepText 10 ls := by
  cases d with
  | zero =>
    have : ls = [] := by
      cases ls with
      | nil => rfl
      | cons x _ => have := (hls x (by simp)).2; simp [sp] at this
    subst this
    have e : sp 0 = [] := rfl
    rw [e, stripCont_nil]
    simp [contLines, sepText]
  | succ d =>
    have hne : sp (d + 1) ≠ [] := by simp [sp, List.replicate_succ]
    have hlen : (contLines (d + 1) ls).length ≤ (a ++ contLines (d + 1) ls).length := by
      rw [List.length_append]; omega
    rw [stripCont_onepass_eq _ hne _ _ (Nat.le_refl _)]
    exact stripContOld_lines (d + 1) ls a _ ha hls hlen

/-- **Continuation removal.**  On a value no line feed of which is followed by the whole indent,
the loop of `quotedQualifierParser` undoes `QualifierFormatter`'s `AddPrefix`. -/
theorem stripCont_addPrefix (d : Nat) (v : Bytes) (h : noCont d v = true) :
    stripCont (sp d) (addPrefix (sp d) v) = v := by
  obtain ⟨h0, hls⟩ := lines_noLF v
  have hls' : ∀ x ∈ tailLines v, noLF x ∧ (sp d).isPrefixOf x = false := by
    intro x hx
    refine ⟨hls x hx, ?_⟩
    simp only [noCont, List.all_eq_true, Bool.not_eq_true'] at h
    exact h x hx
  have := stripCont_lines d (tailLines v) (headLine v) (NM_line d _ h0) hls'
  rw [← addPrefix_value] at this
  rw [this, ← lines_join v]

end Gts.GenBank
