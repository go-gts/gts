/-
  First facts about the sequence operations of Gts/Model/Seq.lean.  Sorted insertion keeps the features (as a
  multiset), hence so do `Reverse` and `Concat`; the residue counts after `Rotate` and a splice, the residues of
  `Concat`; the amount `gts.Rotate` rotates by is `n mod L`; `Slice` with `0 ≤ a ≤ b` is its forward case.
  Core Lean only.
-/
import Gts.Model.Seq
namespace Gts

/-- a fold whose step adds `h x` to the state, up to order, adds `l.flatMap h` -/
theorem foldl_perm_flatMap {α β : Type} (f : List β → α → List β) (h : α → List β)
    (hf : ∀ acc x, (f acc x).Perm (acc ++ h x)) : ∀ (l : List α) (acc : List β),
    (l.foldl f acc).Perm (acc ++ l.flatMap h)
  | [], acc => by simp
  | x :: l, acc => by
      rw [List.foldl_cons, List.flatMap_cons, ← List.append_assoc]
      exact (foldl_perm_flatMap f h hf l _).trans ((hf acc x).append_right _)

namespace Table

theorem insert_perm (ff : Table) (f : Feature) : (insert ff f).Perm (f :: ff) := by
  unfold insert
  simp only []
  generalize (if f.key ≠ "source" then _ else _ : Nat) = i
  have h : (List.take i ff ++ f :: List.drop i ff).Perm (f :: (List.take i ff ++ List.drop i ff)) :=
    List.perm_middle
  rw [List.take_append_drop] at h
  exact h

theorem insertAll_perm (acc : Table) (fs : List Feature) : (insertAll acc fs).Perm (acc ++ fs) := by
  have := foldl_perm_flatMap insert (fun f => [f])
    (fun ff f => (insert_perm ff f).trans (List.perm_append_singleton f ff).symm) fs acc
  rwa [List.flatMap_singleton'] at this

end Table

/-- the amount `gts.Rotate` rotates by (`Seq.rotate`, `C04.rotN`, `Seq.rotAmount`, `Mem.rotAmount` all spell it out):
the loop `for n < 0 { n += L }; n %= L` computes the mathematical residue, for every sign and magnitude of `n` -/
theorem Seq.rotAmount_emod (n L : Int) (hL : 0 < L) :
    Int.tmod (if n < 0 then n + ((-n + L - 1) / L) * L else n) L = n % L := by
  by_cases hn : n < 0
  · rw [if_pos hn]
    have h1 := Int.emod_add_ediv_mul (-n + L - 1) L
    have h2 := Int.emod_lt_of_pos (-n + L - 1) hL
    generalize hq : (-n + L - 1) / L = q at *
    generalize hqL : q * L = qL at *
    have : 0 ≤ n + qL := by omega
    rw [Int.tmod_eq_emod_of_nonneg this, ← hqL, Int.add_mul_emod_self_right]
  · rw [if_neg hn, Int.tmod_eq_emod_of_nonneg (by omega)]

/-- rotating keeps the number of residues (any `n`, the empty record included) -/
theorem Seq.rotate_bytes_length (s : Seq) (n : Int) : (s.rotate n).bytes.length = s.bytes.length := by
  simp only [Seq.rotate, List.length_append, List.length_drop, List.length_take]
  omega

theorem Seq.rotate_len (s : Seq) (n : Int) : (s.rotate n).len = s.len := by
  unfold Seq.len
  rw [Seq.rotate_bytes_length]

/-- with `0 ≤ a ≤ b` no index is re-based and the window does not wrap -/
theorem Seq.slice_fwd_eq (s : Seq) (a b : Int) (h0 : 0 ≤ a) (hab : a ≤ b) : s.slice a b = s.sliceFwd a b := by
  unfold Seq.slice
  simp only [if_neg (show ¬ a < 0 by omega), if_neg (show ¬ b < 0 by omega), if_neg (show ¬ b < a by omega)]

theorem Seq.reverse_feats_perm (s : Seq) :
    s.reverse.feats.Perm (s.feats.map fun f => { f with loc := f.loc.reverse s.len }) := by
  unfold Seq.reverse
  simpa using Table.insertAll_perm [] (s.feats.map fun f => { f with loc := f.loc.reverse s.len })

theorem Seq.concat2_feats_perm (a b : Seq) :
    (Seq.concat2 a b).feats.Perm (a.feats ++ b.feats.map fun f => { f with loc := f.loc.expand 0 a.len }) := by
  unfold Seq.concat2
  exact Table.insertAll_perm _ _

theorem Seq.spliceBytes_length (p q : List UInt8) (pos : Nat) :
    (Seq.spliceBytes p pos q).length = p.length + q.length := by
  simp only [Seq.spliceBytes, List.length_append, List.length_take, List.length_drop]
  omega

theorem Seq.concat_bytes_flatten (l : List Seq) : (Seq.concat l).bytes = (l.map (·.bytes)).flatten := by
  cases l with
  | nil => rfl
  | cons s ss =>
    simp only [Seq.concat, List.map_cons, List.flatten_cons]
    induction ss generalizing s with
    | nil => simp
    | cons t ts ih =>
      rw [List.foldl_cons, ih]
      simp [Seq.concat2]

theorem Seq.concat2_len (a b : Seq) : (Seq.concat2 a b).len = a.len + b.len := by
  simp [Seq.concat2, Seq.len]

theorem Seq.mem_delete_feats {s : Seq} {f : Feature} (i n : Int) (h : f ∈ s.feats) :
    { f with loc := f.loc.expand i (-n) } ∈ (s.delete i n).feats :=
  List.mem_map_of_mem h

end Gts
