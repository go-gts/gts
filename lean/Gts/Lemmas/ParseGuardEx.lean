/-
  Concrete runs of the flagged parser (non-vacuity witnesses of `Gts.C06.parse_result_canon_partial`).
  The fuelled parsers are compiled by well-founded recursion and do not reduce in the kernel; the runs are put
  together from the run lemmas of the model's parser (Gts/Lemmas/LocRoundTrip.lean): an alternative that the
  model rejects is rejected by the flagged copy (`Sim.rejects`), a leaf runs as in the model with the flag
  `false`, and the keyword frame and the part list have run lemmas of their own.  Core Lean only.
-/
import Gts.Lemmas.LocRoundTrip
import Gts.Lemmas.ParseSim
import Gts.Lemmas.ParsRunEq
namespace Gts
open Pars LocParse Pars.Run

namespace LocParseG

theorem leaf_ok {p : P Loc} {w r : Bytes} {l : Loc} (h : Reads p w l r) : Reads (leaf p) w (l, false) r := by
  intro stk; simp only [leaf, P.bind_run, h stk, P.pure_run]

/-- a bare number is read by the last alternative, a leaf: no `Join` is evaluated -/
theorem loc_point (g : List Loc → Bool) (f a : Nat) (rest : Bytes) (hfa : a + 1 ≤ 9223372036854775807) (hs : Sep rest) :
    Reads (loc g (f + 1)) (natDigits (a + 1) ++ rest) (.point a, false) rest := by
  obtain ⟨_, _, hj, ho, hc⟩ := sim_all g f
  obtain ⟨hc', hj', ho'⟩ := keyword_rejects_digits f (a + 1) rest
  rw [loc]
  exact .anyOf_skip ((sim_leaf _).rejects (range_num_fail _ _ hfa hs.noDigit hs.noDots)) <|
    .anyOf_skip ((sim_leaf _).rejects (between_num_fail _ _ hfa hs.noDigit (hs.ne 94 (by simp)))) <|
    .anyOf_skip ((sim_leaf _).rejects (ambiguous_num_fail _ _ hfa hs.noDigit (hs.ne 46 (by simp)))) <|
    .anyOf_skip (hc.rejects hc') <| .anyOf_skip (hj.rejects hj') <| .anyOf_skip (ho.rejects ho') <|
    .anyOf_ok (leaf_ok (point_print a rest hfa hs.noDigit)) _

theorem more_stop (g : List Loc → Bool) (f k : Nat) (acc : List Loc) (b : Bool) (r : Bytes) (stk : List Bytes) :
    multiple.more g f k acc b ⟨41 :: r, stk⟩ = (.ok (acc.reverse, b), ⟨41 :: r, stk⟩) := by
  cases k with
  | zero => rw [multiple.more]; rfl
  | succ k => rw [multiple.more]; simp [delimiter]

theorem more_step (g : List Loc → Bool) (f k : Nat) (acc : List Loc) (b : Bool) (v : Loc × Bool) (c : UInt8)
    (inp tail : Bytes) (stk : List Bytes) (hc : isSpace c = false) (h : Reads (loc g f) (c :: inp) v tail) :
    multiple.more g f (k + 1) acc b ⟨44 :: c :: inp, stk⟩ =
      multiple.more g f k (v.1 :: acc) (b || v.2) ⟨tail, stk⟩ := by
  rw [multiple.more]
  simp [delimiter, hc, h _]

theorem multiple_run (g : List Loc → Bool) (f : Nat) (v : Loc × Bool) (ls : List Loc × Bool)
    (inp tail rest : Bytes) (h1 : Reads (loc g f) inp v tail) (h2 : Reads (multiple.more g f f [v.1] v.2) tail ls rest) :
    Reads (multiple g (f + 1)) inp ls rest := by
  intro stk
  rw [multiple]
  simp [h1 _, h2 _]

end LocParseG

/-- `join(4,5)`: the run of the flagged parser with the fuel of `AsLocation` -/
theorem geval_join2 :
    LocParseG.loc Loc.canonGuard 11 ⟨[106, 111, 105, 110, 40, 52, 44, 53, 41], []⟩ =
      (.ok (Loc.join [.point 3, .point 4], Loc.canonGuard [.point 3, .point 4]), ⟨[], []⟩) := by
  obtain ⟨_, _, _, _, hc⟩ := LocParseG.sim_all Loc.canonGuard 10
  obtain ⟨h1, h2, h3⟩ := numLed_rejects 106 [111, 105, 110, 40, 52, 44, 53, 41] (by decide) (by decide) (by decide)
    (by decide)
  have h4 := LocParseG.loc_point Loc.canonGuard 7 3 [44, 53, 41] (by decide) ⟨by decide, by decide, by decide, by decide⟩
  have h5 := LocParseG.loc_point Loc.canonGuard 7 4 [41] (by decide) ⟨by decide, by decide, by decide, by decide⟩
  rw [show natDigits (3 + 1) = [52] by decide] at h4
  rw [show natDigits (4 + 1) = [53] by decide] at h5
  have hm : Reads (LocParseG.multiple Loc.canonGuard 9) [52, 44, 53, 41] ([.point 3, .point 4], false) [41] :=
    LocParseG.multiple_run _ 8 _ _ _ _ _ h4 fun stk' => by
      rw [LocParseG.more_step _ 8 7 _ _ _ 53 [41] [41] stk' (by decide) h5, LocParseG.more_stop]
      rfl
  rw [LocParseG.loc, LocParseG.joinOf_succ, str_join]
  exact Runs.anyOf_skip ((LocParseG.sim_leaf _).rejects h1) (.anyOf_skip ((LocParseG.sim_leaf _).rejects h2) <|
    .anyOf_skip ((LocParseG.sim_leaf _).rejects h3) <|
    .anyOf_skip (hc.rejects (complementOf_other _ 106 _ (by decide))) <|
    .anyOf_ok (wrapped_run 5 _ _ _ _ [] _ rfl hm) _) []

/-- `4..7`: the run of the flagged parser with the fuel of `AsLocation` -/
theorem geval_range47 :
    LocParseG.loc Loc.canonGuard 6 ⟨[52, 46, 46, 55], []⟩ =
      (.ok (.ranged 3 7 false false, false), ⟨[], []⟩) := by
  have h := range_print 3 7 false false [] (by decide) (by decide) trivial
  rw [show Loc.printB (.ranged 3 7 false false) ++ [] = [52, 46, 46, 55] by decide] at h
  rw [LocParseG.loc]
  exact Runs.anyOf_ok (LocParseG.leaf_ok h) _ []

end Gts
