/-
  Lemmas for Gts/Bridge/Props.lean: the regenerated props.go (Gts/Gen/Props.lean) against a polymorphic
  reading of the table (`σ` = `String` in Gts/Model/Feature.lean, byte strings in the seqio models).
  One lemma per loop (invariant: the list still to visit is a suffix of the table, the counter the length of
  the prefix); the checked operations are those of Gts/Lemmas/GoSlice.lean (`goIdx_eq` …), read at the end of a
  prefix (`Bridge.clAt_append_length` …).  The methods that go through `Index` are read
  off its three answers (`findO_cases`); they agree with the pure readings because a prefix of rows without the
  name is passed over (`findO_append`, `gupd_append`, `gget_append`).
-/
import Gts.Gen.Props
import Gts.Lemmas.GoSlice
namespace Gts.PropsG
open Gts.Gen Gts.Gen.PropsGo

variable {σ : Type} [DecidableEq σ]

def noRow (key : σ) (ps : List (List σ)) : Prop := ∀ row ∈ ps, row.head? ≠ some key

/-- every row has a name -/
def rowsOk (ps : List (List σ)) : Bool := ps.all fun row => !row.isEmpty

/-- `Props.Index` with its panic: `none` an empty row is reached, `some none` no row of that name, `some (some j)`
the first row of that name is row `j` -/
def findO (key : σ) : List (List σ) → Option (Option Nat)
  | [] => some none
  | [] :: _ => none
  | (h :: _) :: rest => if h = key then some (some 0) else (findO key rest).map fun r => r.map (· + 1)

theorem goIdx_eq : @goIdx = @clAt := rfl
theorem goSet_eq : @goSet = @clPut := rfl

theorem goTo_eq : @goTo = @clTo := rfl
theorem goFrom_eq : @goFrom = @clFrom := rfl

theorem goFrom_one {α : Type} (l : List α) : goFrom l 1 = if l = [] then none else some l.tail := by
  cases l <;> simp [goFrom]
  omega

omit [DecidableEq σ] in
theorem noRow_cons {key : σ} {row : List σ} {a : List (List σ)} (h : row.head? ≠ some key) (hn : noRow key a) :
    noRow key (row :: a) := fun r hr => by
  rcases List.mem_cons.1 hr with rfl | hr
  · exact h
  · exact hn r hr

omit [DecidableEq σ] in
theorem noRow_tail {key : σ} {row : List σ} {a : List (List σ)} (hn : noRow key (row :: a)) :
    row.head? ≠ some key ∧ noRow key a :=
  ⟨hn row (List.mem_cons_self ..), fun r hr => hn r (List.mem_cons_of_mem _ hr)⟩

omit [DecidableEq σ] in
theorem firstRow_cases (k : σ) (ps : List (List σ)) :
    noRow k ps ∨ ∃ pre t post, ps = pre ++ (k :: t) :: post ∧ noRow k pre := by
  induction ps with
  | nil => exact .inl fun _ h => nomatch h
  | cons r ps ih =>
    by_cases hr : r.head? = some k
    · cases r with
      | nil => cases hr
      | cons a t => exact .inr ⟨[], t, ps, by rw [Option.some.inj hr]; rfl, fun _ h => nomatch h⟩
    · rcases ih with h | ⟨pre, t, post, rfl, h⟩
      · exact .inl (noRow_cons hr h)
      · exact .inr ⟨r :: pre, t, post, rfl, noRow_cons hr h⟩

theorem findO_append (key : σ) (a l : List (List σ)) (hn : noRow key a) (ok : rowsOk a = true) :
    findO key (a ++ l) = (findO key l).map fun r => r.map (a.length + ·) := by
  induction a with
  | nil => simp
  | cons row a ih =>
    cases row with
    | nil => simp [rowsOk] at ok
    | cons x t =>
      have hk : x ≠ key := by simpa using (noRow_tail hn).1
      simp only [List.cons_append, findO, hk, if_false, ih (noRow_tail hn).2 (by simpa [rowsOk] using ok),
        Option.map_map, List.length_cons]
      congr 1
      funext r
      cases r with
      | none => rfl
      | some j => simp only [Function.comp, Option.map_some]; congr 1; omega

theorem findO_at (key : σ) (a : List (List σ)) (t : List σ) (b : List (List σ)) (hn : noRow key a)
    (ok : rowsOk a = true) : findO key (a ++ (key :: t) :: b) = some (some a.length) := by
  simp [findO_append key a _ hn ok, findO]

theorem findO_noRow (key : σ) (ps : List (List σ)) (hn : noRow key ps) (ok : rowsOk ps = true) :
    findO key ps = some none := by
  simpa [findO] using findO_append key ps [] hn ok

theorem findO_cases (key : σ) (ps : List (List σ)) :
    (findO key ps = none ∧ ∃ a b, ps = a ++ [] :: b ∧ rowsOk a = true ∧ noRow key a) ∨
    (findO key ps = some none ∧ noRow key ps ∧ rowsOk ps = true) ∨
    ∃ a t b, ps = a ++ (key :: t) :: b ∧ noRow key a ∧ rowsOk a = true ∧ findO key ps = some (some a.length) := by
  induction ps with
  | nil => exact .inr (.inl ⟨rfl, (fun _ h => nomatch h), rfl⟩)
  | cons row rest ih =>
    cases row with
    | nil => exact .inl ⟨rfl, [], rest, rfl, rfl, fun _ h => nomatch h⟩
    | cons x t =>
      by_cases hk : x = key
      · subst hk
        exact .inr (.inr ⟨[], t, rest, rfl, (fun _ h => nomatch h), rfl, by simp [findO]⟩)
      · have hx : (x :: t).head? ≠ some key := by simpa using hk
        rcases ih with ⟨h, a, b, e, ok, hn⟩ | ⟨h, hn, ok⟩ | ⟨a, t', b, e, hn, ok, h⟩
        · exact .inl ⟨by simp [findO, hk, h], (x :: t) :: a, b, by rw [e]; rfl, by simpa [rowsOk] using ok,
            noRow_cons hx hn⟩
        · exact .inr (.inl ⟨by simp [findO, hk, h], noRow_cons hx hn, by simpa [rowsOk] using ok⟩)
        · exact .inr (.inr ⟨(x :: t) :: a, t', b, by rw [e]; rfl, noRow_cons hx hn, by simpa [rowsOk] using ok,
            by simp [findO, hk, h]⟩)

theorem findO_none_iff (key : σ) (ps : List (List σ)) :
    findO key ps = none ↔ ∃ a b, ps = a ++ [] :: b ∧ rowsOk a = true ∧ noRow key a := by
  constructor
  · intro h
    rcases findO_cases key ps with ⟨_, hx⟩ | ⟨h', _⟩ | ⟨_, _, _, _, _, _, h'⟩
    · exact hx
    · rw [h] at h'; cases h'
    · rw [h] at h'; cases h'
  · rintro ⟨a, b, rfl, ok, hn⟩
    simp [findO_append key a _ hn ok, findO]

theorem findO_rowsOk (key : σ) (ps : List (List σ)) (ok : rowsOk ps = true) : findO key ps ≠ none := by
  intro h
  obtain ⟨a, b, rfl, _, _⟩ := (findO_none_iff key ps).1 h
  simp [rowsOk] at ok

theorem indexLoop_eq (key : σ) : ∀ (l pre : List (List σ)),
    propsIndexLoop (pre ++ l) key l (pre.length : Int) =
      (findO key l).map fun r => match r with
        | none => Flow.next ()
        | some j => Flow.ret (((pre.length + j : Nat)) : Int)
  | [], pre => by simp [propsIndexLoop, findO]
  | row :: rest, pre => by
    have ih := indexLoop_eq key rest (pre ++ [row])
    simp only [List.append_assoc, List.singleton_append, List.length_append, List.length_cons,
      List.length_nil, Nat.zero_add, Int.natCast_add, Int.cast_ofNat_Int] at ih
    unfold propsIndexLoop
    simp only [goIdx_eq, Bridge.clAt_append_length, Option.bind_some, Bridge.clAt_zero]
    cases row with
    | nil => simp [findO]
    | cons h t =>
      by_cases hk : h = key
      · simp [findO, hk]
      · simp only [List.head?_cons, Option.bind_some, hk, if_false, findO, Option.map_map]
        rw [ih]
        congr 1
        funext r
        cases r with
        | none => rfl
        | some j => simp only [Function.comp, Option.map_some]; congr 2; omega

theorem propsIndex_eq (ps : List (List σ)) (key : σ) :
    propsIndex ps key = (findO key ps).map fun r => match r with
      | none => (-1 : Int)
      | some j => (j : Int) := by
  have h := indexLoop_eq key ps []
  simp only [List.nil_append, List.length_nil, Int.cast_ofNat_Int, Nat.zero_add] at h
  unfold propsIndex
  rw [h]
  cases findO key ps with
  | none => rfl
  | some r => cases r <;> rfl

/-- what `Set`, `Add` and `Del` have in common: the first row named `k` becomes `f row` (`none`: it is removed);
without such a row `new` is appended -/
def gupd (k : σ) (f : List σ → Option (List σ)) (new : Option (List σ)) : List (List σ) → List (List σ)
  | [] => new.toList
  | row :: rest => if row.head? = some k then (f row).toList ++ rest else row :: gupd k f new rest

/-- `Set`: the first row of that name is replaced, else a new last row -/
def gset (ps : List (List σ)) (k : σ) (vs : List σ) : List (List σ) :=
  gupd k (fun _ => some (k :: vs)) (some (k :: vs)) ps

/-- `Add`: the values are appended to the first row of that name, else a new last row -/
def gadd (ps : List (List σ)) (k : σ) (vs : List σ) : List (List σ) :=
  gupd k (fun row => some (row ++ vs)) (some (k :: vs)) ps

/-- `Del`: the first row of that name is removed -/
def gdel (ps : List (List σ)) (k : σ) : List (List σ) := gupd k (fun _ => none) none ps

/-- `Get`: the values of the first row of that name -/
def gget : List (List σ) → σ → Option (List σ)
  | [], _ => none
  | row :: rest, k => if row.head? = some k then some row.tail else gget rest k

/-- `Items`: the (name, value) pairs row by row -/
def gitems : List (List σ) → List (σ × σ)
  | [] => []
  | [] :: rest => gitems rest
  | (h :: vs) :: rest => vs.map (fun v => (h, v)) ++ gitems rest

theorem gupd_append (k : σ) (f : List σ → Option (List σ)) (new : Option (List σ)) (a l : List (List σ))
    (hn : noRow k a) : gupd k f new (a ++ l) = a ++ gupd k f new l := by
  induction a with
  | nil => rfl
  | cons r a ih => simp [gupd, (noRow_tail hn).1, ih (noRow_tail hn).2]

theorem gupd_at (k : σ) (f : List σ → Option (List σ)) (new : Option (List σ)) (a : List (List σ)) (t : List σ)
    (b : List (List σ)) (hn : noRow k a) : gupd k f new (a ++ (k :: t) :: b) = a ++ (f (k :: t)).toList ++ b := by
  simp [gupd_append k f new a _ hn, gupd]

theorem gupd_noRow (k : σ) (f : List σ → Option (List σ)) (new : Option (List σ)) (ps : List (List σ))
    (hn : noRow k ps) : gupd k f new ps = ps ++ new.toList := by
  simpa [gupd] using gupd_append k f new ps [] hn

theorem gget_append (a l : List (List σ)) (k : σ) (hn : noRow k a) : gget (a ++ l) k = gget l k := by
  induction a with
  | nil => rfl
  | cons r a ih => simp [gget, (noRow_tail hn).1, ih (noRow_tail hn).2]

theorem gget_at (a : List (List σ)) (k : σ) (t : List σ) (b : List (List σ)) (hn : noRow k a) :
    gget (a ++ (k :: t) :: b) k = some t := by
  simp [gget_append a _ k hn, gget]

theorem gget_noRow (ps : List (List σ)) (k : σ) (hn : noRow k ps) : gget ps k = none := by
  simpa [gget] using gget_append ps [] k hn

theorem propsHas_eq (ps : List (List σ)) (key : σ) :
    propsHas ps key = (findO key ps).map fun r => r.isSome := by
  unfold propsHas
  rw [propsIndex_eq]
  rcases findO_cases key ps with ⟨h, _⟩ | ⟨h, _⟩ | ⟨a, _, _, _, _, _, h⟩ <;> simp [h]

theorem propsGet_eq (ps : List (List σ)) (key : σ) :
    propsGet ps key = (findO key ps).map fun _ => (gget ps key).getD [] := by
  unfold propsGet
  rw [propsIndex_eq]
  rcases findO_cases key ps with ⟨h, _⟩ | ⟨h, hn, _⟩ | ⟨a, t, b, rfl, hn, _, h⟩
  · simp [h]
  · simp [h, gget_noRow ps key hn]
  · have hne : ¬ ((a.length : Int) = -1) := by omega
    simp [h, hne, goIdx_eq, Bridge.clAt_append_length, goFrom_one, gget_at a key t b hn]

omit [DecidableEq σ] in
/-- the row `Set` builds: `make`, the store of the name, `copy` of the values — no cell keeps the zero string; `k` is what `Set`
does with the row -/
theorem mkRow_bind {ρ : Type} (z key : σ) (values : List σ) (k : List σ → Option ρ) :
    ((goMake z ((values.length : Int) + 1)).bind fun x1 =>
      (goSet x1 0 key).bind fun prop => (goCopyAt prop 1 values).bind k) = k (key :: values) := by
  have h : ((goMake z ((values.length : Int) + 1)).bind fun x1 =>
      (goSet x1 0 key).bind fun prop => goCopyAt prop 1 values) = some (key :: values) := by
    have h1 : ¬ ((values.length : Int) + 1 < 0) := by omega
    have e : ((values.length : Int) + 1).toNat = values.length + 1 := by omega
    simp [goMake, h1, e, List.replicate_succ, goSet, goCopyAt, goCopy]
    omega
  simpa only [Option.bind_assoc, Option.bind_some] using congrArg (·.bind k) h

theorem propsSet_eq (z : σ) (ps : List (List σ)) (key : σ) (values : List σ) :
    propsSet z ps key values = (findO key ps).map fun _ => gset ps key values := by
  unfold propsSet
  rw [mkRow_bind, propsIndex_eq]
  rcases findO_cases key ps with ⟨h, _⟩ | ⟨h, hn, _⟩ | ⟨a, t, b, rfl, hn, _, h⟩
  · simp [h]
  · simp [h, gset, gupd_noRow _ _ _ ps hn]
  · have hne : ¬ ((a.length : Int) = -1) := by omega
    simp [h, hne, goSet_eq, Bridge.clPut_append_length, gset, gupd_at _ _ _ a t b hn]

theorem propsAdd_eq (z : σ) (ps : List (List σ)) (key : σ) (values : List σ) :
    propsAdd z ps key values = (findO key ps).map fun _ => gadd ps key values := by
  unfold propsAdd
  rw [propsIndex_eq]
  rcases findO_cases key ps with ⟨h, _⟩ | ⟨h, hn, _⟩ | ⟨a, t, b, rfl, hn, _, h⟩
  · simp [h]
  · simp [propsSet_eq, h, gset, gadd, gupd_noRow _ _ _ ps hn]
  · have hne : ¬ ((a.length : Int) = -1) := by omega
    simp [h, hne, goIdx_eq, goSet_eq, Bridge.clAt_append_length, Bridge.clPut_append_length, gadd, gupd_at _ _ _ a t b hn]

theorem propsDel_eq (ps : List (List σ)) (key : σ) :
    propsDel ps key = (findO key ps).map fun _ => gdel ps key := by
  unfold propsDel
  rw [propsIndex_eq]
  rcases findO_cases key ps with ⟨h, _⟩ | ⟨h, hn, _⟩ | ⟨a, t, b, rfl, hn, _, h⟩
  · simp [h]
  · simp [h, gdel, gupd_noRow _ _ _ ps hn]
  · have hge : (a.length : Int) ≥ 0 := by omega
    simp [h, hge, goTo_eq, goFrom_eq, Bridge.clTo_append_length, Bridge.clFrom_append_succ, gdel, gupd_at _ _ _ a t b hn]

/-- `Keys` with its panic -/
def keysO : List (List σ) → Option (List σ)
  | [] => some []
  | [] :: _ => none
  | (h :: _) :: rest => (keysO rest).map (h :: ·)

/-- `Items` with its panic (`prop[1:]` on an empty row) -/
def itemsO : List (List σ) → Option (List (σ × σ))
  | [] => some []
  | [] :: _ => none
  | (h :: vs) :: rest => (itemsO rest).map (vs.map (fun v => (h, v)) ++ ·)

omit [DecidableEq σ] in
theorem keysO_rowsOk (ps : List (List σ)) (ok : rowsOk ps = true) : keysO ps = some (ps.filterMap List.head?) := by
  induction ps with
  | nil => rfl
  | cons r a ih =>
    cases r with
    | nil => simp [rowsOk] at ok
    | cons h t => simp [keysO, ih (by simpa [rowsOk] using ok)]

omit [DecidableEq σ] in
theorem itemsO_rowsOk (ps : List (List σ)) (ok : rowsOk ps = true) : itemsO ps = some (gitems ps) := by
  induction ps with
  | nil => rfl
  | cons r a ih =>
    cases r with
    | nil => simp [rowsOk] at ok
    | cons h t => simp [itemsO, gitems, ih (by simpa [rowsOk] using ok)]

/-- the loop of `Keys`: `done` the cells written so far (as many as the prefix has rows), `pad` the cells of `make`
still to be overwritten (as many as rows are left) -/
theorem keysLoop_eq : ∀ (l pre : List (List σ)) (done pad : List σ), done.length = pre.length → pad.length = l.length →
    propsKeysLoop (pre ++ l) l (pre.length : Int) (done ++ pad) = (keysO l).map (done ++ ·)
  | [], pre, done, pad, _, hp => by
    have : pad = [] := List.eq_nil_of_length_eq_zero (by simpa using hp)
    simp [propsKeysLoop, keysO, this]
  | row :: rest, pre, done, pad, hd, hp => by
    cases pad with
    | nil => simp at hp
    | cons p pad' =>
      have ih := keysLoop_eq rest (pre ++ [row])
      simp only [List.append_assoc, List.singleton_append, List.length_append, List.length_cons,
        List.length_nil, Nat.zero_add, Int.natCast_add, Int.cast_ofNat_Int] at ih
      unfold propsKeysLoop
      simp only [goIdx_eq, Bridge.clAt_append_length, Option.bind_some, Bridge.clAt_zero]
      cases row with
      | nil => simp [keysO]
      | cons h t =>
        have hs := Bridge.clPut_append_length done p h pad'
        rw [hd] at hs
        simp only [List.head?_cons, Option.bind_some, goSet_eq, hs]
        have := ih (done ++ [h]) pad' (by simp [hd]) (by simpa using hp)
        simp only [List.append_assoc, List.singleton_append] at this
        rw [this]
        simp [keysO, Function.comp_def]

theorem propsKeys_eq (z : σ) (ps : List (List σ)) : propsKeys z ps = keysO ps := by
  unfold propsKeys
  have h0 : ¬ ((ps.length : Int) < 0) := by omega
  have h := keysLoop_eq ps [] [] (List.replicate ps.length z) rfl (by simp)
  simp only [List.nil_append, List.length_nil, Int.cast_ofNat_Int] at h
  simp only [goMake, h0, if_false, Int.toNat_natCast, Option.bind_some]
  rw [h]
  cases keysO ps <;> simp

theorem itemsLoop2_eq (h : σ) (t : List σ) : ∀ (l : List σ) (items : List (σ × σ)),
    propsItemsLoop2 (h :: t) l items = some (items ++ l.map fun v => (h, v))
  | [], items => by simp [propsItemsLoop2]
  | v :: l, items => by
    unfold propsItemsLoop2
    simp [goIdx_eq, Bridge.clAt_zero, itemsLoop2_eq h t l]

theorem itemsLoop_eq : ∀ (l : List (List σ)) (items : List (σ × σ)),
    propsItemsLoop l items = (itemsO l).map (items ++ ·)
  | [], items => by simp [propsItemsLoop, itemsO]
  | [] :: rest, items => by simp [propsItemsLoop, itemsO, goFrom_one]
  | (h :: vs) :: rest, items => by
    unfold propsItemsLoop
    simp [goFrom_one, itemsLoop2_eq, itemsLoop_eq rest, itemsO, Function.comp_def]

theorem propsItems_eq (z : σ) (ps : List (List σ)) : propsItems z ps = itemsO ps := by
  unfold propsItems
  simp [goMake, itemsLoop_eq]

omit [DecidableEq σ] in
theorem goCopy_fresh {α : Type} (z : α) (prop : List α) : goCopy (List.replicate prop.length z) prop = prop := by
  simp [goCopy]

/-- the loop of `Clone`: `done` the rows copied so far, `pad` the nil rows of `make` still to be overwritten -/
theorem cloneLoop_eq (z : σ) : ∀ (l done pad : List (List σ)), pad.length = l.length →
    propsCloneLoop z l (done.length : Int) (done ++ pad) = some (done ++ l)
  | [], done, pad, hp => by
    have : pad = [] := List.eq_nil_of_length_eq_zero (by simpa using hp)
    simp [propsCloneLoop, this]
  | row :: rest, done, pad, hp => by
    cases pad with
    | nil => simp at hp
    | cons p pad' =>
      unfold propsCloneLoop
      have h0 : ¬ ((row.length : Int) < 0) := by omega
      simp only [goMake, h0, if_false, Int.toNat_natCast, Option.bind_some, goSet_eq, goIdx_eq, Bridge.clPut_append_length, Bridge.clAt_append_length, goCopy_fresh]
      have := cloneLoop_eq z rest (done ++ [row]) pad' (by simpa using hp)
      simp only [List.append_assoc, List.singleton_append, List.length_append, List.length_cons,
        List.length_nil, Nat.zero_add, Int.natCast_add, Int.cast_ofNat_Int] at this
      exact this

theorem propsClone_eq (z : σ) (ps : List (List σ)) : propsClone z ps = some ps := by
  unfold propsClone
  have h0 : ¬ ((ps.length : Int) < 0) := by omega
  have h := cloneLoop_eq z ps [] (List.replicate ps.length []) (by simp)
  simp only [List.nil_append, List.length_nil, Int.cast_ofNat_Int] at h
  simp [goMake, h0, h]

end Gts.PropsG
