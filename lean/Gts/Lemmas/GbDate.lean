/-
  C01 helper lemmas: the date of the LOCUS line.  `AsDate` reads back what
  `strings.ToUpper(Format("02-Jan-2006"))` printed, for every valid calendar date of the years
  0..9999 — by arithmetic on the digits, not by enumeration.
-/
import Gts.Lemmas.ParsRun
import Gts.Lemmas.Date
namespace Gts.GenBank
open Gts.Pars

theorem splitOn_nil (sep cur : Bytes) (f : Nat) : splitOn sep (f + 1) cur [] = [cur.reverse] := by
  simp [splitOn]

theorem splitOn_skip (a rest cur : Bytes) (f : Nat) (ha : ∀ c ∈ a, c ≠ 45) :
    splitOn [45] (f + a.length) cur (a ++ rest) = splitOn [45] f (a.reverse ++ cur) rest := by
  induction a generalizing cur f with
  | nil => simp
  | cons c a ih =>
    have hc : c ≠ 45 := ha c (by simp)
    have h45 : ((45 : UInt8) == c) = false := by simpa using fun h => hc h.symm
    have e : f + (c :: a).length = (f + a.length) + 1 := by simp only [List.length_cons]; omega
    rw [e]
    simp only [List.cons_append, splitOn, List.isPrefixOf, h45, Bool.false_and, Bool.false_eq_true, if_false]
    rw [ih (c :: cur) f (fun x hx => ha x (by simp [hx]))]
    simp

theorem splitOn_sep (rest cur : Bytes) (f : Nat) :
    splitOn [45] (f + 1) cur (45 :: rest) = cur.reverse :: splitOn [45] f [] rest := by
  simp [splitOn, List.isPrefixOf]

theorem splitOn_part (a rest : Bytes) (f : Nat) (ha : ∀ c ∈ a, c ≠ 45) :
    splitOn [45] (f + 1 + a.length) [] (a ++ 45 :: rest) = a :: splitOn [45] f [] rest := by
  rw [splitOn_skip a _ [] _ ha, splitOn_sep, List.append_nil, List.reverse_reverse]

theorem split_three (a b c : Bytes) (ha : ∀ x ∈ a, x ≠ 45) (hb : ∀ x ∈ b, x ≠ 45) (hc : ∀ x ∈ c, x ≠ 45) :
    split [45] (a ++ 45 :: (b ++ 45 :: c)) = [a, b, c] := by
  unfold split
  have e : (a ++ 45 :: (b ++ 45 :: c)).length + 1 = ((0 + 1 + c.length) + 1 + b.length) + 1 + a.length := by
    simp only [List.length_append, List.length_cons]; omega
  have hlast := splitOn_skip c [] [] (0 + 1) hc
  rw [List.append_nil, List.append_nil, splitOn_nil, List.reverse_reverse] at hlast
  rw [e, splitOn_part a _ _ ha, splitOn_part b _ _ hb, hlast]

/-! ### digits: `zpad w n` is `padZero w (natDigits n)` of the date model -/

theorem zpad_all_digit (w n : Nat) : (zpad w n).all isDigit = true :=
  Gts.Date.all_pad _ _ (natDigits_spec n).2.1

theorem atoi_zpad (w n : Nat) (hn : n ≤ 9223372036854775807) : atoi (zpad w n) = some (n : Int) :=
  (Gts.Date.padZero_spec w n hn).1

theorem zpad_no_dash (w n : Nat) : ∀ x ∈ zpad w n, x ≠ 45 :=
  fun _ hx e => Gts.Date.digits_nodash _ (zpad_all_digit w n) (e ▸ hx)

theorem month_table : ∀ m : Fin 12,
    monthOf (monthAbbr.getD m.1 []) = some ((m.1 : Int) + 1) ∧ (∀ x ∈ monthAbbr.getD m.1 [], x ≠ 45) := by
  decide +kernel

/-- **Date round trip**: `AsDate` of the printed date is the date, for every valid calendar date
of the years 0..9999 -/
theorem date_roundtrip (d : Date) (h : d.valid = true) : asDate d.text = some d := by
  have hv := h
  simp only [Date.valid, decide_eq_true_eq] at hv
  obtain ⟨hy0, hy1, hm0, hm1, hd0, hd1⟩ := hv
  obtain ⟨mi, hmi⟩ : ∃ mi : Fin 12, (mi.1 : Int) + 1 = d.month := ⟨⟨(d.month - 1).toNat, by omega⟩, by
    simp only; omega⟩
  have hmt : d.month.toNat - 1 = mi.1 := by omega
  obtain ⟨hmon, hmd⟩ := month_table mi
  have hdd : daysIn d.year d.month ≤ 31 := by
    unfold daysIn; split <;> (try split) <;> omega
  have hday := atoi_zpad 2 d.day.toNat (by omega)
  have hyear := atoi_zpad 4 d.year.toNat (by omega)
  have e1 : ((d.day.toNat : Nat) : Int) = d.day := by omega
  have e2 : ((d.year.toNat : Nat) : Int) = d.year := by omega
  unfold asDate Date.text
  rw [if_pos h]
  have es : zpad 2 d.day.toNat ++ [45] ++ monthAbbr.getD (d.month.toNat - 1) [] ++ [45] ++ zpad 4 d.year.toNat =
      zpad 2 d.day.toNat ++ 45 :: (monthAbbr.getD mi.1 [] ++ 45 :: zpad 4 d.year.toNat) := by
    rw [hmt]; simp
  rw [es, split_three _ _ _ (zpad_no_dash _ _) hmd (zpad_no_dash _ _)]
  simp only [hday, hmon, hyear, e1, e2, hmi]
  rw [if_neg (by omega)]

end Gts.GenBank
