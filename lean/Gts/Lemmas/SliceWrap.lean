/-
  The wrap-around window of `gts.Slice` (`end < start`): the position map of the window
  `[a, L) ++ [0, b)` and its factorisation into the rotation by `-a` (C04) followed by the forward
  window `[0, L-a+b)` (C03).  Core Lean only.
-/
import Gts.Lemmas.Window
namespace Gts

/-- the position map of the wrap-around window `[a, L) ++ [0, b)` of a record of length `L`:
a residue inside the window moves to `(x - a) mod L`, a residue outside is cut -/
def wrapMap (a b L : Int) (x : Int) : Option Int :=
  if (a ≤ x ∧ x < L) ∨ (0 ≤ x ∧ x < b) then some ((x - a) % L) else none

theorem rotMap_neg_eq (a L x : Int) (h0 : 0 ≤ a) (haL : a ≤ L) (hx : 0 ≤ x) (hxL : x < L) :
    rotMap (-a) L x = if a ≤ x then x - a else x + (L - a) := by
  unfold rotMap
  split
  · exact Int.emod_eq_of_lt (by omega) (by omega)
  · rw [mod_window L (-L) (x + -a) (-1) (by omega) (by omega) (by omega)]; omega

/-- piecewise form: the tail `[a, L)` comes first (`x - a`), the head `[0, b)` behind it
(`x + (L - a)`) -/
theorem wrapMap_cases (a b L x : Int) (hb : 0 ≤ b) (hba : b < a) (haL : a ≤ L) :
    wrapMap a b L x =
      if a ≤ x ∧ x < L then some (x - a) else if 0 ≤ x ∧ x < b then some (x + (L - a)) else none := by
  unfold wrapMap
  have e : (x - a) % L = rotMap (-a) L x := congrArg (· % L) Int.sub_eq_add_neg
  by_cases h1 : a ≤ x ∧ x < L
  · rw [if_pos (Or.inl h1), if_pos h1, e, rotMap_neg_eq a L x (by omega) haL (by omega) h1.2, if_pos h1.1]
  · rw [if_neg h1]
    by_cases h2 : 0 ≤ x ∧ x < b
    · rw [if_pos (Or.inr h2), if_pos h2, e, rotMap_neg_eq a L x (by omega) haL h2.1 (by omega), if_neg (by omega)]
    · rw [if_neg h2, if_neg (by omega)]

/-- rotation by `-a`, then the forward window `[0, L-a+b)`, is the wrap-around window map -/
theorem winMap_rotMap (a b L x : Int) (hb : 0 ≤ b) (hba : b < a) (haL : a ≤ L)
    (h0 : 0 ≤ x) (hx : x < L) :
    winMap 0 (L - a + b) (rotMap (-a) L x) = wrapMap a b L x := by
  rw [wrapMap_cases a b L x hb hba haL, rotMap_neg_eq a L x (by omega) haL h0 hx]
  unfold winMap
  by_cases h1 : a ≤ x
  · rw [if_pos h1, if_pos (by omega), if_pos ⟨h1, hx⟩, Int.sub_zero]
  · rw [if_neg h1, if_neg (show ¬ (a ≤ x ∧ x < L) from fun h => h1 h.1)]
    by_cases h2 : x < b
    · rw [if_pos (by omega), if_pos ⟨h0, h2⟩, Int.sub_zero]
    · rw [if_neg (by omega), if_neg (by omega)]

theorem filterMapPos_mapPos (f : Int → Option Int) (g : Int → Int) (d : List Pos) :
    filterMapPos f (mapPos g d) = filterMapPos (fun x => f (g x)) d := by
  simp only [filterMapPos, mapPos, List.filterMap_map, Function.comp_def]

/-- `winMap_rotMap` on a residue list inside the record -/
theorem filterMapPos_wrap (a b L : Int) (hb : 0 ≤ b) (hba : b < a) (haL : a ≤ L) (d : List Pos)
    (hd : ∀ p ∈ d, 0 ≤ p.1 ∧ p.1 < L) :
    filterMapPos (winMap 0 (L - a + b)) (mapPos (rotMap (-a) L) d) = filterMapPos (wrapMap a b L) d := by
  rw [filterMapPos_mapPos]
  exact Loc.filterMapPos_congr fun p hp => winMap_rotMap a b L p.1 hb hba haL (hd p hp).1 (hd p hp).2

namespace Loc

theorem rangeOverlap_of_point (s e lo hi q : Int) (h1 : s ≤ q) (h2 : q < e) (h3 : lo ≤ q) (h4 : q < hi) :
    rangeOverlap s e lo hi = true := by
  unfold rangeOverlap
  rw [if_neg (by omega), if_neg (by omega)]
  simp only [Bool.and_eq_true, decide_eq_true_eq]
  omega

/-- a location denoting a residue inside `[lo, hi)` passes the overlap test of `Slice`
(`LocationOverlap`) -/
theorem overlap_of_mem_den : ∀ (l : Loc) (lo hi : Int), wf l = true → ∀ p ∈ den l, lo ≤ p.1 → p.1 < hi →
    overlap l lo hi = true := fun l lo hi _ p hp h3 h4 =>
  have ⟨u, hu, h1, h2⟩ := den_span l p hp
  (overlap_eq_any l lo hi).trans
    (List.any_eq_true.mpr ⟨u, hu, rangeOverlap_of_point _ _ lo hi p.1 h1 h2 h3 h4⟩)

theorem overlapAny_of_mem_denList : ∀ (ls : List Loc) (lo hi : Int), wfList ls = true → ∀ p ∈ denList ls,
    lo ≤ p.1 → p.1 < hi → overlapAny ls lo hi = true :=
  fun ls lo hi hw => overlap_of_mem_den (joined ls) lo hi hw

end Loc

end Gts
