/-
  C05, `Reverse` twice: the guard `reverseStable` ("no `Join` of the first reversal reduces") follows
  from conditions on the location itself — canonical, well-formed, no residue read twice, no
  between-site, K2 not firing — the conditions under which the harness evaluates its involution
  oracle.  `Join` of parts none of which is a `Joined` leaves them alone iff no ADJACENT pair meets a
  rule of `LocationList.Push` (`irr`, Gts/Spec/CanonGuard.lean; Gts/Lemmas/CanonJoin.lean); the mirror
  image of a pair that meets none meets one only through a between-site (K1), a point on the last base
  of the range in front of it (a residue read twice) or K2.  Core Lean only.
-/
import Gts.Lemmas.ReverseInvol
import Gts.Lemmas.MarksDelAll
import Gts.Lemmas.MarkGuardNodup
import Gts.Lemmas.CanonJoin
namespace Gts

theorem chainP_map {α β : Type} (P : β → β → Prop) (f : α → β) : ∀ (l : List α),
    ChainP P (l.map f) ↔ ChainP (fun a b => P (f a) (f b)) l
  | [] => by simp [ChainP]
  | [a] => by simp [ChainP]
  | a :: b :: r => by
      have ih := chainP_map P f (b :: r)
      simp only [List.map_cons] at ih ⊢
      rw [chainP_cons_cons, chainP_cons_cons, ih]

namespace Loc

/-! ### `Join` of parts no adjacent pair of which meets a rule of `Push`, K2 apart -/

/-- the K2 shape: a range and the point one base behind it -/
def k2Shape : Loc → Loc → Bool
  | ranged _ ve _ _, point u => decide (ve = u)
  | _, _ => false

theorem absW_notJoined (low : List Loc → Loc → Bool → List Loc) (lowAbs : List Loc → Loc → Bool → Bool)
    (racc : List Loc) (x : Loc) (f : Bool) (hx : isJoinedC x = false) :
    absW low lowAbs racc x f = absOne low lowAbs racc x f := by
  cases x <;> simp_all [absW, isJoinedC]

theorem absOne_of_k2Shape (low : List Loc → Loc → Bool → List Loc) (lowAbs : List Loc → Loc → Bool → Bool)
    (v x : Loc) (rest : List Loc) (f : Bool) (h : k2Shape v x = true) :
    absOne low lowAbs (v :: rest) x f = true := by
  unfold k2Shape at h
  split at h
  · simpa [absOne] using h
  · cases h

/-- in a stable accumulator no element meets a rule with the one pushed before it -/
theorem chainP_of_stableR : ∀ (racc : List Loc), stableR racc = true →
    ChainP (fun v w => irr w v = true) racc
  | [], _ => trivial
  | [_], _ => trivial
  | v :: w :: r, h => by
      simp only [stableR, Bool.and_eq_true] at h
      exact ⟨h.1.2, chainP_of_stableR (w :: r) h.2⟩

/-- if the only rule an adjacent pair can meet is K2 and K2 does not fire, `Push` appends -/
theorem foldl_push_of_chain (low : List Loc → Loc → Bool → List Loc)
    (lowAbs : List Loc → Loc → Bool → Bool) : ∀ (xs racc : List Loc), (∀ x ∈ xs, isJoinedC x = false) →
    ChainP (fun v x => irr v x = false → k2Shape v x = true) (racc.head?.toList ++ xs) →
    foldAbs (pushW low) (absW low lowAbs) true racc xs = false →
    xs.foldl (fun acc y => pushW low acc y true) racc = xs.reverse ++ racc
  | [], _, _, _, _ => by simp
  | x :: xs, racc, h, hc, ha => by
      have hx := h x (List.mem_cons_self ..)
      simp only [foldAbs, Bool.or_eq_false_iff] at ha
      rw [absW_notJoined low lowAbs racc x true hx, pushW_of_not_joined low racc x true hx] at ha
      -- `x` meets no rule with the last element: K2 is the only one left to the pair, and it does not fire
      have hf : irrHead racc x = true ∧
          ChainP (fun v x => irr v x = false → k2Shape v x = true) (x :: xs) := by
        cases racc with
        | nil => exact ⟨rfl, hc⟩
        | cons v rest =>
          refine ⟨?_, hc.2⟩
          cases hfv : irr v x with
          | true => exact hfv
          | false =>
            rw [absOne_of_k2Shape low lowAbs v x rest true (hc.1 hfv)] at ha
            exact absurd ha.1 (by simp)
      rw [pushOne_irr low racc x hf.1] at ha
      rw [List.foldl_cons, pushW_of_not_joined low racc x true hx, pushOne_irr low racc x hf.1,
        foldl_push_of_chain low lowAbs xs (x :: racc) (fun y hy => h y (List.mem_cons_of_mem x hy)) hf.2 ha.2]
      simp

/-! ### the mirror image of a pair that meets no rule -/

/-- a range and the point ON its last base -/
def dupShape : Loc → Loc → Bool
  | ranged _ e _ _, point p => decide (p = e - 1)
  | _, _ => false

theorem irr_ordered_left (ms : List Loc) (b : Loc) : irr (ordered ms) b = true := by
  cases b <;> rfl

theorem irr_ordered_right (a : Loc) (ms : List Loc) : irr a (ordered ms) = true := by
  cases a <;> rfl

theorem eq_ordered_of_isOrderedC {l : Loc} (h : isOrderedC l = true) : ∃ ms, l = ordered ms := by
  cases l <;> simp_all [isOrderedC]

theorem irr_mirror (L : Int) (v x : Loc) (hvj : isJoinedC v = false) (hxj : isJoinedC x = false)
    (hvo : isOrderedC (reverse v L) = isOrderedC v) (hxo : isOrderedC (reverse x L) = isOrderedC x)
    (h : irr (reverse x L) (reverse v L) = false) :
    irr v x = false ∨ isBetween v = true ∨ isBetween x = true ∨ dupShape v x = true ∨
      k2Shape (reverse x L) (reverse v L) = true := by
  by_cases hv : isOrderedC v = true
  · obtain ⟨ms, e⟩ := eq_ordered_of_isOrderedC (hvo.trans hv)
    rw [e, irr_ordered_right] at h
    cases h
  · by_cases hx : isOrderedC x = true
    · obtain ⟨ms, e⟩ := eq_ordered_of_isOrderedC (hxo.trans hx)
      rw [e, irr_ordered_left] at h
      cases h
    · -- a between-site on either side is one of the alternatives; the other kinds by the rule table
      cases v with
      | between _ => exact .inr (.inl rfl)
      | joined _ => cases hvj
      | ordered _ => exact absurd rfl hv
      | _ =>
        cases x with
        | between _ => exact .inr (.inr (.inl rfl))
        | joined _ => cases hxj
        | ordered _ => exact absurd rfl hx
        | _ => simp_all [reverse, rangedReverse, irr, dupShape, k2Shape] <;> omega

theorem not_nodup_of_dupShape (v x : Loc) (hw : wf v = true) (h : dupShape v x = true) :
    ¬ (den v ++ den x).Nodup := by
  cases v <;> cases x <;> simp_all [dupShape]
  rename_i s e a b p
  have hse : s < e := by simpa [wf] using hw
  intro hn
  have hm : ((e - 1, false) : Pos) ∈ fwd (irange s (e - s).toNat) := by
    simp only [fwd, List.mem_map]
    exact ⟨e - 1, mem_irange.mpr ⟨by omega, by omega⟩, rfl⟩
  exact (List.nodup_append.mp hn).2.2 _ hm _ (List.mem_singleton.mpr rfl) rfl

theorem chainP_nodup_den : ∀ (ls : List Loc), (denList ls).Nodup →
    ChainP (fun v x => (den v ++ den x).Nodup) ls
  | [], _ => trivial
  | [_], _ => trivial
  | v :: x :: r, h => by
      simp only [denList_cons] at h
      refine ⟨?_, chainP_nodup_den (x :: r) ?_⟩
      · rw [← List.append_assoc] at h
        exact (List.nodup_append.mp h).1
      · simpa only [denList_cons] using (List.nodup_append.mp h).2.1

theorem chainP_and {α : Type} {P Q : α → α → Prop} : ∀ (l : List α), ChainP P l → ChainP Q l →
    ChainP (fun a b => P a b ∧ Q a b) l
  | [], _, _ => trivial
  | [_], _, _ => trivial
  | _ :: b :: r, hp, hq => ⟨⟨hp.1, hq.1⟩, chainP_and (b :: r) hp.2 hq.2⟩

/-! ### the guard from conditions on the location -/

theorem isJoinedC_reverse (v : Loc) (L : Int) (hj : isJoinedC v = false)
    (ho : isOrderedC (reverse v L) = isOrderedC v) : isJoinedC (reverse v L) = false := by
  cases v with
  | joined ls => simp [isJoinedC] at hj
  | ordered ms =>
    obtain ⟨ms', e⟩ := eq_ordered_of_isOrderedC (ho.trans rfl)
    rw [e]; rfl
  | _ => simp [reverse, rangedReverse, isJoinedC]

theorem isBetween_of_allLeaves (v : Loc) (h : allLeaves (fun u => !isBetween u) v = true) :
    isBetween v = false := by
  cases v with
  | between _ => exact absurd h Bool.false_ne_true
  | _ => rfl

/-- a list predicate that is the conjunction of a predicate on the elements holds of every element -/
theorem of_mem_andList {f : Loc → Bool} {fl : List Loc → Bool} (hc : ∀ l ls, fl (l :: ls) = (f l && fl ls)) :
    ∀ (ls : List Loc) (v : Loc), fl ls = true → v ∈ ls → f v = true
  | [], _, _, h => nomatch h
  | l :: ls, v, hw, h => by
      obtain ⟨h1, h2⟩ := Bool.and_eq_true_iff.mp (hc l ls ▸ hw)
      rcases List.mem_cons.mp h with rfl | h
      · exact h1
      · exact of_mem_andList hc ls v h2 h

/-- the `Join` of the reversed parts of a canonical join is left alone, when the parts are
well-formed, none is a between-site, none reverses into an `Ordered` unless it is one, no residue is
read twice and K2 does not fire -/
theorem join_reverse_stable (ls : List Loc) (L : Int) (hs : structP (joined ls) = true)
    (hel : ∀ v ∈ ls, wf v = true ∧ isBetween v = false ∧ isOrderedC (reverse v L) = isOrderedC v)
    (hn : (denList ls).Nodup) (hk : joinAbs (reverseList ls L).reverse = false) :
    (join (reverseList ls L).reverse).beq (joined (reverseList ls L).reverse) = true := by
  obtain ⟨hst, h2, hnj⟩ := stable_of_structP_joined ls hs
  have hjv : ∀ v ∈ ls, isJoinedC v = false := fun v hv => by
    simpa using List.any_eq_false.mp hnj v hv
  -- no adjacent pair of `ls` meets a rule
  have hc1 : ChainP (fun v x => irr v x = true) ls :=
    (chainP_reverse _ ls).mp (chainP_of_stableR _ hst)
  -- … hence the mirrored pairs meet K2 at most
  have hc2 := chainP_and ls hc1 (chainP_nodup_den ls hn)
  have hc3 : ChainP (fun v x => irr (reverse x L) (reverse v L) = false →
      k2Shape (reverse x L) (reverse v L) = true) ls := by
    refine chainP_imp ls ?_ hc2
    intro v x hv hx ⟨hf, hnd⟩ hfire
    rcases irr_mirror L v x (hjv v hv) (hjv x hx) (hel v hv).2.2 (hel x hx).2.2 hfire with
      h | h | h | h | h
    · rw [hf] at h; cases h
    · rw [(hel v hv).2.1] at h; cases h
    · rw [(hel x hx).2.1] at h; cases h
    · exact absurd hnd (not_nodup_of_dupShape v x (hel v hv).1 h)
    · exact h
  have hR : ChainP (fun a b => irr a b = false → k2Shape a b = true) (reverseList ls L).reverse := by
    rw [reverseList_eq_map, chainP_reverse, chainP_map]
    exact hc3
  have hnoJR : ∀ a ∈ (reverseList ls L).reverse, isJoinedC a = false := by
    simp only [List.mem_reverse, reverseList_eq_map, List.mem_map]
    rintro a ⟨v, hv, rfl⟩
    exact isJoinedC_reverse v L (hjv v hv) (hel v hv).2.2
  have hfold := foldl_push_of_chain (pushD (pushFuel - 1)) (absD (pushFuel - 1)) (reverseList ls L).reverse [] hnoJR
    (by simpa using hR) hk
  have hjoinR : join (reverseList ls L).reverse =
      ofParts ((reverseList ls L).reverse.foldl (fun acc y => pushW (pushD (pushFuel - 1)) acc y true) []).reverse := rfl
  rw [hjoinR, hfold, List.append_nil, List.reverse_reverse,
    ofParts_of_two_le _ (by rw [List.length_reverse, reverseList_length]; exact h2)]
  exact beq_refl _

mutual
/-- **the guard of the involution law holds** for a canonical, well-formed location that reads no
residue twice and has no between-site, when K2 does not fire in its reversal -/
theorem reverseStable_of_guards : ∀ (l : Loc) (L : Int), canonP l = true → wf l = true →
    (den l).Nodup → allLeaves (fun u => !isBetween u) l = true → reverseAbs l L = false →
    reverseStable l L = true
  | between _, _, _, _, _, _, _ => rfl
  | point _, _, _, _, _, _, _ => rfl
  | ranged _ _ _ _, _, _, _, _, _, _ => rfl
  | ambiguous _ _, _, _, _, _, _, _ => rfl
  | joined ls, L, hc, hw, hn, hb, hk => by
      have hcl : canonPList ls = true :=
        (Bool.and_eq_true_iff.mp (Bool.and_eq_true_iff.mp (Bool.and_eq_true_iff.mp hc).1).1).1
      obtain ⟨hk1, hk2⟩ := Bool.or_eq_false_iff.mp hk
      have ih := reverseStableList_of_guards ls L hcl hw hn hb hk1
      refine Bool.and_eq_true_iff.mpr ⟨ih, join_reverse_stable ls L ((canonP_iff _).mp hc).2
        (fun v hv => ?_) hn hk2⟩
      exact ⟨of_mem_andList (fl := wfList) (fun _ _ => rfl) ls v hw hv,
        isBetween_of_allLeaves v (of_mem_andList (fl := allLeavesList _) (fun _ _ => rfl) ls v hb hv),
        (reverse_reverse_aux v L (of_mem_andList (fl := canonPList) (fun _ _ => rfl) ls v hcl hv)
          (of_mem_andList (fl := (reverseStableList · L)) (fun _ _ => rfl) ls v ih hv)).2⟩
  | ordered ls, L, hc, hw, hn, hb, hk =>
      reverseStableList_of_guards ls L
        (Bool.and_eq_true_iff.mp (Bool.and_eq_true_iff.mp hc).1).1 hw hn hb hk
  | compl l, L, hc, hw, hn, hb, hk =>
      reverseStable_of_guards l L (Bool.and_eq_true_iff.mp hc).1 hw (nodup_flipDen.mp hn) hb hk
theorem reverseStableList_of_guards : ∀ (ls : List Loc) (L : Int), canonPList ls = true →
    wfList ls = true → (denList ls).Nodup → allLeavesList (fun u => !isBetween u) ls = true →
    reverseAbsList ls L = false → reverseStableList ls L = true
  | [], _, _, _, _, _, _ => rfl
  | l :: ls, L, hc, hw, hn, hb, hk => by
      obtain ⟨hc1, hc2⟩ := Bool.and_eq_true_iff.mp hc
      obtain ⟨hw1, hw2⟩ := Bool.and_eq_true_iff.mp hw
      obtain ⟨hb1, hb2⟩ := Bool.and_eq_true_iff.mp hb
      obtain ⟨hk1, hk2⟩ := Bool.or_eq_false_iff.mp hk
      have hn' := List.nodup_append.mp hn
      exact Bool.and_eq_true_iff.mpr ⟨reverseStable_of_guards l L hc1 hw1 hn'.1 hb1 hk1,
        reverseStableList_of_guards ls L hc2 hw2 hn'.2.1 hb2 hk2⟩
end

end Loc
end Gts
