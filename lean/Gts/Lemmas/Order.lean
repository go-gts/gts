/-
  `Order(...)` never changes the denoted residues, and keeps well-formedness as it keeps every leaf
  invariant.  Core Lean only.
-/
import Gts.Lemmas.Push
namespace Gts
namespace Loc

mutual
theorem denList_flattenOrd : ∀ (l : Loc), denList (flattenOrd l) = den l
  | ordered ls => by simpa [flattenOrd] using denList_flattenOrdList ls
  | between _ | point _ | ranged _ _ _ _ | ambiguous _ _ | joined _ | compl _ => by simp [flattenOrd]
theorem denList_flattenOrdList : ∀ (ls : List Loc), denList (flattenOrdList ls) = denList ls
  | [] => by simp [flattenOrdList]
  | l :: ls => by
      simp [flattenOrdList, denList_append, denList_flattenOrd l, denList_flattenOrdList ls]
end

theorem wfList_flattenOrd : ∀ (l : Loc), wf l = true → wfList (flattenOrd l) = true := by
  simp only [wf_eq_allLeaves, wfList_eq_allLeaves]
  exact allLeavesList_flattenOrd _

theorem ofPartsOrd_den (j : List Loc) :
    den (match j with | [] => ordered [] | [a] => a | l => ordered l) = denList j := by
  match j with
  | [] => simp
  | [a] => simp
  | _ :: _ :: _ => simp

/-- `Order` keeps exactly the residues of its arguments, in order. -/
theorem order_den (xs : List Loc) : den (order xs) = denList xs :=
  (ofPartsOrd_den (flattenOrdList xs)).trans (denList_flattenOrdList xs)

theorem order_wf (xs : List Loc) (h : wfList xs = true) : wf (order xs) = true := by
  rw [wf_eq_allLeaves]
  exact order_leaves _ xs (wfList_eq_allLeaves xs ▸ h)

end Loc
end Gts
