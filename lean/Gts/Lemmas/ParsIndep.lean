/-
  A RELATIONAL reading of the `pars` state model: what a parser does when OLDER saved positions `st`
  lie underneath the ones it works with.

  `RP st p Q s`: `p` run on `⟨s.rest, s.stk ++ st⟩` returns the SAME outcome and the same position as on
  `s`, and its saved positions are those of the run on `s` with `st` still underneath, untouched; `Q`
  holds for the run on `s`.  `Push`, and `Pop` / `Drop` / `Trail` on a non-empty stack `s.stk`, have it;
  `Pop` / `Drop` / `Trail` on an EMPTY `s.stk` do not (they would reach into `st`), nor do `Pushed` and
  `Clear`.  So a parser has it as long as it only ever takes back frames it pushed itself — `Q` carries
  the count (`Keep n`: at least `n` own frames are left).

  `RS p`: with at least `n` own frames on entry, `p` has `RP` and leaves at least `n` of them (frames may
  leak, they are never over-popped): the relational counterpart of `Safe` (ParsSafe.lean).

  Used for `genbankLocusParser` (`Gts/Lemmas/GbStackIndep.lean`): everything `GenBankParser` does in
  front of its `state.Clear()`.
-/
import Gts.Lemmas.ParsSafe
namespace Gts.Pars

variable {α β : Type}

def RP (st : List Bytes) (p : P α) (Q : Except Err α → PS → Prop) (s : PS) : Prop :=
  p.run' ⟨s.rest, s.stk ++ st⟩ = ((p.run' s).1, ⟨(p.run' s).2.rest, (p.run' s).2.stk ++ st⟩) ∧
    Q (p.run' s).1 (p.run' s).2

variable {st : List Bytes} {s : PS}

theorem rp_mono {p : P α} {Q Q' : Except Err α → PS → Prop} (h : RP st p Q s)
    (hq : ∀ r s', Q r s' → Q' r s') : RP st p Q' s := ⟨h.1, hq _ _ h.2⟩

theorem rp_bind {p : P α} {f : α → P β} {Q : Except Err β → PS → Prop}
    (h : RP st p (fun r s' => match r with
      | .ok a => RP st (f a) Q s'
      | .error e => Q (.error e) s') s) : RP st (p >>= f) Q s := by
  obtain ⟨h1, h2⟩ := h
  unfold RP
  rw [run_bind, run_bind, h1]
  rcases hp : p.run' s with ⟨r, s'⟩
  rw [hp] at h2
  cases r with
  | error e => exact ⟨rfl, h2⟩
  | ok a => exact h2

theorem rp_pure {a : α} {Q : Except Err α → PS → Prop} (k : Q (.ok a) s) : RP st (pure a : P α) Q s :=
  ⟨rfl, k⟩

theorem rp_fail {Q : Except Err α → PS → Prop} (k : Q (.error .fail) s) : RP st (fail : P α) Q s :=
  ⟨rfl, k⟩

theorem rp_attempt {p : P α} {Q : Except Err (Option α) → PS → Prop}
    (h : RP st p (fun r s' => match r with
      | .ok a => Q (.ok (some a)) s'
      | .error .fail => Q (.ok none) s'
      | .error .panic => Q (.error .panic) s') s) : RP st (attempt p) Q s := by
  obtain ⟨h1, h2⟩ := h
  unfold RP
  rw [run_attempt, run_attempt, h1]
  rcases hp : p.run' s with ⟨r, s'⟩
  rw [hp] at h2
  cases r with
  | ok a => exact ⟨rfl, h2⟩
  | error e => cases e <;> exact ⟨rfl, h2⟩

/-- a parser that neither reads nor writes the saved positions: its outcome and new position are a
function `g` of the input left -/
theorem rp_blind {p : P α} (g : Bytes → Except Err α × Bytes)
    (hg : ∀ rest stk, p.run' ⟨rest, stk⟩ = ((g rest).1, ⟨(g rest).2, stk⟩))
    {Q : Except Err α → PS → Prop} (k : ∀ r rest', Q r ⟨rest', s.stk⟩) : RP st p Q s := by
  obtain ⟨rest, stk⟩ := s
  unfold RP
  rw [hg, hg]
  exact ⟨rfl, k _ _⟩

def Keep (n : Nat) : Except Err α → PS → Prop := fun _ s' => n ≤ s'.stk.length

def RS (p : P α) : Prop := ∀ st n s, n ≤ s.stk.length → RP st p (Keep n) s

theorem rs_blind {p : P α} (g : Bytes → Except Err α × Bytes)
    (hg : ∀ rest stk, p.run' ⟨rest, stk⟩ = ((g rest).1, ⟨(g rest).2, stk⟩)) : RS p :=
  fun _ _ _ h => rp_blind g hg (fun _ _ => h)

theorem rs_pure (a : α) : RS (pure a : P α) := fun _ _ _ h => rp_pure h
theorem rs_fail : RS (fail : P α) := fun _ _ _ h => rp_fail h

theorem rs_bind {p : P α} {f : α → P β} (hp : RS p) (hf : ∀ a, RS (f a)) : RS (p >>= f) := by
  intro st n s h
  apply rp_bind
  apply rp_mono (hp st n s h)
  intro r s' hk
  cases r with
  | ok a => exact hf a st n s' hk
  | error e => exact hk

theorem rs_attempt {p : P α} (hp : RS p) : RS (attempt p) := by
  intro st n s h
  apply rp_attempt
  apply rp_mono (hp st n s h)
  intro r s' hk
  cases r with
  | ok a => exact hk
  | error e => cases e <;> exact hk

theorem rs_ite {c : Prop} [Decidable c] {p q : P α} (hp : RS p) (hq : RS q) : RS (if c then p else q) := by
  split <;> assumption

theorem rs_next : RS next :=
  rs_blind (fun rest => match rest with | [] => (.error .fail, []) | c :: r => (.ok c, c :: r)) (by
    intro rest stk
    rw [run_next]
    cases rest <;> rfl)

theorem rs_advance1 : RS advance1 := rs_blind (fun rest => (.ok (), rest.drop 1)) (fun _ _ => rfl)
theorem rs_advanceN (k : Nat) : RS (advanceN k) := rs_blind (fun rest => (.ok (), rest.drop k)) (fun _ _ => rfl)
theorem rs_skipWhile (f : UInt8 → Bool) : RS (skipWhile f) :=
  rs_blind (fun rest => (.ok (), rest.dropWhile f)) (fun _ _ => rfl)

theorem rs_lit (p : Bytes) : RS (lit p) :=
  rs_blind (fun rest => if rest.take p.length == p && p.length ≤ rest.length then (.ok (), rest.drop p.length)
      else (.error .fail, rest)) (by
    intro rest stk
    unfold lit
    rw [run_bind, run_getS]
    dsimp only
    split
    · rw [run_advanceN]
    · rw [run_fail])

theorem rs_line : RS line :=
  rs_blind (fun rest =>
      (.ok (rest.take (calcLine rest 0 0 false).1),
        if (rest.drop (calcLine rest 0 0 false).1).length < (calcLine rest 0 0 false).2
        then rest.drop (calcLine rest 0 0 false).1
        else (rest.drop (calcLine rest 0 0 false).1).drop (calcLine rest 0 0 false).2)) (by
    intro rest stk
    unfold line
    rw [run_bind, run_getS]
    dsimp only
    rcases hc : calcLine rest 0 0 false with ⟨i, n⟩
    dsimp only
    rw [run_bind, run_setS]
    rfl)

/-! ### parsers with frames of their own

`RFramed d e p`: with at least `n + d` own frames on entry, `p` has `RP` and leaves at least `n + e` of
them when it succeeds, `n` otherwise: `RS` is `RFramed 0 0` (as `Safe` is `Framed 0 0`, ParsSafe.lean). -/

def RFramed (d e : Nat) (p : P α) : Prop :=
  ∀ st n s, n + d ≤ s.stk.length → RP st p (fun r s' => match r with
    | .ok _ => n + e ≤ s'.stk.length
    | .error _ => n ≤ s'.stk.length) s

variable {d e g : Nat}

theorem RFramed.bind {p : P α} {f : α → P β} (hp : RFramed d e p) (hf : ∀ a, RFramed e g (f a)) :
    RFramed d g (p >>= f) := fun st n s h => by
  apply rp_bind
  apply rp_mono (hp st n s h)
  intro r s' hk
  cases r with
  | ok a => exact hf a st n s' hk
  | error e => exact hk

theorem RFramed.pure (a : α) : RFramed d d (Pure.pure a : P α) := fun _ _ _ h => rp_pure h
theorem RFramed.fail : RFramed d e (fail : P α) :=
  fun _ _ _ h => rp_fail (Nat.le_trans (Nat.le_add_right ..) h)

theorem RFramed.push : RFramed d (d + 1) push := fun _ _ _ h => ⟨rfl, Nat.succ_le_succ h⟩

theorem RFramed.pop : RFramed (d + 1) d pop := fun _ n s h => by
  obtain ⟨rest, _ | ⟨f, own⟩⟩ := s
  · exact absurd h (by simp)
  · unfold RP
    rw [run_pop, run_pop]
    exact ⟨rfl, Nat.le_of_succ_le_succ h⟩

theorem RFramed.drop : RFramed (d + 1) d drop := fun _ n s h => by
  obtain ⟨rest, _ | ⟨f, own⟩⟩ := s
  · exact absurd h (by simp)
  · exact ⟨rfl, Nat.le_of_succ_le_succ h⟩

/-- `Trail` pops the youngest own frame, or panics and leaves the state as it is -/
theorem RFramed.trail : RFramed (d + 1) d trail := fun _ n s h => by
  obtain ⟨rest, _ | ⟨f, own⟩⟩ := s
  · exact absurd h (by simp)
  · have h' : n + d ≤ own.length := Nat.le_of_succ_le_succ h
    unfold RP
    rw [run_trail, run_trail]
    dsimp only [List.cons_append]
    split
    · exact ⟨rfl, Nat.le_trans (Nat.le_add_right ..) (Nat.le_succ_of_le h')⟩
    · exact ⟨rfl, h'⟩

theorem RFramed.popFail : RFramed (d + 1) e (Pars.pop >>= fun _ => (Pars.fail : P α)) :=
  .bind .pop fun _ => .fail

theorem RFramed.ite {p q : P α} (c : Prop) [Decidable c] (hp : RFramed d e p) (hq : RFramed d e q) :
    RFramed d e (if c then p else q) := by
  split <;> assumption

theorem RS.framed {p : P α} (hp : RS p) : RFramed d d p := fun st n s h =>
  rp_mono (hp st (n + d) s h) fun r _ hk => by
    cases r with
    | ok _ => exact hk
    | error _ => exact Nat.le_trans (Nat.le_add_right ..) hk

theorem RS.ofFramed {p : P α} (hp : RFramed 0 0 p) : RS p := fun st n s h =>
  rp_mono (hp st n s h) fun r _ hk => by cases r <;> exact hk

theorem RFramed.attempt_bind {p : P α} {k : Option α → P β} (hp : RS p)
    (hs : ∀ a, RFramed d e (k (some a))) (hn : RFramed d e (k none)) :
    RFramed d e (attempt p >>= k) :=
  .bind (rs_attempt hp).framed fun | some a => hs a | none => hn

theorem rs_spaces : RS spaces :=
  .ofFramed <| .bind .push fun _ => .bind (rs_skipWhile _).framed fun _ => .trail

theorem rs_word (f : UInt8 → Bool) : RS (word f) :=
  .ofFramed <| .bind .push fun _ => .bind (rs_skipWhile _).framed fun _ => .bind .trail fun _ =>
    .ite _ .fail (.pure _)

/-- `pars.Int`: the frame leaks when the input ends behind it, is popped on a non-digit, dropped on a
zero, and taken back by `Trail` otherwise — never more than its own -/
theorem rs_int : RS int := by
  unfold int
  refine .ofFramed (.bind .push fun _ => .bind rs_next.framed fun c => ?_)
  extract_lets digits
  suffices h : ∀ c, RFramed 1 0 (digits c) from
    .ite _ (.bind rs_advance1.framed fun _ => .bind rs_next.framed h) (.bind (.pure _) h)
  exact fun c => .ite _ .popFail <|
    .ite _ (.bind rs_advance1.framed fun _ => .bind .drop fun _ => .pure _) <|
    .bind (rs_skipWhile _).framed fun _ => .bind .trail fun p =>
      match atoi p with
      | some _ => .pure _
      | none => .fail

end Gts.Pars
