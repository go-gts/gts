/-
  Helpers for the record-level corollaries: membership through `List.Perm` of a mapped table;
  `asComplete` keeps what a location denotes.
-/
import Gts.Model.Seq
import Gts.Spec.Den
namespace Gts

theorem mem_of_perm_map {α β} {l : List β} {m : List α} {g : α → β}
    (h : l.Perm (m.map g)) {f : α} (hf : f ∈ m) : g f ∈ l :=
  h.symm.subset (List.mem_map_of_mem hf)

theorem mem_of_perm_map_append_left {α β} {l : List β} {m : List α} {r : List β} {g : α → β}
    (h : l.Perm (m.map g ++ r)) {f : α} (hf : f ∈ m) : g f ∈ l :=
  h.symm.subset (List.mem_append_left _ (List.mem_map_of_mem hf))

theorem mem_of_perm_map_append_right {α β} {l : List β} {m : List α} {r : List β} {g : α → β}
    (h : l.Perm (r ++ m.map g)) {f : α} (hf : f ∈ m) : g f ∈ l :=
  h.symm.subset (List.mem_append_right _ (List.mem_map_of_mem hf))

theorem Seq.len_nonneg (s : Seq) : 0 ≤ s.len := by unfold Seq.len; omega

open Loc in
mutual
/-- stripping partial markers does not change what a location denotes -/
theorem den_asComplete : ∀ l : Loc, den (asComplete l) = den l
  | .ranged s e _ _ => by simp [asComplete, den]
  | .joined ls => by simp [asComplete, den, denList_asComplete ls]
  | .ordered ls => by simp [asComplete, den, denList_asComplete ls]
  | .between _ => rfl
  | .point _ => rfl
  | .ambiguous _ _ => rfl
  | .compl l => by simp [asComplete, den, den_asComplete l]
theorem denList_asComplete : ∀ ls : List Loc, denList (asCompleteList ls) = denList ls
  | [] => rfl
  | l :: ls => by simp [asCompleteList, denList, den_asComplete l, denList_asComplete ls]
end

end Gts
