/-
  C07, "never hangs", second part: the fuelled loops of the feature-table reader and of REFERENCE.

  * `literalMore` (continuation lines of a literal qualifier value): a round that goes on has read
    the prefix, one more byte and a line — at least one byte, in ANY state;
  * `qualifiers` (`pars.Many(qualifierParser)`): a qualifier that is read has consumed `prefix/`;
  * `tableMore` (the key-line loop of `INSDCTableParser`): a key line that is read has consumed its
    key;
  * `refSubfields` (`pars.Many(genbankReferenceSubfieldParser)`): a sub-field that is read has
    consumed its name.
  The last three need the forward invariant of ParsProgress (the failing location parser leaks
  frames, `pars.Any` pops): from a SORTED state nothing goes back behind the start of the round
  (`strict_qualifier`, `strict_keyline` of GbSafeTable, `strict_refSubfield` of GbProgress).
-/
import Gts.Lemmas.GbProgress
namespace Gts.GenBank
open Gts.Pars

theorem table_safeW (reg : Registry) : SafeW (table reg) := (table_fwd (E := False) reg).safeW

theorem literalMore_fuel (pre : Bytes) : ∀ f f' p (s : PS), s.rest.length < f → s.rest.length < f' →
    (literalMore pre f p).run' s = (literalMore pre f' p).run' s
  | 0, _, _, _, h, _ => absurd h (Nat.not_lt_zero _)
  | _ + 1, 0, _, _, _, h => absurd h (Nat.not_lt_zero _)
  | f + 1, f' + 1, p, s, hf, hf' => by
    rw [literalMore, literalMore]
    refine attempt_bind_congr (fun _ s1 h1 => ?_) fun _ => rfl
    have hle := lit_lt pre h1
    refine attempt_bind_congr (fun c s2 h2 => ?_) fun _ => rfl
    rw [run_next] at h2
    rcases hr : s1.rest with _ | ⟨c', r⟩ <;> rw [hr] at h2 <;> cases h2
    dsimp only
    split
    · rfl
    · rw [run_bind, run_bind, Origin.line_eq_splitLine]
      dsimp only
      rw [run_bind, run_bind, run_drop]
      dsimp only
      rw [run_bind, run_bind, run_push]
      dsimp only
      have hlt := splitLine_lt s1.rest (by rw [hr]; simp)
      exact literalMore_fuel pre f f' _ _ (by show (Origin.splitLine s1.rest).2.length < f; omega)
        (by show (Origin.splitLine s1.rest).2.length < f'; omega)

theorem qualifiers_fuel (pre : Bytes) : ∀ f f' reg acc (s : PS), Sorted s.rest.length s.stk →
    s.rest.length < f → s.rest.length < f' →
    (qualifiers pre f reg acc).run' s = (qualifiers pre f' reg acc).run' s
  | 0, _, _, _, _, _, h, _ => absurd h (Nat.not_lt_zero _)
  | _ + 1, 0, _, _, _, _, _, h => absurd h (Nat.not_lt_zero _)
  | f + 1, f' + 1, reg, acc, s, hs, hf, hf' => by
    rw [qualifiers, qualifiers]
    exact (strict_qualifier (E := True) pre reg).many_congr hs
      (fun (q, reg') s1 hs1 hlt => qualifiers_fuel pre f f' reg' (q :: acc) s1 hs1 (by omega) (by omega))
      fun _ => rfl

theorem tableMore_fuel (pre depth : Nat) : ∀ f f' reg acc (s : PS), Sorted s.rest.length s.stk →
    s.rest.length < f → s.rest.length < f' →
    (tableMore pre depth f reg acc).run' s = (tableMore pre depth f' reg acc).run' s
  | 0, _, _, _, _, _, h, _ => absurd h (Nat.not_lt_zero _)
  | _ + 1, 0, _, _, _, _, _, h => absurd h (Nat.not_lt_zero _)
  | f + 1, f' + 1, reg, acc, s, hs, hf, hf' => by
    rw [tableMore, tableMore]
    refine (strict_keyline (E := True) pre depth).many_congr hs (fun (key, l) s1 hs1 hlt => ?_) fun _ => rfl
    refine SafeW.getS.bind_congr hs1 fun _ s2 hs2 hle2 => ?_
    refine (qualifiers_fwd (E := True) _ _ _ _).safeW.bind_congr hs2 fun (qs, reg') s3 hs3 hle3 => ?_
    exact tableMore_fuel pre depth f f' reg' _ s3 hs3 (by omega) (by omega)

theorem refSubfields_fuel (d : Nat) : ∀ k k' st r (s : PS), Sorted s.rest.length s.stk →
    s.rest.length < k → s.rest.length < k' →
    (refSubfields d k st r).run' s = (refSubfields d k' st r).run' s
  | 0, _, _, _, _, _, h, _ => absurd h (Nat.not_lt_zero _)
  | _ + 1, 0, _, _, _, _, _, h => absurd h (Nat.not_lt_zero _)
  | k + 1, k' + 1, st, r, s, hs, hk, hk' => by
    rw [refSubfields, refSubfields]
    exact (strict_refSubfield (E := True) d st r).many_congr hs
      (fun (r', st') s1 hs1 hlt => refSubfields_fuel d k k' st' r' s1 hs1 (by omega) (by omega))
      fun _ => rfl

end Gts.GenBank
