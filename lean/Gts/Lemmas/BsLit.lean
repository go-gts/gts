/-
  `GenBank.bs` and `Pars.str` on a string literal.  The kernel reads a literal as `String.ofList [c₁, …]`.
  `String.toList` on that runs the UTF-8 decoder over a byte array, position by position: quadratic in
  the length of the literal; `ByteArray.toList` on its UTF-8 bytes runs a loop by well-founded recursion
  with a bounds check per byte.  `bs_ofList` and `str_ofList` give the bytes without either; test vectors rewrite their
  literals with them (`rw` unifies a literal with `String.ofList _`) before they are evaluated.  Core Lean only.
-/
import Gts.Model.GenBank
namespace Gts.GenBank

theorem bs_ofList (cs : List Char) : bs (String.ofList cs) = cs.map fun c => UInt8.ofNat c.toNat := by
  unfold bs
  rw [String.toList_ofList]

end Gts.GenBank

namespace Gts

theorem toList_loop (bs : ByteArray) (i : Nat) (r : List UInt8) (hi : i ≤ bs.size) :
    ByteArray.toList.loop bs i r = r.reverse ++ bs.data.toList.drop i := by
  induction hk : bs.size - i generalizing i r with
  | zero =>
    rw [ByteArray.toList.loop]
    have : ¬ i < bs.size := by omega
    rw [if_neg this]
    have hd : bs.data.toList.drop i = [] := by
      apply List.drop_eq_nil_of_le
      simp only [Array.length_toList]
      have : bs.data.size = bs.size := rfl
      omega
    rw [hd, List.append_nil]
  | succ k ih =>
    rw [ByteArray.toList.loop]
    have hlt : i < bs.size := by omega
    rw [if_pos hlt, ih (i + 1) _ (by omega) (by omega)]
    have hsz : bs.data.size = bs.size := rfl
    have hget : bs.get! i = bs.data.toList[i]'(by simp only [Array.length_toList]; omega) := by
      simp only [ByteArray.get!, Array.getElem_toList]
      exact getElem!_pos bs.data i (by omega)
    rw [hget, List.reverse_cons, List.append_assoc, List.singleton_append]
    congr 1
    exact (List.drop_eq_getElem_cons _).symm

theorem toList_eq (bs : ByteArray) : bs.toList = bs.data.toList := by
  rw [ByteArray.toList, toList_loop bs 0 [] (by omega)]
  rfl

theorem Pars.str_ofList (cs : List Char) : Pars.str (String.ofList cs) = cs.flatMap String.utf8EncodeChar := by
  rw [Pars.str, toList_eq, String.toUTF8, String.toByteArray_ofList, List.utf8Encode, List.data_toByteArray]

end Gts
