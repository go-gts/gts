/-
  C11 — the heap programs of the location methods (Gts/Model/MemLoc.lean) CONVERGE to the pure
  model on readable values: for a receiver that reads as the location value `l` there is one
  result, it reads as what `Gts/Model/Loc.lean` computes from `l`, every fuel either yields that
  result or none, and none only below a bound that depends on the VALUE `l` alone (not on the heap
  or on where the receiver lies).  Refinement, "more fuel, same answer" and totality are the
  projections `Conv.sound`, `Conv.unique`, `Conv.total` of this one statement.  Because the bound is
  chosen from the values — they evolve through `Loc.pushD`, `Loc.expand` … whatever the heap — the
  bounds of the steps of a program are combined by `max` once, with no monotonicity argument.
-/
import Gts.Lemmas.MemLocFresh
namespace Gts.Mem
open Heap

theorem pushListW_eq_foldl (low : List Loc → Loc → Bool → List Loc) (force : Bool) :
    ∀ (ps : List Loc) (racc : List Loc),
      Loc.pushListW low racc ps force = ps.foldl (fun acc p => Loc.pushW low acc p force) racc
  | [], racc => by simp [Loc.pushListW]
  | p :: ps, racc => by simp [Loc.pushListW, pushListW_eq_foldl low force ps]

def lkind : Loc → Nat
  | .joined _ => 1
  | .ordered _ => 2
  | .compl _ => 3
  | _ => 0

def mkind : MLoc → Nat
  | .leaf _ => 0
  | .joined _ => 1
  | .ordered _ => 2
  | .compl _ => 3

theorem lkind_zero {l : Loc} : lkind l = 0 ↔ isContig l = true := by
  cases l <;> simp [lkind, isContig]

theorem Reads.kind {h : LHeap} {l : Loc} {m : MLoc} (hr : Reads h l m) : lkind l = mkind m := by
  cases m with
  | leaf l' =>
    have := (reads_leaf.1 hr).2
    simpa [mkind] using lkind_zero.2 this
  | joined s | ordered s | compl m => cases l <;> simp_all [Reads, lkind, mkind]

theorem pushW_of_lkind {low : List Loc → Loc → Bool → List Loc} {x : Loc} (hx : lkind x ≠ 1)
    (racc : List Loc) (force : Bool) : Loc.pushW low racc x force = Loc.pushOne low racc x force := by
  cases x <;> simp_all [Loc.pushW, lkind]

/-- a pair that is neither contiguous/contiguous nor complement/complement is appended -/
theorem pushOne_inert (low : List Loc → Loc → Bool → List Loc) {v x : Loc} (rest : List Loc)
    (force : Bool) (h0 : lkind v ≠ 0 ∨ lkind x ≠ 0) (h3 : lkind v ≠ 3 ∨ lkind x ≠ 3) :
    Loc.pushOne low (v :: rest) x force = x :: v :: rest :=
  Loc.pushOne_append low (fun hf => by cases hf <;> simp [lkind] at h0 h3) rest

/-- the scalar rules look at the last element only and do not use the lower level -/
theorem pushOne_leaf_eq (low : List Loc → Loc → Bool → List Loc) {v u : Loc} (rest : List Loc)
    (force : Bool) (hv : isContig v = true) (hu : isContig u = true) :
    Loc.pushOne low (v :: rest) u force = Loc.pushOne (fun r _ _ => r) [v] u force ++ rest := by
  cases v <;> simp [isContig] at hv <;> cases u <;> simp [isContig] at hu <;>
    simp only [Loc.pushOne] <;> (try split) <;> simp

theorem pushOne_leaf_contig {v u : Loc} (force : Bool) (hv : isContig v = true)
    (hu : isContig u = true) : ∀ c ∈ Loc.pushOne (fun r _ _ => r) [v] u force, isContig c = true := by
  rcases Loc.pushOne_cons (fun r _ _ => r) v u [] force with e | ⟨e, _⟩ | ⟨e, _⟩ |
    ⟨_, _, _, _, _, _, _, _, _, _, e⟩ | ⟨_, _, rfl, _, _⟩
  · rw [e]; simp [hv, hu]
  · rw [e]; simp [hv]
  · rw [e]; simp [hu]
  · rw [e]; simp [isContig]
  · cases hv

theorem readsList_leaves {h : LHeap} : ∀ (ls : List Loc), (∀ c ∈ ls, isContig c = true) →
    ReadsList h ls (ls.map MLoc.leaf)
  | [], _ => by simp [ReadsList]
  | l :: ls, hc => by
    rw [List.map_cons]
    exact readsList_cons.2 ⟨(reads_contig (hc l (List.mem_cons_self ..))).2 rfl,
      readsList_leaves ls fun c hcm => hc c (List.mem_cons_of_mem _ hcm)⟩

theorem complement_of_lkind {l : Loc} (hl : lkind l ≠ 3) : l.complement = .compl l := by
  cases l with
  | compl _ => exact absurd rfl hl
  | _ => rfl

theorem flattenOrd_of_lkind {l : Loc} (hl : lkind l ≠ 2) : Loc.flattenOrd l = [l] := by
  cases l <;> simp_all [Loc.flattenOrd, lkind]

theorem isContig_ite' {c : Prop} [Decidable c] {a b : Loc} (ha : c → isContig a = true)
    (hb : ¬ c → isContig b = true) : isContig (if c then a else b) = true := by
  split
  · exact ha ‹_›
  · exact hb ‹_›

theorem isContig_ite {c : Prop} [Decidable c] {a b : Loc} (ha : isContig a = true)
    (hb : isContig b = true) : isContig (if c then a else b) = true :=
  isContig_ite' (fun _ => ha) fun _ => hb

theorem expand_contig {l : Loc} (hl : isContig l = true) (i n : Int) : isContig (l.expand i n) = true := by
  cases l <;> simp [isContig] at hl
  · simp [Loc.expand, Loc.betweenExpand, isContig]
  · simp only [Loc.expand, Loc.pointExpand]; exact isContig_ite rfl rfl
  · simp only [Loc.expand, Loc.rangedExpand]; exact isContig_ite rfl (isContig_ite rfl rfl)
  · simp only [Loc.expand, Loc.ambiguousExpand]; exact isContig_ite rfl (isContig_ite rfl rfl)

theorem refsAbove_zero : ∀ (m : MLoc), RefsAbove 0 m
  | .leaf _ => trivial
  | .joined _ | .ordered _ => Nat.zero_le _
  | .compl m => refsAbove_zero m

theorem closed_zero (h : LHeap) : Closed 0 h := fun _ _ c _ => refsAbove_zero c

theorem rangedExpand_contig (s e : Int) (p5 p3 : Bool) (i n : Int) :
    isContig (Loc.rangedExpand s e p5 p3 i n) = true :=
  expand_contig (l := .ranged s e p5 p3) rfl i n

theorem ambiguousExpand_contig (s e i n : Int) : isContig (Loc.ambiguousExpand s e i n) = true :=
  expand_contig (l := .ambiguous s e) rfl i n

theorem joinTail_refines (g : Grow) {h : LHeap} {ls : List Loc} {ms : List MLoc}
    (hr : ReadsList h ls ms) :
    h <+: (joinTail g h ms).2 ∧ Reads (joinTail g h ms).2 (Loc.ofParts ls) (joinTail g h ms).1 := by
  match ms, hr with
  | [], hr =>
    rw [readsList_nil_right.1 hr]
    refine ⟨prefix_snoc (List.prefix_refl _) _, reads_joined.2 ⟨_, rfl, ?_, ?_⟩⟩
    · simp [WF, mk]
    · simp [Heap.read, mk, ReadsList]
  | [a], hr =>
    obtain ⟨l, _, rfl, h1, h2⟩ := readsList_cons_right.1 hr
    rw [readsList_nil_right.1 h2]
    exact ⟨List.prefix_refl _, h1⟩
  | a :: b :: ms, hr =>
    obtain ⟨l, _, rfl, _, h2⟩ := readsList_cons_right.1 hr
    obtain ⟨l', ls, rfl, _, _⟩ := readsList_cons_right.1 h2
    have o := (listSlice_owned g (closed_zero h) (List.cons_ne_nil a (b :: ms))
      (fun c _ => refsAbove_zero c)).1
    refine ⟨o.pre, ?_⟩
    simp only [joinTail, Loc.ofParts]
    exact reads_joined.2 ⟨_, rfl, o.wf, by rw [o.rd]; exact ReadsList.mono o.pre _ _ hr⟩

/-- `tmp.Slice()` in the `Complemented`/`Complemented` rule: the lower `Push` leaves at least the one
node it started from, so the slice is a new array showing the whole list -/
theorem tmpSlice_owned (g : Grow) {low : PushFn} (hlowf : PushFresh 0 low) {h : LHeap} {um vm : MLoc}
    {force : Bool} {t : List MLoc × LHeap} (t1 : low h [um] vm force = some t) :
    Owned t.2 (listSlice g t.2 t.1.reverse).2 (listSlice g t.2 t.1.reverse).1 t.1.reverse := by
  have f1 := hlowf h [um] vm force t t1 (Nat.zero_le _) (closed_zero h)
    (fun c _ => refsAbove_zero c) (refsAbove_zero vm)
  refine (listSlice_owned g (closed_zero t.2) (fun e => ?_) (fun c _ => refsAbove_zero c)).1
  rw [List.reverse_eq_nil_iff.1 e] at f1
  exact absurd f1.2.2.2 (by simp)

theorem pushOneMem_inert (low : PushFn) (g : Grow) (h : LHeap) {v x : MLoc} (rest : List MLoc)
    (force : Bool) (h0 : mkind v ≠ 0 ∨ mkind x ≠ 0) (h3 : mkind v ≠ 3 ∨ mkind x ≠ 3) :
    pushOneMem low g h (v :: rest) x force = some (x :: v :: rest, h) := by
  cases v <;> cases x <;> simp_all [pushOneMem, mkind]

/-- a fuelled computation converges: there is ONE result `r`, it satisfies `Q`, and at every fuel
the computation either answers `r` or — only below `k0` — has no answer -/
def Conv {β : Type} (X : Nat → Option β) (k0 : Nat) (Q : β → Prop) : Prop :=
  ∃ r, Q r ∧ ∀ k, X k = some r ∨ (X k = none ∧ k < k0)

namespace Conv
variable {β γ : Type} {X : Nat → Option β} {k0 : Nat} {Q : β → Prop}

theorem pure {r : β} (k0 : Nat) (h : Q r) : Conv (fun _ => some r) k0 Q := ⟨r, h, fun _ => .inl rfl⟩

theorem mono {k1 : Nat} {Q' : β → Prop} (c : Conv X k0 Q) (hk : k0 ≤ k1) (hq : ∀ r, Q r → Q' r) :
    Conv X k1 Q' := by
  obtain ⟨r, q, h⟩ := c
  exact ⟨r, hq r q, fun k => (h k).imp id fun ⟨a, b⟩ => ⟨a, Nat.lt_of_lt_of_le b hk⟩⟩

/-- the second step may use that the first has this answer at fuel `k1` (that is where the
freshness lemmas, which need an equation and no hypothesis on the heap, come in) -/
theorem bind {f : Nat → β → Option γ} {k1 k2 : Nat} {R : γ → Prop} (c : Conv X k1 Q)
    (d : ∀ a, Q a → X k1 = some a → Conv (fun k => f k a) k2 R) :
    Conv (fun k => (X k).bind (f k)) (max k1 k2) R := by
  obtain ⟨a, qa, ha⟩ := c
  obtain ⟨b, rb, hb⟩ := d a qa ((ha k1).resolve_right fun ⟨_, lt⟩ => Nat.lt_irrefl _ lt)
  refine ⟨b, rb, fun k => ?_⟩
  rcases ha k with e | ⟨e, lt⟩
  · rcases hb k with e' | ⟨e', lt⟩
    · exact .inl (by simp [e, e'])
    · exact .inr ⟨by simp [e, e'], by omega⟩
  · exact .inr ⟨by simp [e], by omega⟩

theorem bind_of_eq {f : β → Option γ} {R : γ → Prop} (c : Conv X k0 Q)
    (d : ∀ a, Q a → ∃ b, f a = some b ∧ R b) : Conv (fun k => (X k).bind f) k0 R := by
  obtain ⟨a, qa, ha⟩ := c
  obtain ⟨b, e, rb⟩ := d a qa
  exact ⟨b, rb, fun k => (ha k).imp (fun h => by simp [h, e]) fun ⟨h, lt⟩ => ⟨by simp [h], lt⟩⟩

theorem bind_same {f : Nat → β → Option γ} {R : γ → Prop} (c : Conv X k0 Q)
    (d : ∀ a, Q a → X k0 = some a → Conv (fun k => f k a) k0 R) :
    Conv (fun k => (X k).bind (f k)) k0 R :=
  (c.bind d).mono (Nat.le_of_eq (Nat.max_self _)) fun _ q => q

theorem map {f : β → γ} {R : γ → Prop} (c : Conv X k0 Q) (d : ∀ a, Q a → R (f a)) :
    Conv (fun k => (X k).map f) k0 R := by
  obtain ⟨a, qa, ha⟩ := c
  exact ⟨f a, d a qa, fun k => (ha k).imp (fun e => by simp [e]) fun ⟨e, lt⟩ => ⟨by simp [e], lt⟩⟩

theorem sound (c : Conv X k0 Q) {k : Nat} {r : β} (e : X k = some r) : Q r := by
  obtain ⟨a, qa, ha⟩ := c
  rcases ha k with e' | ⟨e', _⟩
  · cases e.symm.trans e'; exact qa
  · cases e.symm.trans e'

theorem unique (c : Conv X k0 Q) {k k' : Nat} {a b : β} (e : X k = some a) (e' : X k' = some b) : a = b := by
  obtain ⟨r, _, h⟩ := c
  rcases h k with h1 | ⟨h1, _⟩ <;> rcases h k' with h2 | ⟨h2, _⟩ <;> simp_all

theorem total (c : Conv X k0 Q) : ∃ r, Q r ∧ ∀ k, k0 ≤ k → X k = some r := by
  obtain ⟨a, qa, ha⟩ := c
  exact ⟨a, qa, fun k hk => (ha k).resolve_right fun ⟨_, lt⟩ => by omega⟩

theorem of_succ {Y : Nat → Option β} (h0 : X 0 = none) (hs : ∀ k, X (k + 1) = Y k) (c : Conv Y k0 Q) :
    Conv X (k0 + 1) Q := by
  obtain ⟨a, qa, ha⟩ := c
  refine ⟨a, qa, fun k => ?_⟩
  cases k with
  | zero => exact .inr ⟨h0, Nat.succ_pos _⟩
  | succ k => rw [hs]; exact (ha k).imp id fun ⟨e, lt⟩ => ⟨e, Nat.succ_lt_succ lt⟩

theorem reindex (c : Conv X k0 Q) (φ : Nat → Nat) (hφ : ∀ k, k ≤ φ k) : Conv (fun k => X (φ k)) k0 Q := by
  obtain ⟨a, qa, ha⟩ := c
  exact ⟨a, qa, fun k => (ha (φ k)).imp id fun ⟨e, lt⟩ => ⟨e, Nat.lt_of_le_of_lt (hφ k) lt⟩⟩

end Conv

/-- `P k` computes on memory what `lpush` computes on values, on every location that reads as `lx`:
the fuel that suffices depends on the VALUES only -/
def PushConv (P : Nat → PushFn) (lpush : List Loc → Loc → Bool → List Loc) (lx : Loc) : Prop :=
  ∀ lracc force, ∃ k0, ∀ h racc x, ReadsList h lracc racc → Reads h lx x →
    Conv (fun k => P k h racc x force) k0 fun r =>
      h <+: r.2 ∧ ReadsList r.2 (lpush lracc lx force) r.1

theorem pushLoop_conv {P : Nat → PushFn} {lpush : List Loc → Loc → Bool → List Loc} (force : Bool) :
    ∀ (ltodo : List Loc) (lracc : List Loc), (∀ lu ∈ ltodo, PushConv P lpush lu) →
      ∃ k0, ∀ (h0 : LHeap) (s : Slice), WF h0 s →
        ∀ (done todo racc : List MLoc) (h : LHeap), read h0 s = done ++ todo →
        ReadsList h0 ltodo todo → h0 <+: h → ReadsList h lracc racc →
        Conv (fun k => pushLoop (P k) s force todo.length done.length racc h) k0 fun r =>
          h <+: r.2 ∧ ReadsList r.2 (ltodo.foldl (fun acc y => lpush acc y force) lracc) r.1 := by
  intro ltodo
  induction ltodo with
  | nil =>
    intro lracc _
    refine ⟨0, fun h0 s hs done todo racc h _ hl _ hr => ?_⟩
    rw [readsList_nil_left.1 hl]
    exact Conv.pure 0 ⟨List.prefix_refl _, hr⟩
  | cons lu lrest ih =>
    intro lracc hP
    obtain ⟨k1, c1⟩ := hP lu (List.mem_cons_self ..) lracc force
    obtain ⟨k2, c2⟩ := ih (lpush lracc lu force) fun l hl => hP l (List.mem_cons_of_mem _ hl)
    refine ⟨max k1 k2, fun h0 s hs done todo racc h hrd hl hp hr => ?_⟩
    obtain ⟨u, rest, rfl, hlu, hlrest⟩ := readsList_cons_left.1 hl
    simp only [List.length_cons, pushLoop, load_of_read_eq hs hp hrd]
    refine (c1 h racc u hr (Reads.mono hp _ _ hlu)).bind fun r1 p1 _ => ?_
    have := c2 h0 s hs (done ++ [u]) rest r1.1 r1.2 (by simpa using hrd) hlrest (hp.trans p1.1) p1.2
    simp only [List.length_append, List.length_cons, List.length_nil, Nat.zero_add] at this
    exact this.mono (Nat.le_refl _) fun r p => ⟨p1.1.trans p.1, p.2⟩

theorem joinMem_conv (g : Grow) {P : Nat → PushFn} {lpush : List Loc → Loc → Bool → List Loc}
    (xs : List Loc) (hP : ∀ lx ∈ xs, PushConv P lpush lx) :
    ∃ k0, ∀ h s, WF h s → ReadsList h xs (read h s) →
      Conv (fun k => joinMem (P k) g h s) k0 fun r =>
        h <+: r.2 ∧ Reads r.2 (Loc.ofParts (xs.foldl (fun acc y => lpush acc y true) []).reverse) r.1 := by
  obtain ⟨k0, c⟩ := pushLoop_conv true xs [] hP
  refine ⟨k0, fun h s hs hx => ?_⟩
  have c1 := c h s hs [] (read h s) [] h (by simp) hx (List.prefix_refl _) (by simp [ReadsList])
  simp only [length_read hs, List.length_nil] at c1
  exact c1.bind_of_eq fun r1 p1 =>
    have p2 := joinTail_refines g p1.2.reverse
    ⟨_, rfl, p1.1.trans p2.1, p2.2⟩

/-- the rules of `Push` against the last node, on every location (a `Joined` is appended like
any other): the case is decided by the VALUES, so the bound is too -/
theorem pushOneMem_conv (g : Grow) {low : Nat → PushFn} {llow : List Loc → Loc → Bool → List Loc}
    (hlow : ∀ lx, PushConv low llow lx) (hfresh : ∀ k, PushFresh 0 (low k)) (lx : Loc) :
    PushConv (fun k => pushOneMem (low k) g) (Loc.pushOne llow) lx := by
  intro lracc force
  match lracc with
  | [] =>
    refine ⟨0, fun h racc x hr hx => ?_⟩
    rw [readsList_nil_left.1 hr]
    exact Conv.pure 0 ⟨List.prefix_refl _, readsList_singleton.2 hx⟩
  | lv :: lrest =>
    by_cases hcc : lkind lv = 3 ∧ lkind lx = 3
    · -- `Complemented` onto `Complemented`: the lower `Push`, `tmp.Slice()`, `Join`
      obtain ⟨vl, rfl⟩ : ∃ vl, lv = .compl vl := by cases lv <;> first | exact ⟨_, rfl⟩ | cases hcc.1
      obtain ⟨ul, rfl⟩ : ∃ ul, lx = .compl ul := by cases lx <;> first | exact ⟨_, rfl⟩ | cases hcc.2
      obtain ⟨k1, c1⟩ := hlow vl [ul] force
      obtain ⟨k2, c2⟩ := joinMem_conv g (P := low) (lpush := llow) (llow [ul] vl force).reverse
        (fun l _ => hlow l)
      refine ⟨max k1 k2, fun h racc x hr hx => ?_⟩
      obtain ⟨v, rest, rfl, h1, h2⟩ := readsList_cons_left.1 hr
      obtain ⟨vm, rfl, hvl⟩ := reads_compl.1 h1
      obtain ⟨um, rfl, hul⟩ := reads_compl.1 hx
      simp only [pushOneMem]
      refine (c1 h [um] vm (readsList_singleton.2 hul) hvl).bind fun t p1 t1 => ?_
      have o := tmpSlice_owned g (hfresh _) t1
      refine (c2 _ _ o.wf (by rw [o.rd]; exact ReadsList.mono o.pre _ _ p1.2.reverse)).bind_of_eq
        fun j p2 => ?_
      have hpre : h <+: j.2 := p1.1.trans (o.pre.trans p2.1)
      refine ⟨_, rfl, hpre, ?_⟩
      simp only [Loc.pushOne]
      exact readsList_cons.2 ⟨reads_compl.2 ⟨_, rfl, p2.2⟩, ReadsList.mono hpre _ _ h2⟩
    · refine ⟨0, fun h racc x hr hx => ?_⟩
      obtain ⟨v, rest, rfl, h1, h2⟩ := readsList_cons_left.1 hr
      by_cases h0 : lkind lv = 0 ∧ lkind lx = 0
      · -- two contiguous values: the scalar rules
        have c1 := lkind_zero.1 h0.1
        have c2 := lkind_zero.1 h0.2
        rw [reads_contig c1] at h1
        rw [reads_contig c2] at hx
        subst h1 hx
        rw [pushOne_leaf_eq llow lrest force c1 c2]
        exact Conv.pure 0 ⟨List.prefix_refl _,
          ReadsList.append (readsList_leaves _ (pushOne_leaf_contig force c1 c2)) h2⟩
      · have hv := h1.kind
        have hxk := hx.kind
        rw [pushOne_inert llow _ force (by omega) (by omega)]
        simp only [fun low => pushOneMem_inert low g h rest force (v := v) (x := x) (by omega) (by omega)]
        exact Conv.pure 0 ⟨List.prefix_refl _, readsList_cons.2 ⟨hx, hr⟩⟩

/-- `Push` of a location that is not a `Joined`, one level up.  `pushWMem low g (k + 1)` recurses
with `low` as it is and fuel `k`, so the family `k ↦ pushWMem (low k) g k` is not closed under the
recursion; the statement is about `k ↦ pushWMem (low (k + c)) g k` for every offset `c`. -/
theorem pushOne_conv (g : Grow) {low : Nat → PushFn} {llow : List Loc → Loc → Bool → List Loc}
    (hlow : ∀ lx, PushConv low llow lx) (hfresh : ∀ k, PushFresh 0 (low k)) (lx : Loc)
    (hk : lkind lx ≠ 1) (c : Nat) :
    PushConv (fun k => pushWMem (low (k + c)) g k) (Loc.pushW llow) lx := by
  intro lracc force
  rw [pushW_of_lkind hk]
  obtain ⟨k0, cv⟩ := pushOneMem_conv g hlow hfresh lx lracc force
  refine ⟨k0 + 1, fun h racc x hr hx => Conv.of_succ rfl (fun k => ?_)
    ((cv h racc x hr hx).reindex (· + 1 + c) (by omega))⟩
  cases x with
  | joined s => exact absurd hx.kind hk
  | _ => rfl

theorem pushW_conv (g : Grow) {low : Nat → PushFn} {llow : List Loc → Loc → Bool → List Loc}
    (hlow : ∀ lx, PushConv low llow lx) (hfresh : ∀ k, PushFresh 0 (low k)) :
    ∀ lx c, PushConv (fun k => pushWMem (low (k + c)) g k) (Loc.pushW llow) lx := by
  refine loc_induction ?_ ?_ ?_ ?_
  · exact fun l hl => pushOne_conv g hlow hfresh l (by simp [lkind_zero.2 hl])
  · intro ls ih c lracc force
    obtain ⟨k0, cv⟩ := pushLoop_conv (P := fun k => pushWMem (low (k + (c + 1))) g k) force ls lracc
      fun l hl => ih l hl (c + 1)
    refine ⟨k0 + 1, fun h racc x hr hx => ?_⟩
    obtain ⟨s, rfl, hw, hls⟩ := reads_joined.1 hx
    have c1 := cv h s hw [] (read h s) racc h (by simp) hls (List.prefix_refl _) hr
    simp only [length_read hw, List.length_nil] at c1
    refine Conv.of_succ rfl (fun k => ?_) (c1.mono (Nat.le_refl _) fun r p => ?_)
    · show pushWMem (low (k + 1 + c)) g (k + 1) h racc (.joined s) force = _
      rw [show k + 1 + c = k + (c + 1) by omega]; rfl
    · simpa [Loc.pushW, pushListW_eq_foldl] using p
  all_goals exact fun _ _ => pushOne_conv g hlow hfresh _ (by simp [lkind])

theorem pushD_conv (g : Grow) : ∀ d lx, PushConv (fun k => pushDMem g k d) (Loc.pushD d) lx
  | 0 => fun lx lracc force => ⟨0, fun h racc x hr hx => Conv.pure 0
      ⟨List.prefix_refl _, by simpa [Loc.pushD] using readsList_cons.2 ⟨hx, hr⟩⟩⟩
  | d + 1 => fun lx => pushW_conv g (pushD_conv g d) (fun k => pushDMem_fresh g k d) lx 0

theorem joinLocs_conv (g : Grow) (xs : List Loc) :
    ∃ k0, ∀ h s, WF h s → ReadsList h xs (read h s) →
      Conv (fun k => joinLocs g k h s) k0 fun r => h <+: r.2 ∧ Reads r.2 (Loc.join xs) r.1 :=
  joinMem_conv g xs fun lx _ => pushD_conv g Loc.pushFuel lx

/-- `flattenLocations` converges on the parts of a readable `Ordered` that reads as `l` -/
def FlatConv (g : Grow) (l : Loc) : Prop :=
  ∃ k0, ∀ ls, l = .ordered ls → ∀ hb h s, hb <+: h → WF hb s → ReadsList hb ls (read hb s) →
    Conv (fun k => flattenMem g k h s) k0 fun r =>
      ∃ ys, Owned h r.2 r.1 ys ∧ ReadsList hb (Loc.flattenOrdList ls) ys

theorem flattenLoop_conv (g : Grow) :
    ∀ ltodo : List Loc, (∀ lu ∈ ltodo, FlatConv g lu) →
      ∃ k0, ∀ (hb h0 : LHeap) (locs : Slice), hb <+: h0 → WF hb locs →
        ∀ (todo done : List MLoc) (list : Slice) (h : LHeap) (xs : List MLoc) (lxs : List Loc),
        read hb locs = done ++ todo → ReadsList hb ltodo todo → Owned h0 h list xs →
        ReadsList hb lxs xs →
        Conv (fun k => flattenLoop (flattenMem g k) g locs todo.length done.length list h) k0 fun r =>
          ∃ ys, Owned h0 r.2 r.1 ys ∧ ReadsList hb (lxs ++ Loc.flattenOrdList ltodo) ys := by
  intro ltodo
  induction ltodo with
  | nil =>
    intro _
    refine ⟨0, fun hb h0 locs _ _ todo done list h xs lxs _ hl ho hx => ?_⟩
    rw [readsList_nil_left.1 hl]
    exact Conv.pure 0 ⟨xs, ho, by simpa [Loc.flattenOrdList] using hx⟩
  | cons lu lrest ih =>
    intro hR
    obtain ⟨k1, c1⟩ := hR lu (List.mem_cons_self ..)
    obtain ⟨k2, c2⟩ := ih fun l hl => hR l (List.mem_cons_of_mem _ hl)
    refine ⟨max k1 k2, fun hb h0 locs hb0 hs todo done list h xs lxs hrd hl ho hx => ?_⟩
    obtain ⟨u, rest, rfl, hlu, hlrest⟩ := readsList_cons_left.1 hl
    have hp := hb0.trans ho.pre
    have c2 := c2 hb h0 locs hb0 hs rest (done ++ [u])
    simp only [List.length_append, List.length_cons, List.length_nil, Nat.zero_add,
      List.append_assoc, List.singleton_append] at c2
    cases u with
    | ordered s =>
      obtain ⟨ls', rfl, hw, hls⟩ := reads_mordered hlu
      simp only [List.length_cons, flattenLoop, load_of_read_eq hs hp hrd]
      refine (c1 ls' rfl hb h s hp hw hls).bind fun r1 ⟨ys1, o1, hy1⟩ _ => ?_
      have := c2 _ _ _ (lxs ++ Loc.flattenOrdList ls') hrd hlrest
        (append_owned g (ho.mono o1.pre) (read r1.2 r1.1)) (by rw [o1.rd]; exact ReadsList.append hx hy1)
      rwa [List.append_assoc] at this
    | leaf _ | joined _ | compl _ =>
      simp only [List.length_cons, flattenLoop, load_of_read_eq hs hp hrd]
      have := c2 _ _ _ (lxs ++ [lu]) hrd hlrest (append_owned g ho [_])
        (ReadsList.append hx (readsList_singleton.2 hlu))
      rw [List.append_assoc, ← flattenOrd_of_lkind (l := lu) (by simp [hlu.kind, mkind])] at this
      exact this.mono (Nat.le_max_right ..) fun _ q => q

theorem flattenMem_conv (g : Grow) : ∀ l, FlatConv g l := by
  refine loc_induction ?_ ?_ ?_ ?_
  · intro l hl
    exact ⟨0, fun ls e => by subst e; cases hl⟩
  · intro ls _
    exact ⟨0, fun ls' e => by cases e⟩
  · intro ls ih
    obtain ⟨k0, c⟩ := flattenLoop_conv g ls ih
    refine ⟨k0 + 1, fun ls' e hb h s hp hw hl => ?_⟩
    cases e
    have := c hb h s hp hw (read hb s) [] Slice.nil h [] [] (by simp) hl
      (nil_owned (List.prefix_refl _)) (by simp [ReadsList])
    simp only [length_read hw, List.length_nil, List.nil_append] at this
    exact Conv.of_succ rfl (fun k => rfl) this
  · intro l _
    exact ⟨0, fun ls e => by cases e⟩

theorem orderLocs_conv (g : Grow) (xs : List Loc) :
    ∃ k0, ∀ h s, WF h s → ReadsList h xs (read h s) →
      Conv (fun k => orderLocs g k h s) k0 fun r => h <+: r.2 ∧ Reads r.2 (Loc.order xs) r.1 := by
  obtain ⟨k0, c⟩ := flattenMem_conv g (.ordered xs)
  refine ⟨k0, fun h s hs hx => ?_⟩
  unfold orderLocs Loc.order
  refine (c xs rfl h h s (List.prefix_refl _) hs hx).bind_of_eq fun r1 ⟨ys, o, hy⟩ => ?_
  -- the `switch len(list)`: the flattened parts `ys` and their values have the same length
  have hlen := length_read o.wf
  rw [o.rd] at hlen
  have hy' := ReadsList.mono o.pre _ _ hy
  generalize Loc.flattenOrdList xs = L at hy hy'
  rw [← hlen]
  cases ys with
  | nil =>
    rw [readsList_nil_right.1 hy']
    exact ⟨_, rfl, prefix_snoc o.pre _, reads_ordered.2 ⟨_, rfl, by simp [WF, mk, get_append_length],
      by simp [Heap.read, mk, ReadsList]⟩⟩
  | cons b ys =>
    obtain ⟨lb, L, rfl, hb, hL⟩ := readsList_cons_right.1 hy'
    cases ys with
    | nil =>
      rw [readsList_nil_right.1 hL]
      have : load r1.2 r1.1 0 = some b := by rw [load_eq_read (by rw [← hlen]; simp), o.rd]; rfl
      exact ⟨(b, r1.2), by simp [this], o.pre, hb⟩
    | cons c ys =>
      obtain ⟨lc, L, rfl, _, _⟩ := readsList_cons_right.1 hL
      exact ⟨_, rfl, o.pre, reads_ordered.2 ⟨_, rfl, o.wf, by rw [o.rd]; exact hy'⟩⟩

/-- `M k` computes on memory what `F` computes on values, on every receiver that reads as `l`, from
fuel `K` on -/
def MapConvAt (M : Nat → LocMeth) (F : Loc → Loc) (K : Nat) (l : Loc) : Prop :=
  ∀ h m, Reads h l m → Conv (fun k => M k h m) K fun r => Reads r.2 (F l) r.1

def MapConv (M : Nat → LocMeth) (F : Loc → Loc) (l : Loc) : Prop := ∃ K, MapConvAt M F K l

theorem MapConv.uniform {R : Nat → LocMeth} {F : Loc → Loc} :
    ∀ ls : List Loc, (∀ lu ∈ ls, MapConv R F lu) → ∃ K, ∀ lu ∈ ls, MapConvAt R F K lu
  | [], _ => ⟨0, fun _ hl => by cases hl⟩
  | l :: ls, hR => by
    obtain ⟨k1, c1⟩ := hR l (List.mem_cons_self ..)
    obtain ⟨k2, c2⟩ := MapConv.uniform ls fun lu hl => hR lu (List.mem_cons_of_mem _ hl)
    refine ⟨max k1 k2, fun lu hl h m hr => ?_⟩
    rcases List.mem_cons.1 hl with rfl | hl
    · exact (c1 h m hr).mono (Nat.le_max_left ..) fun _ q => q
    · exact (c2 lu hl h m hr).mono (Nat.le_max_right ..) fun _ q => q

/-- the state of an element loop that fills `dst`, the array allocated right after `h0`, with the
results for the values `L`: `dst` shows `ys`, and every cell in `S` holds a value that lies above
`dst` and reads as its entry of `L` -/
structure Filled (h0 h : LHeap) (dst : Slice) (ys : List MLoc) (L : List Loc) (S : Nat → Prop) : Prop where
  arr : dst.arr = h0.length
  own : Owned h0 h dst ys
  closed : Closed (h0.length + 1) h
  cell : ∀ j y l, S j → ys[j]? = some y → L[j]? = some l → RefsAbove (h0.length + 1) y ∧ Reads h l y

namespace Filled
variable {h0 h : LHeap} {dst : Slice} {ys : List MLoc} {L : List Loc} {S : Nat → Prop}

/-- a call that is fresh for `h` keeps the state, and its result lies above `dst` -/
theorem call (f : Filled h0 h dst ys L S) (hpos : 0 < dst.len)
    {r : MLoc × LHeap} (p : PostM h.length h r) :
    Filled h0 r.2 dst ys L S ∧ RefsAbove (h0.length + 1) r.1 := by
  -- the destination has a cell, so its array exists in `h`
  have hN : h0.length + 1 ≤ h.length := by
    have := arr_lt_of_wf f.own.wf (by have := f.own.wf.1; omega)
    have := f.arr
    omega
  have q := p.lower hN f.closed
  exact ⟨⟨f.arr, f.own.mono q.pre, q.closed, fun j y l hj hy hl =>
    (f.cell j y l hj hy hl).imp_right (Reads.mono q.pre _ _)⟩, q.refs⟩

/-- FRAME: what lies above `dst` reads the same after a store into `dst` -/
theorem keep (f : Filled h0 h dst ys L S) (i : Nat) (x : MLoc) {l : Loc} {y : MLoc}
    (hy : RefsAbove (h0.length + 1) y) (hr : Reads h l y) : Reads (store h dst i x) l y :=
  Reads.frame (fun a ha => get_write_ne _ _ _ (by have := f.arr; omega)) f.closed l y hy hr

theorem store (f : Filled h0 h dst ys L S) {i : Nat} (hi : i < dst.len)
    {x : MLoc} {l : Loc} (hx : RefsAbove (h0.length + 1) x) (hl : L[i]? = some l) (hr : Reads h l x)
    {S' : Nat → Prop} (hS : ∀ j, S' j → j = i ∨ S j) :
    Filled h0 (store h dst i x) dst (overwrite ys i [x]) L S' := by
  refine ⟨f.arr, store_owned f.own i x hi, closed_store f.closed dst i hx, fun j y l' hj hy hl' => ?_⟩
  rw [getElem?_overwrite_one _ _ (by rw [← f.own.rd, length_read f.own.wf]; exact hi)] at hy
  split at hy
  · rename_i e
    cases hy
    cases hl.symm.trans (e ▸ hl')
    exact ⟨hx, f.keep i x hx hr⟩
  · rename_i e
    have c := f.cell j y l' ((hS j hj).resolve_left e) hy hl'
    exact ⟨c.1, f.keep i x c.1 c.2⟩

theorem readsList (f : Filled h0 h dst ys L S) (hlen : L.length = dst.len) (hS : ∀ j, j < dst.len → S j) :
    ReadsList h L ys :=
  readsList_iff_getElem.2 ⟨by rw [hlen, ← f.own.rd, length_read f.own.wf], fun j l y hl hy =>
    (f.cell j y l (hS j (hlen ▸ (List.getElem?_eq_some_iff.1 hl).1)) hy hl).2⟩

end Filled

theorem mapLoop2_conv {R : Nat → LocMeth} {F : Loc → Loc} {K : Nat} (hfresh : ∀ k, MapFresh (R k))
    {ls : List Loc} (hK : ∀ lu ∈ ls, MapConvAt R F K lu) {h0 : LHeap} {src dst : Slice}
    (hs : WF h0 src) (hdl : dst.len = src.len) (hl : ReadsList h0 ls (read h0 src)) (cnt : Nat) :
    ∀ (j : Nat) (h : LHeap) (ys : List MLoc), cnt + j = src.len →
      Filled h0 h dst ys (ls.map F) (· < j) →
      Conv (fun k => mapLoop2 (R k) src dst cnt j h) K fun r =>
        ∃ ys', Owned h0 r dst ys' ∧ ReadsList r (ls.map F) ys' := by
  have hln : ls.length = src.len := by rw [hl.length_eq, length_read hs]
  induction cnt with
  | zero =>
    intro j h ys hj f
    exact Conv.pure K ⟨ys, f.own, f.readsList (by simp [hln, hdl]) fun i hi => by omega⟩
  | succ cnt ih =>
    intro j h ys hj f
    obtain ⟨lu, u, hlu, hu, hru⟩ := hl.getElem (i := j) (by rw [length_read hs]; omega)
    simp only [mapLoop2, load_of_getElem hs f.own.pre hu]
    refine (hK lu (List.mem_of_getElem? hlu) h u (Reads.mono f.own.pre _ _ hru)).bind_same
      fun r1 pr h1 => ?_
    obtain ⟨f1, rf1⟩ := f.call (by omega) (hfresh _ h u r1 h1)
    exact ih (j + 1) _ _ (by omega)
      (f1.store (by omega) rf1 (by simp [hlu]) pr fun i hi => (Nat.lt_succ_iff_lt_or_eq.1 hi).symm)

theorem mapLocs_conv {R : Nat → LocMeth} {F : Loc → Loc} (hfresh : ∀ k, MapFresh (R k))
    (ls : List Loc) (K : Nat) (hK : ∀ lu ∈ ls, MapConvAt R F K lu) (h : LHeap) (src : Slice)
    (hs : WF h src) (hl : ReadsList h ls (read h src)) :
    Conv (fun k => mapLocs (R k) h src) K fun r =>
      h <+: r.2 ∧ WF r.2 r.1 ∧ ReadsList r.2 (ls.map F) (read r.2 r.1) := by
  have c1 := mapLoop2_conv hfresh hK hs (dst := (mk h src.len src.len).1) rfl hl src.len 0 _ _ rfl
    ⟨rfl, mk_owned (List.prefix_refl h) (Nat.le_refl src.len), closed_mk_self h _ _,
      fun j _ _ hj => absurd hj (Nat.not_lt_zero j)⟩
  unfold mapLocs
  exact c1.map fun h' ⟨ys, o, hy⟩ => ⟨o.pre, o.wf, by rw [o.rd]; exact hy⟩

theorem Shape.conv {g : Grow} {leafM : LeafMeth} {elems : ElemLoop} {M : Nat → LocMeth}
    (sh : Shape g leafM elems M) {F : Loc → Loc} {G : List Loc → List Loc}
    (hFj : ∀ ls, F (.joined ls) = Loc.join (G (ls.map F)))
    (hFo : ∀ ls, F (.ordered ls) = Loc.order (G (ls.map F))) (hFc : ∀ l, F (.compl l) = .compl (F l))
    (hel : ∀ ls K, (∀ lu ∈ ls, MapConvAt M F K lu) → ∀ h s, WF h s → ReadsList h ls (read h s) →
      Conv (fun k => elems (M k) h s) K fun r =>
        WF r.2 r.1 ∧ ReadsList r.2 (G (ls.map F)) (read r.2 r.1))
    (hleaf : ∀ l, isContig l = true → ∃ k0, ∀ h,
      Conv (fun k => leafM k h l) k0 fun r => Reads r.2 (F l) r.1) :
    ∀ l, MapConv M F l := by
  refine loc_induction ?_ ?_ ?_ ?_
  · intro l hl
    obtain ⟨k0, c⟩ := hleaf l hl
    refine ⟨k0 + 1, fun h m hr => ?_⟩
    rw [reads_contig hl] at hr
    subst hr
    exact Conv.of_succ (sh.zero h _) (fun k => sh.leaf k h l) (c h)
  · intro ls ih
    obtain ⟨k1, hK⟩ := MapConv.uniform ls ih
    have c1 := hel ls k1 hK
    obtain ⟨k2, c2⟩ := joinLocs_conv g (G (ls.map F))
    refine ⟨max k1 k2 + 1, fun h m hr => ?_⟩
    obtain ⟨s, rfl, hw, hl⟩ := reads_joined.1 hr
    refine Conv.of_succ (sh.zero h _) (fun k => sh.joined k h s) ((c1 h s hw hl).bind fun r1 p1 _ => ?_)
    exact ((c2 r1.2 r1.1 p1.1 p1.2).reindex (· + 1) (by omega)).mono (Nat.le_refl _)
      fun r p => hFj ls ▸ p.2
  · intro ls ih
    obtain ⟨k1, hK⟩ := MapConv.uniform ls ih
    have c1 := hel ls k1 hK
    obtain ⟨k2, c2⟩ := orderLocs_conv g (G (ls.map F))
    refine ⟨max k1 k2 + 1, fun h m hr => ?_⟩
    obtain ⟨s, rfl, hw, hl⟩ := reads_ordered.1 hr
    refine Conv.of_succ (sh.zero h _) (fun k => sh.ordered k h s) ((c1 h s hw hl).bind fun r1 p1 _ => ?_)
    exact ((c2 r1.2 r1.1 p1.1 p1.2).reindex (· + 1) (by omega)).mono (Nat.le_refl _)
      fun r p => hFo ls ▸ p.2
  · intro l ⟨k0, c⟩
    refine ⟨k0 + 1, fun h m hr => ?_⟩
    obtain ⟨m', rfl, hl⟩ := reads_compl.1 hr
    refine Conv.of_succ (sh.zero h _) (fun k => sh.compl k h m') ((c h m' hl).map fun r p => ?_)
    rw [hFc]
    exact reads_compl.2 ⟨_, rfl, p⟩

theorem methMem_conv (g : Grow) {leafM : LeafMeth} {F : Loc → Loc}
    (hFj : ∀ ls, F (.joined ls) = Loc.join (ls.map F)) (hFo : ∀ ls, F (.ordered ls) = Loc.order (ls.map F))
    (hFc : ∀ l, F (.compl l) = .compl (F l))
    (hfresh : ∀ k h l r, leafM k h l = some r → PostM h.length h r)
    (hleaf : ∀ l, isContig l = true → ∃ k0, ∀ h,
      Conv (fun k => leafM k h l) k0 fun r => Reads r.2 (F l) r.1) :
    ∀ l, MapConv (methMem leafM g) F l :=
  (methMem_shape g leafM).conv (G := id) hFj hFo hFc (fun ls K hK h s hw hl =>
    (mapLocs_conv (methMem_fresh g hfresh) ls K hK h s hw hl).mono (Nat.le_refl _) fun _ p => p.2) hleaf

theorem expandMem_conv (g : Grow) (i n : Int) :
    ∀ l, MapConv (expandMem g i n) (fun l => l.expand i n) l :=
  methMem_conv g (fun ls => by simp [Loc.expand, Loc.expandList_eq_map])
    (fun ls => by simp [Loc.expand, Loc.expandList_eq_map]) (fun l => by simp [Loc.expand])
    (fun _ h l r he => by cases he; exact post_value h _)
    (fun l hc => ⟨0, fun h => Conv.pure 0 ((reads_contig (expand_contig hc i n)).2 rfl)⟩)

theorem conv_value {l : Loc} (hc : isContig l = true) :
    ∃ k0 : Nat, ∀ h : LHeap, Conv (fun _ : Nat => some (MLoc.leaf l, h)) k0 fun r => Reads r.2 l r.1 :=
  ⟨0, fun _ => Conv.pure 0 ((reads_contig hc).2 rfl)⟩

/-- the method of a contiguous kind whose result `L` is, under the condition `c`, split in two:
`return Join(a, b)` / `return Order(a, b)` over the two new values (`tail`, which converges to `t`, on
the slice of the variadic call), and a plain value otherwise -/
theorem leafSplit_conv {tail : Nat → LHeap → Slice → Option (MLoc × LHeap)} {t : List Loc → Loc}
    (ht : ∀ xs, ∃ k0, ∀ h s, WF h s → ReadsList h xs (read h s) →
      Conv (fun k => tail k h s) k0 fun r => h <+: r.2 ∧ Reads r.2 (t xs) r.1)
    {c : Prop} [Decidable c] {a b L : Loc} (ha : isContig a = true) (hb : isContig b = true)
    (hpos : c → L = t [a, b]) (hneg : ¬ c → isContig L = true) :
    ∃ k0, ∀ h, Conv (fun k => if c then tail k (litSlice h [.leaf a, .leaf b]).2
      (litSlice h [.leaf a, .leaf b]).1 else some (.leaf L, h)) k0 fun r => Reads r.2 L r.1 := by
  by_cases hc : c
  · obtain ⟨k0, cv⟩ := ht [a, b]
    refine ⟨k0, fun h => ?_⟩
    have o := litSlice_owned (List.prefix_refl h) [.leaf a, .leaf b]
    simp only [if_pos hc]
    rw [hpos hc]
    exact (cv _ _ o.wf (by rw [o.rd]; exact readsList_leaves [a, b] (by simp [ha, hb]))).mono
      (Nat.le_refl _) fun _ p => p.2
  · simp only [if_neg hc]
    exact conv_value (hneg hc)

theorem shiftLeaf_conv (g : Grow) (i n : Int) (l : Loc) (hl : isContig l = true) :
    ∃ k0, ∀ h, Conv (fun k => shiftLeaf g i n k h l) k0 fun r => Reads r.2 (l.shift i n) r.1 := by
  cases l <;> simp only [isContig, Bool.false_eq_true] at hl
  · exact conv_value (by simp [Loc.shift, Loc.betweenExpand, isContig])
  · exact conv_value (by simp only [Loc.shift, Loc.pointExpand]; exact isContig_ite rfl rfl)
  · rename_i s e p5 p3
    refine leafSplit_conv (joinLocs_conv g) (c := 0 < n ∧ s < i ∧ i < e) rfl rfl (fun hc => ?_) fun hc => ?_
    · simp [Loc.shift, Loc.rangedShift, show n ≠ 0 by omega, show ¬ n < 0 by omega, hc.2.1, hc.2.2]
    · simp only [Loc.shift, Loc.rangedShift]
      exact isContig_ite' (fun _ => rfl) fun h1 => isContig_ite' (fun _ => rangedExpand_contig ..)
        fun h2 => isContig_ite' (fun h3 => absurd ⟨by omega, h3.1, h3.2⟩ hc) (fun _ => rfl)
  · rename_i s e
    refine leafSplit_conv (orderLocs_conv g) (c := 0 < n ∧ s < i ∧ i < e) rfl rfl (fun hc => ?_) fun hc => ?_
    · simp [Loc.shift, Loc.ambiguousShift, show n ≠ 0 by omega, show ¬ n < 0 by omega, hc.2.1, hc.2.2]
    · simp only [Loc.shift, Loc.ambiguousShift]
      exact isContig_ite' (fun _ => rfl) fun h1 => isContig_ite' (fun _ => ambiguousExpand_contig ..)
        fun h2 => isContig_ite' (fun h3 => absurd ⟨by omega, h3.1, h3.2⟩ hc) (fun _ => rfl)

theorem shiftMem_conv (g : Grow) (i n : Int) : ∀ l, MapConv (shiftMem g i n) (fun l => l.shift i n) l :=
  methMem_conv g (fun ls => by simp [Loc.shift, Loc.shiftList_eq_map])
    (fun ls => by simp [Loc.shift, Loc.shiftList_eq_map]) (fun l => by simp [Loc.shift])
    (shiftLeaf_fresh g i n) (shiftLeaf_conv g i n)

theorem normalizeLeaf_conv (g : Grow) (len : Int) (l : Loc) (hl : isContig l = true) :
    ∃ k0, ∀ h, Conv (fun k => normalizeLeaf g len k h l) k0 fun r => Reads r.2 (l.normalize len) r.1 := by
  cases l <;> simp only [isContig, Bool.false_eq_true] at hl
  · exact conv_value (by simp [Loc.normalize, isContig])
  · exact conv_value (by simp [Loc.normalize, isContig])
  · rename_i s e p5 p3
    refine leafSplit_conv (joinLocs_conv g) (c := e - s ≠ len ∧ ¬ (Int.tmod s len < Int.tmod (e - 1) len + 1))
      rfl rfl (fun hc => ?_) fun hc => ?_
    · simp [Loc.normalize, Loc.rangedNormalize, hc.1, hc.2]
    · simp only [Loc.normalize, Loc.rangedNormalize]
      exact isContig_ite' (fun _ => rangedExpand_contig ..) fun h1 =>
        isContig_ite' (fun _ => rfl) fun h2 => absurd ⟨h1, h2⟩ hc
  · exact conv_value (by simp [Loc.normalize, isContig])

theorem normalizeMem_conv (g : Grow) (len : Int) :
    ∀ l, MapConv (normalizeMem g len) (fun l => l.normalize len) l :=
  methMem_conv g (fun ls => by simp [Loc.normalize, Loc.normalizeList_eq_map])
    (fun ls => by simp [Loc.normalize, Loc.normalizeList_eq_map]) (fun l => by simp [Loc.normalize])
    (normalizeLeaf_fresh g len) (normalizeLeaf_conv g len)

/-- `Complement()` allocates nothing and reads as `Loc.complement` — sharing the receiver's slices -/
theorem complementMem_refines {h : LHeap} {l : Loc} {m : MLoc} (hr : Reads h l m) :
    Reads h l.complement (complementMem m) := by
  cases m with
  | compl m' =>
    obtain ⟨l', rfl, hl⟩ := reads_mcompl hr
    exact hl
  | leaf _ | joined _ | ordered _ =>
    rw [complement_of_lkind (by rw [hr.kind]; simp [mkind])]
    exact reads_compl.2 ⟨_, rfl, hr⟩

end Gts.Mem
