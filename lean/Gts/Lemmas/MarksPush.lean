/-
  `LocationList.Push` / `Join` / `Order` keep the outer partial markers (`marks`) of what they
  are given, unless a marker-moving rule fires (`…MarkAbs`, `Gts/Spec/MarkGuard.lean`).
-/
import Gts.Lemmas.Marks
import Gts.Lemmas.Push
namespace Gts
namespace Loc

def marksR (racc : List Loc) : Mk := marksList racc.reverse

@[simp] theorem marksR_nil : marksR [] = none := by simp [marksR]
@[simp] theorem marksR_cons (x : Loc) (racc : List Loc) :
    marksR (x :: racc) = mcomb (marksR racc) (marks x) := by
  simp [marksR, marksList_append]

/-- what a push function must satisfy (induction hypothesis for the lower nesting level) -/
structure PushMk (low : List Loc → Loc → Bool → List Loc) (lowAbs : List Loc → Loc → Bool → Bool) :
    Prop where
  keeps : ∀ racc x f, rwfList racc = true → rwf x = true → lowAbs racc x f = false →
      marksR (low racc x f) = mcomb (marksR racc) (marks x)
  rwf : ∀ racc x f, rwfList racc = true → rwf x = true → rwfList (low racc x f) = true

theorem PushMk.keepsLeaves {low lowAbs} (h : PushMk low lowAbs) : KeepsLeaves Loc.rwf low :=
  fun racc x f hr hx => by
    rw [← rwfList_eq_allLeaves] at hr ⊢
    exact h.rwf racc x f hr (rwf_eq_allLeaves x ▸ hx)

theorem pushW_rwf {low lowAbs} (h : PushMk low lowAbs) (x : Loc) (racc : List Loc) (f : Bool)
    (hr : rwfList racc = true) (hx : rwf x = true) : rwfList (pushW low racc x f) = true := by
  rw [rwfList_eq_allLeaves] at hr ⊢
  exact pushW_leaves mergeOK_rwf h.keepsLeaves x racc f hr (rwf_eq_allLeaves x ▸ hx)

theorem pushListW_rwf {low lowAbs} (h : PushMk low lowAbs) (ps : List Loc) (racc : List Loc) (f : Bool)
    (hr : rwfList racc = true) (hps : rwfList ps = true) : rwfList (pushListW low racc ps f) = true := by
  rw [rwfList_eq_allLeaves] at hr hps ⊢
  exact pushListW_leaves mergeOK_rwf h.keepsLeaves ps racc f hr hps

theorem fold_marks {low lowAbs} (h : PushMk low lowAbs) (f : Bool) :
    ∀ (ys racc : List Loc), rwfList racc = true → rwfList ys = true →
      foldAbs low lowAbs f racc ys = false →
      marksR (ys.foldl (fun acc y => low acc y f) racc) = mcomb (marksR racc) (marksList ys)
  | [], racc, _, _, _ => by simp
  | y :: ys, racc, hr, hys, ha => by
      obtain ⟨hy, hys⟩ := Bool.and_eq_true_iff.mp hys
      obtain ⟨a1, a2⟩ := Bool.or_eq_false_iff.mp ha
      rw [marksList_cons, ← mcomb_assoc, ← h.keeps racc y f hr hy a1]
      exact fold_marks h f ys _ (h.rwf racc y f hr hy) hys a2

theorem inner_marks (j : List Loc) : marks (ofParts j) = marksList j := by
  match j with
  | [] => simp [ofParts]
  | [a] => simp [ofParts]
  | _ :: _ :: _ => simp [ofParts]

theorem pushOne_marks {low lowAbs} (h : PushMk low lowAbs) (racc : List Loc) (x : Loc) (f : Bool)
    (hr : rwfList racc = true) (hx : rwf x = true) (ha : markAbsOne low lowAbs racc x f = false) :
    marksR (pushOne low racc x f) = mcomb (marksR racc) (marks x) := by
  cases racc with
  | nil => simp [pushOne]
  | cons v rest =>
    obtain ⟨hv, -⟩ := Bool.and_eq_true_iff.mp hr
    rcases pushOne_cons low v x rest f with e | ⟨e, hd⟩ | ⟨e, hd⟩ |
      ⟨vs, ve, ue, v5, v3, u5, u3, rfl, rfl, -, e⟩ | ⟨vl, ul, rfl, rfl, e⟩ <;> rw [e]
    · simp
    · -- `x` is dropped: it bears no residue, or repeats `v`, or (the guard) `v` ends unmarked
      rcases hd with ⟨p, rfl, rfl⟩ | ⟨p, rfl, rfl⟩ | ⟨vs, ve, v5, v3, rfl, rfl⟩ | ⟨p, rfl, rfl⟩ |
        ⟨vs, ve, v5, v3, rfl, rfl⟩
      · simp
      · simp
      · simp
      · simp only [marksR_cons, marks_point, mcomb_some_some]
      · have hse : vs < ve := of_decide_eq_true hv
        have h3 : v3 = false := by simpa [markAbsOne] using ha
        simp only [marksR_cons, marks_point, marks_ranged, hse, ↓reduceIte, mcomb_some_some, h3]
    · -- `x` replaces `v`: `v` bears no residue, or (the guard) `x` starts unmarked
      rcases hd with ⟨p, rfl, rfl⟩ | ⟨p, ue, u5, u3, rfl, rfl⟩ | ⟨p, ue, u5, u3, rfl, rfl⟩
      · simp
      · simp
      · have hse : p < ue := of_decide_eq_true hx
        have h5 : u5 = false := by simpa [markAbsOne] using ha
        simp only [marksR_cons, marks_point, marks_ranged, hse, ↓reduceIte, mcomb_some_some, h5]
    · have h1 : vs < ve := of_decide_eq_true hv
      have h2 : ve < ue := of_decide_eq_true hx
      simp only [marksR_cons, marks_ranged, h1, h2, Int.lt_trans h1 h2, ↓reduceIte, mcomb_some_some]
    · -- the inner `Push` and `Join` run on the reversed pair, one level down
      have hvl : rwf vl = true := hv
      have hul : rwfList [ul] = true := Bool.and_eq_true_iff.mpr ⟨hx, rfl⟩
      obtain ⟨a1, a2⟩ := Bool.or_eq_false_iff.mp ha
      -- `marksList ys.reverse` is `marksR ys`, so the `Join` (from `[]`) composes with the `Push`
      have h3 := (fold_marks h true (low [ul] vl f).reverse [] rfl
        (by rw [rwfList_reverse]; exact h.rwf [ul] vl f hul hvl) a2).trans (h.keeps [ul] vl f hul hvl a1)
      rw [marksR_cons, marksR_nil, mcomb_none_left] at h3
      rw [marksR_cons, marksR_cons, marks_compl, marks_compl, marks_compl, inner_marks, mcomb_assoc,
        ← mswap_mcomb]
      exact congrArg (fun m => mcomb (marksR rest) (mswap m)) h3

mutual
theorem pushW_marks {low lowAbs} (h : PushMk low lowAbs) :
    ∀ (x : Loc) (racc : List Loc) (f : Bool), rwfList racc = true → rwf x = true →
      markAbsW low lowAbs racc x f = false →
      marksR (pushW low racc x f) = mcomb (marksR racc) (marks x)
  | joined parts, racc, f, hr, hx, ha => pushListW_marks h parts racc f hr hx ha
  | between _, racc, f, hr, hx, ha | point _, racc, f, hr, hx, ha | ranged .., racc, f, hr, hx, ha
  | ambiguous .., racc, f, hr, hx, ha | ordered _, racc, f, hr, hx, ha | compl _, racc, f, hr, hx, ha =>
      pushOne_marks h racc _ f hr hx ha
theorem pushListW_marks {low lowAbs} (h : PushMk low lowAbs) :
    ∀ (ps : List Loc) (racc : List Loc) (f : Bool), rwfList racc = true → rwfList ps = true →
      markAbsListW low lowAbs racc ps f = false →
      marksR (pushListW low racc ps f) = mcomb (marksR racc) (marksList ps)
  | [], racc, f, _, _, _ => (mcomb_none_right _).symm
  | p :: ps, racc, f, hr, hps, ha => by
      obtain ⟨hp1, hp2⟩ := Bool.and_eq_true_iff.mp hps
      obtain ⟨a1, a2⟩ := Bool.or_eq_false_iff.mp ha
      rw [marksList_cons, ← mcomb_assoc, ← pushW_marks h p racc f hr hp1 a1]
      exact pushListW_marks h ps _ f (pushW_rwf h p racc f hr hp1) hp2 a2
end

theorem pushListW_mk {low lowAbs} (h : PushMk low lowAbs) :
    ∀ (ps : List Loc) (racc : List Loc) (f : Bool), rwfList racc = true → rwfList ps = true →
      (markAbsListW low lowAbs racc ps f = false →
        marksR (pushListW low racc ps f) = mcomb (marksR racc) (marksList ps)) ∧
      rwfList (pushListW low racc ps f) = true :=
  fun ps racc f hr hps => ⟨pushListW_marks h ps racc f hr hps, pushListW_rwf h ps racc f hr hps⟩

theorem pushD_mk : ∀ d, PushMk (pushD d) (markAbsD d)
  | 0 => ⟨fun racc x f _ _ _ => by simp [pushD], fun racc x f hr hx => by simp [pushD, hr, hx]⟩
  | d + 1 => ⟨fun racc x f => pushW_marks (pushD_mk d) x racc f, fun racc x f => pushW_rwf (pushD_mk d) x racc f⟩

theorem joinD_marks (d : Nat) (xs : List Loc) (hw : rwfList xs = true) (ha : joinMarkAbsD d xs = false) :
    marks (joinD d xs) = marksList xs := by
  simpa [joinD, inner_marks, marksR, pushAllD] using fold_marks (pushD_mk d) true xs [] rfl hw ha

theorem join_marks (xs : List Loc) (hw : rwfList xs = true) (ha : joinMarkAbs xs = false) :
    marks (join xs) = marksList xs := joinD_marks _ xs hw ha

mutual
theorem marksList_flattenOrd : ∀ (l : Loc), marksList (flattenOrd l) = marks l
  | ordered ls => by simpa [flattenOrd] using marksList_flattenOrdList ls
  | between _ | point _ | ranged .. | ambiguous .. | joined _ | compl _ => by simp [flattenOrd]
theorem marksList_flattenOrdList : ∀ (ls : List Loc), marksList (flattenOrdList ls) = marksList ls
  | [] => by simp [flattenOrdList]
  | l :: ls => by
      simp [flattenOrdList, marksList_append, marksList_flattenOrd l, marksList_flattenOrdList ls]
end

theorem order_marks (xs : List Loc) : marks (order xs) = marksList xs := by
  unfold order
  rw [← marksList_flattenOrdList xs]
  generalize flattenOrdList xs = j
  match j with
  | [] => simp
  | [a] => simp
  | _ :: _ :: _ => simp

theorem join_rwf (xs : List Loc) (hw : rwfList xs = true) : rwf (join xs) = true := by
  rw [rwf_eq_allLeaves]
  exact join_leaves mergeOK_rwf xs (rwfList_eq_allLeaves xs ▸ hw)

theorem rwfList_flattenOrd : ∀ (l : Loc), rwf l = true → rwfList (flattenOrd l) = true := by
  simp only [rwf_eq_allLeaves, rwfList_eq_allLeaves]
  exact allLeavesList_flattenOrd _

theorem order_rwf (xs : List Loc) (h : rwfList xs = true) : rwf (order xs) = true := by
  rw [rwf_eq_allLeaves]
  exact order_leaves _ xs (rwfList_eq_allLeaves xs ▸ h)

end Loc
end Gts
