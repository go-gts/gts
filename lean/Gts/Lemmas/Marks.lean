/-
  Outer partial markers (`Loc.outerMarks`, the restatement of the Go oracle in
  `Gts/Spec/Marks.lean`) computed compositionally: `marks l : Option (Bool × Bool)` is `none`
  when no leaf bears residues and `some (m5, m3)` otherwise; lists compose by the
  "first / last" monoid `mcomb`, a complement swaps the ends.  `LocationList.Push` / `Join` /
  `Order` keep `marks` unless one of the two marker-moving rules fires (`Gts/Spec/MarkGuard.lean`):
  that is `Gts/Lemmas/MarksPush.lean`, over `rwf` (every `Ranged` non-empty), which is defined here.
-/
import Gts.Lemmas.Order
import Gts.Spec.Marks
import Gts.Spec.MarkGuard
namespace Gts
namespace Loc

/-- `none`: no residue-bearing leaf; `some (m5, m3)`: the markers on the two outer ends -/
abbrev Mk := Option (Bool × Bool)

/-- reading `a` and then `b`: the 5' end of the first that bears residues, the 3' end of the last -/
def mcomb : Mk → Mk → Mk
  | none, b => b
  | some a, none => some a
  | some a, some b => some (a.1, b.2)

/-- reading on the other strand: the ends swap -/
def mswap : Mk → Mk
  | none => none
  | some a => some (a.2, a.1)

@[simp] theorem mcomb_none_left (b : Mk) : mcomb none b = b := rfl
@[simp] theorem mcomb_none_right (a : Mk) : mcomb a none = a := by cases a <;> rfl
theorem mcomb_assoc (a b c : Mk) : mcomb (mcomb a b) c = mcomb a (mcomb b c) := by
  cases a <;> cases b <;> cases c <;> rfl
theorem mcomb_some_some (m : Mk) (a b : Bool × Bool) :
    mcomb (mcomb m (some a)) (some b) = mcomb m (some (a.1, b.2)) := by
  rw [mcomb_assoc]; rfl
theorem mswap_mcomb (a b : Mk) : mswap (mcomb a b) = mcomb (mswap b) (mswap a) := by
  cases a <;> cases b <;> rfl
@[simp] theorem mswap_mswap (a : Mk) : mswap (mswap a) = a := by cases a <;> rfl
@[simp] theorem mswap_none : mswap none = none := rfl
@[simp] theorem mswap_some (a : Bool × Bool) : mswap (some a) = some (a.2, a.1) := rfl

mutual
def marks : Loc → Mk
  | between _ => none
  | point _ => some (false, false)
  | ranged s e p5 p3 => if s < e then some (p5, p3) else none
  | ambiguous _ _ => some (false, false)
  | joined ls => marksList ls
  | ordered ls => marksList ls
  | compl l => mswap (marks l)
def marksList : List Loc → Mk
  | [] => none
  | l :: ls => mcomb (marks l) (marksList ls)
end

@[simp] theorem marks_between (p : Int) : marks (between p) = none := by simp [marks]
@[simp] theorem marks_point (p : Int) : marks (point p) = some (false, false) := by simp [marks]
@[simp] theorem marks_ranged (s e : Int) (a b : Bool) :
    marks (ranged s e a b) = if s < e then some (a, b) else none := by simp [marks]
@[simp] theorem marks_ambiguous (s e : Int) : marks (ambiguous s e) = some (false, false) := by
  simp [marks]
@[simp] theorem marks_joined (ls : List Loc) : marks (joined ls) = marksList ls := by simp [marks]
@[simp] theorem marks_ordered (ls : List Loc) : marks (ordered ls) = marksList ls := by simp [marks]
@[simp] theorem marks_compl (l : Loc) : marks (compl l) = mswap (marks l) := by simp [marks]
@[simp] theorem marksList_nil : marksList [] = none := by simp [marksList]
@[simp] theorem marksList_cons (l : Loc) (ls : List Loc) :
    marksList (l :: ls) = mcomb (marks l) (marksList ls) := by simp [marksList]

theorem marks_ranged_wf (s e : Int) (a b : Bool) (h : s < e) : marks (ranged s e a b) = some (a, b) := by
  simp [h]

theorem marksList_append (a b : List Loc) : marksList (a ++ b) = mcomb (marksList a) (marksList b) := by
  induction a with
  | nil => simp
  | cons x xs ih => simp [ih, mcomb_assoc]

theorem marksList_reverse (a : List Loc) :
    mswap (marksList a.reverse) = marksList (a.map compl) := by
  induction a with
  | nil => simp
  | cons x xs ih =>
    simp only [List.reverse_cons, marksList_append, mswap_mcomb, ih, List.map_cons, marksList_cons,
      marksList_nil, mcomb_none_right, marks_compl]

mutual
/-- every `Ranged` has `Start < End` (weaker than `wf`: says nothing about `Ambiguous`, whose
`Len()` is 1 whatever its bounds) -/
def rwf : Loc → Bool
  | ranged s e _ _ => decide (s < e)
  | joined ls => rwfList ls
  | ordered ls => rwfList ls
  | compl l => rwf l
  | _ => true
def rwfList : List Loc → Bool
  | [] => true
  | l :: ls => rwf l && rwfList ls
end

@[simp] theorem rwfList_nil : rwfList [] = true := by simp [rwfList]
@[simp] theorem rwfList_cons (l : Loc) (ls : List Loc) : rwfList (l :: ls) = (rwf l && rwfList ls) := by
  simp [rwfList]

theorem rwfList_append (a b : List Loc) : rwfList (a ++ b) = (rwfList a && rwfList b) := by
  induction a with
  | nil => simp
  | cons x xs ih => simp [ih, Bool.and_assoc]

theorem rwfList_reverse (a : List Loc) : rwfList a.reverse = rwfList a := by
  induction a with
  | nil => simp
  | cons x xs ih => simp [rwfList_append, ih, Bool.and_comm]

mutual
theorem rwf_of_wf : ∀ (l : Loc), wf l = true → rwf l = true
  | between _, _ | point _, _ | ambiguous _ _, _ => rfl
  | ranged .., h => h
  | joined ls, h | ordered ls, h => rwfList_of_wfList ls h
  | compl l, h => rwf_of_wf l h
theorem rwfList_of_wfList : ∀ (ls : List Loc), wfList ls = true → rwfList ls = true
  | [], _ => rfl
  | l :: ls, h =>
      have ⟨h1, h2⟩ := Bool.and_eq_true_iff.mp h
      Bool.and_eq_true_iff.mpr ⟨rwf_of_wf l h1, rwfList_of_wfList ls h2⟩
end

mutual
theorem rwf_eq_allLeaves : ∀ l : Loc, rwf l = allLeaves rwf l
  | between _ | point _ | ranged .. | ambiguous .. => by simp only [allLeaves]
  | joined ls | ordered ls => rwfList_eq_allLeaves ls
  | compl l => rwf_eq_allLeaves l
theorem rwfList_eq_allLeaves : ∀ ls : List Loc, rwfList ls = allLeavesList rwf ls
  | [] => by simp
  | l :: ls => by simp [← rwf_eq_allLeaves l, ← rwfList_eq_allLeaves ls]
end

theorem mergeOK_rwf : MergeOK rwf := by
  intro vs ve ue v5 v3 u5 u3 hv hu
  simp only [rwf, decide_eq_true_eq] at hv hu ⊢
  omega

/-- the markers of a list of residue-bearing leaves in reading order -/
def lmk (F : List (Loc × Bool)) : Mk :=
  F.foldr (fun d acc => mcomb (some (mark5 d, mark3 d)) acc) none

@[simp] theorem lmk_nil : lmk [] = none := rfl
@[simp] theorem lmk_cons (d : Loc × Bool) (F : List (Loc × Bool)) :
    lmk (d :: F) = mcomb (some (mark5 d, mark3 d)) (lmk F) := rfl

theorem lmk_append (A B : List (Loc × Bool)) : lmk (A ++ B) = mcomb (lmk A) (lmk B) := by
  induction A with
  | nil => simp
  | cons a A ih => simp [ih, mcomb_assoc]

theorem lmk_eq_ends : ∀ (F : List (Loc × Bool)),
    lmk F = match F.head?, F.getLast? with
      | some a, some b => some (mark5 a, mark3 b)
      | _, _ => none
  | [] => rfl
  | [a] => rfl
  | a :: b :: t => by
      have ih := lmk_eq_ends (b :: t)
      rw [lmk_cons, ih]
      simp only [List.head?_cons, List.getLast?_cons_cons]
      cases h : (b :: t).getLast? with
      | none => simp at h
      | some x => rfl

theorem outerMarks_eq_lmk (l : Loc) :
    outerMarks l = (lmk ((denLeaves l).filter bears)).getD (false, false) := by
  unfold outerMarks outerLeaves
  rw [lmk_eq_ends]
  cases ((denLeaves l).filter bears).head? <;> cases ((denLeaves l).filter bears).getLast? <;> rfl

theorem mark5_flip (d : Loc × Bool) : mark5 (d.1, !d.2) = mark3 d := by
  obtain ⟨l, b⟩ := d
  cases l <;> cases b <;> rfl

theorem mark3_flip (d : Loc × Bool) : mark3 (d.1, !d.2) = mark5 d := by
  obtain ⟨l, b⟩ := d
  cases l <;> cases b <;> rfl

theorem flipLeaves_cons (d : Loc × Bool) (F : List (Loc × Bool)) :
    flipLeaves (d :: F) = flipLeaves F ++ [(d.1, !d.2)] := by
  simp [flipLeaves]

theorem lmk_flipLeaves (F : List (Loc × Bool)) : lmk (flipLeaves F) = mswap (lmk F) := by
  induction F with
  | nil => rfl
  | cons d F ih =>
    rw [flipLeaves_cons, lmk_append, ih, lmk_cons (d := d), mswap_mcomb]
    simp [mark5_flip, mark3_flip]

theorem filter_bears_flipLeaves (F : List (Loc × Bool)) :
    (flipLeaves F).filter bears = flipLeaves (F.filter bears) := by
  induction F with
  | nil => rfl
  | cons d F ih =>
    rw [flipLeaves_cons, List.filter_append, ih]
    have hb : bears (d.1, !d.2) = bears d := rfl
    by_cases h : bears d = true
    · rw [List.filter_cons_of_pos h, flipLeaves_cons]
      simp [List.filter, hb, h]
    · rw [List.filter_cons_of_neg h]
      simp [List.filter, hb, h]

mutual
theorem marks_eq_lmk : ∀ (l : Loc), marks l = lmk ((denLeaves l).filter bears)
  | between p => by simp [denLeaves, bears, len]
  | point p => by simp [denLeaves, bears, len, mark5, mark3, mcomb]
  | ranged s e a b => by
      by_cases h : s < e
      · simp [denLeaves, bears, len, mark5, mark3, mcomb, h]
      · simp [denLeaves, bears, len, h]
  | ambiguous s e => by simp [denLeaves, bears, len, mark5, mark3, mcomb]
  | joined ls | ordered ls => by simpa [denLeaves] using marksList_eq_lmk ls
  | compl l => by
      rw [marks_compl, marks_eq_lmk l]
      simp only [denLeaves]
      rw [filter_bears_flipLeaves, lmk_flipLeaves]
theorem marksList_eq_lmk : ∀ (ls : List Loc), marksList ls = lmk ((denLeavesList ls).filter bears)
  | [] => by simp [denLeavesList]
  | l :: ls => by
      simp only [marksList_cons, denLeavesList, List.filter_append, lmk_append]
      rw [marks_eq_lmk l, marksList_eq_lmk ls]
end

theorem outerMarks_eq (l : Loc) : outerMarks l = (marks l).getD (false, false) := by
  rw [outerMarks_eq_lmk, marks_eq_lmk]

theorem mcomb_isSome (a b : Mk) : (mcomb a b).isSome = (a.isSome || b.isSome) := by
  cases a <;> cases b <;> rfl

theorem mswap_isSome (a : Mk) : (mswap a).isSome = a.isSome := by cases a <;> rfl

theorem flipDen_isEmpty (d : List Pos) : (flipDen d).isEmpty = d.isEmpty := by
  cases d <;> simp [flipDen]

mutual
theorem marks_isSome : ∀ (l : Loc), wf l = true → (marks l).isSome = !(den l).isEmpty
  | between _, _ | point _, _ => by simp
  | ranged s e .., h | ambiguous s e, h => by
      have h' : s < e := of_decide_eq_true h
      obtain ⟨m, hm⟩ : ∃ m, (e - s).toNat = m + 1 := ⟨(e - s).toNat - 1, by omega⟩
      simp [h', hm, fwd]
  | joined ls, h | ordered ls, h => marksList_isSome ls h
  | compl l, h => by
      rw [marks_compl, mswap_isSome, den_compl, flipDen_isEmpty]
      exact marks_isSome l h
theorem marksList_isSome : ∀ (ls : List Loc), wfList ls = true →
    (marksList ls).isSome = !(denList ls).isEmpty
  | [], _ => by simp
  | l :: ls, h => by
      simp only [wfList_cons, Bool.and_eq_true] at h
      rw [marksList_cons, mcomb_isSome, marks_isSome l h.1, marksList_isSome ls h.2, denList_cons]
      cases den l <;> simp
end

/-- a well-formed location bears residues iff it denotes some -/
theorem marks_none_iff_den (l : Loc) (hw : wf l = true) : marks l = none ↔ den l = [] := by
  have := marks_isSome l hw
  cases hm : marks l <;> cases hd : den l <;> simp_all

end Loc
end Gts
