/-
  C01: what the registry learns while reading.  Names that are known stay known and teach nothing
  (`learnTable_idem`: a table teaches its names once); a stream of records written under `reg0` and
  read under a registry that writes the same text (`sameText reg0 reg`: `reg0` with some of its
  unknown names registered as quoted — what reading earlier records of a stream does) comes back
  record by record while the registry goes on growing (`read_stream_learning`).
-/
import Gts.Lemmas.GbReadWrite
namespace Gts.GenBank
open Gts.Pars

theorem learn_known (reg : Registry) (n : Bytes) (h : reg.typeOf n ≠ .unknown) : learn reg n = reg := by
  unfold learn; rw [if_neg h]

theorem known_learn (reg : Registry) (n m : Bytes) (h : reg.typeOf m ≠ .unknown) :
    (learn reg n).typeOf m ≠ .unknown := by
  unfold learn
  split
  · rw [typeOf_addQuoted]
    split
    · exact fun e => by cases e
    · exact h
  · exact h

theorem learn_self_known (reg : Registry) (n : Bytes) : (learn reg n).typeOf n ≠ .unknown := by
  unfold learn
  split
  · rw [typeOf_addQuoted, if_pos rfl]; exact fun e => by cases e
  · assumption

theorem known_learnAll (reg : Registry) (items : List (Bytes × Bytes)) (m : Bytes)
    (h : reg.typeOf m ≠ .unknown) : (learnAll reg items).typeOf m ≠ .unknown := by
  induction items generalizing reg with
  | nil => exact h
  | cons kv items ih => exact ih (learn reg kv.1) (known_learn reg kv.1 m h)

theorem learnAll_names_known (reg : Registry) (items : List (Bytes × Bytes)) :
    ∀ kv ∈ items, (learnAll reg items).typeOf kv.1 ≠ .unknown := by
  induction items generalizing reg with
  | nil => intro kv h; simp at h
  | cons x items ih =>
    intro kv hkv
    rcases List.mem_cons.mp hkv with rfl | hkv
    · exact known_learnAll (learn reg kv.1) items kv.1 (learn_self_known reg kv.1)
    · exact ih (learn reg x.1) kv hkv

theorem learnAll_known (reg : Registry) (items : List (Bytes × Bytes))
    (h : ∀ kv ∈ items, reg.typeOf kv.1 ≠ .unknown) : learnAll reg items = reg := by
  induction items with
  | nil => rfl
  | cons kv items ih =>
    simp only [learnAll, List.foldl_cons]
    rw [learn_known reg kv.1 (h kv (by simp))]
    exact ih (fun x hx => h x (by simp [hx]))

theorem known_learnTable (reg : Registry) (fs : List QFeature) (m : Bytes)
    (h : reg.typeOf m ≠ .unknown) : (learnTable reg fs).typeOf m ≠ .unknown := by
  induction fs generalizing reg with
  | nil => exact h
  | cons f fs ih => exact ih _ (known_learnAll reg _ m h)

theorem learnTable_names_known (reg : Registry) (fs : List QFeature) :
    ∀ f ∈ fs, ∀ kv ∈ propsItems f.props, (learnTable reg fs).typeOf kv.1 ≠ .unknown := by
  induction fs generalizing reg with
  | nil => intro f h; simp at h
  | cons x fs ih =>
    intro f hf kv hkv
    rcases List.mem_cons.mp hf with rfl | hf
    · exact known_learnTable _ fs kv.1 (learnAll_names_known reg _ kv hkv)
    · exact ih _ f hf kv hkv

theorem learnTable_known (reg : Registry) (fs : List QFeature)
    (h : ∀ f ∈ fs, ∀ kv ∈ propsItems f.props, reg.typeOf kv.1 ≠ .unknown) : learnTable reg fs = reg := by
  induction fs with
  | nil => rfl
  | cons f fs ih =>
    simp only [learnTable, List.foldl_cons]
    rw [learnAll_known reg _ (h f (by simp))]
    exact ih (fun x hx => h x (by simp [hx]))

/-- a table teaches its names once: reading it again changes nothing -/
theorem learnTable_idem (reg : Registry) (fs : List QFeature) :
    learnTable (learnTable reg fs) fs = learnTable reg fs :=
  learnTable_known _ fs (learnTable_names_known reg fs)

/-- … and neither does any registry that has grown from there -/
theorem learnTable_known_of_le (reg reg' : Registry) (fs : List QFeature)
    (h : ∀ m, (learnTable reg fs).typeOf m ≠ .unknown → reg'.typeOf m ≠ .unknown) :
    learnTable reg' fs = reg' :=
  learnTable_known _ fs (fun f hf kv hkv => h _ (learnTable_names_known reg fs f hf kv hkv))

theorem sameText_learnStream (a b : Registry) (rs : List Record) (h : sameText a b) :
    sameText a (learnStream b rs) := by
  induction rs generalizing b with
  | nil => exact h
  | cons r rs ih => exact ih _ (sameText_learnTable a b r.table h)

theorem learnStream_le (reg : Registry) (rs : List Record) : reg.le (learnStream reg rs) := by
  induction rs generalizing reg with
  | nil => exact le_refl' reg
  | cons r rs ih => exact le_trans' (learnTable_le reg r.table) (ih _)

/-- **Streams with learning.**  The records are written one after the other under the registry
`reg0` as it is at write time (writing registers nothing); the reader starts with any registry `reg`
that writes the same text and carries what it learns from one record to the next. -/
theorem read_stream_learning (reg0 reg : Registry) (hs : sameText reg0 reg) (rs : List (Record × Bytes))
    (hall : ∀ x ∈ rs, x.1.origin = .residues x.2 ∧ Writable reg0 x.1 x.2 = true ∧ (∀ f ∈ x.1.table, LocRT f.loc)) :
    ∃ t, writeAll reg0 (rs.map (·.1)) = .ok t ∧
      readAll reg t = some (rs.map (fun x => readBack reg0 x.1 x.2), learnStream reg (rs.map (·.1)), true) := by
  obtain ⟨t, hw, hl, hp⟩ := parseAll_records reg0 rs hall
  exact ⟨t, hw, by simpa [readAll] using hp reg hs [] (t.length + 1) (by omega)⟩

end Gts.GenBank
