/-
  `Location.Reverse` twice (C05): structurally the identity on a canonical location when no `Join`
  of the first reversal reduces (`reverseStable`), and on denotations whenever K2 fires in neither
  reversal.
-/
import Gts.Lemmas.Reverse
import Gts.Lemmas.LocRoundTrip
import Gts.Lemmas.Record
import Gts.Lemmas.Table
import Gts.Spec.ReverseGuard
namespace Gts
namespace Loc

theorem any_isOrderedC_map_congr (f : Loc → Loc) (ls : List Loc)
    (h : ∀ l ∈ ls, isOrderedC (f l) = isOrderedC l) :
    (ls.map f).any isOrderedC = ls.any isOrderedC := by
  induction ls with
  | nil => rfl
  | cons l ls ih =>
    simp only [List.map_cons, List.any_cons, h l (List.mem_cons_self ..),
      ih fun l' hl' => h l' (List.mem_cons_of_mem _ hl')]

theorem reverseList_reverse_reverseList (ls : List Loc) (L : Int) :
    (reverseList (reverseList ls L).reverse L).reverse = reverseList (reverseList ls L) L := by
  simp only [reverseList_eq_map, List.map_reverse, List.reverse_reverse]

theorem reverseList_length (ls : List Loc) (L : Int) : (reverseList ls L).length = ls.length := by
  simp [reverseList_eq_map]

mutual
/-- structural involution, with the invariant the `Ordered` case needs (a part that is no
`Ordered` does not reverse into one) -/
theorem reverse_reverse_aux : ∀ (l : Loc) (L : Int), canonP l = true → reverseStable l L = true →
    reverse (reverse l L) L = l ∧ isOrderedC (reverse l L) = isOrderedC l
  | between p, L, _, _ => ⟨congrArg between (by omega), rfl⟩
  | point p, L, _, _ => ⟨congrArg point (by omega), rfl⟩
  | ranged s e a b, L, _, _ => ⟨by simp only [reverse, rangedReverse]; congr 1 <;> omega, rfl⟩
  | ambiguous s e, L, _, _ => ⟨by simp only [reverse]; congr 1 <;> omega, rfl⟩
  | joined ls, L, hc, hs => by
      obtain ⟨hc3, hj⟩ := Bool.and_eq_true_iff.mp hc
      obtain ⟨hcl, -⟩ := Bool.and_eq_true_iff.mp (Bool.and_eq_true_iff.mp hc3).1
      obtain ⟨hs1, hs2⟩ := Bool.and_eq_true_iff.mp hs
      have ih := reverseList_reverseList_aux ls L hcl hs1
      have e1 : reverse (joined ls) L = joined (reverseList ls L).reverse := beq_eq _ _ hs2
      refine ⟨?_, by rw [e1]; rfl⟩
      rw [e1, reverse, reverseList_reverse_reverseList, ih.1]
      exact beq_eq _ _ hj
  | ordered ls, L, hc, hs => by
      obtain ⟨hc2, hno⟩ := Bool.and_eq_true_iff.mp hc
      obtain ⟨hcl, h2⟩ := Bool.and_eq_true_iff.mp hc2
      have h2 : 2 ≤ ls.length := of_decide_eq_true h2
      have hno : ls.any isOrderedC = false := Bool.not_eq_true' _ ▸ hno
      have ih := reverseList_reverseList_aux ls L hcl hs
      have e1 : reverse (ordered ls) L = ordered (reverseList ls L).reverse :=
        order_of_canon _ (by rw [List.length_reverse, reverseList_length]; exact h2)
          (by rw [List.any_reverse, ih.2]; exact hno)
      refine ⟨?_, by rw [e1]; rfl⟩
      rw [e1, reverse, reverseList_reverse_reverseList, ih.1]
      exact order_of_canon _ h2 hno
  | compl l, L, hc, hs =>
      have ih := reverse_reverse_aux l L (Bool.and_eq_true_iff.mp hc).1 hs
      ⟨congrArg compl ih.1, rfl⟩
theorem reverseList_reverseList_aux : ∀ (ls : List Loc) (L : Int), canonPList ls = true →
    reverseStableList ls L = true →
    reverseList (reverseList ls L) L = ls ∧ (reverseList ls L).any isOrderedC = ls.any isOrderedC
  | [], _, _, _ => ⟨rfl, rfl⟩
  | l :: ls, L, hc, hs => by
      obtain ⟨hc1, hc2⟩ := Bool.and_eq_true_iff.mp hc
      obtain ⟨hs1, hs2⟩ := Bool.and_eq_true_iff.mp hs
      have h1 := reverse_reverse_aux l L hc1 hs1
      have h2 := reverseList_reverseList_aux ls L hc2 hs2
      simp only [reverseList, List.any_cons, h1.1, h1.2, h2.1, h2.2, and_self]
end

/-- **structural involution**: on a canonical location none of whose joins reduces under the first
reversal, `Reverse` twice is the identity -/
theorem reverse_reverse (l : Loc) (L : Int) (hc : canonP l = true) (hs : reverseStable l L = true) :
    reverse (reverse l L) L = l := (reverse_reverse_aux l L hc hs).1

/-- **denotation-level involution**: when K2 fires in neither reversal, the twice reversed
location denotes the residues of `l` in the same order on the same strands, a residue read more
than once possibly fewer times -/
theorem reverse_reverse_den (l : Loc) (L : Int) (hw : wf l = true)
    (h1 : reverseAbs l L = false) (h2 : reverseAbs (reverse l L) L = false) :
    den (reverse (reverse l L) L) ≼ den l := by
  have a := reverse_mirror l L hw
  have b := (reverse_mirror (reverse l L) L a.2).1 h2
  have c := b.trans ((a.1 h1).mirror L)
  rwa [mirrorDen_mirrorDen] at c

theorem reverse_reverse_wf (l : Loc) (L : Int) (hw : wf l = true) :
    wf (reverse (reverse l L) L) = true :=
  (reverse_mirror (reverse l L) L (reverse_mirror l L hw).2).2

end Loc

namespace Seq

theorem reverse_len (s : Seq) : s.reverse.len = s.len := by
  simp [Seq.reverse, Seq.len]

theorem reverse_reverse_feats_perm (s : Seq) :
    s.reverse.reverse.feats.Perm
      (s.feats.map fun f => { f with loc := (f.loc.reverse s.len).reverse s.len }) := by
  have h2 := reverse_feats_perm s.reverse
  rw [reverse_len] at h2
  have h3 := (reverse_feats_perm s).map (fun f : Feature => { f with loc := f.loc.reverse s.len })
  rw [List.map_map] at h3
  exact h2.trans h3

end Seq
end Gts
