/-
  `Loc.less` in the order in which the Go function `LocationLess` (location.go:55-123) takes its
  decisions.

  The model (`Gts/Model/Loc.lean`) strips the complements of `a` and expands the parts of `a` FIRST
  (`less` / `anyLess`) and only then looks at `b` (`lessB` / `allLessB`).  The Go code interleaves:
  complement of `a`, complement of `b`, parts of `a` (any), parts of `b` (all), two contiguous
  leaves.  The lemmas below are the five equations of that order, proved of the model — the one with
  content is `less_compl_right` (a complement around `b` can be stripped before `a` is looked at: the
  two recursion orders commute).  `Gts/Bridge/LocLess.lean` uses them to prove the regenerated
  function equal to the model.
-/
import Gts.Model.Loc
namespace Gts.Loc

mutual
/-- number of constructors of a location (the measure of the recursion of `LocationLess`) -/
def size : Loc → Nat
  | between _ => 1
  | point _ => 1
  | ranged _ _ _ _ => 1
  | ambiguous _ _ => 1
  | joined ls => 1 + sizeList ls
  | ordered ls => 1 + sizeList ls
  | compl l => 1 + size l
def sizeList : List Loc → Nat
  | [] => 0
  | l :: ls => size l + sizeList ls
end

theorem size_pos : ∀ l : Loc, 0 < size l
  | between _ | point _ | ranged _ _ _ _ | ambiguous _ _ => by simp [size]
  | joined _ | ordered _ | compl _ => by simp only [size]; omega

theorem size_le_sizeList {l : Loc} : ∀ {ls : List Loc}, l ∈ ls → size l ≤ sizeList ls
  | [], h => by cases h
  | x :: xs, h => by
    simp only [sizeList]
    rcases List.mem_cons.mp h with rfl | h
    · omega
    · have := size_le_sizeList h
      omega

/-- a contiguous leaf: `Between`, `Point`, `Ranged`, `Ambiguous` (the kinds with a `span` method) -/
def isContig : Loc → Bool
  | between _ | point _ | ranged _ _ _ _ | ambiguous _ _ => true
  | _ => false

/-- (1) a complement around `a` is stripped -/
theorem less_compl_left (a b : Loc) : less (compl a) b = less a b := by
  simp only [less]

mutual
/-- (2) a complement around `b` is stripped — whatever `a` is: the model reaches `b` only after it
has taken `a` apart, the Go code strips it before it looks at the parts of `a` -/
theorem less_compl_right : ∀ (a b : Loc), less a (compl b) = less a b
  | between _, _ | point _, _ | ranged _ _ _ _, _ | ambiguous _ _, _ => by simp only [less, lessB]
  | joined ls, b | ordered ls, b => by simp only [less]; exact anyLess_compl_right ls b
  | compl a, b => by simp only [less]; exact less_compl_right a b
theorem anyLess_compl_right : ∀ (ls : List Loc) (b : Loc), anyLess ls (compl b) = anyLess ls b
  | [], _ => by simp only [anyLess]
  | l :: ls, b => by simp only [anyLess, less_compl_right l b, anyLess_compl_right ls b]
end

/-- (3) a join / order on the left: SOME part is less -/
theorem anyLess_eq_any : ∀ (ls : List Loc) (b : Loc), anyLess ls b = ls.any (fun l => less l b)
  | [], _ => by simp only [anyLess, List.any_nil]
  | l :: ls, b => by simp only [anyLess, List.any_cons, anyLess_eq_any ls b]

theorem less_joined_left (ls : List Loc) (b : Loc) :
    less (joined ls) b = ls.any (fun l => less l b) := by
  simp only [less, anyLess_eq_any]

theorem less_ordered_left (ls : List Loc) (b : Loc) :
    less (ordered ls) b = ls.any (fun l => less l b) := by
  simp only [less, anyLess_eq_any]

/-- on a contiguous leaf the model goes straight to the recursion over `b` -/
theorem less_leaf {a : Loc} (h : isContig a = true) (b : Loc) : less a b = lessB a b := by
  cases a <;> simp [isContig] at h <;> simp only [less]

/-- (4) a contiguous leaf against a join / order: less than EVERY part -/
theorem allLessB_eq_all {a : Loc} (h : isContig a = true) :
    ∀ (ls : List Loc), allLessB a ls = ls.all (fun l => less a l)
  | [] => by simp only [allLessB, List.all_nil]
  | l :: ls => by simp only [allLessB, List.all_cons, allLessB_eq_all h ls, less_leaf h]

theorem less_leaf_joined {a : Loc} (h : isContig a = true) (ls : List Loc) :
    less a (joined ls) = ls.all (fun l => less a l) := by
  rw [less_leaf h, lessB, allLessB_eq_all h]

theorem less_leaf_ordered {a : Loc} (h : isContig a = true) (ls : List Loc) :
    less a (ordered ls) = ls.all (fun l => less a l) := by
  rw [less_leaf h, lessB, allLessB_eq_all h]

/-- (5) two contiguous leaves: spans, then the number of partial ends -/
theorem less_leaf_leaf {a b : Loc} (ha : isContig a = true) (hb : isContig b = true) :
    less a b = contigLess a b := by
  rw [less_leaf ha]
  cases b <;> simp [isContig] at hb <;> simp only [lessB]

end Gts.Loc
