/-
  The location part of `gts.Slice` on a forward window `[a, b)` of a sequence of length `L`
  (`Expand(b, b-L)` then `Expand(0, -a)`) keeps exactly the residues inside the window,
  re-based.  Core Lean only.
-/
import Gts.Lemmas.Delete
import Gts.Lemmas.Embed
import Gts.Lemmas.ConcatChain
namespace Gts

/-- position re-mapping of a forward slice `[a, b)` -/
def winMap (a b : Int) (x : Int) : Option Int := if a ≤ x ∧ x < b then some (x - a) else none

namespace Loc

theorem filterMapPos_congr {f g : Int → Option Int} {d : List Pos} (h : ∀ p ∈ d, f p.1 = g p.1) :
    filterMapPos f d = filterMapPos g d :=
  filterMap_congr' d _ _ fun p hp => by rw [h p hp]

theorem filterMapPos_comp (f g : Int → Option Int) (d : List Pos) :
    filterMapPos g (filterMapPos f d) = filterMapPos (fun x => (f x).bind g) d := by
  unfold filterMapPos
  rw [List.filterMap_filterMap]
  apply filterMap_congr'
  intro p _
  show _ = ((f p.1).bind g).map _
  cases f p.1 <;> rfl

theorem filterMapPos_some_id (d : List Pos) : filterMapPos (fun x => some x) d = d := by
  simp [filterMapPos]

theorem _root_.Gts.Cli.mem_filterMapPos {φ : Int → Option Int} {d : List Pos} {p : Pos} {y : Int} (hp : p ∈ d)
    (hy : φ p.1 = some y) : (y, p.2) ∈ filterMapPos φ d :=
  List.mem_filterMap.mpr ⟨p, hp, by rw [hy]; rfl⟩

/-- general form of `Expand(i, n)` on denotations for either sign of `n` (n = 0 included) -/
theorem expand_den_any (l : Loc) (i n : Int) (hw : wf l = true) (hk : expandAbs l i n = false) :
    wf (expand l i n) = true ∧
    (n ≤ 0 → den (expand l i n) ≼ filterMapPos (delMap i (-n)) (den l)) := by
  by_cases hn : n < 0
  · have h := expand_del l i (-n) hw (by omega)
    have e : - -n = n := by omega
    rw [e] at h
    exact ⟨h.2, fun _ => h.1 hk⟩
  · have h := expand_ins l i n hw (by omega)
    refine ⟨h.2, fun hle => ?_⟩
    obtain rfl : n = 0 := by omega
    have h1 := h.1 hk
    rw [stripGuest_zero, mapPos_insMap_zero] at h1
    have e : filterMapPos (delMap i (-0)) (den l) = filterMapPos (fun x => some x) (den l) :=
      filterMapPos_congr fun p _ => (delMap_eq_some (by omega)).mpr (by omega)
    rw [e, filterMapPos_some_id]
    exact h1

/-- **Slice on a forward window**: the re-located feature denotes exactly its residues inside
`[a, b)`, re-based to the window start, same order and strand. -/
theorem sliceLoc_den (l : Loc) (a b L : Int) (h0 : 0 ≤ a) (hab : a ≤ b) (hbL : b ≤ L)
    (hw : wf l = true) (hpos : ∀ p ∈ den l, 0 ≤ p.1 ∧ p.1 < L)
    (g1 : expandAbs l b (b - L) = false) (g2 : expandAbs (l.expand b (b - L)) 0 (-a) = false) :
    den (sliceLoc l a b L) ≼ filterMapPos (winMap a b) (den l) ∧ wf (sliceLoc l a b L) = true := by
  have s1 := expand_den_any l b (b - L) hw g1
  have s2 := expand_den_any (l.expand b (b - L)) 0 (-a) s1.1 g2
  refine ⟨?_, s2.1⟩
  have d1 := s1.2 (by omega)
  have d2 := s2.2 (by omega)
  have d3 := filterMapPos_refines (delMap 0 (- -a)) d1
  rw [filterMapPos_comp] at d3
  have e : filterMapPos (fun x => (delMap b (-(b - L)) x).bind (delMap 0 (- -a))) (den l)
      = filterMapPos (winMap a b) (den l) := by
    apply filterMapPos_congr
    intro p hp
    have := hpos p hp
    unfold delMap winMap
    by_cases c1 : p.1 < b
    · rw [if_pos c1]
      simp only [Option.bind_some]
      rw [if_neg (by omega)]
      by_cases c2 : p.1 < 0 + - -a
      · rw [if_pos c2, if_neg (by omega)]
      · rw [if_neg c2, if_pos (by omega)]; congr 1; omega
    · rw [if_neg c1, if_pos (by omega)]
      simp only [Option.bind_none]
      rw [if_neg (by omega)]
  rw [e] at d3
  exact d2.trans d3

end Loc
end Gts
