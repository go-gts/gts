/-
  `Repair` (property C12), part 7: restoration of a cut forward range — the fragments that
  slicing at cut positions and concatenating produce are fused back into the original range,
  in whatever order they stand in the table.  Core Lean only.
-/
import Gts.Lemmas.RepairIdem
namespace Gts
open Loc

theorem pairwise_total {α} {r : α → α → Prop} {l : List α} (h : l.Pairwise r) :
    ∀ a ∈ l, ∀ b ∈ l, a = b ∨ r a b ∨ r b a := by
  induction l with
  | nil => intro a ha; cases ha
  | cons x l ih =>
    have h' := List.pairwise_cons.mp h
    intro a ha b hb
    rcases List.mem_cons.mp ha with ha | ha
    · rcases List.mem_cons.mp hb with hb | hb
      · exact Or.inl (ha.trans hb.symm)
      · exact Or.inr (Or.inl (ha ▸ h'.1 b hb))
    · rcases List.mem_cons.mp hb with hb | hb
      · exact Or.inr (Or.inr (hb ▸ h'.1 a ha))
      · exact ih h'.2 a ha b hb

theorem comparable_of_perm_strict {l0 q : List Loc} (hq : q.Perm l0)
    (h0 : l0.Pairwise fun a b => less a b = true) :
    ∀ a ∈ q, ∀ b ∈ q, less a b = true ∨ less b a = true ∨ a = b := by
  intro a ha b hb
  rcases pairwise_total h0 a (hq.mem_iff.mp ha) b (hq.mem_iff.mp hb) with h | h | h
  · exact Or.inr (Or.inr h)
  · exact Or.inl h
  · exact Or.inr (Or.inl h)

theorem sortedPerm_unique_of_comparable {xs ys zs : List Loc} (h1 : SortedPerm less xs ys)
    (h2 : SortedPerm less xs zs) (ht : ∀ a ∈ xs, ∀ b ∈ xs, less a b = true ∨ less b a = true ∨ a = b) :
    ys = zs := by
  apply List.Perm.eq_of_pairwise (le := fun a b => less b a = false) _ h1.sorted h2.sorted
    (h1.perm.trans h2.perm.symm)
  intro a b ha hb hab hba
  rcases ht a (h1.perm.mem_iff.mp ha) b (h2.perm.mem_iff.mp hb) with h | h | h
  · rw [hba] at h; cases h
  · rw [hab] at h; cases h
  · exact h

theorem sortedPerm_of_strict {l0 q ys : List Loc} (h : SortedPerm less q ys) (hq : q.Perm l0)
    (h0 : l0.Pairwise fun a b => less a b = true) : ys = l0 :=
  sortedPerm_unique_of_comparable h ⟨hq.symm, h0.imp fun h => less_asymm h⟩ (comparable_of_perm_strict hq h0)

/-- the fragments of `Ranged{s, e, (p5, p3)}` cut at the increasing positions `cs` strictly
inside it; `m` is the partial marker slicing puts on a cut end (`true`; `false` for `source`
features, whose markers `Slice` strips) -/
def frags (m : Bool) : Int → Int → Bool → Bool → List Int → List Loc
  | s, e, p5, p3, [] => [ranged s e p5 p3]
  | s, e, p5, p3, c :: cs => ranged s c p5 m :: frags m c e m p3 cs

/-- the cut positions are increasing and strictly inside `(s, e)` -/
def cutsOk : Int → Int → List Int → Prop
  | s, e, [] => s < e
  | s, e, c :: cs => s < c ∧ cutsOk c e cs

theorem frags_bounds (m : Bool) (cs : List Int) (s e : Int) (p5 p3 : Bool) (h : cutsOk s e cs) :
    ∀ x ∈ frags m s e p5 p3 cs, ∃ a b x5 x3, x = ranged a b x5 x3 ∧ s ≤ a ∧ a < b := by
  induction cs generalizing s p5 with
  | nil =>
    intro x hx
    simp only [frags, List.mem_singleton] at hx
    exact ⟨s, e, p5, p3, hx, Int.le_refl _, h⟩
  | cons c cs ih =>
    intro x hx
    simp only [frags, List.mem_cons] at hx
    rcases hx with rfl | hx
    · exact ⟨s, c, p5, m, rfl, Int.le_refl _, h.1⟩
    · obtain ⟨a, b, x5, x3, rfl, h1, h2⟩ := ih c m h.2 x hx
      exact ⟨a, b, x5, x3, rfl, by have := h.1; omega, h2⟩

theorem frags_strict (m : Bool) (cs : List Int) (s e : Int) (p5 p3 : Bool) (h : cutsOk s e cs) :
    (frags m s e p5 p3 cs).Pairwise fun a b => less a b = true := by
  induction cs generalizing s p5 with
  | nil => simp [frags]
  | cons c cs ih =>
    simp only [frags]
    refine List.Pairwise.cons ?_ (ih c m h.2)
    intro x hx
    obtain ⟨a, b, x5, x3, rfl, h1, h2⟩ := frags_bounds m cs c e m p3 h.2 x hx
    rw [less_ranged _ _ _ _ _ _ _ _ h.1 h2]
    have := h.1
    omega

theorem frag_cond (f m : Bool) (hm : (m || f) = true) (x : Int) : (((m && m) || f) && x == x) = true := by
  cases m <;> cases f <;> simp at hm ⊢

/-- pushing the remaining fragments onto the fused prefix -/
theorem push_frags (d : Nat) (f m : Bool) (hm : (m || f) = true) (cs : List Int) (s0 s e : Int) (q5 p3 : Bool) :
    pushAllD (d + 1) [ranged s0 s q5 m] (frags m s e m p3 cs) f = [ranged s0 e q5 p3] := by
  induction cs generalizing s with
  | nil => simp only [frags, pushAllD, List.foldl_cons, List.foldl_nil, pushD_ranged, pushOne, frag_cond f m hm s, if_true]
  | cons c cs ih =>
    have := ih c
    simp only [pushAllD] at this
    simp only [frags, pushAllD, List.foldl_cons, pushD_ranged, pushOne, frag_cond f m hm s, if_true]
    exact this

/-- **(g), one class**: the fragments of a forward range — in any order, sorted by any correct
sort — are fused back into the range, with its own partial markers -/
theorem pushedOfWith_frags (sort : List Loc → List Loc) (hs : CorrectSort sort) (f m : Bool)
    (hm : (m || f) = true) (s e : Int) (p5 p3 : Bool) (cs : List Int)
    (hc : cutsOk s e cs) (q : List Loc) (hq : q.Perm (frags m s e p5 p3 cs)) :
    pushedOfWith sort f q = [ranged s e p5 p3] := by
  simp only [pushedOfWith, sortedPerm_of_strict (hs q) hq (frags_strict m cs s e p5 p3 hc), pushAll]
  have e1 : pushFuel = (pushFuel - 1) + 1 := rfl
  rw [e1]
  cases cs with
  | nil => simp [frags, pushAllD, pushD_ranged, pushOne]
  | cons c cs =>
    simp only [frags, pushAllD, List.foldl_cons, pushD_ranged, pushOne]
    have := push_frags (pushFuel - 1) f m hm cs s c e p5 p3
    simp only [pushAllD] at this
    rw [this]
    rfl

/-- a class of fragments becomes the whole range (a class of one fragment is that range) -/
theorem newLocs_frags (sort : List Loc → List Loc) (hs : CorrectSort sort) (f m : Bool) (hm : (m || f) = true)
    (s e : Int) (p5 p3 : Bool) (cs : List Int) (hc : cutsOk s e cs) (q : List Loc)
    (hq : q.Perm (frags m s e p5 p3 cs)) : newLocs sort f q = [ranged s e p5 p3] := by
  unfold newLocs
  rw [pushedOfWith_frags sort hs f m hm s e p5 p3 cs hc q hq]
  split
  · rfl
  · rename_i h
    have hl := hq.length_eq
    cases cs with
    | nil => exact List.perm_singleton.mp hq
    | cons c cs => simp [sliceLen] at h; cases cs <;> simp [frags] at hl <;> omega

theorem pushedOf_frags (f m : Bool) (hm : (m || f) = true) (s e : Int) (p5 p3 : Bool) (cs : List Int)
    (hc : cutsOk s e cs) (q : List Loc) (hq : q.Perm (frags m s e p5 p3 cs)) :
    pushedOf f q = [ranged s e p5 p3] :=
  pushedOfWith_frags sortLocs sortLocs_correct f m hm s e p5 p3 cs hc q hq

/-- `Ranged.Expand(i, n)` when the moved ends `S`, `E` stay apart: a range again, with a partial
marker on an end that fell into a deleted stretch -/
theorem rangedExpand_eq_ranged (s e : Int) (p5 p3 : Bool) (i n : Int) {S E : Int} {P5 P3 : Bool}
    (hS : (if (0 ≤ n ∧ i ≤ s) ∨ (n < 0 ∧ i < s) then gmax i (s + n) else s) = S)
    (hE : (if (0 ≤ n ∧ i < e) ∨ (n < 0 ∧ i ≤ e) then gmax i (e + n) else e) = E) (hSE : S ≠ E)
    (h5 : (p5 || decide (n < 0 ∧ i ≤ s ∧ s < i - n)) = P5)
    (h3 : (p3 || decide (n < 0 ∧ i < e ∧ e ≤ i - n)) = P3) :
    rangedExpand s e p5 p3 i n = ranged S E P5 P3 := by
  by_cases hn : n = 0
  · -- nothing moves
    subst hn
    have hs : s = S := by simp only [gmax] at hS; omega
    have he : e = E := by simp only [gmax] at hE; omega
    subst hs he h5 h3
    simp [rangedExpand]
  · subst hS hE h5 h3
    simp only [rangedExpand, if_neg hn, if_neg hSE]
    congr 1
    · by_cases h : n < 0 ∧ i ≤ s ∧ s < i - n <;> simp [h]
    · by_cases h : n < 0 ∧ i < e ∧ e ≤ i - n <;> simp [h]

/-- `Slice` drops what lies behind `b` … -/
theorem expand_cut_tail (s e : Int) (x y : Bool) (b L : Int) (hse : s < e) (heL : e ≤ L)
    (hsb : s < b) (hbL : b ≤ L) :
    (ranged s e x y).expand b (b - L) = ranged s (if b < e then b else e) x (y || decide (b < e)) := by
  refine rangedExpand_eq_ranged s e x y b (b - L) ?_ ?_ ?_ ?_ ?_
  · simp only [gmax]; omega
  · simp only [gmax]; omega
  · omega
  · rw [decide_eq_false, Bool.or_false]; omega
  · exact congrArg _ (decide_eq_decide.mpr (by omega))

/-- … then what lies before `a` … -/
theorem expand_cut_head (s e : Int) (x y : Bool) (a : Int) (h0 : 0 ≤ s) (hse : s < e) (ha : 0 ≤ a) (hae : a < e) :
    (ranged s e x y).expand 0 (-a) =
      ranged ((if s < a then a else s) - a) (e - a) (x || decide (s < a)) y := by
  refine rangedExpand_eq_ranged s e x y 0 (-a) ?_ ?_ ?_ ?_ ?_
  · simp only [gmax]; omega
  · simp only [gmax]; omega
  · omega
  · exact congrArg _ (decide_eq_decide.mpr (by omega))
  · rw [decide_eq_false, Bool.or_false]; omega

/-- … and `Concat` moves the piece to its offset -/
theorem expand_move (s e : Int) (x y : Bool) (a : Int) (h0 : 0 ≤ s) (hse : s < e) (ha : 0 ≤ a) :
    (ranged s e x y).expand 0 a = ranged (s + a) (e + a) x y := by
  refine rangedExpand_eq_ranged s e x y 0 a ?_ ?_ ?_ ?_ ?_
  · simp only [gmax]; omega
  · simp only [gmax]; omega
  · omega
  · rw [decide_eq_false, Bool.or_false]; omega
  · rw [decide_eq_false, Bool.or_false]; omega

/-- the location a forward range has in the piece `[a, b)` of a sequence of length `L`
(`Slice`: `Expand(b, b-L)` then `Expand(0, -a)`), after `Concat` has moved the piece back to
offset `a` (`Expand(0, a)`): the intersection, with a partial marker on every cut end -/
theorem slice_concat_ranged (s e : Int) (p5 p3 : Bool) (a b L : Int)
    (h0 : 0 ≤ s) (hse : s < e) (heL : e ≤ L) (ha : 0 ≤ a) (hab : a < b) (hbL : b ≤ L)
    (hov : s < b ∧ a < e) :
    (((ranged s e p5 p3).expand b (b - L)).expand 0 (-a)).expand 0 a =
      ranged (if s < a then a else s) (if b < e then b else e) (p5 || decide (s < a)) (p3 || decide (b < e)) := by
  rw [expand_cut_tail s e p5 p3 b L hse heL hov.1 hbL]
  rw [expand_cut_head s _ p5 _ a h0 (by split <;> omega) ha (by split <;> omega)]
  rw [expand_move _ _ _ _ a (by split <;> omega) (by split <;> split <;> omega) ha]
  congr 1 <;> omega

end Gts
