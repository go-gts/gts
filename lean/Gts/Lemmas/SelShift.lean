/-
  C07: `shiftSelector` (feature.go:189-204) with Go's index arithmetic made explicit — the index
  expression `s[i]` and the slice expressions `s[:i]`, `s[i+1:]` are checked reads that answer
  `.panic` when out of range — never panics and computes what the structural model
  `shiftSelectorGo` (Gts/Model/Locator.lean) computes.  That model is the generic loop `shiftG` of
  Gts/Lemmas/SelSplit.lean at bytes (`shiftSelectorGo_eq`, `selectorParts_eq`), whence: the loop of
  `Selector` (`for tail != ""`) terminates because every `shiftSelector` call on a non-empty string returns
  a strictly shorter tail; the fuel `tail.length + 1` used by `selectorParts` is adequate.
  Core Lean only.
-/
import Gts.Model.Locator
import Gts.Lemmas.SelSplit
namespace Gts
open Pars SelSpec

/-- `shiftSelector(s)` from loop index `i` with escape flag `esc`, index by index -/
def shiftIdx (s : Bytes) (i : Nat) (esc : Bool) : Except Err (Bytes × Bytes) :=
  if _h : i < s.length then               -- loop condition `i < len(s)`
    match s[i]? with                     -- `s[i]`
    | none => .error .panic
    | some c =>
      if c = 92 then shiftIdx s (i + 1) true
      else if c = 47 then
        if !esc then
          -- `s[:i]`, `s[i+1:]`
          if i ≤ s.length ∧ i + 1 ≤ s.length then .ok (s.take i, s.drop (i + 1)) else .error .panic
        else shiftIdx s (i + 1) esc
      else shiftIdx s (i + 1) false
  else .ok (s, [])
termination_by s.length - i

theorem shiftIdx_eq (s : Bytes) : ∀ (k i : Nat) (esc : Bool), s.length - i = k →
    shiftIdx s i esc =
      .ok ((s.take i ++ (shiftSelectorGo (s.drop i) esc).1), (shiftSelectorGo (s.drop i) esc).2) := by
  intro k
  induction k with
  | zero =>
    intro i esc hk
    have hi : ¬ i < s.length := by omega
    rw [shiftIdx, dif_neg hi]
    have h1 : s.drop i = [] := List.drop_eq_nil_of_le (by omega)
    have h2 : s.take i = s := List.take_of_length_le (by omega)
    rw [h1, h2]; simp [shiftSelectorGo]
  | succ k ih =>
    intro i esc hk
    have hi : i < s.length := by omega
    have hget : s[i]? = some s[i] := List.getElem?_eq_getElem hi
    have hdrop : s.drop i = s[i] :: s.drop (i + 1) := (List.drop_eq_getElem_cons hi)
    -- every branch that goes on does so at `i + 1`, with the byte just read in front of the head
    have hnext (e : Bool) : shiftIdx s (i + 1) e =
        .ok (s.take i ++ s[i] :: (shiftSelectorGo (s.drop (i + 1)) e).1, (shiftSelectorGo (s.drop (i + 1)) e).2) := by
      rw [ih (i + 1) e (by omega), List.take_add_one, hget, List.append_assoc]; rfl
    rw [shiftIdx, dif_pos hi, hget]
    dsimp only
    rw [hdrop, shiftSelectorGo]
    by_cases h92 : s[i] = 92
    · rw [if_pos h92, if_pos h92, hnext]
    · rw [if_neg h92, if_neg h92]
      by_cases h47 : s[i] = 47
      · rw [if_pos h47, if_pos h47]
        cases esc with
        | false =>
          have : i ≤ s.length ∧ i + 1 ≤ s.length := ⟨by omega, by omega⟩
          simp [this]
        | true =>
          simp only [Bool.not_true, Bool.false_eq_true, if_false]
          rw [hnext]
      · rw [if_neg h47, if_neg h47, hnext]

/-- `shiftSelector(s)` never panics, and is the structural model -/
theorem shiftIdx_ok (s : Bytes) : shiftIdx s 0 false = .ok (shiftSelectorB s) := by
  rw [shiftIdx_eq s _ 0 false rfl]
  simp [shiftSelectorB]

/-! ### the structural model is the generic loop of Gts/Lemmas/SelSplit.lean at bytes -/

theorem shiftSelectorGo_eq : ∀ (s : Bytes) (esc : Bool),
    shiftSelectorGo s esc = shiftG (92 : UInt8) 47 s esc
  | [], _ => rfl
  | c :: r, esc => by
      simp only [shiftSelectorGo, shiftG]
      rw [shiftSelectorGo_eq r true, shiftSelectorGo_eq r esc, shiftSelectorGo_eq r false]
      by_cases h92 : c = 92
      · simp [h92, stNext_bs]
      · by_cases h47 : c = 47
        · cases esc <;> simp [h47, stNext_sl]
        · simp [h92, h47, stNext_other h92 h47]

theorem selectorParts_eq : ∀ (fuel : Nat) (tl : Bytes),
    selectorParts fuel tl = partsG (92 : UInt8) 47 fuel tl
  | 0, _ => rfl
  | fuel + 1, tl => by
      simp only [selectorParts, partsG, shiftSelectorB]
      rw [shiftSelectorGo_eq, selectorParts_eq fuel]

/-- the tail returned by `shiftSelector` is never longer than the input, and strictly shorter for a
non-empty input: the measure of the loop `for tail != ""` in `Selector` -/
theorem shiftSelectorGo_tail_le (s : Bytes) (esc : Bool) : (shiftSelectorGo s esc).2.length ≤ s.length := by
  rw [shiftSelectorGo_eq]
  exact shiftG_tail_le _ _ s esc

theorem shiftSelectorB_tail_lt (c : UInt8) (r : Bytes) :
    (shiftSelectorB (c :: r)).2.length < (c :: r).length := by
  rw [shiftSelectorB, shiftSelectorGo_eq]
  exact shiftG_tail_lt _ _ c r false

/-- fuel adequacy of the `Selector` loop: with `fuel > tail.length` the parts are the segments of the split,
whatever the fuel -/
theorem selectorParts_fuel (n m : Nat) (tl : Bytes) (hn : tl.length < n) (hm : tl.length < m) :
    selectorParts n tl = selectorParts m tl := by
  rw [selectorParts_eq, selectorParts_eq, partsG_spec _ _ n tl (Nat.le_of_lt hn),
    partsG_spec _ _ m tl (Nat.le_of_lt hm)]

end Gts
