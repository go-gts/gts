/-
  Helper lemmas for the record-level composition laws of `gts.Rotate` (C04, `Props/C04Table.lean`):
  the domain of the Normalize law implies the property's proviso on ambiguous spans, and a position
  map that is the identity on `[0, L)`.
-/
import Gts.Props.C04
namespace Gts
open Loc

namespace Loc

mutual
/-- the domain of the Normalize law (`normOk`) contains the property's proviso "no ambiguous span
across the origin" (`ambOk`) -/
theorem ambOk_of_normOk (L : Int) : ∀ (l : Loc), normOk L l = true → ambOk L l = true
  | between _, _ | point _, _ | ranged _ _ _ _, _ => rfl
  | ambiguous _ _, h => (Bool.and_eq_true_iff.mp h).2
  | joined ls, h => ambOkList_of_normOkList L ls h
  | ordered ls, h => ambOkList_of_normOkList L ls h
  | compl l, h => ambOk_of_normOk L l h
theorem ambOkList_of_normOkList (L : Int) : ∀ (ls : List Loc), normOkList L ls = true →
    allLeavesList (leafAmbOk L) ls = true
  | [], _ => rfl
  | l :: ls, h =>
      have ⟨h1, h2⟩ := Bool.and_eq_true_iff.mp h
      Bool.and_eq_true_iff.mpr ⟨ambOk_of_normOk L l h1, ambOkList_of_normOkList L ls h2⟩
end

end Loc

theorem mapPos_rotMap_mul (m L : Int) (hL : 0 < L) (d : List Pos) (hin : denIn L d) :
    mapPos (rotMap (m * L) L) d = d := by
  unfold mapPos
  conv => rhs; rw [← List.map_id d]
  apply List.map_congr_left
  intro p hp
  have := hin p hp
  simp only [id]
  rw [C04.rotMap_mul m L p.1 hL this.1 this.2]

end Gts
