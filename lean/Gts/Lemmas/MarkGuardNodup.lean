/-
  The marker guards `…MarkAbs` (`Gts/Spec/MarkGuard.lean`) follow from the guards the denotation
  theorems already carry: if K2 does not fire (`…Abs = false`) and the residues involved are
  pairwise distinct (`Nodup`, every real feature), no marker-moving rule of `Push` fires either —
  both marker-moving rules need a point that coincides with the first base of a range (a residue
  denoted twice) or K2 itself.  These are exactly the conditions under which the Go oracles
  evaluate their marker clauses (`nodup(d)`, guard line `k2.*`).
-/
import Gts.Lemmas.Push
import Gts.Spec.MarkGuard
namespace Gts
namespace Loc

theorem nodup_flipDen_of {D : List Pos} (h : D.Nodup) : (flipDen D).Nodup :=
  List.nodup_iff_count.mpr fun ⟨x, st⟩ => (count_flipDen x st D).symm ▸ List.nodup_iff_count.mp h _

theorem nodup_flipDen {D : List Pos} : (flipDen D).Nodup ↔ D.Nodup :=
  ⟨fun h => by simpa [flipDen_flipDen] using nodup_flipDen_of h, nodup_flipDen_of⟩

theorem Refines.nodup {a b : List Pos} (h : a ≼ b) (hb : b.Nodup) : a.Nodup := hb.sublist h.1

/-- what a push function must satisfy, one nesting level down -/
structure PushND (low : List Loc → Loc → Bool → List Loc) (lowAbs lowMk : List Loc → Loc → Bool → Bool) :
    Prop where
  ok : PushOK low lowAbs
  nd : ∀ racc x f, wfList racc = true → wf x = true → lowAbs racc x f = false →
      (denR racc ++ den x).Nodup → lowMk racc x f = false

theorem fold_nd {low lowAbs lowMk} (h : PushND low lowAbs lowMk) (f : Bool) :
    ∀ (ys racc : List Loc), wfList racc = true → wfList ys = true →
      foldAbs low lowAbs f racc ys = false → (denR racc ++ denList ys).Nodup →
      foldAbs low lowMk f racc ys = false
  | [], _, _, _, _, _ => rfl
  | y :: ys, racc, hr, hys, ha, hnd => by
      obtain ⟨hy, hys⟩ := Bool.and_eq_true_iff.mp hys
      obtain ⟨a1, a2⟩ := Bool.or_eq_false_iff.mp ha
      rw [denList_cons, ← List.append_assoc] at hnd
      -- what the step leaves is a sublist of what it was given, so still duplicate-free
      exact Bool.or_eq_false_iff.mpr ⟨h.nd racc y f hr hy a1 (List.nodup_append.mp hnd).1,
        fold_nd h f ys _ (h.ok.wf racc y f hr hy) hys a2
          (hnd.sublist ((h.ok.den racc y f hr hy a1).1.append_right _))⟩

theorem mem_den_ranged_start (us ue : Int) (a b : Bool) (h : us < ue) :
    ((us, false) : Pos) ∈ den (ranged us ue a b) := by
  rw [den_ranged]
  exact mem_fwd.mpr ⟨rfl, mem_irange.mpr ⟨by omega, by omega⟩⟩

theorem markAbsOne_nd {low lowAbs lowMk} (h : PushND low lowAbs lowMk) (racc : List Loc) (x : Loc)
    (f : Bool) (hr : wfList racc = true) (hx : wf x = true)
    (ha : absOne low lowAbs racc x f = false) (hnd : (denR racc ++ den x).Nodup) :
    markAbsOne low lowMk racc x f = false := by
  unfold markAbsOne
  split
  · -- `Ranged{End = u}` then `Point u`: that is K2
    simp only [absOne] at ha
    rw [ha, Bool.false_and]
  · -- `Point v` then `Ranged{Start = v}`: the start of the range would be denoted twice
    rename_i v rest us ue u5 u3
    rw [Bool.and_eq_false_iff, beq_eq_false_iff_ne]
    refine Or.inl fun heq => ?_
    subst heq
    have h1 : ((v, false) : Pos) ∈ denR (point v :: rest) := by simp [denR_cons]
    exact (List.nodup_append.mp hnd).2.2 _ h1 _
      (mem_den_ranged_start v ue u5 u3 (of_decide_eq_true hx)) rfl
  · rename_i vl rest ul
    have hvl : wf vl = true := (Bool.and_eq_true_iff.mp hr).1
    have hul : wfList [ul] = true := Bool.and_eq_true_iff.mpr ⟨hx, rfl⟩
    obtain ⟨a1, a2⟩ := Bool.or_eq_false_iff.mp ha
    -- the residues of the two complemented operands are pairwise distinct
    have hnd2 : (denR [ul] ++ den vl).Nodup := by
      simp only [denR_cons, den_compl, List.append_assoc] at hnd
      have h1 := (List.nodup_append.mp hnd).2.1
      rw [← flipDen_append] at h1
      simpa using nodup_flipDen.mp h1
    exact Bool.or_eq_false_iff.mpr ⟨h.nd [ul] vl f hul hvl a1 hnd2,
      fold_nd h true _ [] rfl (by rw [wfList_reverse]; exact h.ok.wf [ul] vl f hul hvl) a2
        (Refines.nodup (h.ok.den [ul] vl f hul hvl a1) hnd2)⟩
  · rfl

mutual
theorem markAbsW_nd {low lowAbs lowMk} (h : PushND low lowAbs lowMk) :
    ∀ (x : Loc) (racc : List Loc) (f : Bool), wfList racc = true → wf x = true →
      absW low lowAbs racc x f = false → (denR racc ++ den x).Nodup →
      markAbsW low lowMk racc x f = false
  | joined parts, racc, f, hr, hx, ha, hnd => markAbsListW_nd h parts racc f hr hx ha hnd
  | between _, racc, f, hr, hx, ha, hnd | point _, racc, f, hr, hx, ha, hnd
  | ranged .., racc, f, hr, hx, ha, hnd | ambiguous .., racc, f, hr, hx, ha, hnd
  | ordered _, racc, f, hr, hx, ha, hnd | compl _, racc, f, hr, hx, ha, hnd =>
      markAbsOne_nd h racc _ f hr hx ha hnd
theorem markAbsListW_nd {low lowAbs lowMk} (h : PushND low lowAbs lowMk) :
    ∀ (ps : List Loc) (racc : List Loc) (f : Bool), wfList racc = true → wfList ps = true →
      absListW low lowAbs racc ps f = false → (denR racc ++ denList ps).Nodup →
      markAbsListW low lowMk racc ps f = false
  | [], _, _, _, _, _, _ => rfl
  | p :: ps, racc, f, hr, hps, ha, hnd => by
      obtain ⟨hp, hps⟩ := Bool.and_eq_true_iff.mp hps
      obtain ⟨a1, a2⟩ := Bool.or_eq_false_iff.mp ha
      rw [denList_cons, ← List.append_assoc] at hnd
      exact Bool.or_eq_false_iff.mpr ⟨markAbsW_nd h p racc f hr hp a1 (List.nodup_append.mp hnd).1,
        markAbsListW_nd h ps _ f (pushW_wf h.ok p racc f hr hp) hps a2
          (hnd.sublist ((pushW_den h.ok p racc f hr hp a1).1.append_right _))⟩
end

theorem pushD_nd : ∀ d, PushND (pushD d) (absD d) (markAbsD d)
  | 0 => ⟨pushD_ok 0, fun _ _ _ _ _ _ _ => rfl⟩
  | d + 1 => ⟨pushD_ok (d + 1), fun racc x f hr hx ha hnd =>
      markAbsW_nd (pushD_nd d) x racc f hr hx ha hnd⟩

theorem joinMarkAbs_of_nodup (xs : List Loc) (hw : wfList xs = true) (ha : joinAbs xs = false)
    (hnd : (denList xs).Nodup) : joinMarkAbs xs = false :=
  fold_nd (pushD_nd pushFuel) true xs [] rfl hw ha hnd

end Loc
end Gts
