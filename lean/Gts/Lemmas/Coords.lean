/-
  Coordinate invariants: a predicate that holds for every coordinate of the arguments of
  Push holds for every coordinate of the result (Push only ever copies coordinates).  Used for
  "no resulting location refers to a position outside the new sequence".  `coordsAll p` is the
  leaf-wise invariant `allLeaves (coordsAll p)`, and merging two abutting ranges keeps their outer
  coordinates (`mergeOK_coordsAll`), so Join, Order and every leaf map re-joined keep it by `LeafInv`.
  Core Lean only.
-/
import Gts.Lemmas.Leafwise
namespace Gts
namespace Loc

mutual
/-- every coordinate of the location satisfies `p` -/
def coordsAll (p : Int → Bool) : Loc → Bool
  | between x => p x
  | point x => p x && p (x + 1)
  | ranged s e _ _ => p s && p e
  | ambiguous s e => p s && p e
  | joined ls => coordsAllList p ls
  | ordered ls => coordsAllList p ls
  | compl l => coordsAll p l
def coordsAllList (p : Int → Bool) : List Loc → Bool
  | [] => true
  | l :: ls => coordsAll p l && coordsAllList p ls
end

@[simp] theorem coordsAllList_nil (p : Int → Bool) : coordsAllList p [] = true := by simp [coordsAllList]
@[simp] theorem coordsAllList_cons (p : Int → Bool) (l : Loc) (ls : List Loc) :
    coordsAllList p (l :: ls) = (coordsAll p l && coordsAllList p ls) := by simp [coordsAllList]

mutual
theorem coordsAll_eq_allLeaves (p : Int → Bool) : ∀ l : Loc, coordsAll p l = allLeaves (coordsAll p) l
  | between _ | point _ | ranged _ _ _ _ | ambiguous _ _ => by simp only [allLeaves]
  | joined ls => by rw [coordsAll, allLeaves_joined, coordsAllList_eq_allLeaves p ls]
  | ordered ls => by rw [coordsAll, allLeaves_ordered, coordsAllList_eq_allLeaves p ls]
  | compl l => by rw [coordsAll, allLeaves_compl, coordsAll_eq_allLeaves p l]
theorem coordsAllList_eq_allLeaves (p : Int → Bool) :
    ∀ ls : List Loc, coordsAllList p ls = allLeavesList (coordsAll p) ls
  | [] => by rw [coordsAllList_nil, allLeavesList_nil]
  | l :: ls => by
      rw [coordsAllList_cons, allLeavesList_cons, coordsAll_eq_allLeaves p l, coordsAllList_eq_allLeaves p ls]
end

theorem mergeOK_coordsAll (p : Int → Bool) : MergeOK (coordsAll p) := by
  intro vs ve ue v5 v3 u5 u3 hv hu
  simp only [coordsAll, Bool.and_eq_true] at hv hu ⊢
  exact ⟨hv.1, hu.2⟩

/-- a push function keeps the coordinate invariant -/
def KeepsCoords (p : Int → Bool) (low : List Loc → Loc → Bool → List Loc) : Prop :=
  ∀ racc x f, coordsAllList p racc = true → coordsAll p x = true → coordsAllList p (low racc x f) = true

theorem KeepsCoords.keepsLeaves {p low} (h : KeepsCoords p low) : KeepsLeaves (coordsAll p) low := by
  intro racc x f
  rw [← coordsAllList_eq_allLeaves, ← coordsAllList_eq_allLeaves, ← coordsAll_eq_allLeaves]
  exact h racc x f

theorem pushListW_coords {p low} (h : KeepsCoords p low) :
    ∀ (ps : List Loc) (racc : List Loc) (f : Bool), coordsAllList p racc = true →
      coordsAllList p ps = true → coordsAllList p (pushListW low racc ps f) = true := by
  simp only [coordsAllList_eq_allLeaves]
  exact pushListW_leaves (mergeOK_coordsAll p) h.keepsLeaves

theorem coordsAllList_flattenOrd (p : Int → Bool) : ∀ (l : Loc), coordsAll p l = true →
    coordsAllList p (flattenOrd l) = true := by
  simp only [coordsAll_eq_allLeaves, coordsAllList_eq_allLeaves]
  exact allLeavesList_flattenOrd _

end Loc
end Gts
