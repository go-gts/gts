/-
  A postcondition logic for the parser monad `Pars.P` (C06, audit S7 item 1(b)):
  `Post p Q` — whenever `p` succeeds, from any state, its value satisfies `Q`.  Rules for `pure`, bind,
  `fail`, `attempt`, `if`.  The judgement with a state invariant and a second parser, of which this one is the
  diagonal at the trivial invariant, is `Pars.Rel` (Gts/Lemmas/ParsRel.lean); the location parsers are walked there.
  Core Lean only.
-/
import Gts.Lemmas.ParsFrame
namespace Gts.Pars
open Gts

/-- partial correctness of a parser: every successful run returns a value satisfying `Q` -/
def Post {α} (p : P α) (Q : α → Prop) : Prop := ∀ st v st', p st = (.ok v, st') → Q v

theorem Post.triv {α} (p : P α) : Post p (fun _ => True) := fun _ _ _ _ => trivial

theorem Post.mono {α} {p : P α} {R Q : α → Prop} (h : Post p R) (hq : ∀ a, R a → Q a) : Post p Q :=
  fun st v st' hr => hq v (h st v st' hr)

theorem Post.pure {α} {Q : α → Prop} (a : α) (h : Q a) : Post (Pure.pure a : P α) Q := by
  intro st v st' hr
  cases hr
  exact h

theorem Post.fail {α} {Q : α → Prop} : Post (Pars.fail : P α) Q := fun _ _ _ hr => nomatch hr

theorem Post.bind {α β} {p : P α} {f : α → P β} {R : α → Prop} {Q : β → Prop}
    (hp : Post p R) (hf : ∀ a, R a → Post (f a) Q) : Post (p >>= f) Q := by
  intro st v st' hr
  rw [P.bind_run] at hr
  rcases h : p st with ⟨(e | a), s⟩ <;> rw [h] at hr
  · cases hr
  · exact hf a (hp _ _ _ h) _ _ _ hr

/-- bind, forgetting what the first parser returned -/
theorem Post.bind' {α β} {p : P α} {f : α → P β} {Q : β → Prop}
    (hf : ∀ a, Post (f a) Q) : Post (p >>= f) Q :=
  Post.bind (Post.triv p) (fun a _ => hf a)

theorem Post.attempt {α} {p : P α} {R : α → Prop} (hp : Post p R) :
    Post (Pars.attempt p) (fun o => ∀ v, o = some v → R v) := by
  intro st o st' hr
  rw [attempt_run] at hr
  rcases h : p st with ⟨(e | a), s⟩ <;> rw [h] at hr
  · cases e <;> cases hr
    exact fun _ hv => nomatch hv
  · cases hr
    exact fun v hv => Option.some.inj hv ▸ hp _ _ _ h

theorem Post.ite {α} {c : Prop} [Decidable c] {p q : P α} {Q : α → Prop} (hp : Post p Q) (hq : Post q Q) :
    Post (if c then p else q) Q := by
  split
  · exact hp
  · exact hq

theorem Post.fail_bind {α β} {f : α → P β} {Q : β → Prop} : Post ((Pars.fail : P α) >>= f) Q :=
  Post.bind (R := fun _ => False) Post.fail fun _ h => h.elim

theorem Post.panic_bind {α β} {f : α → P β} {Q : β → Prop} : Post ((Pars.panic : P α) >>= f) Q :=
  fun _ _ _ hr => nomatch hr

/-- `attempt p` followed by a case distinction on its answer, stated over the continuation -/
theorem Post.attempt_bind {α β} {p : P α} {k : Option α → P β} {R : α → Prop} {Q : β → Prop} (h : Post p R)
    (hs : ∀ v, R v → Post (k (some v)) Q) (hn : Post (k none) Q) : Post (Pars.attempt p >>= k) Q := by
  refine Post.bind (Post.attempt h) fun o ho => ?_
  cases o with
  | some v => exact hs v (ho v rfl)
  | none => exact hn

end Gts.Pars
