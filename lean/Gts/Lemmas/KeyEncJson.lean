/-
  Helper lemmas for the cache-key encoding (C14), part 3: encoding/json on the payload shapes.
  A marshalled quoted string, a base64 string in front of `"`, a decimal integer in front of `]`, an
  array of self-delimiting elements are all SELF-DELIMITING (`Code`: `enc a ++ x = enc b ++ y → a = b ∧ x = y`),
  the tuple and the payload by composition (`jt_code`, `encodePayload_code`), and the first two bytes of an
  encoded value tell its kind; hence `encodePayload` is injective.
  Core Lean only.
-/
import Gts.Lemmas.KeyEncQuote
import Gts.Lemmas.ModText
namespace Gts.KeyEnc
open Gts.Pars

theorem jsonStrGo_ascii : ∀ q : Bytes, (∀ c ∈ q, c.toNat < 0x80) →
    jsonStrGo 0 true q = q.flatMap jsonByte
  | [], _ => rfl
  | b :: rest, h => by
    have hb : b.toNat < 0x80 := h b (by simp)
    rw [jsonStrGo, if_pos hb, jsonStrGo_ascii rest (fun c hc => h c (by simp [hc]))]
    rfl

/-- the byte a JSON backslash letter stands for -/
def junesc (c : UInt8) : UInt8 :=
  if c = 0x62 then 0x08 else if c = 0x66 then 0x0C else if c = 0x6E then 0x0A
  else if c = 0x72 then 0x0D else if c = 0x74 then 0x09 else c

/-- the three shapes of what `appendString` writes for an ASCII byte -/
inductive JCls (b : UInt8) : Bytes → Prop
  | safe : b ≠ 0x5C → b ≠ 0x22 → JCls b [b]
  | esc (c : UInt8) : c ≠ 0x75 → b = junesc c → JCls b [0x5C, c]
  | hex : JCls b [0x5C, 0x75, 0x30, 0x30, hexDigit (b.toNat >>> 4), hexDigit (b.toNat &&& 0xF)]

theorem jsonByte_cls (b : UInt8) : JCls b (jsonByte b) := by
  unfold jsonByte
  by_cases h0 : htmlSafe b = true
  · rw [if_pos h0]
    simp only [htmlSafe, Bool.and_eq_true, bne_iff_ne, ne_eq] at h0
    exact .safe h0.2 h0.1.1.1.1.2
  rw [if_neg h0]
  by_cases h1 : b = 0x5C ∨ b = 0x22
  · rw [if_pos h1]
    rcases h1 with h1 | h1 <;> subst h1 <;> exact .esc _ (by decide) (by decide)
  rw [if_neg h1]
  by_cases h2 : b = 0x08
  · rw [if_pos h2]; subst h2; exact .esc _ (by decide) (by decide)
  rw [if_neg h2]
  by_cases h3 : b = 0x0C
  · rw [if_pos h3]; subst h3; exact .esc _ (by decide) (by decide)
  rw [if_neg h3]
  by_cases h4 : b = 0x0A
  · rw [if_pos h4]; subst h4; exact .esc _ (by decide) (by decide)
  rw [if_neg h4]
  by_cases h5 : b = 0x0D
  · rw [if_pos h5]; subst h5; exact .esc _ (by decide) (by decide)
  rw [if_neg h5]
  by_cases h6 : b = 0x09
  · rw [if_pos h6]; subst h6; exact .esc _ (by decide) (by decide)
  rw [if_neg h6]
  exact .hex

theorem jsonByte_code : Code jsonByte := by
  intro a b x y h
  have ha := jsonByte_cls a
  have hb := jsonByte_cls b
  generalize jsonByte a = wa at ha h
  generalize jsonByte b = wb at hb h
  cases ha <;> cases hb <;> simp only [List.cons_append, List.nil_append, List.cons.injEq] at h
  case safe.safe => exact h
  case esc.esc c hc ha c' hc' hb => exact ⟨by rw [ha, hb, h.2.1], h.2.2⟩
  -- a safe byte is not the backslash, an escape letter not `u`
  case safe.esc h1 _ _ _ _ | safe.hex h1 _ => exact absurd h.1 h1
  case esc.safe _ _ _ h1 _ | hex.safe h1 _ => exact absurd h.1.symm h1
  case esc.hex c hc ha => exact absurd h.2.1 hc
  case hex.esc c hc hb => exact absurd h.2.1.symm hc
  case hex.hex =>
    have := hexPair_inj (b := a.toNat) (c := b.toNat) (by have := a.toNat_lt; omega)
      (by have := b.toNat_lt; omega) h.2.2.2.2.1 h.2.2.2.2.2.1
    exact ⟨UInt8.toNat.inj this, h.2.2.2.2.2.2⟩

theorem jsonByte_head (a : UInt8) : ∃ c t, jsonByte a = c :: t ∧ c ≠ 0x22 := by
  have ha := jsonByte_cls a
  generalize jsonByte a = wa at ha
  cases ha with
  | safe _ h2 => exact ⟨_, _, rfl, h2⟩
  | esc c _ _ => exact ⟨_, _, rfl, by decide⟩
  | hex => exact ⟨_, _, rfl, by decide⟩

theorem jsonString_ascii (q : Bytes) (h : ∀ c ∈ q, c.toNat < 0x80) :
    jsonString q = 0x22 :: (q.flatMap jsonByte ++ [0x22]) := by
  rw [jsonString, jsonStrGo_ascii q h]

theorem quoteToASCII_print (s : Bytes) : ∀ c ∈ quoteToASCII s, 0x20 ≤ c.toNat ∧ c.toNat ≤ 0x7E := by
  intro c hc
  simp only [quoteToASCII, List.mem_cons, List.mem_append, List.not_mem_nil, or_false] at hc
  rcases hc with rfl | hc | rfl
  · decide
  · exact quoteBody_ascii s c hc
  · decide

theorem quoteToASCII_lt (s : Bytes) : ∀ c ∈ quoteToASCII s, c.toNat < 0x80 :=
  fun c hc => Nat.lt_of_le_of_lt (quoteToASCII_print s c hc).2 (by decide)

theorem quoteToASCII_inj {s₁ s₂ : Bytes} (h : quoteToASCII s₁ = quoteToASCII s₂) : s₁ = s₂ := by
  simp only [quoteToASCII, List.cons.injEq, true_and] at h
  have hl := List.append_inj_left' h rfl
  exact quoteBody_injective s₁ s₂ hl

/-- `exact` of a string, marshalled -/
def qstr (s : Bytes) : Bytes := jsonString (quoteToASCII s)

theorem qstr_code : Code qstr :=
  (((jsonByte_code.list 0x22 jsonByte_head).cons 0x22).comap fun _ _ => quoteToASCII_inj).congr
    fun s => jsonString_ascii _ (quoteToASCII_lt s)

/-- a marshalled quoted string begins with `"\"` -/
theorem qstr_head (s : Bytes) : ∃ t, qstr s = 0x22 :: 0x5C :: t := by
  unfold qstr jsonString quoteToASCII
  rw [jsonStrGo, if_pos (by decide)]
  exact ⟨_, rfl⟩

/-- behind the first element an array is a run of `,`-led elements closed by `]` -/
theorem jsonArrayTail_eq {α : Type} (g : α → Bytes) : ∀ l : List α,
    jsonArrayTail (l.map g) = l.flatMap (fun a => 0x2C :: g a) ++ [0x5D]
  | [] => rfl
  | a :: l => by simp only [List.map_cons, jsonArrayTail, jsonArrayTail_eq g l, List.flatMap_cons, List.cons_append,
      List.append_assoc]

theorem jsonArrayTail_code {α : Type} {g : α → Bytes} (hg : Code g) : Code fun l : List α => jsonArrayTail (l.map g) :=
  ((hg.cons 0x2C).list 0x5D fun _ => ⟨_, _, rfl, by decide⟩).congr (jsonArrayTail_eq g)

theorem jsonArray_code {α : Type} {g : α → Bytes} (hg : Code g) (hhead : ∀ a, ∃ c t, g a = c :: t ∧ c ≠ 0x5D) :
    Code fun l : List α => jsonArray (l.map g)
  | [], [], x, y, h => by simpa [jsonArray] using h
  | [], b :: l₂, x, y, h => by
    obtain ⟨c, t, hc, hne⟩ := hhead b
    simp only [List.map_nil, List.map_cons, jsonArray, hc, List.cons_append, List.cons.injEq, true_and] at h
    exact absurd h.1.symm hne
  | a :: l₁, [], x, y, h => by
    obtain ⟨c, t, hc, hne⟩ := hhead a
    simp only [List.map_nil, List.map_cons, jsonArray, hc, List.cons_append, List.cons.injEq, true_and] at h
    exact absurd h.1 hne
  | a :: l₁, b :: l₂, x, y, h => by
    obtain ⟨hp, hx⟩ := ((hg.pair (jsonArrayTail_code hg)).cons 0x5B) (a, l₁) (b, l₂) x y h
    exact ⟨by rw [(Prod.mk.inj hp).1, (Prod.mk.inj hp).2], hx⟩

/-- the value of a character of the base64 alphabet -/
def b64Val (c : UInt8) : Nat :=
  if c = 0x2B then 62 else if c = 0x2F then 63 else if c.toNat < 0x3A then c.toNat + 4
  else if c.toNat < 0x5B then c.toNat - 65 else c.toNat - 71

theorem b64Val_char64 : ∀ n : Fin 64, b64Val (b64Char n.1) = n.1 := by decide +kernel

theorem b64Char_inj {n m : Nat} (hn : n < 64) (hm : m < 64) (h : b64Char n = b64Char m) : n = m :=
  (b64Val_char64 ⟨n, hn⟩).symm.trans ((congrArg b64Val h).trans (b64Val_char64 ⟨m, hm⟩))
theorem b64Char_ne64 : ∀ n : Fin 64, b64Char n.1 ≠ 0x3D ∧ b64Char n.1 ≠ 0x22 ∧ b64Char n.1 ≠ 0x5C := by decide +kernel
/-- no character of the alphabet (nor `/`, which `b64Char` gives beyond 63) is `=`, `"` or `\` -/
theorem b64Char_ne (n : Nat) : b64Char n ≠ 0x3D ∧ b64Char n ≠ 0x22 ∧ b64Char n ≠ 0x5C := by
  by_cases hn : n < 64
  · exact b64Char_ne64 ⟨n, hn⟩
  · have : b64Char n = 0x2F := by
      unfold b64Char
      rw [if_neg (by omega), if_neg (by omega), if_neg (by omega), if_neg (by omega)]
    rw [this]; decide

/-- the four sextets of three bytes -/
theorem sextets (a b c : Nat) (ha : a < 256) (hb : b < 256) (hc : c < 256) :
    (a * 65536 + b * 256 + c) / 2 ^ 18 % 64 = a / 4 ∧
    (a * 65536 + b * 256 + c) / 2 ^ 12 % 64 = a % 4 * 16 + b / 16 ∧
    (a * 65536 + b * 256 + c) / 2 ^ 6 % 64 = b % 16 * 4 + c / 64 ∧
    (a * 65536 + b * 256 + c) % 64 = c % 64 := by
  omega

theorem base64_three (a b c : UInt8) (r : Bytes) :
    base64 (a :: b :: c :: r) =
      b64Char (a.toNat / 4) :: b64Char (a.toNat % 4 * 16 + b.toNat / 16) ::
        b64Char (b.toNat % 16 * 4 + c.toNat / 64) :: b64Char (c.toNat % 64) :: base64 r := by
  obtain ⟨e1, e2, e3, e4⟩ := sextets a.toNat b.toNat c.toNat a.toNat_lt b.toNat_lt c.toNat_lt
  rw [base64]
  simp only [or_bytes3 a.toNat b.toNat c.toNat b.toNat_lt c.toNat_lt, and_3F, Nat.shiftRight_eq_div_pow, e1, e2, e3, e4]

/-- two bytes are three with a third byte 0 whose sextet is replaced by the padding … -/
theorem base64_two (a b : UInt8) :
    base64 [a, b] =
      [b64Char (a.toNat / 4), b64Char (a.toNat % 4 * 16 + b.toNat / 16), b64Char (b.toNat % 16 * 4), 0x3D] := by
  obtain ⟨e1, e2, e3, -⟩ := sextets a.toNat b.toNat 0 a.toNat_lt b.toNat_lt (by decide)
  rw [base64]
  simp only [or_bytes2 a.toNat b.toNat b.toNat_lt, and_3F, Nat.shiftRight_eq_div_pow]
  rw [← Nat.add_zero (a.toNat * 65536 + b.toNat * 256), e1, e2, e3]
  rfl

/-- … and one byte is three with two bytes 0 -/
theorem base64_one (a : UInt8) :
    base64 [a] = [b64Char (a.toNat / 4), b64Char (a.toNat % 4 * 16), 0x3D, 0x3D] := by
  obtain ⟨e1, e2, -, -⟩ := sextets a.toNat 0 0 a.toNat_lt (by decide) (by decide)
  rw [base64]
  simp only [Nat.shiftLeft_eq, and_3F, Nat.shiftRight_eq_div_pow]
  rw [show a.toNat * 2 ^ 16 = a.toNat * 65536 + 0 * 256 + 0 by omega, e1, e2]
  rfl

/-- how many bytes the first group of a base64 text in front of a `"` stands for (3: at least three), read off the `"` and
the padding -/
def b64Shape (l : Bytes) : Nat :=
  if l.head? = some 0x22 then 0 else if l[2]? = some 0x3D then 1 else if l[3]? = some 0x3D then 2 else 3

theorem b64Shape_base64 (b x : Bytes) : b64Shape (base64 b ++ 0x22 :: x) = min b.length 3 := by
  match b with
  | [] => rfl
  | [a] =>
    rw [base64_one]
    simp only [b64Shape, List.cons_append, List.head?_cons, Option.some.injEq, (b64Char_ne _).2.1, if_false,
      List.getElem?_cons_succ, List.getElem?_cons_zero, if_true]
    rfl
  | [a, b] =>
    rw [base64_two]
    simp only [b64Shape, List.cons_append, List.head?_cons, Option.some.injEq, (b64Char_ne _).2.1, (b64Char_ne _).1,
      if_false, List.getElem?_cons_succ, List.getElem?_cons_zero, if_true]
    rfl
  | a :: b :: c :: r =>
    rw [base64_three]
    simp only [b64Shape, List.cons_append, List.head?_cons, Option.some.injEq, (b64Char_ne _).2.1, (b64Char_ne _).1,
      if_false, List.getElem?_cons_succ, List.getElem?_cons_zero, List.length_cons]
    omega

/-- the four characters of a group tell its three bytes -/
theorem quad_inj {a b c a' b' c' : UInt8} (h1 : b64Char (a.toNat / 4) = b64Char (a'.toNat / 4))
    (h2 : b64Char (a.toNat % 4 * 16 + b.toNat / 16) = b64Char (a'.toNat % 4 * 16 + b'.toNat / 16))
    (h3 : b64Char (b.toNat % 16 * 4 + c.toNat / 64) = b64Char (b'.toNat % 16 * 4 + c'.toNat / 64))
    (h4 : b64Char (c.toNat % 64) = b64Char (c'.toNat % 64)) : a = a' ∧ b = b' ∧ c = c' := by
  have ha := a.toNat_lt; have ha' := a'.toNat_lt; have hb := b.toNat_lt; have hb' := b'.toNat_lt
  have hc := c.toNat_lt; have hc' := c'.toNat_lt
  have e1 := b64Char_inj (Nat.div_lt_of_lt_mul ha) (Nat.div_lt_of_lt_mul ha') h1
  have e2 := b64Char_inj (by omega) (by omega) h2
  have e3 := b64Char_inj (by omega) (by omega) h3
  have e4 := b64Char_inj (Nat.mod_lt _ (by decide)) (Nat.mod_lt _ (by decide)) h4
  have : a.toNat = a'.toNat ∧ b.toNat = b'.toNat ∧ c.toNat = c'.toNat := by omega
  exact ⟨UInt8.toNat.inj this.1, UInt8.toNat.inj this.2.1, UInt8.toNat.inj this.2.2⟩

/-- **a base64 text in front of a `"` is self-delimiting**: the `"` and the padding tell how many bytes the first
group stands for, the characters tell the bytes -/
theorem base64_prefix : ∀ (b₁ b₂ x y : Bytes), base64 b₁ ++ 0x22 :: x = base64 b₂ ++ 0x22 :: y → b₁ = b₂ ∧ x = y
  | [], [], x, y, h => by simpa [base64] using h
  | [a], [a'], x, y, h => by
    rw [base64_one, base64_one] at h
    simp only [List.nil_append, List.cons_append, List.cons.injEq, true_and] at h
    rw [(quad_inj (b := 0) (c := 0) (b' := 0) (c' := 0) h.1 h.2.1 rfl rfl).1]; exact ⟨rfl, h.2.2⟩
  | [a, b], [a', b'], x, y, h => by
    rw [base64_two, base64_two] at h
    simp only [List.nil_append, List.cons_append, List.cons.injEq, true_and] at h
    obtain ⟨rfl, rfl, -⟩ := quad_inj (c := 0) (c' := 0) h.1 h.2.1 h.2.2.1 rfl
    exact ⟨rfl, h.2.2.2⟩
  | a :: b :: c :: r, a' :: b' :: c' :: r', x, y, h => by
    rw [base64_three, base64_three] at h
    simp only [List.cons_append, List.cons.injEq] at h
    obtain ⟨rfl, rfl, rfl⟩ := quad_inj h.1 h.2.1 h.2.2.1 h.2.2.2.1
    obtain ⟨rfl, hx⟩ := base64_prefix r r' x y h.2.2.2.2
    exact ⟨rfl, hx⟩
  | [], _ :: _, x, y, h | _ :: _, [], x, y, h | [_], _ :: _ :: _, x, y, h | _ :: _ :: _, [_], x, y, h
  | [_, _], _ :: _ :: _ :: _, x, y, h | _ :: _ :: _ :: _, [_, _], x, y, h => by
    have hs := congrArg b64Shape h
    rw [b64Shape_base64, b64Shape_base64] at hs
    simp only [List.length_cons, List.length_nil] at hs; omega

theorem natDigits_all (k : Nat) : ∀ c ∈ natDigits k, isDigit c = true := by
  have := (natDigits_spec k).2.1
  simpa [List.all_eq_true] using this

theorem natDigits_inj {a b : Nat} (h : natDigits a = natDigits b) : a = b := by
  have ha := (natDigits_spec a).1
  have hb := (natDigits_spec b).1
  rw [h] at ha; omega

theorem natDigits_prefix (a b : Nat) (x y : Bytes)
    (h : natDigits a ++ 0x5D :: x = natDigits b ++ 0x5D :: y) : a = b ∧ x = y := by
  obtain ⟨hl, hx⟩ := span_inj (fun c => isDigit c = true) 0x5D (by decide) _ _ x y
    (natDigits_all a) (natDigits_all b) h
  exact ⟨natDigits_inj hl, hx⟩

theorem dec_prefix (n m : Int) (x y : Bytes) (h : dec n ++ 0x5D :: x = dec m ++ 0x5D :: y) :
    n = m ∧ x = y := by
  unfold dec at h
  by_cases hn : n < 0 <;> by_cases hm : m < 0
  · rw [if_pos hn, if_pos hm] at h
    simp only [List.cons_append, List.cons.injEq, true_and] at h
    obtain ⟨he, hx⟩ := natDigits_prefix _ _ x y h
    exact ⟨by omega, hx⟩
  · rw [if_pos hn, if_neg hm] at h
    obtain ⟨d, ds, hd, hdig⟩ := natDigits_cons m.toNat
    rw [hd] at h
    simp only [List.cons_append, List.cons.injEq] at h
    rw [← h.1] at hdig; exact absurd hdig (by decide)
  · rw [if_neg hn, if_pos hm] at h
    obtain ⟨d, ds, hd, hdig⟩ := natDigits_cons n.toNat
    rw [hd] at h
    simp only [List.cons_append, List.cons.injEq] at h
    rw [h.1] at hdig; exact absurd hdig (by decide)
  · rw [if_neg hn, if_neg hm] at h
    obtain ⟨he, hx⟩ := natDigits_prefix _ _ x y h
    exact ⟨by omega, hx⟩

/-- first byte of a decimal integer: `-` or a digit -/
theorem dec_head (n : Int) : ∃ d ds, dec n = d :: ds ∧ (d = 0x2D ∨ isDigit d = true) := by
  unfold dec
  by_cases hn : n < 0
  · rw [if_pos hn]; exact ⟨_, _, rfl, .inl rfl⟩
  · rw [if_neg hn]
    obtain ⟨d, ds, hd, hdig⟩ := natDigits_cons n.toNat
    exact ⟨d, ds, hd, .inr hdig⟩

/-- `exact` of a value, marshalled -/
def jv (v : Value) : Bytes := jsonValue (exact v)

theorem jv_str (s : Bytes) : jv (.str s) = qstr s := rfl
theorem jv_strs (l : List Bytes) : jv (.strs l) = jsonArray (l.map qstr) := by
  simp only [jv, exact, jsonValue, List.map_map]; rfl
theorem jv_bytes (b : Bytes) : jv (.bytes b) = 0x22 :: (base64 b ++ [0x22]) := rfl
theorem jv_int (n : Int) : jv (.int n) = dec n := rfl

/-- the kind of a marshalled value, read off the first two bytes of a text that begins with it -/
def kindOfHead (l : Bytes) : Kind :=
  if l.head? = some 0x22 then (if l[1]? = some 0x5C then .str else .bytes)
  else if l.head? = some 0x5B then .strs
  else if l.head? = some 0x74 ∨ l.head? = some 0x66 then .bool
  else .int

theorem base64_head (b : Bytes) (z : Bytes) : ∃ c t, base64 b ++ 0x22 :: z = c :: t ∧ c ≠ 0x5C := by
  match b with
  | [] => exact ⟨_, _, rfl, by decide⟩
  | [a] => rw [base64_one]; exact ⟨_, _, rfl, (b64Char_ne _).2.2⟩
  | [a, b] => rw [base64_two]; exact ⟨_, _, rfl, (b64Char_ne _).2.2⟩
  | a :: b :: c :: r => rw [base64_three]; exact ⟨_, _, rfl, (b64Char_ne _).2.2⟩

/-- **the first two bytes of a marshalled value (followed by `]`) tell its kind** -/
theorem jv_kind (v : Value) (x : Bytes) : kindOfHead (jv v ++ 0x5D :: x) = v.kind := by
  cases v with
  | str s =>
    obtain ⟨t, ht⟩ := qstr_head s
    rw [jv_str, ht]; rfl
  | strs l => rw [jv_strs]; cases l <;> rfl
  | bool b => cases b <;> rfl
  | int n =>
    obtain ⟨d, ds, hd, hdig⟩ := dec_head n
    have h1 : d ≠ 0x22 := by rintro rfl; revert hdig; decide
    have h2 : d ≠ 0x5B := by rintro rfl; revert hdig; decide
    have h3 : ¬ (d = 0x74 ∨ d = 0x66) := by
      rintro (rfl | rfl) <;> revert hdig <;> decide
    simp only [jv_int, hd, kindOfHead, List.cons_append, List.head?_cons, Option.some.injEq, h1, h2, h3, if_false, Value.kind]
  | bytes b =>
    obtain ⟨c, t, hc, hne⟩ := base64_head b (0x5D :: x)
    simp only [jv_bytes, List.cons_append, List.append_assoc, List.nil_append, hc, kindOfHead, List.head?_cons,
      List.getElem?_cons_succ, List.getElem?_cons_zero, Option.some.injEq, if_true, hne, if_false, Value.kind]

theorem jv_prefix (v₁ v₂ : Value) (x y : Bytes) (h : jv v₁ ++ 0x5D :: x = jv v₂ ++ 0x5D :: y) :
    v₁ = v₂ ∧ x = y := by
  have hk : v₁.kind = v₂.kind := by rw [← jv_kind v₁ x, ← jv_kind v₂ y, h]
  cases v₁ <;> cases v₂ <;> simp only [Value.kind, reduceCtorEq] at hk
  case str.str s₁ s₂ =>
    obtain ⟨hs, hx⟩ := qstr_code _ _ _ _ h
    exact ⟨by rw [hs], (List.cons.inj hx).2⟩
  case strs.strs l₁ l₂ =>
    rw [jv_strs, jv_strs] at h
    obtain ⟨hl, hx⟩ := jsonArray_code qstr_code (fun s => (qstr_head s).elim fun _ ht => ⟨_, _, ht, by decide⟩) l₁ l₂ _ _ h
    exact ⟨by rw [hl], (List.cons.inj hx).2⟩
  case bool.bool b₁ b₂ =>
    cases b₁ <;> cases b₂ <;>
      simp only [jv, exact, jsonValue, List.cons_append, List.nil_append, List.cons.injEq, true_and] at h
    · exact ⟨rfl, h⟩
    · exact absurd h.1 (by decide)
    · exact absurd h.1 (by decide)
    · exact ⟨rfl, h⟩
  case int.int n m =>
    rw [jv_int, jv_int] at h
    obtain ⟨hn, hx⟩ := dec_prefix n m x y h
    exact ⟨by rw [hn], hx⟩
  case bytes.bytes b₁ b₂ =>
    rw [jv_bytes, jv_bytes] at h
    simp only [List.cons_append, List.append_assoc, List.nil_append, List.cons.injEq, true_and] at h
    obtain ⟨hb, hx⟩ := base64_prefix b₁ b₂ _ _ h
    simp only [List.cons.injEq, true_and] at hx
    exact ⟨by rw [hb], hx⟩

/-- `tuple{exact(t[0]), exact(t[1])}`, marshalled -/
def jt (t : Tuple) : Bytes := jsonTuple (exactTuple t)

theorem jt_eq (t : Tuple) : jt t = 0x5B :: (qstr t.1 ++ 0x2C :: (jv t.2 ++ [0x5D])) := rfl

theorem jt_code : Code jt := ((qstr_code.pair ((Code.of_term jv_prefix).cons 0x2C)).cons 0x5B).congr jt_eq

theorem jt_head (t : Tuple) : ∃ c u, jt t = c :: u ∧ c ≠ 0x5D := ⟨_, _, jt_eq t, by decide⟩

theorem encodePayload_eq (p : Payload) : encodePayload p = jsonArray (p.map jt) := by
  simp only [encodePayload, jsonOfPayload, List.map_map]; rfl

theorem encodePayload_code : Code encodePayload := (jsonArray_code jt_code jt_head).congr encodePayload_eq

end Gts.KeyEnc
