/-
  C07, record scanners: the S-invariant, for parsers that `Clear` the stack or `Pop` on a possibly
  empty one (the GenBank field parsers do both), so that the frame invariant "never pop a caller's
  frame" of `Gts.Lemmas.ParsSafe` is too strong for them.

  `Fr L [] 0 s`: EVERY saved position and the current one have at most `L` bytes left, and the saved
  positions are `Sorted`.  It is kept by every primitive including `Pop`, `Drop` and `Trail` on an
  empty stack and `Clear` (`SafeS.pop` … `wps_trail`); under it `pars.Trail` cannot hit its slice panic.

  `SafeS L p`: started in such a state, `p` does not panic and ends in such a state.  A parser that
  has the forward judgement of `Gts.Lemmas.ParsProgress` has it for every `L` (`Fwd.safeS`); the
  field parsers are taken apart under that judgement (`Gts.Lemmas.GbProgress`).
-/
import Gts.Lemmas.ParsSafe2
namespace Gts.Pars

variable {L : Nat} {s : PS}

theorem Fr.mk0 (hall : ∀ f ∈ s.stk, f.length ≤ L) (hle : s.rest.length ≤ L)
    (hsrt : Sorted s.rest.length s.stk) : Fr L [] 0 s :=
  ⟨⟨s.stk, by simp, Nat.zero_le _, hall⟩, hle, hsrt⟩

theorem Fr.all0 (h : Fr L [] 0 s) : ∀ f ∈ s.stk, f.length ≤ L := by
  obtain ⟨e, h1, _, h3⟩ := h.ex
  rw [List.append_nil] at h1
  rw [h1]; exact h3

theorem Fr.toS {base n} (h : Fr L base n s) (hb : ∀ f ∈ base, f.length ≤ L) : Fr L [] 0 s := by
  obtain ⟨e, h1, _, h3⟩ := h.ex
  refine Fr.mk0 ?_ h.le h.srt
  intro f hf
  rw [h1, List.mem_append] at hf
  rcases hf with hf | hf
  · exact h3 f hf
  · exact hb f hf

theorem Fr.cleared {base n} (h : Fr L base n s) : Fr L [] 0 { s with stk := [] } :=
  Fr.mk0 (fun _ hf => nomatch hf) h.le trivial

def SafeS {α} (L : Nat) (p : P α) : Prop :=
  ∀ s, Fr L [] 0 s → WP p (Std L [] 0) s

theorem SafeS.push : SafeS L push := fun _ h => wp_push h fun _ h' => std_ok h'.weaken

theorem SafeS.pop : SafeS L pop := fun s h => by
  unfold WP; rw [run_pop]
  cases hs : s.stk with
  | nil => exact std_ok h
  | cons f st =>
    have hall := h.all0
    have hsrt := h.srt
    rw [hs] at hall hsrt
    exact std_ok (Fr.mk0 (fun g hg => hall g (List.mem_cons_of_mem _ hg)) (hall f (List.mem_cons_self ..))
      hsrt.2)

theorem SafeS.drop : SafeS L drop := fun s h => by
  have hsrt := h.srt
  refine std_ok (Fr.mk0 (fun g hg => h.all0 g (List.mem_of_mem_drop hg)) h.le ?_)
  show Sorted s.rest.length (s.stk.drop 1)
  cases hs : s.stk with
  | nil => trivial
  | cons f st => rw [hs] at hsrt; exact hsrt.tail

theorem SafeS.clear : SafeS L clear := fun _ h => std_ok h.cleared

theorem wps_trail {Q} (h : Fr L [] 0 s)
    (k : ∀ v s', Fr L [] 0 s' → Q (.ok v) s') : WP trail Q s := by
  unfold WP; rw [run_trail]
  cases hs : s.stk with
  | nil => exact k _ _ h
  | cons f st =>
    have hall := h.all0
    have hsrt := h.srt
    rw [hs] at hall hsrt
    have : ¬ f.length < s.rest.length := Nat.not_lt.mpr hsrt.1
    simp only [this, if_false]
    apply k
    have hl : (f.drop (f.length - s.rest.length)).length = s.rest.length := by
      rw [List.length_drop]; have := hsrt.1; omega
    refine Fr.mk0 (fun g hg => hall g (List.mem_cons_of_mem _ hg)) ?_ ?_
    · show (f.drop _).length ≤ L; rw [hl]; exact h.le
    · show Sorted (f.drop _).length _; rw [hl]; exact hsrt.tail

theorem wps_setS {Q} (t : PS) (k : Q (.ok ()) t) : WP (setS t) Q s := k

end Gts.Pars
