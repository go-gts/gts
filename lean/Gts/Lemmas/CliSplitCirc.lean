/-
  Helper lemmas for the FEATURE clause of circular `gts split` (C15): the windows of the pieces
  on a circle (`last cut, cuts…`: the first window runs across the origin), their position
  re-mapping `cwinMap`, the partition of the positions, and the shape of the written pieces.
  Core Lean only (plus the C02 / C03 / C04 property modules `Gts/Lemmas/CliFeatures.lean` already uses).
-/
import Gts.Lemmas.Cli
import Gts.Lemmas.CliFeatures
namespace Gts.Cli
open Gts Loc Reg

/-- position `x` lies in the window from `a` to `b` on a circle: `[a, b)` when `a ≤ b`, else
`[a, …) ∪ […, b)` (across the origin) -/
def cwinHas (a b x : Int) : Prop := if a ≤ b then a ≤ x ∧ x < b else a ≤ x ∨ x < b

instance (a b x : Int) : Decidable (cwinHas a b x) := by unfold cwinHas; infer_instance

/-- position re-mapping of the piece from `a` to `b` of a circular record of length `L`: the
forward window map when `a ≤ b`; across the origin (`b < a`) the positions from `a` on come
first, then those before `b` -/
def cwinMap (L a b x : Int) : Option Int :=
  if a ≤ b then winMap a b x
  else if a ≤ x then some (x - a) else if x < b then some (x + L - a) else none

theorem cwinMap_fwd (L : Int) {a b : Int} (h : a ≤ b) : cwinMap L a b = winMap a b :=
  funext fun _ => if_pos h

theorem cwinMap_wrap (L : Int) {a b : Int} (h : b < a) (x : Int) :
    cwinMap L a b x = if a ≤ x then some (x - a) else if x < b then some (x + L - a) else none :=
  if_neg (by omega)

theorem cwinMap_isSome_iff (L a b x : Int) : (cwinMap L a b x).isSome ↔ cwinHas a b x := by
  unfold cwinMap cwinHas winMap
  by_cases h : a ≤ b
  · simp only [h, if_true]
    split <;> simp_all
  · simp only [h, if_false]
    by_cases h1 : a ≤ x
    · simp [h1]
    · by_cases h2 : x < b <;> simp [h1, h2]

theorem wrap_remap_eq (L a b : Int) (hb : 0 ≤ b) (hba : b < a) (haL : a ≤ L) (d : List Pos)
    (hpos : ∀ p ∈ d, 0 ≤ p.1 ∧ p.1 < L) :
    filterMapPos (winMap 0 (L - a + b)) (mapPos (rotMap (-a) L) d) = filterMapPos (cwinMap L a b) d := by
  rw [filterMapPos_wrap a b L hb hba haL d hpos]
  apply filterMapPos_congr
  intro p hp
  -- inside the record the two piecewise forms differ by the bounds `0 ≤ x`, `x < L` only
  rw [wrapMap_cases a b L p.1 hb hba haL, cwinMap_wrap L hba]
  simp only [(hpos p hp).1, (hpos p hp).2, and_true, true_and, Int.add_sub_assoc]

/-- the cut list of circular split with at least two distinct cuts: `last, cuts…` -/
theorem split_circular_windows (loc : Seq → List Reg) (s : Seq)
    (h2 : 2 ≤ (sortAscU ((loc s).map cutOf)).length) (c : Int)
    (hc : (sortAscU ((loc s).map cutOf)).getLast? = some c) :
    split loc true s =
      (windows (c :: sortAscU ((loc s).map cutOf))).map fun w => s.slice w.1 w.2 := by
  cases hl : loc s with
  | nil => rw [hl] at h2; simp [sortAscU] at h2
  | cons r0 rest =>
    rw [hl] at h2 hc
    have hne : ¬ ((r0 :: rest).length = 1 ∧ True) := by
      rintro ⟨h1, _⟩
      cases rest with
      | nil => simp [sortAscU, insertAscU] at h2
      | cons _ _ => simp at h1
    have hne2 : ¬ (True ∧ (sortAscU ((r0 :: rest).map cutOf)).length = 1) := by
      rintro ⟨_, h1⟩; omega
    simp only [split, hl]
    rw [if_neg hne, if_neg hne2, hc, ← pieces_eq_map]
    rfl

/-- **the circular windows partition the circle**: for strictly increasing cuts `a < … < c`
inside `[0, L]` (at least two), every position `0 ≤ x < L` lies in exactly one window of
`c, a, …, c` — the wrap-around window `(c, a)` or one of the forward windows -/
theorem cwindow_partition (heads : List Int) (hs : heads.Pairwise (fun x y => x < y))
    (h2 : 2 ≤ heads.length) (c : Int) (hc : heads.getLast? = some c) (x : Int) :
    ∃ w ∈ windows (c :: heads), cwinHas w.1 w.2 x ∧
      ∀ w' ∈ windows (c :: heads), cwinHas w'.1 w'.2 x → w' = w := by
  match heads, h2 with
  | a :: b :: t, _ =>
    have hle : (a :: b :: t).Pairwise (fun x y => x ≤ y) := hs.imp (fun h => Int.le_of_lt h)
    have hcm : c ∈ b :: t := List.mem_of_getLast? (List.getLast?_cons_cons ▸ hc)
    have hac : a < c := (List.pairwise_cons.mp hs).1 c hcm
    have hfw := window_mem a (b :: t) c hle hc
    rw [windows_cons_cons]
    by_cases hx : a ≤ x ∧ x < c
    · obtain ⟨w, hwm, hwx, huniq⟩ := windows_partition a (b :: t) c hle hc x hx.1 hx.2
      have hb := hfw w hwm
      refine ⟨w, List.mem_cons_of_mem _ hwm, ?_, ?_⟩
      · unfold cwinHas; rw [if_pos hb.2.1]; exact hwx
      · intro w' hw' hh
        rcases List.mem_cons.mp hw' with rfl | hw'
        · exfalso
          unfold cwinHas at hh
          simp only at hh
          rw [if_neg (by omega)] at hh
          omega
        · have hb' := hfw w' hw'
          unfold cwinHas at hh
          rw [if_pos hb'.2.1] at hh
          exact huniq w' hw' hh
    · refine ⟨(c, a), List.mem_cons_self .., ?_, ?_⟩
      · unfold cwinHas; simp only; rw [if_neg (by omega)]; omega
      · intro w' hw' hh
        rcases List.mem_cons.mp hw' with rfl | hw'
        · rfl
        · exfalso
          have hb' := hfw w' hw'
          unfold cwinHas at hh
          rw [if_pos hb'.2.1] at hh
          omega

/-- the location `gts.Rotate(seq, -a)` gives a feature location (`Expand(0, n)` with the reduced
amount, then `Normalize(L)`) -/
def rotLoc (l : Loc) (a L : Int) : Loc := (l.expand 0 (C04.rotN (-a) L)).normalize L

theorem rotLoc_facts (l : Loc) (a L : Int) (hL : 0 < L) (hw : wf l = true) (hnn : nonneg l = true)
    (hok : normOk L (l.expand 0 (C04.rotN (-a) L)) = true) :
    wf (rotLoc l a L) = true ∧
    (expandAbs l 0 (C04.rotN (-a) L) = false → normalizeAbs (l.expand 0 (C04.rotN (-a) L)) L = false →
      den (rotLoc l a L) ≼ mapPos (rotMap (-a) L) (den l)) :=
  ⟨(normalize_mod _ L hL (expand_ins l 0 _ hw (C04.rotN_nonneg _ L hL)).2 hok).2,
    fun g1 g2 => (C04.rotN_den_partial l (-a) L hL hw hnn hok g1 g2).1⟩

/-- the K2 guard of the piece for the window `w` of a circular record of length `L`: a forward
window is one `gts.Slice` (two `Expand`s); the window across the origin is `gts.Rotate(seq, -w.1)`
(`Expand`, `Normalize`) followed by the forward `gts.Slice` `[0, L - w.1 + w.2)` -/
def cwinAbs (L : Int) (l : Loc) (w : Int × Int) : Bool :=
  if w.1 ≤ w.2 then expandAbs l w.2 (w.2 - L) || expandAbs (l.expand w.2 (w.2 - L)) 0 (-w.1)
  else expandAbs l 0 (C04.rotN (-w.1) L) || normalizeAbs (l.expand 0 (C04.rotN (-w.1) L)) L ||
    expandAbs (rotLoc l w.1 L) (L - w.1 + w.2) (L - w.1 + w.2 - L) ||
    expandAbs ((rotLoc l w.1 L).expand (L - w.1 + w.2) (L - w.1 + w.2 - L)) 0 (-0)

/-- where circular `gts split` opens the circle when it writes ONE piece: the head of the only
located region, else the only distinct cut -/
def splitOrigin (loc : Seq → List Reg) (s : Seq) : Int :=
  if (loc s).length = 1 then Reg.headList (loc s) else (sortAscU ((loc s).map cutOf)).headD 0

theorem split_circular_one (loc : Seq → List Reg) (s : Seq) (hne : loc s ≠ [])
    (h1 : (loc s).length = 1 ∨ (sortAscU ((loc s).map cutOf)).length = 1) :
    split loc true s = [s.rotate (-(splitOrigin loc s))] := by
  cases hl : loc s with
  | nil => exact absurd hl hne
  | cons r0 rest =>
    rw [hl] at h1
    simp only [split, splitOrigin, hl]
    by_cases hc : (r0 :: rest).length = 1
    · rw [if_pos ⟨hc, trivial⟩, if_pos hc]; rfl
    · rw [if_neg (fun h => hc h.1), if_neg hc]
      rcases h1 with h1 | h1
      · exact absurd h1 hc
      · rw [if_pos ⟨trivial, h1⟩]

end Gts.Cli
