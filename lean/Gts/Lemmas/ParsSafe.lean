/-
  A small program logic for the `pars` state model (`Gts.Model.Pars`), used by C07:

  * `Sorted`: every saved position lies at or before the younger ones and the current one
    (as remaining-input lengths: `rest ≤ top ≤ … ≤ bottom`).  Every primitive keeps it, and under
    it `pars.Trail` cannot hit its slice panic.
  * `Fr L base n s`: the stack of `s` is `extra ++ base` with at least `n` extra frames, the
    extra frames and the current position have at most `L` bytes left.  "A parser entered with
    `Fr L base n` leaves with `Fr L base n`" says at once: it never pops a frame of its caller
    (frames leak, they are never over-popped), it never moves the position before its entry
    point, and it keeps `Sorted`.
  * `WP p Q s`: the post-condition `Q` holds for the outcome and final state of `p` on `s`.
-/
import Gts.Model.Locator
import Gts.Lemmas.ModText
import Gts.Lemmas.ParsFrame
namespace Gts.Pars

theorem run_bind {α β} (p : P α) (f : α → P β) (s : PS) :
    (p >>= f).run' s = match p.run' s with
      | (.ok a, s') => (f a).run' s'
      | (.error e, s') => (.error e, s') := P.bind_run p f s

theorem run_pure {α} (a : α) (s : PS) : (pure a : P α).run' s = (.ok a, s) := rfl
theorem run_fail {α} (s : PS) : (fail : P α).run' s = (.error .fail, s) := rfl
theorem run_panic {α} (s : PS) : (panic : P α).run' s = (.error .panic, s) := rfl
theorem run_getS (s : PS) : getS.run' s = (.ok s, s) := rfl
theorem run_setS (t s : PS) : (setS t).run' s = (.ok (), t) := rfl

theorem run_push (s : PS) : push.run' s = (.ok (), { s with stk := s.rest :: s.stk }) := rfl
theorem run_drop (s : PS) : drop.run' s = (.ok (), { s with stk := s.stk.drop 1 }) := rfl
theorem run_clear (s : PS) : clear.run' s = (.ok (), { s with stk := [] }) := rfl
theorem run_advance1 (s : PS) : advance1.run' s = (.ok (), { s with rest := s.rest.drop 1 }) := rfl
theorem run_advanceN (k : Nat) (s : PS) :
    (advanceN k).run' s = (.ok (), { s with rest := s.rest.drop k }) := rfl
theorem run_skipWhile (f : UInt8 → Bool) (s : PS) :
    (skipWhile f).run' s = (.ok (), { s with rest := s.rest.dropWhile f }) := rfl

theorem run_pop (s : PS) : pop.run' s = match s.stk with
    | [] => (.ok (), s)
    | r :: st => (.ok (), { rest := r, stk := st }) := by
  unfold pop
  rw [run_bind, run_getS]
  dsimp only
  cases s.stk <;> rfl

theorem run_next (s : PS) : next.run' s = match s.rest with
    | [] => (.error .fail, s)
    | c :: _ => (.ok c, s) := by
  unfold next
  rw [run_bind, run_getS]
  dsimp only
  cases s.rest <;> rfl

theorem run_request (k : Nat) (s : PS) : (request k).run' s =
    if s.rest.length < k then (.error .fail, s) else (.ok (s.rest.take k), s) := by
  unfold request
  rw [run_bind, run_getS]
  dsimp only
  show (if s.rest.length < k then fail else pure (s.rest.take k) : P Bytes).run' s = _
  split <;> rfl

theorem run_trail (s : PS) : trail.run' s = match s.stk with
    | [] => (.ok [], s)
    | saved :: st =>
      if saved.length < s.rest.length then (.error .panic, s)
      else (.ok (saved.take (saved.length - s.rest.length)),
            { rest := saved.drop (saved.length - s.rest.length), stk := st }) := by
  unfold trail
  rw [run_bind, run_getS]
  dsimp only
  cases s.stk with
  | nil => rfl
  | cons saved st =>
    dsimp only
    by_cases hc : saved.length < s.rest.length
    · simp only [hc, if_true]; rfl
    · simp only [hc, if_false]; rfl

theorem run_attempt {α} (p : P α) (s : PS) : (attempt p).run' s = match p.run' s with
    | (.ok a, s') => (.ok (some a), s')
    | (.error .fail, s') => (.ok none, s')
    | (.error .panic, s') => (.error .panic, s') := by
  rfl

def WP {α} (p : P α) (Q : Except Err α → PS → Prop) (s : PS) : Prop :=
  Q (p.run' s).1 (p.run' s).2

theorem wp_bind {α β} (p : P α) (f : α → P β) (Q) (s : PS) :
    WP (p >>= f) Q s ↔ WP p (fun r s' => match r with
      | .ok a => WP (f a) Q s'
      | .error e => Q (.error e) s') s := by
  unfold WP
  rw [run_bind]
  cases h : p.run' s with
  | mk r s' => cases r <;> rfl

theorem wp_attempt_iff {α} (p : P α) (Q) (s : PS) :
    WP (attempt p) Q s ↔ WP p (fun r s' => match r with
      | .ok a => Q (.ok (some a)) s'
      | .error .fail => Q (.ok none) s'
      | .error .panic => Q (.error .panic) s') s := by
  unfold WP
  rw [run_attempt]
  rcases p.run' s with ⟨(_ | _) | _, _⟩ <;> rfl

theorem wp_pure {α} (a : α) (Q) (s : PS) : WP (pure a : P α) Q s ↔ Q (.ok a) s := Iff.rfl
theorem wp_fail {α} (Q) (s : PS) : WP (fail : P α) Q s ↔ Q (.error .fail) s := Iff.rfl

theorem wp_map {α β} (g : α → β) (p : P α) (Q) (s : PS) :
    WP (g <$> p) Q s ↔ WP p (fun r s' => match r with
      | .ok a => Q (.ok (g a)) s'
      | .error e => Q (.error e) s') s := by
  unfold WP
  rw [show (g <$> p).run' s = _ from P.map_run g p s, show p.run' s = p s from rfl]
  rcases p s with ⟨_ | _, _⟩ <;> rfl

def Sorted : Nat → List Bytes → Prop
  | _, [] => True
  | n, f :: st => n ≤ f.length ∧ Sorted f.length st

theorem Sorted.mono {n m : Nat} {st} (h : Sorted n st) (hm : m ≤ n) : Sorted m st := by
  cases st with
  | nil => trivial
  | cons f st => exact ⟨Nat.le_trans hm h.1, h.2⟩

theorem Sorted.tail {n : Nat} {f st} (h : Sorted n (f :: st)) : Sorted n st :=
  h.2.mono h.1

structure Fr (L : Nat) (base : List Bytes) (n : Nat) (s : PS) : Prop where
  ex : ∃ extra, s.stk = extra ++ base ∧ n ≤ extra.length ∧ ∀ f ∈ extra, f.length ≤ L
  le : s.rest.length ≤ L
  srt : Sorted s.rest.length s.stk

theorem Fr.weaken {L base n s} (h : Fr L base (n+1) s) : Fr L base n s :=
  ⟨by obtain ⟨e, h1, h2, h3⟩ := h.ex; exact ⟨e, h1, by omega, h3⟩, h.le, h.srt⟩

theorem Fr.initL {s : PS} {L} (h : Sorted s.rest.length s.stk) (hL : s.rest.length ≤ L) :
    Fr L s.stk 0 s :=
  ⟨⟨[], rfl, Nat.le_refl _, fun _ hf => nomatch hf⟩, hL, h⟩

theorem Fr.init {s : PS} (h : Sorted s.rest.length s.stk) : Fr s.rest.length s.stk 0 s :=
  .initL h (Nat.le_refl _)

theorem Fr.advance {L base n s} (h : Fr L base n s) (r : Bytes) (hr : r.length ≤ s.rest.length) :
    Fr L base n { s with rest := r } :=
  ⟨h.ex, Nat.le_trans hr h.le, h.srt.mono hr⟩

def Std {α} (L : Nat) (base : List Bytes) (n : Nat) : Except Err α → PS → Prop :=
  fun r s' => r ≠ .error .panic ∧ Fr L base n s'

def Safe {α} (p : P α) : Prop :=
  ∀ L base n s, Fr L base n s → WP p (Std L base n) s

variable {L : Nat} {base : List Bytes} {n : Nat} {s : PS}

theorem wp_push {Q} (h : Fr L base n s)
    (k : ∀ s', Fr L base (n+1) s' → Q (.ok ()) s') : WP push Q s := by
  apply k
  obtain ⟨e, h1, h2, h3⟩ := h.ex
  refine ⟨⟨s.rest :: e, ?_, ?_, ?_⟩, h.le, ?_⟩
  · show s.rest :: s.stk = _; rw [h1]; rfl
  · simp; omega
  · intro f hf; cases hf with
    | head => exact h.le
    | tail _ hf => exact h3 f hf
  · exact ⟨Nat.le_refl _, h.srt⟩

theorem Fr.uncons (h : Fr L base (n+1) s) : ∃ f st, s.stk = f :: st ∧ f.length ≤ L ∧
    Sorted s.rest.length (f :: st) ∧
    ∀ r : Bytes, r.length ≤ L → Sorted r.length st → Fr L base n ⟨r, st⟩ := by
  obtain ⟨e, h1, h2, h3⟩ := h.ex
  cases e with
  | nil => simp at h2
  | cons f e =>
    exact ⟨f, e ++ base, h1, h3 f (List.mem_cons_self ..), by rw [← List.cons_append, ← h1]; exact h.srt, fun r hr hs =>
      ⟨⟨e, rfl, by simpa using h2, fun g hg => h3 g (List.mem_cons_of_mem _ hg)⟩, hr, hs⟩⟩

theorem wp_getS {Q} (k : Q (.ok s) s) : WP getS Q s := k

theorem std_ok {α} {a : α} {s'} (h : Fr L base n s') : Std L base n (.ok a) s' :=
  ⟨fun h' => (nomatch h'), h⟩
theorem std_fail {α} {s'} (h : Fr L base n s') : Std (α := α) L base n (.error .fail) s' :=
  ⟨fun h' => (nomatch h'), h⟩

theorem wp_std {α} {p : P α} {Q} (hp : WP p (Std L base n) s)
    (kok : ∀ a s', Fr L base n s' → Q (.ok a) s')
    (kf : ∀ s', Fr L base n s' → Q (.error .fail) s') : WP p Q s := by
  unfold WP Std at *
  cases hr : (p.run' s).1 with
  | ok a => exact kok a _ hp.2
  | error e =>
    cases e with
    | fail => exact kf _ hp.2
    | panic => exact absurd hr hp.1

theorem wp_safe {α} {p : P α} {Q} (hp : Safe p) (h : Fr L base n s)
    (kok : ∀ a s', Fr L base n s' → Q (.ok a) s')
    (kf : ∀ s', Fr L base n s' → Q (.error .fail) s') : WP p Q s :=
  wp_std (hp L base n s h) kok kf

/-! ### `Safe` is closed under the monad structure

Entry and exit invariant of `Safe` are the same, so a parser put together from safe parts by
`>>=`, `attempt`, `<$>` and case distinctions is safe by a decomposition that follows its text; only
parsers that use `push` / `pop` / `drop` / `trail` directly need `Framed` below. -/

theorem Safe.bind {α β} {p : P α} {f : α → P β} (hp : Safe p) (hf : ∀ a, Safe (f a)) :
    Safe (p >>= f) := fun L base n s h => by
  rw [wp_bind]
  exact wp_safe hp h (fun a s' h' => hf a L base n s' h') (fun _ h' => std_fail h')

theorem Safe.pure {α} (a : α) : Safe (Pure.pure a : P α) := fun _ _ _ _ h => std_ok h
theorem Safe.fail {α} : Safe (fail : P α) := fun _ _ _ _ h => std_fail h
theorem Safe.getS : Safe getS := fun _ _ _ _ h => std_ok h

theorem Safe.attempt {α} {p : P α} (hp : Safe p) : Safe (attempt p) := fun L base n s h => by
  rw [wp_attempt_iff]
  exact wp_std (hp L base n s h) (fun _ _ h' => std_ok h') fun _ h' => std_ok h'

theorem Safe.map {α β} (g : α → β) {p : P α} (hp : Safe p) : Safe (g <$> p) := fun L base n s h => by
  rw [wp_map]
  exact wp_safe hp h (fun _ _ h' => std_ok h') (fun _ h' => std_fail h')

/-- `match ← attempt p with | some a => … | none => …` -/
theorem Safe.attempt_bind {α β} {p : P α} {k : Option α → P β} (hp : Safe p)
    (hs : ∀ a, Safe (k (some a))) (hn : Safe (k none)) : Safe (Pars.attempt p >>= k) :=
  .bind hp.attempt fun | some a => hs a | none => hn

theorem Safe.ite {α} {p q : P α} (c : Prop) [Decidable c] (hp : Safe p) (hq : Safe q) :
    Safe (if c then p else q) := by
  split <;> assumption

theorem Safe.fail_bind {α β} {f : α → P β} : Safe (Pars.fail >>= f) := fun _ _ _ _ h => std_fail h

theorem Safe.pushed : Safe pushed := fun _ _ _ _ h => std_ok h
theorem Safe.advance1 : Safe advance1 := fun _ _ _ _ h => std_ok (h.advance _ (by simp))
theorem Safe.advanceN (m : Nat) : Safe (advanceN m) := fun _ _ _ _ h => std_ok (h.advance _ (by simp))
theorem Safe.skipWhile (f : UInt8 → Bool) : Safe (skipWhile f) := fun _ _ _ s h =>
  std_ok (h.advance (s.rest.dropWhile f) (List.dropWhile_sublist f).length_le)

/-! ### parsers with frames of their own

`Framed d e p`: entered with `d` frames of its own on top of the caller's, `p` leaves `e` of them when
it succeeds and none when it fails, and it does not panic.  `Safe` is `Framed 0 0`.  In a proof term
built from the rules below the frame counts are found by unification. -/

def Exit {α} (L : Nat) (base : List Bytes) (n e : Nat) : Except Err α → PS → Prop
  | .ok _, s' => Fr L base (n + e) s'
  | .error .fail, s' => Fr L base n s'
  | .error .panic, _ => False

def Framed {α} (d e : Nat) (p : P α) : Prop :=
  ∀ L base n s, Fr L base (n + d) s → WP p (Exit L base n e) s

theorem Fr.weakenBy : ∀ d, Fr L base (n + d) s → Fr L base n s
  | 0, h => h
  | d + 1, h => Fr.weakenBy d h.weaken

variable {α β : Type} {d e g : Nat}

theorem Framed.bind {p : P α} {f : α → P β} (hp : Framed d e p) (hf : ∀ a, Framed e g (f a)) :
    Framed d g (p >>= f) := fun L base n s h => by
  rw [wp_bind]
  have := hp L base n s h
  revert this
  unfold WP
  cases (p.run' s).1 with
  | ok a => exact hf a L base n _
  | error e => cases e <;> exact id

theorem Framed.pure (a : α) : Framed d d (Pure.pure a : P α) := fun _ _ _ _ h => h
theorem Framed.fail : Framed d e (fail : P α) := fun _ _ _ _ h => h.weakenBy d
theorem Framed.fail_bind {f : α → P β} : Framed d e (Pars.fail >>= f) := fun _ _ _ _ h => h.weakenBy d
theorem Framed.push : Framed d (d + 1) push := fun _ _ _ _ h => wp_push h fun _ h' => h'
theorem Framed.pop : Framed (d + 1) d pop := fun L base n s h => by
  obtain ⟨f, st, hs, hf, hsrt, k⟩ := Fr.uncons (n := n + d) h
  unfold WP; rw [run_pop, hs]
  exact k f hf hsrt.2

theorem Framed.drop : Framed (d + 1) d drop := fun L base n s h => by
  obtain ⟨f, st, hs, _, hsrt, k⟩ := Fr.uncons (n := n + d) h
  unfold WP; rw [run_drop, hs]
  exact k s.rest h.le hsrt.tail

theorem Framed.trail : Framed (d + 1) d trail := fun L base n s h => by
  obtain ⟨f, st, hs, _, hsrt, k⟩ := Fr.uncons (n := n + d) h
  unfold WP; rw [run_trail, hs]
  have hl : (f.drop (f.length - s.rest.length)).length = s.rest.length := by
    rw [List.length_drop]; have := hsrt.1; omega
  simp only [if_neg (Nat.not_lt.mpr hsrt.1)]
  exact k _ (by rw [hl]; exact h.le) (by rw [hl]; exact hsrt.tail)

theorem Framed.popFail : Framed (d + 1) e (Pars.pop >>= fun _ => (Pars.fail : P α)) :=
  .bind .pop fun _ => .fail

theorem Framed.ite {p q : P α} (c : Prop) [Decidable c] (hp : Framed d e p) (hq : Framed d e q) :
    Framed d e (if c then p else q) := by
  split <;> assumption

theorem Safe.framed {p : P α} (hp : Safe p) : Framed d d p := fun _ _ _ _ h =>
  wp_safe hp h (fun _ _ h' => h') fun _ h' => h'.weakenBy d

theorem Framed.attempt_bind {p : P α} {k : Option α → P β} (hp : Safe p)
    (hs : ∀ a, Framed d e (k (some a))) (hn : Framed d e (k none)) : Framed d e (Pars.attempt p >>= k) :=
  .bind hp.attempt.framed fun | some a => hs a | none => hn

theorem Safe.ofFramed {p : P α} (hp : Framed 0 0 p) : Safe p := fun L base n s h => by
  have := hp L base n s h
  revert this
  unfold WP
  cases (p.run' s).1 with
  | ok a => exact std_ok
  | error e => cases e with
    | fail => exact std_fail
    | panic => exact False.elim

end Gts.Pars

namespace Gts.Pars
open LocParse ModParse

theorem wp_pushed {Q} {s : PS} (k : ∀ b, Q (.ok b) s) : WP pushed Q s := k _

theorem next_safe : Safe next := fun _ _ _ s h => by
  unfold WP; rw [run_next]
  split
  · exact std_fail h
  · exact std_ok h

theorem request_safe (k) : Safe (request k) := fun _ _ _ s h => by
  unfold WP; rw [run_request]
  split
  · exact std_fail h
  · exact std_ok h

theorem int_safe : Safe int := by
  unfold int
  refine .ofFramed (.bind .push fun _ => .bind next_safe.framed fun c => ?_)
  extract_lets digits
  suffices h : ∀ c, Framed 1 0 (digits c) from
    .ite _ (.bind Safe.advance1.framed fun _ => .bind next_safe.framed h) (.bind (.pure _) h)
  exact fun c => .ite _ .popFail <|
    .ite _ (.bind Safe.advance1.framed fun _ => .bind .drop fun _ => .pure _) <|
    .bind (Safe.skipWhile _).framed fun _ => .bind .trail fun p =>
      match atoi p with
      | some _ => .pure _
      | none => .fail

theorem spaces_safe : Safe spaces :=
  .ofFramed <| .bind .push fun _ => .bind (Safe.skipWhile _).framed fun _ => .trail

theorem word_safe (f) : Safe (word f) :=
  .ofFramed <| .bind .push fun _ => .bind (Safe.skipWhile _).framed fun _ => .bind .trail fun _ =>
    .ite _ .fail (.pure _)

theorem lit_safe (p) : Safe (lit p) := .bind .getS fun _ => .ite _ (.advanceN _) .fail

theorem eol_safe : Safe eol := .bind .getS fun s => by
  split
  · exact .pure _
  · exact .bind .advance1 fun _ => .pure _
  · exact .bind (.advanceN _) fun _ => .pure _
  · exact .bind .advance1 fun _ => .pure _
  · exact .fail

theorem line_safe : Safe line := by
  intro L base n s h
  refine std_ok (h.advance _ ?_)
  split
  · simp
  · simp only [List.length_drop]; omega

theorem Framed.orPop {p : P α} (g : α → β) (hp : Safe p) : Framed (d + 1) (d + 1) (orPop p g) :=
  .attempt_bind hp (fun _ => .pure _) .popFail

/-- the frame "number, marker, number" of `parseBetween` and `parseAmbiguous`: what follows runs under the pushed frame -/
theorem numMarkNum_safe (m : UInt8) (g : Int → Int) {k : Int → Int → P α} (hk : ∀ s e, Framed 1 0 (k s e)) :
    Safe (numMarkNum m g k) :=
  .ofFramed <| .bind .push fun _ => .bind (.orPop g int_safe) fun _ => .bind (.orPop id next_safe) fun _ =>
  .ite _ (.bind .pop fun _ => .fail_bind) <|
  .bind Safe.advance1.framed fun _ => .bind (.orPop id int_safe) fun _ => hk _ _

theorem between_safe : Safe LocParse.between := by
  rw [LocParse.between_eq]
  exact numMarkNum_safe _ _ fun _ _ => .ite _ .fail_bind <| .bind .drop fun _ => .pure _

theorem point_safe : Safe LocParse.point :=
  .ofFramed <| .bind .push fun _ =>
  .attempt_bind int_safe (fun _ => .bind .drop fun _ => .pure _) .popFail

theorem ambiguous_safe : Safe LocParse.ambiguous := by
  rw [LocParse.ambiguous_eq]
  exact numMarkNum_safe _ _ fun _ _ => .bind .drop fun _ => .pure _

theorem delimiter_safe : Safe LocParse.delimiter :=
  .ofFramed <| .bind .push fun _ => .attempt_bind next_safe
    (fun _ => .ite _ (.bind .pop fun _ => .pure _) <|
      .bind Safe.advance1.framed fun _ => .bind (Safe.skipWhile _).framed fun _ =>
      .bind .drop fun _ => .pure _)
    (.bind .pop fun _ => .pure _)

theorem range_safe : Safe LocParse.range := by
  unfold LocParse.range
  refine .ofFramed (.bind .push fun _ =>
    .bind (.attempt_bind next_safe (fun _ => .pure _) .popFail) fun c => ?_)
  extract_lets p5 start
  suffices h : ∀ u, Framed 1 0 (start u) from .ite _ (.bind Safe.advance1.framed h) (h ())
  refine fun _ => .bind (.attempt_bind int_safe (fun _ => .pure _) .popFail) fun _ =>
    .attempt_bind (request_safe 2)
      (fun _ => .ite _ (.bind .pop fun _ => .fail_bind) <|
        .bind (Safe.advanceN 2).framed fun _ => .bind next_safe.framed fun c => ?_)
      (.bind .pop fun _ => .fail_bind)
  extract_lets p3 end_
  suffices h : ∀ u, Framed 1 0 (end_ u) from .ite _ (.bind Safe.advance1.framed h) (h ())
  exact fun _ => .bind (.attempt_bind int_safe (fun _ => .pure _) .popFail) fun _ =>
    .bind (.bind next_safe.attempt.framed fun _ => by
      split
      · exact .bind Safe.advance1.framed fun _ => .pure _
      · exact .pure _) fun _ =>
    .bind .drop fun _ => .pure _

end Gts.Pars
