/-
  Helper lemmas for the cache-key encoding (C14, `Gts/Model/KeyEnc.lean`), part 1: the shifts and
  masks of the Go sources as arithmetic, what `utf8.DecodeRuneInString` returns (`Dec`).  Core Lean only.
-/
import Gts.Model.KeyEnc
namespace Gts.KeyEnc

/-- the bytes of a literal without running the UTF-8 decoder over it (`rw` unifies a literal with `String.ofList _`): test
vectors rewrite their literals with this before they are evaluated -/
theorem ascii_ofList (cs : List Char) : ascii (String.ofList cs) = cs.map fun c => UInt8.ofNat c.toNat := by
  unfold ascii
  rw [String.toList_ofList]

theorem and_3F (x : Nat) : x &&& 0x3F = x % 64 := Nat.and_two_pow_sub_one_eq_mod x 6
theorem and_1F (x : Nat) : x &&& 0x1F = x % 32 := Nat.and_two_pow_sub_one_eq_mod x 5
theorem and_0F (x : Nat) : x &&& 0x0F = x % 16 := Nat.and_two_pow_sub_one_eq_mod x 4
theorem and_07 (x : Nat) : x &&& 0x07 = x % 8 := Nat.and_two_pow_sub_one_eq_mod x 3

theorem shl_or (i x y : Nat) (hy : y < 2 ^ i) : (x <<< i) ||| y = x * 2 ^ i + y := by
  rw [Nat.shiftLeft_eq, Nat.mul_comm x]; exact (Nat.two_pow_add_eq_or_of_lt hy x).symm

theorem or2 (x y : Nat) (hy : y < 64) : (x <<< 6) ||| y = x * 64 + y := shl_or 6 x y hy

theorem or3 (x y z : Nat) (hy : y < 64) (hz : z < 64) :
    (x <<< 12) ||| (y <<< 6) ||| z = x * 4096 + y * 64 + z := by
  rw [show x <<< 12 = (x <<< 6) <<< 6 from Nat.shiftLeft_add x 6 6, ← Nat.shiftLeft_or_distrib, or2 x y hy, or2 _ z hz]
  omega

theorem or4 (x y z w : Nat) (hy : y < 64) (hz : z < 64) (hw : w < 64) :
    (x <<< 18) ||| (y <<< 12) ||| (z <<< 6) ||| w = x * 262144 + y * 4096 + z * 64 + w := by
  rw [show x <<< 18 = (x <<< 12) <<< 6 from Nat.shiftLeft_add x 12 6,
    show y <<< 12 = (y <<< 6) <<< 6 from Nat.shiftLeft_add y 6 6, ← Nat.shiftLeft_or_distrib,
    ← Nat.shiftLeft_or_distrib, or3 x y z hy hz, or2 _ w hw]
  omega

theorem or_bytes2 (a b : Nat) (hb : b < 256) : (a <<< 16) ||| (b <<< 8) = a * 65536 + b * 256 := by
  rw [show a <<< 16 = (a <<< 8) <<< 8 from Nat.shiftLeft_add a 8 8, ← Nat.shiftLeft_or_distrib, shl_or 8 a b hb,
    Nat.shiftLeft_eq]
  omega

theorem or_bytes3 (a b c : Nat) (hb : b < 256) (hc : c < 256) :
    (a <<< 16) ||| (b <<< 8) ||| c = a * 65536 + b * 256 + c := by
  rw [show a <<< 16 = (a <<< 8) <<< 8 from Nat.shiftLeft_add a 8 8, ← Nat.shiftLeft_or_distrib, shl_or 8 a b hb,
    shl_or 8 _ c hc]
  omega

/-- what `decodeRune b0 rest` can be: rune, width, and where they come from -/
inductive Dec : UInt8 → Bytes → Nat → Nat → Prop
  | ascii (b0 rest) : b0.toNat < 0x80 → Dec b0 rest b0.toNat 1
  | bad (b0 rest) : 0x80 ≤ b0.toNat → Dec b0 rest 0xFFFD 1
  | two (b0 b1 tl) : 0xC2 ≤ b0.toNat → b0.toNat ≤ 0xDF → 0x80 ≤ b1.toNat → b1.toNat ≤ 0xBF →
      Dec b0 (b1 :: tl) (b0.toNat % 32 * 64 + b1.toNat % 64) 2
  | three (b0 b1 b2 tl) : 0xE0 ≤ b0.toNat → b0.toNat ≤ 0xEF →
      (b0.toNat = 0xE0 → 0xA0 ≤ b1.toNat) → (b0.toNat = 0xED → b1.toNat ≤ 0x9F) →
      0x80 ≤ b1.toNat → b1.toNat ≤ 0xBF → 0x80 ≤ b2.toNat → b2.toNat ≤ 0xBF →
      Dec b0 (b1 :: b2 :: tl) (b0.toNat % 16 * 4096 + b1.toNat % 64 * 64 + b2.toNat % 64) 3
  | four (b0 b1 b2 b3 tl) : 0xF0 ≤ b0.toNat → b0.toNat ≤ 0xF4 →
      (b0.toNat = 0xF0 → 0x90 ≤ b1.toNat) → (b0.toNat = 0xF4 → b1.toNat ≤ 0x8F) →
      0x80 ≤ b1.toNat → b1.toNat ≤ 0xBF → 0x80 ≤ b2.toNat → b2.toNat ≤ 0xBF →
      0x80 ≤ b3.toNat → b3.toNat ≤ 0xBF →
      Dec b0 (b1 :: b2 :: b3 :: tl)
        (b0.toNat % 8 * 262144 + b1.toNat % 64 * 4096 + b2.toNat % 64 * 64 + b3.toNat % 64) 4

theorem decodeRune_dec (b0 : UInt8) (rest : Bytes) :
    Dec b0 rest (decodeRune b0 rest).1 (decodeRune b0 rest).2 := by
  generalize hR : decodeRune b0 rest = R
  unfold decodeRune at hR
  dsimp only at hR
  by_cases c1 : b0.toNat < 0x80
  · rw [if_pos c1] at hR; subst hR; exact .ascii _ _ c1
  rw [if_neg c1] at hR
  have hbad : Dec b0 rest (0xFFFD, 1).1 (0xFFFD, 1).2 := .bad _ _ (by omega)
  by_cases c2 : b0.toNat < 0xC2
  · rw [if_pos c2] at hR; subst hR; exact hbad
  rw [if_neg c2] at hR
  by_cases c3 : b0.toNat < 0xE0
  · rw [if_pos c3] at hR
    match rest with
    | [] => subst hR; exact hbad
    | b1 :: tl =>
      dsimp only at hR
      split at hR
      · rename_i h
        simp only [Bool.and_eq_true, decide_eq_true_eq] at h
        rw [and_1F, and_3F, or2 _ _ (Nat.mod_lt _ (by decide))] at hR
        subst hR
        exact .two _ _ _ (by omega) (by omega) h.1 h.2
      · subst hR; exact hbad
  rw [if_neg c3] at hR
  by_cases c4 : b0.toNat < 0xF0
  · rw [if_pos c4] at hR
    match rest with
    | [] | [_] => subst hR; exact hbad
    | b1 :: b2 :: tl =>
      dsimp only at hR
      generalize hlo : (if b0.toNat = 0xE0 then 0xA0 else 0x80) = lo at hR
      generalize hhi : (if b0.toNat = 0xED then 0x9F else 0xBF) = hi at hR
      split at hR
      · rename_i h
        simp only [Bool.and_eq_true, decide_eq_true_eq] at h
        rw [and_0F, and_3F, and_3F, or3 _ _ _ (Nat.mod_lt _ (by decide)) (Nat.mod_lt _ (by decide))] at hR
        subst hR
        refine .three _ _ _ _ (by omega) (by omega) ?_ ?_ ?_ ?_ h.2.1 h.2.2
        · intro h0; rw [if_pos h0] at hlo; omega
        · intro h0; rw [if_pos h0] at hhi; omega
        · split at hlo <;> omega
        · split at hhi <;> omega
      · subst hR; exact hbad
  rw [if_neg c4] at hR
  by_cases c5 : b0.toNat < 0xF5
  · rw [if_pos c5] at hR
    match rest with
    | [] | [_] | [_, _] => subst hR; exact hbad
    | b1 :: b2 :: b3 :: tl =>
      dsimp only at hR
      generalize hlo : (if b0.toNat = 0xF0 then 0x90 else 0x80) = lo at hR
      generalize hhi : (if b0.toNat = 0xF4 then 0x8F else 0xBF) = hi at hR
      split at hR
      · rename_i h
        simp only [Bool.and_eq_true, decide_eq_true_eq] at h
        rw [and_07, and_3F, and_3F, and_3F,
          or4 _ _ _ _ (Nat.mod_lt _ (by decide)) (Nat.mod_lt _ (by decide)) (Nat.mod_lt _ (by decide))] at hR
        subst hR
        refine .four _ _ _ _ _ (by omega) (by omega) ?_ ?_ ?_ ?_ h.1.2.1 h.1.2.2 h.2.1 h.2.2
        · intro h0; rw [if_pos h0] at hlo; omega
        · intro h0; rw [if_pos h0] at hhi; omega
        · split at hlo <;> omega
        · split at hhi <;> omega
      · subst hR; exact hbad
  · rw [if_neg c5] at hR; subst hR; exact hbad

end Gts.KeyEnc
