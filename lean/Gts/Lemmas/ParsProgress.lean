/-
  C07, the record scanners: the program logic for parsers that `Clear` the stack, `Pop` on a possibly
  empty one or rewrite saved frames, so that the frame invariant `Fr` of ParsSafe ("never touch a
  caller's frame") is too strong for them.  It gives at once "never a panic" and PROGRESS.

  `Fw L n s` ("forward"): the current position and the `n` youngest saved positions (all of them,
  if there are fewer) have at most `L` bytes left, and the saved positions are `Sorted`.
  A parser that keeps `Fw L n` for every `L` and `n` (`SafeW`) never ends BEHIND a position that
  was on the stack below its own frames: whatever it pops is one of the `n` young frames, which
  lie at or after the point that had `L` bytes left.  Unlike `Fr` the invariant
  * survives `Clear` (an empty stack satisfies it for every `n`; the frames pushed afterwards are
    young) and `Pop` / `Drop` / `Trail` on an empty stack,
  * says nothing about the CONTENT of the older frames, so the in-place rewrite of the DEFINITION
    retry (`patchFrames`, which keeps every frame's length) keeps it.
  It is what `genbankSourceParser` violated before 66de3a0: it popped a frame it had not pushed
  (`Fw L 0` does not allow a `Pop`).

  `Fwd E i j p` is the judgement the parsers are taken apart under: `Fw` with the parser's own frames
  counted, and no panic unless `E`.  `SafeW`, the S-invariant of ParsSorted and "no panic, sorted
  again" from any sorted state are read off it (`Fwd.safeW`, `Fwd.safeS`, `Fwd.run`).

  `Strict E p`: `Fwd E 0 0 p`, and from a sorted state a SUCCESSFUL `p` ends strictly after its entry
  position; `Strict.bind_left`: a strict parser followed by `Fwd` ones is strict.
-/
import Gts.Lemmas.GbSafe
namespace Gts.Pars

structure Fw (L : Nat) (n : Nat) (s : PS) : Prop where
  le : s.rest.length ≤ L
  srt : Sorted s.rest.length s.stk
  young : ∀ f ∈ s.stk.take n, f.length ≤ L

variable {L : Nat} {n : Nat} {s : PS}

theorem Fw.init (h : Sorted s.rest.length s.stk) : Fw s.rest.length 0 s :=
  ⟨Nat.le_refl _, h, fun _ hf => by simp at hf⟩

theorem Fw.weaken (h : Fw L (n + 1) s) : Fw L n s :=
  ⟨h.le, h.srt, fun f hf => h.young f (by
    have : s.stk.take n = (s.stk.take (n + 1)).take n := by rw [List.take_take]; congr 1; omega
    rw [this] at hf; exact List.mem_of_mem_take hf)⟩

theorem Fw.weakenAdd (i : Nat) (h : Fw L (n + i) s) : Fw L n s := by
  induction i with
  | zero => exact h
  | succ i ih => exact ih h.weaken

theorem Fw.advance (h : Fw L n s) (r : Bytes) (hr : r.length ≤ s.rest.length) :
    Fw L n { s with rest := r } :=
  ⟨Nat.le_trans hr h.le, h.srt.mono hr, h.young⟩

theorem Fw.ofS {m : Nat} (h : Fr L [] 0 s) : Fw L m s :=
  ⟨h.le, h.srt, fun f hf => h.all0 f (List.mem_of_mem_take hf)⟩

def StdW {α} (L n : Nat) : Except Err α → PS → Prop := fun _ s' => Fw L n s'

def SafeW {α} (p : P α) : Prop := ∀ L n s, Fw L n s → WP p (StdW L n) s

theorem wpw_push {Q} (h : Fw L n s) (k : ∀ s', Fw L (n + 1) s' → Q (.ok ()) s') : WP push Q s := by
  apply k
  refine ⟨h.le, ⟨Nat.le_refl _, h.srt⟩, ?_⟩
  intro f hf
  have hf' : f ∈ (s.rest :: s.stk).take (n + 1) := hf
  rw [List.take_succ_cons] at hf'
  rcases List.mem_cons.mp hf' with rfl | hf'
  · exact h.le
  · exact h.young f hf'

theorem wpw_pop {Q} (h : Fw L (n + 1) s) (k : ∀ s', Fw L n s' → Q (.ok ()) s') : WP pop Q s := by
  unfold WP; rw [run_pop]
  cases hs : s.stk with
  | nil => exact k _ h.weaken
  | cons f st =>
    apply k
    have hy := h.young
    have hsrt := h.srt
    rw [hs] at hy hsrt
    refine ⟨hy f (by simp), hsrt.2, ?_⟩
    intro g hg
    exact hy g (by simp only [List.take_succ_cons]; exact List.mem_cons_of_mem _ hg)

theorem mem_take_drop1 {g : Bytes} : ∀ {l : List Bytes} {n : Nat}, g ∈ (l.drop 1).take n → g ∈ l.take (n + 1)
  | [], _, h => by simp at h
  | _ :: _, _, h => by
    rw [List.take_succ_cons]
    exact List.mem_cons_of_mem _ (by simpa using h)

theorem sorted_drop1 {k : Nat} : ∀ {l : List Bytes}, Sorted k l → Sorted k (l.drop 1)
  | [], _ => trivial
  | _ :: _, h => h.tail

/-- `Trail` pops the youngest frame and stays where it is (or panics, with the state unchanged) -/
theorem wpw_trail {Q} (h : Fw L (n + 1) s) (k : ∀ r s', Fw L n s' → Q r s') : WP trail Q s := by
  unfold WP; rw [run_trail]
  cases hs : s.stk with
  | nil => exact k _ _ h.weaken
  | cons f st =>
    dsimp only
    have hy := h.young
    have hsrt := h.srt
    rw [hs] at hy hsrt
    split
    · exact k _ _ h.weaken
    · rename_i hlt
      apply k
      have hl : (f.drop (f.length - s.rest.length)).length = s.rest.length := by
        rw [List.length_drop]; omega
      refine ⟨?_, ?_, ?_⟩
      · show (f.drop _).length ≤ L; rw [hl]; exact h.le
      · show Sorted (f.drop _).length _; rw [hl]; exact hsrt.tail
      · intro g hg
        exact hy g (by simp only [List.take_succ_cons]; exact List.mem_cons_of_mem _ hg)

theorem wpw_next {Q} (_h : Fw L n s) (k : ∀ r, Q r s) : WP next Q s := by
  unfold WP; rw [run_next]; cases s.rest <;> exact k _

theorem wpw_skipWhile {Q} (f : UInt8 → Bool) (h : Fw L n s)
    (k : ∀ s', Fw L n s' → Q (.ok ()) s') : WP (skipWhile f) Q s := by
  apply k; exact h.advance _ (by
    show (s.rest.dropWhile f).length ≤ _
    exact (List.dropWhile_sublist f).length_le)

theorem wpw_attempt {α} {p : P α} {Q} (h : Fw L n s) (hp : SafeW p)
    (k : ∀ r s', Fw L n s' → Q r s') : WP (attempt p) Q s := by
  rw [wp_attempt_iff]
  refine wp_mono (hp L n s h) fun r s' h' => ?_
  rcases r with (_ | _) | _ <;> exact k _ _ h'

theorem Safe.wpw {α} {p : P α} (hp : Safe p) (h : Fw L n s) :
    WP p (fun r s' => r ≠ .error .panic ∧ Fw L n s') s := by
  by_cases hn : n ≤ s.stk.length
  · have hfr : Fr L (s.stk.drop n) n s :=
      ⟨⟨s.stk.take n, (List.take_append_drop n s.stk).symm, by simp [hn], h.young⟩, h.le, h.srt⟩
    have := hp L (s.stk.drop n) n s hfr
    unfold WP Std at this
    unfold WP
    obtain ⟨e, h1, h2, h3⟩ := this.2.ex
    refine ⟨this.1, this.2.le, this.2.srt, ?_⟩
    intro f hf
    rw [h1, List.take_append_of_le_length h2] at hf
    exact h3 f (List.mem_of_mem_take hf)
  · have hall : ∀ f ∈ s.stk, f.length ≤ L := by
      intro f hf
      apply h.young f
      rw [List.take_of_length_le (by omega)]; exact hf
    have := hp L [] 0 s (Fr.mk0 hall h.le h.srt)
    unfold WP Std at this
    exact ⟨this.1, Fw.ofS this.2⟩

theorem Safe.toW {α} {p : P α} (hp : Safe p) : SafeW p := fun _ _ _ h => (hp.wpw h).2

theorem Fw.toS (h : Fw L n s) (hs : s.stk = []) : Fr L [] 0 s :=
  Fr.mk0 (fun f hf => by rw [hs] at hf; simp at hf) h.le h.srt

theorem SafeW.getS : SafeW getS := fun _ _ _ h => h
theorem SafeW.pushed : SafeW pushed := fun _ _ _ h => h
theorem SafeW.push : SafeW push := fun _ _ _ h => wpw_push h fun _ h' => h'.weaken

theorem SafeW.clear : SafeW clear := fun _ n _ h =>
  ⟨h.le, trivial, fun f hf => by have : f ∈ ([] : List Bytes).take n := hf; simp at this⟩

/-! ### one judgement: forward, with the frames counted and a policy for panics

`Fwd E i j p`: entered with `i` frames of its own above `n` young ones, `p` leaves `j` of them when it
succeeds and has given them all up when it does not; it keeps the saved positions sorted, never ends
behind a position older than those, and panics at most when `E` holds (`False`: never; the ORIGIN
reader with a negative declared length is the one parser that needs more).  A parser built from `Fwd`
parts is `Fwd` by a term that follows its text, the counts found by unification. -/

def FwdOut {α} (E : Prop) (L n j : Nat) : Except Err α → PS → Prop
  | .ok _, s' => Fw L (n + j) s'
  | .error .fail, s' => Fw L n s'
  | .error .panic, s' => E ∧ Fw L n s'

def Fwd {α} (E : Prop) (i j : Nat) (p : P α) : Prop :=
  ∀ L n s, Fw L (n + i) s → WP p (FwdOut E L n j) s

section
variable {α β : Type} {E : Prop} {i j k : Nat}

theorem Fwd.bind {p : P α} {f : α → P β} (hp : Fwd E i j p) (hf : ∀ a, Fwd E j k (f a)) :
    Fwd E i k (p >>= f) := fun L n s h => by
  rw [wp_bind]
  refine wp_mono (hp L n s h) fun r s' h' => ?_
  cases r with
  | ok a => exact hf a L n s' h'
  | error e => cases e <;> exact h'

theorem Fwd.pure (a : α) : Fwd E i i (Pure.pure a : P α) := fun _ _ _ h => h
theorem Fwd.fail : Fwd E i j (Pars.fail : P α) := fun _ _ _ h => h.weakenAdd i
theorem Fwd.fail_bind {f : α → P β} : Fwd E i j (Pars.fail >>= f) := fun _ _ _ h => h.weakenAdd i
theorem Fwd.panic_bind {f : α → P β} (hE : E) : Fwd E i j (Pars.panic >>= f) :=
  fun _ _ _ h => ⟨hE, h.weakenAdd i⟩
theorem Fwd.getS : Fwd E i i getS := fun _ _ _ h => h
theorem Fwd.pushed : Fwd E i i pushed := fun _ _ _ h => h
theorem Fwd.push : Fwd E i (i + 1) push := fun _ _ _ h => wpw_push h fun _ h' => h'
theorem Fwd.pop : Fwd E (i + 1) i pop := fun _ _ _ h => wpw_pop h fun _ h' => h'
theorem Fwd.drop : Fwd E (i + 1) i drop := fun _ _ _ h =>
  ⟨h.le, sorted_drop1 h.srt, fun g hg => h.young g (mem_take_drop1 hg)⟩

theorem Fwd.clear : Fwd E i i clear := fun _ n _ h =>
  ⟨h.le, trivial, fun f hf => by have : f ∈ ([] : List Bytes).take (n + i) := hf; simp at this⟩

theorem Fwd.advanceN (m : Nat) : Fwd E i i (advanceN m) := fun _ _ _ h => h.advance _ (by simp)

theorem Fwd.ite {c : Prop} [Decidable c] {p q : P α} (hp : Fwd E i j p) (hq : Fwd E i j q) :
    Fwd E i j (if c then p else q) := by
  split
  · exact hp
  · exact hq

theorem Fwd.mono {E' : Prop} {p : P α} (hE : E → E') (hp : Fwd E i j p) : Fwd E' i j p :=
  fun L n s h => wp_mono (hp L n s h) fun r _ h' => by
    rcases r with (_ | _) | _
    · exact h'
    · exact ⟨hE h'.1, h'.2⟩
    · exact h'

theorem Fwd.frame {p : P α} (hp : Fwd E 0 0 p) : Fwd E i i p := fun L n s h =>
  wp_mono (hp L (n + i) s h) fun r _ h' => by
    rcases r with (_ | _) | _
    · exact h'.weakenAdd i
    · exact ⟨h'.1, h'.2.weakenAdd i⟩
    · exact h'

theorem Safe.fwd {p : P α} (hp : Safe p) : Fwd E i i p :=
  Fwd.frame fun L n s h => by
    have := hp.wpw h
    unfold WP at this ⊢
    rcases hr : (p.run' s).1 with (_ | _) | _ <;> rw [hr] at this
    · exact this.2
    · exact absurd rfl this.1
    · exact this.2

theorem Fwd.attempt {p : P α} (hp : Fwd E 0 0 p) : Fwd E i i (attempt p) :=
  Fwd.frame fun L n s h => by
    rw [wp_attempt_iff]
    refine wp_mono (hp L n s h) fun r _ h' => ?_
    rcases r with (_ | _) | _ <;> exact h'

/-- `match ← attempt p with …`; what follows a success may use that `p` has produced the value -/
theorem Fwd.attempt_bind_run {p : P α} {f : Option α → P β} (hp : Fwd E 0 0 p)
    (hs : ∀ a, (∃ s s', p.run' s = (.ok a, s')) → Fwd E i j (f (some a)))
    (hn : Fwd E i j (f none)) : Fwd E i j (Pars.attempt p >>= f) := fun L n s h => by
  rw [wp_bind, wp_attempt_iff]
  have h' := hp L (n + i) s h
  unfold WP at h' ⊢
  rcases hr : p.run' s with ⟨(_ | _) | a, s'⟩ <;> rw [hr] at h'
  · exact hn L n s' h'
  · exact ⟨h'.1, Fw.weakenAdd i h'.2⟩
  · exact hs a ⟨s, s', hr⟩ L n s' h'

theorem Fwd.attempt_bind {p : P α} {f : Option α → P β} (hp : Fwd E 0 0 p)
    (hs : ∀ a, Fwd E i j (f (some a))) (hn : Fwd E i j (f none)) :
    Fwd E i j (Pars.attempt p >>= f) :=
  .attempt_bind_run hp (fun a _ => hs a) hn

theorem Fwd.safeW {p : P α} (hp : Fwd E 0 0 p) : SafeW p := fun L n s h =>
  wp_mono (hp L n s h) fun r _ h' => by
    rcases r with (_ | _) | _
    · exact h'
    · exact h'.2
    · exact h'

theorem Fwd.run {p : P α} (hp : Fwd False 0 0 p) {s : PS} (hs : Sorted s.rest.length s.stk) :
    WP p (fun r s' => r ≠ .error .panic ∧ Sorted s'.rest.length s'.stk ∧
      s'.rest.length ≤ s.rest.length) s := by
  have := hp _ 0 s (Fw.init hs)
  unfold WP at this ⊢
  rcases hr : (p.run' s).1 with (_ | _) | _ <;> rw [hr] at this
  · exact ⟨nofun, this.srt, this.le⟩
  · exact this.1.elim
  · exact ⟨nofun, this.srt, this.le⟩

/-- with the length of the final stack as the count, every saved position of the final state is a
young one -/
theorem Fwd.safeS {p : P α} (hp : Fwd False 0 0 p) (L : Nat) : SafeS L p := fun s h => by
  have := hp L (p.run' s).2.stk.length s (Fw.ofS h)
  unfold WP Std at *
  have key : Fw L (p.run' s).2.stk.length (p.run' s).2 → Fr L [] 0 (p.run' s).2 := fun h' =>
    Fr.mk0 (fun f hf => h'.young f (by rwa [List.take_of_length_le (Nat.le_refl _)])) h'.le h'.srt
  rcases hr : (p.run' s).1 with (_ | _) | _ <;> rw [hr] at this
  · exact ⟨nofun, key this⟩
  · exact this.1.elim
  · exact ⟨nofun, key this⟩

theorem Fwd.intro {p : P α} (h : ∀ L n s, Fw L (n + i) s → WP p (FwdOut E L n j) s) : Fwd E i j p := h
theorem Fwd.elim {p : P α} (hp : Fwd E i j p) : ∀ L n s, Fw L (n + i) s → WP p (FwdOut E L n j) s := hp
end

-- The rules above are how `Fwd` is used.  Left reducible, the unifier unfolds the judgement when a
-- count is still unknown and starts evaluating the parser inside (a `>>=` behind an `attempt`: 14 k
-- heartbeats in place of 0.1 k).
attribute [irreducible] Fwd

theorem SafeW.run {α} {p : P α} (hp : SafeW p) {s : PS} (hs : Sorted s.rest.length s.stk)
    {r s'} (h : p.run' s = (r, s')) : s'.rest.length ≤ s.rest.length ∧ Sorted s'.rest.length s'.stk := by
  have := hp _ 0 s (Fw.init hs)
  unfold WP StdW at this
  rw [h] at this
  exact ⟨this.le, this.srt⟩

section
variable {α β : Type} {E : Prop}

def Strict (E : Prop) (p : P α) : Prop :=
  Fwd E 0 0 p ∧
    ∀ s, Sorted s.rest.length s.stk → ∀ a s', p.run' s = (.ok a, s') → s'.rest.length < s.rest.length

theorem Strict.safeW {p : P α} (hp : Strict E p) : SafeW p := hp.1.safeW

theorem Strict.bind_left {p : P α} {f : α → P β} (hp : Strict E p) (hf : ∀ a, Fwd E 0 0 (f a)) :
    Strict E (p >>= f) := by
  refine ⟨hp.1.bind hf, fun s hs b s' h => ?_⟩
  rw [run_bind] at h
  rcases hr : p.run' s with ⟨r, s1⟩
  rw [hr] at h
  rcases r with e | a
  · cases h
  · have h1 := hp.2 s hs a s1 hr
    have h2 := (hf a).safeW.run (hp.safeW.run hs hr).2 h
    omega

theorem Strict.bind_right {p : P α} {f : α → P β} (hp : Fwd E 0 0 p) (hf : ∀ a, Strict E (f a)) :
    Strict E (p >>= f) := by
  refine ⟨hp.bind fun a => (hf a).1, fun s hs b s' h => ?_⟩
  rw [run_bind] at h
  rcases hr : p.run' s with ⟨r, s1⟩
  rw [hr] at h
  rcases r with e | a
  · cases h
  · have h1 := hp.safeW.run hs hr
    have h2 := (hf a).2 s1 h1.2 b s' h
    omega

theorem Strict.wp {p : P α} (hp : Strict E p) {L n} {s : PS} (h : Fw L n s) :
    WP p (fun r s' => Fw L n s' ∧ ∀ a, r = .ok a → s'.rest.length < L) s :=
  ⟨hp.safeW L n s h, fun a hr => Nat.lt_of_lt_of_le (hp.2 s h.srt a _ (Prod.ext hr rfl)) h.le⟩

theorem Strict.of_wp {p : P α} (hw : Fwd E 0 0 p)
    (h : ∀ L s, Fw L 0 s → WP p (fun r s' => ∀ a, r = .ok a → s'.rest.length < L) s) : Strict E p :=
  ⟨hw, fun s hs a s' hr => by
    have := h _ s (Fw.init hs)
    unfold WP at this
    rw [hr] at this
    exact this a rfl⟩

/-- `Push`, `attempt p` for a strict `p`; behind a success `Drop` and something that does not go back,
behind a failure `Pop` and fail (`Parser.Map`, the DEFINITION parser): strict, as `p` is -/
theorem Strict.pushed_attempt {p : P α} {k : Option α → P β} (hp : Strict E p)
    (hs : ∀ a, (∃ s s', p.run' s = (.ok a, s')) → ∃ q, k (some a) = (drop >>= fun _ => q) ∧ Fwd E 0 0 q)
    (hn : k none = pop >>= fun _ => fail) : Strict E (push >>= fun _ => attempt p >>= k) := by
  have hw : Fwd E 0 0 (push >>= fun _ => attempt p >>= k) :=
    .bind .push fun _ => .attempt_bind_run hp.1
      (fun a ha => by
        obtain ⟨q, e, hq⟩ := hs a ha
        rw [e]; exact .bind .drop fun _ => hq.frame)
      (by rw [hn]; exact .bind .pop fun _ => .fail)
  refine .of_wp hw fun L s h => ?_
  rw [wp_bind]; refine wpw_push h fun s1 h1 => ?_
  rw [wp_bind, wp_attempt_iff]
  have h' := hp.wp h1
  unfold WP at h' ⊢
  rcases hr : p.run' s1 with ⟨(_ | _) | a, s2⟩ <;> rw [hr] at h' <;> dsimp only at h' ⊢
  · rw [hn, run_bind]
    rcases pop.run' s2 with ⟨_ | _, _⟩ <;> exact fun _ h => nomatch h
  · exact fun _ h => nomatch h
  · obtain ⟨q, e, hq⟩ := hs a ⟨s1, s2, hr⟩
    rw [e, run_bind, run_drop]
    -- behind the `Drop` the position is the one `p` ended at
    have hle := (hq.safeW.run (s := ⟨s2.rest, s2.stk.drop 1⟩) (sorted_drop1 h'.1.srt) rfl).1
    have := h'.2 a rfl
    exact fun _ _ => Nat.lt_of_le_of_lt hle this

theorem Strict.fail_bind {f : α → P β} : Strict E (Pars.fail >>= f) :=
  ⟨.fail_bind, fun _ _ _ _ h => nomatch h⟩

theorem Strict.ite {c : Prop} [Decidable c] {p q : P α} (hp : Strict E p) (hq : Strict E q) :
    Strict E (if c then p else q) := by
  split
  · exact hp
  · exact hq
end

theorem run_bind_congr2 {α β} {p p' : P α} {f f' : α → P β} {s : PS} (hp : p.run' s = p'.run' s)
    (h : ∀ a s', p'.run' s = (.ok a, s') → (f a).run' s' = (f' a).run' s') :
    (p >>= f).run' s = (p' >>= f').run' s := by
  rw [run_bind, run_bind, hp]
  rcases hr : p'.run' s with ⟨r, s1⟩
  rcases r with e | a
  · rfl
  · exact h a s1 hr

theorem run_attempt_congr {α} {p p' : P α} {s : PS} (hp : p.run' s = p'.run' s) :
    (attempt p).run' s = (attempt p').run' s := by
  rw [run_attempt, run_attempt, hp]

theorem run_bind_congr {α β} {p : P α} {f f' : α → P β} {s : PS}
    (h : ∀ a s', p.run' s = (.ok a, s') → (f a).run' s' = (f' a).run' s') :
    (p >>= f).run' s = (p >>= f').run' s :=
  run_bind_congr2 rfl h

/-- `if c { return err }` in front of two continuations that agree (the shape `if c then fail` takes in a `do` block) -/
theorem run_guard_congr {β} {c : Prop} [Decidable c] {k k' : Unit → P β} {s : PS}
    (h : (k ()).run' s = (k' ()).run' s) :
    (if c then (fail : P Unit) >>= k else k ()).run' s = (if c then (fail : P Unit) >>= k' else k' ()).run' s := by
  by_cases hc : c
  · rw [if_pos hc, if_pos hc, run_bind, run_bind, run_fail]
  · rw [if_neg hc, if_neg hc]; exact h

theorem SafeW.bind_congr {α β} {p : P α} (hp : SafeW p) {f f' : α → P β} {s : PS}
    (hs : Sorted s.rest.length s.stk)
    (h : ∀ a s', Sorted s'.rest.length s'.stk → s'.rest.length ≤ s.rest.length →
      (f a).run' s' = (f' a).run' s') :
    (p >>= f).run' s = (p >>= f').run' s :=
  run_bind_congr fun a s' hr => h a s' (hp.run hs hr).2 (hp.run hs hr).1

theorem attempt_bind_congr {α β} {p : P α} {f f' : Option α → P β} {s : PS}
    (h : ∀ a s', p.run' s = (.ok a, s') → (f (some a)).run' s' = (f' (some a)).run' s')
    (h0 : ∀ s', (f none).run' s' = (f' none).run' s') :
    (attempt p >>= f).run' s = (attempt p >>= f').run' s := by
  refine run_bind_congr fun o s' hr => ?_
  rw [run_attempt] at hr
  rcases hrun : p.run' s with ⟨r, s1⟩
  rw [hrun] at hr
  rcases r with (_ | _) | a <;> cases hr
  · exact h0 _
  · exact h a _ hrun

/-- one round of a `pars.Many` loop over a strict parser: the loop goes on strictly further on -/
theorem Strict.many_congr {α β} {E} {p : P α} (hp : Strict E p) {f f' : Option α → P β} {s : PS}
    (hs : Sorted s.rest.length s.stk)
    (h : ∀ a s', Sorted s'.rest.length s'.stk → s'.rest.length < s.rest.length →
      (f (some a)).run' s' = (f' (some a)).run' s')
    (h0 : ∀ s', (f none).run' s' = (f' none).run' s') :
    (attempt p >>= f).run' s = (attempt p >>= f').run' s :=
  attempt_bind_congr (fun a s' hr => h a s' (hp.safeW.run hs hr).2 (hp.2 s hs a s' hr)) h0

theorem lit_lt (p : Bytes) {s s' : PS} {a} (h : (lit p).run' s = (.ok a, s')) :
    s'.rest.length + p.length = s.rest.length := by
  rw [run_lit] at h
  split at h
  · rename_i hc
    simp only [Bool.and_eq_true, decide_eq_true_eq] at hc
    cases h
    show (s.rest.drop p.length).length + _ = _
    rw [List.length_drop]; omega
  · cases h

theorem strict_lit {E} (p : Bytes) (hp : p ≠ []) : Strict E (lit p) :=
  ⟨(lit_safe p).fwd, fun s _ a s' h => by
    have := lit_lt p h
    have : 0 < p.length := List.length_pos_iff.mpr hp
    omega⟩

theorem word_consumes (f : UInt8 → Bool) {s s' : PS} {w} (h : (word f).run' s = (.ok w, s')) :
    w ≠ [] ∧ s'.rest.length + w.length = s.rest.length := by
  unfold word at h
  rw [run_bind, run_push] at h
  dsimp only at h
  rw [run_bind, run_skipWhile] at h
  dsimp only at h
  rw [run_bind, run_trail] at h
  dsimp only at h
  have hle : (s.rest.dropWhile f).length ≤ s.rest.length := (List.dropWhile_sublist f).length_le
  rw [if_neg (by omega)] at h
  dsimp only at h
  split at h
  · rw [run_fail] at h; cases h
  · rename_i hne
    rw [run_pure] at h
    cases h
    refine ⟨fun he => hne (by rw [he]; rfl), ?_⟩
    show (s.rest.drop _).length + (s.rest.take _).length = _
    rw [List.length_drop, List.length_take]; omega

theorem strict_word {E} (f : UInt8 → Bool) : Strict E (word f) :=
  ⟨(word_safe f).fwd, fun _ _ _ _ h => by
    have := word_consumes f h
    have := List.length_pos_iff.mpr this.1
    omega⟩

/-! ### `pars.Line` on a non-empty rest consumes at least one byte -/

theorem calcLine_fst (st : Bytes) : ∀ i n cr,
    i ≤ (calcLine st i n cr).1 + (if cr then 1 else 0) := by
  induction st with
  | nil => intro i n cr; simp [calcLine]
  | cons c r ih =>
    intro i n cr
    have ih1 := ih (i + 1) (n + 1) true
    have ih2 := ih (i + 1) n false
    simp only [if_true, Bool.false_eq_true, if_false] at ih1 ih2
    cases cr <;> unfold calcLine <;>
      simp only [Bool.and_false, Bool.and_true, Bool.false_eq_true, if_false, if_true] <;>
      (repeat' split) <;> (try dsimp only) <;> omega

theorem calcLine_snd (st : Bytes) : ∀ i n cr,
    n ≤ (calcLine st i n cr).2 ∧ (calcLine st i n cr).2 ≤ n + st.length := by
  induction st with
  | nil => intro i n cr; simp [calcLine]
  | cons c r ih =>
    intro i n cr
    unfold calcLine
    simp only [List.length_cons]
    split
    · dsimp only; omega
    · split
      · dsimp only; omega
      · split
        · have := ih (i + 1) (n + 1) true; omega
        · split
          · dsimp only; omega
          · have := ih (i + 1) n cr; omega

theorem calcLine_top (c : UInt8) (r : Bytes) :
    (calcLine (c :: r) 0 0 false).1 = 0 → 1 ≤ (calcLine (c :: r) 0 0 false).2 := by
  have h1 := (calcLine_snd r 1 1 true).1
  have h2 := calcLine_fst r 1 0 false
  simp only [Bool.false_eq_true, if_false] at h2
  unfold calcLine
  simp only [Bool.and_false, Bool.false_eq_true, if_false, Nat.zero_add]
  (repeat' split) <;> (try dsimp only) <;> omega

theorem splitLine_lt (st : Bytes) (h : st ≠ []) : (Origin.splitLine st).2.length < st.length := by
  have hpos : 0 < st.length := List.length_pos_iff.mpr h
  unfold Origin.splitLine
  have h2 := calcLine_snd st 0 0 false
  have h3 : (calcLine st 0 0 false).1 = 0 → 1 ≤ (calcLine st 0 0 false).2 := by
    match st, h with
    | c :: r, _ => exact calcLine_top c r
  generalize calcLine st 0 0 false = c at h2 h3
  obtain ⟨i, n⟩ := c
  dsimp only at h2 h3 ⊢
  split <;> simp only [List.length_drop] at * <;> omega

end Gts.Pars
