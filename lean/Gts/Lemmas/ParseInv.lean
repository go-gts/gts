/-
  The invariant of the flagged parser (C06, audit S7 item 1(b)): whatever `LocParseG.loc Loc.canonGuard`
  returns with the flag `false` is structurally canonical (`structP`).  Ingredients: the structural halves of
  `join_canon_partial` (`join_struct`), of `complement_canon` and the lemma "`Order` of structurally canonical
  parts (at least one) is structurally canonical".  Core Lean only.
-/
import Gts.Lemmas.ParsRel
import Gts.Lemmas.CanonHom
import Gts.Spec.ParseGuard
namespace Gts
open Pars

namespace Loc

/-- structurally canonical and not an `ordered` (what a part of a canonical `ordered` is) -/
def ordPart (x : Loc) : Bool := structP x && !isOrderedC x

theorem flattenOrd_parts (x : Loc) (h : structP x = true) :
    flattenOrd x ≠ [] ∧ ∀ y ∈ flattenOrd x, ordPart y = true := by
  by_cases ho : isOrderedC x = true
  · cases x <;> simp [isOrderedC] at ho
    rename_i ls
    simp only [structP, Bool.and_eq_true, Bool.not_eq_true', decide_eq_true_eq] at h
    obtain ⟨⟨h1, h2⟩, h3⟩ := h
    simp only [flattenOrd]
    rw [flattenOrdList_of_none ls h3]
    refine ⟨fun he => by rw [he] at h2; simp at h2, fun y hy => ?_⟩
    simp only [ordPart, Bool.and_eq_true, Bool.not_eq_true']
    exact ⟨(structPList_iff ls).mp h1 y hy, by simpa using List.any_eq_false.mp h3 y hy⟩
  · have ho' : isOrderedC x = false := by simpa using ho
    rw [flattenOrd_of_not_ordered x ho']
    exact ⟨by simp, fun y hy => by simp only [List.mem_singleton] at hy; subst hy; simp [ordPart, h, ho']⟩

theorem ordPart_flattenOrdList : ∀ (xs : List Loc), structPList xs = true →
    ∀ y ∈ flattenOrdList xs, ordPart y = true
  | [], _ => by simp [flattenOrdList]
  | x :: xs, h => by
      simp only [structPList_cons, Bool.and_eq_true] at h
      intro y hy
      simp only [flattenOrdList, List.mem_append] at hy
      rcases hy with hy | hy
      · exact (flattenOrd_parts x h.1).2 y hy
      · exact ordPart_flattenOrdList xs h.2 y hy

/-- **`Order` of structurally canonical parts (at least one) is structurally canonical**:
`flattenLocations` yields no `ordered` part. -/
theorem order_struct1 (xs : List Loc) (h : structPList xs = true) (hne : xs ≠ []) :
    structP (order xs) = true := by
  have hparts : ∀ y ∈ flattenOrdList xs, structP y = true ∧ isOrderedC y = false := fun y hy => by
    simpa [ordPart] using ordPart_flattenOrdList xs h y hy
  have hnn : flattenOrdList xs ≠ [] := by
    match xs, hne, h with
    | x :: r, _, h =>
      simp only [structPList_cons, Bool.and_eq_true] at h
      intro he
      simp only [flattenOrdList, List.append_eq_nil_iff] at he
      exact (flattenOrd_parts x h.1).1 he.1
  unfold order
  match hq : flattenOrdList xs, hnn with
  | [a], _ => exact (hparts a (by rw [hq]; simp)).1
  | a :: b :: r, _ =>
    rw [hq] at hparts
    simp only [structP, Bool.and_eq_true, Bool.not_eq_true', decide_eq_true_eq]
    exact ⟨⟨(structPList_iff _).2 fun y hy => (hparts y hy).1, by simp⟩,
      List.any_eq_false.2 fun y hy => by simp [(hparts y hy).2]⟩

/-- the structural half of `complement_canon` -/
theorem complement_struct (l : Loc) (h : structP l = true) : structP l.complement = true := by
  cases l <;> simp_all [Loc.complement, structP, isComplC]

/-- the structural half of `join_canon_partial`, with the combined guard -/
theorem join_struct_guard (xs : List Loc) (h : structPList xs = true) (hne : xs ≠ [])
    (hg : canonGuard xs = false) : structP (join xs) = true := by
  simp only [canonGuard, Bool.or_eq_false_iff, Bool.not_eq_false'] at hg
  refine join_struct xs h ?_ hg.2 hg.1
  match xs, hne, h with
  | x :: r, _, h =>
    simp only [structPList_cons, Bool.and_eq_true] at h
    intro he
    simp only [flatJList, List.append_eq_nil_iff] at he
    exact flatJ_ne_nil_of_struct x h.1 he.1

end Loc

namespace LocParseG

theorem _root_.Gts.LocParse.LeafOf.struct {Qi : Int → Prop} {l : Loc} (h : LocParse.LeafOf Qi l) : Loc.structP l = true := by
  cases h <;> simp [Loc.structP]

/-- a located result is structurally canonical unless flagged -/
def QL (v : Loc × Bool) : Prop := v.2 = false → Loc.structP v.1 = true
/-- a list of parts: not empty, every part structurally canonical unless flagged -/
def QM (v : List Loc × Bool) : Prop := v.1 ≠ [] ∧ (v.2 = false → Loc.structPList v.1 = true)

theorem post_fail_bind {α β} (f : α → P β) (Q : β → Prop) : Post ((Pars.fail : P α) >>= f) Q :=
  Post.fail_bind

theorem structPList_reverse (ls : List Loc) (h : Loc.structPList ls = true) :
    Loc.structPList ls.reverse = true := by
  rw [Loc.structPList_iff] at *
  intro l hl
  exact h l (by simpa using hl)

/-- `QL`, `QM` are kept by the leaves, by the part list and by `Join` (under the guard), `Order`, `Complement()` -/
theorem respects_struct (g : List Loc → Bool) (hg : ∀ ls, g ls = false → Loc.canonGuard ls = false) :
    Respects g (fun _ => True) (fun _ v => QL v) (fun _ w => QM w) := by
  refine ⟨fun _ h _ => h.struct, fun _ _ h => ⟨by simp, fun hb => by simpa using h hb⟩,
    fun _ _ _ _ h1 h2 => ⟨by simp, fun hb => ?_⟩,
    fun _ _ h => ⟨by simpa using h.1, fun hb => structPList_reverse _ (h.2 hb)⟩, fun _ _ h hb => ?_,
    fun _ _ h hb => Loc.order_struct1 _ (h.2 hb) h.1, fun _ _ h hb => Loc.complement_struct _ (h hb)⟩
  · simp only [Bool.or_eq_false_iff] at hb
    simp only [Loc.structPList_cons, Bool.and_eq_true]
    exact ⟨h2 hb.2, h1.2 hb.1⟩
  · simp only [Bool.or_eq_false_iff] at hb
    exact Loc.join_struct_guard _ (h.2 hb.1) h.1 (hg _ hb.2)

/-- **the invariant**: with a guard `g` at least as strong as `Loc.canonGuard`, every result the flagged
parser returns with the flag `false` is structurally canonical — all five mutual parsers, every fuel. -/
theorem post_all (g : List Loc → Bool) (hg : ∀ ls, g ls = false → Loc.canonGuard ls = false) :
    ∀ f : Nat, Post (loc g f) QL ∧ Post (multiple g f) QM ∧ Post (joinOf g f) QL ∧
      Post (orderOf g f) QL ∧ Post (complementOf g f) QL :=
  fun f => by
    obtain ⟨hl, hm, hj, ho, hc⟩ := rel_all (respects_struct g hg) Rel.int_inv f
    exact ⟨hl.post fun _ _ h => h, hm.post fun _ _ h => h, hj.post fun _ _ h => h, ho.post fun _ _ h => h,
      hc.post fun _ _ h => h⟩

theorem post_loc (f : Nat) : Post (loc Loc.canonGuard f) QL := (post_all _ (fun _ h => h) f).1

end LocParseG

theorem parseLocationG_struct (s : Bytes) (l : Loc) (r : Bytes)
    (h : parseLocationG Loc.canonGuard s = .ok (l, false, r)) : Loc.structP l = true := by
  unfold parseLocationG at h
  split at h
  · rename_i v st heq
    injection h with h
    have h1 : v.1 = l := congrArg Prod.fst h
    have h2 : v.2 = false := congrArg (fun x => x.2.1) h
    exact h1 ▸ LocParseG.post_loc _ _ _ _ heq h2
  · cases h

end Gts
