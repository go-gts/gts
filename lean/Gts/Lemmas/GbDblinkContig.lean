/-
  C01 helper lemmas: DBLINK and CONTIG.
-/
import Gts.Lemmas.GbLocus
import Gts.Lemmas.ByteSearch
namespace Gts.GenBank
open Gts.Pars

/-- a DBLINK pair: key and value on one line, no colon in the key, a non-empty value (f459ebc: a
pair without value is a parse error) -/
def pairOk (p : Bytes × Bytes) : Bool :=
  noEOL p.1 && noEOL p.2 && !p.1.contains 58 && !p.2.isEmpty

theorem dblinkPair_ok (k v : Bytes) (hk : ∀ x ∈ k, x ≠ 58) (hv : v ≠ []) :
    dblinkPair (k ++ 58 :: 32 :: v) = some (k, v) := by
  have hi := indexOf_append_at k (32 :: v) 58 hk
  have hlen : ¬ ((k ++ 58 :: 32 :: v).length ≤ k.length + 2 ∨ (k ++ 58 :: 32 :: v).getD (k.length + 1) 0 ≠ 32) := by
    intro h
    rcases h with h | h
    · simp only [List.length_append, List.length_cons] at h
      cases v with
      | nil => exact hv rfl
      | cons a b => simp only [List.length_cons] at h; omega
    · apply h
      simp [List.getD]
  simp only [dblinkPair, hi]
  rw [if_neg hlen]
  simp [List.drop_append]

/-- the pairs behind the first one, as they stand in the file -/
def dblinkMoreText (ps : List (Bytes × Bytes)) : Bytes :=
  ps.flatMap fun p => indent ++ (p.1 ++ 58 :: 32 :: p.2) ++ [10]

/-- the pairs behind the first one in a file with the line end `e` -/
def dblinkMoreTextE (e : Eol) (ps : List (Bytes × Bytes)) : Bytes :=
  ps.flatMap fun p => indent ++ (p.1 ++ 58 :: 32 :: p.2) ++ e.bytes

/-- the dictionary after reading the pairs in order (`Dictionary.Set`) -/
def dictSetAll (d : List (Bytes × Bytes)) (ps : List (Bytes × Bytes)) : List (Bytes × Bytes) :=
  ps.foldl (fun d p => dictSet d p.1 p.2) d

theorem pairOk_spec (p : Bytes × Bytes) (h : pairOk p = true) :
    noEOL (p.1 ++ 58 :: 32 :: p.2) = true ∧ (∀ x ∈ p.1, x ≠ 58) ∧ p.2 ≠ [] := by
  simp only [pairOk, Bool.and_eq_true, Bool.not_eq_true', List.isEmpty_eq_false_iff] at h
  obtain ⟨⟨⟨h1, h2⟩, h3⟩, h4⟩ := h
  refine ⟨?_, ?_, h4⟩
  · rw [noEOL_append, h1, noEOL_cons, noEOL_cons, h2]; rfl
  · intro x hx e; subst e
    have : p.1.contains 58 = true := List.contains_iff_mem.mpr hx
    rw [this] at h3; cases h3

theorem dblinkMore_ok (e : Eol) (ps : List (Bytes × Bytes)) (rest : Bytes) (stk : List Bytes) (f : Fields) (k : Nat)
    (hps : ∀ p ∈ ps, pairOk p = true) (hrest : (sp 12).isPrefixOf rest = false)
    (hk : (dblinkMoreTextE e ps ++ rest).length < k) :
    dblinkMore 12 k f ⟨dblinkMoreTextE e ps ++ rest, stk⟩ =
      (.ok ({ f with dblink := dictSetAll f.dblink ps }, true), ⟨rest, stk⟩) := by
  induction ps generalizing f k with
  | nil =>
    cases k with
    | zero => omega
    | succ k => gsimp [dblinkMore, dblinkMoreTextE, lit_fail _ _ _ hrest, dictSetAll]
  | cons p ps ih =>
    cases k with
    | zero => omega
    | succ k =>
      obtain ⟨h1, h2, h3⟩ := pairOk_spec p (hps p (by simp))
      have eq : dblinkMoreTextE e (p :: ps) ++ rest =
          sp 12 ++ ((p.1 ++ 58 :: 32 :: p.2) ++ (e.bytes ++ (dblinkMoreTextE e ps ++ rest))) := by
        simp [dblinkMoreTextE, List.flatMap_cons, indent, List.append_assoc]
      rw [eq] at hk ⊢
      simp only [dblinkMore, P.bind_run, attempt_run, lit_ok, line_okE e _ _ stk h1, dblinkPair_ok _ _ h2 h3]
      rw [ih _ k (fun q hq => hps q (by simp [hq])) (by
        have := e.bytes_pos; simp only [List.length_append] at hk ⊢; omega)]
      simp [dictSetAll]

theorem dblinkText_eq (p : Bytes × Bytes) (ps : List (Bytes × Bytes)) (rest : Bytes) :
    dblinkText (p :: ps) true ++ rest =
      bs "DBLINK" ++ (sp 6 ++ ((p.1 ++ 58 :: 32 :: p.2) ++ 10 :: (dblinkMoreText ps ++ rest))) := by
  have h2 : ∀ qs : List (Bytes × Bytes), dblinkText qs false = dblinkMoreText qs := by
    intro qs
    induction qs with
    | nil => rfl
    | cons q qs ih =>
      obtain ⟨a, b⟩ := q
      simp only [dblinkText, ih, dblinkMoreText, List.flatMap_cons]
      simp [bs, List.append_assoc]
  obtain ⟨a, b⟩ := p
  simp only [dblinkText, h2]
  simp [bs, sp, List.append_assoc]

theorem tr_dblinkMoreText (e : Eol) (ps : List (Bytes × Bytes)) (hps : ∀ p ∈ ps, pairOk p = true) :
    tr e (dblinkMoreText ps) = dblinkMoreTextE e ps :=
  tr_flatMap e _ _ ps fun p hp => by
    rw [tr_append, tr_append, tr_noLF e _ (noEOL_noLF _ (pairOk_spec p (hps p hp)).1), indent,
      tr_noLF e _ (noLF_sp 12), tr_eol]

/-- **DBLINK** round trip: the pairs are `Set` into the dictionary in order (for distinct keys
and an empty dictionary that is the list itself, `dictSetAll_distinct`) -/
theorem dblink_okE (e : Eol) (f : Fields) (p : Bytes × Bytes) (ps : List (Bytes × Bytes)) (rest : Bytes)
    (stk : List Bytes) (hps : ∀ q ∈ p :: ps, pairOk q = true) (hrest : (sp 12).isPrefixOf rest = false) :
    dblinkField 12 f
        ⟨bs "DBLINK" ++ (sp 6 ++ ((p.1 ++ 58 :: 32 :: p.2) ++ (e.bytes ++ (dblinkMoreTextE e ps ++ rest)))), stk⟩ =
      (.ok ({ f with dblink := dictSetAll f.dblink (p :: ps) }, true), ⟨rest, stk⟩) := by
  obtain ⟨h1, h2, h3⟩ := pairOk_spec p (hps p (by simp))
  have hn := fun r s => fieldName_ok (bs "DBLINK") 12 r s (by decide +kernel)
  have hs : sp (12 - (bs "DBLINK").length) = sp 6 := by decide +kernel
  rw [hs] at hn
  simp only [dblinkField, P.bind_run, hn, line_okE e _ _ _ h1, dblinkPair_ok _ _ h2 h3, getS,
    dblinkMore_ok e ps rest _ _ _ (fun q hq => hps q (by simp [hq])) hrest (Nat.lt_succ_self _)]
  rfl

def distinctKeys : List (Bytes × Bytes) → Bool
  | [] => true
  | p :: ps => !(ps.any fun q => q.1 == p.1) && distinctKeys ps

theorem dictSet_append_new (d : List (Bytes × Bytes)) (k v : Bytes) (h : ∀ q ∈ d, q.1 ≠ k) :
    dictSet d k v = d ++ [(k, v)] := by
  induction d with
  | nil => rfl
  | cons q d ih =>
    obtain ⟨a, b⟩ := q
    have : a ≠ k := h (a, b) (by simp)
    simp only [dictSet, this, if_false, List.cons_append]
    rw [ih (fun q hq => h q (by simp [hq]))]

theorem dictSetAll_distinct (d ps : List (Bytes × Bytes)) (hd : distinctKeys ps = true)
    (hdp : ∀ q ∈ d, ∀ p ∈ ps, q.1 ≠ p.1) : dictSetAll d ps = d ++ ps := by
  induction ps generalizing d with
  | nil => simp [dictSetAll]
  | cons p ps ih =>
    simp only [distinctKeys, Bool.and_eq_true, Bool.not_eq_true', List.any_eq_false, beq_iff_eq] at hd
    have h1 : dictSet d p.1 p.2 = d ++ [p] := by
      rw [dictSet_append_new d p.1 p.2 (fun q hq => hdp q hq p (by simp))]
    have := ih (d ++ [p]) hd.2 (by
      intro q hq r hr
      rcases List.mem_append.mp hq with h | h
      · exact hdp q h r (by simp [hr])
      · simp at h; subst h; exact fun e => hd.1 r hr e.symm)
    simp only [dictSetAll, List.foldl_cons, h1] at this ⊢
    rw [this]; simp

/-- a CONTIG: a non-empty accession without colon on one line, non-negative bounds -/
def contigOk (f : Fields) : Bool :=
  !f.contigAcc.isEmpty && noEOL f.contigAcc && !f.contigAcc.contains 58 &&
  decide (0 ≤ f.contigHead ∧ f.contigHead < 9223372036854775807 ∧ 0 ≤ f.contigTail ∧ f.contigTail ≤ 9223372036854775807)

theorem untilColon_ok (a r : Bytes) (stk : List Bytes) (h : ∀ x ∈ a, x ≠ 58) :
    untilColon ⟨a ++ 58 :: r, stk⟩ = (.ok a, ⟨58 :: r, stk⟩) := by
  gsimp [untilColon, indexOf_append_at a r 58 h]

theorem untilFilter_ok (f : UInt8 → Bool) (a r : Bytes) (c : UInt8) (stk : List Bytes)
    (h : ∀ x ∈ a, f x = false) (hc : f c = true) :
    untilFilter f ⟨a ++ c :: r, stk⟩ = (.ok a, ⟨c :: r, stk⟩) := by
  gsimp [untilFilter, indexWhere_append_at f a r c h hc]

/-- **CONTIG** round trip; the parser stops behind the closing parenthesis (the line feed is
skipped by the record loop as an empty unknown line) -/
theorem contig_roundtrip (f g : Fields) (rest : Bytes) (stk : List Bytes) (h : contigOk g = true) :
    contigField 12 f ⟨bs "CONTIG      " ++ (contigText g ++ rest), stk⟩ =
      (.ok ({ f with contigAcc := g.contigAcc, contigHead := g.contigHead, contigTail := g.contigTail }, true),
        ⟨rest, stk⟩) := by
  simp only [contigOk, Bool.and_eq_true, Bool.not_eq_true', decide_eq_true_eq] at h
  obtain ⟨⟨⟨h1, h2⟩, h3⟩, h4, h5, h6, h7⟩ := h
  have e : contigText g ++ rest = bs "join(" ++ (g.contigAcc ++ 58 :: (itoaB (g.contigHead + 1) ++ (bs ".." ++
      (itoaB g.contigTail ++ 41 :: rest)))) := by
    simp only [contigText, h1, Bool.false_eq_true, if_false, List.append_assoc, List.cons_append, List.nil_append]
  rw [e, field_label (bs "CONTIG      ") (bs "CONTIG") 12 (by decide +kernel)]
  have hn := fun r s => fieldName_ok (bs "CONTIG") 12 r s (by decide +kernel)
  have hi1 := fun X s => int_itoaB (g.contigHead + 1) (bs ".." ++ X) s (by omega) (by omega) (by simp [bs, isDigit])
  have hi2 := fun X s => int_itoaB g.contigTail (41 :: X) s h6 h7 (by simp [isDigit])
  have hstop : ∀ x ∈ g.contigAcc, contigStop x = false := by
    intro x hx
    have hx58 : x ≠ 58 := by
      rintro rfl
      rw [List.contains_iff_mem.mpr hx] at h3; cases h3
    have hxe := noEOL_iff.1 h2 x hx
    simp [contigStop, hx58, hxe.1, hxe.2]
  have hu := fun r s => untilFilter_ok contigStop g.contigAcc r 58 s hstop (by decide)
  gsimp [contigField, hn, lit_ok, hu, lit_byte, hi1, hi2]

end Gts.GenBank
