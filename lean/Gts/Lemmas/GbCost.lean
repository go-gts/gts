/-
  C07, "time proportional to the input" — facts about the cost-counting reading of the reader
  (Gts/Lemmas/GbCostReader.lean, generated).

  * `forget`: an instrumented parser with its counter thrown away.  Every instrumented primitive,
    forgotten, IS the model's primitive (`forget_next` … `forget_lit`): the counted reading moves the
    parser state exactly as the model does, primitive by primitive; the composite parsers are the
    model's text over these primitives.
  * The place where the counted steps WERE not linear in the input because of `pars.Until(':')`:
      - `pars.Until(':')` scans to the end of the input when there is no colon
        (`untilColon_scans_to_end`).  The CONTIG parser called it until /repo a4b3f5d: one CONTIG line
        cost the whole rest of the file, `k` such lines `Θ(k · n)` (finding K7D).  REPAIRED (F38): the
        parser now calls `pars.Until` with a filter that also accepts the line ends and requires the
        colon; `contigField_cost_le` — from EVERY state the counted steps of the CONTIG parser are at
        most two per byte in front of the first line end plus 37 (a potential argument, `Lin`: every
        primitive the parser calls pays for the bytes it consumes out of the line's budget).
  * The prefix loop of `quotedQualifierParser`.  BEFORE 2612fae (`stripContCostOld`, the old reading,
    K7E) it started `bytes.Index` at the beginning of the token and copied the tail in every round: a
    quoted value of `k` continuation lines cost at least `(d + 2) · k · (k + 1) / 2` steps for an
    indent of `d` columns, i.e. more than `len(token)² / (2 · (d + 2))` (`stripContCostOld_quadratic`).
    The one-pass loop of today (`stripContCost`) spends at most `len(prefix) + 2` steps per byte of
    the token (`stripContCost_linear`).
  * families (`contigFam`, `quotedFam`, …) whose step counts were EVALUATED (`#eval`, not theorems;
    the kernel cannot run the counted reader on inputs of useful size) — see the table at the end.
-/
import Gts.Lemmas.GbCostReader
import Gts.Lemmas.ParsRun
import Gts.Lemmas.ParsPost
import Gts.Lemmas.GbStripOnePass
namespace Gts.Cost
open Gts.Pars (Bytes PS Err P indexWhere)
open Gts.GenBank (bs sp stripCont stripContOld stripLoop findSub indexOf Registry contigStop)

def forget {α} (p : PC α) : P α := fun s =>
  match p ⟨s, 0⟩ with
  | (r, c) => (r, c.ps)

theorem forget_next : forget next = Pars.next := by
  funext s; rcases s with ⟨rest, stk⟩; cases rest <;> rfl
theorem forget_advance1 : forget advance1 = Pars.advance1 := rfl
theorem forget_advanceN (n : Nat) : forget (advanceN n) = Pars.advanceN n := rfl
theorem forget_push : forget push = Pars.push := rfl
theorem forget_pop : forget pop = Pars.pop := by
  funext s; rcases s with ⟨rest, stk⟩; cases stk <;> rfl
theorem forget_drop : forget drop = Pars.drop := rfl
theorem forget_clear : forget clear = Pars.clear := rfl
theorem forget_pushed : forget pushed = Pars.pushed := rfl
theorem forget_request (n : Nat) : forget (request n) = Pars.request n := by
  funext s
  show (match (request n) ⟨s, 0⟩ with | (r, c) => (r, c.ps)) = Pars.request n s
  unfold request Pars.request
  simp only [bind, ExceptT.bind, ExceptT.mk, ExceptT.bindCont, StateT.bind, tick, getS, Pars.getS]
  by_cases h : s.rest.length < n <;> simp [h] <;> rfl
theorem forget_trail : forget trail = Pars.trail := by
  funext s; rcases s with ⟨rest, stk⟩
  cases stk with
  | nil => rfl
  | cons f st =>
    show (match trail ⟨⟨rest, f :: st⟩, 0⟩ with | (r, c) => (r, c.ps)) = Pars.trail ⟨rest, f :: st⟩
    unfold trail Pars.trail
    simp only [bind, ExceptT.bind, ExceptT.mk, ExceptT.bindCont, StateT.bind, tick, getS, Pars.getS]
    by_cases h : f.length < rest.length <;> simp [h] <;> rfl
theorem forget_skipWhile (f : UInt8 → Bool) : forget (skipWhile f) = Pars.skipWhile f := rfl
theorem forget_line : forget line = Pars.line := rfl
theorem forget_lit (p : Bytes) : forget (lit p) = Pars.lit p := by
  funext s
  show (match (lit p) ⟨s, 0⟩ with | (r, c) => (r, c.ps)) = Pars.lit p s
  unfold lit Pars.lit
  simp only [bind, ExceptT.bind, ExceptT.mk, ExceptT.bindCont, StateT.bind, tick, getS, Pars.getS]
  by_cases h : (s.rest.take p.length == p && decide (p.length ≤ s.rest.length)) = true <;>
    simp [h] <;> rfl

/-- `pars.Until(byte(':'))` on a state without a colon: it fails, leaves the position where it was,
and has looked at EVERY remaining byte.  (Until /repo a4b3f5d the CONTIG parser called it behind
`CONTIG      join(`; `tryAllParsers` then restored the position and the line was read as an unknown
field — one line consumed for a scan of the whole rest.) -/
theorem untilColon_scans_to_end (c : CS) (h : indexOf 58 c.ps.rest = none) :
    untilColon.run' c = (.error .fail, { c with cost := c.cost + (1 + c.ps.rest.length) }) := by
  show untilColon c = _
  unfold untilColon
  simp only [bind, ExceptT.bind, ExceptT.mk, ExceptT.bindCont, StateT.bind, getS, h, tick, fail]

/-- … and with a colon `i` bytes ahead it looks at `i + 1` bytes, however far that is (also across
line ends) -/
theorem untilColon_scans_to_colon (c : CS) (i : Nat) (h : indexOf 58 c.ps.rest = some i) :
    (untilColon.run' c).2.cost = c.cost + (1 + (i + 1)) := by
  show (untilColon c).2.cost = _
  unfold untilColon
  simp only [bind, ExceptT.bind, ExceptT.mk, ExceptT.bindCont, StateT.bind, getS, h, tick, setS, pure,
    ExceptT.pure]
  rfl

/-- steps of the in-place loop of `quotedQualifierParser` BEFORE 2612fae (`stripContOld`; the counted
reader no longer uses it): every round ran `bytes.Index` from the start of the token and copied the
tail down — at most `len(token)` byte operations each, at least the bytes in front of the occurrence
plus the bytes behind the prefix; charged `len(token)` -/
def stripContCostOld (pre : Bytes) : Nat → Bytes → Nat
  | 0, _ => 0
  | f + 1, t =>
    match findSub (10 :: pre) t 0 with
    | none => t.length
    | some i => t.length + stripContCostOld pre f (t.take (i + 1) ++ t.drop (i + 1 + pre.length))

def rep (k : Nat) (b : Bytes) : Bytes := (List.replicate k b).flatten

theorem rep_succ (k : Nat) (b : Bytes) : rep (k + 1) b = b ++ rep k b := by
  simp [rep, List.replicate_succ]

theorem rep_succ' (k : Nat) (b : Bytes) : rep (k + 1) b = rep k b ++ b := by
  induction k with
  | zero => simp [rep]
  | succ k ih => rw [rep_succ, ih, ← List.append_assoc, ← rep_succ, ih]

theorem rep_length (k : Nat) (b : Bytes) : (rep k b).length = k * b.length := by
  induction k with
  | zero => simp [rep]
  | succ k ih => rw [rep_succ, List.length_append, ih]; rw [Nat.succ_mul]; omega

/-- one continuation line of a quoted value: line feed, the indent, one byte of text -/
def contLine (d : Nat) : Bytes := 10 :: sp d ++ [120]

theorem contLine_length (d : Nat) : (contLine d).length = d + 2 := by
  simp [contLine, GenBank.sp_length]

/-- inside `j` stripped lines `"\n" ++ indent` does not begin anywhere: at an even offset an `x` follows the line feed,
at an odd one the text begins with `x` -/
theorem stripped_no_hit (d : Nat) (Y : Bytes) : ∀ j k, k < (rep j [10, 120]).length →
    (10 :: sp (d + 1)).isPrefixOf ((rep j [10, 120]).drop k ++ Y) = false
  | 0, _, h => absurd h (Nat.not_lt_zero _)
  | j + 1, 0, _ => by rw [rep_succ, GenBank.sp_succ]; simp [List.isPrefixOf]
  | j + 1, 1, _ => by rw [rep_succ]; simp [List.isPrefixOf]
  | j + 1, k + 2, h => by
    rw [rep_succ]
    refine stripped_no_hit d Y j k ?_
    rw [rep_succ] at h; simpa using h

/-- one round of the old loop costs the length of its token -/
theorem stripContCostOld_step (pre a t : Bytes) (f : Nat)
    (hno : ∀ i, i < a.length → (10 :: pre).isPrefixOf (a.drop i ++ ((10 :: pre) ++ t)) = false) :
    stripContCostOld pre (f + 1) (a ++ ((10 :: pre) ++ t)) =
      (a ++ ((10 :: pre) ++ t)).length + stripContCostOld pre f (a ++ 10 :: t) := by
  obtain ⟨h1, h2⟩ := GenBank.oldRound_cut pre a t hno
  rw [stripContCostOld, h1]
  exact congrArg (_ + stripContCostOld pre f ·) h2

/-- THE PREFIX LOOP WAS QUADRATIC (before 2612fae): a token of `m` continuation lines (indent `d ≥ 1`, behind `j`
lines that are already stripped) costs at least `(d + 2) · m · (m + 1) / 2` counted steps, whatever
the fuel above `m`.  The token has `2·j + m·(d + 2)` bytes: for `j = 0` the cost exceeds
`len² / (2·(d + 2))`. -/
theorem stripContCostOld_quadratic (d : Nat) (hd : 1 ≤ d) : ∀ (m j f : Nat), m ≤ f →
    (d + 2) * (m * (m + 1)) ≤
      2 * stripContCostOld (sp d) f (rep j [10, 120] ++ rep m (contLine d))
  | 0, _, _, _ => by simp
  | m + 1, j, f, hf => by
    obtain ⟨f', rfl⟩ : ∃ f', f = f' + 1 := ⟨f - 1, by omega⟩
    obtain ⟨d', rfl⟩ : ∃ d', d = d' + 1 := ⟨d - 1, by omega⟩
    -- the first occurrence of `"\n" ++ indent` is the first unstripped line; the round strips it
    have htok : rep j [10, 120] ++ rep (m + 1) (contLine (d' + 1)) =
        rep j [10, 120] ++ ((10 :: sp (d' + 1)) ++ (120 :: rep m (contLine (d' + 1)))) := by
      rw [rep_succ]; simp [contLine]
    have hlen : (rep j [10, 120] ++ rep (m + 1) (contLine (d' + 1))).length = 2 * j + (m + 1) * (d' + 1 + 2) := by
      rw [List.length_append, rep_length, rep_length, contLine_length]
      simp only [List.length_cons, List.length_nil]
      omega
    rw [htok, stripContCostOld_step _ _ _ _ (fun k hk => stripped_no_hit d' _ j k hk), ← htok, hlen,
      show rep j [10, 120] ++ 10 :: 120 :: rep m (contLine (d' + 1)) = rep (j + 1) [10, 120] ++ rep m (contLine (d' + 1)) by
        rw [rep_succ' j]; simp]
    have ih := stripContCostOld_quadratic (d' + 1) hd m (j + 1) f' (by omega)
    have e5 : (d' + 1 + 2) * ((m + 1) * (m + 1 + 1)) =
        (d' + 1 + 2) * (m * (m + 1)) + 2 * ((m + 1) * (d' + 1 + 2)) := by
      rw [Nat.mul_comm (m + 1) (d' + 1 + 2)]
      simp only [Nat.mul_add, Nat.add_mul, Nat.mul_one, Nat.one_mul]
      omega
    rw [e5]
    omega

/-- … so NO linear bound in the length of the token held for the counted steps of the old loop, at the
indent of a GenBank feature table (21 columns) -/
theorem stripContCostOld_not_linear (c e : Nat) :
    ∃ t : Bytes, c * t.length + e < stripContCostOld (sp 21) t.length t := by
  let m := 2 * c + 2 * e + 1
  refine ⟨rep m (contLine 21), ?_⟩
  have hlen : (rep m (contLine 21)).length = m * 23 := by rw [rep_length, contLine_length]
  have hq := stripContCostOld_quadratic 21 (by decide) m 0 (m * 23) (by omega)
  have h0 : rep 0 [10, 120] ++ rep m (contLine 21) = rep m (contLine 21) := by simp [rep]
  rw [h0] at hq
  rw [hlen]
  have hm : m + 1 = 2 * c + 2 * e + 2 := by omega
  have e1 : m * (m + 1) = 2 * (c * m) + 2 * (e * m) + 2 * m := by
    rw [hm, Nat.mul_add, Nat.mul_add, Nat.mul_left_comm m 2 c, Nat.mul_left_comm m 2 e,
      Nat.mul_comm m c, Nat.mul_comm m e, Nat.mul_comm m 2]
  have e2 : c * (m * 23) = 23 * (c * m) := by
    rw [Nat.mul_comm m 23, Nat.mul_left_comm]
  have e3 : e ≤ e * m := Nat.le_mul_of_pos_right e (by omega)
  rw [e1] at hq
  rw [e2]
  omega

theorem stripLoopCost_le (rp : Bytes) (k : Nat) : ∀ (t acc : Bytes),
    stripLoopCost rp k acc t ≤ (rp.length + 1) * t.length
  | [], _ => by simp [stripLoopCost]
  | c :: t, acc => by
    rw [stripLoopCost, List.length_cons, Nat.mul_succ]
    have hmin : 1 + min rp.length (acc.length + 1) ≤ rp.length + 1 := by omega
    split
    · have := stripLoopCost_le rp k t ((c :: acc).drop k); omega
    · have := stripLoopCost_le rp k t (c :: acc); omega

/-- THE ONE-PASS LOOP IS LINEAR: at most `len(prefix) + 2` counted steps per byte of the token (the
move and the comparison of the end of `token[:w]` with `"\n" ++ prefix`), for EVERY token and EVERY
prefix, the empty one included -/
theorem stripContCost_linear (pre t : Bytes) : stripContCost pre t ≤ (pre.length + 2) * t.length := by
  have := stripLoopCost_le (10 :: pre).reverse pre.length t []
  simpa [stripContCost] using this

/-- the primitives that loop over input bytes (`skipWhile` = the loops of `pars.Int / Spaces / Word`,
`pars.Line`, `pars.String`, `pars.Quoted`, `pars.Until`) spend at most `bytes left + 3` steps per call;
all the others spend a constant (`request n`: `1 + n` with `n` one of 2, 5, 6, 11 in the reader) -/
theorem long_primitives_le (c : CS) (f : UInt8 → Bool) (p : Bytes) :
    ((skipWhile f).run' c).2.cost ≤ c.cost + (c.ps.rest.length + 3) ∧
    (line.run' c).2.cost ≤ c.cost + (c.ps.rest.length + 3) ∧
    ((lit p).run' c).2.cost ≤ c.cost + (c.ps.rest.length + 3) ∧
    (quoted.run' c).2.cost ≤ c.cost + (c.ps.rest.length + 3) ∧
    (untilColon.run' c).2.cost ≤ c.cost + (c.ps.rest.length + 3) := by
  refine ⟨?_, ?_, ?_, ?_, ?_⟩
  · show c.cost + (1 + (c.ps.rest.length - (c.ps.rest.dropWhile f).length)) ≤ _
    omega
  · show c.cost + (1 + (c.ps.rest.length - _)) ≤ _
    omega
  · show ((lit p) c).2.cost ≤ _
    unfold lit
    simp only [bind, ExceptT.bind, ExceptT.mk, ExceptT.bindCont, StateT.bind, getS, tick]
    split <;> (show c.cost + (1 + min p.length c.ps.rest.length) ≤ _; omega)
  · show (quoted c).2.cost ≤ _
    unfold quoted
    simp only [bind, ExceptT.bind, ExceptT.mk, ExceptT.bindCont, StateT.bind, getS]
    by_cases hq : c.ps.rest.head? = some 34
    · rw [if_pos hq]
      have hl : (c.ps.rest.drop 1).length + 1 = c.ps.rest.length := by
        rcases hr : c.ps.rest with _ | ⟨x, r⟩
        · rw [hr] at hq; simp at hq
        · simp
      cases hk : GenBank.scanQuoted (c.ps.rest.drop 1) 0 with
      | some k =>
        have hlt := GenBank.scanQ_lt false _ 0 k hk
        show c.cost + (1 + (k + 2)) ≤ _
        omega
      | none =>
        show c.cost + (1 + c.ps.rest.length) ≤ _
        omega
    · rw [if_neg hq]
      show c.cost + 1 ≤ _
      omega
  · cases hi : indexOf 58 c.ps.rest with
    | none => rw [untilColon_scans_to_end c hi]; show c.cost + (1 + c.ps.rest.length) ≤ _; omega
    | some i =>
      have := GenBank.indexOf_bound 58 c.ps.rest i hi
      rw [untilColon_scans_to_colon c i hi]
      omega

/-! ### the CONTIG parser reads one line (/repo a4b3f5d)

A potential argument.  `pot c` = steps spent + two for every byte between the position and the first
line end.  `Lin K p`: whatever `p` answers, the counter ends at most `K` above the potential `p` started
from, and when `p` succeeds the potential itself has grown by at most `K` — the bytes it consumed lie
on the line and are paid for out of the line's budget.  `Lin` composes along `>>=` (`Lin.bind`); it holds
of `pars.String` for a literal without line ends, of the field padding, of `pars.Until(filter)` for a
filter that accepts the line ends (NOT of `pars.Until(':')`: `untilColon_scans_to_end`), of `pars.Int`
(which pushes and pops its own frame: proved on the unfolded text, `intTail_spec`). -/

def inLine (b : UInt8) : Bool := b != 10 && b != 13

def lineLen (l : Bytes) : Nat := (l.takeWhile inLine).length

def pot (c : CS) : Nat := c.cost + 2 * lineLen c.ps.rest

def Lin {α} (K : Nat) (p : PC α) : Prop := ∀ c : CS,
  (p c).2.cost ≤ pot c + K ∧ ∀ a, (p c).1 = .ok a → pot (p c).2 ≤ pot c + K

theorem lineLen_le (l : Bytes) : lineLen l ≤ l.length := by
  induction l with
  | nil => simp [lineLen]
  | cons x l ih =>
    simp only [lineLen, List.takeWhile_cons, List.length_cons] at ih ⊢
    split <;> simp only [List.length_cons, List.length_nil] <;> omega

theorem lineLen_append (a r : Bytes) (h : ∀ x ∈ a, inLine x = true) :
    lineLen (a ++ r) = a.length + lineLen r := by
  induction a with
  | nil => simp
  | cons x a ih =>
    have hx := h x (by simp)
    simp only [lineLen, List.cons_append, List.takeWhile_cons, hx, if_true, List.length_cons] at ih ⊢
    rw [ih (fun y hy => h y (by simp [hy]))]; omega

theorem lineLen_all (a : Bytes) (h : ∀ x ∈ a, inLine x = true) : lineLen a = a.length := by
  have := lineLen_append a [] h
  simpa [lineLen] using this

theorem PC.bind_run {α β} (x : PC α) (f : α → PC β) (c : CS) :
    (x >>= f) c = match x c with
      | (.ok a, c') => f a c'
      | (.error e, c') => (.error e, c') := by
  show (ExceptT.bind x f) c = _
  unfold ExceptT.bind ExceptT.bindCont ExceptT.mk
  simp only [bind, StateT.bind]
  rcases x c with ⟨r, c'⟩
  cases r <;> rfl

theorem Lin.bind {α β} {K1 K2 : Nat} {p : PC α} {q : α → PC β} (hp : Lin K1 p)
    (hq : ∀ a, Lin K2 (q a)) : Lin (K1 + K2) (p >>= q) := by
  intro c
  have ⟨h1, h1'⟩ := hp c
  rw [PC.bind_run]
  rcases hpc : p c with ⟨r, c1⟩
  rw [hpc] at h1 h1'
  cases r with
  | error e =>
    simp only at h1 ⊢
    exact ⟨by omega, fun a h => by cases h⟩
  | ok a =>
    have h1'' := h1' a rfl
    have ⟨h2, h2'⟩ := hq a c1
    simp only at h1'' ⊢
    exact ⟨by omega, fun b h => by have := h2' b h; omega⟩

theorem lin_pure {α} (a : α) : Lin 0 (pure a : PC α) := by
  intro c
  exact ⟨by show c.cost ≤ pot c + 0; simp only [pot]; omega, fun _ _ => by show pot c ≤ pot c + 0; omega⟩

theorem lin_of_frame {α} (K : Nat) (p : PC α)
    (h : ∀ c, (p c).2.ps.rest = c.ps.rest ∧ (p c).2.cost ≤ c.cost + K) : Lin K p := by
  intro c
  have ⟨h1, h2⟩ := h c
  simp only [pot, h1]
  exact ⟨by omega, fun _ _ => by omega⟩

theorem lin_lit (p : Bytes) (h : ∀ x ∈ p, inLine x = true) : Lin (1 + p.length) (lit p) := by
  intro c
  unfold lit
  simp only [PC.bind_run, getS, tick]
  by_cases hm : (c.ps.rest.take p.length == p && decide (p.length ≤ c.ps.rest.length)) = true
  · rw [if_pos hm]
    simp only [Bool.and_eq_true, beq_iff_eq, decide_eq_true_eq] at hm
    have hr : c.ps.rest = p ++ c.ps.rest.drop p.length := by
      conv => lhs; rw [← List.take_append_drop p.length c.ps.rest, hm.1]
    have hl := lineLen_append p (c.ps.rest.drop p.length) h
    rw [← hr] at hl
    simp only [setS, pot]
    have : min p.length c.ps.rest.length = p.length := Nat.min_eq_left hm.2
    exact ⟨by omega, fun _ _ => by omega⟩
  · rw [if_neg hm]
    simp only [fail, pot]
    have : min p.length c.ps.rest.length ≤ p.length := Nat.min_le_left _ _
    exact ⟨by omega, fun _ h => by cases h⟩

theorem inLine_sp (n : Nat) : ∀ x ∈ sp n, inLine x = true := by
  intro x hx
  simp only [sp, List.mem_replicate] at hx
  rw [hx.2]; rfl

theorem lin_fieldPadding (a b : Nat) : Lin 1 (fieldPadding a b) := by
  unfold fieldPadding
  by_cases h1 : a > b
  · simp only [h1, if_true]
    apply lin_of_frame
    intro c
    simp only [PC.bind_run, clear, getS, setS, tick, fail]
    exact ⟨trivial, by omega⟩
  · simp only [h1, if_false]
    intro c
    rcases c with ⟨⟨rest, stk⟩, cost⟩
    simp only [PC.bind_run, getS]
    by_cases h2 : (sp (b - a)).isPrefixOf rest = true
    · rw [if_pos h2]
      simp only [PC.bind_run, advanceN, getS, setS, tick, pure, ExceptT.pure, ExceptT.mk, StateT.pure, pot]
      obtain ⟨t, ht⟩ := List.isPrefixOf_iff_prefix.mp h2
      have hl := lineLen_append (sp (b - a)) t (inLine_sp _)
      rw [ht] at hl
      have hd : rest.drop (sp (b - a)).length = t := by rw [← ht]; simp
      rw [hd]
      exact ⟨by omega, fun _ _ => by omega⟩
    · rw [if_neg h2]
      split <;> simp only [PC.bind_run, clear, getS, setS, tick, fail, pure, ExceptT.pure, ExceptT.mk, StateT.pure, pot] <;>
        exact ⟨by omega, fun _ _ => by omega⟩

theorem lin_fieldName (name : Bytes) (d : Nat) (h : ∀ x ∈ name, inLine x = true) :
    Lin ((1 + name.length) + 1) (fieldName name d) := by
  unfold fieldName
  exact Lin.bind (lin_lit name h) (fun _ => lin_fieldPadding _ _)

theorem lin_untilFilter (f : UInt8 → Bool) (hf : ∀ b, f b = false → inLine b = true) :
    Lin 2 (untilFilter f) := by
  intro c
  unfold untilFilter
  simp only [PC.bind_run, getS]
  cases hi : indexWhere f c.ps.rest with
  | none =>
    simp only [PC.bind_run, tick, fail, pot]
    have := lineLen_all c.ps.rest (fun x hx => hf x (Pars.indexWhere_none f _ hi x hx))
    exact ⟨by omega, fun _ h => by cases h⟩
  | some i =>
    simp only [PC.bind_run, tick, setS, pure, ExceptT.pure, ExceptT.mk, StateT.pure, pot]
    have ⟨h1, h2⟩ := Pars.indexWhere_split f _ i hi
    have hl := lineLen_append (c.ps.rest.take i) (c.ps.rest.drop i) (fun x hx => hf x (h2 x hx))
    rw [List.take_append_drop] at hl
    have : (c.ps.rest.take i).length = i := by simp [h1]
    exact ⟨by omega, fun _ _ => by omega⟩

theorem contigStop_inLine (b : UInt8) (h : contigStop b = false) : inLine b = true := by
  simp only [contigStop, Bool.or_eq_false_iff, beq_eq_false_iff_ne, ne_eq] at h
  simp [inLine, h.1.2, h.2]

theorem inLine_of_class {p : UInt8 → Bool} (h10 : p 10 = false) (h13 : p 13 = false) (y : UInt8)
    (h : p y = true) : inLine y = true := by
  unfold inLine
  by_cases h1 : y = 10
  · subst h1; rw [h10] at h; cases h
  by_cases h2 : y = 13
  · subst h2; rw [h13] at h; cases h
  simp [h1, h2]

theorem isDigit_inLine (y : UInt8) (h : Pars.isDigit y = true) : inLine y = true :=
  inLine_of_class (by decide) (by decide) y h

/-- `pars.Int` behind its `Push` and the sign -/
def intTail (c : UInt8) : PC Int :=
  if !Pars.isDigit c then do pop; fail
  else if c == 48 then do advance1; drop; pure 0
  else do
    skipWhile Pars.isDigit
    let p ← trail
    tick p.length
    match Pars.atoi p with
    | some n => pure n
    | none => fail

theorem int_eq : int = (do
    push
    let c ← next
    let c ← if c == 45 || c == 43 then do advance1; next else pure c
    intTail c) := rfl

/-- `pars.Trail` on its own frame: what was consumed since the `Push`, for one step -/
theorem trail_spec (pre r : Bytes) (stk : List Bytes) (cost : Nat) :
    trail ⟨⟨r, (pre ++ r) :: stk⟩, cost⟩ = (.ok pre, ⟨⟨r, stk⟩, cost + 1⟩) := by
  have h1 : ¬ (pre ++ r).length < r.length := by simp
  have h2 : (pre ++ r).length - r.length = pre.length := by simp
  simp only [trail, PC.bind_run, tick, getS, h1, if_false, h2, setS, List.take_left', List.drop_left', pure, ExceptT.pure, ExceptT.mk, StateT.pure]

/-- behind a sign of at most one byte, with the frame of `pars.Int` on top of the stack -/
theorem intTail_spec (sgn : Bytes) (hsl : sgn.length ≤ 1)
    (y : UInt8) (r : Bytes) (stk : List Bytes) (cost : Nat) :
    (intTail y ⟨⟨y :: r, (sgn ++ y :: r) :: stk⟩, cost⟩).2.cost ≤ cost + 2 * lineLen (y :: r) + 3 ∧
    ∀ a, (intTail y ⟨⟨y :: r, (sgn ++ y :: r) :: stk⟩, cost⟩).1 = .ok a →
      pot (intTail y ⟨⟨y :: r, (sgn ++ y :: r) :: stk⟩, cost⟩).2 ≤ cost + 2 * lineLen (y :: r) + 3 := by
  unfold intTail
  by_cases hd : Pars.isDigit y = true
  · have hy := isDigit_inLine y hd
    have hly : lineLen (y :: r) = 1 + lineLen r := lineLen_append [y] r (by simpa using hy)
    by_cases h0 : (y == 48) = true
    · simp only [hd, h0, Bool.not_true, Bool.false_eq_true, if_false, if_true, PC.bind_run, advance1, drop,
        getS, setS, tick, pure, ExceptT.pure, ExceptT.mk, StateT.pure, pot, List.drop_one, List.tail_cons]
      exact ⟨by omega, fun _ _ => by omega⟩
    · -- the digits `D`, what follows them `T`; `Trail` returns sign and digits
      generalize hD : (y :: r).takeWhile Pars.isDigit = D
      generalize hT : (y :: r).dropWhile Pars.isDigit = T
      have hl : y :: r = D ++ T := by rw [← hD, ← hT, List.takeWhile_append_dropWhile]
      have hlD : lineLen (D ++ T) = D.length + lineLen T :=
        lineLen_append D T fun x hx => isDigit_inLine x (List.all_eq_true.1 (hD ▸ List.all_takeWhile) x hx)
      simp only [hd, h0, Bool.not_true, Bool.false_eq_true, if_false, PC.bind_run, skipWhile, getS, setS, tick]
      rw [hT, hl, ← List.append_assoc]
      simp only [trail_spec]
      have hsD : (sgn ++ D).length = sgn.length + D.length := List.length_append
      have hDT : (D ++ T).length - T.length = D.length := by simp
      cases Pars.atoi (sgn ++ D) with
      | none =>
        simp only [fail, pot, hsD, hDT]
        exact ⟨by omega, fun _ h => by cases h⟩
      | some n =>
        simp only [pot, hsD, hDT, pure, ExceptT.pure, ExceptT.mk, StateT.pure]
        exact ⟨by omega, fun _ _ => by omega⟩
  · have hd' : Pars.isDigit y = false := by simpa using hd
    simp only [hd', Bool.not_false, if_true, PC.bind_run, pop, getS, setS, tick, fail]
    exact ⟨by omega, fun _ h => by cases h⟩

theorem lin_int : Lin 7 int := by
  rw [int_eq]
  intro c
  rcases c with ⟨⟨rest, stk⟩, cost⟩
  cases rest with
  | nil =>
    simp only [PC.bind_run, push, next, getS, setS, tick, fail, pot]
    exact ⟨by omega, fun _ h => by cases h⟩
  | cons x r =>
    by_cases hs : (x == 45 || x == 43) = true
    · have hx := inLine_of_class (p := fun x => x == 45 || x == 43) (by decide) (by decide) x hs
      have hlx : lineLen (x :: r) = 1 + lineLen r := lineLen_append [x] r (by simpa using hx)
      cases r with
      | nil =>
        simp only [PC.bind_run, push, next, advance1, getS, setS, tick, fail, pure, ExceptT.pure, ExceptT.mk,
          StateT.pure, hs, if_true, pot, List.drop_one, List.tail_cons]
        exact ⟨by omega, fun _ h => by cases h⟩
      | cons y r' =>
        simp only [PC.bind_run, push, next, advance1, getS, setS, tick, pure, ExceptT.pure, ExceptT.mk,
          StateT.pure, hs, if_true, List.drop_one, List.tail_cons]
        have ⟨k1, k2⟩ := intTail_spec [x] (by simp) y r' stk (cost + 1 + 1 + 1 + 1)
        simp only [List.singleton_append] at k1 k2
        simp only [pot] at k2 ⊢
        exact ⟨by omega, fun a h => by have := k2 a h; omega⟩
    · simp only [PC.bind_run, push, next, getS, setS, tick, pure, ExceptT.pure, ExceptT.mk,
        StateT.pure, hs, if_false, Bool.false_eq_true]
      have ⟨k1, k2⟩ := intTail_spec [] (by simp) x r stk (cost + 1 + 1)
      simp only [List.nil_append] at k1 k2
      simp only [pot] at k2 ⊢
      exact ⟨by omega, fun a h => by have := k2 a h; omega⟩


theorem inLine_of_decide (p : Bytes) (h : p.all inLine = true) : ∀ x ∈ p, inLine x = true :=
  fun x hx => List.all_eq_true.mp h x hx

/-- `genbankContigParser` (a4b3f5d) in the counted reading: every primitive it calls stays on the line
the parser started on -/
theorem lin_contigField (d : Nat) (f : GenBank.Fields) : Lin 37 (contigField d f) := by
  have h : Lin ((1 + (bs "CONTIG").length + 1) + ((1 + (bs "join(").length) + (2 + ((1 + [58].length) +
      (7 + ((1 + (bs "..").length) + (7 + ((1 + [41].length) + 0)))))))) (contigField d f) := by
    unfold contigField
    refine Lin.bind (lin_fieldName _ d (inLine_of_decide _ (by decide))) fun _ => ?_
    refine Lin.bind (lin_lit _ (inLine_of_decide _ (by decide))) fun _ => ?_
    refine Lin.bind (lin_untilFilter _ contigStop_inLine) fun acc => ?_
    refine Lin.bind (lin_lit _ (inLine_of_decide _ (by decide))) fun _ => ?_
    refine Lin.bind lin_int fun head => ?_
    refine Lin.bind (lin_lit _ (inLine_of_decide _ (by decide))) fun _ => ?_
    refine Lin.bind lin_int fun tail => ?_
    refine Lin.bind (lin_lit _ (inLine_of_decide _ (by decide))) fun _ => ?_
    exact lin_pure _
  exact h

/-- THE CONTIG PARSER READS ONE LINE: from every state its counted steps are at most two per byte in
front of the first line end plus 37, whatever follows that line -/
theorem contigField_cost_le (d : Nat) (f : GenBank.Fields) (c : CS) :
    ((contigField d f).run' c).2.cost ≤ c.cost + (2 * lineLen c.ps.rest + 37) := by
  have := (lin_contigField d f c).1
  simp only [pot] at this
  show ((contigField d f) c).2.cost ≤ _
  omega

/-! ### the evaluated families

`stepsOf` (counted steps of reading the input as a GenBank stream, registry `Registry.default`),
evaluated with `#eval` for `k = 16, 64, 256, 1024` — steps per input byte:

    family                                                      16     64    256   1024   accepted
    contigFam    k CONTIG lines without a colon                  8      9      9      9   yes   (15 / 40 / 136 / 520 until a4b3f5d)
    quotedFam    one quoted /note of k continuation lines       15     21     23     23   yes   (8 / 33 / 137 / 554 before 2612fae: K7E)
    commentFam   k one-line COMMENT fields                        5      5      5      5   yes
    skipFam      k unknown lines (skipped)                        7      7      7      7   yes
    featFam      k features, location join(1..2,3..4), 2 qual.    2      2      2      2   yes
    defFam       DEFINITION of k lines without the period        10     11     11     11   yes (read twice)
    dblFam       k DBLINK lines, the last one without colon       2      2      2      2   yes
    refFam       k REFERENCE fields with three sub-fields         5      5      5      -   yes
    ptsFam       join(1,7,7,…) with k points                     10     21     32     38   yes (≈ 83 steps per point)
    nestFam      complement( nested k deep                        3      3      3      -   yes
    nestBadFam   join(complement( nested k deep, then garbage    14     30     36     38   yes (table ends there)
    leakFam      the F34 shape (leaked frames, SOURCE w/o ORG.)  14     25     32      -   no (error)
    unclosedFam  k qualifiers with escaped quotes                 2      2      2      2   yes

Only the first five families are defined below; the inputs of the other eight are not part of the sources.

On the REAL code (`gts length < file`, this machine): contigFam 500 / 2000 / 8000 lines (9.6 / 38 /
152 KB): 0.09 / 0.55 / 10.5 s until a4b3f5d (scan alone, 15 / 61 / 243 KB: 0.07 / 1.15 / 18.8 s before,
3 / 9 / 33 ms after); quotedFam 5000 / 20000 / 80000 lines (115 KB / 460 KB / 1.8 MB): 0.04 /
0.48 / 16.5 s before 2612fae (CPU time of the scan alone: 0.025 / 0.37 / 18 s), 0.003 / 0.010 / 0.06 s since.  Three further super-linear shapes are in code the counted reading does NOT count
(construction of values): `join(` of k parts — `LocationList.Push` walks to the end of its linked list
for every part, `gts.AsLocation` alone 10000 / 20000 / 40000 parts: 0.85 / 4.8 / 23 s —, k qualifiers
with distinct unknown names in one feature (the registry is re-sorted on every learned name;
10000 / 40000: 0.9 / 18 s), k DBLINK lines (`Dictionary.Set` is a linear search; 10000 / 40000:
0.18 / 2.7 s).
-/

def recHead : Bytes := bs "LOCUS       X 4 bp DNA linear UNA 01-JAN-2000\n"
def recTail : Bytes := bs "ORIGIN      \n        1 acgt\n//\n"
def featHead : Bytes := bs "FEATURES             Location/Qualifiers\n"

/-- `k` CONTIG lines without a colon: an ACCEPTED record (each line ends up as an unknown field);
quadratic until /repo a4b3f5d -/
def contigFam (k : Nat) : Bytes := recHead ++ rep k (bs "CONTIG      join(x\n") ++ recTail

/-- one feature with a quoted `/note` of `k` continuation lines: an ACCEPTED record -/
def quotedFam (k : Nat) : Bytes :=
  recHead ++ featHead ++ bs "     gene            1..2\n" ++ sp 21 ++ bs "/note=\"a\n" ++
    rep k (sp 21 ++ bs "a\n") ++ sp 21 ++ bs "a\"\n" ++ recTail

def commentFam (k : Nat) : Bytes := recHead ++ rep k (bs "COMMENT     hello world\n") ++ recTail

def skipFam (k : Nat) : Bytes := recHead ++ rep k (bs "   some unknown line\n") ++ recTail

def featFam (k : Nat) : Bytes :=
  recHead ++ featHead ++ rep k (bs "     CDS             join(1..2,3..4)\n                     /gene=\"abc\"\n                     /codon_start=1\n") ++ recTail

end Gts.Cost

namespace Gts.GenBank
open Gts.Pars

theorem untilFilter_token (f : UInt8 → Bool) : Post (untilFilter f) fun a => ∀ x ∈ a, f x = false := by
  intro s a s' h
  unfold untilFilter at h
  simp only [P.bind_run, getS] at h
  cases hi : indexWhere f s.rest with
  | none => rw [hi] at h; cases h
  | some i =>
    rw [hi] at h
    simp only [P.bind_run, advanceN, getS, setS, pure, ExceptT.pure, ExceptT.mk, StateT.pure] at h
    cases h
    exact (indexWhere_split f _ i hi).2

/-- an accession the CONTIG parser has read (a4b3f5d) holds no colon and no line end -/
theorem contigField_accession (d : Nat) (f : Fields) (s s' : PS) (r : Fields × Bool)
    (h : contigField d f s = (.ok r, s')) : ∀ x ∈ r.1.contigAcc, contigStop x = false :=
  have hp : Post (contigField d f) fun r => ∀ x ∈ r.1.contigAcc, contigStop x = false :=
    .bind' fun _ => .bind' fun _ => .bind (untilFilter_token contigStop) fun _ hacc =>
    .bind' fun _ => .bind' fun _ => .bind' fun _ => .bind' fun _ => .bind' fun _ => .pure _ hacc
  hp s r s' h

end Gts.GenBank
