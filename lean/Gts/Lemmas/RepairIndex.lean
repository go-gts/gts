/-
  The first loop of `Repair` (`index[key] = append(index[key], i)`) over the association-list model of a Go
  map (`Gen.goMapGet` / `Gen.goMapSet`): it builds the classes in order of first appearance, each with the
  increasing list of its member indices (`Table.classKeys`, `Table.memberIdx`).  The map is reasoned about through its
  keys and its lookup only (`goMapGet_set`, `keys_goMapSet`, `goMap_eq`).  Core Lean only.
-/
import Gts.Gen.GoList
import Gts.Lemmas.Repair
namespace Gts.Bridge
open Gts Gen

abbrev GoMap := List (String × List Int)

theorem goMapGet_set (m : GoMap) (k k' : String) (v : List Int) :
    goMapGet (goMapSet m k v) k' = if k = k' then v else goMapGet m k' := by
  induction m with
  | nil => simp [goMapSet, goMapGet]
  | cons p r ih =>
    obtain ⟨a, w⟩ := p
    by_cases e : a = k
    · subst e; simp only [goMapSet, if_true, goMapGet]; split <;> rfl
    · simp only [goMapSet, if_neg e, goMapGet, ih]
      by_cases e' : a = k'
      · have : ¬ k = k' := fun h => e (e'.trans h.symm)
        simp [e', this]
      · simp [e']

theorem keys_goMapSet (m : GoMap) (k : String) (v : List Int) :
    (goMapSet m k v).map Prod.fst = if k ∈ m.map Prod.fst then m.map Prod.fst else m.map Prod.fst ++ [k] := by
  induction m with
  | nil => simp [goMapSet]
  | cons p r ih =>
    obtain ⟨a, w⟩ := p
    by_cases e : a = k
    · subst e; simp [goMapSet]
    · have e' : ¬ k = a := fun h => e h.symm
      simp only [goMapSet, if_neg e, List.map_cons, ih, List.mem_cons, e', false_or]
      split <;> rfl

theorem goMap_eq (m : GoMap) (h : (m.map Prod.fst).Nodup) :
    m = (m.map Prod.fst).map fun k => (k, goMapGet m k) := by
  induction m with
  | nil => rfl
  | cons p r ih =>
    obtain ⟨a, w⟩ := p
    simp only [List.map_cons, List.nodup_cons] at h
    simp only [List.map_cons, goMapGet, if_true, List.cons.injEq, true_and]
    conv => lhs; rw [ih h.2]
    apply List.map_congr_left
    intro k hk
    rw [if_neg (fun e : a = k => h.1 (e ▸ hk))]

/-- `index[k] = …` on the keys: a new key goes to the end -/
def enter (m : List String) (k : String) : List String := if k ∈ m then m else m ++ [k]

theorem foldl_enter : ∀ (ks m : List String),
    ks.foldl enter m = m ++ (dedup ks).filter fun k => decide (k ∉ m)
  | [], m => by simp [dedup]
  | k0 :: ks, m => by
    rw [List.foldl_cons, foldl_enter ks, dedup, List.filter_cons, List.filter_filter]
    unfold enter
    by_cases h : k0 ∈ m
    · simp only [h, if_true, not_true_eq_false, decide_false, Bool.false_eq_true, if_false]
      congr 1
      apply List.filter_congr
      intro k _
      by_cases e : k = k0 <;> simp [e, h]
    · simp only [h, if_false, not_false_eq_true, decide_true, if_true, List.append_assoc, List.singleton_append]
      congr 2
      apply List.filter_congr
      intro k _
      by_cases e : k = k0 <;> simp [e]

theorem memberIdx_cons (f : Feature) (t : Table) (k : String) :
    Table.memberIdx (f :: t) k =
      (if classKey f = k then [0] else []) ++ (Table.memberIdx t k).map (· + 1) := by
  simp only [Table.memberIdx, List.length_cons, List.range_succ_eq_map, List.filter_cons,
    List.getElem?_cons_zero, List.filter_map]
  by_cases e : classKey f = k <;> simp [e, Function.comp_def]

/-- the loop invariant, on keys and lookup: from any map, at any offset -/
theorem indexLoop_gen (loop : Table → Int → GoMap → Option GoMap)
    (hnil : ∀ i m, loop [] i m = some m)
    (hcons : ∀ f rest i m, loop (f :: rest) i m =
      loop rest (i + 1) (goMapSet m (classKey f) (goMapGet m (classKey f) ++ [i])))
    (t : Table) : ∀ (o : Nat) (m : GoMap), ∃ m', loop t (o : Int) m = some m' ∧
      m'.map Prod.fst = (t.map classKey).foldl enter (m.map Prod.fst) ∧
      ∀ k, goMapGet m' k = goMapGet m k ++ (Table.memberIdx t k).map fun i => ((i + o : Nat) : Int) := by
  induction t with
  | nil => exact fun o m => ⟨m, hnil _ _, rfl, by simp [Table.memberIdx]⟩
  | cons f rest ih =>
    intro o m
    obtain ⟨m', h1, h2, h3⟩ := ih (o + 1) (goMapSet m (classKey f) (goMapGet m (classKey f) ++ [(o : Int)]))
    refine ⟨m', by rw [hcons]; exact h1, by rw [h2, keys_goMapSet]; rfl, fun k => ?_⟩
    rw [h3, goMapGet_set, memberIdx_cons]
    by_cases e : classKey f = k <;>
      simp [e, List.map_map, Function.comp_def, Nat.add_comm, Nat.add_left_comm]

/-- the first loop of `Repair` (`for i, f := range gg { key := …; index[key] = append(index[key], i) }`): any
function with these two equations builds, from the empty map, the association list of the classes in order of
first appearance, each with the indices of its members in increasing order -/
theorem indexLoop_shape (loop : Table → Int → List (String × List Int) → Option (List (String × List Int)))
    (hnil : ∀ i m, loop [] i m = some m)
    (hcons : ∀ f rest i m, loop (f :: rest) i m =
      loop rest (i + 1) (Gen.goMapSet m (classKey f) (Gen.goMapGet m (classKey f) ++ [i])))
    (t : Table) :
    loop t 0 [] = some ((Table.classKeys t).map fun k => (k, (Table.memberIdx t k).map Int.ofNat)) := by
  obtain ⟨m', h1, h2, h3⟩ := indexLoop_gen loop hnil hcons t 0 []
  have hk : m'.map Prod.fst = Table.classKeys t := by
    rw [h2, foldl_enter]; simp [Table.classKeys]
  rw [show ((0 : Nat) : Int) = 0 from rfl] at h1
  rw [h1, goMap_eq m' (hk ▸ nodup_dedup _), hk]
  congr 1
  apply List.map_congr_left
  intro k _
  rw [h3]; simp [goMapGet]

end Gts.Bridge
