/-
  Run equations of the `pars` state model: `>>=`, `pure`, `<$>`, `attempt`, and what each primitive does to a state
  `⟨r, stk⟩`; all of them as a scoped simp set: after `open Pars.Run`, `simp [p, h₁, …]` runs
  the parser `p` on a given input, with the run facts `hᵢ` of its parts.  Core Lean only.
-/
import Gts.Model.Modifier
namespace Gts
open Pars

theorem P.bind_run {α β} (x : P α) (f : α → P β) (s : PS) :
    (x >>= f) s = match x s with
      | (.ok a, s') => f a s'
      | (.error e, s') => (.error e, s') := by
  show (ExceptT.bind x f) s = _
  unfold ExceptT.bind ExceptT.bindCont ExceptT.mk
  simp only [bind, StateT.bind]
  rcases x s with ⟨r, s'⟩
  cases r <;> rfl

theorem P.pure_run {α} (a : α) (s : PS) : (pure a : P α) s = (.ok a, s) := rfl

theorem P.map_run {α β} (f : α → β) (x : P α) (s : PS) :
    (f <$> x) s = match x s with
      | (.ok a, s') => (.ok (f a), s')
      | (.error e, s') => (.error e, s') := by
  show (ExceptT.map f x) s = _
  unfold ExceptT.map ExceptT.mk
  simp only [bind, StateT.bind]
  rcases x s with ⟨r, s'⟩
  cases r <;> rfl

theorem attempt_run {α} (p : P α) (s : PS) :
    attempt p s = match p s with
      | (.ok a, s') => (.ok (some a), s')
      | (.error .fail, s') => (.ok none, s')
      | (.error .panic, s') => (.error .panic, s') := rfl

namespace Pars.Run

variable (r : Bytes) (stk : List Bytes)

theorem getS_run (s : PS) : getS s = (.ok s, s) := rfl
theorem setS_run (s s0 : PS) : setS s s0 = (.ok (), s) := rfl
theorem push_run : push ⟨r, stk⟩ = (.ok (), ⟨r, r :: stk⟩) := rfl
theorem pop_cons (u : Bytes) : pop ⟨r, u :: stk⟩ = (.ok (), ⟨u, stk⟩) := rfl
theorem pop_nil : pop ⟨r, []⟩ = (.ok (), ⟨r, []⟩) := rfl
theorem drop_run : Pars.drop ⟨r, stk⟩ = (.ok (), ⟨r, stk.drop 1⟩) := rfl
theorem pushed_run : pushed ⟨r, stk⟩ = (.ok (!stk.isEmpty), ⟨r, stk⟩) := rfl
theorem next_cons (c : UInt8) : next ⟨c :: r, stk⟩ = (.ok c, ⟨c :: r, stk⟩) := rfl
theorem next_nil : next ⟨[], stk⟩ = (.error .fail, ⟨[], stk⟩) := rfl
theorem advance1_run : advance1 ⟨r, stk⟩ = (.ok (), ⟨r.drop 1, stk⟩) := rfl
theorem advanceN_run (n : Nat) : advanceN n ⟨r, stk⟩ = (.ok (), ⟨r.drop n, stk⟩) := rfl
theorem skipWhile_run (f : UInt8 → Bool) : skipWhile f ⟨r, stk⟩ = (.ok (), ⟨r.dropWhile f, stk⟩) := rfl
theorem fail_run {α} (s : PS) : (Pars.fail : P α) s = (.error .fail, s) := rfl

theorem request_run (n : Nat) : request n ⟨r, stk⟩ =
    if r.length < n then (.error .fail, ⟨r, stk⟩) else (.ok (r.take n), ⟨r, stk⟩) := by
  simp only [request, P.bind_run, getS]
  split <;> rfl

attribute [scoped simp] P.bind_run P.map_run P.pure_run attempt_run getS_run setS_run push_run pop_cons pop_nil drop_run pushed_run
  next_cons next_nil advance1_run advanceN_run skipWhile_run fail_run request_run

end Pars.Run
end Gts
