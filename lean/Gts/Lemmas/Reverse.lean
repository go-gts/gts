/-
  `Location.Reverse(length)`: the denotation is mirrored (positions `x ↦ L-1-x`, order reversed,
  strand kept).  Core Lean only.
-/
import Gts.Lemmas.Contig
import Gts.Lemmas.TreeMap
namespace Gts

/-- the mirrored reading of a residue list on a sequence of length `L` -/
def mirrorDen (L : Int) (d : List Pos) : List Pos := (mapPos (mirrorMap L) d).reverse

@[simp] theorem mirrorDen_nil (L : Int) : mirrorDen L [] = [] := rfl

theorem mirrorDen_append (L : Int) (a b : List Pos) :
    mirrorDen L (a ++ b) = mirrorDen L b ++ mirrorDen L a := by
  simp [mirrorDen, List.reverse_append]

theorem mirrorDen_flipDen (L : Int) (a : List Pos) : mirrorDen L (flipDen a) = flipDen (mirrorDen L a) := by
  simp [mirrorDen, flipDen, mapPos, List.map_reverse, Function.comp_def]

theorem Refines.mirror {a b : List Pos} (L : Int) (h : a ≼ b) : mirrorDen L a ≼ mirrorDen L b :=
  (h.map _).reverse

theorem mirrorDen_mirrorDen (L : Int) (a : List Pos) : mirrorDen L (mirrorDen L a) = a := by
  simp only [mirrorDen, mapPos, List.map_reverse, List.reverse_reverse, List.map_map]
  have : ((fun p : Pos => (mirrorMap L p.1, p.2)) ∘ fun p : Pos => (mirrorMap L p.1, p.2)) = id := by
    funext p
    apply Prod.ext
    · simp only [Function.comp, mirrorMap, id]; omega
    · rfl
  rw [this, List.map_id]

theorem irange_reverse_mirror (L s : Int) (n : Nat) :
    ((irange s n).map (mirrorMap L)).reverse = irange (L - (s + n)) n := by
  induction n generalizing s with
  | zero => simp
  | succ n ih =>
    simp only [irange_succ, List.map_cons, List.reverse_cons, ih]
    have h1 : irange (L - (s + 1 + ↑n)) n ++ [mirrorMap L s] =
        irange (L - (s + 1 + ↑n)) n ++ irange (L - (s + 1 + ↑n) + ↑n) 1 := by
      congr 1
      simp only [irange_succ, irange_zero, mirrorMap]
      congr 1
      omega
    rw [h1, irange_append]
    have h2 : L - (s + 1 + (n : Int)) = L - (s + ((n + 1 : Nat) : Int)) := by omega
    rw [h2]
    rfl

namespace Loc

theorem mirrorDen_fwd_irange (L s : Int) (n : Nat) :
    mirrorDen L (fwd (irange s n)) = fwd (irange (L - (s + n)) n) := by
  rw [mirrorDen, mapPos_fwd, fwd, ← List.map_reverse, irange_reverse_mirror]
  rfl

theorem den_rangedReverse (s e : Int) (a b : Bool) (L : Int) (h : s < e) :
    den (rangedReverse s e a b L) = mirrorDen L (den (ranged s e a b)) := by
  simp only [rangedReverse, den_ranged, mirrorDen_fwd_irange]
  have h1 : (L - s - (L - e)).toNat = (e - s).toNat := by congr 1; omega
  have h2 : L - (s + ((e - s).toNat : Int)) = L - e := by omega
  rw [h1, h2]

theorem mapReverse_denList (L : Int) (f : Loc → Loc) (ls : List Loc)
    (h : ∀ l ∈ ls, den (f l) ≼ mirrorDen L (den l)) :
    denList (ls.map f).reverse ≼ mirrorDen L (denList ls) := by
  induction ls with
  | nil => simp [Refines.refl]
  | cons l ls ih =>
    simp only [List.map_cons, List.reverse_cons, denList_append, denList_cons, denList_nil,
      List.append_nil, mirrorDen_append]
    exact (ih fun l' hl' => h l' (List.mem_cons_of_mem _ hl')).append (h l (List.mem_cons_self ..))

theorem wfList_map (f : Loc → Loc) (ls : List Loc) (h : ∀ l ∈ ls, wf (f l) = true) :
    wfList (ls.map f) = true := by
  induction ls with
  | nil => simp
  | cons l ls ih =>
    simp only [List.map_cons, wfList_cons, Bool.and_eq_true]
    exact ⟨h l (List.mem_cons_self ..), ih fun l' hl' => h l' (List.mem_cons_of_mem _ hl')⟩

theorem DenHom.mirrorDen (L : Int) : DenHom true (mirrorDen L) :=
  ⟨rfl, mirrorDen_append L, mirrorDen_flipDen L⟩

theorem reverse_leafSpec (L : Int) :
    LeafSpec (reverse · L) (fun u => mirrorDen L (den u)) (fun _ => true) := fun u hu hw _ =>
  match u, hu, hw with
  | between _, _, _ => ⟨rfl, rfl⟩
  | point _, _, _ => ⟨rfl, rfl⟩
  | ranged s e a b, _, hw =>
      have h : s < e := of_decide_eq_true hw
      ⟨den_rangedReverse s e a b L h, decide_eq_true (show L - e < L - s by omega)⟩
  | ambiguous s e, _, hw =>
      have h : s < e := of_decide_eq_true hw
      ⟨den_rangedReverse s e false false L h, decide_eq_true (show L - e < L - s by omega)⟩

/-- Reverse: the location denotes the mirrored residues in mirrored order, unless K2 fires. -/
theorem reverse_mirror : ∀ (l : Loc) (L : Int), wf l = true →
    (reverseAbs l L = false → den (reverse l L) ≼ mirrorDen L (den l)) ∧ wf (reverse l L) = true := by
  intro l L hw
  rw [(reverse_eq_tmap L l).1, (reverse_eq_tmap L l).2.1, ← dfold_hom (DenHom.mirrorDen L)]
  exact tmap_spec (reverse_leafSpec L) l hw (allLeaves_true l)

end Loc
end Gts
