/-
  `Repair` (property C12), part 2: what the sort-and-push loop does to one class.  Core Lean only.
-/
import Gts.Lemmas.Repair
import Gts.Lemmas.Push
import Gts.Lemmas.LessOrder
namespace Gts
open Loc

/-! ### `Push` adds at most one list element per non-`Joined` argument -/

theorem pushW_of_not_joined (low : List Loc → Loc → Bool → List Loc) (racc : List Loc) (x : Loc) (f : Bool)
    (hx : x.isJoined = false) : pushW low racc x f = pushOne low racc x f := by
  cases x <;> first | rfl | simp [isJoined] at hx

theorem isJoined_of_isRanged {l : Loc} (h : l.isRanged = true) : l.isJoined = false := by
  cases l <;> first | rfl | cases h

theorem pushD_length (d : Nat) (racc : List Loc) (x : Loc) (f : Bool) (hx : x.isJoined = false) :
    racc.length ≤ (pushD d racc x f).length ∧ (pushD d racc x f).length ≤ racc.length + 1 ∧
      pushD d racc x f ≠ [] := by
  cases d with
  | zero => simp [pushD]
  | succ d =>
    simp only [pushD, pushW_of_not_joined _ _ _ _ hx]
    exact pushOne_length _ _ _ _

theorem pushAllD_length (d : Nat) (xs racc : List Loc) (f : Bool) (hx : ∀ x ∈ xs, x.isJoined = false) :
    racc.length ≤ (pushAllD d racc xs f).length ∧ (pushAllD d racc xs f).length ≤ racc.length + xs.length ∧
      (xs ≠ [] → pushAllD d racc xs f ≠ []) := by
  induction xs generalizing racc with
  | nil => simp [pushAllD]
  | cons x xs ih =>
    have h1 := pushD_length d racc x f (hx x (by simp))
    have h2 := ih (pushD d racc x f) (fun y hy => hx y (by simp [hy]))
    simp only [pushAllD, List.foldl_cons] at h2 ⊢
    refine ⟨by omega, by simp only [List.length_cons]; omega, fun _ => ?_⟩
    intro e
    have h3 := h2.1
    rw [e] at h3
    exact h1.2.2 (List.length_eq_zero_iff.mp (Nat.le_zero.mp h3))

/-! ### a list no two neighbours of which interact is pushed to itself -/

theorem pushOne_inert (low : List Loc → Loc → Bool → List Loc) (v : Loc) (rest : List Loc) (x : Loc) (f : Bool)
    (h : inertPair f v x = true) : pushOne low (v :: rest) x f = x :: v :: rest :=
  pushOne_append low (fun hf => by cases hf <;> simp_all [inertPair]) rest

theorem pushD_inert (d : Nat) (v : Loc) (rest : List Loc) (x : Loc) (f : Bool)
    (hj : x.isJoined = false) (h : inertPair f v x = true) :
    pushD (d + 1) (v :: rest) x f = x :: v :: rest := by
  simp only [pushD, pushW_of_not_joined _ _ _ _ hj]
  exact pushOne_inert _ v rest x f h

theorem pushD_nil (d : Nat) (x : Loc) (f : Bool) (hj : x.isJoined = false) : pushD (d + 1) [] x f = [x] := by
  simp only [pushD, pushW_of_not_joined _ _ _ _ hj, pushOne]

theorem pushAllD_inert_cons (d : Nat) (f : Bool) (ys : List Loc) (v : Loc) (rest : List Loc)
    (hy : ∀ y ∈ ys, y.isJoined = false) (h : ChainP (fun a b => inertPair f a b = true) (v :: ys)) :
    pushAllD (d + 1) (v :: rest) ys f = ys.reverse ++ v :: rest := by
  induction ys generalizing v rest with
  | nil => rfl
  | cons y ys ih =>
    simp only [pushAllD, List.foldl_cons, pushD_inert d v rest y f (hy y (by simp)) h.1] at ih ⊢
    rw [ih y (v :: rest) (fun z hz => hy z (by simp [hz])) h.2]
    simp

theorem pushAllD_inert_nil (d : Nat) (f : Bool) (ys : List Loc) (hy : ∀ y ∈ ys, y.isJoined = false)
    (h : ChainP (fun a b => inertPair f a b = true) ys) : pushAllD (d + 1) [] ys f = ys.reverse := by
  cases ys with
  | nil => rfl
  | cons y ys =>
    have := pushAllD_inert_cons d f ys y [] (fun z hz => hy z (by simp [hz])) h
    simpa only [pushAllD, List.foldl_cons, pushD_nil d y f (hy y (by simp)), List.reverse_cons] using this

theorem insR_perm (x : Loc) (r : List Loc) : (insR x r).Perm (x :: r) := by
  induction r with
  | nil => simp [insR]
  | cons y r ih =>
    simp only [insR]
    split
    · exact (List.Perm.cons y ih).trans (List.Perm.swap x y r)
    · exact List.Perm.refl _

theorem sortLocs_perm (l : List Loc) : (sortLocs l).Perm l := by
  have := foldl_perm_flatMap (fun rpre x => insR x rpre) (fun x => [x])
    (fun r x => (insR_perm x r).trans (List.perm_append_singleton x r).symm) l []
  rw [List.flatMap_singleton', List.nil_append] at this
  exact (List.reverse_perm _).trans this

theorem classLocs_eq_map (t : Table) (idx : List Nat) (h : ∀ i ∈ idx, i < t.length) :
    classLocs t idx = idx.map fun i => (t[i]?.map (·.loc)).getD default := by
  induction idx with
  | nil => rfl
  | cons i is ih =>
    simp only [classLocs, List.filterMap_cons, List.map_cons] at ih ⊢
    rw [List.getElem?_eq_getElem (h i (by simp))]
    simp only [Option.map_some, Option.getD_some]
    rw [ih fun j hj => h j (by simp [hj])]

theorem classLocs_length (t : Table) (idx : List Nat) (h : ∀ i ∈ idx, i < t.length) :
    (classLocs t idx).length = idx.length := by
  rw [classLocs_eq_map t idx h]; simp

theorem groups_lt (t : Table) (idx : List Nat) (h : idx ∈ Table.groups t) : ∀ i ∈ idx, i < t.length :=
  fun i hi => (Table.mem_groups_flatten t i).mp (List.mem_flatten.mpr ⟨idx, h, hi⟩)

theorem CorrectSort.permSort {sort : List Loc → List Loc} (h : CorrectSort sort) : PermSort sort :=
  fun xs => (h xs).perm

end Gts
