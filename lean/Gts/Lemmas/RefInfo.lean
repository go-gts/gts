/-
  `parseReferenceInfo` only yields proper ranges: a postcondition (`Pars.Post`) of its three parsers.
-/
import Gts.Model.GbSlice
import Gts.Lemmas.ParsPost
namespace Gts.RefInfo
open Gts Pars

theorem refRange_post : Post refRange fun r => r.1 < r.2 := by
  unfold refRange
  refine Post.bind' fun a => Post.bind' fun _ => Post.bind' fun b => ?_
  split
  · exact Post.fail
  · exact Post.pure _ (show a - 1 < b by omega)

theorem refMore_post : ∀ (k : Nat) (acc : List (Int × Int)), (∀ x ∈ acc, x.1 < x.2) →
    Post (refMore k acc) fun rs => ∀ x ∈ rs, x.1 < x.2
  | 0, acc, hacc => Post.pure _ fun x hx => hacc x (List.mem_reverse.mp hx)
  | k + 1, acc, hacc => by
    have hrev : ∀ x ∈ acc.reverse, x.1 < x.2 := fun x hx => hacc x (List.mem_reverse.mp hx)
    unfold refMore
    refine Post.bind' fun s => Post.attempt_bind (Post.bind' fun _ => refRange_post)
      (fun r hr => refMore_post k (r :: acc) (List.forall_mem_cons.mpr ⟨hr, hacc⟩))
      (Post.bind' fun _ => Post.pure _ hrev)

theorem parseRefInfo_proper (pref info : Bytes) (rs : List (Int × Int))
    (h : parseRefInfo pref info = some rs) : ∀ r ∈ rs, r.1 < r.2 := by
  have hpost : Post (do
      lit ([40] ++ pref ++ [32])
      let first ← refRange
      let rest ← refMore info.length []
      lit [41]
      pure (first :: rest)) fun rs : List (Int × Int) => ∀ r ∈ rs, r.1 < r.2 :=
    Post.bind' fun _ => Post.bind refRange_post fun first hf =>
      Post.bind (refMore_post info.length [] (by simp)) fun rest hr => Post.bind' fun _ =>
        Post.pure _ fun x hx => (List.mem_cons.mp hx).elim (· ▸ hf) (hr x)
  unfold parseRefInfo at h
  simp only at h
  split at h
  · cases h
    exact hpost _ _ _ ‹_›
  · cases h

end Gts.RefInfo
