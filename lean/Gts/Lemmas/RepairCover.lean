/-
  `Repair` (property C12), part 5: the residues covered by a class.  Core Lean only.
-/
import Gts.Lemmas.RepairRanged
namespace Gts
open Loc

theorem mem_denList (ls : List Loc) (x : Pos) : x ∈ denList ls ↔ ∃ l ∈ ls, x ∈ den l := by
  induction ls with
  | nil => simp
  | cons a as ih => simp [ih]

theorem Refines.mem_iff {a b : List Pos} (h : a ≼ b) (x : Pos) : x ∈ a ↔ x ∈ b :=
  ⟨fun hx => h.1.subset hx, fun hx => h.2 x hx⟩

/-- **(f), one class**: unless rule K2 fires, the pushed list denotes the same residues as the
members of the class, for every sort that permutes -/
theorem mem_denList_pushedOfWith (sort : List Loc → List Loc) (hp : PermSort sort) (f : Bool)
    (locs : List Loc) (hw : wfList locs = true)
    (hk2 : pushAllAbs (sort locs) f = false) (x : Pos) :
    x ∈ denList (pushedOfWith sort f locs) ↔ x ∈ denList locs := by
  have hws : wfList (sort locs) = true := by
    rw [wfList_iff] at hw ⊢
    exact fun y hy => hw y ((hp _).mem_iff.mp hy)
  have h := fold_den (pushD_ok pushFuel) f (sort locs) [] rfl hws hk2
  simp only [denR_nil, List.nil_append] at h
  have e : denList (pushedOfWith sort f locs) =
      denR (List.foldl (fun acc y => pushD pushFuel acc y f) [] (sort locs)) := rfl
  rw [e, h.mem_iff, mem_denList, mem_denList]
  simp only [(hp locs).mem_iff]

/-- the residues (with strand) covered by the features whose grouping text is `k` -/
def Table.classDen (t : Table) (k : String) : List Pos := denList (Table.locsOf t k)

/-- every feature is well-formed (`Start < End` in every range) -/
def Table.wfT (t : Table) : Bool := t.all fun f => wf f.loc

theorem wfList_locsOf (t : Table) (hw : Table.wfT t = true) (k : String) : wfList (Table.locsOf t k) = true := by
  simp only [Table.wfT, List.all_eq_true] at hw
  rw [wfList_iff]
  intro l hl
  obtain ⟨f, hf, rfl⟩ := List.mem_map.mp hl
  exact hw f (List.mem_filter.mp hf).1

theorem mem_denList_newLocs (sort : List Loc → List Loc) (hp : PermSort sort) (f : Bool) (ls : List Loc)
    (hw : wfList ls = true) (hk2 : pushAllAbs (sort ls) f = false) (x : Pos) :
    x ∈ denList (newLocs sort f ls) ↔ x ∈ denList ls := by
  unfold newLocs
  split
  · exact mem_denList_pushedOfWith sort hp f ls hw hk2 x
  · rfl

/-- **(f)**: per grouping text, the set of covered residues is unchanged -/
theorem classDen_repairWith (sort : List Loc → List Loc) (hp : PermSort sort) (t t' : Table)
    (hw : Table.wfT t = true) (hk2 : Table.k2With sort t = false) (h : repairWith sort t = .ok t')
    (k : String) (x : Pos) : x ∈ Table.classDen t' k ↔ x ∈ Table.classDen t k := by
  simp only [Table.classDen, locsOf_repairWith sort t t' h k]
  by_cases hk : k ∈ Table.classKeys t
  · apply mem_denList_newLocs sort hp _ _ (wfList_locsOf t hw k)
    simp only [Table.k2With, List.any_eq_false] at hk2
    simpa [classLocs_memberIdx, classForce_eq] using hk2 _ (List.mem_map.mpr ⟨k, hk, rfl⟩)
  · rw [locsOf_of_not_mem t k hk, newLocs_nil]

end Gts
