/-
  The line end of a text file: LF or CR LF (`Eol`); a text as it stands in a file with that line
  end (`tr`; for CR LF the translation `Origin.crlf`, the same function as `Fasta.crlf`); and
  `pars.Line` on a line in front of its line end, as the scan `calcLine` and as a function of the
  remaining input (`Origin.splitLine`).  The ORIGIN, GenBank and FASTA lemmas rest on it.
  Core Lean only.
-/
import Gts.Model.Origin
import Gts.Model.Fasta
namespace Gts.GenBank
open Gts.Pars

/-- no line-end byte (decidable) -/
def noEOL (l : Bytes) : Bool := l.all fun c => c != 10 && c != 13

theorem noEOL_cons (c : UInt8) (l : Bytes) : noEOL (c :: l) = (c != 10 && c != 13 && noEOL l) := by
  simp [noEOL, List.all_cons]

theorem noEOL_append (a b : Bytes) : noEOL (a ++ b) = (noEOL a && noEOL b) := by
  simp [noEOL, List.all_append]

theorem noEOL_iff {l : Bytes} : noEOL l = true ↔ ∀ c ∈ l, c ≠ 10 ∧ c ≠ 13 := by
  simp [noEOL, List.all_eq_true]

def noLF (l : Bytes) : Prop := ∀ c ∈ l, c ≠ 10

theorem noEOL_noLF (l : Bytes) (h : noEOL l = true) : noLF l :=
  fun c hc => (noEOL_iff.1 h c hc).1

/-- the two line terminators of a GenBank file -/
inductive Eol | lf | crlf

def Eol.bytes : Eol → Bytes
  | .lf => [10]
  | .crlf => [13, 10]

theorem Eol.bytes_pos (e : Eol) : 0 < e.bytes.length := by cases e <;> decide

theorem Eol.head (e : Eol) (X : Bytes) (c : UInt8) (h : (e.bytes ++ X).head? = some c) : c = 10 ∨ c = 13 := by
  cases e <;> simp [Eol.bytes] at h <;> simp [← h]

/-- a class of bytes that holds neither byte of a line end -/
theorem noEOL_of_class (p : UInt8 → Bool) (h10 : p 10 = false) (h13 : p 13 = false) (l : Bytes)
    (h : l.all p = true) : noEOL l = true :=
  noEOL_iff.2 fun c hc => by
    have hp := List.all_eq_true.mp h c hc
    exact ⟨fun e => by rw [e, h10] at hp; exact Bool.noConfusion hp,
      fun e => by rw [e, h13] at hp; exact Bool.noConfusion hp⟩

theorem calcLine_append (ln rest : Bytes) (i n : Nat) (h : noEOL ln = true) :
    calcLine (ln ++ rest) i n false = calcLine rest (i + ln.length) n false := by
  induction ln generalizing i with
  | nil => rfl
  | cons c ln ih =>
    rw [noEOL_cons] at h
    simp only [Bool.and_eq_true, bne_iff_ne, ne_eq] at h
    have e10 : (c == 10) = false := by simpa using h.1.1
    have e13 : (c == 13) = false := by simpa using h.1.2
    simp only [List.cons_append, calcLine, e10, e13, Bool.false_and, Bool.false_eq_true, if_false]
    rw [ih (i + 1) h.2, List.length_cons]; congr 1; omega

theorem calcLine_eol (e : Eol) (ln t : Bytes) (i n : Nat) (h : noEOL ln = true) :
    calcLine (ln ++ (e.bytes ++ t)) i n false = (i + ln.length, n + e.bytes.length) := by
  rw [calcLine_append ln _ i n h]; cases e <;> rfl

end Gts.GenBank

namespace Gts.Origin
open Gts.Pars (Bytes)

/-- the same text with CRLF line ends -/
def crlf : Bytes → Bytes
  | [] => []
  | c :: r => if c = 10 then 13 :: 10 :: crlf r else c :: crlf r

def noCR (b : Bytes) : Prop := ∀ c ∈ b, c ≠ 13

instance (b : Bytes) : Decidable (noCR b) := inferInstanceAs (Decidable (∀ c ∈ b, c ≠ 13))

theorem noCR_append {a b : Bytes} (ha : noCR a) (hb : noCR b) : noCR (a ++ b) :=
  fun c hc => (List.mem_append.mp hc).elim (ha c) (hb c)

theorem noCR_cons {c : UInt8} {a : Bytes} (hc : c ≠ 13) (ha : noCR a) : noCR (c :: a) :=
  fun x hx => (List.mem_cons.mp hx).elim (fun h => h ▸ hc) (ha x)

theorem crlf_append_no10 (ln x : Bytes) (h : ∀ c ∈ ln, c ≠ 10) : crlf (ln ++ x) = ln ++ crlf x := by
  induction ln with
  | nil => rfl
  | cons c ln ih =>
    simp only [List.cons_append, crlf]
    rw [if_neg (h c (by simp)), ih (fun y hy => h y (by simp [hy]))]

theorem isPrefixOf_split {a b : Bytes} (h : a.isPrefixOf b = true) : b = a ++ b.drop a.length := by
  obtain ⟨t, rfl⟩ := List.isPrefixOf_iff_prefix.1 h
  rw [List.drop_left]

end Gts.Origin

namespace Gts.GenBank
open Gts.Pars

theorem crlf_nil : Origin.crlf [] = [] := rfl

theorem crlf_cons_lf (t : Bytes) : Origin.crlf (10 :: t) = 13 :: 10 :: Origin.crlf t := by
  simp [Origin.crlf]

theorem crlf_cons_ne (c : UInt8) (t : Bytes) (h : c ≠ 10) : Origin.crlf (c :: t) = c :: Origin.crlf t := by
  simp [Origin.crlf, h]

theorem crlf_append (a b : Bytes) : Origin.crlf (a ++ b) = Origin.crlf a ++ Origin.crlf b := by
  induction a with
  | nil => rfl
  | cons c a ih =>
    by_cases hc : c = 10
    · subst hc; simp only [List.cons_append, crlf_cons_lf, ih]
    · simp only [List.cons_append, crlf_cons_ne c _ hc, ih]

theorem crlf_noLF (a : Bytes) (h : noLF a) : Origin.crlf a = a := by
  have := Origin.crlf_append_no10 a [] h
  simpa [Origin.crlf] using this

theorem crlf_length_ge (t : Bytes) : t.length ≤ (Origin.crlf t).length := by
  induction t with
  | nil => simp [Origin.crlf]
  | cons c t ih =>
    by_cases hc : c = 10
    · subst hc; rw [crlf_cons_lf]; simp only [List.length_cons]; omega
    · rw [crlf_cons_ne c t hc]; simp only [List.length_cons]; omega

/-- the text as it stands in a file with the line end `e`: itself for LF, what a CRLF-translating
transport makes of it (`Origin.crlf`) for CR LF; both cases hold by `rfl` -/
def tr : Eol → Bytes → Bytes
  | .lf, t => t
  | .crlf, t => Origin.crlf t

theorem tr_lf (t : Bytes) : tr .lf t = t := rfl

@[simp] theorem tr_nil (e : Eol) : tr e [] = [] := by cases e <;> rfl

theorem tr_cons_lf (e : Eol) (t : Bytes) : tr e (10 :: t) = e.bytes ++ tr e t := by
  cases e
  · rfl
  · exact crlf_cons_lf t

theorem tr_cons_ne (e : Eol) (c : UInt8) (t : Bytes) (h : c ≠ 10) : tr e (c :: t) = c :: tr e t := by
  cases e
  · rfl
  · exact crlf_cons_ne c t h

theorem tr_append (e : Eol) (a b : Bytes) : tr e (a ++ b) = tr e a ++ tr e b := by
  cases e
  · rfl
  · exact crlf_append a b

theorem tr_eol (e : Eol) : tr e [10] = e.bytes := by cases e <;> rfl

theorem tr_lf_end (e : Eol) (a : Bytes) : tr e (a ++ [10]) = tr e a ++ e.bytes := by rw [tr_append, tr_eol]

theorem tr_length_ge (e : Eol) (t : Bytes) : t.length ≤ (tr e t).length := by
  cases e
  · exact Nat.le_refl _
  · exact crlf_length_ge t

theorem tr_noLF (e : Eol) (a : Bytes) (h : noLF a) : tr e a = a := by
  cases e
  · rfl
  · exact crlf_noLF a h

theorem tr_flatten (e : Eol) (ts : List Bytes) : tr e ts.flatten = (ts.map (tr e)).flatten := by
  induction ts with
  | nil => exact tr_nil e
  | cons t ts ih => rw [List.flatten_cons, tr_append, ih, List.map_cons, List.flatten_cons]

/-- a text made item by item stands in the file item by item -/
theorem tr_flatMap {α} (e : Eol) (text textE : α → Bytes) (ls : List α)
    (h : ∀ x ∈ ls, tr e (text x) = textE x) : tr e (ls.flatMap text) = ls.flatMap textE := by
  rw [List.flatMap_def, tr_flatten, List.map_map, List.flatMap_def]
  exact congrArg List.flatten (List.map_congr_left h)

theorem tr_line (e : Eol) (ln x : Bytes) (h : noEOL ln = true) :
    tr e (ln ++ 10 :: x) = ln ++ (e.bytes ++ tr e x) := by
  rw [tr_append, tr_cons_lf, tr_noLF e ln (noEOL_noLF ln h)]

/-- the model's two CRLF translations are one function -/
theorem crlf_eq_fasta (t : Bytes) : Origin.crlf t = Fasta.crlf t := by
  induction t with
  | nil => rfl
  | cons c t ih =>
    by_cases hc : c = 10
    · subst hc; simp [Origin.crlf, Fasta.crlf, ih]
    · simp [Origin.crlf, Fasta.crlf, hc, ih]

end Gts.GenBank

namespace Gts.Origin
open Gts.Pars (Bytes)
open Gts.GenBank (noEOL noEOL_iff Eol tr)

/-- `splitLine` is the model `Gts.Pars.line` of `pars.Line`, as a function of the remaining input -/
theorem line_eq_splitLine (s : Pars.PS) :
    Pars.line.run' s = (.ok (splitLine s.rest).1, { s with rest := (splitLine s.rest).2 }) := rfl

theorem splitLine_eol (e : Eol) (ln t : Bytes) (h : noEOL ln = true) :
    splitLine (ln ++ (e.bytes ++ t)) = (ln, t) := by
  unfold splitLine
  rw [GenBank.calcLine_eol e ln t 0 0 h]
  simp only [Nat.zero_add, List.take_left', List.drop_left', List.length_append]
  rw [if_neg (by omega)]

theorem splitLine_noEOL (b : Bytes) (h : noEOL b = true) : splitLine b = (b, []) := by
  have := GenBank.calcLine_append b [] 0 0 h
  rw [List.append_nil] at this
  unfold splitLine
  rw [this]
  simp [Pars.calcLine]

theorem span10 (b : Bytes) : (∃ ln t, b = ln ++ 10 :: t ∧ ∀ c ∈ ln, c ≠ 10) ∨ ∀ c ∈ b, c ≠ 10 := by
  induction b with
  | nil => right; intro c hc; simp at hc
  | cons x b ih =>
    by_cases hx : x = 10
    · left; exact ⟨[], b, by rw [hx]; rfl, by intro c hc; simp at hc⟩
    · rcases ih with ⟨ln, t, e, h⟩ | h
      · exact .inl ⟨x :: ln, t, by rw [e]; rfl, List.forall_mem_cons.2 ⟨hx, h⟩⟩
      · exact .inr (List.forall_mem_cons.2 ⟨hx, h⟩)

/-- `pars.Line` on text without CR: the token has no line end, and either a line feed and the rest
follow it or it is the whole input -/
theorem splitLine_cases (st : Bytes) (h : noCR st) :
    ∃ q t, splitLine st = (q, t) ∧ noEOL q = true ∧ (st = q ++ 10 :: t ∨ st = q ∧ t = []) := by
  rcases span10 st with ⟨ln, t, e, h10⟩ | h10
  · have hn : noEOL ln = true := noEOL_iff.2 fun c hc => ⟨h10 c hc, h c (by rw [e]; simp [hc])⟩
    exact ⟨ln, t, e ▸ splitLine_eol .lf ln t hn, hn, .inl e⟩
  · have hn : noEOL st = true := noEOL_iff.2 fun c hc => ⟨h10 c hc, h c hc⟩
    exact ⟨st, [], splitLine_noEOL st hn, hn, .inr ⟨rfl, rfl⟩⟩

theorem splitLine_crlf (b : Bytes) (h : noCR b) :
    ∃ q t, splitLine b = (q, t) ∧ splitLine (crlf b) = (q, crlf t) ∧ noCR t := by
  obtain ⟨q, t, hsp, hn, e | ⟨e, rfl⟩⟩ := splitLine_cases b h
  · refine ⟨q, t, hsp, ?_, fun c hc => h c (by rw [e]; simp [hc])⟩
    rw [e, show crlf (q ++ 10 :: t) = _ from GenBank.tr_line .crlf q t hn]
    exact splitLine_eol .crlf q (crlf t) hn
  · subst e
    exact ⟨b, [], hsp, by rw [GenBank.crlf_noLF b (GenBank.noEOL_noLF b hn), hsp]; rfl,
      fun c hc => nomatch hc⟩

end Gts.Origin
