/-
  Insertions never meet the K3 shape.  `irr w x` looks at `w` through the coordinate at its right
  end (`rkey`) and at `x` through the coordinate at its left end (`lkey`).  An insertion
  (`Shift(i, n)` / `Expand(i, n)` with `0 ≤ n`) moves the two kinds of key by two monotone maps that
  are jointly injective, keeps the kind of every part, and so maps a list of parts that `Push`
  leaves alone to a list that `Push` leaves alone: no rule fires at all, `…K3 = false`.
  Core Lean only.
-/
import Gts.Lemmas.CanonOps
namespace Gts
namespace Loc

/-- what `irr · x` sees of the element on the left -/
inductive RKey where
  | B (v : Int) | P (v : Int) | R (v : Int) | C | N

/-- what `irr w ·` sees of the element on the right -/
inductive LKey where
  | B (u : Int) | S (u : Int) | C | N

def rkey : Loc → RKey
  | between v => .B v
  | point v => .P v
  | ranged _ ve _ _ => .R ve
  | compl _ => .C
  | _ => .N

def lkey : Loc → LKey
  | between u => .B u
  | point u => .S u
  | ranged us _ _ _ => .S us
  | compl _ => .C
  | _ => .N

def irrK : RKey → LKey → Bool
  | .B v, .B u => v != u
  | .B v, .S u => v != u
  | .P v, .B u => v + 1 != u
  | .P v, .S u => v != u
  | .R v, .B u => v != u
  | .R v, .S u => v != u
  | .C, .C => false
  | _, _ => true

theorem irr_eq (w x : Loc) : irr w x = irrK (rkey w) (lkey x) := by cases w <;> cases x <;> rfl

/-- parts in list order, no neighbouring pair that `Push` reduces -/
def chain : List Loc → Bool
  | [] => true
  | [a] => partOk a
  | a :: b :: r => partOk a && irr a b && chain (b :: r)

/-- the junction of two lists -/
def junc : Option Loc → Option Loc → Bool
  | some a, some b => irr a b
  | _, _ => true

theorem chain_cons (a : Loc) (r : List Loc) : chain (a :: r) = (partOk a && junc (some a) r.head? && chain r) := by
  cases r <;> simp [chain, junc]

theorem chain_append : ∀ (xs ys : List Loc), chain (xs ++ ys) = (chain xs && chain ys && junc xs.getLast? ys.head?)
  | [], ys => by simp [chain, junc]
  | [a], ys => by
      rw [List.singleton_append, chain_cons]
      simp only [chain, List.getLast?_singleton, Bool.and_left_comm, Bool.and_comm]
  | a :: b :: r, ys => by
      have ih := chain_append (b :: r) ys
      simp only [List.cons_append] at ih ⊢
      rw [chain_cons, ih, chain_cons a (b :: r)]
      simp only [List.head?_cons, List.getLast?_cons_cons, Bool.and_assoc]

theorem stableR_rev_append : ∀ (ys racc : List Loc),
    stableR (ys.reverse ++ racc) = (chain ys && stableR racc && junc racc.head? ys.head?)
  | [], racc => by cases racc <;> simp [chain, junc]
  | y :: ys, racc => by
      have ih := stableR_rev_append ys (y :: racc)
      rw [List.reverse_cons, List.append_assoc, List.singleton_append, ih, stableR_cons, chain_cons]
      have hj : irrHead racc y = junc racc.head? (some y) := by cases racc <;> rfl
      simp only [List.head?_cons, hj, Bool.and_assoc, Bool.and_left_comm, Bool.and_comm]

theorem stableR_reverse (ys : List Loc) : stableR ys.reverse = chain ys := by
  have := stableR_rev_append ys []
  simpa [stableR, junc] using this

/-- the K3 shape needs `between v` in front of a point / range start `v`: a pair `Push` reduces -/
theorem k3One_of_irrHead (racc : List Loc) (y : Loc) (h : irrHead racc y = true) : k3One racc y = false := by
  unfold k3One
  split
  · simp only [irrHead, irr, bne_iff_ne, ne_eq] at h; simp [h]
  · simp only [irrHead, irr, bne_iff_ne, ne_eq] at h; simp [h]
  · rfl

theorem k3Fold_of_stable : ∀ (ys racc : List Loc), stableR (ys.reverse ++ racc) = true → k3Fold racc ys = false
  | [], _, _ => rfl
  | y :: ys, racc, h => by
      have h' : stableR (ys.reverse ++ (y :: racc)) = true := by simpa [List.append_assoc] using h
      obtain ⟨hy, hirr, -⟩ := stableR_cons_iff.mp (stableR_suffix _ _ h')
      rw [k3Fold_cons racc y ys (partOk_not_joined y hy), push1_irr racc y hirr,
        k3Fold_of_stable ys (y :: racc) h', Bool.or_false]
      exact k3One_of_irrHead racc y hirr

/-- the image of one part: non-empty when flattened, right key of its last element and left key of
its first element as `rs` / `ls` say -/
def KeyOk (f : Loc → Loc) (rs : RKey → RKey) (ls : LKey → LKey) (a : Loc) : Prop :=
  flatJ (f a) ≠ [] ∧ (∀ z, (flatJ (f a)).getLast? = some z → rkey z = rs (rkey a)) ∧
  (∀ z, (flatJ (f a)).head? = some z → lkey z = ls (lkey a))

theorem chain_flatJ (y : Loc) (h : structP y = true) : chain (flatJ y) = true := by
  rw [← stableR_reverse]; exact (stableR_flatJ y h).1

/-- a list of parts that `Push` leaves alone, mapped part by part and flattened, is such a list
again when the keys move by maps that keep `irrK` -/
theorem chain_flat_map (f : Loc → Loc) (rs : RKey → RKey) (ls : LKey → LKey)
    (hirr : ∀ r l, irrK r l = true → irrK (rs r) (ls l) = true) :
    ∀ (xs : List Loc), chain xs = true → (∀ a ∈ xs, structP (f a) = true ∧ KeyOk f rs ls a) →
      chain (flatJList (xs.map f)) = true
  | [], _, _ => rfl
  | a :: r, hc, hx => by
      rw [chain_cons] at hc
      simp only [Bool.and_eq_true] at hc
      obtain ⟨hsa, hne, hlast, -⟩ := hx a (by simp)
      have ih := chain_flat_map f rs ls hirr r hc.2 (fun b hb => hx b (by simp [hb]))
      have hz1 := List.getLast?_eq_some_getLast hne
      rw [List.map_cons, flatJList, chain_append, chain_flatJ _ hsa, ih, hz1]
      cases r with
      | nil => rfl
      | cons b r' =>
        -- the junction: the last element of the image of `a` against the first of the image of `b`
        obtain ⟨-, hneb, -, hhead⟩ := hx b (by simp)
        have hz0 := List.head?_eq_some_head hneb
        have hab : irr a b = true := by simpa [junc] using hc.1.2
        rw [irr_eq] at hab
        rw [List.map_cons, flatJList, List.head?_append, hz0]
        simp only [Bool.and_self, Bool.true_and, junc, Option.some_or]
        rw [irr_eq, hlast _ hz1, hhead _ hz0]
        exact hirr _ _ hab

theorem joinK3_of_keys (f : Loc → Loc) (rs : RKey → RKey) (ls : LKey → LKey)
    (hirr : ∀ r l, irrK r l = true → irrK (rs r) (ls l) = true)
    (xs : List Loc) (hc : chain xs = true) (hx : ∀ a ∈ xs, structP (f a) = true ∧ KeyOk f rs ls a) :
    joinK3 (xs.map f) = false := by
  unfold joinK3
  refine k3Fold_of_stable _ [] ?_
  rw [List.append_nil, stableR_reverse]
  exact chain_flat_map f rs ls hirr xs hc hx

/-! ### the guard of a `LocHom` that moves keys like that is never raised -/

section
variable {f : Loc → Loc} {g : Loc → Bool}

mutual
theorem hom_guard_false (h : LocHom f g id) (S : Loc → Bool)
    (hSj : ∀ ls, S (joined ls) = true → ∀ l ∈ ls, S l = true)
    (hSo : ∀ ls, S (ordered ls) = true → ∀ l ∈ ls, S l = true)
    (hSc : ∀ l, S (compl l) = true → S l = true)
    (rs : RKey → RKey) (ls' : LKey → LKey)
    (hirr : ∀ r l, irrK r l = true → irrK (rs r) (ls' l) = true)
    (hkey : ∀ a, partOk a = true → S a = true → HomOk f a → KeyOk f rs ls' a) :
    ∀ (l : Loc), structP l = true → S l = true → g l = false
  | between _, _, _ | point _, _, _ | ranged _ _ _ _, _, _ | ambiguous _ _, _, _ => h.gLeaf _ rfl
  | joined xs, hs, hS => by
      obtain ⟨hst, h2, hnj⟩ := stable_of_structP_joined xs hs
      have hs' := hs
      simp only [structP, Bool.and_eq_true] at hs'
      have hparts := hom_guard_falseList h S hSj hSo hSc rs ls' hirr hkey xs hs'.1.1.1 (hSj xs hS)
      rw [h.gJoined, Bool.or_eq_false_iff]
      refine ⟨?_, ?_⟩
      · rw [List.any_eq_false]; intro l hl; simpa using hparts l hl
      · refine joinK3_of_keys f rs ls' hirr xs (by rw [← stableR_reverse]; exact hst) ?_
        intro a ha
        have hok := hom_struct h a ((structPList_iff xs).mp hs'.1.1.1 a ha) (hparts a ha)
        exact ⟨hok.1, hkey a (stableR_parts _ hst a (by simpa using ha)) (hSj xs hS a ha) hok⟩
  | ordered xs, hs, hS => by
      have hs' := hs
      simp only [structP, Bool.and_eq_true] at hs'
      have hparts := hom_guard_falseList h S hSj hSo hSc rs ls' hirr hkey xs hs'.1.1 (hSo xs hS)
      rw [h.gOrdered, List.any_eq_false]
      intro l hl; simpa using hparts l hl
  | compl l, hs, hS => by
      simp only [structP, Bool.and_eq_true] at hs
      rw [h.gCompl]
      exact hom_guard_false h S hSj hSo hSc rs ls' hirr hkey l hs.1 (hSc l hS)
theorem hom_guard_falseList (h : LocHom f g id) (S : Loc → Bool)
    (hSj : ∀ ls, S (joined ls) = true → ∀ l ∈ ls, S l = true)
    (hSo : ∀ ls, S (ordered ls) = true → ∀ l ∈ ls, S l = true)
    (hSc : ∀ l, S (compl l) = true → S l = true)
    (rs : RKey → RKey) (ls' : LKey → LKey)
    (hirr : ∀ r l, irrK r l = true → irrK (rs r) (ls' l) = true)
    (hkey : ∀ a, partOk a = true → S a = true → HomOk f a → KeyOk f rs ls' a) :
    ∀ (xs : List Loc), structPList xs = true → (∀ l ∈ xs, S l = true) → ∀ l ∈ xs, g l = false
  | [], _, _ => by simp
  | x :: xs, hs, hS => by
      simp only [structPList_cons, Bool.and_eq_true] at hs
      exact List.forall_mem_cons.mpr ⟨hom_guard_false h S hSj hSo hSc rs ls' hirr hkey x hs.1 (hS x (by simp)),
        hom_guard_falseList h S hSj hSo hSc rs ls' hirr hkey xs hs.2 fun l hl => hS l (by simp [hl])⟩
end

end

/-- an end coordinate (and a between-site) moves when it lies behind the insertion point; a start
coordinate (and a point) also when it lies at it, as the residue there does (`insMap`) -/
def fE (i n c : Int) : Int := if i < c then c + n else c

def insR (i n : Int) : RKey → RKey
  | .B v => .B (fE i n v)
  | .P v => .P (insMap i n v)
  | .R v => .R (fE i n v)
  | .C => .C
  | .N => .N

def insL (i n : Int) : LKey → LKey
  | .B u => .B (fE i n u)
  | .S u => .S (insMap i n u)
  | .C => .C
  | .N => .N

theorem ins_irr (i n : Int) (hn : 0 ≤ n) : ∀ r l, irrK r l = true → irrK (insR i n r) (insL i n l) = true := by
  intro r l
  cases r <;> cases l <;> simp only [irrK, insR, insL, fE, insMap, bne_iff_ne, ne_eq, imp_self] <;> omega

theorem keyOk_single (f : Loc → Loc) (rs : RKey → RKey) (ls : LKey → LKey) (a y : Loc) (he : f a = y)
    (hj : isJoinedC y = false) (hr : rkey y = rs (rkey a)) (hl : lkey y = ls (lkey a)) : KeyOk f rs ls a := by
  unfold KeyOk
  rw [he, flatJ_of_not_joined y hj]
  refine ⟨by simp, ?_, ?_⟩ <;> intro z hz <;> simp at hz <;> subst hz <;> assumption

theorem keyOk_ordered (f : Loc → Loc) (rs : RKey → RKey) (ls : LKey → LKey) (a : Loc)
    (ha : rs (rkey a) = .N) (hl : ls (lkey a) = .N) (ho : isOrderedC (f a) = true ∨ ∃ s e, f a = ambiguous s e) :
    KeyOk f rs ls a := by
  rcases ho with ho | ⟨s, e, he⟩
  · cases hq : f a <;> rw [hq] at ho <;> simp [isOrderedC] at ho
    exact keyOk_single f rs ls a _ hq rfl (by rw [ha]; rfl) (by rw [hl]; rfl)
  · exact keyOk_single f rs ls a _ he rfl (by rw [ha]; rfl) (by rw [hl]; rfl)

theorem insMap_eq (i n s : Int) : insMap i n s = if i ≤ s then s + n else s := by
  unfold insMap; split <;> split <;> omega

theorem shift_keyOk (i n : Int) (hn : 0 ≤ n) (a : Loc) (hp : partOk a = true)
    (hok : HomOk (fun l => shift l i n) a) : KeyOk (fun l => shift l i n) (insR i n) (insL i n) a := by
  cases a with
  | between p => exact keyOk_single _ _ _ _ _ (betweenExpand_ins p i n hn) rfl rfl rfl
  | point p => exact keyOk_single _ _ _ _ _ (pointExpand_ins p i n hn) rfl rfl rfl
  | ranged s e a b =>
    have he : shift (ranged s e a b) i n = _ := rangedShift_ins s e a b i n hn
    by_cases hsp : n ≠ 0 ∧ s < i ∧ i < e
    · rw [if_pos hsp] at he
      unfold KeyOk
      simp only [he, flatJ, flatJList, List.append_nil, List.singleton_append]
      refine ⟨by simp, ?_, ?_⟩ <;> intro z hz <;> simp at hz <;> subst hz
      · simp only [rkey, insR, fE]; rw [if_pos hsp.2.2]
      · simp only [lkey, insL, insMap]; rw [if_pos hsp.2.1]
    · rw [if_neg hsp] at he
      exact keyOk_single _ _ _ _ _ he rfl rfl (congrArg LKey.S (insMap_eq i n s).symm)
  | ambiguous s e =>
    refine keyOk_ordered _ _ _ _ rfl rfl ?_
    have he : shift (ambiguous s e) i n = _ := ambiguousShift_ins s e i n hn
    rw [he]
    split
    · exact Or.inl rfl
    · exact Or.inr ⟨_, _, rfl⟩
  | joined ls => simp [partOk, isJoinedC] at hp
  | ordered ls => exact keyOk_ordered _ _ _ _ rfl rfl (Or.inl (hok.2.2.2 rfl))
  | compl c => exact keyOk_single _ _ _ _ (compl (shift c i n)) (by simp [shift]) rfl rfl rfl

/-- **`Shift(i, n)` with `0 ≤ n` never meets the K3 shape** -/
theorem shiftK3_false (i n : Int) (hn : 0 ≤ n) (l : Loc) (hs : structP l = true) : shiftK3 l i n = false :=
  hom_guard_false (shift_hom i n) (fun _ => true) (fun _ _ _ _ => rfl) (fun _ _ _ _ => rfl) (fun _ _ => rfl)
    (insR i n) (insL i n) (ins_irr i n hn) (fun a hp _ hok => shift_keyOk i n hn a hp hok) l hs rfl

theorem expand_keyOk (i n : Int) (hn : 0 ≤ n) (a : Loc) (hp : partOk a = true) (hw : wf a = true)
    (hok : HomOk (fun l => expand l i n) a) : KeyOk (fun l => expand l i n) (insR i n) (insL i n) a := by
  cases a with
  | between p => exact keyOk_single _ _ _ _ _ (betweenExpand_ins p i n hn) rfl rfl rfl
  | point p => exact keyOk_single _ _ _ _ _ (pointExpand_ins p i n hn) rfl rfl rfl
  | ranged s e a b =>
    exact keyOk_single _ _ _ _ _ (rangedExpand_ins s e a b i n (by simpa [wf] using hw) hn) rfl rfl
      (congrArg LKey.S (insMap_eq i n s).symm)
  | ambiguous s e =>
    exact keyOk_ordered _ _ _ _ rfl rfl (Or.inr ⟨_, _, ambiguousExpand_ins s e i n (by simpa [wf] using hw) hn⟩)
  | joined ls => simp [partOk, isJoinedC] at hp
  | ordered ls => exact keyOk_ordered _ _ _ _ rfl rfl (Or.inl (hok.2.2.2 rfl))
  | compl c => exact keyOk_single _ _ _ _ (compl (expand c i n)) (by simp [expand]) rfl rfl rfl

/-- **`Expand(i, n)` with `0 ≤ n` never meets the K3 shape on a well-formed location** (every span
non-empty: an empty `Ranged` would turn into a between-site) -/
theorem expandK3_false (i n : Int) (hn : 0 ≤ n) (l : Loc) (hs : structP l = true) (hw : wf l = true) :
    expandK3 l i n = false :=
  hom_guard_false (expand_hom i n) wf
    (fun ls h l hl => (wfList_iff ls).mp (by simpa [wf] using h) l hl)
    (fun ls h l hl => (wfList_iff ls).mp (by simpa [wf] using h) l hl)
    (fun l h => by simpa [wf] using h)
    (insR i n) (insL i n) (ins_irr i n hn) (fun a hp hw hok => expand_keyOk i n hn a hp hw hok) l hs hw

end Loc
end Gts
