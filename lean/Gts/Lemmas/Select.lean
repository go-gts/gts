/-
  Helper lemmas for C19's selection clause: `Props` lookups, the clauses against their declarative
  reading, the split functions of the grammar, `Selector.compile`, `FeatureSlice.Filter`.  (The
  parser against the grammar: Gts/Lemmas/SelSplit.lean, Gts/Lemmas/SelectEsc.lean.)  Core Lean only.
-/
import Gts.Spec.Selector
namespace Gts
open SelSpec

namespace Props

/-- the predicate "row of that name" -/
abbrev named (key : String) : List String → Bool := fun row => row.head? == some key

theorem indexFrom_spec (key : String) : ∀ (ps : Props) (i : Nat),
    (indexFrom key ps i = -1 ∧ ps.find? (named key) = none) ∨
    (∃ j row, indexFrom key ps i = ((i + j : Nat) : Int) ∧ ps[j]? = some row ∧
      ps.find? (named key) = some row)
  | [], i => by simp [indexFrom]
  | row :: rest, i => by
      by_cases h : row.head? = some key
      · right
        exact ⟨0, row, by simp [indexFrom, h], by simp, by simp [named, h]⟩
      · have hb : named key row = false := by simp [named, h]
        rcases indexFrom_spec key rest (i + 1) with ⟨h1, h2⟩ | ⟨j, r, h1, h2, h3⟩
        · left
          exact ⟨by simp [indexFrom, h, h1], by simp [hb, h2]⟩
        · right
          refine ⟨j + 1, r, ?_, by simpa using h2, by simp [hb, h3]⟩
          simp only [indexFrom, h, if_false, h1]
          congr 1; omega

theorem has_iff (ps : Props) (name : String) :
    has ps name = true ↔ ∃ row ∈ ps, row.head? = some name := by
  unfold has index
  rcases indexFrom_spec name ps 0 with ⟨h1, h2⟩ | ⟨j, r, h1, _, h3⟩
  · rw [h1]
    simp only [List.find?_eq_none] at h2
    constructor
    · intro h; simp at h
    · rintro ⟨row, hr, hn⟩; exact absurd (by simp [named, hn]) (h2 row hr)
  · rw [h1]
    constructor
    · intro _
      have := List.find?_some h3
      exact ⟨r, List.mem_of_find?_eq_some h3, by simpa [named] using this⟩
    · intro _; exact decide_eq_true (by omega)

theorem get_eq (ps : Props) (name : String) :
    get ps name = (ps.find? (named name)).map List.tail := by
  unfold get index
  rcases indexFrom_spec name ps 0 with ⟨h1, h2⟩ | ⟨j, r, h1, h2, h3⟩
  · simp [h1, h2]
  · have hne : ((0 + j : Nat) : Int) ≠ -1 := by omega
    simp only [h1, hne, if_false, h3, Option.map_some]
    have : ((0 + j : Nat) : Int).toNat = j := by omega
    rw [this, h2]; rfl

end Props

namespace SelSpec

theorem mem_allNames {ps : Props} {n : String} :
    n ∈ allNames ps ↔ ∃ row ∈ ps, row.head? = some n := by
  simp [allNames, List.mem_filterMap]

theorem valuesOf_of_nodup (name : String) : ∀ (ps : Props), (allNames ps).Nodup →
    valuesOf name ps = ((ps.find? (Props.named name)).map List.tail).getD []
  | [], _ => by simp [valuesOf]
  | row :: rest, h => by
      have hrest : (allNames rest).Nodup := h.sublist ((List.sublist_cons_self row rest).filterMap _)
      by_cases hn : row.head? = some name
      · have hb : Props.named name row = true := by simp [Props.named, hn]
        have hnot : name ∉ allNames rest := by
          unfold allNames at h ⊢
          rw [List.filterMap_cons, hn] at h
          exact (List.nodup_cons.mp h).1
        have hfil : rest.filter (fun row => row.head? == some name) = [] := by
          rw [List.filter_eq_nil_iff]
          intro r hr hp
          exact hnot (mem_allNames.mpr ⟨r, hr, by simpa using hp⟩)
        simp only [valuesOf, List.find?_cons, hb, Option.map_some, Option.getD_some]
        rw [List.filter_cons]
        simp [hn, hfil]
      · have hb : Props.named name row = false := by simp [Props.named, hn]
        have := valuesOf_of_nodup name rest hrest
        simp only [valuesOf, List.find?_cons, hb] at this ⊢
        rw [List.filter_cons]
        simp only [beq_iff_eq, hn, if_false]
        exact this

theorem mem_valuesOf {name v : String} {ps : Props} :
    v ∈ valuesOf name ps ↔ ∃ row ∈ ps, row.head? = some name ∧ v ∈ row.tail := by
  simp only [valuesOf, List.mem_flatMap, List.mem_filter, beq_iff_eq]
  constructor
  · rintro ⟨row, ⟨h1, h2⟩, h3⟩; exact ⟨row, h1, h2, h3⟩
  · rintro ⟨row, h1, h2, h3⟩; exact ⟨row, ⟨h1, h2⟩, h3⟩

theorem mem_allValues {v : String} {ps : Props} :
    v ∈ allValues ps ↔ ∃ row ∈ ps, v ∈ row.tail := by
  simp [allValues, List.mem_flatMap]

end SelSpec

/-- the closure of `Qualifier(name, query)` is the property's reading of a clause, on `Props`
as `Props.Add` builds them (the unnamed case needs no hypothesis on the rows). -/
theorem qualEval_iff (mtch : String → String → Bool) (c : String × String) (f : Feature)
    (hwf : wfProps f.props) : qualEval mtch c.1 c.2 f = true ↔ clauseSat mtch c f := by
  unfold qualEval clauseSat
  by_cases hname : c.1 = ""
  · simp only [hname, if_true, List.any_eq_true]
    constructor
    · rintro ⟨row, hrow, v, hv, hm⟩
      exact ⟨v, mem_allValues.mpr ⟨_, hrow, hv⟩, hm⟩
    · rintro ⟨v, hv, hm⟩
      obtain ⟨row, hrow, hv⟩ := mem_allValues.mp hv
      exact ⟨row, hrow, v, hv, hm⟩
  · simp only [hname, if_false]
    by_cases hq : c.2 = ""
    · simp only [hq, if_true, true_or, and_true, Props.has_iff]
      constructor
      · rintro ⟨row, hrow, hh⟩
        have hlen := hwf.1 row hrow
        cases row with
        | nil => simp at hh
        | cons n vs =>
          cases vs with
          | nil => simp at hlen
          | cons v vs => exact ⟨v, mem_valuesOf.mpr ⟨_, hrow, hh, by simp⟩⟩
      · rintro ⟨v, hv⟩
        obtain ⟨row, hrow, hh, _⟩ := mem_valuesOf.mp hv
        exact ⟨row, hrow, hh⟩
    · simp only [hq, if_false, false_or]
      rw [Props.get_eq, valuesOf_of_nodup c.1 f.props hwf.2]
      cases f.props.find? (Props.named c.1) with
      | none => simp
      | some row => simp [List.any_eq_true]

theorem splitOn_ne_nil (sep : Char) : ∀ cs : List Char, splitOn sep cs ≠ []
  | [] => by simp [splitOn]
  | c :: cs => by
      rw [splitOn]
      split
      · simp
      · cases splitOn sep cs <;> simp [consHead]

theorem splitEq_eq : ∀ s : List Char,
    splitEq s = (s.takeWhile (· != '='), (s.dropWhile (· != '=')).drop 1)
  | [] => by simp [splitEq]
  | c :: cs => by
      have ih := splitEq_eq cs
      unfold splitEq at ih ⊢
      rw [List.findIdx?_cons]
      by_cases hc : c = '='
      · simp [hc]
      · have hb : (c == '=') = false := by simpa using hc
        have hb' : (c != '=') = true := by simpa using hc
        simp only [hb, Bool.false_eq_true, if_false, List.takeWhile_cons, hb', if_true,
          List.dropWhile_cons]
        cases hf : cs.findIdx? (· == '=') with
        | none =>
          rw [hf] at ih
          simp only [Option.map_none]
          rw [← (Prod.mk.inj ih).1, ← (Prod.mk.inj ih).2]
        | some i =>
          rw [hf] at ih
          simp only [Option.map_some, List.take_succ_cons, List.drop_succ_cons]
          rw [← (Prod.mk.inj ih).1, ← (Prod.mk.inj ih).2]

theorem andF_pair (p q : Filter) (f : Feature) : andF [p, q] f = (p f && q f) := by
  simp [andF]

theorem compile_fold_eq (valid : String → Bool) (mtch : String → String → Bool) :
    ∀ (cs : List (String × String)) (acc : Filter),
      cs.foldlM (fun flt c => (qualifierFilter valid mtch c.1 c.2).map fun q => andF [flt, q]) acc =
        if cs.all (fun c => valid c.2) then
          some fun f => acc f && cs.all fun c => qualEval mtch c.1 c.2 f
        else none
  | [], acc => by simp
  | c :: cs, acc => by
      rw [List.foldlM_cons, qualifierFilter, List.all_cons]
      cases hv : valid c.2 with
      | false => rfl
      | true =>
        simp only [Bool.not_true, Bool.false_eq_true, if_false, Option.map_some, Option.bind_eq_bind,
          Option.bind_some, Bool.true_and]
        rw [compile_fold_eq valid mtch cs]
        simp only [andF_pair, List.all_cons, Bool.and_assoc]

theorem compile_eq (valid : String → Bool) (mtch : String → String → Bool) (sel : Selector) :
    Selector.compile valid mtch sel =
      if sel.clauses.all (fun c => valid c.2) then
        some fun f => keyF sel.key f && sel.clauses.all fun c => qualEval mtch c.1 c.2 f
      else none :=
  compile_fold_eq valid mtch sel.clauses (keyF sel.key)

theorem keyF_iff (key : String) (f : Feature) : keyF key f = true ↔ (key = "" ∨ f.key = key) := by
  unfold keyF
  by_cases h : key = ""
  · simp [h, trueFilter]
  · simp [h]

namespace Table

theorem filterIndices_spec (p : Filter) : ∀ (t pre : Table),
    (filterIndices p t pre.length).filterMap (fun i => (pre ++ t)[i]?) = t.filter p
  | [], pre => by simp [filterIndices]
  | f :: fs, pre => by
      have ih := filterIndices_spec p fs (pre ++ [f])
      simp only [List.length_append, List.length_singleton, List.append_assoc,
        List.singleton_append] at ih
      have hf : (⟨f.key, f.loc, f.props⟩ : Feature) = f := rfl
      unfold filterIndices
      rw [hf]
      by_cases hp : p f = true
      · simp only [hp, if_true, List.filterMap_cons, List.filter_cons]
        have : (pre ++ f :: fs)[pre.length]? = some f := by simp
        rw [this, ih]
      · simp only [hp, if_false, List.filter_cons, Bool.false_eq_true]
        exact ih

end Table
end Gts
