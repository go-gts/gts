/-
  `AsModifier (m.String()) = m` on the model: every printed modifier re-parses to itself
  (all five forms, zero and non-zero offsets, every offset a Go `int` can hold).  The alternatives of
  `parseModifier` in front of the right one are rejected (`Pars.Rejects`: position and stack restored) — except on
  the two one-byte texts `^` and `$`, which are evaluated; the right one succeeds whatever the stack (`Pars.Yields`; at
  the end of the text `pars.Int` leaks a frame when the offset is zero).  The rules are those of
  Gts/Lemmas/ParsRuns.lean.  Core Lean only.
-/
import Gts.Lemmas.ModText
namespace Gts
open Pars ModParse LocParse Pars.Run

/-- every offset of the modifier is a 64-bit Go `int` -/
def Mod.fits64 : Mod → Prop
  | .head p => Gts.fits64 p
  | .tail q => Gts.fits64 q
  | .headTail p q => Gts.fits64 p ∧ Gts.fits64 q
  | .headHead p q => Gts.fits64 p ∧ Gts.fits64 q
  | .tailTail p q => Gts.fits64 p ∧ Gts.fits64 q

/-- the offset behind a marker: nothing for zero, `%+d` otherwise -/
def offB (n : Int) : Bytes := if n = 0 then [] else fmtPlus n

theorem headB_eq (p : Int) : Mod.headB p = 94 :: offB p := by
  unfold Mod.headB offB
  split <;> rfl

theorem tailB_eq (q : Int) : Mod.tailB q = 36 :: offB q := by
  unfold Mod.tailB offB
  split <;> rfl

/-- a marker in front of `.`: the offset is read back, zero or not -/
theorem parseMark_off_dot (c : UInt8) (n : Int) (r : Bytes) (hf : fits64 n) :
    Reads (parseMark c) (c :: (offB n ++ 46 :: r)) n (46 :: r) := by
  unfold offB
  split
  · next h => subst h; exact parseMark_dot c r
  · next h => exact parseMark_int c n _ h hf (by simp [isDigit])

/-- a marker at the end of the text: `pars.Int` leaks a frame there when the offset is zero -/
theorem parseMark_off_end (c : UInt8) (n : Int) (hf : fits64 n) : Yields (parseMark c) (c :: offB n) n [] := by
  unfold offB
  split
  · next h => subst h; exact fun stk => ⟨_, parseMark_end c stk⟩
  · next h => exact (parseMark_int_end c n h hf).yields

theorem lit_dots (r : Bytes) : Reads (lit [46, 46]) (46 :: 46 :: r) () r := fun stk => by
  simp [lit]

theorem markPair_yields (c1 c2 : UInt8) (p q : Int) (hp : fits64 p) (hq : fits64 q) :
    Yields (seq3 (parseMark c1) (lit [46, 46]) (parseMark c2)) (c1 :: (offB p ++ 46 :: 46 :: c2 :: offB q))
      (p, (), q) [] :=
  .seq3 (parseMark_off_dot c1 p _ hp) (lit_dots _) (parseMark_off_end c2 q hq)

/-- the bare markers `^` and `$`, by evaluation -/
theorem asModifier_bare : asModifier [94] = .ok (.head 0) ∧ asModifier [36] = .ok (.tail 0) := by
  constructor <;>
    simp [asModifier, ModParse.exact, parseModifier, parseHeadTail, parseHeadHead, parseTailTail, parseHead, parseTail,
      mapP, anyOf, anyOf.go, seq2, seq3, atEnd, lit, P.run', ExceptT.run, StateT.run, parseMark_end,
      parseMark_rejects 94 (s := [36]) (by decide) _, parseMark_rejects 36 (s := [94]) (by decide) _]

/-- the five alternatives of `parseModifier`, in their order, on each printed shape -/
theorem asModifier_printB (m : Mod) (hf : m.fits64) : asModifier (m.printB) = .ok m := by
  have r94 : ∀ r, Rejects (parseMark 94) (36 :: r) := fun r => parseMark_rejects 94 (by simp)
  have r36 : ∀ r, Rejects (parseMark 36) (94 :: r) := fun r => parseMark_rejects 36 (by simp)
  have hend : ∀ c1 c2 n, n ≠ 0 → fits64 n →
      Rejects (seq3 (parseMark c1) (lit [46, 46]) (parseMark c2)) (c1 :: fmtPlus n) := fun c1 c2 n hn hf =>
    .seq3_second _ (parseMark_int_end c1 n hn hf) fun stk => by simp [lit]
  cases m with
  | head p =>
    by_cases hp : p = 0
    · subst hp; exact asModifier_bare.1
    · rw [Mod.printB, headB_eq, offB, if_neg hp]
      refine Yields.exact (.anyOf_skip ((hend 94 36 p hp hf).mapP _) <| .anyOf_skip ((hend 94 94 p hp hf).mapP _) <|
        .anyOf_skip (((r36 _).seq3 _ _).mapP _) <| .anyOf_cons (.map (parseMark_int_end 94 p hp hf).yields _) _)
  | tail q =>
    by_cases hq : q = 0
    · subst hq; exact asModifier_bare.2
    · rw [Mod.printB, tailB_eq, offB, if_neg hq]
      refine Yields.exact (.anyOf_skip (((r94 _).seq3 _ _).mapP _) <| .anyOf_skip (((r94 _).seq3 _ _).mapP _) <|
        .anyOf_skip ((hend 36 36 q hq hf).mapP _) <| .anyOf_skip ((r94 _).map _) <|
        .anyOf_cons (.map (parseMark_int_end 36 q hq hf).yields _) _)
  | headTail p q =>
    rw [Mod.printB, headB_eq, tailB_eq]
    exact Yields.exact (.anyOf_cons ((markPair_yields 94 36 p q hf.1 hf.2).mapP _) _)
  | headHead p q =>
    rw [Mod.printB, headB_eq, headB_eq]
    exact Yields.exact (.anyOf_skip (.mapP (.seq3_third (parseMark_off_dot 94 p _ hf.1) (lit_dots _) (r36 _)) _) <|
      .anyOf_cons ((markPair_yields 94 94 p q hf.1 hf.2).mapP _) _)
  | tailTail p q =>
    rw [Mod.printB, tailB_eq, tailB_eq]
    exact Yields.exact (.anyOf_skip (((r94 _).seq3 _ _).mapP _) <| .anyOf_skip (((r94 _).seq3 _ _).mapP _) <|
      .anyOf_cons ((markPair_yields 36 36 p q hf.1 hf.2).mapP _) _)

end Gts
