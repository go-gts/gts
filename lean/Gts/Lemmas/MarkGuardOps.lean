/-
  The marker guards of Reverse / Shift / Expand(-k) / Normalize follow from the K2 guards and
  duplicate-freeness of the denotation: the position maps keep a residue list duplicate-free, and
  `tguard_mark_of_nodup` (`Gts/Lemmas/TreeMap.lean`) lifts `Gts/Lemmas/MarkGuardNodup.lean` through
  the recursive location methods.
-/
import Gts.Lemmas.MarkGuardNodup
import Gts.Lemmas.Reverse
import Gts.Lemmas.Shift
import Gts.Lemmas.Delete
import Gts.Lemmas.Normalize
import Gts.Lemmas.Guest
namespace Gts
namespace Loc

theorem nodup_mapPos_insMap (i n : Int) (hn : 0 ≤ n) (d : List Pos) (h : d.Nodup) :
    (mapPos (insMap i n) d).Nodup :=
  nodup_mapPos_of_inj _ _ (fun a _ b _ => Cli.insMap_inj i n hn a.1 b.1) h

theorem nodup_mirrorDen (L : Int) (d : List Pos) (h : d.Nodup) : (mirrorDen L d).Nodup := by
  unfold mirrorDen
  have h1 : (mapPos (mirrorMap L) d).Nodup := by
    apply nodup_mapPos_of_inj _ _ _ h
    intro a _ b _ he
    unfold mirrorMap at he
    omega
  rw [List.Nodup, List.pairwise_reverse]
  exact List.Pairwise.imp (fun hab => Ne.symm hab) h1

theorem nodup_filterMapPos_delMap (i k : Int) (d : List Pos) (h : d.Nodup) :
    (filterMapPos (delMap i k) d).Nodup :=
  Cli.nodup_filterMapPos _ d (Cli.delMap_inj i k) h

theorem reverseMarkAbs_of_nodup (l : Loc) (L : Int) (hw : wf l = true) (hk : reverseAbs l L = false)
    (hnd : (den l).Nodup) : reverseMarkAbs l L = false := by
  rw [(reverse_eq_tmap L l).2.1] at hk
  rw [(reverse_eq_tmap L l).2.2]
  refine tguard_mark_of_nodup (reverse_leafSpec L) l hw (allLeaves_true l) hk ?_
  rw [dfold_hom (DenHom.mirrorDen L)]
  exact nodup_mirrorDen L _ hnd

theorem reverseMarkAbsList_of_nodup : ∀ (ls : List Loc) (L : Int), wfList ls = true →
    reverseAbsList ls L = false → (denList ls).Nodup → reverseMarkAbsList ls L = false :=
  fun ls => reverseMarkAbs_of_nodup (ordered ls)

theorem shiftMarkAbs_of_nodup (l : Loc) (i n : Int) (hw : wf l = true) (hn : 0 ≤ n)
    (hk : shiftAbs l i n = false) (hnd : (den l).Nodup) : shiftMarkAbs l i n = false := by
  rw [(shift_eq_tmap i n l).2.1] at hk
  rw [(shift_eq_tmap i n l).2.2]
  refine tguard_mark_of_nodup (shift_leafSpec i n hn) l hw (allLeaves_true l) hk ?_
  rw [dfold_hom (DenHom.mapPos _)]
  exact nodup_mapPos_insMap i n hn _ hnd

theorem shiftMarkAbsList_of_nodup : ∀ (ls : List Loc) (i n : Int), wfList ls = true → 0 ≤ n →
    shiftAbsList ls i n = false → (denList ls).Nodup → shiftMarkAbsList ls i n = false :=
  fun ls => shiftMarkAbs_of_nodup (ordered ls)

theorem expandDelMarkAbs_of_nodup (l : Loc) (i k : Int) (hw : wf l = true) (hk : 0 < k)
    (hg : expandAbs l i (-k) = false) (hnd : (den l).Nodup) : expandMarkAbs l i (-k) = false := by
  rw [(expand_eq_tmap i (-k) l).2.1] at hg
  rw [(expand_eq_tmap i (-k) l).2.2]
  refine tguard_mark_of_nodup (expand_del_leafSpec i k hk) l hw (allLeaves_true l) hg ?_
  rw [dfold_hom (DenHom.filterMapPos _)]
  exact nodup_filterMapPos_delMap i k _ hnd

theorem expandDelMarkAbsList_of_nodup : ∀ (ls : List Loc) (i k : Int), wfList ls = true → 0 < k →
    expandAbsList ls i (-k) = false → (denList ls).Nodup → expandMarkAbsList ls i (-k) = false :=
  fun ls => expandDelMarkAbs_of_nodup (ordered ls)

/-! ### Expand(0, k) on non-negative coordinates is Shift(0, k) (the first step of Rotate) -/

theorem shiftMarkAbs0_eq (l : Loc) (k : Int) (hw : wf l = true) (hn : nonneg l = true) (hk : 0 ≤ k) :
    shiftMarkAbs l 0 k = expandMarkAbs l 0 k := by
  rw [(shift_eq_tmap 0 k l).2.2, (expand_eq_tmap 0 k l).2.2]
  exact (expand0_shift0_congr joinMarkAbs l k hw (nonnegR_of_nonneg l hn) hk).2.symm

theorem shiftMarkAbsList0_eq : ∀ (ls : List Loc) (k : Int), wfList ls = true → nonnegList ls = true →
    0 ≤ k → shiftMarkAbsList ls 0 k = expandMarkAbsList ls 0 k :=
  fun ls => shiftMarkAbs0_eq (ordered ls)

theorem expand0MarkAbs_of_nodup (l : Loc) (k : Int) (hw : wf l = true) (hn : nonneg l = true)
    (hk : 0 ≤ k) (ha : expandAbs l 0 k = false) (hnd : (den l).Nodup) :
    expandMarkAbs l 0 k = false := by
  rw [← shiftMarkAbs0_eq l k hw hn hk]
  apply shiftMarkAbs_of_nodup l 0 k hw hk _ hnd
  rw [shiftAbs0_eq l k hw hn hk]; exact ha

theorem normalizeMarkAbs_of_nodup (l : Loc) (L : Int) (_ : 0 < L) (hw : wf l = true)
    (hn : normOk L l = true) (hk : normalizeAbs l L = false) (hnd : (mapPos (· % L) (den l)).Nodup) :
    normalizeMarkAbs l L = false := by
  rw [(normalize_eq_tmap L l).2.1] at hk
  rw [(normalize_eq_tmap L l).2.2]
  refine tguard_mark_of_nodup (normalize_leafSpec L) l hw (normOk_eq_allLeaves L l ▸ hn) hk ?_
  rw [dfold_hom (DenHom.mapPos _)]
  exact hnd

theorem normalizeMarkAbsList_of_nodup : ∀ (ls : List Loc) (L : Int), 0 < L → wfList ls = true →
    normOkList L ls = true → normalizeAbsList ls L = false →
    (mapPos (· % L) (denList ls)).Nodup → normalizeMarkAbsList ls L = false :=
  fun ls => normalizeMarkAbs_of_nodup (ordered ls)

/-- rotation by `n` is injective on the positions of a sequence of length `L` -/
theorem nodup_mapPos_rotMap (n L : Int) (hL : 0 < L) (d : List Pos) (hin : ∀ p ∈ d, 0 ≤ p.1 ∧ p.1 < L)
    (h : d.Nodup) : (mapPos (rotMap n L) d).Nodup := by
  apply nodup_mapPos_of_inj _ _ _ h
  intro a ha b hb he
  unfold rotMap at he
  have ha' := hin a ha
  have hb' := hin b hb
  have hr0 := Int.emod_nonneg n (show L ≠ 0 by omega)
  have hr1 := Int.emod_lt_of_pos n hL
  rw [← Int.add_emod_emod a.1, ← Int.add_emod_emod b.1] at he
  generalize n % L = r at he hr0 hr1
  have red : ∀ x : Int, 0 ≤ x → x < L → (x + r) % L = if x + r < L then x + r else x + r - L := by
    intro x h0 h1
    split
    · exact Int.emod_eq_of_lt (by omega) (by omega)
    · exact mod_window L L (x + r) 1 (by omega) (by omega) (by omega)
  rw [red a.1 ha'.1 ha'.2, red b.1 hb'.1 hb'.2] at he
  split at he <;> split at he <;> omega

end Loc
end Gts
