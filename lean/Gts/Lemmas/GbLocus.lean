/-
  C01 helper lemmas: the LOCUS line written by `GenBank.String` and read by
  `genbankLocusParser`.
-/
import Gts.Lemmas.GbDate
import Gts.Lemmas.GbTable
namespace Gts.GenBank
open Gts.Pars

/-- a word of non-space bytes -/
def wordOk (w : Bytes) : Bool := !w.isEmpty && w.all notSpace

/-- the LOCUS line's domain: name and molecule are non-empty words without white space, the
topology is linear or circular, the division is empty or three upper-case letters, the date is a
valid calendar date, the length a non-negative Go int -/
def locusOk (f : Fields) (length : Int) : Bool :=
  wordOk f.locusName && wordOk f.molecule && (f.topology == 0 || f.topology == 1) &&
  (f.division.isEmpty || (f.division.length == 3 && f.division.all isUpper)) && f.date.valid &&
  decide (0 ≤ length ∧ length ≤ 9223372036854775807)

theorem head_padRight_blank (w : Nat) (r : Bytes) : ∀ c, (sp w ++ 32 :: r).head? = some c → c = 32 :=
  head_sp_append (p := (· = 32)) w (32 :: r) rfl fun _ c hc => by simpa using hc.symm

theorem blank_is_space : isSpace 32 = true := by decide
theorem blank_not_notSpace : notSpace 32 = false := by decide

theorem upper_not_space (c : UInt8) (h : isUpper c = true) : isSpace c = false :=
  snake_not_space c (by simp [isSnake, h])

theorem digit_not_upper (c : UInt8) : isDigit c = true → isUpper c = false := by
  simp only [isDigit, isUpper, Bool.and_eq_true, decide_eq_true_eq, Bool.and_eq_false_iff, decide_eq_false_iff_not,
    UInt8.le_iff_toNat_le, UInt8.toNat_ofNat]
  omega

theorem notSpace_iff (c : UInt8) : notSpace c = true ↔ isSpace c = false := by
  simp [notSpace]

theorem dateText_shape (d : Date) (h : d.valid = true) :
    (∀ X c, (d.text ++ X).head? = some c → isDigit c = true) ∧ noEOL d.text = true := by
  have hv := h
  simp only [Date.valid, decide_eq_true_eq] at hv
  obtain ⟨mi, hmi⟩ : ∃ mi : Fin 12, d.month.toNat - 1 = mi.1 := ⟨⟨d.month.toNat - 1, by omega⟩, rfl⟩
  unfold Date.text
  rw [if_pos h, hmi]
  have hz2 := zpad_all_digit 2 d.day.toNat
  have hz4 := zpad_all_digit 4 d.year.toNat
  have hmon : ∀ m : Fin 12, noEOL (monthAbbr.getD m.1 []) = true := by decide +kernel
  have dig_noEOL := noEOL_of_class isDigit rfl rfl
  constructor
  · have hne : zpad 2 d.day.toNat ≠ [] := by
      obtain ⟨c, r, hc, _⟩ := natDigits_cons d.day.toNat
      simp [zpad, hc]
    intro X
    simp only [List.append_assoc]
    exact head_of_all hne hz2 _
  · simp only [noEOL_append, dig_noEOL _ hz2, dig_noEOL _ hz4, hmon mi, Bool.and_true]
    decide +kernel

end Gts.GenBank

namespace Gts.GenBank
open Gts.Pars

theorem locusTry_ok {α} (p : P α) (s s' : PS) (a : α) (h : p s = (.ok a, s')) : locusTry p s = (.ok a, s') := by
  gsimp [locusTry, h]

theorem sp_one : sp 1 = [32] := rfl

/-- the canonical shape of a LOCUS line: words separated by runs of blanks -/
def locusCanon (name digits mol top : Bytes) (k2 k3 k5 : Nat) (tail : Bytes) : Bytes :=
  bs "LOCUS" ++ (sp 7 ++ (name ++ (sp (k2 + 1) ++ (digits ++ (bs " bp" ++ (sp (k3 + 1) ++ (mol ++
    (sp 5 ++ (top ++ (sp (k5 + 1) ++ tail))))))))))

theorem wordOk_spec (w : Bytes) (h : wordOk w = true) : w.all notSpace = true ∧ w ≠ [] := by
  simp only [wordOk, Bool.and_eq_true, Bool.not_eq_true', List.isEmpty_eq_false_iff] at h
  exact ⟨h.2, h.1⟩

theorem spaces_word (k : Nat) (w X : Bytes) (stk : List Bytes) (hw : wordOk w = true) :
    spaces ⟨sp k ++ (w ++ X), stk⟩ = (.ok (sp k), ⟨w ++ X, stk⟩) := by
  obtain ⟨h1, h2⟩ := wordOk_spec w hw
  exact spaces_ok (sp k) _ stk (sp_all_space k) fun c hc => (notSpace_iff c).1 (head_of_all h2 h1 X c hc)

theorem word_blanks (w : Bytes) (k : Nat) (X : Bytes) (stk : List Bytes) (hw : wordOk w = true) :
    word notSpace ⟨w ++ (sp (k + 1) ++ X), stk⟩ = (.ok w, ⟨sp (k + 1) ++ X, stk⟩) := by
  obtain ⟨h1, h2⟩ := wordOk_spec w hw
  exact word_ok notSpace w _ stk h1 h2 (head_sp_append _ X blank_not_notSpace nofun)

theorem divisionParser_none (X : Bytes) (stk : List Bytes) (hX : ∀ c, X.head? = some c → isUpper c = false) :
    divisionParser ⟨X, stk⟩ = (.ok [], ⟨X, stk⟩) := by
  rcases X with _ | ⟨a, _ | ⟨b, _ | ⟨c, r⟩⟩⟩
  · rfl
  · rfl
  · rfl
  · simp only [divisionParser, P.bind_run, getS, hX a rfl, Bool.false_and, Bool.false_eq_true, if_false, P.pure_run]

/-- `"%s %s"` of division and date behind the padded topology: without a division the blank in front
of the date belongs to the run behind the topology (`i = 0`) -/
theorem division_blanks (dv X : Bytes) (k : Nat) (hdv : dv = [] ∨ (dv.length = 3 ∧ dv.all isUpper = true)) :
    ∃ j i, sp (k + 1) ++ (dv ++ 32 :: X) = sp (j + 1) ++ (dv ++ (sp i ++ X)) ∧
      (dv = [] ∧ i = 0 ∨ dv.length = 3 ∧ dv.all isUpper = true) := by
  rcases hdv with rfl | h
  · refine ⟨k + 1, 0, ?_, .inl ⟨rfl, rfl⟩⟩
    rw [← sp_add (k + 1) 1, List.append_assoc]; rfl
  · exact ⟨k, 1, rfl, .inr h⟩

/-- the tail of the line: blanks, a division of three upper-case letters or none, blanks, the date -/
theorem division_run (dv dt Z : Bytes) (stk : List Bytes) (j i : Nat)
    (hdv : dv = [] ∧ i = 0 ∨ dv.length = 3 ∧ dv.all isUpper = true)
    (hdt : ∀ X c, (dt ++ X).head? = some c → isDigit c = true) :
    spaces ⟨sp j ++ (dv ++ (sp i ++ (dt ++ Z))), stk⟩ = (.ok (sp j), ⟨dv ++ (sp i ++ (dt ++ Z)), stk⟩) ∧
    divisionParser ⟨dv ++ (sp i ++ (dt ++ Z)), stk⟩ = (.ok dv, ⟨sp i ++ (dt ++ Z), stk⟩) ∧
    spaces ⟨sp i ++ (dt ++ Z), stk⟩ = (.ok (sp i), ⟨dt ++ Z, stk⟩) := by
  have hs3 := spaces_ok (sp i) (dt ++ Z) stk (sp_all_space i) fun c hc => isSpace_of_isDigit c (hdt Z c hc)
  rcases hdv with ⟨rfl, rfl⟩ | ⟨hl, hu⟩
  · -- no division: the date follows
    have hd : ∀ c, ([] ++ (sp 0 ++ (dt ++ Z))).head? = some c → isDigit c = true := hdt Z
    exact ⟨spaces_ok (sp j) _ stk (sp_all_space j) fun c hc => isSpace_of_isDigit c (hd c hc),
      divisionParser_none _ stk fun c hc => digit_not_upper c (hd c hc), hs3⟩
  · obtain ⟨a, b, c, rfl⟩ : ∃ a b c, dv = [a, b, c] := by
      match dv, hl with
      | [a, b, c], _ => exact ⟨a, b, c, rfl⟩
    simp only [List.all_cons, List.all_nil, Bool.and_true, Bool.and_eq_true] at hu
    refine ⟨spaces_ok (sp j) _ stk (sp_all_space j) fun x hx => ?_, ?_, hs3⟩
    · simp at hx; subst hx; exact upper_not_space _ hu.1
    · simp only [divisionParser, P.bind_run, getS, hu.1, hu.2.1, hu.2.2, Bool.and_self, if_true, advanceN, setS,
        P.pure_run, List.cons_append, List.nil_append, List.drop_succ_cons, List.drop_zero]

theorem locus_canon (e : Eol) (name mol top dv : Bytes) (n : Nat) (d : Date) (k2 k3 k5 : Nat) (rest : Bytes)
    (stk : List Bytes) (hname : wordOk name = true) (hmol : wordOk mol = true) (htop : wordOk top = true)
    (hdv : dv = [] ∨ (dv.length = 3 ∧ dv.all isUpper = true)) (hd : d.valid = true)
    (hn : n ≤ 9223372036854775807) :
    locusParser ⟨locusCanon name (natDigits n) mol top k2 k3 k5 (dv ++ 32 :: (d.text ++ (e.bytes ++ rest))), stk⟩ =
      (.ok ⟨12, name, (n : Int), mol, top, dv, d⟩, ⟨rest, stk⟩) := by
  obtain ⟨hdt, hdl⟩ := dateText_shape d hd
  obtain ⟨dg, dgs, hdg3, hdg0⟩ := natDigits_cons n
  obtain ⟨j, i, htxt, hdv'⟩ := division_blanks dv (d.text ++ (e.bytes ++ rest)) k5 hdv
  -- the run equations of the elements, for every stack
  have hsp := fun X s => spaces_ok (sp (k2 + 1)) (natDigits n ++ X) s (sp_all_space _)
    (head_of_cons hdg3 (isSpace_of_isDigit _ hdg0) X)
  have hint := fun X s => int_natDigits n (bs " bp" ++ X) s (by simp [bs, isDigit]) hn
  have hbp : ∀ X s, bpOrAa ⟨bs " bp" ++ X, s⟩ = (.ok (), ⟨X, s⟩) := by
    intro X s; gsimp [bpOrAa, lit_ok]
  have hline := fun s => line_okE e d.text rest s hdl
  have htail := fun s => division_run dv d.text (e.bytes ++ rest) s (j + 1) i hdv' hdt
  simp only [locusParser, locusCanon, htxt, P.bind_run, push, getS, setS,
    locusTry_ok _ _ _ _ (lit_ok _ _ _), spaces_word _ _ _ _ hname, locusTry_ok _ _ _ _ (word_blanks _ _ _ _ hname),
    hsp, locusTry_ok _ _ _ _ (hint _ _), locusTry_ok _ _ _ _ (hbp _ _), spaces_word _ _ _ _ hmol,
    locusTry_ok _ _ _ _ (word_blanks _ 4 _ _ hmol), spaces_word _ _ _ _ htop,
    locusTry_ok _ _ _ _ (word_blanks _ _ _ _ htop), (htail _).1, (htail _).2.1, (htail _).2.2, hline,
    date_roundtrip d hd, Pars.drop, P.pure_run, List.drop_succ_cons, List.drop_zero, sp_length]

end Gts.GenBank

namespace Gts.GenBank
open Gts.Pars

theorem sp_cons_blank (a b : Nat) (X : Bytes) : sp a ++ (32 :: (sp b ++ X)) = sp (a + b + 1) ++ X := by
  have : (32 : UInt8) :: (sp b ++ X) = sp 1 ++ (sp b ++ X) := rfl
  rw [this, ← List.append_assoc, ← List.append_assoc, sp_add, sp_add]
  congr 2; omega

theorem topologyText_ok (t : Int) (h : t = 0 ∨ t = 1) :
    wordOk (topologyText t) = true ∧ ∃ k5, 9 - (topologyText t).length = k5 + 1 := by
  rcases h with rfl | rfl
  · exact ⟨by decide, 2, by decide⟩
  · exact ⟨by decide, 0, by decide⟩

theorem locus_roundtripE (e : Eol) (f : Fields) (length : Int) (rest : Bytes) (stk : List Bytes)
    (h : locusOk f length = true) :
    locusParser ⟨locusLine f length ++ (e.bytes ++ rest), stk⟩ =
      (.ok ⟨12, f.locusName, length, f.molecule, topologyText f.topology, f.division, f.date⟩, ⟨rest, stk⟩) := by
  simp only [locusOk, Bool.and_eq_true, Bool.or_eq_true, beq_iff_eq, decide_eq_true_eq,
    List.isEmpty_iff] at h
  obtain ⟨⟨⟨⟨⟨hname, hmol⟩, htop⟩, hdv⟩, hd⟩, hl0, hl1⟩ := h
  obtain ⟨htw, k5, hk5⟩ := topologyText_ok f.topology htop
  obtain ⟨n, rfl⟩ : ∃ n : Nat, length = (n : Int) := ⟨length.toNat, by omega⟩
  have hdig : itoaB (n : Int) = natDigits n := by
    simp [itoaB]
  have eq : locusLine f (n : Int) ++ (e.bytes ++ rest) =
      locusCanon f.locusName (natDigits n) f.molecule (topologyText f.topology)
        ((17 - f.locusName.length) + (10 - (natDigits n).length)) (6 - f.molecule.length) k5
        (f.division ++ 32 :: (f.date.text ++ (e.bytes ++ rest))) := by
    have e2 : bs " bp " = bs " bp" ++ [32] := by decide +kernel
    simp only [locusLine, locusCanon, hdig, e2, padRight, padLeft, List.append_assoc, List.cons_append,
      List.nil_append, hk5]
    have h7 : sp (12 - (bs "LOCUS").length) = sp 7 := by decide +kernel
    have hb : ∀ (c : Nat) (X : Bytes), (32 : UInt8) :: (sp c ++ X) = sp (c + 1) ++ X := by
      intro c X; rw [sp_succ]; rfl
    rw [h7, sp_cons_blank, hb]
  rw [eq]
  exact locus_canon e _ _ _ _ n _ _ _ _ rest stk hname hmol htw hdv hd (by omega)

theorem locus_roundtrip (f : Fields) (length : Int) (rest : Bytes) (stk : List Bytes)
    (h : locusOk f length = true) :
    locusParser ⟨locusLine f length ++ 10 :: rest, stk⟩ =
      (.ok ⟨12, f.locusName, length, f.molecule, topologyText f.topology, f.division, f.date⟩, ⟨rest, stk⟩) :=
  locus_roundtripE .lf f length rest stk h

/-- the LOCUS line has no line feed: its CRLF translation is the line itself -/
theorem locusLine_noLF (f : Fields) (length : Int) (h : locusOk f length = true) : noLF (locusLine f length) := by
  simp only [locusOk, Bool.and_eq_true, Bool.or_eq_true, beq_iff_eq, decide_eq_true_eq,
    List.isEmpty_iff] at h
  obtain ⟨⟨⟨⟨⟨hname, hmol⟩, htop⟩, hdv⟩, hd⟩, _⟩ := h
  have hword : ∀ w, wordOk w = true → noLF w := fun w hw =>
    noLF_of_class notSpace rfl w (wordOk_spec w hw).1
  have htopo : noLF (topologyText f.topology) := by
    rcases htop with h0 | h1
    · rw [h0]; exact noLF_of_all _ (by decide +kernel)
    · rw [h1]; exact noLF_of_all _ (by decide +kernel)
  have hdiv : noLF f.division := by
    rcases hdv with h0 | ⟨_, hu⟩
    · rw [h0]; exact fun _ hc => by simp at hc
    · exact noLF_of_class isUpper rfl _ hu
  simp only [locusLine, padRight, padLeft, noLF_append_iff, noLF_cons_iff, noLF_sp, noLF_nil, and_true, true_and]
  exact ⟨⟨⟨⟨⟨⟨⟨⟨⟨noLF_of_all _ (by decide +kernel), hword _ hname⟩, by decide⟩, noLF_itoaB length⟩,
    noLF_of_all _ (by decide +kernel)⟩, hword _ hmol⟩, htopo⟩, hdiv⟩, by decide⟩,
    noEOL_noLF _ (dateText_shape f.date hd).2⟩

end Gts.GenBank
