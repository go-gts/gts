/-
  `Repair` (property C12), part 9: the grouping text `fmt.Sprintf("%q:%q", Key, Props)` determines
  key and qualifiers (a decoder with `decodeKey fuel (classKeyChars f) = some (f.key, f.props)`).
  Core Lean only.
-/
import Gts.Lemmas.Repair
namespace Gts

/-- read the body of a quoted string up to the closing quote; `esc`: the previous character
was a backslash -/
def unescAux : Bool → List Char → List Char → Option (List Char × List Char)
  | _, _, [] => none
  | true, acc, c :: rest => unescAux false (c :: acc) rest
  | false, acc, c :: rest =>
    if c = '"' then some (acc.reverse, rest)
    else if c = '\\' then unescAux true acc rest
    else unescAux false (c :: acc) rest

theorem unescAux_esc (s acc rest : List Char) :
    unescAux false acc (escChars s ++ '"' :: rest) = some (acc.reverse ++ s, rest) := by
  induction s generalizing acc with
  | nil => simp [escChars, unescAux]
  | cons c cs ih =>
    simp only [escChars]
    by_cases h : c = '"' ∨ c = '\\'
    · simp only [h, if_true, List.cons_append, List.nil_append]
      have h1 : ¬ ('\\' = '"') := by decide
      simp only [unescAux, h1, if_false, if_true]
      rw [ih]
      simp
    · have h1 : ¬ c = '"' := fun e => h (Or.inl e)
      have h2 : ¬ c = '\\' := fun e => h (Or.inr e)
      simp only [h, if_false, List.cons_append, List.nil_append]
      simp only [unescAux, h1, h2, if_false]
      rw [ih]
      simp

/-- read one quoted string -/
def unquote : List Char → Option (String × List Char)
  | c :: r => if c = '"' then (unescAux false [] r).map fun p => (String.ofList p.1, p.2) else none
  | [] => none

theorem unquote_quote (v : String) (rest : List Char) :
    unquote (quoteChars v.toList ++ rest) = some (v, rest) := by
  simp only [quoteChars, List.cons_append, List.append_assoc, unquote, if_true]
  rw [unescAux_esc]
  simp [String.ofList_toList]

def decSep {α} (item : List Char → Option (α × List Char)) : Nat → List Char → Option (List α × List Char)
  | 0, _ => none
  | fuel + 1, inp =>
    match item inp with
    | none => none
    | some (x, r) =>
      match r with
      | [] => none
      | c :: r' =>
        if c = ']' then some ([x], r')
        else if c = ' ' then (decSep item fuel r').map fun p => (x :: p.1, p.2)
        else none

def decBracket {α} (item : List Char → Option (α × List Char)) (fuel : Nat) :
    List Char → Option (List α × List Char)
  | c :: d :: r => if c = '[' then (if d = ']' then some ([], r) else decSep item fuel (d :: r)) else none
  | _ => none

theorem decSep_sep {α} (item : List Char → Option (α × List Char)) (enc : α → List Char) (rest : List Char) :
    ∀ (l : List α) (fuel : Nat), (∀ x ∈ l, ∀ rest, item (enc x ++ rest) = some (x, rest)) →
      l ≠ [] → l.length ≤ fuel →
      decSep item fuel (sepChars enc l ++ ']' :: rest) = some (l, rest)
  | [], _, _, h, _ => absurd rfl h
  | [x], fuel + 1, hitem, _, _ => by
    simp [sepChars, decSep, hitem x (by simp)]
  | [x], 0, _, _, h => by simp at h
  | x :: y :: r, 0, _, _, h => by simp at h
  | x :: y :: r, fuel + 1, hitem, _, h => by
    have ih := decSep_sep item enc rest (y :: r) fuel (fun z hz => hitem z (by simp [hz])) (by simp)
      (by simp at h ⊢; omega)
    simp only [sepChars, List.append_assoc, List.cons_append, decSep, hitem x (by simp)]
    have h1 : ¬ (' ' = ']') := by decide
    simp only [h1, if_false, if_true, ih, Option.map_some]

theorem decBracket_bracket {α} (item : List Char → Option (α × List Char)) (enc : α → List Char)
    (hhead : ∀ x, ∃ c r, enc x = c :: r ∧ c ≠ ']') (rest : List Char)
    (l : List α) (fuel : Nat) (hitem : ∀ x ∈ l, ∀ rest, item (enc x ++ rest) = some (x, rest))
    (hf : l.length ≤ fuel) :
    decBracket item fuel (bracketChars enc l ++ rest) = some (l, rest) := by
  cases l with
  | nil => simp [bracketChars, sepChars, decBracket]
  | cons x xs =>
    have hs := decSep_sep item enc rest (x :: xs) fuel hitem (by simp) hf
    obtain ⟨c, r, hc, hne⟩ := hhead x
    have hsc : ∃ r', sepChars enc (x :: xs) = c :: r' := by
      cases xs with
      | nil => exact ⟨r, by simp [sepChars, hc]⟩
      | cons y ys => exact ⟨r ++ ' ' :: sepChars enc (y :: ys), by simp [sepChars, hc]⟩
    obtain ⟨r', hr'⟩ := hsc
    simp only [bracketChars, List.cons_append, List.append_assoc]
    rw [hr'] at hs ⊢
    simp only [List.cons_append, decBracket, if_true, hne, if_false]
    exact hs

/-- read `"key":[[…] […]]` back -/
def decodeKey (fuel : Nat) (inp : List Char) : Option (String × List (List String)) :=
  match unquote inp with
  | some (k, c :: r) =>
    if c = ':' then
      match decBracket (decBracket unquote fuel) fuel r with
      | some (ps, []) => some (k, ps)
      | _ => none
    else none
  | _ => none

theorem quote_head (v : String) : ∃ c r, quoteChars v.toList = c :: r ∧ c ≠ ']' :=
  ⟨'"', _, rfl, by decide⟩

theorem fmtRow_head (row : List String) : ∃ c r, fmtRowChars row = c :: r ∧ c ≠ ']' :=
  ⟨'[', _, rfl, by decide⟩

theorem decodeKey_classKeyChars (f : Feature) (fuel : Nat) (h1 : f.props.length ≤ fuel)
    (h2 : ∀ row ∈ f.props, row.length ≤ fuel) :
    decodeKey fuel (classKeyChars f) = some (f.key, f.props) := by
  have hrow : ∀ row ∈ f.props, ∀ (rest : List Char),
      decBracket unquote fuel (fmtRowChars row ++ rest) = some (row, rest) := by
    intro row hr rest
    exact decBracket_bracket unquote _ quote_head rest row fuel (fun v _ rest => unquote_quote v rest) (h2 row hr)
  have hp := decBracket_bracket (decBracket unquote fuel) fmtRowChars fmtRow_head [] f.props fuel hrow h1
  rw [List.append_nil] at hp
  simp only [decodeKey, classKeyChars, unquote_quote, if_true, hp]

/-- a fuel that suffices for `f` -/
def keyFuel (f : Feature) : Nat := f.props.length + (f.props.map List.length).foldr max 0

theorem le_foldr_max (l : List Nat) (x : Nat) (h : x ∈ l) : x ≤ l.foldr max 0 := by
  induction l with
  | nil => cases h
  | cons a as ih =>
    simp only [List.foldr_cons]
    rcases List.mem_cons.mp h with rfl | h
    · exact Nat.le_max_left _ _
    · exact Nat.le_trans (ih h) (Nat.le_max_right _ _)

/-- **the grouping text is injective**: equal texts, equal key and qualifiers -/
theorem classKey_inj (f g : Feature) : classKey f = classKey g ↔ (f.key = g.key ∧ f.props = g.props) := by
  constructor
  · intro h
    have hc : classKeyChars f = classKeyChars g := by
      have := congrArg String.toList h
      simpa [classKey, String.toList_ofList] using this
    have hb : ∀ (x : Feature) (n : Nat), keyFuel x ≤ n →
        decodeKey n (classKeyChars x) = some (x.key, x.props) := by
      intro x n hn
      apply decodeKey_classKeyChars
      · simp only [keyFuel] at hn; omega
      · intro row hr
        have := le_foldr_max (x.props.map List.length) row.length (List.mem_map.mpr ⟨row, hr, rfl⟩)
        simp only [keyFuel] at hn; omega
    have hf := hb f (max (keyFuel f) (keyFuel g)) (Nat.le_max_left _ _)
    have hg := hb g (max (keyFuel f) (keyFuel g)) (Nat.le_max_right _ _)
    rw [hc, hg] at hf
    simp only [Option.some.injEq, Prod.mk.injEq] at hf
    exact ⟨hf.1.symm, hf.2.symm⟩
  · rintro ⟨h1, h2⟩
    exact classKey_congr (f := g) (g := f) h1 h2

end Gts
