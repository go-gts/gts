/-
  Facts about the fixed prelude `Gts/Gen/CliList.lean` of the CLI-step translator: the map-as-set
  insertion `clSetAdd` (keys in order of first insertion: no duplicates, the members are the
  inserted keys), `clSortInts` (= `sort.Ints`: THE ascending permutation), and their meeting point with
  the model's `Cli.sortAscU`: sorting the keys of the set, visited in any order, is `sortAscU` of the
  inserted values.  Core Lean only.
-/
import Gts.Gen.CliList
import Gts.Lemmas.Cli
import Gts.Lemmas.Interval
namespace Gts
open Gts.Gen

theorem clSetAdd_eq (u : List Int) (k : Int) : clSetAdd u k = if k ∈ u then u else u ++ [k] := by
  simp [clSetAdd]

theorem mem_clSetAdd (u : List Int) (k x : Int) : x ∈ clSetAdd u k ↔ x ∈ u ∨ x = k := by
  rw [clSetAdd_eq]
  by_cases h : k ∈ u
  · simp only [h, if_true]
    constructor
    · exact Or.inl
    · rintro (h' | rfl)
      · exact h'
      · exact h
  · simp [h]

theorem clSetAdd_nodup (u : List Int) (k : Int) (h : u.Nodup) : (clSetAdd u k).Nodup := by
  rw [clSetAdd_eq]
  by_cases hc : k ∈ u
  · simp only [hc, if_true]; exact h
  · simp only [hc, if_false]
    rw [List.nodup_append]
    refine ⟨h, by simp, ?_⟩
    intro a ha b hb
    simp only [List.mem_singleton] at hb
    subst hb
    intro e; subst e; exact hc ha

theorem mem_foldl_clSetAdd (xs : List Int) : ∀ (u : List Int) (x : Int),
    x ∈ xs.foldl clSetAdd u ↔ x ∈ u ∨ x ∈ xs := by
  induction xs with
  | nil => intro u x; simp
  | cons a rest ih =>
    intro u x
    simp only [List.foldl_cons, ih, mem_clSetAdd, List.mem_cons, or_assoc]

theorem foldl_clSetAdd_nodup (xs : List Int) : ∀ (u : List Int), u.Nodup → (xs.foldl clSetAdd u).Nodup := by
  induction xs with
  | nil => intro u h; exact h
  | cons a rest ih => intro u h; exact ih _ (clSetAdd_nodup u a h)

theorem clInsertInts_perm (x : Int) (l : List Int) : (clInsertInts x l).Perm (x :: l) := by
  induction l with
  | nil => exact List.Perm.refl _
  | cons y ys ih =>
    simp only [clInsertInts]
    split
    · exact List.Perm.refl _
    · exact ((List.Perm.cons y ih).trans (List.Perm.swap x y ys))

theorem clSortInts_perm (l : List Int) : (clSortInts l).Perm l := by
  induction l with
  | nil => exact List.Perm.refl _
  | cons x xs ih => exact (clInsertInts_perm x _).trans (List.Perm.cons x ih)

theorem clInsertInts_sorted (x : Int) (l : List Int) (h : l.Pairwise (· ≤ ·)) :
    (clInsertInts x l).Pairwise (· ≤ ·) := by
  induction l with
  | nil => simp [clInsertInts]
  | cons y ys ih =>
    simp only [clInsertInts]
    split
    · rename_i hxy
      simp only [List.pairwise_cons] at h ⊢
      refine ⟨?_, h⟩
      intro a ha
      rcases List.mem_cons.mp ha with rfl | ha
      · exact hxy
      · exact Int.le_trans hxy (h.1 a ha)
    · rename_i hxy
      simp only [List.pairwise_cons] at h ⊢
      refine ⟨?_, ih h.2⟩
      intro a ha
      rcases List.mem_cons.mp ((clInsertInts_perm x ys).subset ha) with rfl | ha
      · omega
      · exact h.1 a ha

theorem clSortInts_sorted (l : List Int) : (clSortInts l).Pairwise (· ≤ ·) := by
  induction l with
  | nil => simp [clSortInts]
  | cons x xs ih => exact clInsertInts_sorted x _ ih

/-- any ascending permutation of the input is `sort.Ints` of it (the specification of `sort.Ints`
determines its result) -/
theorem clSortInts_unique (l m : List Int) (hp : m.Perm l) (hs : m.Pairwise (· ≤ ·)) : m = clSortInts l :=
  (hp.trans (clSortInts_perm l).symm).eq_of_pairwise (le := (· ≤ ·)) (fun _ _ _ _ h1 h2 => by omega) hs
    (clSortInts_sorted l)

/-- the keys of the set built from `xs`, visited in ANY order `m`, sorted: the model's `sortAscU xs` -/
theorem clSortInts_keys (xs m : List Int) (hm : m.Perm (xs.foldl clSetAdd [])) :
    clSortInts m = Cli.sortAscU xs := by
  have hn : (clSortInts m).Nodup :=
    ((clSortInts_perm m).trans hm).nodup_iff.mpr (foldl_clSetAdd_nodup xs [] List.nodup_nil)
  have hlt : (clSortInts m).Pairwise (· < ·) := by
    have := (clSortInts_sorted m).and hn
    exact this.imp (fun h => by omega)
  apply sorted_ext hlt (Cli.sortAscU_sorted xs)
  intro x
  rw [Cli.mem_sortAscU, ((clSortInts_perm m).trans hm).mem_iff, mem_foldl_clSetAdd]
  simp

end Gts
