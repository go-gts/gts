/-
  C19, selectors with backslashes, the character-level model (`shiftChars` / `clauseLoop` / `parseSelector`,
  Gts/Model/Feature.lean, answered over the protocol): its loops are the generic ones of
  Gts/Lemmas/SelSplit.lean, so `parseSelector` computes key and clauses of the grammar with escapes
  (`parseSelector_esc`); the plain grammar as the backslash-free case; qualifier tables with repeated names.
  (The byte-level model `shiftSelectorB` / `selectorParts`: Gts/Lemmas/SelShift.lean; the split statement for
  byte strings: `C19.selector_parts_spec`, Gts/Props/C19.lean.)  Core Lean only.
-/
import Gts.Lemmas.Select
import Gts.Lemmas.SelSplit
namespace Gts
open SelSpec

theorem shiftLoop_eq : ∀ (cs : List Char) (esc : Bool) (pre : List Char),
    shiftLoop esc pre cs = (pre.reverse ++ (shiftG '\\' '/' cs esc).1, (shiftG '\\' '/' cs esc).2)
  | [], _, _ => by simp [shiftLoop, shiftG]
  | c :: r, esc, pre => by
      simp only [shiftLoop, shiftG]
      by_cases hb : c = '\\'
      · rw [if_pos hb, shiftLoop_eq r true]
        simp [hb, stNext_bs]
      · rw [if_neg hb]
        by_cases hs : c = '/'
        · rw [if_pos hs]
          cases esc with
          | false => simp [hs]
          | true =>
            rw [shiftLoop_eq r true]
            simp [hs, stNext_sl]
        · rw [if_neg hs, shiftLoop_eq r false]
          simp [hs, stNext_other hb hs]

theorem shiftChars_eq (cs : List Char) : shiftChars cs = shiftG '\\' '/' cs false := by
  rw [shiftChars, shiftLoop_eq]; simp

theorem clauseLoop_eq : ∀ (fuel : Nat) (t : List Char), clauseLoop fuel t = partsG '\\' '/' fuel t
  | 0, _ => rfl
  | fuel + 1, [] => by simp [clauseLoop, partsG]
  | fuel + 1, c :: cs => by
      simp only [clauseLoop, partsG, List.isEmpty_cons, Bool.false_eq_true, if_false]
      rw [shiftChars_eq, clauseLoop_eq fuel]

theorem parseSelector_esc (s : String) : parseSelector s = ⟨keyEsc s, clausesEsc s⟩ := by
  have hseg := segments_spec '\\' '/' (by decide) s.toList (shiftG '\\' '/' s.toList false).2.length
    (Nat.le_refl _)
  unfold selectorSegments at hseg
  unfold parseSelector parseSelectorChars keyEsc clausesEsc
  simp only [shiftChars_eq, clauseLoop_eq]
  cases hsp : escSplit '\\' '/' s.toList with
  | nil =>
    rw [hsp] at hseg
    cases hseg
  | cons k rest =>
    rw [hsp] at hseg
    simp only at hseg
    have h1 := (List.cons.inj hseg).1
    have h2 := (List.cons.inj hseg).2
    simp only [List.headD_cons, List.tail_cons, h1, h2, List.map_map]
    congr 1
    apply List.map_congr_left
    intro seg _
    simp [Function.comp, splitEq_eq, clauseOf]

theorem dropTrailingEmptyG_eq : ∀ l : List (List Char), dropTrailingEmptyG l = dropTrailingEmpty l
  | [] => rfl
  | [[]] => rfl
  | [_ :: _] => rfl
  | x :: y :: l => by
      cases x <;> simp [dropTrailingEmptyG, dropTrailingEmpty, dropTrailingEmptyG_eq (y :: l)]

/-- without a backslash the flag is never set: the split with escapes is the plain one -/
theorem splitSt_nobs (bs sl : Char) : ∀ (s cur : List Char), bs ∉ s →
    splitSt bs sl false cur s = (cur.reverse ++ (splitOn sl s).headD []) :: (splitOn sl s).tail
  | [], _, _ => by simp [splitSt, splitOn]
  | c :: r, cur, h => by
      have hc : c ≠ bs := fun e => h (e ▸ List.mem_cons_self ..)
      have ih := fun cur => splitSt_nobs bs sl r cur (fun e => h (List.mem_cons_of_mem _ e))
      rw [splitSt, splitOn]
      by_cases hs : c = sl
      · rw [if_pos ⟨hs, rfl⟩, if_pos hs, ih]
        cases hsp : splitOn sl r with
        | nil => exact absurd hsp (splitOn_ne_nil sl r)
        | cons seg rest => simp
      · rw [if_neg (fun e => hs e.1), if_neg hs, stNext_other hc hs, ih]
        cases splitOn sl r <;> simp [consHead]

theorem esc_plain (s : String) (h : '\\' ∉ s.toList) : keyEsc s = SelSpec.key s ∧ clausesEsc s = SelSpec.clauses s := by
  unfold keyEsc clausesEsc SelSpec.key SelSpec.clauses
  rw [escSplit_eq '\\' '/' (by decide), splitSt_nobs '\\' '/' _ _ h, dropTrailingEmptyG_eq]
  exact ⟨rfl, rfl⟩

theorem parseSelector_spec (s : String) (h : '\\' ∉ s.toList) :
    parseSelector s = ⟨SelSpec.key s, SelSpec.clauses s⟩ := by
  rw [parseSelector_esc, (esc_plain s h).1, (esc_plain s h).2]

theorem selector_closed (valid : String → Bool) (mtch : String → String → Bool) (s : String) :
    selector valid mtch s =
      if (clausesEsc s).all (fun c => valid c.2) then
        some fun f => keyF (keyEsc s) f && (clausesEsc s).all fun c => qualEval mtch c.1 c.2 f
      else none := by
  rw [selector, parseSelector_esc, compile_eq]

theorem selector_none_iff (valid : String → Bool) (mtch : String → String → Bool) (s : String) :
    selector valid mtch s = none ↔ ∃ c ∈ clausesEsc s, valid c.2 = false := by
  rw [selector_closed]
  split
  · next h => exact ⟨nofun, fun ⟨c, hc, hv⟩ => by rw [List.all_eq_true.mp h c hc] at hv; cases hv⟩
  · next h =>
    obtain ⟨c, hc, hv⟩ := List.all_eq_false.mp (Bool.not_eq_true _ ▸ h)
    exact ⟨fun _ => ⟨c, hc, (Bool.not_eq_true _).mp hv⟩, fun _ => rfl⟩

theorem selector_some_iff {valid : String → Bool} {mtch : String → String → Bool} {s : String} {flt : Filter}
    (hflt : selector valid mtch s = some flt) (f : Feature) :
    flt f = true ↔ (keyEsc s = "" ∨ f.key = keyEsc s) ∧ ∀ c ∈ clausesEsc s, qualEval mtch c.1 c.2 f = true := by
  rw [selector_closed] at hflt
  split at hflt
  · rw [← Option.some.inj hflt, Bool.and_eq_true, keyF_iff, List.all_eq_true]
  · cases hflt

theorem qualEval_rows (mtch : String → String → Bool) (c : String × String) (f : Feature) :
    qualEval mtch c.1 c.2 f = true ↔ clauseSatRows mtch c f := by
  unfold qualEval clauseSatRows
  by_cases hname : c.1 = ""
  · simp only [hname, if_true, List.any_eq_true]
  · simp only [hname, if_false]
    by_cases hq : c.2 = ""
    · simp only [hq, if_true, Props.has_iff]
    · simp only [hq, if_false]
      rw [Props.get_eq]
      unfold firstValues
      change _ ↔ ∃ v ∈ ((f.props.find? (Props.named c.1)).map List.tail).getD [], _
      cases f.props.find? (Props.named c.1) with
      | none => simp
      | some row => simp [List.any_eq_true]

end Gts
