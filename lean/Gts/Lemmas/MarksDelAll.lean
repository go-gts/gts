/-
  Deletion, the two remaining clauses of the oracle: a location that loses every residue
  collapses to zero-length sites only (no marker left), and the oracle's own in-bounds predicate
  `coordsWithin` holds for the result — every kind and arity, no guard (`Join` only drops or
  merges leaves, `Gts/Lemmas/LeafInv.lean`, `tmap_leaves`).
-/
import Gts.Lemmas.MarksDel
import Gts.Lemmas.MarksCoords
import Gts.Lemmas.Bounds
namespace Gts
namespace Loc

def isBetween : Loc → Bool
  | between _ => true
  | _ => false

theorem mergeOK_isBetween : MergeOK isBetween := by
  intro vs ve ue v5 v3 u5 u3 h1 _
  simp [isBetween] at h1

mutual
theorem marks_of_allBetween : ∀ (l : Loc), allLeaves isBetween l = true → marks l = none
  | between p, _ => by simp
  | point p, h => by simp [isBetween] at h
  | ranged s e a b, h => by simp [isBetween] at h
  | ambiguous s e, h => by simp [isBetween] at h
  | joined ls, h => marksList_of_allBetween ls h
  | ordered ls, h => marksList_of_allBetween ls h
  | compl l, h => by
      rw [marks_compl, marks_of_allBetween l h]
      rfl
theorem marksList_of_allBetween : ∀ (ls : List Loc), allLeavesList isBetween ls = true →
    marksList ls = none
  | [], _ => by simp
  | l :: ls, h => by
      simp only [allLeavesList_cons, Bool.and_eq_true] at h
      simp [marks_of_allBetween l h.1, marksList_of_allBetween ls h.2]
end

/-- The four leaf rules of a deletion as one: the result is again a contiguous leaf, and its span is
the re-mapped span (a leaf that loses every residue has collapsed to a between-site). -/
theorem expand_del_span (i k : Int) (hk : 0 < k) (u : Loc) (hu : isContig u = true) :
    isContig (expand u i (-k)) = true ∧
      leafSpan (expand u i (-k)) = (delStart (leafSpan u).1 i k, delEnd (leafSpan u).2 i k) := by
  match u, hu with
  | between p, _ =>
      rw [expand, betweenExpand_del, leafSpan, leafSpan, delEnd_eq_delStart p i k (Int.le_of_lt hk)]
      exact ⟨rfl, rfl⟩
  | point p, _ =>
      -- a removed point collapses onto `i`, a kept one stays one residue wide
      rw [expand, pointExpand_del p i k hk]
      split
      · exact ⟨rfl, Prod.ext (by simp only [leafSpan, delStart]; omega) (by simp only [leafSpan, delEnd]; omega)⟩
      · exact ⟨rfl, Prod.ext rfl (by simp only [leafSpan, delStart, delEnd]; omega)⟩
  | ranged s e a b, _ =>
      rw [expand, rangedExpand_del_eq s e a b i k hk]
      split
      · rename_i h; exact ⟨rfl, Prod.ext rfl h⟩
      · exact ⟨rfl, rfl⟩
  | ambiguous s e, _ =>
      rw [expand, ambiguousExpand_del_eq s e i k hk]
      split
      · rename_i h; exact ⟨rfl, Prod.ext rfl h⟩
      · exact ⟨rfl, rfl⟩

theorem isBetween_of_den_nil : ∀ (x : Loc), isContig x = true → wf x = true → den x = [] → isBetween x = true
  | between _, _, _, _ => rfl
  | point _, _, _, hd => by simp at hd
  | ranged s e _ _, _, hw, hd | ambiguous s e, _, hw, hd => by
      have hse : s < e := of_decide_eq_true hw
      obtain ⟨m, hm⟩ : ∃ m, (e - s).toNat = m + 1 := ⟨(e - s).toNat - 1, by omega⟩
      simp [hm, fwd] at hd

theorem expand_del_allBetween_leaf (i k : Int) (hk : 0 < k) (u : Loc) (hw : wf u = true)
    (hu : isContig u = true) (h : filterMapPos (delMap i k) (den u) = []) :
    allLeaves isBetween (expand u i (-k)) = true := by
  have hc := (expand_del_span i k hk u hu).1
  have hs := expand_del_leafSpec i k hk u hu hw rfl
  rw [allLeaves_contig _ hc]
  exact isBetween_of_den_nil _ hc hs.2 (hs.1.trans h)

mutual
theorem expand_del_allBetween : ∀ (l : Loc) (i k : Int), wf l = true → 0 < k →
    filterMapPos (delMap i k) (den l) = [] → allLeaves isBetween (expand l i (-k)) = true
  | between _, i, k, hw, hk, h | point _, i, k, hw, hk, h | ranged _ _ _ _, i, k, hw, hk, h
  | ambiguous _ _, i, k, hw, hk, h => expand_del_allBetween_leaf i k hk _ hw rfl h
  | joined ls, i, k, hw, hk, h => by
      simp only [expand]
      exact join_leaves mergeOK_isBetween _ (expandList_del_allBetween ls i k hw hk h)
  | ordered ls, i, k, hw, hk, h => by
      simp only [expand]
      exact order_leaves _ _ (expandList_del_allBetween ls i k hw hk h)
  | compl l, i, k, hw, hk, h => by
      simp only [expand, allLeaves_compl]
      apply expand_del_allBetween l i k hw hk
      rw [den_compl, filterMapPos_flipDen] at h
      exact Decidable.byContradiction fun hn => flipDen_ne_nil hn h
theorem expandList_del_allBetween : ∀ (ls : List Loc) (i k : Int), wfList ls = true → 0 < k →
    filterMapPos (delMap i k) (denList ls) = [] →
    allLeavesList isBetween (expandList ls i (-k)) = true
  | [], _, _, _, _, _ => by simp [expandList]
  | l :: ls, i, k, hw, hk, h => by
      obtain ⟨hw1, hw2⟩ := Bool.and_eq_true_iff.mp hw
      rw [denList_cons, filterMapPos_append, List.append_eq_nil_iff] at h
      exact Bool.and_eq_true_iff.mpr
        ⟨expand_del_allBetween l i k hw1 hk h.1, expandList_del_allBetween ls i k hw2 hk h.2⟩
end

theorem expand_del_within_leaf (L i k : Int) (hi : 0 ≤ i) (hk : 0 < k) (hL : i + k ≤ L) (u : Loc)
    (hu : isContig u = true) (h : leafWithin L u = true) :
    allLeaves (leafWithin (L - k)) (expand u i (-k)) = true := by
  obtain ⟨hc, hs⟩ := expand_del_span i k hk u hu
  rw [leafWithin_iff] at h
  rw [allLeaves_contig _ hc, leafWithin_iff, hs]
  exact ⟨(delStart_bounds L _ i k hi hL h.1 (by omega)).1,
    (delEnd_bounds L _ i k hi hL (by omega) h.2.1).2, delStart_le_delEnd _ _ i k h.2.2⟩

theorem expand_del_within (L i k : Int) (hi : 0 ≤ i) (hk : 0 < k) (hL : i + k ≤ L) (l : Loc)
    (h : allLeaves (leafWithin L) l = true) :
    allLeaves (leafWithin (L - k)) (expand l i (-k)) = true := by
  rw [(expand_eq_tmap i (-k) l).1]
  exact tmap_leaves (mergeOK_leafWithin _) (expand_del_within_leaf L i k hi hk hL) l h

theorem expandList_del_within (L i k : Int) (hi : 0 ≤ i) (hk : 0 < k) (hL : i + k ≤ L) :
    ∀ (ls : List Loc), allLeavesList (leafWithin L) ls = true →
      allLeavesList (leafWithin (L - k)) (expandList ls i (-k)) = true := by
  intro ls h
  rw [(expandList_eq_tmap i (-k) ls).1]
  exact tmapList_leaves (rev := false) (mergeOK_leafWithin _) (expand_del_within_leaf L i k hi hk hL) ls h

end Loc
end Gts
