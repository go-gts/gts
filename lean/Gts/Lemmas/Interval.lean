/-
  Strictly increasing integer lists: extensionality; a partial map that numbers the positions
  it keeps consecutively sends an interval to an interval; reduction modulo `L` on a window of
  length `L`.  Core Lean only.
-/
import Gts.Lemmas.Basic
namespace Gts

theorem mod_window (L qL x : Int) (q : Int) (hq : q * L = qL) (h0 : qL ≤ x) (h1 : x < qL + L) :
    x % L = x - qL := by
  have : x = (x - qL) + q * L := by omega
  rw [this, Int.add_mul_emod_self_right, Int.emod_eq_of_lt (by omega) (by omega)]
  omega

theorem irange_pairwise (s : Int) (n : Nat) : (irange s n).Pairwise (· < ·) := by
  induction n generalizing s with
  | zero => simp
  | succ n ih =>
    simp only [irange_succ, List.pairwise_cons]
    refine ⟨?_, ih _⟩
    intro a ha
    rw [mem_irange] at ha
    omega

theorem sorted_ext_of {α} {r : α → α → Prop} (hr : ∀ x y, r x y → ¬ r y x) {a b : List α}
    (ha : a.Pairwise r) (hb : b.Pairwise r) (h : ∀ x, x ∈ a ↔ x ∈ b) : a = b := by
  have hne : ∀ {x y}, r x y → x ≠ y := fun hxy e => hr _ _ hxy (e ▸ hxy)
  have hp : a.Perm b := (List.perm_ext_iff_of_nodup (ha.imp hne) (hb.imp hne)).mpr h
  exact hp.eq_of_pairwise (le := r) (fun x y _ _ h1 h2 => absurd h2 (hr x y h1)) ha hb

theorem sorted_ext {a b : List Int} (ha : a.Pairwise (· < ·)) (hb : b.Pairwise (· < ·))
    (h : ∀ x, x ∈ a ↔ x ∈ b) : a = b :=
  sorted_ext_of (fun _ _ h1 h2 => Int.lt_asymm h1 h2) ha hb h

theorem filterMapPos_fwd (f : Int → Option Int) (xs : List Int) :
    filterMapPos f (fwd xs) = fwd (xs.filterMap f) := by
  induction xs with
  | nil => rfl
  | cons x xs ih =>
    simp only [filterMapPos, fwd, List.map_cons, List.filterMap_cons] at ih ⊢
    cases f x <;> simp [ih]

/-- A partial map that sends the positions it keeps to consecutive values maps an interval to an
interval: `q x` is the value the next kept position at or after `x` receives. -/
theorem filterMap_irange_of_step (f : Int → Option Int) (q : Int → Int)
    (hnone : ∀ x, f x = none → q (x + 1) = q x)
    (hsome : ∀ x y, f x = some y → y = q x ∧ q (x + 1) = q x + 1) (n : Nat) :
    ∀ s : Int, q s ≤ q (s + n) ∧ (irange s n).filterMap f = irange (q s) (q (s + n) - q s).toNat := by
  induction n with
  | zero => intro s; simp
  | succ n ih =>
    intro s
    have e : s + ((n + 1 : Nat) : Int) = s + 1 + n := by omega
    obtain ⟨h1, h2⟩ := ih (s + 1)
    rw [e, irange_succ]
    cases hf : f s with
    | none => rw [List.filterMap_cons_none hf, h2, hnone s hf]; exact ⟨hnone s hf ▸ h1, rfl⟩
    | some y =>
      obtain ⟨rfl, h3⟩ := hsome s y hf
      rw [List.filterMap_cons_some hf, h2, h3]
      have : (q (s + 1 + n) - q s).toNat = (q (s + 1 + n) - (q s + 1)).toNat + 1 := by omega
      rw [this, irange_succ]
      exact ⟨by omega, rfl⟩

end Gts
