/-
  `Regions.Resize` at the byte level (C08): resizing a region and extracting it = slicing the extracted
  sequence (the slicing law `resize_den_of_nonvoid` of Lemmas/Resize.lean composed with `locate_bytes_den` of
  Lemmas/Locate.lean).
  Helper lemmas for `Gts.C08.resize_locate_bytes`.  Core Lean only.
-/
import Gts.Lemmas.Resize
import Gts.Lemmas.Locate
namespace Gts.Reg
open Gts

theorem slice_bytes_inside (s : Seq) (lo hi : Int) (h0 : 0 ≤ lo) (h1 : lo ≤ hi) :
    (s.slice lo hi).bytes = (s.bytes.drop lo.toNat).take (hi - lo).toNat :=
  slice_bytes_fwd' s lo hi h0 h1

theorem resize_locate_bytes_den (r : Reg) (m : Mod) (s : Seq) (hv : nonvoid r = true)
    (hb : denIn s.len (den r))
    (h0 : 0 ≤ (bounds m (len r)).1) (h1 : (bounds m (len r)).1 ≤ (bounds m (len r)).2)
    (h2 : (bounds m (len r)).2 ≤ len r) :
    (locate (resize r m) s).bytes =
      ((locate r s).bytes.drop (bounds m (len r)).1.toNat).take
        ((bounds m (len r)).2 - (bounds m (len r)).1).toNat := by
  have hd := resize_den_of_nonvoid r m hv h0 h1 h2
  have hb' : denIn s.len (den (resize r m)) := by
    intro p hp
    rw [hd, sliceDen] at hp
    exact hb p (List.mem_of_mem_drop (List.mem_of_mem_take hp))
  rw [locate_bytes_den _ s hb', locate_bytes_den r s hb, hd, sliceDen, List.map_take, List.map_drop]

end Gts.Reg
