/-
  `Repair` (property C12), part 6: the sort-and-push loop is idempotent on a class of
  well-formed forward ranges — for every correct sort that leaves a sorted list alone, the
  model's insertion sort among them.  Core Lean only.
-/
import Gts.Lemmas.RepairCover
namespace Gts
open Loc

/-- a forward range with `Start < End` -/
def Loc.rwf : Loc → Bool
  | ranged s e _ _ => decide (s < e)
  | _ => false

theorem rwf_isRanged {l : Loc} (h : l.rwf = true) : l.isRanged = true := by
  cases l <;> simp [rwf] at h <;> rfl

theorem less_ranged (s1 e1 : Int) (a5 a3 : Bool) (s2 e2 : Int) (b5 b3 : Bool) (h1 : s1 < e1) (h2 : s2 < e2) :
    less (ranged s1 e1 a5 a3) (ranged s2 e2 b5 b3) = true ↔
      s1 < s2 ∨ (s1 = s2 ∧ (e1 < e2 ∨ (e1 = e2 ∧
        partialCount (ranged s1 e1 a5 a3) < partialCount (ranged s2 e2 b5 b3)))) := by
  have e : less (ranged s1 e1 a5 a3) (ranged s2 e2 b5 b3) =
      contigLess (ranged s1 e1 a5 a3) (ranged s2 e2 b5 b3) := by simp [less, lessB]
  rw [e, contigLess_iff (by rfl) (by rfl)]
  simp only [lexLt, nkey, span?, gmin, gmax]
  have : ¬ e1 < s1 := by omega
  have : ¬ e2 < s2 := by omega
  simp [*]

theorem insR_adj (x : Loc) (r : List Loc) (h : ChainP (fun b a => less b a = false) r) :
    ChainP (fun b a => less b a = false) (insR x r) := by
  induction r with
  | nil => trivial
  | cons y r ih =>
    simp only [insR]
    by_cases hxy : less x y = true
    · simp only [hxy, if_true]
      cases r with
      | nil => exact ⟨less_asymm hxy, trivial⟩
      | cons y2 r =>
        have ih' := ih h.2
        simp only [insR] at ih' ⊢
        by_cases hxy2 : less x y2 = true
        · simp only [hxy2, if_true] at ih' ⊢
          exact ⟨h.1, ih'⟩
        · simp only [hxy2, if_false, Bool.false_eq_true] at ih' ⊢
          exact ⟨less_asymm hxy, ih'⟩
    · simp only [hxy, if_false, Bool.false_eq_true]
      exact ⟨by simpa using hxy, h⟩

theorem sortLocs_adj (l : List Loc) : ChainP (fun a b => less b a = false) (sortLocs l) := by
  have : ∀ (l r : List Loc), ChainP (fun b a => less b a = false) r →
      ChainP (fun b a => less b a = false) (l.foldl (fun rpre x => insR x rpre) r) := by
    intro l
    induction l with
    | nil => intro r h; exact h
    | cons x xs ih => intro r h; exact ih _ (insR_adj x r h)
  exact (chainP_reverse _ _).mpr (this l [] trivial)

theorem sortFold_cons (p : List Loc) (y : Loc) (r : List Loc) (h : ChainP (fun a b => less b a = false) (y :: p)) :
    p.foldl (fun rpre x => insR x rpre) (y :: r) = p.reverse ++ y :: r := by
  induction p generalizing y r with
  | nil => rfl
  | cons x p ih =>
    have hstep : insR x (y :: r) = x :: y :: r := by simp [insR, h.1]
    rw [List.foldl_cons, hstep, ih x (y :: r) h.2]
    simp

theorem sortLocs_id (p : List Loc) (h : ChainP (fun a b => less b a = false) p) : sortLocs p = p := by
  cases p with
  | nil => rfl
  | cons x p =>
    simp only [sortLocs, List.foldl_cons, insR]
    rw [sortFold_cons p x [] h]
    simp

theorem sortLocs_pairwise (l : List Loc) : (sortLocs l).Pairwise fun a b => less b a = false :=
  chainP_pairwise (fun a b c => notLess_trans a b c) (sortLocs_adj l)

theorem sortLocs_correct : CorrectSort sortLocs := fun xs => ⟨sortLocs_perm xs, sortLocs_pairwise xs⟩

theorem sortLocs_of_sorted (p : List Loc) (h : p.Pairwise fun a b => less b a = false) : sortLocs p = p :=
  sortLocs_id p (pairwise_chainP h)

theorem sortLocs_keepsSorted : KeepsSorted sortLocs := sortLocs_of_sorted

/-- invariant of the `Push` loop over sorted well-formed ranges (accumulator reversed), `x` the next
input: neighbours in order and not fusable, and `x` not before the last list element -/
def PushInv (f : Bool) (racc : List Loc) (x : Loc) : Prop :=
  (∀ r ∈ racc, r.rwf = true) ∧
  ChainP (fun b a => less b a = false ∧ mergeable f a b = false) racc ∧
  ∀ v, racc.head? = some v → less x v = false

theorem pushInv_step (d : Nat) (f : Bool) (racc : List Loc) (x y : Loc)
    (hinv : PushInv f racc x) (hx : x.rwf = true) (hyx : less y x = false) :
    PushInv f (pushD (d + 1) racc x f) y := by
  obtain ⟨hwf, hadj, hhead⟩ := hinv
  cases x <;> simp [rwf] at hx
  rename_i xs xe x5 x3
  cases racc with
  | nil =>
    simp only [pushD_ranged, pushOne]
    refine ⟨fun r hr => ?_, trivial, fun v hv => ?_⟩
    · rw [List.mem_singleton.mp hr]; simpa [rwf] using hx
    · cases hv; exact hyx
  | cons v rest =>
    have hvwf := hwf v (by simp)
    cases v <;> simp [rwf] at hvwf
    rename_i vs ve v5 v3
    simp only [pushD_ranged, pushOne]
    by_cases hm : (((v3 && x5) || f) && ve == xs) = true
    · -- fused: the last element grows to the right: it is not before `v`, and `x` is not before it
      simp only [hm, if_true]
      simp only [Bool.and_eq_true, beq_iff_eq] at hm
      obtain ⟨hm1, rfl⟩ := hm
      have hgrow : less (ranged vs xe v5 x3) (ranged vs ve v5 v3) = false := by
        rw [Bool.eq_false_iff, ne_eq, less_ranged _ _ _ _ _ _ _ _ (by omega) hvwf]; omega
      have hbefore : less (ranged ve xe x5 x3) (ranged vs xe v5 x3) = false := by
        rw [Bool.eq_false_iff, ne_eq, less_ranged _ _ _ _ _ _ _ _ hx (by omega)]; omega
      refine ⟨?_, ?_, ?_⟩
      · intro r hr
        rcases List.mem_cons.mp hr with rfl | hr
        · simp [rwf]; omega
        · exact hwf r (by simp [hr])
      · cases rest with
        | nil => trivial
        | cons a rest' =>
          refine ⟨⟨notLess_trans _ _ _ hadj.1.1 hgrow, ?_⟩, hadj.2⟩
          have h2 := hadj.1.2
          cases a <;> simp only [mergeable] at h2 ⊢
          exact h2
      · rintro _ ⟨⟩
        exact notLess_trans _ _ _ hbefore hyx
    · -- appended
      simp only [hm, if_false, Bool.false_eq_true]
      refine ⟨?_, ⟨⟨hhead _ rfl, by simpa [mergeable] using hm⟩, hadj⟩, ?_⟩
      · intro r hr
        rcases List.mem_cons.mp hr with rfl | hr
        · simpa [rwf] using hx
        · exact hwf r hr
      · rintro _ ⟨⟩; exact hyx

theorem pushInv_all (d : Nat) (f : Bool) (ys racc : List Loc) (x : Loc)
    (hinv : PushInv f racc x) (hx : x.rwf = true) (hy : ∀ y ∈ ys, y.rwf = true)
    (hs : ChainP (fun a b => less b a = false) (x :: ys)) :
    (∀ r ∈ pushAllD (d + 1) racc (x :: ys) f, r.rwf = true) ∧
    ChainP (fun b a => less b a = false ∧ mergeable f a b = false) (pushAllD (d + 1) racc (x :: ys) f) := by
  induction ys generalizing racc x with
  | nil =>
    -- no next input: any `y` not before `x` will do
    have := pushInv_step d f racc x x hinv hx (less_irrefl x)
    exact ⟨this.1, this.2.1⟩
  | cons y ys ih =>
    have hyw := hy y (by simp)
    exact ih _ y (pushInv_step d f racc x y hinv hx hs.1) hyw (fun z hz => hy z (by simp [hz])) hs.2

/-- the pushed list of a class of well-formed forward ranges, for every correct sort: again such
ranges, neighbours in order, no neighbours that `Push` would fuse -/
theorem pushedOfWith_props (sort : List Loc → List Loc) (hs : CorrectSort sort) (f : Bool) (locs : List Loc)
    (hw : ∀ l ∈ locs, l.rwf = true) :
    (∀ l ∈ pushedOfWith sort f locs, l.rwf = true) ∧
    ChainP (fun a b => less b a = false) (pushedOfWith sort f locs) ∧
    ChainP (fun a b => mergeable f a b = false) (pushedOfWith sort f locs) := by
  have hws : ∀ l ∈ sort locs, l.rwf = true := fun l hl => hw l ((hs locs).perm.mem_iff.mp hl)
  have hadj : ChainP (fun a b => less b a = false) (sort locs) := pairwise_chainP (hs locs).sorted
  simp only [pushedOfWith, pushAll]
  cases hsl : sort locs with
  | nil => simp [pushAllD, ChainP]
  | cons x xs =>
    rw [hsl] at hws hadj
    obtain ⟨h1, h2⟩ := pushInv_all (pushFuel - 1) f xs [] x ⟨nofun, trivial, nofun⟩ (hws x (by simp))
      (fun y hy => hws y (by simp [hy])) hadj
    refine ⟨fun l hl => h1 l (List.mem_reverse.mp hl), ?_, ?_⟩
    · exact chainP_imp _ (fun a b _ _ h => h.1) ((chainP_reverse _ _).mpr h2)
    · exact chainP_imp _ (fun a b _ _ h => h.2) ((chainP_reverse _ _).mpr h2)

/-- **(b), one class**: sorting (with a correct sort that keeps sorted lists) and pushing the
pushed list again changes nothing -/
theorem pushedOfWith_idem (sort : List Loc → List Loc) (hs : CorrectSort sort) (hk : KeepsSorted sort)
    (f : Bool) (locs : List Loc) (hw : ∀ l ∈ locs, l.rwf = true) :
    pushedOfWith sort f (pushedOfWith sort f locs) = pushedOfWith sort f locs := by
  obtain ⟨h1, h2, h3⟩ := pushedOfWith_props sort hs f locs hw
  have hsame : sort (pushedOfWith sort f locs) = pushedOfWith sort f locs :=
    hk _ (chainP_pairwise (fun a b c => notLess_trans a b c) h2)
  have e2 : pushedOfWith sort f (pushedOfWith sort f locs) =
      (pushAll [] (sort (pushedOfWith sort f locs)) f).reverse := rfl
  rw [e2, hsame, pushAll_unmerged_adj f _ (fun y hy => rwf_isRanged (h1 y hy)) h3]
  simp

/-- **(b), one class** -/
theorem newLocs_idem (sort : List Loc → List Loc) (hs : CorrectSort sort) (hk : KeepsSorted sort) (f : Bool)
    (ls : List Loc) (h : ls.length = 1 ∨ ∀ l ∈ ls, l.rwf = true) :
    newLocs sort f (newLocs sort f ls) = newLocs sort f ls := by
  rw [newLocs_eq_self_iff]
  unfold newLocs
  split
  · rcases h with h1 | hr
    · have := sliceLen_pos (pushedOfWith sort f ls); omega
    · rw [pushedOfWith_idem sort hs hk f ls hr]; exact le_sliceLen _
  · omega

theorem rwf_of_wf {l : Loc} (hw : wf l = true) (hr : l.isRanged = true) : l.rwf = true := by
  cases l <;> simp [isRanged] at hr
  simpa [wf, rwf] using hw

/-- **(b)**: on a plain table of well-formed locations a second `Repair` (same correct sort, one
that keeps sorted lists) changes nothing -/
theorem repairWith_idem (sort : List Loc → List Loc) (hs : CorrectSort sort) (hk : KeepsSorted sort)
    (t t' : Table) (hp : Table.plain t = true) (hw : Table.wfT t = true)
    (h : repairWith sort t = .ok t') : repairWith sort t' = .ok t' :=
  repairWith_idem_of_classes sort t t' h fun k _ =>
    newLocs_idem sort hs hk _ _ <| (plain_locsOf t hp k).imp_right fun hr l hl =>
      rwf_of_wf ((wfList_iff _).mp (wfList_locsOf t hw k) l hl) (hr l hl)

end Gts
