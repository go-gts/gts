/-
  C07: the recursive location parsers and the modifier parsers keep the frame invariant of
  `Gts.Lemmas.ParsSafe` (hence never reach the slice panic of `pars.Trail`).
-/
import Gts.Lemmas.ParsSafe
import Gts.Lemmas.ParsFrame
namespace Gts.Pars
open LocParse ModParse

theorem anyOf_go_framed {α} : ∀ ps : List (P α), (∀ p ∈ ps, Safe p) → Framed 1 0 (anyOf.go ps)
  | [], _ => .popFail
  | p :: ps, h => .attempt_bind (h p (List.mem_cons_self ..)) (fun _ => .bind .drop fun _ => .pure _) <|
    .bind Safe.pushed.framed fun _ => .ite _ .fail_bind <|
    anyOf_go_framed ps fun q hq => h q (List.mem_cons_of_mem _ hq)

theorem anyOf_safe {α} (ps : List (P α)) (hps : ∀ p ∈ ps, Safe p) : Safe (anyOf ps) :=
  .ofFramed <| .bind .push fun _ => anyOf_go_framed ps hps

theorem wrapped_safe {α β} {n : Nat} {kw : Bytes} {body : P α} {mk : α → β} (hb : Framed 1 1 body) :
    Safe (wrapped n kw body mk) :=
  .ofFramed <| .bind .push fun _ => .attempt_bind (request_safe n)
    (fun _ => .ite _ (.bind .pop fun _ => .fail_bind) <|
      .bind (Safe.advanceN n).framed fun _ => .bind hb fun _ =>
      .bind (.orPop id next_safe) fun _ =>
      .ite _ (.bind .pop fun _ => .fail_bind) <|
      .bind Safe.advance1.framed fun _ => .bind .drop fun _ => .pure _)
    (.bind .pop fun _ => .fail_bind)

theorem complementWith_safe (q : P Loc) (hq : Safe q) : Safe (complementWith q) := by
  rw [complementWith_eq]
  exact wrapped_safe (.orPop id hq)

theorem tryLoc_safe : ∀ fuel, Safe (tryLoc fuel)
  | 0 => .fail
  | fuel + 1 => anyOf_safe _ <| List.forall_mem_cons.2 ⟨complementWith_safe _ (tryLoc_safe fuel),
      List.forall_mem_cons.2 ⟨range_safe, List.forall_mem_cons.2 ⟨point_safe, nofun⟩⟩⟩

/-- the loop of `multipleLocationParser` runs inside the frame of its caller, which it pops when
it fails -/
theorem more_framed (fuel : Nat) (hl : Safe (loc fuel)) :
    ∀ k acc, Framed 1 1 (multiple.more fuel k acc)
  | 0, acc => by rw [multiple.more]; exact .pure _
  | k + 1, acc => by
    rw [multiple.more]
    exact .bind delimiter_safe.framed fun _ =>
      .ite _ (.attempt_bind hl (fun _ => more_framed fuel hl k _) .popFail) (.pure _)

theorem loc_family_safe : ∀ fuel, Safe (loc fuel) ∧ Safe (multiple fuel) ∧ Safe (joinOf fuel) ∧
    Safe (orderOf fuel) ∧ Safe (complementOf fuel)
  | 0 => by
    refine ⟨?_, ?_, ?_, ?_, ?_⟩
    · rw [loc]; exact .fail
    · rw [multiple]; exact .fail
    · rw [joinOf]; exact .fail
    · rw [orderOf]; exact .fail
    · rw [complementOf]; exact .fail
  | fuel + 1 => by
    obtain ⟨hl, hm, hj, ho, hc⟩ := loc_family_safe fuel
    refine ⟨?_, ?_, ?_, ?_, ?_⟩
    · rw [loc]
      exact anyOf_safe _ <| List.forall_mem_cons.2 ⟨range_safe, List.forall_mem_cons.2 ⟨between_safe,
        List.forall_mem_cons.2 ⟨ambiguous_safe, List.forall_mem_cons.2 ⟨hc, List.forall_mem_cons.2 ⟨hj,
        List.forall_mem_cons.2 ⟨ho, List.forall_mem_cons.2 ⟨point_safe, nofun⟩⟩⟩⟩⟩⟩⟩
    · rw [multiple]
      exact .ofFramed <| .bind .push fun _ =>
        -- `Framed.orPop` spelled out: the matcher of `multiple` does not unify with that of `orPop`
        .bind (.attempt_bind hl (fun _ => .pure _) .popFail) fun _ =>
        .bind (more_framed fuel hl fuel _) fun _ => .bind .drop fun _ => .pure _
    · rw [joinOf_succ]; exact wrapped_safe hm.framed
    · rw [orderOf_succ]; exact wrapped_safe hm.framed
    · rw [complementOf_succ]; exact wrapped_safe (.orPop id hl)

theorem loc_safe (fuel : Nat) : Safe (loc fuel) := (loc_family_safe fuel).1

theorem byte_safe (c) : Safe (byte c) :=
  .bind next_safe fun _ => .ite _ .fail_bind .advance1

theorem atEnd_safe : Safe atEnd := .bind .getS fun _ => by
  split
  · exact .pure _
  · exact .fail

theorem mapP_safe {α β} (p : P α) (f : α → β) (hp : Safe p) : Safe (mapP p f) :=
  .ofFramed <| .bind .push fun _ => .attempt_bind hp (fun _ => .bind .drop fun _ => .pure _) .popFail

theorem seq2_safe {α β} (p : P α) (q : P β) (hp : Safe p) (hq : Safe q) : Safe (seq2 p q) :=
  .ofFramed <| .bind .push fun _ =>
  .bind (.orPop id hp) fun _ =>
  .bind (.orPop id hq) fun _ => .bind .drop fun _ => .pure _

theorem seq3_safe {α β γ} (p : P α) (q : P β) (r : P γ) (hp : Safe p) (hq : Safe q)
    (hr : Safe r) : Safe (seq3 p q r) :=
  .ofFramed <| .bind .push fun _ =>
  .bind (.orPop id hp) fun _ =>
  .bind (.orPop id hq) fun _ =>
  .bind (.orPop id hr) fun _ => .bind .drop fun _ => .pure _

theorem exact_safe {α} (p : P α) (hp : Safe p) : Safe (exact p) :=
  mapP_safe _ _ (seq2_safe _ _ hp atEnd_safe)

theorem parseMark_safe (c) : Safe (parseMark c) :=
  mapP_safe _ _ <| anyOf_safe _ <| List.forall_mem_cons.2
    ⟨mapP_safe _ _ (seq2_safe _ _ (byte_safe c) int_safe),
      List.forall_mem_cons.2 ⟨.bind (byte_safe c) fun _ => .pure _, nofun⟩⟩

theorem parseModifier_safe : Safe parseModifier :=
  have hh : Safe parseHead := parseMark_safe _
  have ht : Safe parseTail := parseMark_safe _
  anyOf_safe _ <| List.forall_mem_cons.2 ⟨mapP_safe _ _ (seq3_safe _ _ _ hh (lit_safe _) ht),
    List.forall_mem_cons.2 ⟨mapP_safe _ _ (seq3_safe _ _ _ hh (lit_safe _) hh),
    List.forall_mem_cons.2 ⟨mapP_safe _ _ (seq3_safe _ _ _ ht (lit_safe _) ht),
    List.forall_mem_cons.2 ⟨.map _ hh, List.forall_mem_cons.2 ⟨.map _ ht, nofun⟩⟩⟩⟩⟩

/-- a safe parser started on a fresh state (`pars.FromString(s)`) does not panic -/
theorem Safe.fresh {α} {p : P α} (hp : Safe p) (input : Bytes) :
    (p.run' ⟨input, []⟩).1 ≠ .error .panic :=
  (hp _ _ _ _ (Fr.init (s := ⟨input, []⟩) trivial)).1

end Gts.Pars
