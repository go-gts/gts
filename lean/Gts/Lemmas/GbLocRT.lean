/-
  C01 ↔ C06: the location column.  `LocRT l` (the printed location is read back by `ParseLocation`
  in front of the line feed of a key line) holds for every canonical location (`Loc.canonP`, C06):
  C06's round trip `Loc.loc_printB_sep` (Gts/Lemmas/LocRoundTrip.lean) holds in front of any continuation that
  does not start with a digit, `.`, `^` or `>` (`Sep`), in particular a line feed.  Core Lean only.
-/
import Gts.Lemmas.LocRoundTrip
import Gts.Lemmas.GbFeatures
namespace Gts
open Pars ModParse LocParse

namespace GenBank

/-- **C06 → C01**: every canonical location satisfies `LocRT` -/
theorem locRT_of_canon (l : Loc) (h : Loc.canonP l = true) : LocRT l := by
  refine ⟨Loc.printB_cons l, ?_⟩
  intro more stk
  have hf : Loc.need l ≤ (l.printB ++ 10 :: more).length + 2 := by
    have := Loc.need_le_length l
    simp only [List.length_append]; omega
  have hs : Sep (10 :: more) := ⟨by decide, by decide, by decide, by decide⟩
  simp only [location, P.bind_run, getS]
  exact Loc.loc_printB_sep l h _ (10 :: more) stk hf hs

end GenBank
end Gts
