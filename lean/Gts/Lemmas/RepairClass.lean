/-
  `Repair` (property C12): the result seen class by class, without indices.  A class is
  named by its grouping text `k`; `Repair` replaces its locations `Table.locsOf t k` by
  `newLocs sort force (Table.locsOf t k)` and touches nothing else of its features.  The clauses of
  C12 are then facts about the list function `newLocs sort force`, carried to tables by the
  lemmas at the end of this file; a guard stated over the classes as index lists is read class by
  class through `groups_all`.  Core Lean only.
-/
import Gts.Lemmas.RepairSpec
namespace Gts

/-- what `Repair` makes of the locations of one class (`f`: the class is a `source` class): the
sorted and pushed list if `len(list.Slice())` is below the size of the class, the class as it is
otherwise -/
def newLocs (sort : List Loc → List Loc) (f : Bool) (ls : List Loc) : List Loc :=
  if sliceLen (pushedOfWith sort f ls) < ls.length then pushedOfWith sort f ls else ls

theorem sliceLen_pos (p : List Loc) : 0 < sliceLen p := Nat.lt_of_lt_of_le Nat.one_pos (by
  cases p <;> simp [sliceLen])

theorem newLocs_nil (sort : List Loc → List Loc) (f : Bool) : newLocs sort f [] = [] := by
  simp [newLocs]

theorem newLocs_length_le (sort : List Loc → List Loc) (f : Bool) (ls : List Loc) :
    (newLocs sort f ls).length ≤ ls.length := by
  unfold newLocs
  split
  · have := le_sliceLen (pushedOfWith sort f ls); omega
  · exact Nat.le_refl _

theorem newLocs_eq_self_iff (sort : List Loc → List Loc) (f : Bool) (ls : List Loc) :
    newLocs sort f ls = ls ↔ ls.length ≤ sliceLen (pushedOfWith sort f ls) := by
  unfold newLocs
  split
  · rename_i h
    constructor
    · intro e
      have h1 := le_sliceLen (pushedOfWith sort f ls)
      have h2 := congrArg List.length e
      omega
    · intro h'; omega
  · rename_i h; exact ⟨fun _ => by omega, fun _ => rfl⟩

theorem newLocs_of_sort_eq (s1 s2 : List Loc → List Loc) (f : Bool) (ls : List Loc) (h : s1 ls = s2 ls) :
    newLocs s1 f ls = newLocs s2 f ls := by
  unfold newLocs pushedOfWith; rw [h]

theorem newLocs_ne_nil (sort : List Loc → List Loc) (hp : PermSort sort) (f : Bool) (ls : List Loc) (hne : ls ≠ [])
    (h : ls.length = 1 ∨ ∀ l ∈ ls, l.isJoined = false) : newLocs sort f ls ≠ [] := by
  unfold newLocs
  split
  · rcases h with h1 | hj
    · have := sliceLen_pos (pushedOfWith sort f ls); omega
    · have := (pushAllD_length Loc.pushFuel (sort ls) [] f fun x hx => hj x ((hp ls).mem_iff.mp hx)).2.2
        fun e => hne (by have := hp ls; rw [e] at this; exact this.symm.eq_nil)
      simpa [pushedOfWith, Loc.pushAll] using this
  · exact hne

/-- `force` of a class, read off the table: is the first feature of the class a `source`? -/
def Table.forceOf (t : Table) (k : String) : Bool :=
  match (Table.featsOf t k).head? with
  | some f => f.key == "source"
  | none => false

theorem classForce_eq (t : Table) (k : String) :
    classForce t (Table.memberIdx t k) = Table.forceOf t k := by
  simp only [Table.forceOf, featsOf_eq]
  cases h : Table.memberIdx t k with
  | nil => rfl
  | cons i is =>
    have hi : i ∈ Table.memberIdx t k := by rw [h]; simp
    obtain ⟨f, hf, _⟩ := (Table.mem_memberIdx t k i).mp hi
    simp [classForce, hf]

theorem groups_all (t : Table) (P : Bool → List Loc → Bool) :
    (Table.groups t).all (fun idx => P (classForce t idx) (classLocs t idx)) =
      (Table.classKeys t).all fun k => P (Table.forceOf t k) (Table.locsOf t k) := by
  simp only [Table.groups, List.all_map, Function.comp_def, classForce_eq, classLocs_memberIdx]

theorem locsOf_length (t : Table) (k : String) : (Table.locsOf t k).length = (Table.memberIdx t k).length := by
  rw [← classLocs_memberIdx]
  exact classLocs_length t _ fun i hi => by
    obtain ⟨f, hf, _⟩ := (Table.mem_memberIdx t k i).mp hi
    exact (List.getElem?_eq_some_iff.mp hf).1

theorem featsOf_eq_nil_iff (t : Table) (k : String) : Table.featsOf t k = [] ↔ k ∉ Table.classKeys t := by
  simp [Table.featsOf, Table.mem_classKeys, List.filter_eq_nil_iff]

theorem locsOf_of_not_mem (t : Table) (k : String) (hk : k ∉ Table.classKeys t) : Table.locsOf t k = [] := by
  rw [locsOf_eq_map, (featsOf_eq_nil_iff t k).mpr hk]; rfl

theorem mem_specRepairW (sort : List Loc → List Loc) (t : Table) (f : Feature) (h : f ∈ specRepairW sort t) :
    ∃ j, j ∈ specKeepW sort t ∧ (specGGW sort t)[j]? = some f := by
  simpa [specRepairW, List.mem_filterMap] using h

theorem specRepairW_keys (sort : List Loc → List Loc) (t : Table) (f' : Feature) (hf : f' ∈ specRepairW sort t) :
    ∃ f ∈ t, f.key = f'.key ∧ f.props = f'.props := by
  obtain ⟨j, _, hg⟩ := mem_specRepairW sort t f' hf
  obtain ⟨f, ht, h1, h2⟩ := writeLocs_some _ _ j f' hg
  exact ⟨f, List.mem_of_getElem? ht, h1.symm, h2.symm⟩

theorem mem_classKeys_of_specRepairW (sort : List Loc → List Loc) (t : Table) (k : String)
    (hk : k ∈ Table.classKeys (specRepairW sort t)) : k ∈ Table.classKeys t := by
  obtain ⟨f', hf', rfl⟩ := (Table.mem_classKeys _ k).mp hk
  obtain ⟨f, hf, h1, h2⟩ := specRepairW_keys sort t f' hf'
  exact (Table.mem_classKeys t _).mpr ⟨f, hf, classKey_congr h1 h2⟩

/-- `gg[i].Loc = loc` -/
def Feature.setLoc (f : Feature) (l : Loc) : Feature := { f with loc := l }

theorem take_filterMap_zipWith {α β γ} (T G : α → Option β) (upd : β → γ → β) :
    ∀ (idx : List α) (p : List γ), (∀ w ∈ idx.zip p, G w.1 = (T w.1).map (upd · w.2)) →
      (∀ j ∈ idx, ∃ b, T j = some b) →
      (idx.take p.length).filterMap G = List.zipWith upd (idx.filterMap T) p
  | [], _, _, _ => by simp
  | _ :: _, [], _, _ => by simp
  | i :: is, y :: ys, h, hT => by
    obtain ⟨b, hb⟩ := hT i (by simp)
    have hi := h (i, y) (by simp)
    simp only [hb, Option.map_some] at hi
    simp only [List.length_cons, List.take_succ_cons, List.filterMap_cons, hi, hb, List.zipWith_cons_cons]
    rw [take_filterMap_zipWith T G upd is ys (fun w hw => h w (by simp [hw])) fun j hj => hT j (by simp [hj])]

theorem zipWith_setLoc_self : ∀ fs : List Feature, List.zipWith Feature.setLoc fs (fs.map (·.loc)) = fs
  | [] => rfl
  | f :: fs => by simp [zipWith_setLoc_self fs, Feature.setLoc]

theorem map_loc_zipWith_setLoc : ∀ (fs : List Feature) (ls : List Loc), ls.length ≤ fs.length →
    (List.zipWith Feature.setLoc fs ls).map (·.loc) = ls
  | _, [], _ => by simp
  | [], _ :: _, h => by simp at h
  | f :: fs, l :: ls, h => by
    simp [Feature.setLoc, map_loc_zipWith_setLoc fs ls (by simpa using h)]

/-- **`Repair`, class by class**: the features with grouping text `k` in the result are the first
features of that class, in table order, carrying the new locations of the class -/
theorem featsOf_repairWith (sort : List Loc → List Loc) (t t' : Table) (h : repairWith sort t = .ok t')
    (k : String) :
    Table.featsOf t' k =
      List.zipWith Feature.setLoc (Table.featsOf t k) (newLocs sort (Table.forceOf t k) (Table.locsOf t k)) := by
  obtain ⟨hnil, rfl⟩ := repair_okW sort t t' h
  by_cases hk : k ∈ Table.classKeys t
  · have hidx : Table.memberIdx t k ∈ Table.groups t := List.mem_map.mpr ⟨k, hk, rfl⟩
    have hlt := groups_lt t _ hidx
    rw [featsOf_specRepairW sort t k hk, featsOf_eq t k, ← classForce_eq, ← classLocs_memberIdx]
    unfold newLocs
    rw [classLocs_length t _ hlt]
    by_cases hc : classNW sort t (Table.memberIdx t k) < (Table.memberIdx t k).length
    · rw [if_pos (show sliceLen (pushedOfWith sort _ _) < _ from hc),
        classN_of_ne_nilW (ne_nil_of_noNilW sort t hnil _ hidx hc)]
      apply take_filterMap_zipWith
      · intro w hw
        apply specGG_of_writeW sort t _ hidx w.1 w.2
        simp only [classWritesW, hc, if_true]; exact hw
      · intro j hj; exact ⟨t[j]'(hlt j hj), List.getElem?_eq_getElem _⟩
    · rw [if_neg (show ¬ sliceLen (pushedOfWith sort _ _) < _ from hc), List.take_of_length_le (by omega),
        classLocs_memberIdx, locsOf_eq_map, featsOf_eq, zipWith_setLoc_self]
      exact filterMap_congr' _ _ _ fun j hj =>
        specGG_of_no_writesW sort t _ hidx (by simp [classWritesW, hc]) j hj
  · rw [(featsOf_eq_nil_iff t k).mpr hk,
      (featsOf_eq_nil_iff _ k).mpr fun h => hk (mem_classKeys_of_specRepairW sort t k h)]
    rfl

theorem locsOf_repairWith (sort : List Loc → List Loc) (t t' : Table) (h : repairWith sort t = .ok t')
    (k : String) : Table.locsOf t' k = newLocs sort (Table.forceOf t k) (Table.locsOf t k) := by
  rw [locsOf_eq_map, featsOf_repairWith sort t t' h k, map_loc_zipWith_setLoc]
  simpa [locsOf_eq_map] using newLocs_length_le sort (Table.forceOf t k) (Table.locsOf t k)

theorem mem_classKeys_of_repairWith (sort : List Loc → List Loc) (t t' : Table) (h : repairWith sort t = .ok t')
    (k : String) (hk : k ∈ Table.classKeys t') : k ∈ Table.classKeys t := by
  obtain ⟨_, rfl⟩ := repair_okW sort t t' h
  exact mem_classKeys_of_specRepairW sort t k hk

theorem forceOf_repairWith (sort : List Loc → List Loc) (t t' : Table) (h : repairWith sort t = .ok t')
    (k : String) (hk : k ∈ Table.classKeys t') : Table.forceOf t' k = Table.forceOf t k := by
  have hne : Table.featsOf t' k ≠ [] := fun e => (featsOf_eq_nil_iff t' k).mp e hk
  simp only [Table.forceOf]
  rw [featsOf_repairWith sort t t' h k] at hne ⊢
  cases hf : Table.featsOf t k with
  | nil => simp [hf] at hne
  | cons f fs =>
    cases hl : newLocs sort (Table.forceOf t k) (Table.locsOf t k) with
    | nil => simp [hf, hl] at hne
    | cons l ls => simp [Feature.setLoc]

theorem repairWith_ok_of_classes (sort : List Loc → List Loc) (t : Table)
    (h : ∀ k ∈ Table.classKeys t, newLocs sort (Table.forceOf t k) (Table.locsOf t k) ≠ []) :
    ∃ t', repairWith sort t = .ok t' := by
  refine ⟨_, repair_eq_specW sort t ?_⟩
  rw [List.any_eq_false]
  intro idx hi
  obtain ⟨k, hk, rfl⟩ := List.mem_map.mp hi
  have := h k hk
  rw [← classForce_eq, ← classLocs_memberIdx] at this
  simp only [classNilW, Bool.and_eq_true, decide_eq_true_eq, List.isEmpty_iff, not_and]
  intro hlt hnil
  rw [← classLocs_length t _ (groups_lt t _ hi)] at hlt
  simp only [classNW, classPW] at hlt hnil
  rw [newLocs, if_pos hlt] at this
  exact this hnil

theorem repairWith_unchanged_of_classes (sort : List Loc → List Loc) (t : Table)
    (h : ∀ k ∈ Table.classKeys t, newLocs sort (Table.forceOf t k) (Table.locsOf t k) = Table.locsOf t k) :
    repairWith sort t = .ok t := by
  apply repair_unchangedW'
  intro idx hi
  obtain ⟨k, hk, rfl⟩ := List.mem_map.mp hi
  have := (newLocs_eq_self_iff sort _ _).mp (h k hk)
  rwa [← classLocs_memberIdx, ← classForce_eq, classLocs_length t _ (groups_lt t _ hi)] at this

theorem repairWith_idem_of_classes (sort : List Loc → List Loc) (t t' : Table) (h : repairWith sort t = .ok t')
    (hc : ∀ k ∈ Table.classKeys t,
      newLocs sort (Table.forceOf t k) (newLocs sort (Table.forceOf t k) (Table.locsOf t k)) =
        newLocs sort (Table.forceOf t k) (Table.locsOf t k)) : repairWith sort t' = .ok t' := by
  apply repairWith_unchanged_of_classes
  intro k hk
  rw [forceOf_repairWith sort t t' h k hk, locsOf_repairWith sort t t' h k]
  exact hc k (mem_classKeys_of_repairWith sort t t' h k hk)

theorem repairWith_congr (s1 s2 : List Loc → List Loc) (t : Table)
    (h : ∀ idx ∈ Table.groups t, classWritesW s1 t idx = classWritesW s2 t idx ∧
      classKeptW s1 t idx = classKeptW s2 t idx ∧ classNilW s1 t idx = classNilW s2 t idx) :
    repairWith s1 t = repairWith s2 t := by
  simp only [repairWith]
  rw [repairOrd_eqW s1 t _ (Table.groups_flatten_nodup t), repairOrd_eqW s2 t _ (Table.groups_flatten_nodup t)]
  have e1 : (Table.groups t).flatMap (classWritesW s1 t) = (Table.groups t).flatMap (classWritesW s2 t) :=
    flatMap_congr' _ _ _ fun idx hi => (h idx hi).1
  have e2 : (Table.groups t).flatMap (classKeptW s1 t) = (Table.groups t).flatMap (classKeptW s2 t) :=
    flatMap_congr' _ _ _ fun idx hi => (h idx hi).2.1
  have e3 : (Table.groups t).any (classNilW s1 t) = (Table.groups t).any (classNilW s2 t) := by
    rw [Bool.eq_iff_iff, List.any_eq_true, List.any_eq_true]
    exact ⟨fun ⟨idx, hi, hp⟩ => ⟨idx, hi, (h idx hi).2.2 ▸ hp⟩, fun ⟨idx, hi, hp⟩ => ⟨idx, hi, (h idx hi).2.2.symm ▸ hp⟩⟩
  rw [e1, e2, e3]

theorem repairWith_congr_classes (s1 s2 : List Loc → List Loc) (t : Table)
    (h : ∀ k ∈ Table.classKeys t, newLocs s1 (Table.forceOf t k) (Table.locsOf t k) =
      newLocs s2 (Table.forceOf t k) (Table.locsOf t k)) : repairWith s1 t = repairWith s2 t := by
  apply repairWith_congr
  intro idx hi
  obtain ⟨k, hk, rfl⟩ := List.mem_map.mp hi
  have hlen := classLocs_length t _ (groups_lt t _ hi)
  have h' := h k hk
  rw [← classForce_eq, ← classLocs_memberIdx] at h'
  simp only [newLocs, hlen] at h'
  have l1 := le_sliceLen (classPW s1 t (Table.memberIdx t k))
  have l2 := le_sliceLen (classPW s2 t (Table.memberIdx t k))
  simp only [classWritesW, classKeptW, classNilW, classNW]
  simp only [classPW] at l1 l2 ⊢
  -- both reduced: the same pushed list; both kept; or one pushed list is the class itself, which is not shorter
  split at h' <;> split at h'
  · simp only [h']; exact ⟨rfl, rfl, rfl⟩
  · have := congrArg List.length h'; omega
  · have := congrArg List.length h'; omega
  · simp [*]

end Gts
