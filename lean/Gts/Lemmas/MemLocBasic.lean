/-
  C11 — helper lemmas for the heap programs of the location methods (Gts/Model/MemLoc.lean):
  `RefsAbove` / `Closed` under the primitive heap operations, `Owned` slices built by composite
  literals and by `LocationList.Slice()`, and the basic facts about `Reads`.
-/
import Gts.Lemmas.Mem
import Gts.Model.MemLoc
namespace Gts.Mem
open Heap

theorem RefsAbove.mono {n n' : Nat} (hn : n ≤ n') : ∀ {m : MLoc}, RefsAbove n' m → RefsAbove n m
  | .leaf _, _ => trivial
  | .joined _, h => Nat.le_trans hn h
  | .ordered _, h => Nat.le_trans hn h
  | .compl m, h => RefsAbove.mono hn (m := m) h

theorem refsAbove_default (n : Nat) : RefsAbove n (default : MLoc) := trivial

theorem closed_mk {n : Nat} {h : LHeap} (hc : Closed n h) (len cap : Nat) :
    Closed n (mk h len cap).2 :=
  closed_snoc hc fun c hcm => by
    rw [List.eq_of_mem_replicate hcm]; exact refsAbove_default n

theorem closed_mk_self (h : LHeap) (len cap : Nat) : Closed (h.length + 1) (mk h len cap).2 := by
  simpa [mk] using closed_self (mk h len cap).2

theorem closed_extend {n : Nat} {h h' : LHeap} (hc : Closed n h) (hp : h <+: h')
    (hc' : Closed h.length h') (hn : n ≤ h.length) : Closed n h' := by
  intro a ha x hx
  by_cases hl : a < h.length
  · rw [get_prefix hp hl] at hx; exact hc a ha x hx
  · exact RefsAbove.mono hn (hc' a (by omega) x hx)

theorem mem_read {h : LHeap} {s : Slice} {c : MLoc} (hc : c ∈ read h s) : c ∈ h.get s.arr :=
  List.mem_of_mem_drop (List.mem_of_mem_take hc)

theorem closed_append (g : Grow) {n : Nat} {h : LHeap} (hc : Closed n h) (s : Slice)
    (hs : ∀ c ∈ read h s, RefsAbove n c) {xs : List MLoc} (hx : ∀ c ∈ xs, RefsAbove n c) :
    Closed n (append g h s xs).2 := by
  unfold Heap.append
  split
  · exact closed_write hc _ _ hx
  · exact closed_snoc hc (List.forall_mem_append.2 ⟨List.forall_mem_append.2 ⟨hs, hx⟩, fun c h1 => by
      rw [List.eq_of_mem_replicate h1]; exact refsAbove_default n⟩)

theorem refs_of_read {n : Nat} {h : LHeap} (hc : Closed n h) {s : Slice} (hs : n ≤ s.arr) :
    ∀ c ∈ read h s, RefsAbove n c := fun c hcm => hc _ hs c (mem_read hcm)

theorem len_le_cap_append (g : Grow) (h : LHeap) (s : Slice) (xs : List MLoc) :
    (append g h s xs).1.len ≤ (append g h s xs).1.cap := by
  unfold Heap.append
  split
  · assumption
  · simp only []; omega

theorem Owned.mono {α : Type} {h0 h h' : Heap α} {s : Slice} {xs : List α} (ho : Owned h0 h s xs)
    (hp : h <+: h') : Owned h0 h' s xs :=
  ⟨ho.pre.trans hp, ho.fresh, wf_mono hp ho.wf, by rw [read_mono hp ho.wf]; exact ho.rd⟩

theorem Owned.arr_ge {α : Type} {h0 h : Heap α} {s : Slice} {xs : List α} (ho : Owned h0 h s xs)
    (hx : xs ≠ []) : h0.length ≤ s.arr := by
  have hl := length_read ho.wf
  rw [ho.rd] at hl
  have := ho.wf.1
  have := List.length_pos_iff.2 hx
  exact (ho.arr_bounds (by omega)).1

theorem litSlice_owned {h0 h : LHeap} (hp : h0 <+: h) (xs : List MLoc) :
    Owned h0 (litSlice h xs).2 (litSlice h xs).1 xs := mkWrite_owned hp xs rfl

theorem litSlice_closed {n : Nat} {h : LHeap} (hc : Closed n h) {xs : List MLoc}
    (hx : ∀ c ∈ xs, RefsAbove n c) : Closed n (litSlice h xs).2 :=
  closed_write (closed_mk hc _ _) _ _ hx

theorem listFold_owned (g : Grow) {n : Nat} {h0 : LHeap} (rest : List MLoc)
    (hr : ∀ c ∈ rest, RefsAbove n c) :
    ∀ (st : Slice × LHeap) (xs : List MLoc), Owned h0 st.2 st.1 xs → Closed n st.2 →
      (∀ c ∈ xs, RefsAbove n c) →
      Owned h0 (rest.foldl (fun (st : Slice × LHeap) x => append g st.2 st.1 [x]) st).2
        (rest.foldl (fun (st : Slice × LHeap) x => append g st.2 st.1 [x]) st).1 (xs ++ rest) ∧
      Closed n (rest.foldl (fun (st : Slice × LHeap) x => append g st.2 st.1 [x]) st).2 := by
  induction rest with
  | nil => intro st xs ho hc _; simpa using ⟨ho, hc⟩
  | cons x rest ih =>
    intro st xs ho hc hxs
    obtain ⟨hx, hr⟩ := List.forall_mem_cons.1 hr
    have hx := List.forall_mem_singleton.2 hx
    have := ih hr _ _ (append_owned g ho [x]) (closed_append g hc st.1 (by rw [ho.rd]; exact hxs) hx)
      (List.forall_mem_append.2 ⟨hxs, hx⟩)
    simpa using this

theorem listSlice_owned (g : Grow) {n : Nat} {h : LHeap} (hc : Closed n h) {ms : List MLoc}
    (hne : ms ≠ []) (hm : ∀ c ∈ ms, RefsAbove n c) :
    Owned h (listSlice g h ms).2 (listSlice g h ms).1 ms ∧ Closed n (listSlice g h ms).2 := by
  cases ms with
  | nil => exact absurd rfl hne
  | cons a rest =>
    obtain ⟨ha, hm⟩ := List.forall_mem_cons.1 hm
    have ha := List.forall_mem_singleton.2 ha
    have := listFold_owned g rest hm _ _
      (litSlice_owned (List.prefix_refl h) [a]) (litSlice_closed hc ha) ha
    simpa [listSlice] using this

theorem listSlice_frame (g : Grow) {n : Nat} {h : LHeap} (hc : Closed n h) (hn : n ≤ h.length)
    {ms : List MLoc} (hm : ∀ c ∈ ms, RefsAbove n c) :
    h <+: (listSlice g h ms).2 ∧ Closed n (listSlice g h ms).2 ∧ n ≤ (listSlice g h ms).1.arr := by
  cases ms with
  | nil => exact ⟨prefix_snoc (List.prefix_refl _) _, closed_mk hc 1 1, hn⟩
  | cons a rest =>
    have o := listSlice_owned g hc (List.cons_ne_nil a rest) hm
    exact ⟨o.1.pre, o.2, Nat.le_trans hn (o.1.arr_ge (List.cons_ne_nil a rest))⟩

theorem reads_joined {h : LHeap} {ls : List Loc} {m : MLoc} :
    Reads h (.joined ls) m ↔ ∃ s, m = .joined s ∧ WF h s ∧ ReadsList h ls (read h s) := by
  cases m <;> simp [Reads]

theorem reads_ordered {h : LHeap} {ls : List Loc} {m : MLoc} :
    Reads h (.ordered ls) m ↔ ∃ s, m = .ordered s ∧ WF h s ∧ ReadsList h ls (read h s) := by
  cases m <;> simp [Reads]

theorem reads_compl {h : LHeap} {l : Loc} {m : MLoc} :
    Reads h (.compl l) m ↔ ∃ m', m = .compl m' ∧ Reads h l m' := by
  cases m <;> simp [Reads]

theorem reads_contig {h : LHeap} {l : Loc} (hl : isContig l = true) {m : MLoc} :
    Reads h l m ↔ m = .leaf l := by
  cases l <;> simp [isContig] at hl <;> cases m <;> simp [Reads, eq_comm]

theorem reads_leaf {h : LHeap} {l l' : Loc} : Reads h l (.leaf l') ↔ l' = l ∧ isContig l = true := by
  cases l <;> simp [Reads, isContig]

theorem reads_mjoined {h : LHeap} {l : Loc} {s : Slice} (hr : Reads h l (.joined s)) :
    ∃ ls, l = .joined ls ∧ WF h s ∧ ReadsList h ls (read h s) := by
  cases l <;> simp_all [Reads]

theorem reads_mordered {h : LHeap} {l : Loc} {s : Slice} (hr : Reads h l (.ordered s)) :
    ∃ ls, l = .ordered ls ∧ WF h s ∧ ReadsList h ls (read h s) := by
  cases l <;> simp_all [Reads]

theorem reads_mcompl {h : LHeap} {l : Loc} {m : MLoc} (hr : Reads h l (.compl m)) :
    ∃ l', l = .compl l' ∧ Reads h l' m := by
  cases l <;> simp_all [Reads]

theorem readsList_nil_left {h : LHeap} {ms : List MLoc} : ReadsList h [] ms ↔ ms = [] := by
  cases ms <;> simp [ReadsList]

theorem readsList_cons_left {h : LHeap} {l : Loc} {ls : List Loc} {ms : List MLoc} :
    ReadsList h (l :: ls) ms ↔ ∃ m ms', ms = m :: ms' ∧ Reads h l m ∧ ReadsList h ls ms' := by
  cases ms with
  | nil => simp [ReadsList]
  | cons m ms =>
    simp only [ReadsList]
    constructor
    · intro ⟨a, b⟩; exact ⟨_, _, rfl, a, b⟩
    · rintro ⟨m', ms', e, a, b⟩
      cases e
      exact ⟨a, b⟩

theorem readsList_nil_right {h : LHeap} {ls : List Loc} : ReadsList h ls [] ↔ ls = [] := by
  cases ls <;> simp [ReadsList]

theorem readsList_cons_right {h : LHeap} {ls : List Loc} {m : MLoc} {ms : List MLoc} :
    ReadsList h ls (m :: ms) ↔ ∃ l ls', ls = l :: ls' ∧ Reads h l m ∧ ReadsList h ls' ms := by
  cases ls with
  | nil => simp [ReadsList]
  | cons l ls =>
    simp only [ReadsList]
    exact ⟨fun ⟨a, b⟩ => ⟨_, _, rfl, a, b⟩, fun ⟨_, _, e, a, b⟩ => by cases e; exact ⟨a, b⟩⟩

theorem readsList_cons {h : LHeap} {l : Loc} {ls : List Loc} {m : MLoc} {ms : List MLoc} :
    ReadsList h (l :: ls) (m :: ms) ↔ Reads h l m ∧ ReadsList h ls ms := by
  simp [ReadsList]

theorem readsList_iff_getElem {h : LHeap} : ∀ {ls : List Loc} {ms : List MLoc}, ReadsList h ls ms ↔
    ls.length = ms.length ∧ ∀ (i : Nat) l m, ls[i]? = some l → ms[i]? = some m → Reads h l m
  | [], ms => by
    rw [readsList_nil_left]
    constructor
    · rintro rfl; exact ⟨rfl, fun i l m hl => by simp at hl⟩
    · intro ⟨e, _⟩; exact List.eq_nil_of_length_eq_zero e.symm
  | l :: ls, [] => by simp [ReadsList]
  | l :: ls, m :: ms => by
    rw [readsList_cons, readsList_iff_getElem (ls := ls) (ms := ms)]
    constructor
    · rintro ⟨h1, e, h2⟩
      refine ⟨by simp [e], fun i a b ha hb => ?_⟩
      cases i with
      | zero => cases ha; cases hb; exact h1
      | succ i => exact h2 i a b ha hb
    · rintro ⟨e, h2⟩
      exact ⟨h2 0 l m rfl rfl, by simpa using e, fun i a b ha hb => h2 (i + 1) a b ha hb⟩

theorem ReadsList.length_eq {h : LHeap} {ls : List Loc} {ms : List MLoc} (hr : ReadsList h ls ms) :
    ls.length = ms.length := (readsList_iff_getElem.1 hr).1

theorem ReadsList.append {h : LHeap} : ∀ {ls : List Loc} {ms : List MLoc} {ls' : List Loc}
    {ms' : List MLoc}, ReadsList h ls ms → ReadsList h ls' ms' → ReadsList h (ls ++ ls') (ms ++ ms')
  | [], _, _, _, h1, h2 => by rw [readsList_nil_left.1 h1]; exact h2
  | _ :: _, _, _, _, h1, h2 => by
    obtain ⟨_, _, rfl, a, b⟩ := readsList_cons_left.1 h1
    exact readsList_cons.2 ⟨a, ReadsList.append b h2⟩

theorem readsList_singleton {h : LHeap} {l : Loc} {m : MLoc} : ReadsList h [l] [m] ↔ Reads h l m := by
  simp [ReadsList]

theorem ReadsList.reverse {h : LHeap} : ∀ {ls : List Loc} {ms : List MLoc}, ReadsList h ls ms →
    ReadsList h ls.reverse ms.reverse
  | [], _, hr => by rw [readsList_nil_left.1 hr]; exact readsList_nil_left.2 rfl
  | _ :: _, _, hr => by
    obtain ⟨_, _, rfl, a, b⟩ := readsList_cons_left.1 hr
    rw [List.reverse_cons, List.reverse_cons]
    exact ReadsList.append (ReadsList.reverse b) (readsList_singleton.2 a)

theorem ReadsList.getElem {h : LHeap} {ls : List Loc} {ms : List MLoc} (hr : ReadsList h ls ms) {i : Nat}
    (hi : i < ms.length) : ∃ l m, ls[i]? = some l ∧ ms[i]? = some m ∧ Reads h l m := by
  obtain ⟨e, hp⟩ := readsList_iff_getElem.1 hr
  exact ⟨ls[i], ms[i], List.getElem?_eq_getElem (e ▸ hi), List.getElem?_eq_getElem hi,
    hp i _ _ (List.getElem?_eq_getElem (e ▸ hi)) (List.getElem?_eq_getElem hi)⟩

mutual
theorem Reads.mono {h h' : LHeap} (hp : h <+: h') : ∀ (l : Loc) (m : MLoc), Reads h l m → Reads h' l m
  | .joined ls, m, hr | .ordered ls, m, hr => by
    simp only [reads_joined, reads_ordered] at hr ⊢
    obtain ⟨s, rfl, hw, hl⟩ := hr
    exact ⟨s, rfl, wf_mono hp hw, by rw [read_mono hp hw]; exact ReadsList.mono hp ls _ hl⟩
  | .compl l, m, hr => by
    obtain ⟨m', rfl, hl⟩ := reads_compl.1 hr
    exact reads_compl.2 ⟨m', rfl, Reads.mono hp l m' hl⟩
  | .between _, m, hr | .point _, m, hr | .ranged .., m, hr | .ambiguous .., m, hr => by
    rw [reads_contig rfl] at hr ⊢; exact hr
theorem ReadsList.mono {h h' : LHeap} (hp : h <+: h') : ∀ (ls : List Loc) (ms : List MLoc),
    ReadsList h ls ms → ReadsList h' ls ms
  | [], ms, hr => by rw [readsList_nil_left] at hr ⊢; exact hr
  | l :: ls, ms, hr => by
    obtain ⟨m, ms', rfl, h1, h2⟩ := readsList_cons_left.1 hr
    exact readsList_cons.2 ⟨Reads.mono hp l m h1, ReadsList.mono hp ls ms' h2⟩
end

mutual
/-- FRAME for reading: a value that refers only to arrays `≥ N`, in a heap whose arrays `≥ N`
refer only to arrays `≥ N`, reads the same in every heap that agrees on the arrays `≥ N` -/
theorem Reads.frame {N : Nat} {h h' : LHeap} (hag : ∀ a, N ≤ a → h'.get a = h.get a)
    (hc : Closed N h) : ∀ (l : Loc) (m : MLoc), RefsAbove N m → Reads h l m → Reads h' l m
  | .joined ls, m, hm, hr | .ordered ls, m, hm, hr => by
    simp only [reads_joined, reads_ordered] at hr ⊢
    obtain ⟨s, rfl, hw, hl⟩ := hr
    have hs : N ≤ s.arr := hm
    have e : read h' s = read h s := by unfold Heap.read; rw [hag _ hs]
    refine ⟨s, rfl, by unfold WF at hw ⊢; rw [hag _ hs]; exact hw, ?_⟩
    rw [e]
    exact ReadsList.frame hag hc ls _ (refs_of_read hc hs) hl
  | .compl l, m, hm, hr => by
    obtain ⟨m', rfl, hl⟩ := reads_compl.1 hr
    exact reads_compl.2 ⟨m', rfl, Reads.frame hag hc l m' hm hl⟩
  | .between _, m, _, hr | .point _, m, _, hr | .ranged .., m, _, hr | .ambiguous .., m, _, hr => by
    rw [reads_contig rfl] at hr ⊢; exact hr
theorem ReadsList.frame {N : Nat} {h h' : LHeap} (hag : ∀ a, N ≤ a → h'.get a = h.get a)
    (hc : Closed N h) : ∀ (ls : List Loc) (ms : List MLoc), (∀ c ∈ ms, RefsAbove N c) →
    ReadsList h ls ms → ReadsList h' ls ms
  | [], ms, _, hr => by rw [readsList_nil_left] at hr ⊢; exact hr
  | l :: ls, ms, hm, hr => by
    obtain ⟨m, ms', rfl, h1, h2⟩ := readsList_cons_left.1 hr
    exact readsList_cons.2 ⟨Reads.frame hag hc l m (hm m (List.mem_cons_self ..)) h1,
      ReadsList.frame hag hc ls ms' (fun c hcm => hm c (List.mem_cons_of_mem _ hcm)) h2⟩
end

mutual
theorem loc_induction {P : Loc → Prop} (hleaf : ∀ l, isContig l = true → P l)
    (hj : ∀ ls, (∀ l ∈ ls, P l) → P (.joined ls)) (ho : ∀ ls, (∀ l ∈ ls, P l) → P (.ordered ls))
    (hc : ∀ l, P l → P (.compl l)) : ∀ l, P l
  | .between _ | .point _ | .ranged .. | .ambiguous .. => hleaf _ rfl
  | .joined ls => hj ls (loc_induction_list hleaf hj ho hc ls)
  | .ordered ls => ho ls (loc_induction_list hleaf hj ho hc ls)
  | .compl l => hc l (loc_induction hleaf hj ho hc l)
theorem loc_induction_list {P : Loc → Prop} (hleaf : ∀ l, isContig l = true → P l)
    (hj : ∀ ls, (∀ l ∈ ls, P l) → P (.joined ls)) (ho : ∀ ls, (∀ l ∈ ls, P l) → P (.ordered ls))
    (hc : ∀ l, P l → P (.compl l)) : ∀ ls : List Loc, ∀ l ∈ ls, P l
  | [], _, h => by cases h
  | a :: as, l, h => by
    rcases List.mem_cons.1 h with e | e
    · exact e ▸ loc_induction hleaf hj ho hc a
    · exact loc_induction_list hleaf hj ho hc as l e
end

mutual
/-- every location value can be laid out in memory (no `Reads` hypothesis is vacuous): `allocLoc l`
(one new array per `Joined` / `Ordered`) reads as `l` -/
theorem allocLoc_reads : ∀ (l : Loc) (h : LHeap),
    h <+: (allocLoc l h).2 ∧ Reads (allocLoc l h).2 l (allocLoc l h).1
  | .between _, h | .point _, h | .ranged .., h | .ambiguous .., h =>
    ⟨List.prefix_refl _, (reads_contig rfl).2 rfl⟩
  | .joined ls, h | .ordered ls, h => by
    have ih := allocList_reads ls h
    unfold allocLoc
    simp only [reads_joined, reads_ordered]
    refine ⟨prefix_snoc ih.1 _, _, rfl, ?_, ?_⟩
    · simp [WF, get_append_length]
    · simp only [Heap.read, get_append_length, List.drop_zero, List.take_length]
      exact ReadsList.mono (prefix_snoc (List.prefix_refl _) _) _ _ ih.2
  | .compl l, h => by
    have ih := allocLoc_reads l h
    unfold allocLoc
    exact ⟨ih.1, reads_compl.2 ⟨_, rfl, ih.2⟩⟩
theorem allocList_reads : ∀ (ls : List Loc) (h : LHeap),
    h <+: (allocList ls h).2 ∧ ReadsList (allocList ls h).2 ls (allocList ls h).1
  | [], h => ⟨List.prefix_refl _, by simp [allocList, ReadsList]⟩
  | l :: ls, h => by
    have i1 := allocLoc_reads l h
    have i2 := allocList_reads ls (allocLoc l h).2
    unfold allocList
    exact ⟨i1.1.trans i2.1, readsList_cons.2 ⟨Reads.mono i2.1 _ _ i1.2, i2.2⟩⟩
end

end Gts.Mem
