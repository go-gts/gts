/-
  Laws of the polymorphic table operations of Gts/Lemmas/PropsGen.lean, and what the generated methods return on a table whose
  rows all have a name (`props*_total`); used by Gts/Props/C01Props.lean and Gts/Bridge/Props.lean.
-/
import Gts.Lemmas.PropsGen
namespace Gts.PropsG
open Gts.Gen Gts.Gen.PropsGo

variable {σ : Type} [DecidableEq σ]

/-- on a table whose rows all have a name `Index` answers, so a method of the form `(findO key ps).map fun _ => x`
answers `x` -/
theorem findO_map_const {α : Type} (key : σ) (ps : List (List σ)) (ok : rowsOk ps = true) (x : α) :
    ((findO key ps).map fun _ => x) = some x := by
  cases h : findO key ps with
  | none => exact absurd h (findO_rowsOk key ps ok)
  | some r => rfl

theorem propsSet_total (z : σ) (ps : List (List σ)) (k : σ) (vs : List σ) (ok : rowsOk ps = true) :
    propsSet z ps k vs = some (gset ps k vs) := by
  rw [propsSet_eq]; exact findO_map_const k ps ok _

theorem propsAdd_total (z : σ) (ps : List (List σ)) (k : σ) (vs : List σ) (ok : rowsOk ps = true) :
    propsAdd z ps k vs = some (gadd ps k vs) := by
  rw [propsAdd_eq]; exact findO_map_const k ps ok _

theorem propsDel_total (ps : List (List σ)) (k : σ) (ok : rowsOk ps = true) : propsDel ps k = some (gdel ps k) := by
  rw [propsDel_eq]; exact findO_map_const k ps ok _

theorem propsGet_total (ps : List (List σ)) (k : σ) (ok : rowsOk ps = true) :
    propsGet ps k = some ((gget ps k).getD []) := by
  rw [propsGet_eq]; exact findO_map_const k ps ok _

theorem propsItems_total (z : σ) (ps : List (List σ)) (ok : rowsOk ps = true) : propsItems z ps = some (gitems ps) := by
  rw [propsItems_eq, itemsO_rowsOk ps ok]

theorem propsHas_total (ps : List (List σ)) (k : σ) (ok : rowsOk ps = true) :
    propsHas ps k = some (gget ps k).isSome := by
  rw [propsHas_eq]
  rcases findO_cases k ps with ⟨h, _⟩ | ⟨h, hn, _⟩ | ⟨a, t, b, rfl, hn, _, h⟩
  · exact absurd h (findO_rowsOk k ps ok)
  · simp [h, gget_noRow ps k hn]
  · simp [h, gget_at a k t b hn]

omit [DecidableEq σ] in
theorem rowsOk_append (a b : List (List σ)) : rowsOk (a ++ b) = (rowsOk a && rowsOk b) := by
  simp [rowsOk]

theorem rowsOk_gupd (k : σ) (f : List σ → Option (List σ)) (new : Option (List σ)) (ps : List (List σ))
    (hf : ∀ r, r ≠ [] → f r ≠ some []) (hnew : new ≠ some []) (ok : rowsOk ps = true) :
    rowsOk (gupd k f new ps) = true := by
  -- a row that is absent or has a name
  have hopt : ∀ o : Option (List σ), o ≠ some [] → rowsOk o.toList = true := fun o h =>
    match o, h with
    | none, _ => rfl
    | some [], h => absurd rfl h
    | some (_ :: _), _ => rfl
  rcases firstRow_cases k ps with hn | ⟨pre, t, post, rfl, hn⟩
  · rw [gupd_noRow _ _ _ ps hn, rowsOk_append, ok, hopt new hnew]; rfl
  · rw [gupd_at _ _ _ pre t post hn]
    simp only [rowsOk_append, Bool.and_eq_true] at ok ⊢
    exact ⟨⟨ok.1, hopt _ (hf _ (List.cons_ne_nil k t))⟩, by simpa [rowsOk] using ok.2⟩

theorem gget_gupd_other (k k' : σ) (f : List σ → Option (List σ)) (new : Option (List σ)) (ps : List (List σ))
    (hne : k' ≠ k) (hf : ∀ r r', f r = some r' → r.head? = some k → r'.head? = some k)
    (hnew : ∀ r, new = some r → r.head? = some k) : gget (gupd k f new ps) k' = gget ps k' := by
  have hk : ∀ r : List σ, r.head? = some k → r.head? ≠ some k' := fun r h => by rw [h]; simpa using Ne.symm hne
  induction ps with
  | nil =>
    cases new with
    | none => rfl
    | some r => simp [gupd, gget, hk r (hnew r rfl)]
  | cons r a ih =>
    by_cases h : r.head? = some k
    · cases hfr : f r with
      | none => simp [gupd, gget, h, hfr, Ne.symm hne]
      | some r' => simp [gupd, gget, h, hfr, Ne.symm hne, hk r' (hf r r' hfr h)]
    · simp [gupd, gget, h, ih]

theorem rowsOk_gset (ps : List (List σ)) (k : σ) (vs : List σ) (ok : rowsOk ps = true) : rowsOk (gset ps k vs) = true :=
  rowsOk_gupd _ _ _ ps (by simp) (by simp) ok

theorem rowsOk_gadd (ps : List (List σ)) (k : σ) (vs : List σ) (ok : rowsOk ps = true) : rowsOk (gadd ps k vs) = true :=
  rowsOk_gupd _ _ _ ps (fun r hr => by simpa using fun e => absurd e hr) (by simp) ok

theorem rowsOk_gdel (ps : List (List σ)) (k : σ) (ok : rowsOk ps = true) : rowsOk (gdel ps k) = true :=
  rowsOk_gupd _ _ _ ps (by simp) (by simp) ok

theorem gget_gset (ps : List (List σ)) (k : σ) (vs : List σ) : gget (gset ps k vs) k = some vs := by
  rw [gset]
  rcases firstRow_cases k ps with hn | ⟨pre, t, post, rfl, hn⟩
  · rw [gupd_noRow _ _ _ ps hn]; exact gget_at ps k vs [] hn
  · rw [gupd_at _ _ _ pre t post hn]; simpa using gget_at pre k vs post hn

theorem gget_gadd (ps : List (List σ)) (k : σ) (vs : List σ) :
    gget (gadd ps k vs) k = some ((gget ps k).getD [] ++ vs) := by
  rw [gadd]
  rcases firstRow_cases k ps with hn | ⟨pre, t, post, rfl, hn⟩
  · rw [gupd_noRow _ _ _ ps hn, gget_noRow ps k hn]; exact gget_at ps k vs [] hn
  · rw [gupd_at _ _ _ pre t post hn, gget_at pre k t post hn]; simpa using gget_at pre k (t ++ vs) post hn

omit [DecidableEq σ] in
theorem gitems_append (a b : List (List σ)) : gitems (a ++ b) = gitems a ++ gitems b := by
  induction a with
  | nil => rfl
  | cons r a ih => cases r <;> simp [gitems, ih]

end Gts.PropsG
