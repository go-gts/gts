/-
  What `ParseLocation` makes of a printed `join(…)` whose parts are canonical but which is not
  itself a fixed point of `Join`: it reads the parts back and applies `Join` to them.  Core Lean only.
-/
import Gts.Lemmas.LocRoundTrip
namespace Gts
open Pars ModParse LocParse

namespace Loc

theorem loc_printB_join_parts (l : Loc) (ls : List Loc) (hc : canonPList (l :: ls) = true) (f : Nat)
    (rest : Bytes) (hf : need (joined (l :: ls)) ≤ f) :
    Reads (loc f) (printB (joined (l :: ls)) ++ rest) (join (l :: ls)) rest := by
  obtain ⟨f, rfl⟩ : ∃ f', f = f' + 1 + 2 := ⟨f - 3, by simp only [need] at hf; omega⟩
  exact loc_join (f + 1) (l :: ls) rest
    (multiple_printB (l :: ls) (List.cons_ne_nil _ _) hc f rest (by simp only [need] at hf; omega))

end Loc

theorem parseLocation_join_parts (l : Loc) (ls : List Loc) (hc : Loc.canonPList (l :: ls) = true) :
    parseLocation (Loc.printB (Loc.joined (l :: ls))) = .ok (Loc.join (l :: ls), []) := by
  have hf : Loc.need (Loc.joined (l :: ls)) ≤ (Loc.printB (Loc.joined (l :: ls))).length + 2 := by
    have := Loc.need_le_length (Loc.joined (l :: ls))
    omega
  have := Loc.loc_printB_join_parts l ls hc _ [] hf []
  rw [List.append_nil] at this
  exact parseLocation_of_run _ _ _ this

end Gts
