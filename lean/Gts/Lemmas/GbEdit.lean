/-
  C01: closure of the writable domain under the edit operations — the part that concerns `Writable`
  (header fields, feature keys, qualifiers, residues); the shape of the new LOCATIONS is C02–C06.
  `Writable` looks at the table only through the (key, Props) pairs of its features and at the
  residues only through "printable, fewer than 10^9, the LOCUS length"; every edit keeps the header
  (`GenBankFields` implements neither Shift nor Expand: `tryShift` / `tryExpand` return it as it
  is), keeps key and Props of every feature it keeps, and builds the residues from the residues.
  Core Lean only.
-/
import Gts.Lemmas.GbCompose
import Gts.Lemmas.Table
import Gts.Lemmas.Nuc
import Gts.Model.SeqNuc
import Gts.Spec.LocCanon
namespace Gts.GenBank
open Gts.Pars

/-- a `gts.Feature` as the GenBank writer sees it (strings as bytes) -/
def qfeature (f : Feature) : QFeature := ⟨bs f.key, f.loc, f.props.map fun row => row.map bs⟩

/-- `GenBank{F, table, NewOrigin(bytes)}`: the record `WithFeatures` / `WithBytes` build from the
result of an edit, the header `F` untouched -/
def ofSeq (F : Fields) (s : Seq) : Record := ⟨F, s.feats.map qfeature, .residues s.bytes⟩

def FromTable (t : List Feature) (g : Feature) : Prop := ∃ f ∈ t, g.key = f.key ∧ g.props = f.props

theorem featOk_congr (reg : Registry) (f g : QFeature) (hk : g.key = f.key) (hp : g.props = f.props) :
    (featOk reg g && propsOk g.props) = (featOk reg f && propsOk f.props) := by
  simp only [featOk, hk, hp]

theorem tl_le (n : Nat) : Origin.tl n ≤ 2 * n + 100 := by
  unfold Origin.tl
  split <;> (try split) <;> omega

/-- what `Writable` asks of one feature -/
def FeatW (reg : Registry) (g : Feature) : Prop :=
  (featOk reg (qfeature g) && propsOk (qfeature g).props) = true

theorem writable_feats (reg : Registry) (F : Fields) (s : Seq) (hw : Writable reg (ofSeq F s) s.bytes = true) :
    ∀ f ∈ s.feats, FeatW reg f := fun _ hf =>
  Bool.and_eq_true_iff.mpr ((tableClause_iff reg _).mp (writable_parts reg _ _ hw).2.2.2.2.1 _ (List.mem_map_of_mem hf))

theorem featW_fromTable (reg : Registry) (t : List Feature) (h : ∀ f ∈ t, FeatW reg f) (g : Feature)
    (hg : FromTable t g) : FeatW reg g := by
  obtain ⟨f, hf, hk, hp⟩ := hg
  have := h f hf
  unfold FeatW at this ⊢
  rw [featOk_congr reg (qfeature f) (qfeature g) (by simp [qfeature, hk]) (by simp [qfeature, hp])]
  exact this

/-- **frame theorem**: a record with the same header, whose features all have a writable key and
writable qualifiers (true of every feature that carries key and `Props` of a feature of the old table), whose residues are printable, and whose LOCUS length is the old one, or
positive and below 10^9, or zero without CONTIG, is `Writable` again -/
theorem writable_frame (reg : Registry) (F : Fields) (t t' : List QFeature) (o o' : OriginV) (p p' : Bytes)
    (hw : Writable reg ⟨F, t, o⟩ p = true)
    (hall : ∀ x ∈ t', (featOk reg x && propsOk x.props) = true)
    (hbase : p'.all Origin.isBase = true) (hlen : p'.length < 10 ^ 9)
    (hL : locusLength F p' = locusLength F p ∨ 0 < p'.length ∨ F.contigAcc.isEmpty = true) :
    Writable reg ⟨F, t', o'⟩ p' = true := by
  obtain ⟨hlocus, hrange, hmol, hh, htw, hc, hp, hlen0⟩ := writable_parts reg ⟨F, t, o⟩ p hw
  simp only at hlocus hrange hmol hh htw hc
  have hLok : locusOk F (locusLength F p') = true ∧ Origin.toOriginLength (locusLength F p') ≤ 9223372036854775807 := by
    have hnat : ∀ n : Nat, n < 10 ^ 9 → locusOk F (n : Int) = true ∧ Origin.toOriginLength (n : Int) ≤ 9223372036854775807 := by
      intro n hn
      constructor
      · simp only [locusOk, Bool.and_eq_true, decide_eq_true_eq] at hlocus ⊢
        exact ⟨hlocus.1, by omega, by omega⟩
      · rw [Origin.toOriginLength_nat]
        have := tl_le n
        omega
    rcases hL with hL | hL | hL
    · rw [hL]; exact ⟨hlocus, hrange⟩
    · have : locusLength F p' = (p'.length : Int) := by
        cases p' with
        | nil => simp at hL
        | cons c p' => simp [locusLength]
      rw [this]; exact hnat _ hlen
    · by_cases hpe : p'.isEmpty = true
      · simp only [hL, if_true, decide_eq_true_eq] at hc
        have : locusLength F p' = ((0 : Nat) : Int) := by simp [locusLength, hpe, contigLen, hc.1, hc.2]
        rw [this]; exact hnat 0 (by omega)
      · have : locusLength F p' = (p'.length : Int) := by simp [locusLength, hpe]
        rw [this]; exact hnat _ hlen
  exact writable_intro reg ⟨F, t', o'⟩ p' hLok.1 hLok.2 hmol hh
    ((tableClause_iff reg t').mpr fun x hx => Bool.and_eq_true_iff.mp (hall x hx)) hc hbase hlen

theorem writable_ofSeq (reg : Registry) (F : Fields) (s s' : Seq)
    (hw : Writable reg (ofSeq F s) s.bytes = true)
    (htab : ∀ g ∈ s'.feats, FeatW reg g)
    (hbase : ∀ c ∈ s'.bytes, Origin.isBase c = true) (hlen : s'.bytes.length < 10 ^ 9)
    (hL : s'.bytes.length = s.bytes.length ∨ 0 < s'.bytes.length ∨ F.contigAcc.isEmpty = true) :
    Writable reg (ofSeq F s') s'.bytes = true := by
  apply writable_frame reg F (s.feats.map qfeature) _ (.residues s.bytes) _ s.bytes s'.bytes hw
  · intro g hg
    obtain ⟨g0, hg0, rfl⟩ := List.mem_map.mp hg
    exact htab g0 hg0
  · exact List.all_eq_true.mpr hbase
  · exact hlen
  · rcases hL with h | h | h
    · left
      unfold locusLength
      have : s'.bytes.isEmpty = s.bytes.isEmpty := by
        cases h1 : s'.bytes <;> cases h2 : s.bytes <;> simp_all
      rw [this, h]
    · exact Or.inr (Or.inl h)
    · exact Or.inr (Or.inr h)

theorem writable_bytes (reg : Registry) (F : Fields) (s : Seq) (hw : Writable reg (ofSeq F s) s.bytes = true) :
    (∀ c ∈ s.bytes, Origin.isBase c = true) ∧ s.bytes.length < 10 ^ 9 := by
  obtain ⟨_, _, _, _, _, _, hp, hlen⟩ := writable_parts reg (ofSeq F s) s.bytes hw
  exact ⟨List.all_eq_true.mp hp, hlen⟩

theorem fromTable_self (t : List Feature) (f : Feature) (h : f ∈ t) : FromTable t f := ⟨f, h, rfl, rfl⟩

theorem fromTable_mono {t u : List Feature} (h : ∀ f ∈ t, f ∈ u) {g : Feature} (hg : FromTable t g) :
    FromTable u g := by
  obtain ⟨f, hf, hk⟩ := hg
  exact ⟨f, h f hf, hk⟩

theorem fromTable_mapLoc (t : List Feature) (φ : Feature → Loc) :
    ∀ g ∈ t.map (fun f => { f with loc := φ f }), FromTable t g := by
  intro g hg
  obtain ⟨f, hf, rfl⟩ := List.mem_map.mp hg
  exact ⟨f, hf, rfl, rfl⟩

theorem mem_insertAll (acc fs : List Feature) (g : Feature) :
    g ∈ Table.insertAll acc fs ↔ g ∈ acc ∨ g ∈ fs := by
  rw [(Table.insertAll_perm acc fs).mem_iff, List.mem_append]

theorem complementByte_base (c : UInt8) (h : Origin.isBase c = true) : Origin.isBase (Nuc.complementByte c) = true :=
  if hm : c ∈ Gen.complementFrom then
    (by decide +kernel : ∀ c ∈ Gen.complementFrom, Origin.isBase (Nuc.complementByte c) = true) c hm
  else by rw [Nuc.complementByte_of_not_mem hm]; exact h

theorem fromTable_trans {t u : List Feature} (h : ∀ f ∈ u, FromTable t f) {g : Feature} (hg : FromTable u g) :
    FromTable t g := by
  obtain ⟨f, hf, hk, hp⟩ := hg
  obtain ⟨f0, hf0, hk0, hp0⟩ := h f hf
  exact ⟨f0, hf0, hk.trans hk0, hp.trans hp0⟩

/-- `s'` is cut out of `s`: every feature carries key and `Props` of a feature of `s`, every residue is a
residue of `s`, and there are no more of them.  Reverse, Rotate, Delete, Erase and Slice are of this kind. -/
structure Cut (s s' : Seq) : Prop where
  feats : ∀ g ∈ s'.feats, FromTable s.feats g
  mem : ∀ c ∈ s'.bytes, c ∈ s.bytes
  len : s'.bytes.length ≤ s.bytes.length

theorem Cut.trans {s t u : Seq} (h : Cut s t) (h' : Cut t u) : Cut s u :=
  ⟨fun g hg => fromTable_trans h.feats (h'.feats g hg), fun c hc => h.mem c (h'.mem c hc), Nat.le_trans h'.len h.len⟩

theorem writable_cut (reg : Registry) (F : Fields) {s s' : Seq} (h : Cut s s')
    (hw : Writable reg (ofSeq F s) s.bytes = true)
    (hL : s'.bytes.length = s.bytes.length ∨ 0 < s'.bytes.length ∨ F.contigAcc.isEmpty = true) :
    Writable reg (ofSeq F s') s'.bytes = true := by
  obtain ⟨hb, hl⟩ := writable_bytes reg F s hw
  exact writable_ofSeq reg F s s' hw
    (fun g hg => featW_fromTable reg s.feats (writable_feats reg F s hw) g (h.feats g hg))
    (fun c hc => hb c (h.mem c hc)) (Nat.lt_of_le_of_lt h.len hl) hL

theorem fromTable_insertAll_map (t : List Feature) (φ : Feature → Loc) :
    ∀ g ∈ Table.insertAll [] (t.map fun f => { f with loc := φ f }), FromTable t g := by
  intro g hg
  rcases (mem_insertAll _ _ g).mp hg with h | h
  · simp at h
  · exact fromTable_mapLoc t φ g h

theorem cut_reverse (s : Seq) : Cut s s.reverse ∧ s.reverse.bytes.length = s.bytes.length :=
  ⟨⟨fromTable_insertAll_map s.feats _, fun _ hc => List.mem_reverse.mp hc, Nat.le_of_eq (List.length_reverse ..)⟩,
    List.length_reverse ..⟩

theorem cut_rotate (s : Seq) (n : Int) : Cut s (s.rotate n) := by
  refine ⟨fromTable_insertAll_map s.feats _, fun c hc => ?_, Nat.le_of_eq (s.rotate_bytes_length n)⟩
  rcases List.mem_append.mp hc with h | h
  · exact List.mem_of_mem_drop h
  · exact List.mem_of_mem_take h

theorem cut_delete (s : Seq) (offset length : Int) (hlen0 : 0 ≤ length) : Cut s (s.delete offset length) := by
  refine ⟨fromTable_mapLoc s.feats _, fun c hc => ?_, ?_⟩
  · rcases List.mem_append.mp hc with h | h
    · exact List.mem_of_mem_take h
    · exact List.mem_of_mem_drop h
  · simp only [Seq.delete, List.length_append, List.length_drop, List.length_take]
    omega

theorem cut_filter (s : Seq) (p : Feature → Bool) : Cut s ⟨s.feats.filter p, s.bytes⟩ :=
  ⟨fun g hg => fromTable_self _ g (List.mem_filter.mp hg).1, fun _ h => h, Nat.le_refl _⟩

/-- `gts.Reverse` -/
theorem writable_reverse (reg : Registry) (F : Fields) (s : Seq) (hw : Writable reg (ofSeq F s) s.bytes = true) :
    Writable reg (ofSeq F s.reverse) s.reverse.bytes = true :=
  writable_cut reg F (cut_reverse s).1 hw (.inl (cut_reverse s).2)

/-- `gts.Complement` (the record `Seq.complementRec` returns) -/
theorem writable_complement (reg : Registry) (F : Fields) (s : Seq) (hw : Writable reg (ofSeq F s) s.bytes = true) :
    Writable reg (ofSeq F ⟨s.feats.map fun f => { f with loc := f.loc.complement }, s.bytes.map Nuc.complementByte⟩)
      (s.bytes.map Nuc.complementByte) = true := by
  obtain ⟨hb, hl⟩ := writable_bytes reg F s hw
  have hf := writable_feats reg F s hw
  apply writable_ofSeq reg F s ⟨_, _⟩ hw
  · exact fun g hg => featW_fromTable reg s.feats hf g (fromTable_mapLoc s.feats _ g hg)
  · intro c hc
    obtain ⟨c0, hc0, rfl⟩ := List.mem_map.mp hc
    exact complementByte_base c0 (hb c0 hc0)
  · simpa using hl
  · left; simp

theorem complementRec_eq (s : Seq) :
    s.complementRec = some ⟨s.feats.map fun f => { f with loc := f.loc.complement }, s.bytes.map Nuc.complementByte⟩ := by
  simp [Seq.complementRec, Nuc.complementBytes_eq_map]

/-- `gts.Rotate` -/
theorem writable_rotate (reg : Registry) (F : Fields) (s : Seq) (n : Int)
    (hw : Writable reg (ofSeq F s) s.bytes = true) :
    Writable reg (ofSeq F (s.rotate n)) (s.rotate n).bytes = true :=
  writable_cut reg F (cut_rotate s n) hw (.inl (s.rotate_bytes_length n))

/-- `gts.Delete` of `length ≥ 0` residues: when residues remain, or the record has no CONTIG (an
emptied record takes its LOCUS length from the CONTIG region, whose size nothing bounds) -/
theorem writable_delete (reg : Registry) (F : Fields) (s : Seq) (offset length : Int) (hlen0 : 0 ≤ length)
    (hw : Writable reg (ofSeq F s) s.bytes = true)
    (hne : 0 < (s.delete offset length).bytes.length ∨ F.contigAcc.isEmpty = true) :
    Writable reg (ofSeq F (s.delete offset length)) (s.delete offset length).bytes = true :=
  writable_cut reg F (cut_delete s offset length hlen0) hw (.inr hne)

/-- `gts.Erase` -/
theorem writable_erase (reg : Registry) (F : Fields) (s : Seq) (offset length : Int) (hlen0 : 0 ≤ length)
    (hw : Writable reg (ofSeq F s) s.bytes = true)
    (hne : 0 < (s.erase offset length).bytes.length ∨ F.contigAcc.isEmpty = true) :
    Writable reg (ofSeq F (s.erase offset length)) (s.erase offset length).bytes = true :=
  writable_cut reg F ((cut_filter s _).trans (cut_delete _ offset length hlen0)) hw (.inr hne)

/-- `gts.Insert` / `gts.Embed` / `gts.Concat` put the residues of two records together: the header is
the host's, the features are the host's and the guest's -/
theorem writable_two (reg : Registry) (F G : Fields) (host guest : Seq) (s' : Seq)
    (hw : Writable reg (ofSeq F host) host.bytes = true) (hg : Writable reg (ofSeq G guest) guest.bytes = true)
    (hfeat : ∀ g ∈ s'.feats, FromTable (host.feats ++ guest.feats) g)
    (hbytes : ∀ c ∈ s'.bytes, c ∈ host.bytes ∨ c ∈ guest.bytes)
    (hlen : s'.bytes.length = host.bytes.length + guest.bytes.length) (hsum : s'.bytes.length < 10 ^ 9) :
    Writable reg (ofSeq F s') s'.bytes = true := by
  obtain ⟨hb, _⟩ := writable_bytes reg F host hw
  obtain ⟨hb2, _⟩ := writable_bytes reg G guest hg
  have hf := writable_feats reg F host hw
  have hf2 := writable_feats reg G guest hg
  have hall : ∀ f ∈ host.feats ++ guest.feats, FeatW reg f := by
    intro f hfm
    rcases List.mem_append.mp hfm with h | h
    · exact hf f h
    · exact hf2 f h
  apply writable_ofSeq reg F host s' hw (fun g hgm => featW_fromTable reg _ hall g (hfeat g hgm))
  · intro c hc
    rcases hbytes c hc with h | h
    · exact hb c h
    · exact hb2 c h
  · exact hsum
  · by_cases h0 : guest.bytes.length = 0
    · left; omega
    · right; left; omega

theorem fromTable_insert2 (host guest : List Feature) (φ ψ : Feature → Loc) :
    ∀ g ∈ Table.insertAll (Table.insertAll [] (host.map fun f => { f with loc := φ f }))
      (guest.map fun f => { f with loc := ψ f }), FromTable (host ++ guest) g := by
  intro g hg
  rcases (mem_insertAll _ _ g).mp hg with h | h
  · rcases (mem_insertAll _ _ g).mp h with h | h
    · simp at h
    · exact fromTable_mono (fun f hf => List.mem_append_left _ hf) (fromTable_mapLoc host φ g h)
  · exact fromTable_mono (fun f hf => List.mem_append_right _ hf) (fromTable_mapLoc guest ψ g h)

theorem splice_mem (p q : List UInt8) (pos : Nat) : ∀ c ∈ Seq.spliceBytes p pos q, c ∈ p ∨ c ∈ q := by
  intro c hc
  simp only [Seq.spliceBytes, List.mem_append] at hc
  rcases hc with (hc | hc) | hc
  · exact Or.inl (List.mem_of_mem_take hc)
  · exact Or.inr hc
  · exact Or.inl (List.mem_of_mem_drop hc)

/-- `gts.Insert` -/
theorem writable_insert (reg : Registry) (F G : Fields) (host guest : Seq) (index : Int)
    (hw : Writable reg (ofSeq F host) host.bytes = true) (hg : Writable reg (ofSeq G guest) guest.bytes = true)
    (hsum : host.bytes.length + guest.bytes.length < 10 ^ 9) :
    Writable reg (ofSeq F (host.insert index guest)) (host.insert index guest).bytes = true :=
  writable_two reg F G host guest _ hw hg (fromTable_insert2 host.feats guest.feats _ _)
    (splice_mem _ _ _) (Seq.spliceBytes_length _ _ _) (by rw [show (host.insert index guest).bytes.length = _ from Seq.spliceBytes_length _ _ _]; exact hsum)

/-- `gts.Embed` -/
theorem writable_embed (reg : Registry) (F G : Fields) (host guest : Seq) (index : Int)
    (hw : Writable reg (ofSeq F host) host.bytes = true) (hg : Writable reg (ofSeq G guest) guest.bytes = true)
    (hsum : host.bytes.length + guest.bytes.length < 10 ^ 9) :
    Writable reg (ofSeq F (host.embed index guest)) (host.embed index guest).bytes = true :=
  writable_two reg F G host guest _ hw hg (fromTable_insert2 host.feats guest.feats _ _)
    (splice_mem _ _ _) (Seq.spliceBytes_length _ _ _) (by rw [show (host.embed index guest).bytes.length = _ from Seq.spliceBytes_length _ _ _]; exact hsum)

/-- `gts.Concat` of two records (more records: fold) -/
theorem writable_concat2 (reg : Registry) (F G : Fields) (a b : Seq)
    (hw : Writable reg (ofSeq F a) a.bytes = true) (hg : Writable reg (ofSeq G b) b.bytes = true)
    (hsum : a.bytes.length + b.bytes.length < 10 ^ 9) :
    Writable reg (ofSeq F (Seq.concat2 a b)) (Seq.concat2 a b).bytes = true := by
  apply writable_two reg F G a b _ hw hg
  · intro g hgm
    rcases (mem_insertAll _ _ g).mp hgm with h | h
    · exact fromTable_mono (fun f hf => List.mem_append_left _ hf) (fromTable_self a.feats g h)
    · exact fromTable_mono (fun f hf => List.mem_append_right _ hf) (fromTable_mapLoc b.feats _ g h)
  · intro c hc
    exact List.mem_append.mp hc
  · simp [Seq.concat2]
  · simpa [Seq.concat2] using hsum

/-- `Location.Complement()` of a canonical location is canonical: it wraps, or unwraps a wrapped
one -/
theorem canonP_complement (l : Loc) (h : Loc.canonP l = true) : Loc.canonP l.complement = true := by
  cases l with
  | compl x =>
    simp only [Loc.canonP, Bool.and_eq_true] at h
    simpa [Loc.complement] using h.1
  | between p => simpa [Loc.complement, Loc.canonP, Loc.isComplC] using h
  | point p => simpa [Loc.complement, Loc.canonP, Loc.isComplC] using h
  | ranged a b c d => simpa [Loc.complement, Loc.canonP, Loc.isComplC] using h
  | ambiguous a b => simpa [Loc.complement, Loc.canonP, Loc.isComplC] using h
  | joined ls => simpa [Loc.complement, Loc.canonP, Loc.isComplC] using h
  | ordered ls => simpa [Loc.complement, Loc.canonP, Loc.isComplC] using h

end Gts.GenBank
