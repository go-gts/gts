/-
  C07, record scanners: the reader of the INSDC feature table (`Gts.Model.InsdcParse`:
  `pars.Quoted`, the three qualifier value parsers, `QualifierParser` with the learning of unknown
  names, `pars.Many`, key lines, `INSDCTableParser`) under the forward judgement `Fwd` of
  `Gts.Lemmas.ParsProgress`: it never panics, keeps the saved positions sorted and never goes back
  behind a position it has not saved itself; a qualifier and a key line that are read have consumed
  input (`Strict`).  The loops are inductions on their fuel.
-/
import Gts.Lemmas.ParsProgress
import Gts.Model.InsdcParse
namespace Gts.GenBank
open Gts.Pars

variable {E : Prop} {i : Nat}

theorem quoted_safe : Safe quoted := by
  intro L base n s h
  unfold quoted
  rw [wp_bind]; apply wp_getS; dsimp only
  split
  · split
    · rw [wp_bind]
      apply wps_setS
      dsimp only
      rw [wp_pure]
      refine std_ok (h.advance _ ?_)
      rename_i _ r hr _ k hk
      rw [hr]
      simp only [List.length_drop, List.length_cons]; omega
    · exact std_fail h
  · exact std_fail h

theorem quotedValue_fwd (pre : Bytes) : Fwd E i i (quotedValue pre) :=
  .bind .push fun _ =>
    .bind (.attempt_bind next_safe.fwd (fun c => .pure c) (.bind .pop fun _ => .fail)) fun _ =>
    .ite (.bind .pop fun _ => .fail_bind) <| .bind Safe.advance1.fwd fun _ =>
    .bind (.attempt_bind quoted_safe.fwd (fun t => .pure t) (.bind .pop fun _ => .fail)) fun _ =>
    .bind .drop fun _ => .bind (.attempt eol_safe.fwd) fun _ => .pure _

/-- the continuation loop runs with the frame of `literalQualifierParser` on the stack and
gives it up (`Drop`, or `Pop` back to the start of the line that belongs to the next qualifier) -/
theorem literalMore_fwd (pre : Bytes) : ∀ f p, Fwd E (i + 1) i (literalMore pre f p)
  | 0, _ => .bind .drop fun _ => .pure _
  | f + 1, _ => .attempt_bind (lit_safe _).fwd
    (fun _ => .attempt_bind next_safe.fwd
      (fun _ => .ite (.bind .pop fun _ => .pure _) <| .bind line_safe.fwd fun _ =>
        .bind .drop fun _ => .bind .push fun _ => literalMore_fwd pre f _)
      (.bind .pop fun _ => .pure _))
    (.bind .drop fun _ => .pure _)

theorem literalValue_fwd (pre : Bytes) : Fwd E i i (literalValue pre) :=
  .bind .push fun _ =>
    .bind (.attempt_bind next_safe.fwd (fun c => .pure c) (.bind .pop fun _ => .fail)) fun _ =>
    .ite (.bind .pop fun _ => .fail_bind) <| .bind Safe.advance1.fwd fun _ =>
    .bind line_safe.fwd fun _ => .bind .push fun _ => .bind .getS fun _ =>
    .bind (literalMore_fwd pre _ _) fun _ => .bind .drop fun _ => .pure _

theorem strict_qualifierName (pre : Bytes) : Strict E (qualifierName pre) :=
  (strict_lit _ (by simp)).bind_left fun _ => (word_safe _).fwd

theorem strict_qualifier (pre : Bytes) (reg : Registry) : Strict E (qualifier pre reg) :=
  (strict_qualifierName pre).bind_left fun nm => by
    split
    · exact .bind (quotedValue_fwd pre) fun _ => .pure _
    · exact .bind (literalValue_fwd pre) fun _ => .pure _
    · exact .bind eol_safe.fwd fun _ => .pure _
    · exact .attempt_bind (quotedValue_fwd pre) (fun _ => .pure _) <|
        .attempt_bind (literalValue_fwd pre) (fun _ => .pure _) <|
        .attempt_bind eol_safe.fwd (fun _ => .pure _) (.pure _)

theorem qualifiers_fwd (pre : Bytes) : ∀ f reg acc, Fwd E i i (qualifiers pre f reg acc)
  | 0, _, _ => .pure _
  | f + 1, reg, _ => .attempt_bind (strict_qualifier pre reg).1
    (fun (_, _) => qualifiers_fwd pre f _ _) (.pure _)

theorem location_safe : Safe location := .bind .getS fun _ => loc_safe _

theorem blanks_safe : ∀ n, Safe (blanks n)
  | 0 => .pure _
  | n + 1 => .bind next_safe fun _ => .ite _ .fail_bind <| .bind .advance1 fun _ => blanks_safe n

theorem keyline_safe (pre depth : Nat) : Safe (keyline pre depth) :=
  .bind (lit_safe _) fun _ => .bind (word_safe _) fun _ => .bind (blanks_safe _) fun _ =>
  .bind location_safe fun _ => .bind eol_safe fun _ => .pure _

theorem strict_keyline (pre depth : Nat) : Strict E (keyline pre depth) :=
  .bind_right (lit_safe _).fwd fun _ => (strict_word _).bind_left fun _ =>
    .bind (blanks_safe _).fwd fun _ => .bind location_safe.fwd fun _ => .bind eol_safe.fwd fun _ => .pure _

theorem firstKeyline_fwd : Fwd E i i firstKeyline :=
  .bind .push fun _ => .bind .push fun _ => .bind spaces_safe.fwd fun _ =>
    .bind (.attempt_bind (word_safe _).fwd (fun k => .pure k)
      (.bind (.bind .pop fun _ => .pop) fun _ => .fail)) fun _ =>
    .bind spaces_safe.fwd fun _ =>
    .bind (.attempt_bind location_safe.fwd (fun l => .pure l)
      (.bind (.bind .pop fun _ => .pop) fun _ => .fail)) fun _ =>
    .attempt_bind eol_safe.fwd (fun _ => .bind .drop fun _ => .bind .drop fun _ => .pure _)
      (.bind (.bind .pop fun _ => .pop) fun _ => .fail)

theorem tableMore_fwd (pre depth : Nat) : ∀ f reg acc, Fwd E i i (tableMore pre depth f reg acc)
  | 0, _, _ => .pure _
  | f + 1, _, _ => .attempt_bind (keyline_safe pre depth).fwd
    (fun (_, _) => .bind .getS fun _ => .bind (qualifiers_fwd _ _ _ _) fun (_, _) =>
      tableMore_fwd pre depth f _ _)
    (.pure _)

theorem table_fwd (reg : Registry) : Fwd E i i (table reg) :=
  .bind firstKeyline_fwd fun (_, _, _, _) => .bind .getS fun _ =>
    .bind (qualifiers_fwd _ _ _ _) fun (_, _) => tableMore_fwd _ _ _ _ _

end Gts.GenBank
