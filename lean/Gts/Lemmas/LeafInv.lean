/-
  Leaf-wise invariants: a predicate on contiguous leaves that survives the one merge
  `LocationList.Push` performs (`Ranged{a,b}` followed by `Ranged{b,c}` becomes `Ranged{a,c}`)
  holds for every leaf of `Push` / `Join` / `Order` results when it holds for every leaf of the
  arguments (every other rule only keeps or drops a leaf).  Well-formedness (`wf`) is one; so are the
  oracle's in-bounds predicate `coordsWithin` (C03, C04; `Leafwise`) and "no outer end falls into the
  removed span" (C10; `leafAvoid`, `MarksInv`).  Core Lean only.
-/
import Gts.Lemmas.PushOne
namespace Gts
namespace Loc

mutual
/-- `Q` holds for every contiguous leaf -/
def allLeaves (Q : Loc → Bool) : Loc → Bool
  | joined ls => allLeavesList Q ls
  | ordered ls => allLeavesList Q ls
  | compl l => allLeaves Q l
  | l => Q l
def allLeavesList (Q : Loc → Bool) : List Loc → Bool
  | [] => true
  | l :: ls => allLeaves Q l && allLeavesList Q ls
end

section
variable (Q : Loc → Bool)

@[simp] theorem allLeaves_between (p : Int) : allLeaves Q (between p) = Q (between p) := by simp [allLeaves]
@[simp] theorem allLeaves_point (p : Int) : allLeaves Q (point p) = Q (point p) := by simp [allLeaves]
@[simp] theorem allLeaves_ranged (s e : Int) (a b : Bool) :
    allLeaves Q (ranged s e a b) = Q (ranged s e a b) := by simp [allLeaves]
@[simp] theorem allLeaves_ambiguous (s e : Int) : allLeaves Q (ambiguous s e) = Q (ambiguous s e) := by
  simp [allLeaves]
@[simp] theorem allLeaves_joined (ls : List Loc) : allLeaves Q (joined ls) = allLeavesList Q ls := by
  simp [allLeaves]
@[simp] theorem allLeaves_ordered (ls : List Loc) : allLeaves Q (ordered ls) = allLeavesList Q ls := by
  simp [allLeaves]
@[simp] theorem allLeaves_compl (l : Loc) : allLeaves Q (compl l) = allLeaves Q l := by simp [allLeaves]
@[simp] theorem allLeavesList_nil : allLeavesList Q [] = true := by simp [allLeavesList]
@[simp] theorem allLeavesList_cons (l : Loc) (ls : List Loc) :
    allLeavesList Q (l :: ls) = (allLeaves Q l && allLeavesList Q ls) := by simp [allLeavesList]

theorem allLeavesList_append (a b : List Loc) :
    allLeavesList Q (a ++ b) = (allLeavesList Q a && allLeavesList Q b) := by
  induction a with
  | nil => simp
  | cons x xs ih => simp [ih, Bool.and_assoc]

theorem allLeavesList_reverse (a : List Loc) : allLeavesList Q a.reverse = allLeavesList Q a := by
  induction a with
  | nil => simp
  | cons x xs ih => simp [allLeavesList_append, ih, Bool.and_comm]

theorem allLeaves_ofParts (j : List Loc) (h : allLeavesList Q j = true) :
    allLeaves Q (ofParts j) = true := by
  match j, h with
  | [], _ => simp [ofParts]
  | [a], h => simpa [ofParts] using h
  | a :: b :: r, h => simpa [ofParts] using h

end

/-- `Q` survives the merge of two abutting ranges -/
def MergeOK (Q : Loc → Bool) : Prop :=
  ∀ vs ve ue v5 v3 u5 u3, Q (ranged vs ve v5 v3) = true → Q (ranged ve ue u5 u3) = true →
    Q (ranged vs ue v5 u3) = true

mutual
theorem wf_eq_allLeaves : ∀ l : Loc, wf l = allLeaves wf l
  | between _ | point _ | ranged .. | ambiguous .. => by simp only [allLeaves]
  | joined ls | ordered ls => wfList_eq_allLeaves ls
  | compl l => wf_eq_allLeaves l
theorem wfList_eq_allLeaves : ∀ ls : List Loc, wfList ls = allLeavesList wf ls
  | [] => by simp
  | l :: ls => by simp [← wf_eq_allLeaves l, ← wfList_eq_allLeaves ls]
end

theorem mergeOK_wf : MergeOK wf := by
  intro vs ve ue v5 v3 u5 u3 hv hu
  simp only [wf, decide_eq_true_eq] at hv hu ⊢
  omega

/-- a push function keeps the leaf invariant -/
def KeepsLeaves (Q : Loc → Bool) (low : List Loc → Loc → Bool → List Loc) : Prop :=
  ∀ racc x f, allLeavesList Q racc = true → allLeaves Q x = true → allLeavesList Q (low racc x f) = true

theorem fold_leaves {Q low} (h : KeepsLeaves Q low) (f : Bool) :
    ∀ (ys racc : List Loc), allLeavesList Q racc = true → allLeavesList Q ys = true →
      allLeavesList Q (ys.foldl (fun acc y => low acc y f) racc) = true := by
  intro ys
  induction ys with
  | nil => intro racc hr _; simpa using hr
  | cons y ys ih =>
    intro racc hr hys
    simp only [allLeavesList_cons, Bool.and_eq_true] at hys
    exact ih _ (h racc y f hr hys.1) hys.2

theorem pushOne_leaves {Q low} (hm : MergeOK Q) (h : KeepsLeaves Q low) (racc : List Loc) (x : Loc)
    (f : Bool) (hr : allLeavesList Q racc = true) (hx : allLeaves Q x = true) :
    allLeavesList Q (pushOne low racc x f) = true := by
  cases racc with
  | nil => simp [pushOne, hx]
  | cons v rest =>
    simp only [allLeavesList_cons, Bool.and_eq_true] at hr
    obtain ⟨hv, hrest⟩ := hr
    rcases pushOne_cons low v x rest f with e | ⟨e, -⟩ | ⟨e, -⟩ | ⟨vs, ve, ue, v5, v3, u5, u3, rfl, rfl, -, e⟩ |
      ⟨vl, ul, rfl, rfl, e⟩ <;> rw [e] <;> simp only [allLeavesList_cons, Bool.and_eq_true]
    · exact ⟨hx, hv, hrest⟩
    · exact ⟨hv, hrest⟩
    · exact ⟨hx, hrest⟩
    · exact ⟨hm _ _ _ _ _ _ _ hv hx, hrest⟩
    · rw [allLeaves_compl] at hv hx ⊢
      have h1 : allLeavesList Q (low [ul] vl f) = true := h [ul] vl f (by simp [hx]) hv
      have h2 := fold_leaves h true (low [ul] vl f).reverse [] (by simp)
        (by rw [allLeavesList_reverse]; exact h1)
      exact ⟨allLeaves_ofParts Q _ (by rw [allLeavesList_reverse]; exact h2), hrest⟩

mutual
theorem pushW_leaves {Q low} (hm : MergeOK Q) (h : KeepsLeaves Q low) :
    ∀ (x : Loc) (racc : List Loc) (f : Bool), allLeavesList Q racc = true → allLeaves Q x = true →
      allLeavesList Q (pushW low racc x f) = true
  | joined parts, racc, f, hr, hx => pushListW_leaves hm h parts racc f hr hx
  | between _, racc, f, hr, hx | point _, racc, f, hr, hx | ranged _ _ _ _, racc, f, hr, hx
  | ambiguous _ _, racc, f, hr, hx | ordered _, racc, f, hr, hx | compl _, racc, f, hr, hx =>
      pushOne_leaves hm h racc _ f hr hx
theorem pushListW_leaves {Q low} (hm : MergeOK Q) (h : KeepsLeaves Q low) :
    ∀ (ps : List Loc) (racc : List Loc) (f : Bool), allLeavesList Q racc = true →
      allLeavesList Q ps = true → allLeavesList Q (pushListW low racc ps f) = true
  | [], _, _, hr, _ => hr
  | q :: ps, racc, f, hr, hps =>
      have ⟨h1, h2⟩ := Bool.and_eq_true_iff.mp hps
      pushListW_leaves hm h ps _ f (pushW_leaves hm h q racc f hr h1) h2
end

theorem pushD_leaves {Q} (hm : MergeOK Q) : ∀ d, KeepsLeaves Q (pushD d)
  | 0 => fun racc x f hr hx => by simp [pushD, hr, hx]
  | d + 1 => fun racc x f hr hx => pushW_leaves hm (pushD_leaves hm d) x racc f hr hx

/-- `Join` keeps a merge-stable leaf invariant -/
theorem join_leaves {Q} (hm : MergeOK Q) (xs : List Loc) (h : allLeavesList Q xs = true) :
    allLeaves Q (join xs) = true := by
  have := fold_leaves (pushD_leaves hm pushFuel) true xs [] (by simp) h
  apply allLeaves_ofParts
  rw [allLeavesList_reverse]
  exact this

mutual
theorem allLeavesList_flattenOrd (Q : Loc → Bool) : ∀ (l : Loc), allLeaves Q l = true →
    allLeavesList Q (flattenOrd l) = true
  | ordered ls, h => allLeavesList_flattenOrdList Q ls h
  | between _, h | point _, h | ranged _ _ _ _, h | ambiguous _ _, h | joined _, h | compl _, h =>
      Bool.and_eq_true_iff.mpr ⟨h, rfl⟩
theorem allLeavesList_flattenOrdList (Q : Loc → Bool) : ∀ (ls : List Loc), allLeavesList Q ls = true →
    allLeavesList Q (flattenOrdList ls) = true
  | [], _ => rfl
  | l :: ls, h => by
      obtain ⟨h1, h2⟩ := Bool.and_eq_true_iff.mp h
      rw [flattenOrdList, allLeavesList_append, allLeavesList_flattenOrd Q l h1,
        allLeavesList_flattenOrdList Q ls h2]
      rfl
end

/-- `Order` keeps every leaf invariant -/
theorem order_leaves (Q : Loc → Bool) (xs : List Loc) (h : allLeavesList Q xs = true) :
    allLeaves Q (order xs) = true := by
  unfold order
  have := allLeavesList_flattenOrdList Q xs h
  revert this
  generalize flattenOrdList xs = j
  intro hj
  match j, hj with
  | [], _ => simp
  | [a], hj => simpa using hj
  | a :: b :: r, hj => simpa using hj

end Loc
end Gts
