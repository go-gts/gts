/-
  Per-kind laws of Shift / Expand with `n ≥ 0` (an insertion) on contiguous locations, and `Join` / `Order`
  of the two leaves a split leaves behind.  Core Lean only.
-/
import Gts.Lemmas.Interval
import Gts.Lemmas.Push
namespace Gts
namespace Loc

theorem join_two_ranged_ne (vs ve us ue : Int) (a b c d : Bool) (h : ve ≠ us) :
    join [ranged vs ve a b, ranged us ue c d] = joined [ranged vs ve a b, ranged us ue c d] := by
  simp [join, joinD, pushAllD, pushFuel, pushD, pushW, pushOne, ofParts, h]

theorem join_two_ranged_abut (vs m ue : Int) (a b c d : Bool) :
    join [ranged vs m a b, ranged m ue c d] = ranged vs ue a d := by
  simp [join, joinD, pushAllD, pushFuel, pushD, pushW, pushOne, ofParts]

theorem order_two_ambiguous (a b c d : Int) :
    order [ambiguous a b, ambiguous c d] = ordered [ambiguous a b, ambiguous c d] := by
  simp [order, flattenOrdList, flattenOrd]

/-- the coordinate rules of `Expand` (start and end of a span) when `n` residues are inserted at `i` -/
theorem expandStart_ins (s i n : Int) (hn : 0 ≤ n) :
    (if (0 ≤ n ∧ i ≤ s) ∨ (n < 0 ∧ i < s) then gmax i (s + n) else s) = if i ≤ s then s + n else s := by
  unfold gmax; omega

theorem expandEnd_ins (e i n : Int) (hn : 0 ≤ n) :
    (if (0 ≤ n ∧ i < e) ∨ (n < 0 ∧ i ≤ e) then gmax i (e + n) else e) = if i < e then e + n else e := by
  unfold gmax; omega

theorem wf_pointExpand (p i n : Int) : wf (pointExpand p i n) = true := by
  unfold pointExpand; split <;> simp [wf]

theorem wf_betweenExpand (p i n : Int) : wf (betweenExpand p i n) = true := by
  simp [betweenExpand, wf]

theorem den_betweenExpand (p i n : Int) : den (betweenExpand p i n) = [] := by
  simp [betweenExpand]

theorem pointExpand_ins (p i n : Int) (hn : 0 ≤ n) : pointExpand p i n = point (insMap i n p) := by
  unfold pointExpand insMap
  rw [if_neg (by omega), gmax_eq_max]
  congr 1; omega

theorem den_pointExpand_ins (p i n : Int) (hn : 0 ≤ n) :
    den (pointExpand p i n) = mapPos (insMap i n) (den (point p)) := by
  rw [pointExpand_ins p i n hn]; rfl

theorem betweenExpand_ins (p i n : Int) (hn : 0 ≤ n) :
    betweenExpand p i n = between (if i < p then p + n else p) := by
  unfold betweenExpand gmax
  congr 1; omega

theorem ins_lt (i n s e : Int) (hn : 0 ≤ n) (h : s < e) :
    (if i ≤ s then s + n else s) < (if i < e then e + n else e) := by
  omega

/-- `Ranged.Expand(i, n)` of a non-empty range, `0 ≤ n`: the ends move, nothing else -/
theorem rangedExpand_ins (s e : Int) (a b : Bool) (i n : Int) (h : s < e) (hn : 0 ≤ n) :
    rangedExpand s e a b i n = ranged (if i ≤ s then s + n else s) (if i < e then e + n else e) a b := by
  unfold rangedExpand
  by_cases h0 : n = 0
  · subst h0; rw [if_pos rfl]; congr 1 <;> omega
  · simp only [expandStart_ins s i n hn, expandEnd_ins e i n hn, if_neg h0, if_neg (Int.ne_of_lt (ins_lt i n s e hn h)),
      if_neg (show ¬ (n < 0 ∧ i ≤ s ∧ s < i - n) by omega), if_neg (show ¬ (n < 0 ∧ i < e ∧ e ≤ i - n) by omega)]

theorem ambiguousExpand_ins (s e i n : Int) (h : s < e) (hn : 0 ≤ n) :
    ambiguousExpand s e i n = ambiguous (if i ≤ s then s + n else s) (if i < e then e + n else e) := by
  unfold ambiguousExpand
  by_cases h0 : n = 0
  · subst h0; rw [if_pos rfl]; congr 1 <;> omega
  · simp only [expandStart_ins s i n hn, expandEnd_ins e i n hn, if_neg h0, if_neg (Int.ne_of_lt (ins_lt i n s e hn h))]

/-- `Ranged.Shift(i, n)`, `0 ≤ n`: an insertion strictly inside splits the range, any other moves the
ends behind it -/
theorem rangedShift_ins (s e : Int) (a b : Bool) (i n : Int) (hn : 0 ≤ n) :
    rangedShift s e a b i n =
      if n ≠ 0 ∧ s < i ∧ i < e then joined [ranged s i a false, ranged (i + n) (e + n) false b]
      else ranged (if i ≤ s then s + n else s) (if i < e then e + n else e) a b := by
  rw [rangedShift]
  by_cases h0 : n = 0
  · subst h0
    rw [if_pos rfl, if_neg (fun h => h.1 rfl)]
    congr 1 <;> omega
  · rw [if_neg h0, if_neg (by omega)]
    by_cases hs : s < i ∧ i < e
    · rw [if_pos hs, if_pos ⟨h0, hs⟩, join_two_ranged_ne]; omega
    · rw [if_neg hs, if_neg (show ¬ (n ≠ 0 ∧ s < i ∧ i < e) from fun h => hs h.2)]

theorem ambiguousShift_ins (s e i n : Int) (hn : 0 ≤ n) :
    ambiguousShift s e i n =
      if n ≠ 0 ∧ s < i ∧ i < e then ordered [ambiguous s i, ambiguous (i + n) (e + n)]
      else ambiguous (if i ≤ s then s + n else s) (if i < e then e + n else e) := by
  rw [ambiguousShift]
  by_cases h0 : n = 0
  · subst h0
    rw [if_pos rfl, if_neg (fun h => h.1 rfl)]
    congr 1 <;> omega
  · rw [if_neg h0, if_neg (by omega)]
    by_cases hs : s < i ∧ i < e
    · rw [if_pos hs, if_pos ⟨h0, hs⟩, order_two_ambiguous]
    · rw [if_neg hs, if_neg (show ¬ (n ≠ 0 ∧ s < i ∧ i < e) from fun h => hs h.2)]

theorem insMap_zero (i : Int) : insMap i 0 = id := by
  funext x; unfold insMap; split <;> simp

theorem map_insMap_irange_shifted (s i n : Int) (m : Nat) (h : i ≤ s) :
    (irange s m).map (insMap i n) = irange (s + n) m :=
  irange_map_of_eq s n m _ (fun x hx _ => by unfold insMap; rw [if_neg (by omega)])

theorem map_insMap_irange_fixed (s i n : Int) (m : Nat) (h : s + m ≤ i) :
    (irange s m).map (insMap i n) = irange s m := by
  have := irange_map_of_eq s 0 m (insMap i n) (fun x _ hx => by unfold insMap; rw [if_pos (by omega)]; omega)
  simpa using this

theorem map_insMap_irange_split (s e i n : Int) (h1 : s < i) (h2 : i < e) :
    (irange s (e - s).toNat).map (insMap i n) = irange s (i - s).toNat ++ irange (i + n) (e - i).toNat := by
  rw [irange_split s i e (by omega) (by omega), List.map_append,
    map_insMap_irange_fixed s i n _ (by omega), map_insMap_irange_shifted i i n _ (Int.le_refl i)]

/-- the insertion image of `[s, e)`, in the coordinates `Shift` computes -/
theorem map_insMap_irange (s e i n : Int) (h : s < e) :
    (irange s (e - s).toNat).map (insMap i n) =
      if s < i ∧ i < e then irange s (i - s).toNat ++ irange (i + n) (e + n - (i + n)).toNat
      else irange (if i ≤ s then s + n else s)
        ((if i < e then e + n else e) - (if i ≤ s then s + n else s)).toNat := by
  by_cases hs : s < i ∧ i < e
  · rw [if_pos hs, map_insMap_irange_split s e i n hs.1 hs.2]
    congr 2; omega
  · rw [if_neg hs]
    by_cases h1 : i ≤ s
    · rw [if_pos h1, if_pos (by omega), map_insMap_irange_shifted _ _ _ _ h1]
      congr 1; omega
    · rw [if_neg h1, if_neg (by omega), map_insMap_irange_fixed _ _ _ _ (by omega)]

theorem den_rangedShift_ins (s e : Int) (p5 p3 : Bool) (i n : Int) (h : s < e) (hn : 0 ≤ n) :
    den (rangedShift s e p5 p3 i n) = mapPos (insMap i n) (den (ranged s e p5 p3)) := by
  by_cases h0 : n = 0
  · rw [rangedShift, if_pos h0, h0, insMap_zero]; exact (List.map_id _).symm
  · rw [rangedShift_ins s e p5 p3 i n hn, den_ranged, mapPos_fwd, map_insMap_irange s e i n h]
    by_cases hs : s < i ∧ i < e
    · rw [if_pos ⟨h0, hs⟩, if_pos hs, den_joined, denList_cons, denList_cons, denList_nil, den_ranged, den_ranged,
        List.append_nil, fwd_append]
    · rw [if_neg (show ¬ (n ≠ 0 ∧ s < i ∧ i < e) from fun h => hs h.2), if_neg hs, den_ranged]

theorem den_ambiguousShift_ins (s e i n : Int) (h : s < e) (hn : 0 ≤ n) :
    den (ambiguousShift s e i n) = mapPos (insMap i n) (den (ambiguous s e)) := by
  by_cases h0 : n = 0
  · rw [ambiguousShift, if_pos h0, h0, insMap_zero]; exact (List.map_id _).symm
  · rw [ambiguousShift_ins s e i n hn, den_ambiguous, mapPos_fwd, map_insMap_irange s e i n h]
    by_cases hs : s < i ∧ i < e
    · rw [if_pos ⟨h0, hs⟩, if_pos hs, den_ordered, denList_cons, denList_cons, denList_nil, den_ambiguous,
        den_ambiguous, List.append_nil, fwd_append]
    · rw [if_neg (show ¬ (n ≠ 0 ∧ s < i ∧ i < e) from fun h => hs h.2), if_neg hs, den_ambiguous]

end Loc
end Gts
