/-
  Location-level lemmas behind the FEATURE clause of `gts extract` (C15): what the steps of
  `Region.Locate` — `gts.Slice` (two `Expand`s, `asComplete` for `source`), `gts.Complement`,
  `gts.Reverse`, and the `Expand(0, offset)` of `gts.Concat` — do to a feature location whose
  coordinates lie inside the record (`coordsWithin`, here as `allLeaves (leafWithin L)`: `coordsWithin_eq`).

  `Between.Reverse` is off by one (known finding K1): a between-site at the right end of a window of
  length `W` becomes `between (-1)`.  So after `Reverse` only the residue-bearing leaves are known
  to have non-negative coordinates (`nonnegR`, `Gts/Lemmas/Guest.lean`, where the translation law of
  `Expand(0, k)` is stated for it).  Core Lean only.
-/
import Gts.Lemmas.Guest
import Gts.Lemmas.MarksCoords
import Gts.Lemmas.MarksDelAll
import Gts.Lemmas.Reverse
import Gts.Lemmas.Window
import Gts.Lemmas.Record
namespace Gts
namespace Loc

theorem mergeOK_leafNonnegR : MergeOK leafNonnegR := by
  intro vs ve ue v5 v3 u5 u3 h1 _
  simpa [leafNonnegR] using h1

theorem den_in_of_within (L : Int) (l : Loc) (h : allLeaves (leafWithin L) l = true) :
    ∀ p ∈ den l, 0 ≤ p.1 ∧ p.1 < L := by
  intro p hp
  obtain ⟨u, hu, h1, h2⟩ := den_span l p hp
  rw [allLeaves_eq_all, List.all_eq_true] at h
  have := (leafWithin_iff L u).mp (h u hu)
  omega

theorem denList_in_of_within (L : Int) : ∀ ls : List Loc, wfList ls = true →
    allLeavesList (leafWithin L) ls = true → ∀ p ∈ denList ls, 0 ≤ p.1 ∧ p.1 < L :=
  fun ls _ h p hp => den_in_of_within L (joined ls) h p hp

theorem nonnegR_of_within (l : Loc) (L : Int) (h : allLeaves (leafWithin L) l = true) :
    nonnegR l = true := by
  unfold nonnegR
  rw [allLeaves_eq_all, List.all_eq_true] at h ⊢
  intro u hu
  have := (leafWithin_iff L u).mp (h u hu)
  cases u <;> simp [leafNonnegR, leafSpan] at this ⊢ <;> omega

theorem expand0_nonnegR_leaf (n : Int) (hn : 0 ≤ n) (u : Loc) (hu : isContig u = true)
    (hq : (wf u && leafNonnegR u) = true) : allLeaves leafNonnegR (expand u 0 n) = true := by
  obtain ⟨hw, h⟩ := Bool.and_eq_true_iff.mp hq
  -- an insertion at 0 moves a start `s ≥ 0` to `s + n`
  match u, hu, hw, h with
  | between p, _, _, _ => rfl
  | point p, _, _, h =>
      simp only [leafNonnegR, decide_eq_true_eq] at h
      simp only [expand, pointExpand_ins p 0 n hn, insMap, allLeaves_point, leafNonnegR, decide_eq_true_eq]
      split <;> omega
  | ranged s e a b, _, hw, h =>
      simp only [leafNonnegR, decide_eq_true_eq] at h
      simp only [expand, rangedExpand_ins s e a b 0 n (of_decide_eq_true hw) hn, allLeaves_ranged, leafNonnegR,
        decide_eq_true_eq]
      split <;> omega
  | ambiguous s e, _, hw, h =>
      simp only [leafNonnegR, decide_eq_true_eq] at h
      simp only [expand, ambiguousExpand_ins s e 0 n (of_decide_eq_true hw) hn, allLeaves_ambiguous, leafNonnegR,
        decide_eq_true_eq]
      split <;> omega

theorem expand0_nonnegR (l : Loc) (n : Int) (hn : 0 ≤ n) (hw : wf l = true)
    (h : allLeaves leafNonnegR l = true) : allLeaves leafNonnegR (expand l 0 n) = true := by
  rw [(expand_eq_tmap 0 n l).1]
  exact tmap_leaves mergeOK_leafNonnegR (expand0_nonnegR_leaf n hn) l
    (by rw [allLeaves_and_eq, ← wf_eq_allLeaves, hw, h]; rfl)

theorem expandList0_nonnegR : ∀ (ls : List Loc) (n : Int), 0 ≤ n → wfList ls = true →
    allLeavesList leafNonnegR ls = true → allLeavesList leafNonnegR (expandList ls 0 n) = true := by
  intro ls n hn hw h
  rw [(expandList_eq_tmap 0 n ls).1]
  exact tmapList_leaves mergeOK_leafNonnegR (expand0_nonnegR_leaf n hn) ls
    (by rw [← allLeaves_joined, allLeaves_and_eq, allLeaves_joined, allLeaves_joined, ← wfList_eq_allLeaves, hw, h]; rfl)

theorem expand_zero_leaf (Q : Loc → Bool) (i : Int) (u : Loc) (hu : isContig u = true) (hq : Q u = true) :
    allLeaves Q (expand u i 0) = true := by
  have e : expand u i 0 = u := by
    match u, hu with
    | between p, _ => simp only [expand, betweenExpand_ins p i 0 (Int.le_refl 0), Int.add_zero, ite_self]
    | point p, _ => simp only [expand, pointExpand_ins p i 0 (Int.le_refl 0), insMap_zero, id]
    | ranged s e a b, _ => simp [expand, rangedExpand]
    | ambiguous s e, _ => simp [expand, ambiguousExpand]
  rw [e]
  cases u <;> first | exact hq | cases hu

theorem expand_zero_leaves (Q : Loc → Bool) (hm : MergeOK Q) (i : Int) (l : Loc)
    (h : allLeaves Q l = true) : allLeaves Q (expand l i 0) = true := by
  rw [(expand_eq_tmap i 0 l).1]
  exact tmap_leaves hm (expand_zero_leaf Q i) l h

theorem expandList_zero_leaves (Q : Loc → Bool) (hm : MergeOK Q) (i : Int) :
    ∀ (ls : List Loc), allLeavesList Q ls = true → allLeavesList Q (expandList ls i 0) = true := by
  intro ls h
  rw [(expandList_eq_tmap i 0 ls).1]
  exact tmapList_leaves hm (expand_zero_leaf Q i) ls h

theorem expand_del0_within (L i k : Int) (hi : 0 ≤ i) (hk : 0 ≤ k) (hL : i + k ≤ L) (l : Loc)
    (h : allLeaves (leafWithin L) l = true) : allLeaves (leafWithin (L - k)) (expand l i (-k)) = true := by
  by_cases h0 : k = 0
  · subst h0
    simp only [Int.neg_zero, Int.sub_zero]
    exact expand_zero_leaves _ (mergeOK_leafWithin L) i l h
  · exact expand_del_within L i k hi (by omega) hL l h

theorem sliceLoc_within (l : Loc) (a b L : Int) (h0 : 0 ≤ a) (hab : a ≤ b) (hbL : b ≤ L)
    (h : allLeaves (leafWithin L) l = true) : allLeaves (leafWithin (b - a)) (sliceLoc l a b L) = true := by
  unfold sliceLoc
  have s1 := expand_del0_within L b (L - b) (by omega) (by omega) (by omega) l h
  have e1 : -(L - b) = b - L := by omega
  have e2 : L - (L - b) = b := by omega
  rw [e1, e2] at s1
  exact expand_del0_within b 0 a (Int.le_refl 0) h0 (by omega) _ s1

mutual
theorem wf_asComplete : ∀ l : Loc, wf (asComplete l) = wf l
  | ranged s e _ _ => by simp [asComplete, wf]
  | joined ls | ordered ls => by simp [asComplete, wf, wfList_asComplete ls]
  | between _ | point _ | ambiguous _ _ => by simp [asComplete]
  | compl l => by simp [asComplete, wf, wf_asComplete l]
theorem wfList_asComplete : ∀ ls : List Loc, wfList (asCompleteList ls) = wfList ls
  | [] => by simp [asCompleteList]
  | l :: ls => by simp [asCompleteList, wf_asComplete l, wfList_asComplete ls]
end

mutual
theorem within_asComplete (W : Int) : ∀ l : Loc,
    allLeaves (leafWithin W) (asComplete l) = allLeaves (leafWithin W) l
  | ranged s e _ _ => by simp only [asComplete, allLeaves_ranged]; rfl
  | joined ls | ordered ls => by simp [asComplete, withinList_asComplete W ls]
  | between _ | point _ | ambiguous _ _ => by simp [asComplete]
  | compl l => by simp [asComplete, within_asComplete W l]
theorem withinList_asComplete (W : Int) : ∀ ls : List Loc,
    allLeavesList (leafWithin W) (asCompleteList ls) = allLeavesList (leafWithin W) ls
  | [] => by simp [asCompleteList]
  | l :: ls => by simp [asCompleteList, within_asComplete W l, withinList_asComplete W ls]
end

theorem allLeaves_complement (Q : Loc → Bool) (l : Loc) : allLeaves Q (complement l) = allLeaves Q l := by
  cases l <;> simp [complement]

theorem reverse_nonnegR_leaf (W : Int) (u : Loc) (hu : isContig u = true)
    (h : leafWithin W u = true) : allLeaves leafNonnegR (reverse u W) = true := by
  rw [leafWithin_iff] at h
  match u, hu, h with
  | between p, _, _ => simp [reverse, leafNonnegR]
  | point p, _, h =>
      simp only [leafSpan] at h
      simp only [reverse, allLeaves_point, leafNonnegR, decide_eq_true_eq]
      omega
  | ranged s e a b, _, h =>
      simp only [leafSpan] at h
      simp only [reverse, rangedReverse, allLeaves_ranged, leafNonnegR, decide_eq_true_eq]
      omega
  | ambiguous s e, _, h =>
      simp only [leafSpan] at h
      simp only [reverse, allLeaves_ambiguous, leafNonnegR, decide_eq_true_eq]
      omega

/-- `Reverse(W)` of a location inside `[0, W]`: every residue-bearing leaf stays at a non-negative
position (a between-site at `W` becomes `between (-1)`: known finding K1) -/
theorem reverse_nonnegR (W : Int) (l : Loc) (h : allLeaves (leafWithin W) l = true) :
    allLeaves leafNonnegR (reverse l W) = true := by
  rw [(reverse_eq_tmap W l).1]
  exact tmap_leaves mergeOK_leafNonnegR (reverse_nonnegR_leaf W) l h

theorem reverseList_nonnegR (W : Int) : ∀ ls : List Loc, allLeavesList (leafWithin W) ls = true →
    allLeavesList leafNonnegR (reverseList ls W) = true := by
  intro ls h
  rw [(reverseList_eq_tmap W ls).1]
  exact tmapList_leaves mergeOK_leafNonnegR (reverse_nonnegR_leaf W) ls h

end Loc
end Gts
