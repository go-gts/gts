/-
  Run lemmas of the pieces of the location parsers on printed text, in the terms of Gts/Lemmas/ParsRuns.lean (`Reads`,
  `Rejects`): what may follow a printed location (`Sep`, `Delim`), `parseRange` in three stages, the number-led
  alternatives on a printed number, the keyword frame of `complement(` / `join(` / `order(`, and each contiguous
  alternative on its own printed form.  Used by the round trip of `ParseLocation` (Lemmas/LocRoundTrip.lean) and by
  `tryLocation` (Lemmas/Locator.lean).  Core Lean only.
-/
import Gts.Lemmas.ParsFrame
import Gts.Spec.LocCanon
namespace Gts
open Pars ModParse LocParse Pars.Run

theorem str_complement : str "complement(" = [99, 111, 109, 112, 108, 101, 109, 101, 110, 116, 40] := by decide +kernel

theorem natDigits_zero : natDigits 0 = [48] := by decide

theorem dec_ofNat (n : Nat) : dec (n : Int) = natDigits n := by
  unfold dec
  rw [if_neg (by omega)]
  rfl

theorem dec_succ (n : Nat) : dec ((n : Int) + 1) = natDigits (n + 1) := by
  rw [show (n : Int) + 1 = ((n + 1 : Nat) : Int) by omega, dec_ofNat]

/-- a continuation that does not change how a printed location is read: it does not start with
a digit, `.`, `^` or `>` -/
def Sep : Bytes → Prop
  | [] => True
  | c :: _ => isDigit c = false ∧ c ≠ 46 ∧ c ≠ 94 ∧ c ≠ 62

/-- the delimiters that follow a printed location inside a printed location: end of input,
`,` or `)` -/
def Delim : Bytes → Prop
  | [] => True
  | c :: _ => c = 44 ∨ c = 41

theorem Delim.sep {r : Bytes} (h : Delim r) : Sep r := by
  cases r with
  | nil => trivial
  | cons c r => rcases h with rfl | rfl <;> exact ⟨by decide, by decide, by decide, by decide⟩

theorem Sep.noDigit {r : Bytes} (h : Sep r) : r.dropWhile isDigit = r := by
  cases r with
  | nil => rfl
  | cons c r => simp [h.1]

theorem Sep.noDots {r : Bytes} (h : Sep r) : r.take 2 ≠ [46, 46] := by
  match r, h with
  | [], _ => simp
  | [_], _ => simp
  | c :: _ :: _, h => intro hc; simp at hc; exact h.2.1 hc.1

theorem Sep.ne {r : Bytes} (h : Sep r) (c : UInt8) (hc : c = 46 ∨ c = 94 ∨ c = 62) : ∀ r', r ≠ c :: r' := by
  intro r' e
  subst e
  rcases hc with rfl | rfl | rfl
  · exact h.2.1 rfl
  · exact h.2.2.1 rfl
  · exact h.2.2.2 rfl

/-! `parseRange` in three stages (the optional `<`, the start coordinate with `..` and the optional `>`, the end
coordinate with the legacy `>`), so that each marker is looked at in a run of its own stage only. -/

namespace LocParse

/-- `parseRange` behind the optional `>` in front of the end coordinate -/
def rangeEnd (start : Int) (p5 p3 : Bool) : P Loc := do
  let end_ ← orPop int id
  let p3 ← (do match ← attempt next with
    | some 62 => do advance1; pure true
    | _ => pure p3)
  drop
  pure (.ranged start end_ p5 p3)

/-- `parseRange` behind the optional `<` -/
def rangeFrom (p5 : Bool) : P Loc := do
  let start ← orPop int (· - 1)
  match ← attempt (request 2) with
  | none => do pop; fail
  | some b => if b != [46, 46] then do pop; fail
  advanceN 2
  let c ← next
  let p3 := c == 62
  if p3 then advance1
  rangeEnd start p5 p3

theorem range_eq : range = (do
    push
    let c ← orPop next id
    let p5 := c == 60
    if p5 then advance1
    rangeFrom p5) := by
  delta range rangeFrom rangeEnd orPop orPop.match_1 rangeEnd.match_1 rangeFrom.match_1
    between.match_1 between.match_3 range.match_1 range.match_3
  rfl

end LocParse

/-- `pars.Int` on a byte that is neither a digit nor a sign (the frame leaks only at the end of input,
`int_nil`) -/
theorem int_other (c : UInt8) (r : Bytes) (hc : isDigit c = false) (h45 : c ≠ 45) (h43 : c ≠ 43) :
    Rejects int (c :: r) := fun stk => by
  simp [int, hc, h45, h43]

theorem range_from (p5 : Bool) (a : Nat) (tail : Bytes) (stk : List Bytes) :
    LocParse.range ⟨(if p5 then [60] else []) ++ (natDigits a ++ tail), stk⟩ =
      rangeFrom p5 ⟨natDigits a ++ tail, ((if p5 then [60] else []) ++ (natDigits a ++ tail)) :: stk⟩ := by
  obtain ⟨d, ds, h3, hd⟩ := natDigits_cons a
  have h60 : d ≠ 60 := isDigit_ne d 60 hd (by decide)
  have h60b : (d == 60) = false := by simpa using h60
  rw [range_eq, h3]
  cases p5 <;> simp [orPop, h60, h60b]

theorem range_num_fail (a : Nat) (rest : Bytes) (hf : a ≤ 9223372036854775807)
    (hr : rest.dropWhile isDigit = rest) (h2 : rest.take 2 ≠ [46, 46]) :
    Rejects LocParse.range (natDigits a ++ rest) := fun stk => by
  have hi := int_natDigits a rest ((natDigits a ++ rest) :: stk) hr hf
  refine (range_from false a rest stk).trans ?_
  by_cases hl : rest.length < 2
  · simp [rangeFrom, orPop, hi, hl]
  · simp [rangeFrom, orPop, hi, hl, h2]

theorem numMarkNum_fail {α} (m : UInt8) (g : Int → Int) (k : Int → Int → P α) (a : Nat) (rest : Bytes)
    (hf : a ≤ 9223372036854775807) (hr : rest.dropWhile isDigit = rest) (hc : ∀ r, rest ≠ m :: r) :
    Rejects (numMarkNum m g k) (natDigits a ++ rest) := fun stk => by
  have hi := int_natDigits a rest ((natDigits a ++ rest) :: stk) hr hf
  cases rest with
  | nil => simp only [List.append_nil] at hi; simp [numMarkNum, orPop, hi]
  | cons c r =>
    have : c ≠ m := fun h => hc r (by rw [h])
    simp [numMarkNum, orPop, hi, this]

theorem numMarkNum_other {α} (m : UInt8) (g : Int → Int) (k : Int → Int → P α) (c : UInt8) (r : Bytes)
    (hc : isDigit c = false) (h45 : c ≠ 45) (h43 : c ≠ 43) : Rejects (numMarkNum m g k) (c :: r) := fun stk => by
  simp [numMarkNum, orPop, int_other c r hc h45 h43 _]

theorem numMarkNum_run {α} (m : UInt8) (g : Int → Int) (k : Int → Int → P α) (a b : Nat) (rest : Bytes)
    (stk : List Bytes) (hm : isDigit m = false) (hfa : a ≤ 9223372036854775807) (hfb : b ≤ 9223372036854775807)
    (hr : rest.dropWhile isDigit = rest) :
    numMarkNum m g k ⟨natDigits a ++ m :: (natDigits b ++ rest), stk⟩ =
      k (g a) b ⟨rest, (natDigits a ++ m :: (natDigits b ++ rest)) :: stk⟩ := by
  have hi := fun stk' => int_natDigits a (m :: (natDigits b ++ rest)) stk' (by simp [hm]) hfa
  have hj := fun stk' => int_natDigits b rest stk' hr hfb
  simp [numMarkNum, orPop, hi, hj]

theorem between_num_fail (a : Nat) (rest : Bytes) (hf : a ≤ 9223372036854775807)
    (hr : rest.dropWhile isDigit = rest) (hc : ∀ r, rest ≠ 94 :: r) :
    Rejects LocParse.between (natDigits a ++ rest) := between_eq ▸ numMarkNum_fail 94 _ _ a rest hf hr hc

theorem ambiguous_num_fail (a : Nat) (rest : Bytes) (hf : a ≤ 9223372036854775807)
    (hr : rest.dropWhile isDigit = rest) (hc : ∀ r, rest ≠ 46 :: r) :
    Rejects LocParse.ambiguous (natDigits a ++ rest) := ambiguous_eq ▸ numMarkNum_fail 46 _ _ a rest hf hr hc

/-- the three number-led alternatives on the first byte of a keyword (`complement(`, `join(`, `order(`) -/
theorem numLed_rejects (c : UInt8) (r : Bytes) (hc : isDigit c = false) (h45 : c ≠ 45) (h43 : c ≠ 43)
    (h60 : c ≠ 60) : Rejects LocParse.range (c :: r) ∧ Rejects LocParse.between (c :: r) ∧
      Rejects LocParse.ambiguous (c :: r) := by
  refine ⟨fun stk => ?_, between_eq ▸ numMarkNum_other 94 _ _ c r hc h45 h43,
    ambiguous_eq ▸ numMarkNum_other 46 _ _ c r hc h45 h43⟩
  simp [LocParse.range, h60, int_other c r hc h45 h43 _]

theorem str_join : str "join(" = [106, 111, 105, 110, 40] := by decide +kernel
theorem str_order : str "order(" = [111, 114, 100, 101, 114, 40] := by decide +kernel

theorem orPop_ok {α β} {p : P α} {g : α → β} {w r : Bytes} {v : α} (h : Reads p w v r) : Reads (orPop p g) w (g v) r := by
  intro stk; simp only [orPop, P.bind_run, attempt_run, h stk, P.pure_run]

theorem wrapped_run {α β} (n : Nat) (kw : Bytes) (body : P α) (mk : α → β) (inp rest : Bytes) (x : α)
    (hn : kw.length = n) (h : Reads body inp x (41 :: rest)) : Reads (wrapped n kw body mk) (kw ++ inp) (mk x) rest := by
  intro stk
  subst hn
  have hlen : ¬ (kw.length + inp.length < kw.length) := by omega
  simp [wrapped, orPop, hlen, h _]

/-- the frame on input that does not start with the first byte of the keyword (fewer bytes than the keyword has,
or as many that differ) -/
theorem wrapped_other {α β} (n : Nat) (c : UInt8) (kw : Bytes) (body : P α) (mk : α → β) (d : UInt8) (r : Bytes)
    (hn : kw.length + 1 = n) (h : d ≠ c) : Rejects (wrapped n (c :: kw) body mk) (d :: r) := fun stk => by
  subst hn
  by_cases hl : r.length + 1 < kw.length + 1
  · simp [wrapped, hl]
  · simp [wrapped, hl, h]

theorem complementOf_other (f : Nat) (d : UInt8) (r : Bytes) (h : d ≠ 99) : Rejects (complementOf f) (d :: r) := by
  cases f with
  | zero => rw [complementOf]; exact fun _ => rfl
  | succ f => rw [complementOf_succ, str_complement]; exact wrapped_other 11 99 _ _ _ d r rfl h

theorem joinOf_other (f : Nat) (d : UInt8) (r : Bytes) (h : d ≠ 106) : Rejects (joinOf f) (d :: r) := by
  cases f with
  | zero => rw [joinOf]; exact fun _ => rfl
  | succ f => rw [joinOf_succ, str_join]; exact wrapped_other 5 106 _ _ _ d r rfl h

theorem orderOf_other (f : Nat) (d : UInt8) (r : Bytes) (h : d ≠ 111) : Rejects (orderOf f) (d :: r) := by
  cases f with
  | zero => rw [orderOf]; exact fun _ => rfl
  | succ f => rw [orderOf_succ, str_order]; exact wrapped_other 6 111 _ _ _ d r rfl h

theorem complementWith_other (inner : P Loc) (d : UInt8) (r : Bytes) (h : d ≠ 99) :
    Rejects (complementWith inner) (d :: r) := by
  rw [complementWith_eq, str_complement]; exact wrapped_other 11 99 _ _ _ d r rfl h

theorem keyword_rejects_digits (f a : Nat) (rest : Bytes) : Rejects (complementOf f) (natDigits a ++ rest) ∧
    Rejects (joinOf f) (natDigits a ++ rest) ∧ Rejects (orderOf f) (natDigits a ++ rest) := by
  obtain ⟨d, ds, h3, hd⟩ := natDigits_cons a
  rw [h3]
  exact ⟨complementOf_other f d _ (isDigit_ne d 99 hd (by decide)),
    joinOf_other f d _ (isDigit_ne d 106 hd (by decide)), orderOf_other f d _ (isDigit_ne d 111 hd (by decide))⟩

theorem rangeFrom_run (p5 p3 : Bool) (a b : Nat) (tail top : Bytes) (stk : List Bytes)
    (hfa : a ≤ 9223372036854775807) :
    rangeFrom p5 ⟨natDigits a ++ 46 :: 46 :: ((if p3 then [62] else []) ++ (natDigits b ++ tail)), top :: stk⟩ =
      rangeEnd ((a : Int) - 1) p5 p3 ⟨natDigits b ++ tail, top :: stk⟩ := by
  obtain ⟨e, es, h4, he⟩ := natDigits_cons b
  have hi := fun r : Bytes => int_natDigits a (46 :: r) (top :: stk) (by simp [isDigit]) hfa
  have h62 : e ≠ 62 := isDigit_ne e 62 he (by decide)
  have h62b : (e == 62) = false := by simpa using h62
  have hlen : ∀ n : Nat, ¬ (n + 1 + 1 < 2) := by omega
  rw [h4]
  cases p3 <;> simp [rangeFrom, orPop, hi, h62, h62b, hlen]

theorem rangeEnd_run (s : Int) (p5 p3 : Bool) (b : Nat) (rest top : Bytes) (stk : List Bytes)
    (hfb : b ≤ 9223372036854775807) (hr : rest.dropWhile isDigit = rest) (h62 : ∀ r, rest ≠ 62 :: r) :
    rangeEnd s p5 p3 ⟨natDigits b ++ rest, top :: stk⟩ = (.ok (.ranged s b p5 p3), ⟨rest, stk⟩) := by
  have hj := int_natDigits b rest (top :: stk) hr hfb
  cases rest with
  | nil =>
    rw [List.append_nil] at hj
    simp [rangeEnd, orPop, hj]
  | cons c r =>
    have hc : c ≠ 62 := fun h => h62 r (by rw [h])
    simp [rangeEnd, orPop, hj, hc]

/-- the legacy spelling `a..b>` (the 3' marker after the end coordinate, location.go `parseRange`) -/
theorem rangeEnd_legacy (s : Int) (p5 p3 : Bool) (b : Nat) (rest top : Bytes) (stk : List Bytes)
    (hfb : b ≤ 9223372036854775807) :
    rangeEnd s p5 p3 ⟨natDigits b ++ 62 :: rest, top :: stk⟩ = (.ok (.ranged s b p5 true), ⟨rest, stk⟩) := by
  have hj := int_natDigits b (62 :: rest) (top :: stk) (by simp [isDigit]) hfb
  simp [rangeEnd, orPop, hj]

theorem Loc.coordOk_nat {x : Int} (h : Loc.coordOk x = true) : ∃ a : Nat, x = a ∧ a ≤ 4611686018427387904 := by
  simp only [Loc.coordOk, Bool.and_eq_true, decide_eq_true_eq] at h
  exact ⟨x.toNat, by omega, by omega⟩

/-- the printed form of a range, in the terms of the stages -/
theorem printB_ranged (a b : Nat) (p5 p3 : Bool) (rest : Bytes) :
    Loc.printB (.ranged a b p5 p3) ++ rest = (if p5 then [60] else []) ++ (natDigits (a + 1) ++ 46 :: 46 ::
      ((if p3 then [62] else []) ++ (natDigits b ++ rest))) := by
  rw [Loc.printB, dec_ofNat, dec_succ]
  simp only [List.append_assoc, List.cons_append]

theorem range_print (s e : Int) (p5 p3 : Bool) (rest : Bytes) (hs : Loc.coordOk s = true)
    (he : Loc.coordOk e = true) (hr : Sep rest) :
    Reads LocParse.range (Loc.printB (.ranged s e p5 p3) ++ rest) (.ranged s e p5 p3) rest := by
  intro stk
  obtain ⟨a, rfl, ha⟩ := Loc.coordOk_nat hs
  obtain ⟨b, rfl, hb⟩ := Loc.coordOk_nat he
  rw [printB_ranged, range_from, rangeFrom_run _ _ _ _ _ _ _ (by omega),
    rangeEnd_run _ _ _ _ _ _ _ (by omega) hr.noDigit (hr.ne 62 (by simp)),
    show ((a + 1 : Nat) : Int) - 1 = (a : Int) by omega]

theorem range_legacy (s e : Int) (p5 p3 : Bool) (rest : Bytes) (hs : Loc.coordOk s = true)
    (he : Loc.coordOk e = true) :
    Reads LocParse.range (Loc.printB (.ranged s e p5 p3) ++ 62 :: rest) (.ranged s e p5 true) rest := by
  intro stk
  obtain ⟨a, rfl, ha⟩ := Loc.coordOk_nat hs
  obtain ⟨b, rfl, hb⟩ := Loc.coordOk_nat he
  rw [printB_ranged, range_from, rangeFrom_run _ _ _ _ _ _ _ (by omega), rangeEnd_legacy _ _ _ _ _ _ _ (by omega),
    show ((a + 1 : Nat) : Int) - 1 = (a : Int) by omega]

theorem between_print (a : Nat) (rest : Bytes) (hfa : a + 1 ≤ 9223372036854775807)
    (hr : rest.dropWhile isDigit = rest) :
    Reads LocParse.between (natDigits a ++ 94 :: (natDigits (a + 1) ++ rest)) (.between a) rest := by
  intro stk
  rw [between_eq, numMarkNum_run 94 _ _ a (a + 1) rest stk rfl (by omega) hfa hr]
  simp

theorem ambiguous_print (a b : Nat) (rest : Bytes) (hfa : a + 1 ≤ 9223372036854775807)
    (hfb : b ≤ 9223372036854775807) (hr : rest.dropWhile isDigit = rest) :
    Reads LocParse.ambiguous (natDigits (a + 1) ++ 46 :: (natDigits b ++ rest)) (.ambiguous a b) rest := by
  intro stk
  rw [ambiguous_eq, numMarkNum_run 46 _ _ (a + 1) b rest stk rfl hfa hfb hr]
  simp

theorem point_natDigits (n : Nat) (r : Bytes) (hf : n ≤ 9223372036854775807) (hr : r.dropWhile isDigit = r) :
    Reads LocParse.point (natDigits n ++ r) (.point ((n : Int) - 1)) r := by
  intro stk
  simp [LocParse.point, int_natDigits n r _ hr hf]

theorem point_print (a : Nat) (rest : Bytes) (hfa : a + 1 ≤ 9223372036854775807)
    (hr : rest.dropWhile isDigit = rest) : Reads LocParse.point (natDigits (a + 1) ++ rest) (.point a) rest := by
  simpa using point_natDigits (a + 1) rest hfa hr

end Gts
