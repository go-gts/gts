/-
  C07, record scanners: why the ORIGIN reader (`originField`) never panics when the declared length
  is non-negative (the range check of `GenBankParser`); the reader itself is taken apart in
  `Gts.Lemmas.GbProgress` (`strict_originField`).
  * `validateOrigin` indexes its buffer unchecked; on a buffer of exactly `toOriginLength length`
    bytes every index is in range as long as each line index `%9d` is nine columns wide: a line
    consumes `9 + groups + 1` bytes and the line sizes add up to `toOriginLength` (`tl_step`).
    The lines start at residue `i + 1` with `i` a multiple of 60 below `length`; for
    `length ≤ 1000000020 = 60 · 16666667` (the guard `maxOriginResidues` of be672b0) that is at
    most 999999961: nine digits.  For `length = 1000000021` the last line starts at 1000000021:
    ten digits, and a WELL-FORMED block makes `validateOrigin` index one byte past its buffer
    (`Gts.C07.validateOrigin_wide_index_panics`): the constant is exactly right.
  * the slow path writes into `make([]byte, toOriginLength length)`; the same count shows that the
    store of the line feed is in range (`slowLines_ne_panic_le` of C16).
-/
import Gts.Lemmas.GbSafe
import Gts.Lemmas.Origin
namespace Gts.Origin
open Gts.Pars (Bytes Err P)

theorem le_tl (n : Nat) : n ≤ tl n := by
  unfold tl
  have : n % 10 = n % 60 % 10 := by omega
  split <;> (try split) <;> omega

/-- `validateOrigin`'s unchecked indexing stays inside a buffer that holds at least
`toOriginLength` of the residues still to be read -/
theorem validateLines_ne_panic_le (L f i : Nat) (rest : Bytes)
    (hN : Nine i L) (hlen : tl (L - i) ≤ rest.length) : validateLines (L : Int) f i rest ≠ .error .panic := by
  induction f generalizing i rest with
  | zero => simp [validateLines]
  | succ f ih =>
    unfold validateLines
    by_cases hc : ((i : Nat) : Int) < (L : Int)
    · rw [if_pos hc]
      have hstep := tl_sub_step (show i < L by omega)
      have h9 := hN.head (by omega)
      -- what the walk over a line can do (`Walked`): it panics only on a text shorter than the line
      have hw := walkLine_walked .panic L i rest
      rw [h9] at hw
      generalize walkLine .panic (L : Int) i rest = x at hw
      cases hw with
      | fail => simp
      | short hs => omega
      | ok g r e hg =>
        have hl := hg.length h9 (Nat.min_le_right ..)
        subst e
        rw [List.length_append] at hlen
        match r with
        | [] => simp only [List.length_nil] at hlen; omega
        | c :: r' =>
          simp only
          split
          · simp
          · exact ih (i + 60) r' hN.step (by simp only [List.length_cons] at hlen; omega)
    · rw [if_neg hc]; simp

theorem validateLines_ne_panic (L f i : Nat) (rest : Bytes) (hL : L < 10 ^ 9)
    (hlen : tl (L - i) ≤ rest.length) : validateLines (L : Int) f i rest ≠ .error .panic :=
  validateLines_ne_panic_le L f i rest (nine_of_lt hL) hlen

/-- for every declared length that passes the guard of `makeGenbankOriginParser`
(`length ≤ maxOriginResidues = 1000000020 = 60 · 16666667`) the lines start at `i + 1` with
`i ≤ 999999960` a multiple of 60: the index is nine columns wide and no index is out of range -/
theorem validateOrigin_ne_panic_le (p : Bytes) (L : Nat) (hL : L ≤ 1000000020) (hp : tl L ≤ p.length) :
    validateOrigin p (L : Int) ≠ .error .panic := by
  unfold validateOrigin
  exact validateLines_ne_panic_le L _ 0 p (nine_of_le hL rfl) (by simpa using hp)

theorem validateOrigin_ne_panic (p : Bytes) (L : Nat) (hL : L < 10 ^ 9) (hp : tl L ≤ p.length) :
    validateOrigin p (L : Int) ≠ .error .panic :=
  validateOrigin_ne_panic_le p L (by omega) hp

end Gts.Origin

namespace Gts.GenBank
open Gts.Pars

/-- the copy of the slow line loop inside `GenBankParse` is the one of `Gts.Origin` -/
theorem slowLines_eq (length : Int) (cap : Nat) : ∀ f i st acc,
    slowLines length cap f i st acc = Origin.slowLines length cap f i st acc
  | 0, _, _, _ => rfl
  | f + 1, i, st, acc => by
    unfold slowLines Origin.slowLines
    split
    · generalize Origin.splitLine st = sp
      obtain ⟨q, st'⟩ := sp
      simp only
      cases hw : Origin.walkLine .fail length i q with
      | error e =>
        cases e with
        | fail => rfl
        | panic => exact absurd hw (Origin.walkLine_fail_ne_panic length i q)
      | ok r =>
        simp only [Origin.allBlank, slowLines_eq length cap f]
        rfl
    · rfl

theorem slowLines_rest_le (length : Int) (cap : Nat) : ∀ f i st acc out st',
    Origin.slowLines length cap f i st acc = .ok (out, st') → st'.length ≤ st.length
  | 0, _, _, _, _, _, h => by
    simp only [Origin.slowLines] at h; cases h; exact Nat.le_refl _
  | f + 1, i, st, acc, out, st', h => by
    unfold Origin.slowLines at h
    split at h
    · have hl := splitLine_len st
      generalize Origin.splitLine st = sp at h hl
      obtain ⟨q, st1⟩ := sp
      simp only at h hl
      cases hw : Origin.walkLine .fail length i q with
      | error e => rw [hw] at h; cases h
      | ok r =>
        rw [hw] at h
        simp only at h
        split at h
        · cases h
        · split at h
          · have := slowLines_rest_le length cap f _ _ _ _ _ h
            omega
          · cases h
    · cases h; exact Nat.le_refl _

end Gts.GenBank
