/-
  `LocationList.Push` / `Join` preserve the denoted residues (set and order) of well-formed
  arguments (`wf`: every range has `Start < End`) unless the known-finding rule K2 fires.
  Well-formedness itself is a leaf invariant that survives the merge of abutting ranges, so that
  `Push` / `Join` keep it is `LeafInv`.  Core Lean only.
-/
import Gts.Lemmas.LeafInv
import Gts.Spec.Guard
namespace Gts
namespace Loc

/-- what a push function must satisfy (the induction hypothesis for the lower nesting level) -/
structure PushOK (low : List Loc → Loc → Bool → List Loc) (lowAbs : List Loc → Loc → Bool → Bool) :
    Prop where
  den : ∀ racc x f, wfList racc = true → wf x = true → lowAbs racc x f = false →
      denR (low racc x f) ≼ (denR racc ++ Loc.den x)
  wf : ∀ racc x f, wfList racc = true → wf x = true → wfList (low racc x f) = true

theorem PushOK.keepsLeaves {low lowAbs} (h : PushOK low lowAbs) : KeepsLeaves Loc.wf low := fun racc x f hr hx => by
  rw [← wfList_eq_allLeaves] at hr ⊢
  exact h.wf racc x f hr (wf_eq_allLeaves x ▸ hx)

theorem pushW_wf {low lowAbs} (h : PushOK low lowAbs) (x : Loc) (racc : List Loc) (f : Bool)
    (hr : wfList racc = true) (hx : wf x = true) : wfList (pushW low racc x f) = true := by
  rw [wfList_eq_allLeaves] at hr ⊢
  exact pushW_leaves mergeOK_wf h.keepsLeaves x racc f hr (wf_eq_allLeaves x ▸ hx)

theorem fold_den {low lowAbs} (h : PushOK low lowAbs) (f : Bool) :
    ∀ (ys racc : List Loc), wfList racc = true → wfList ys = true →
      foldAbs low lowAbs f racc ys = false →
      denR (ys.foldl (fun acc y => low acc y f) racc) ≼ (denR racc ++ denList ys)
  | [], racc, _, _, _ => by simp [Refines.refl]
  | y :: ys, racc, hr, hys, ha => by
      obtain ⟨hy, hys⟩ := Bool.and_eq_true_iff.mp hys
      obtain ⟨a1, a2⟩ := Bool.or_eq_false_iff.mp ha
      rw [denList_cons, ← List.append_assoc]
      exact (fold_den h f ys _ (h.wf racc y f hr hy) hys a2).trans ((h.den racc y f hr hy a1).append_right _)

theorem fwd_irange_merge (vs ve ue : Int) (h1 : vs < ve) (h2 : ve < ue) :
    fwd (irange vs (ve - vs).toNat) ++ fwd (irange ve (ue - ve).toNat) = fwd (irange vs (ue - vs).toNat) := by
  rw [← fwd_append, ← irange_split vs ve ue (by omega) (by omega)]

theorem point_in_ranged (us ue : Int) (h : us < ue) :
    fwd (irange us (ue - us).toNat) ≼ ((us, false) :: fwd (irange us (ue - us).toNat)) :=
  Refines.drop_dup_left _ _ (mem_fwd.mpr ⟨rfl, mem_irange.mpr ⟨by omega, by omega⟩⟩)

theorem pushOne_den {low lowAbs} (h : PushOK low lowAbs) (racc : List Loc) (x : Loc) (f : Bool)
    (hr : wfList racc = true) (hx : wf x = true) (ha : absOne low lowAbs racc x f = false) :
    denR (pushOne low racc x f) ≼ (denR racc ++ den x) := by
  cases racc with
  | nil => simp [pushOne, Refines.refl]
  | cons v rest =>
    obtain ⟨hv, -⟩ := Bool.and_eq_true_iff.mp hr
    simp only [denR_cons, List.append_assoc]
    rcases pushOne_cons low v x rest f with e | ⟨e, hd⟩ | ⟨e, hd⟩ |
      ⟨vs, ve, ue, v5, v3, u5, u3, rfl, rfl, -, e⟩ | ⟨vl, ul, rfl, rfl, e⟩ <;> rw [e] <;>
      simp only [denR_cons, List.append_assoc]
    · exact Refines.refl _
    · refine Refines.append_left _ ?_
      rcases hd with ⟨p, -, rfl⟩ | ⟨p, -, rfl⟩ | ⟨vs, ve, v5, v3, -, rfl⟩ | ⟨p, rfl, rfl⟩ |
        ⟨vs, ve, v5, v3, rfl, rfl⟩
      · simp [Refines.refl]
      · simp [Refines.refl]
      · simp [Refines.refl]
      · exact Refines.drop_dup_left _ _ (by simp)
      · simp [absOne] at ha
    · refine Refines.append_left _ ?_
      rcases hd with ⟨p, rfl, -⟩ | ⟨p, ue, u5, u3, rfl, -⟩ | ⟨p, ue, u5, u3, rfl, rfl⟩
      · simp [Refines.refl]
      · simp [Refines.refl]
      · exact point_in_ranged _ _ (of_decide_eq_true hx)
    · rw [den_ranged, den_ranged, den_ranged,
        fwd_irange_merge vs ve ue (of_decide_eq_true hv) (of_decide_eq_true hx)]
      exact Refines.refl _
    · -- the inner `Push` and `Join` run on the reversed pair, one level down
      have hvl : wf vl = true := hv
      have hul : wfList [ul] = true := Bool.and_eq_true_iff.mpr ⟨hx, rfl⟩
      obtain ⟨a1, a2⟩ := Bool.or_eq_false_iff.mp ha
      have h2 := fold_den h true (low [ul] vl f).reverse [] rfl
        (by rw [wfList_reverse]; exact h.wf [ul] vl f hul hvl) a2
      have h3 := (h2.trans (h.den [ul] vl f hul hvl a1)).flip
      rw [denR_cons, denR_nil, List.nil_append, flipDen_append] at h3
      rw [den_compl, den_compl, den_compl, inner_den]
      exact Refines.append_left _ h3

mutual
theorem pushW_den {low lowAbs} (h : PushOK low lowAbs) :
    ∀ (x : Loc) (racc : List Loc) (f : Bool), wfList racc = true → wf x = true →
      absW low lowAbs racc x f = false → denR (pushW low racc x f) ≼ (denR racc ++ den x)
  | joined parts, racc, f, hr, hx, ha => pushListW_den h parts racc f hr hx ha
  | between _, racc, f, hr, hx, ha | point _, racc, f, hr, hx, ha | ranged _ _ _ _, racc, f, hr, hx, ha
  | ambiguous _ _, racc, f, hr, hx, ha | ordered _, racc, f, hr, hx, ha | compl _, racc, f, hr, hx, ha =>
      pushOne_den h racc _ f hr hx ha
theorem pushListW_den {low lowAbs} (h : PushOK low lowAbs) :
    ∀ (ps : List Loc) (racc : List Loc) (f : Bool), wfList racc = true → wfList ps = true →
      absListW low lowAbs racc ps f = false →
      denR (pushListW low racc ps f) ≼ (denR racc ++ denList ps)
  | [], racc, f, _, _, _ => (List.append_nil _).symm ▸ Refines.refl _
  | p :: ps, racc, f, hr, hps, ha => by
      obtain ⟨hp1, hp2⟩ := Bool.and_eq_true_iff.mp hps
      obtain ⟨a1, a2⟩ := Bool.or_eq_false_iff.mp ha
      rw [denList_cons, ← List.append_assoc]
      exact (pushListW_den h ps _ f (pushW_wf h p racc f hr hp1) hp2 a2).trans
        ((pushW_den h p racc f hr hp1 a1).append_right _)
end

theorem pushD_ok : ∀ d, PushOK (pushD d) (absD d)
  | 0 => ⟨fun racc x f _ _ _ => by simp [pushD, Refines.refl], fun racc x f hr hx => by simp [pushD, hr, hx]⟩
  | d + 1 => ⟨fun racc x f => pushW_den (pushD_ok d) x racc f, fun racc x f => pushW_wf (pushD_ok d) x racc f⟩

/-- **Join preserves meaning**: unless rule K2 fires, `Join(xs...)` denotes the residues of its
arguments, in order, with duplicate occurrences possibly dropped. -/
theorem joinD_den (d : Nat) (xs : List Loc) (hw : wfList xs = true) (ha : joinAbsD d xs = false) :
    den (joinD d xs) ≼ denList xs := by
  simpa [joinD, inner_den, denR, pushAllD] using fold_den (pushD_ok d) true xs [] rfl hw ha

theorem join_den (xs : List Loc) (hw : wfList xs = true) (ha : joinAbs xs = false) :
    den (join xs) ≼ denList xs := joinD_den _ xs hw ha

theorem join_wf (xs : List Loc) (hw : wfList xs = true) : wf (join xs) = true := by
  rw [wf_eq_allLeaves]
  exact join_leaves mergeOK_wf xs (wfList_eq_allLeaves xs ▸ hw)

end Loc
end Gts
