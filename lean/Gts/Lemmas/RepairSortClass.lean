/-
  `Repair` with the sorting algorithm as a parameter: one class.
  * correct sorts (`SortedPerm`) besides the model's insertion sort (Lemmas/RepairIdem.lean): the
    insertion sort of the reversed list, a sort given by a table (`assocSort`); the Boolean check
    `sortedPermB` is sound;
  * a tie-free list has exactly one sorted permutation;
  * an inert list is pushed to itself, in whatever order;
  * two sorts that agree on every class, or meet an inert class, give the same `Repair`.
  Core Lean only.
-/
import Gts.Spec.RepairSortGuard
import Gts.Lemmas.RepairRestore
import Gts.Lemmas.RepairEq
namespace Gts
open Loc

theorem sortedB_iff {α : Type} (less : α → α → Bool) (l : List α) :
    sortedB less l = true ↔ l.Pairwise fun a b => less b a = false := by
  induction l with
  | nil => simp [sortedB]
  | cons a as ih => simp [sortedB, ih, List.pairwise_cons]

theorem any_beq_iff_mem (a : Loc) (ys : List Loc) : ys.any (Loc.beq a) = true ↔ a ∈ ys := by
  simp only [List.any_eq_true, Loc.beq_iff]
  constructor
  · rintro ⟨x, hx, rfl⟩; exact hx
  · intro h; exact ⟨a, h, rfl⟩

theorem eraseP_beq_perm (a : Loc) (ys : List Loc) (h : a ∈ ys) : ys.Perm (a :: ys.eraseP (Loc.beq a)) := by
  induction ys with
  | nil => cases h
  | cons y ys ih =>
    by_cases e : Loc.beq a y = true
    · have := (Loc.beq_iff a y).mp e
      subst this
      simp [e]
    · have hne : a ≠ y := fun h' => e ((Loc.beq_iff a y).mpr h')
      have hm : a ∈ ys := by
        rcases List.mem_cons.mp h with h | h
        · exact absurd h hne
        · exact h
      simp only [List.eraseP_cons, e]
      exact (List.Perm.cons y (ih hm)).trans (List.Perm.swap a y _)

theorem permB_sound (xs ys : List Loc) (h : permB xs ys = true) : ys.Perm xs := by
  induction xs generalizing ys with
  | nil =>
    simp only [permB, List.isEmpty_iff] at h
    subst h
    exact List.Perm.refl _
  | cons a xs ih =>
    simp only [permB, Bool.and_eq_true] at h
    have hm := (any_beq_iff_mem a ys).mp h.1
    exact (eraseP_beq_perm a ys hm).trans (List.Perm.cons a (ih _ h.2))

theorem sortedPermB_sound (xs ys : List Loc) (h : sortedPermB xs ys = true) : SortedPerm Loc.less xs ys := by
  simp only [sortedPermB, Bool.and_eq_true] at h
  exact ⟨permB_sound xs ys h.1, (sortedB_iff _ _).mp h.2⟩

/-- the insertion sort of the reversed list (ties come out in the opposite order) is a correct
sort, too -/
theorem sortLocs_reverse_correct : CorrectSort fun xs => sortLocs xs.reverse :=
  fun xs => ⟨(sortLocs_perm _).trans (List.reverse_perm xs), sortLocs_pairwise _⟩

theorem assocSort_correct (tbl : List (List Loc × List Loc)) : CorrectSort (assocSort tbl) := by
  intro xs
  simp only [assocSort]
  split
  · split
    · rename_i h; exact sortedPermB_sound _ _ h
    · exact sortLocs_correct xs
  · exact sortLocs_correct xs

theorem tieFree_iff (l : List Loc) :
    tieFree l = true ↔ ∀ a ∈ l, ∀ b ∈ l, less a b = true ∨ less b a = true ∨ a = b := by
  simp only [tieFree, List.all_eq_true, comparable, Bool.or_eq_true, Loc.beq_iff, or_assoc]

theorem sortedPerm_unique {xs ys zs : List Loc} (h1 : SortedPerm less xs ys) (h2 : SortedPerm less xs zs)
    (ht : tieFree xs = true) : ys = zs :=
  sortedPerm_unique_of_comparable h1 h2 ((tieFree_iff xs).mp ht)

theorem sort_eq_sortLocs_of_tieFree (sort : List Loc → List Loc) (hs : CorrectSort sort) (xs : List Loc)
    (ht : tieFree xs = true) : sort xs = sortLocs xs :=
  sortedPerm_unique (hs xs) (sortLocs_correct xs) ht

theorem sortIndep_of_tieFreeT (t : Table) (h : Table.tieFreeT t = true) : Table.sortIndep t = true := by
  simp only [Table.tieFreeT, Table.sortIndep, List.all_eq_true, Bool.or_eq_true] at h ⊢
  exact fun idx hi => Or.inl (h idx hi)

/-- the symmetric closure of `inertPair` -/
def inertBoth (f : Bool) (a b : Loc) : Prop := inertPair f a b = true ∧ inertPair f b a = true

theorem inertList_iff (f : Bool) (l : List Loc) :
    inertList f l = true ↔ (∀ a ∈ l, a.isJoined = false) ∧ l.Pairwise (inertBoth f) := by
  induction l with
  | nil => simp [inertList]
  | cons a as ih =>
    simp only [inertList, Bool.and_eq_true, Bool.not_eq_true', List.all_eq_true, ih, List.mem_cons,
      forall_eq_or_imp, List.pairwise_cons, inertBoth]
    constructor
    · rintro ⟨⟨h1, h2⟩, h3, h4⟩; exact ⟨⟨h1, h3⟩, h2, h4⟩
    · rintro ⟨⟨h1, h3⟩, h2, h4⟩; exact ⟨⟨h1, h2⟩, h3, h4⟩

theorem pushedOfWith_inert (sort : List Loc → List Loc) (hp : ∀ xs, (sort xs).Perm xs) (f : Bool)
    (xs : List Loc) (hi : inertList f xs = true) : pushedOfWith sort f xs = sort xs := by
  obtain ⟨hj, hpw⟩ := (inertList_iff f xs).mp hi
  have hpw' : (sort xs).Pairwise (inertBoth f) :=
    ((hp xs).pairwise_iff (fun {a b} h => ⟨h.2, h.1⟩)).mpr hpw
  have : pushAll [] (sort xs) f = (sort xs).reverse := pushAllD_inert_nil (pushFuel - 1) f (sort xs)
    (fun y hy => hj y ((hp xs).mem_iff.mp hy)) (pairwise_chainP (hpw'.imp fun h => h.1))
  rw [pushedOfWith, this, List.reverse_reverse]

theorem newLocs_inert (sort : List Loc → List Loc) (hp : PermSort sort) (f : Bool) (ls : List Loc)
    (hi : inertList f ls = true) : newLocs sort f ls = ls := by
  rw [newLocs_eq_self_iff, pushedOfWith_inert sort hp f ls hi, ← (hp ls).length_eq]
  exact le_sliceLen _

/-- **`Repair` does not depend on the sorting algorithm** when every class has a unique sorted
permutation or is inert under `Push` -/
theorem repairWith_eq_of_sortIndep (s1 s2 : List Loc → List Loc) (h1 : CorrectSort s1) (h2 : CorrectSort s2)
    (t : Table) (hg : Table.sortIndep t = true) : repairWith s1 t = repairWith s2 t := by
  apply repairWith_congr_classes
  intro k hk
  rw [Table.sortIndep, groups_all t fun f ls => tieFree ls || inertList f ls, List.all_eq_true] at hg
  rcases Bool.or_eq_true_iff.mp (hg k hk) with ht | hin
  · exact newLocs_of_sort_eq s1 s2 _ _
      ((sort_eq_sortLocs_of_tieFree s1 h1 _ ht).trans (sort_eq_sortLocs_of_tieFree s2 h2 _ ht).symm)
  · rw [newLocs_inert s1 h1.permSort _ _ hin, newLocs_inert s2 h2.permSort _ _ hin]

end Gts
