/-
  The oracle's `outerLeaves` (first / last residue-bearing leaf in reading order,
  `Gts/Spec/Marks.lean`) computed compositionally (`ol`), and its relation to the denotation:
  the first residue a location reads is the first residue of its first outer leaf, the last one
  the last residue of its last outer leaf.  Core Lean only.
-/
import Gts.Lemmas.Marks
namespace Gts
namespace Loc

/-- a leaf with its reading strand -/
abbrev DL := Loc × Bool
/-- `none`: no residue-bearing leaf; `some (first, last)` -/
abbrev OL := Option (DL × DL)

def ocomb : OL → OL → OL
  | none, b => b
  | some a, none => some a
  | some a, some b => some (a.1, b.2)

def dflip (d : DL) : DL := (d.1, !d.2)

def oswap : OL → OL
  | none => none
  | some a => some (dflip a.2, dflip a.1)

@[simp] theorem ocomb_none_left (b : OL) : ocomb none b = b := rfl
@[simp] theorem ocomb_none_right (a : OL) : ocomb a none = a := by cases a <;> rfl
theorem ocomb_assoc (a b c : OL) : ocomb (ocomb a b) c = ocomb a (ocomb b c) := by
  cases a <;> cases b <;> cases c <;> rfl
theorem oswap_ocomb (a b : OL) : oswap (ocomb a b) = ocomb (oswap b) (oswap a) := by
  cases a <;> cases b <;> rfl
@[simp] theorem oswap_none : oswap none = none := rfl

/-- the outer leaves of one leaf -/
def olLeaf (l : Loc) : OL := if bears (l, false) then some ((l, false), (l, false)) else none

mutual
/-- first / last residue-bearing leaf in reading order, by structural recursion -/
def ol : Loc → OL
  | joined ls => olList ls
  | ordered ls => olList ls
  | compl l => oswap (ol l)
  | l => olLeaf l
def olList : List Loc → OL
  | [] => none
  | l :: ls => ocomb (ol l) (olList ls)
end

@[simp] theorem ol_between (p : Int) : ol (between p) = none := by simp [ol, olLeaf, bears, len]
@[simp] theorem ol_point (p : Int) : ol (point p) = some ((point p, false), (point p, false)) := by
  simp [ol, olLeaf, bears, len]
@[simp] theorem ol_ranged (s e : Int) (a b : Bool) :
    ol (ranged s e a b) =
      if s < e then some ((ranged s e a b, false), (ranged s e a b, false)) else none := by
  by_cases h : s < e <;> simp [ol, olLeaf, bears, len, h]
@[simp] theorem ol_ambiguous (s e : Int) :
    ol (ambiguous s e) = some ((ambiguous s e, false), (ambiguous s e, false)) := by
  simp [ol, olLeaf, bears, len]
@[simp] theorem ol_joined (ls : List Loc) : ol (joined ls) = olList ls := by simp [ol]
@[simp] theorem ol_ordered (ls : List Loc) : ol (ordered ls) = olList ls := by simp [ol]
@[simp] theorem ol_compl (l : Loc) : ol (compl l) = oswap (ol l) := by simp [ol]
@[simp] theorem olList_nil : olList [] = none := by simp [olList]
@[simp] theorem olList_cons (l : Loc) (ls : List Loc) : olList (l :: ls) = ocomb (ol l) (olList ls) := by
  simp [olList]

def lol (F : List DL) : OL := F.foldr (fun d acc => ocomb (some (d, d)) acc) none

@[simp] theorem lol_nil : lol [] = none := rfl
@[simp] theorem lol_cons (d : DL) (F : List DL) : lol (d :: F) = ocomb (some (d, d)) (lol F) := rfl

theorem lol_append (A B : List DL) : lol (A ++ B) = ocomb (lol A) (lol B) := by
  induction A with
  | nil => simp
  | cons a A ih => simp [ih, ocomb_assoc]

theorem lol_eq_ends : ∀ (F : List DL),
    lol F = match F.head?, F.getLast? with
      | some a, some b => some (a, b)
      | _, _ => none
  | [] => rfl
  | [a] => rfl
  | a :: b :: t => by
      have ih := lol_eq_ends (b :: t)
      rw [lol_cons, ih]
      simp only [List.head?_cons, List.getLast?_cons_cons]
      cases h : (b :: t).getLast? with
      | none => simp at h
      | some x => rfl

theorem outerLeaves_eq_lol (l : Loc) : outerLeaves l = lol ((denLeaves l).filter bears) := by
  unfold outerLeaves
  rw [lol_eq_ends]
  cases ((denLeaves l).filter bears).head? <;> cases ((denLeaves l).filter bears).getLast? <;> rfl

theorem lol_flipLeaves (F : List DL) : lol (flipLeaves F) = oswap (lol F) := by
  induction F with
  | nil => rfl
  | cons d F ih =>
    rw [flipLeaves_cons, lol_append, ih, lol_cons (d := d), oswap_ocomb]
    rfl

mutual
theorem ol_eq_lol : ∀ (l : Loc), ol l = lol ((denLeaves l).filter bears)
  | between p => by simp [denLeaves, bears, len]
  | point p => by simp [denLeaves, bears, len, ocomb]
  | ranged s e a b => by
      by_cases h : s < e
      · simp [denLeaves, bears, len, ocomb, h]
      · simp [denLeaves, bears, len, h]
  | ambiguous s e => by simp [denLeaves, bears, len, ocomb]
  | joined ls | ordered ls => by simpa [denLeaves] using olList_eq_lol ls
  | compl l => by
      rw [ol_compl, ol_eq_lol l]
      simp only [denLeaves]
      rw [filter_bears_flipLeaves, lol_flipLeaves]
theorem olList_eq_lol : ∀ (ls : List Loc), olList ls = lol ((denLeavesList ls).filter bears)
  | [] => by simp [denLeavesList]
  | l :: ls => by
      simp only [olList_cons, denLeavesList, List.filter_append, lol_append]
      rw [ol_eq_lol l, olList_eq_lol ls]
end

/-- **the oracle's `outerLeaves` is the compositional `ol`** -/
theorem outerLeaves_eq (l : Loc) : outerLeaves l = ol l := by
  rw [outerLeaves_eq_lol, ol_eq_lol]

/-- the residues read from a leaf on its reading strand -/
def leafDen (d : DL) : List Pos := if d.2 then flipDen (den d.1) else den d.1

theorem leafDen_dflip (d : DL) : leafDen (dflip d) = flipDen (leafDen d) := by
  obtain ⟨l, b⟩ := d
  cases b <;> simp [leafDen, dflip, flipDen_flipDen]

theorem head?_flipDen (D : List Pos) : (flipDen D).head? = D.getLast?.map fun p => (p.1, !p.2) := by
  simp [flipDen, List.head?_reverse]

theorem getLast?_flipDen (D : List Pos) : (flipDen D).getLast? = D.head?.map fun p => (p.1, !p.2) := by
  simp [flipDen, List.getLast?_reverse]

theorem flipDen_ne_nil {D : List Pos} (h : D ≠ []) : flipDen D ≠ [] := by
  cases D with
  | nil => exact absurd rfl h
  | cons a t => simp [flipDen]

/-- what `ol` says about the denotation -/
def OuterDen (o : OL) (D : List Pos) : Prop :=
  match o with
  | none => D = []
  | some (a, b) => leafDen a ≠ [] ∧ leafDen b ≠ [] ∧ D.head? = (leafDen a).head? ∧
      D.getLast? = (leafDen b).getLast?

theorem OuterDen.append {o1 o2 : OL} {D1 D2 : List Pos} (h1 : OuterDen o1 D1) (h2 : OuterDen o2 D2) :
    OuterDen (ocomb o1 o2) (D1 ++ D2) := by
  cases o1 with
  | none =>
    simp only [OuterDen] at h1
    subst h1
    simpa using h2
  | some x =>
    obtain ⟨a, b⟩ := x
    cases o2 with
    | none =>
      simp only [OuterDen] at h2
      subst h2
      simpa using h1
    | some y =>
      obtain ⟨c, d⟩ := y
      simp only [OuterDen] at h1 h2 ⊢
      simp only [ocomb]
      obtain ⟨ha, hb, h1h, h1l⟩ := h1
      obtain ⟨hc, hd, h2h, h2l⟩ := h2
      refine ⟨ha, hd, ?_, ?_⟩
      · rw [List.head?_append, h1h]
        cases hx : leafDen a with
        | nil => exact absurd hx ha
        | cons _ _ => simp
      · rw [List.getLast?_append, h2l]
        cases hx : (leafDen d).getLast? with
        | none => exact absurd (List.getLast?_eq_none_iff.mp hx) hd
        | some y => rfl

theorem OuterDen.flip {o : OL} {D : List Pos} (h : OuterDen o D) : OuterDen (oswap o) (flipDen D) := by
  cases o with
  | none =>
    simp only [OuterDen] at h
    subst h
    simp [OuterDen]
  | some x =>
    obtain ⟨a, b⟩ := x
    simp only [OuterDen] at h
    obtain ⟨ha, hb, hh, hl⟩ := h
    simp only [oswap, OuterDen, leafDen_dflip]
    refine ⟨flipDen_ne_nil hb, flipDen_ne_nil ha, ?_, ?_⟩
    · rw [head?_flipDen, head?_flipDen, hl]
    · rw [getLast?_flipDen, getLast?_flipDen, hh]

mutual
/-- the first (last) residue read by a well-formed location is the first (last) residue of its
first (last) outer leaf; without outer leaves it denotes nothing -/
theorem outerDen : ∀ (l : Loc), wf l = true → OuterDen (ol l) (den l)
  | between p, _ => by simp [OuterDen]
  | point p, _ => by simp [OuterDen, leafDen]
  | ranged s e .., h | ambiguous s e, h => by
      have h' : s < e := of_decide_eq_true h
      obtain ⟨m, hm⟩ : ∃ m, (e - s).toNat = m + 1 := ⟨(e - s).toNat - 1, by omega⟩
      simp [OuterDen, leafDen, h', hm, fwd]
  | joined ls, h | ordered ls, h => outerDenList ls h
  | compl l, h => by
      rw [ol_compl, den_compl]
      exact (outerDen l h).flip
theorem outerDenList : ∀ (ls : List Loc), wfList ls = true → OuterDen (olList ls) (denList ls)
  | [], _ => by simp [OuterDen]
  | l :: ls, h => by
      simp only [wfList_cons, Bool.and_eq_true] at h
      rw [olList_cons, denList_cons]
      exact (outerDen l h.1).append (outerDenList ls h.2)
end

end Loc
end Gts
