/-
  Helper lemmas about the cache protocol (Gts/Model/CacheProto.lean, CacheProtoFault.lean): `cache.Open` after a change
  of the directory, which `Write` of the tee fails first, what a miss shows and leaves under the entry's name (with a
  fault and without), and what a run under faults leaves of the directory.  Uses the C13 fault theorems.
-/
import Gts.Model.CacheProtoFault
import Gts.Props.C13
namespace Gts.CacheProto
open Gts.Cache

variable {Cmd Input : Type}

theorem openAt_set_ne {H : Bytes → Bytes} {d : Nat} (σ : Store) (n : String) (v : Option Bytes) (rs qs : Bytes)
    (h : name H rs qs ≠ n) : openAt H d (Store.set σ n v) rs qs = openAt H d σ rs qs := by
  simp [openAt, Store.set, h]

theorem openAt_set_none {H : Bytes → Bytes} {d : Nat} (σ : Store) (rs qs : Bytes) :
    openAt H d (Store.set σ (name H rs qs) none) rs qs = .error .notFound := by
  simp [openAt, Store.set]

theorem openAt_set_some {H : Bytes → Bytes} {d : Nat} (σ : Store) {n : String} (f rs qs : Bytes) (h : name H rs qs = n) :
    openAt H d (Store.set σ n (some f)) rs qs = openf H d f rs qs := by
  simp [openAt, Store.set, h]

theorem firstFault_nil (n : Nat) : firstFault n [] = none := by
  cases n <;> rfl

theorem firstErr_none_iff (es : List (Option FErr)) : firstErr es = none ↔ ∀ e ∈ es, e = none := by
  induction es with
  | nil => simp [firstErr]
  | cons e t ih =>
    cases e with
    | none => simp [firstErr, ih]
    | some x => simp [firstErr]

theorem firstErr_some_mem {es : List (Option FErr)} {k : Nat} (h : firstErr es = some k) :
    ∃ e ∈ es, e ≠ none := by
  have : ¬ ∀ e ∈ es, e = none := fun hall => by
    rw [(firstErr_none_iff es).2 hall] at h; cases h
  simpa using this

/-- the `Write` calls of a writer that is not broken fail exactly where the schedule says -/
theorem firstErr_writesF (deflate : Bytes → Bytes) (ch : List Bytes) :
    ∀ (fs : List (Option Nat)) (w : FWriter), w.broken = false →
      firstErr (writesF deflate w (zipFaults ch fs)).2 = firstFault ch.length fs := by
  induction ch with
  | nil => intro fs w _; cases fs <;> rfl
  | cons p ps ih =>
    intro fs w hb
    have h1 : writeF deflate w p none = ({ w with plain := w.plain ++ p }, none) := by
      simp [writeF, hb]
    cases fs with
    | nil =>
      simp only [zipFaults, writesF, List.length_cons, firstFault, h1, firstErr]
      rw [ih [] { w with plain := w.plain ++ p } hb, firstFault_nil]; rfl
    | cons f ft =>
      cases f with
      | none =>
        simp only [zipFaults, writesF, List.length_cons, firstFault, h1, firstErr]
        rw [ih ft { w with plain := w.plain ++ p } hb]
      | some k =>
        simp only [zipFaults, writesF, List.length_cons, firstFault]
        have h1 : (writeF deflate w p (some k)).2 = some .flate := by simp [writeF, hb]
        simp only [h1, firstErr]

theorem zipFaults_written (ch : List Bytes) : ∀ fs : List (Option Nat),
    ((zipFaults ch fs).map (·.1)) = ch := by
  induction ch with
  | nil => intro fs; cases fs <;> rfl
  | cons p ps ih =>
    intro fs
    cases fs with
    | nil => simp [zipFaults, ih]
    | cons f ft => simp [zipFaults, ih]

/-- a schedule without a fault entry among the calls: nothing surfaces -/
theorem firstFault_none_of_all_none (n : Nat) : ∀ fs : List (Option Nat),
    (∀ f ∈ fs, f = none) → firstFault n fs = none := by
  induction n with
  | zero => intro fs _; rfl
  | succ n ih =>
    intro fs h
    cases fs with
    | nil => rfl
    | cons f ft =>
      have hf : f = none := h f (List.mem_cons_self ..)
      subst hf
      simp only [firstFault]
      rw [ih ft (fun g hg => h g (List.mem_cons_of_mem _ hg))]; rfl

theorem firstFault_lt {n : Nat} : ∀ {fs : List (Option Nat)} {k : Nat}, firstFault n fs = some k → k < n := by
  induction n with
  | zero => intro fs k h; cases h
  | succ n ih =>
    intro fs k h
    cases fs with
    | nil => cases h
    | cons f ft =>
      cases f with
      | none =>
        simp only [firstFault, Option.map_eq_some_iff] at h
        obtain ⟨j, hj, rfl⟩ := h
        have := ih hj
        omega
      | some x =>
        simp only [firstFault, Option.some.injEq] at h
        omega

theorem createF_broken (d : Nat) (r q : Bytes) (cf : Option Nat) : (createF d r q cf).1.broken = false := by
  cases cf <;> rfl

/-- the first failing `Write` of a miss is the one the schedule names -/
theorem missF_werr (W : FWorld Cmd Input) (r : FRun Cmd Input) (cf : Option Nat) :
    firstErr (runSession W.H W.d W.deflate (W.rsum r.input) (W.dsum r.cmd) (sessionOf W r cf)).writeErrs
      = surfaced W r := by
  simp only [runSession, sessionOf, surfaced]
  exact firstErr_writesF W.deflate _ _ _ (createF_broken ..)

/-- **what a miss shows**: the uncached observation, unless a `Write` of the tee fails -/
theorem missF_obs (W : FWorld Cmd Input) (r : FRun Cmd Input) (cf : Option Nat) :
    (missF W r cf).2 = match surfaced W r with
      | none => (W.exec r.cmd r.input).observed
      | some k => faultObserved W r k := by
  simp only [missF, missF_werr]
  cases surfaced W r <;> rfl

theorem sessionOf_written (W : FWorld Cmd Input) (r : FRun Cmd Input) (cf : Option Nat) :
    (sessionOf W r cf).written = (W.chunks r.cmd r.input).flatten := by
  simp [Session.written, sessionOf, zipFaults_written]

/-- a session of a miss in which `CreateLevel`, every `Write` and `Close` returned nil has left the finished entry of
everything the body wrote -/
theorem sessionOf_disk (W : FWorld Cmd Input) (r : FRun Cmd Input) (cf : Option Nat) {res : SessionResult}
    (hres : runSession W.H W.d W.deflate (W.rsum r.input) (W.dsum r.cmd) (sessionOf W r cf) = res)
    (hc : res.createErr = none) (hs : surfaced W r = none) (hcl : res.closeErr = none) :
    res.disk = finish W.H W.d W.deflate (W.rsum r.input) (W.dsum r.cmd) (W.chunks r.cmd r.input).flatten := by
  subst hres
  rw [← sessionOf_written W r cf]
  refine C13.close_ok_roundtrip _ _ _ _ ?_
  simp only [SessionResult.clean, Bool.and_eq_true, List.all_eq_true, Option.isNone_iff_eq_none]
  exact ⟨⟨hc, (firstErr_none_iff _).1 ((missF_werr W r cf).trans hs)⟩, hcl⟩

/-- **what a miss leaves when no `os.Remove` fails**: if there is a file under the entry's name
afterwards, then `CreateLevel`, every `Write` and `Close` returned nil, `Commit` was reached, and the
file is the finished entry of everything the body wrote. -/
theorem missF_kept (W : FWorld Cmd Input) (r : FRun Cmd Input) (cf : Option Nat)
    (hrm : r.faults.removeWorks = true) {disk : Bytes} (h : (missF W r cf).1 = some disk) :
    disk = finish W.H W.d W.deflate (W.rsum r.input) (W.dsum r.cmd) (W.chunks r.cmd r.input).flatten
      ∧ (W.exec r.cmd r.input).committed = true ∧ surfaced W r = none := by
  simp only [Faults.removeWorks, Bool.and_eq_true, Bool.not_eq_true'] at hrm
  generalize hres : runSession W.H W.d W.deflate (W.rsum r.input) (W.dsum r.cmd) (sessionOf W r cf) = res
  have hw := missF_werr W r cf
  rw [hres] at hw
  -- the name is linked and not removed: `CreateLevel` and `Close` returned nil and the run committed
  simp only [missF, hres, hw, hrm.1, hrm.2, Bool.or_false, Bool.not_false, Bool.and_true, Option.ite_none_right_eq_some,
    Bool.and_eq_true, Bool.not_eq_true', Bool.or_eq_false_iff, Bool.not_eq_false', Option.isNone_iff_eq_none,
    Option.isSome_eq_false_iff, Option.some.injEq] at h
  obtain ⟨⟨hc1, hc2, hc3⟩, rfl⟩ := h
  -- no write error surfaced: otherwise `Close` reports it
  have hsurf : surfaced W r = none := by
    cases hs : surfaced W r with
    | none => rfl
    | some k =>
      have hce := C13.write_failure_reported_by_close (H := W.H) (d := W.d) W.deflate
        (W.rsum r.input) (W.dsum r.cmd) (sessionOf W r cf) (by rw [hres]; exact firstErr_some_mem (hw.trans hs))
      rw [hres, hc2] at hce
      cases hce
  rw [hsurf] at hc3
  exact ⟨sessionOf_disk W r cf hres hc1 hsurf hc2, hc3, hsurf⟩

/-- a miss without a fault: `Close` succeeds, the entry is kept exactly when the run committed -/
theorem missF_nofault (W : FWorld Cmd Input) (r : FRun Cmd Input) (hf : r.faults = {}) :
    missF W r none =
      (if (W.exec r.cmd r.input).committed then
          some (finish W.H W.d W.deflate (W.rsum r.input) (W.dsum r.cmd) (W.chunks r.cmd r.input).flatten)
        else none, (W.exec r.cmd r.input).observed) := by
  have hsurf : surfaced W r = none := by
    simp only [surfaced, hf]; exact firstFault_nil _
  have hw := missF_werr W r none
  rw [hsurf] at hw
  have hc1 : (runSession W.H W.d W.deflate (W.rsum r.input) (W.dsum r.cmd) (sessionOf W r none)).createErr = none := rfl
  -- no `Write` failed, so the flate writer is not broken, and no step of `Close` fails
  have hc3 : (runSession W.H W.d W.deflate (W.rsum r.input) (W.dsum r.cmd) (sessionOf W r none)).closeErr = none := by
    have hall := (firstErr_none_iff _).1 hw
    simp only [runSession, sessionOf, hf, createF] at hall ⊢
    rw [writesF_clean W.deflate _ _ rfl hall, closeF_err]
    rfl
  simp only [missF, hw, hc1, hc3, sessionOf_disk W r none rfl hc1 hsurf hc3, hf]
  cases (W.exec r.cmd r.input).committed <;> rfl

/-- **the directory after a run under faults**: a run that does not tee (`armed`) leaves it as it was or without its entry (a
hit to a file); a run that tees got past `TryCache` and leaves under its entry's name what the miss leaves -/
theorem stepF_store (W : FWorld Cmd Input) (σ : Store) (r : FRun Cmd Input) :
    (armed W σ r = false ∧ ((stepF W σ r).1 = σ ∨ (stepF W σ r).1 = Store.set σ (W.entry r.cmd r.input) none)) ∨
    ((W.exec r.cmd r.input).early = false ∧
      ∃ cf, (stepF W σ r).1 = Store.set σ (W.entry r.cmd r.input) (missF W r cf).1) := by
  unfold stepF armed
  simp only
  cases hb : (r.nocache || !r.usable || (W.exec r.cmd r.input).early)
  · have hearly := (Bool.or_eq_false_iff.1 hb).2
    rw [if_neg nofun]
    cases openAt W.H W.d σ (W.rsum r.input) (W.dsum r.cmd) with
    | ok body =>
      refine .inl ⟨rfl, ?_⟩
      dsimp only
      split
      · split
        · exact .inr rfl
        · exact .inl rfl
      · exact .inl rfl
    | error e =>
      cases r.faults.create with
      | osCreate => exact .inl ⟨rfl, .inl rfl⟩
      | works => exact .inr ⟨hearly, none, rfl⟩
      | placeholder k => exact .inr ⟨hearly, some k, rfl⟩
  · exact .inl ⟨rfl, .inl rfl⟩

end Gts.CacheProto
