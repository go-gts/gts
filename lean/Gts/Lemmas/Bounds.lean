/-
  "No resulting location refers to a position outside the new sequence" for Delete, on
  `coordsAll (inB 0 L)`.  Core Lean only.
-/
import Gts.Lemmas.Coords
import Gts.Lemmas.Delete
namespace Gts
namespace Loc

/-- `lo ≤ x ≤ hi` -/
def inB (lo hi : Int) (x : Int) : Bool := decide (lo ≤ x) && decide (x ≤ hi)

theorem inB_iff (lo hi x : Int) : inB lo hi x = true ↔ lo ≤ x ∧ x ≤ hi := by simp [inB]

theorem delStart_bounds (L s i k : Int) (hi : 0 ≤ i) (hL : i + k ≤ L) (h0 : 0 ≤ s) (h1 : s ≤ L) :
    0 ≤ delStart s i k ∧ delStart s i k ≤ L - k := by
  unfold delStart; omega

theorem delEnd_bounds (L e i k : Int) (hi : 0 ≤ i) (hL : i + k ≤ L) (h0 : 0 ≤ e) (h1 : e ≤ L) :
    0 ≤ delEnd e i k ∧ delEnd e i k ≤ L - k := by
  unfold delEnd; omega

/-- the contiguous kinds: all coordinates end up in `[0, L-k]` -/
theorem expand_del_coords_leaf (L i k : Int) (hi : 0 ≤ i) (hk : 0 < k) (hL : i + k ≤ L) (u : Loc)
    (hu : isContig u = true) (h : coordsAll (inB 0 L) u = true) :
    allLeaves (coordsAll (inB 0 (L - k))) (expand u i (-k)) = true := by
  rw [← coordsAll_eq_allLeaves]
  match u, hu, h with
  | between p, _, h =>
      have hp := (inB_iff 0 L p).mp h
      rw [expand, betweenExpand_del]
      exact (inB_iff ..).mpr (delStart_bounds L p i k hi hL hp.1 hp.2)
  | point p, _, h =>
      obtain ⟨h1, h2⟩ := Bool.and_eq_true_iff.mp h
      rw [inB_iff] at h1 h2
      rw [expand, pointExpand_del p i k hk]
      split
      · exact (inB_iff ..).mpr (by omega)
      · refine Bool.and_eq_true_iff.mpr ⟨(inB_iff ..).mpr ?_, (inB_iff ..).mpr ?_⟩ <;> unfold delStart <;> omega
  | ranged s e a b, _, h =>
      obtain ⟨h1, h2⟩ := Bool.and_eq_true_iff.mp h
      rw [inB_iff] at h1 h2
      have b1 := (inB_iff ..).mpr (delStart_bounds L s i k hi hL h1.1 h1.2)
      have b2 := (inB_iff ..).mpr (delEnd_bounds L e i k hi hL h2.1 h2.2)
      rw [expand, rangedExpand_del_eq s e a b i k hk]
      split
      · exact b1
      · exact Bool.and_eq_true_iff.mpr ⟨b1, b2⟩
  | ambiguous s e, _, h =>
      obtain ⟨h1, h2⟩ := Bool.and_eq_true_iff.mp h
      rw [inB_iff] at h1 h2
      have b1 := (inB_iff ..).mpr (delStart_bounds L s i k hi hL h1.1 h1.2)
      have b2 := (inB_iff ..).mpr (delEnd_bounds L e i k hi hL h2.1 h2.2)
      rw [expand, ambiguousExpand_del_eq s e i k hk]
      split
      · exact b1
      · exact Bool.and_eq_true_iff.mpr ⟨b1, b2⟩

/-- Delete `[i, i+k)` inside a sequence of length `L`: all coordinates end up in `[0, L-k]` -/
theorem expand_del_coords (L i k : Int) (hi : 0 ≤ i) (hk : 0 < k) (hL : i + k ≤ L) (l : Loc)
    (h : coordsAll (inB 0 L) l = true) : coordsAll (inB 0 (L - k)) (expand l i (-k)) = true := by
  rw [coordsAll_eq_allLeaves] at h ⊢
  rw [(expand_eq_tmap i (-k) l).1]
  exact tmap_leaves (mergeOK_coordsAll _) (expand_del_coords_leaf L i k hi hk hL) l h

theorem expandList_del_coords (L i k : Int) (hi : 0 ≤ i) (hk : 0 < k) (hL : i + k ≤ L) :
    ∀ (ls : List Loc), coordsAllList (inB 0 L) ls = true →
      coordsAllList (inB 0 (L - k)) (expandList ls i (-k)) = true := by
  intro ls h
  rw [coordsAllList_eq_allLeaves] at h ⊢
  rw [(expandList_eq_tmap i (-k) ls).1]
  exact tmapList_leaves (mergeOK_coordsAll _) (expand_del_coords_leaf L i k hi hk hL) ls h

end Loc
end Gts
