/-
  C01 / slice helper lemmas: the REFERENCE info `GenBankFields.Slice` prints —
  `(bases x to y; …)` — is read back by `parseReferenceInfo` as the ranges it was printed from, and
  it is a one-line text that does not start with a digit.  Core Lean only.
-/
import Gts.Lemmas.GbSliceInt
import Gts.Lemmas.GbLocus
import Gts.Lemmas.RefInfo
namespace Gts.GbSliceRef
open Gts Gts.Pars Gts.GenBank

theorem str_to : str " to " = [32, 116, 111, 32] := by decide +kernel
theorem str_sep : str "; " = [59, 32] := by decide +kernel

/-- the text of one range `[s, e)`: `s+1 to e` -/
def rangeText (r : Int × Int) : Bytes := intBytes (r.1 + 1) ++ str " to " ++ intBytes r.2

/-- a range `parseReferenceInfo` can yield: 0-based, non-empty, inside Go's `int` -/
def RangeOk (r : Int × Int) : Prop := 0 ≤ r.1 ∧ r.1 < r.2 ∧ r.2 ≤ 9223372036854775807

theorem rangeText_eq (r : Int × Int) (h : RangeOk r) :
    rangeText r = natDigits (r.1 + 1).toNat ++ ([32, 116, 111, 32] ++ natDigits r.2.toNat) := by
  obtain ⟨h0, h1, h2⟩ := h
  unfold rangeText
  have e1 : r.1 + 1 = ((r.1 + 1).toNat : Int) := by omega
  have e2 : r.2 = (r.2.toNat : Int) := by omega
  rw [str_to]
  conv => lhs; rw [e1, e2, GbSliceInt.intBytes_ofNat, GbSliceInt.intBytes_ofNat]
  simp only [List.append_assoc]

theorem refRange_ok (r : Int × Int) (rest : Bytes) (stk : List Bytes) (h : RangeOk r)
    (hrest : rest.dropWhile isDigit = rest) :
    refRange ⟨rangeText r ++ rest, stk⟩ = (.ok r, ⟨rest, stk⟩) := by
  have ht := rangeText_eq r h
  obtain ⟨h0, h1, h2⟩ := h
  rw [ht]
  have i1 := int_natDigits (r.1 + 1).toNat ([32, 116, 111, 32] ++ (natDigits r.2.toNat ++ rest)) stk
    (by simp [isDigit]) (by omega)
  have i2 := int_natDigits r.2.toNat rest stk hrest (by omega)
  have l1 := lit_ok [32, 116, 111, 32] (natDigits r.2.toNat ++ rest) stk
  have e1 : (((r.1 + 1).toNat : Nat) : Int) = r.1 + 1 := by omega
  have e2 : ((r.2.toNat : Nat) : Int) = r.2 := by omega
  have hno : ¬ (r.2 ≤ r.1 + 1 - 1) := by omega
  simp only [List.append_assoc] at i1 l1 ⊢
  simp only [refRange, P.bind_run, i1, str_to, l1, i2, e1, e2, if_neg hno, P.pure_run]
  have : r.1 + 1 - 1 = r.1 := by omega
  rw [this]

/-- the tail of the printed list: `"; " range` for every further range -/
def moreText (rs : List (Int × Int)) : Bytes := rs.flatMap fun r => str "; " ++ rangeText r

/-- what stands behind a printed range starts with `;` or `)`, no digit: `pars.Int` ends there -/
theorem moreText_noDigit (rs : List (Int × Int)) (tail : Bytes) :
    (moreText rs ++ 41 :: tail).dropWhile isDigit = moreText rs ++ 41 :: tail := by
  cases rs with
  | nil => simp [moreText, isDigit]
  | cons r rs => simp [moreText, str_sep, isDigit]

theorem rangeText_head (r : Int × Int) (h : RangeOk r) : ∃ d ds, rangeText r = d :: ds ∧ isDigit d = true := by
  rw [rangeText_eq r h]
  obtain ⟨_, h2, d, ds, h3, _⟩ := natDigits_spec (r.1 + 1).toNat
  refine ⟨d, ds ++ ([32, 116, 111, 32] ++ natDigits r.2.toNat), by rw [h3]; rfl, ?_⟩
  rw [h3] at h2
  simp only [List.all_cons, Bool.and_eq_true] at h2
  exact h2.1

theorem refMore_ok (rs : List (Int × Int)) (k : Nat) (acc : List (Int × Int)) (tail : Bytes) (stk : List Bytes)
    (h : ∀ r ∈ rs, RangeOk r) (hk : rs.length < k) :
    refMore k acc ⟨moreText rs ++ 41 :: tail, stk⟩ = (.ok (acc.reverse ++ rs), ⟨41 :: tail, stk⟩) := by
  induction rs generalizing k acc with
  | nil =>
    obtain ⟨k, rfl⟩ : ∃ j, k = j + 1 := ⟨k - 1, by simp at hk; omega⟩
    have hl : lit (str "; ") ⟨41 :: tail, stk⟩ = (.error .fail, ⟨41 :: tail, stk⟩) :=
      lit_fail _ _ _ (by rw [str_sep]; rfl)
    simp only [moreText, List.flatMap_nil, List.nil_append, refMore, P.bind_run, getS, attempt_run, hl, setS,
      P.pure_run, List.append_nil]
  | cons r rs ih =>
    obtain ⟨k, rfl⟩ : ∃ j, k = j + 1 := ⟨k - 1, by simp at hk; omega⟩
    have hr := h r (by simp)
    have hl := lit_ok (str "; ") (rangeText r ++ (moreText rs ++ 41 :: tail)) stk
    have hrr := refRange_ok r (moreText rs ++ 41 :: tail) stk hr (moreText_noDigit rs tail)
    have hshape : moreText (r :: rs) ++ 41 :: tail = str "; " ++ (rangeText r ++ (moreText rs ++ 41 :: tail)) := by
      simp only [moreText, List.flatMap_cons, List.append_assoc]
    rw [hshape]
    simp only [refMore, P.bind_run, getS, attempt_run, hl, hrr]
    rw [ih k (r :: acc) (fun x hx => h x (by simp [hx])) (by simp at hk; omega)]
    simp

theorem moreText_length (rs : List (Int × Int)) : rs.length ≤ (moreText rs).length := by
  induction rs with
  | nil => simp [moreText]
  | cons r rs ih =>
    simp only [moreText, List.flatMap_cons, List.length_append, List.length_cons, str_sep] at ih ⊢
    simp only [List.length_nil]
    omega

/-- `strings.Join(ss, "; ")` of the printed ranges -/
theorem parts_text (r : Int × Int) (rs : List (Int × Int)) :
    (((r :: rs).map fun x => intBytes (x.1 + 1) ++ str " to " ++ intBytes x.2).intersperse (str "; ")).flatten =
      rangeText r ++ moreText rs := by
  induction rs generalizing r with
  | nil => simp [rangeText, moreText]
  | cons r2 rs ih =>
    have := ih r2
    simp only [List.map_cons, List.intersperse_cons_cons, List.flatten_cons, moreText, List.flatMap_cons] at this ⊢
    rw [this]
    simp [rangeText, List.append_assoc]

theorem fmtRanges_eq (pref : Bytes) (r : Int × Int) (rs : List (Int × Int)) :
    fmtRanges pref (r :: rs) = ([40] ++ pref ++ [32]) ++ (rangeText r ++ (moreText rs ++ [41])) := by
  have := parts_text r rs
  show [40] ++ pref ++ [32] ++ (((r :: rs).map fun x => intBytes (x.1 + 1) ++ str " to " ++ intBytes x.2).intersperse
    (str "; ")).flatten ++ [41] = _
  rw [this]
  simp only [List.append_assoc]

/-- **reference info round trip**: `parseReferenceInfo(prefix)` reads the text
`fmt.Sprintf("(%s %s)", prefix, strings.Join(ss, "; "))`, `ss[i] = fmt.Sprintf("%d to %d", s+1, e)`,
back as the ranges `[s, e)` it was printed from — for every non-empty list of ranges with
`1 ≤ s+1 ≤ e ≤ 2^63-1` and every counter word -/
theorem parseRefInfo_fmtRanges (pref : Bytes) (rs : List (Int × Int)) (hne : rs ≠ [])
    (h : ∀ r ∈ rs, RangeOk r) : parseRefInfo pref (fmtRanges pref rs) = some rs := by
  cases rs with
  | nil => exact absurd rfl hne
  | cons r rs =>
    have hr := h r (by simp)
    rw [fmtRanges_eq]
    have hl := lit_ok ([40] ++ pref ++ [32]) (rangeText r ++ (moreText rs ++ [41])) []
    have hrr := refRange_ok r (moreText rs ++ [41]) [] hr (moreText_noDigit rs [])
    have hfuel : rs.length < (([40] ++ pref ++ [32]) ++ (rangeText r ++ (moreText rs ++ [41]))).length := by
      have := moreText_length rs
      simp only [List.length_append, List.length_cons, List.length_nil]
      omega
    have hm := refMore_ok rs _ [] [] [] (fun x hx => h x (by simp [hx])) hfuel
    have hc := lit_ok [41] [] []
    simp only [List.append_nil, List.reverse_nil, List.nil_append] at hm hc
    unfold parseRefInfo
    simp only [P.run', ExceptT.run, StateT.run]
    simp only [P.bind_run, hl, hrr, hm, hc, P.pure_run]

theorem natDigits_noEOL (n : Nat) : noEOL (natDigits n) = true :=
  noEOL_of_class isDigit rfl rfl _ (natDigits_spec n).2.1

theorem itoaB_noEOL (n : Int) : noEOL (itoaB n) = true := by
  unfold itoaB
  split
  · rw [noEOL_cons, natDigits_noEOL]; rfl
  · exact natDigits_noEOL _

theorem intBytes_noEOL (n : Int) : noEOL (intBytes n) = true := by
  rw [GbSliceInt.intBytes_eq]; exact itoaB_noEOL n

theorem rangeText_noEOL (r : Int × Int) : noEOL (rangeText r) = true := by
  simp only [rangeText, noEOL_append, intBytes_noEOL, str_to, Bool.true_and, Bool.and_true]
  rfl

theorem moreText_noEOL (rs : List (Int × Int)) : noEOL (moreText rs) = true := by
  induction rs with
  | nil => rfl
  | cons r rs ih =>
    simp only [moreText, List.flatMap_cons] at ih ⊢
    rw [noEOL_append, noEOL_append, rangeText_noEOL, ih, str_sep]
    rfl

theorem fmtRanges_noEOL (pref : Bytes) (rs : List (Int × Int)) (hp : noEOL pref = true) :
    noEOL (fmtRanges pref rs) = true := by
  cases rs with
  | nil =>
    have : fmtRanges pref [] = [40] ++ (pref ++ [32, 41]) := by simp [fmtRanges]
    rw [this, noEOL_append, noEOL_append, hp]
    rfl
  | cons r rs =>
    rw [fmtRanges_eq]
    simp only [noEOL_append, hp, rangeText_noEOL, moreText_noEOL, Bool.true_and, Bool.and_true]
    rfl

theorem fmtRanges_head (pref : Bytes) (rs : List (Int × Int)) : ∃ t, fmtRanges pref rs = 40 :: t := by
  exact ⟨_, rfl⟩

theorem clipRange_ok (a b : Int) (r : Int × Int) (hab : a < b) (hfit : b - a ≤ 9223372036854775807)
    (hr : r.1 < r.2) (ho : Loc.rangeOverlap r.1 r.2 a b = true) : RangeOk (clipRange a b r) := by
  have h1 : ¬ r.2 < r.1 := by omega
  have h2 : ¬ b < a := by omega
  simp only [Loc.rangeOverlap, if_neg h1, if_neg h2, Bool.and_eq_true, decide_eq_true_eq] at ho
  simp only [RangeOk, clipRange, Loc.gmax, Loc.gmin]
  refine ⟨?_, ?_, ?_⟩ <;> split <;> (try split) <;> omega

/-- `Slice(a, b)` on the ranges of one reference: those that meet the window, clipped and re-based -/
def sliceRanges (a b : Int) (locs : List (Int × Int)) : List (Int × Int) :=
  (locs.filter fun r => Loc.rangeOverlap r.1 r.2 a b).map (clipRange a b)

theorem sliceRefInfo_eq (pref : Bytes) (a b : Int) (info : Bytes) :
    sliceRefInfo pref a b info =
      match parseRefInfo pref info with
      | none => some info
      | some locs => if sliceRanges a b locs = [] then none else some (fmtRanges pref (sliceRanges a b locs)) := by
  unfold sliceRefInfo sliceRanges
  cases parseRefInfo pref info with
  | none => rfl
  | some locs => simp only [List.isEmpty_iff, List.map_eq_nil_iff]

theorem parseRefInfo_sliceRanges (pref info : Bytes) (a b : Int) (locs : List (Int × Int)) (hab : a < b)
    (hfit : b - a ≤ 9223372036854775807) (hp : parseRefInfo pref info = some locs) (hne : sliceRanges a b locs ≠ []) :
    parseRefInfo pref (fmtRanges pref (sliceRanges a b locs)) = some (sliceRanges a b locs) := by
  refine parseRefInfo_fmtRanges pref _ hne fun c hc => ?_
  obtain ⟨r, hr, rfl⟩ := List.mem_map.mp hc
  obtain ⟨hm, ho⟩ := List.mem_filter.mp hr
  exact clipRange_ok a b r hab hfit (RefInfo.parseRefInfo_proper pref info locs hp r hm) ho

/-- **what `Slice` writes into a reference re-parses**: for a non-empty window and an info that
parses with some range overlapping the window, the new info is read back by `parseReferenceInfo`
as exactly the clipped, re-based ranges -/
theorem sliceRefInfo_reparse (pref info : Bytes) (a b : Int) (locs : List (Int × Int)) (hab : a < b)
    (hfit : b - a ≤ 9223372036854775807) (hp : parseRefInfo pref info = some locs)
    (hol : (locs.filter fun r => Loc.rangeOverlap r.1 r.2 a b) ≠ []) :
    ∃ i, sliceRefInfo pref a b info = some i ∧
      i = fmtRanges pref ((locs.filter fun r => Loc.rangeOverlap r.1 r.2 a b).map (clipRange a b)) ∧
      parseRefInfo pref i = some ((locs.filter fun r => Loc.rangeOverlap r.1 r.2 a b).map (clipRange a b)) := by
  have hne : sliceRanges a b locs ≠ [] := fun h => hol (List.map_eq_nil_iff.mp h)
  exact ⟨_, by rw [sliceRefInfo_eq, hp]; exact if_neg hne, rfl, parseRefInfo_sliceRanges pref info a b locs hab hfit hp hne⟩

end Gts.GbSliceRef
