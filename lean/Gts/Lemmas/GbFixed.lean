/-
  C01: the byte FIXED POINT — `GenBank.String` of the record that was read back, under the registry
  the reader ended with, is the text that was read.  Field group by field group:
    header      `headerText` of `readBack`'s fields (the REGION suffix read back as part of the accession)
    table       `tableText reg' (map readFeature)` = `tableText reg` (registries that write the same
                text; a toggle's value is not written; the items of one name consecutive in every `Props`)
    residues    the kept block prints as itself and has the length of the residues
-/
import Gts.Lemmas.GbReadWrite
import Gts.Lemmas.GbFixedProps
namespace Gts.GenBank
open Gts.Pars

/-- the writer does not look at the value of a toggle: the value that is read back is written as
the value that was written -/
theorem qualifierText_readValue (reg : Registry) (n v : Bytes) :
    qualifierText reg n (readValue reg n v) = qualifierText reg n v := by
  unfold readValue
  split
  · rename_i ht
    simp [qualifierText, ht]
  · rfl

theorem qualifierFmt_readValue (a b : Registry) (h : sameText a b) (pre n v : Bytes) :
    qualifierFmt b pre n (readValue a n v) = qualifierFmt a pre n v := by
  rw [qualifierFmt_same a b h]
  unfold qualifierFmt
  rw [qualifierText_readValue]

/-- one feature: the re-read feature is written, under a registry that writes the same text, as the
feature was — when the written items of one name are consecutive (`propsAdjacent`; `Props.Add`
gathers the rows of one name, so any other order would come back re-ordered) -/
theorem featureText_readFeature (a b : Registry) (h : sameText a b) (depth : Nat) (f : QFeature)
    (hd : propsAdjacent f.props = true) :
    featureText b depth (readFeature a f) = featureText a depth f := by
  simp only [propsAdjacent, Bool.and_eq_true] at hd
  obtain ⟨hok, hg⟩ := hd
  have hok' : propsOk (readFeature a f).props = true := propsNorm_ok _ (propsOfItems_norm _)
  have hkeys : (readItems a f.props).map (·.1) = (propsItems f.props).map (·.1) := by
    simp [readItems, List.map_map, Function.comp_def]
  have hitems : propsItems (readFeature a f).props = readItems a f.props :=
    propsItems_propsOfItems _ (by rw [hkeys]; exact hg)
  simp only [featureText, hok, hok', Bool.not_true, Bool.false_eq_true, if_false, hitems]
  simp only [readFeature]
  unfold readItems
  rw [List.flatMap_map]
  congr 3
  funext kv
  simp only [qualifierFmt_readValue a b h]

theorem tableDepth_readFeature (a : Registry) (fs : List QFeature) :
    tableDepth (fs.map (readFeature a)) = tableDepth fs := by
  unfold tableDepth
  rw [List.foldl_map]
  rfl

/-- the distinct-names clause for a table -/
def tableDistinct (fs : List QFeature) : Bool := fs.all fun f => propsDistinct f.props

/-- the adjacent-names clause for a table: in every feature the written qualifiers of one name are
consecutive -/
def tableAdjacent (fs : List QFeature) : Bool := fs.all fun f => propsAdjacent f.props

theorem tableAdjacent_of_distinct (fs : List QFeature) (h : tableDistinct fs = true) : tableAdjacent fs = true := by
  simp only [tableDistinct, tableAdjacent, List.all_eq_true] at h ⊢
  exact fun f hf => propsAdjacent_of_distinct _ (h f hf)

/-- `tableTextD` looks at the features only through `featureText` -/
theorem tableTextD_map (a b : Registry) (depth : Nat) (g : QFeature → QFeature) (fs : List QFeature)
    (h : ∀ f ∈ fs, featureText b depth (g f) = featureText a depth f) :
    tableTextD b depth (fs.map g) = tableTextD a depth fs := by
  induction fs with
  | nil => rfl
  | cons f fs ih =>
    have h1 := h f (by simp)
    have h2 := ih (fun x hx => h x (by simp [hx]))
    cases fs with
    | nil => simpa [tableTextD] using h1
    | cons f' fs =>
      simp only [List.map_cons, tableTextD] at h2 ⊢
      rw [h1, h2]

theorem tableText_readFeature (a b : Registry) (h : sameText a b) (fs : List QFeature)
    (hd : tableAdjacent fs = true) :
    tableText b (fs.map (readFeature a)) = tableText a fs := by
  simp only [tableAdjacent, List.all_eq_true] at hd
  unfold tableText
  rw [tableDepth_readFeature]
  exact tableTextD_map a b _ _ fs fun f hf => featureText_readFeature a b h _ f (hd f hf)

theorem headerText_readBack (f : Fields) (L : Int) :
    headerText { f with accession := accessionLine f, region := none } L = headerText f L := by
  -- both sides write `accessionLine f` behind `ACCESSION   `; nothing else looks at accession or region
  have e : ∀ (X : Bytes), X ++ accessionLine f ++ [] =
      X ++ f.accession ++ (match f.region with
        | none => []
        | some (h, t) => if t ≤ h then [] else bs " REGION: " ++ itoaB (h + 1) ++ bs ".." ++ itoaB t) := by
    intro X; rw [List.append_nil, accessionLine, List.append_assoc]; rfl
  unfold headerText
  simp only [e]
  rfl

theorem origin_readBack (p : Bytes) (hlen : p.length < 10 ^ 9) :
    (OriginV.len (if p.isEmpty then .buffer [] else .buffer (Origin.originStream p)) = (p.length : Int)) ∧
    (¬ p.isEmpty → OriginV.text (.buffer (Origin.originStream p)) = OriginV.text (.residues p)) := by
  constructor
  · by_cases hp : p.isEmpty = true
    · have : p = [] := by simpa using hp
      subst this
      simp [OriginV.len, Origin.originLen]
    · simp only [hp, Bool.false_eq_true, if_false, OriginV.len, originLen_stream p hlen]
  · intro _
    simp only [OriginV.text, Origin.newOrigin_ok p hlen]

theorem readBack_origin (a : Registry) (r : Record) (p : Bytes) (hlen : p.length < 10 ^ 9) :
    (readBack a r p).origin.len = (p.length : Int) ∧
    ((p.length : Int) > 0 → (readBack a r p).origin.text = Origin.newOrigin p) := by
  obtain ⟨hol, hot⟩ := origin_readBack p hlen
  refine ⟨hol, fun hpos => ?_⟩
  have hp : ¬ p.isEmpty = true := by
    intro hp
    have : p = [] := by simpa using hp
    subst this
    simp at hpos
  simp only [readBack, hp, Bool.false_eq_true, if_false]
  exact hot hp

/-- `GenBank.String` looks at the record only through these -/
theorem write_congr (a b : Registry) (r r' : Record)
    (h1 : r'.origin.len = r.origin.len) (h2 : ∀ L, headerText r'.fields L = headerText r.fields L)
    (h3 : contigLen r'.fields = contigLen r.fields) (h4 : contigText r'.fields = contigText r.fields)
    (h5 : r'.table.isEmpty = r.table.isEmpty) (h6 : tableText b r'.table = tableText a r.table)
    (h7 : r.origin.len > 0 → r'.origin.text = r.origin.text) :
    write b r' = write a r := by
  unfold write
  simp only [h1, h2, h3, h4, h5, h6]
  by_cases hpos : r.origin.len > 0
  · simp only [hpos, if_true, h7 hpos]
  · simp only [hpos, if_false]

theorem write_readBack (a b : Registry) (h : sameText a b) (r : Record) (p : Bytes)
    (ho : r.origin = .residues p) (hlen : p.length < 10 ^ 9) (hd : tableAdjacent r.table = true) :
    write b (readBack a r p) = write a r := by
  obtain ⟨hol, hot⟩ := readBack_origin a r p hlen
  apply write_congr
  · rw [ho]; exact hol
  · exact fun L => headerText_readBack r.fields L
  · rfl
  · rfl
  · simp only [readBack]; cases r.table <;> rfl
  · exact tableText_readFeature a b h r.table hd
  · intro hpos
    rw [ho] at hpos ⊢
    exact hot hpos

theorem featureText_same (a b : Registry) (h : sameText a b) (depth : Nat) (f : QFeature) :
    featureText b depth f = featureText a depth f := by
  unfold featureText
  simp only [qualifierFmt_same a b h]

theorem write_same (a b : Registry) (h : sameText a b) (r : Record) : write b r = write a r := by
  apply write_congr a b r r rfl (fun _ => rfl) rfl rfl rfl _ (fun _ => rfl)
  unfold tableText
  simpa only [List.map_id] using tableTextD_map a b _ id r.table fun f _ => featureText_same a b h _ f

theorem writeAll_same (a b : Registry) (h : sameText a b) (rs : List Record) : writeAll b rs = writeAll a rs := by
  induction rs with
  | nil => rfl
  | cons r rs ih => simp only [writeAll, write_same a b h, ih]

theorem readValue_readValue (a b : Registry) (h : sameText a b) (n v : Bytes) :
    readValue b n (readValue a n v) = readValue a n v := by
  rw [readValue_same a b h]
  unfold readValue
  split <;> simp [*]

theorem tableDistinct_readFeature (a : Registry) (fs : List QFeature) :
    tableDistinct (fs.map (readFeature a)) = true := by
  simp only [tableDistinct, List.all_map, List.all_eq_true]
  intro f _
  exact propsNorm_distinct _ (propsOfItems_norm _)

theorem readFeature_readFeature' (a b : Registry) (h : sameText a b) (f : QFeature) :
    readFeature b (readFeature a f) = readFeature a f := by
  have hi : readItems b (propsOfItems (readItems a f.props)) = propsItems (propsOfItems (readItems a f.props)) :=
    map_readValue_eq b _ fun q hq => by
      obtain ⟨kv, _, rfl⟩ := List.mem_map.mp (propsItems_propsOfItems_subset _ q hq)
      exact readValue_readValue a b h kv.1 kv.2
  simp only [readFeature]
  rw [hi, propsOfItems_propsItems _ (propsOfItems_norm _)]

theorem readBack_idem' (a b : Registry) (h : sameText a b) (r : Record) (p : Bytes) :
    readBack b (readBack a r p) p = readBack a r p := by
  have ht : (r.table.map (readFeature a)).map (readFeature b) = r.table.map (readFeature a) := by
    rw [List.map_map]
    apply List.map_congr_left
    intro f _
    exact readFeature_readFeature' a b h f
  simp only [readBack, ht, accessionLine, List.append_nil]

/-- the same for a table with distinct row names; the hypothesis is not needed -/
theorem readBack_idem (a b : Registry) (h : sameText a b) (r : Record) (p : Bytes)
    (hd : tableDistinct r.table = true) :
    readBack b (readBack a r p) p = readBack a r p :=
  readBack_idem' a b h r p

end Gts.GenBank
