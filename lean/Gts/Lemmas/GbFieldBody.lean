/-
  C01 helper lemmas: a text with continuation lines (`AddPrefix`) read back by
  `genbankFieldBodyParser`.  A value is handled as its list of lines; `lines_join` /
  `addPrefix_lines` connect that view with the byte string.  The statements of this chain of modules
  (up to `GbReadWrite.lean`) are made for either line end `e : Eol` of the file: the written text is
  `tr e t` (every line feed of `t` replaced by `e.bytes`; `tr .lf t = t`), and the reader takes the
  line end only in `pars.Line` and `pars.EOL` (`line_okE`, `eol_okE`); a primitive that stops in front
  of it (`pars.Int`, a word, an optional literal, `next`) needs its first byte alone (`Eol.head`).
-/
import Gts.Lemmas.ParsRun
namespace Gts.GenBank
open Gts.Pars

/-- the continuation lines as they stand in the file: indent, line, line feed -/
def contText (e : Eol) (pre : Bytes) (ls : List Bytes) : Bytes := ls.flatMap fun l => pre ++ l ++ e.bytes

/-- the continuation lines as the reader joins them: separator, line -/
def sepText (sep : UInt8) (ls : List Bytes) : Bytes := ls.flatMap fun l => sep :: l

theorem contText_cons (e : Eol) (pre l : Bytes) (ls : List Bytes) :
    contText e pre (l :: ls) = pre ++ (l ++ (e.bytes ++ contText e pre ls)) := by
  simp [contText, List.flatMap_cons]

theorem sepText_cons (sep : UInt8) (l : Bytes) (ls : List Bytes) :
    sepText sep (l :: ls) = sep :: l ++ sepText sep ls := by
  simp [sepText, List.flatMap_cons]

theorem contText_length_ge (e : Eol) (pre : Bytes) (ls : List Bytes) : ls.length ≤ (contText e pre ls).length := by
  induction ls with
  | nil => simp [contText]
  | cons l ls ih =>
    have := e.bytes_pos
    rw [contText_cons]; simp only [List.length_append, List.length_cons]; omega

theorem head_of_cons {p : UInt8 → Prop} {w : Bytes} {c : UInt8} {r : Bytes} (hw : w = c :: r) (h : p c)
    (X : Bytes) : ∀ x, (w ++ X).head? = some x → p x := by
  subst hw
  intro x hx
  simp only [List.cons_append, List.head?_cons, Option.some.injEq] at hx
  exact hx ▸ h

theorem head_of_all {f : UInt8 → Bool} {w : Bytes} (hne : w ≠ []) (hw : w.all f = true) (X : Bytes) :
    ∀ c, (w ++ X).head? = some c → f c = true := by
  cases w with
  | nil => exact absurd rfl hne
  | cons x r =>
    simp only [List.all_cons, Bool.and_eq_true] at hw
    exact head_of_cons rfl hw.1 X

theorem sp_add (a b : Nat) : sp a ++ sp b = sp (a + b) := by
  simp [sp, List.replicate_append_replicate]

theorem sp_short_prefix (a n : Nat) (X : Bytes) (hX : ∀ c, X.head? = some c → c ≠ 32) (h : a < n) :
    (sp n).isPrefixOf (sp a ++ X) = false := by
  obtain ⟨k, rfl⟩ : ∃ k, n = a + (k + 1) := ⟨n - a - 1, by omega⟩
  rw [← Bool.not_eq_true, List.isPrefixOf_iff_prefix, ← sp_add, List.prefix_append_right_inj,
    ← List.isPrefixOf_iff_prefix, sp_prefix_head (k + 1) X hX (by omega)]
  exact Bool.false_ne_true

theorem fieldLine_ok (e : Eol) (d : Nat) (l r : Bytes) (stk : List Bytes) (h : noEOL l = true) :
    fieldLine d ⟨sp d ++ (l ++ (e.bytes ++ r)), stk⟩ = (.ok l, ⟨r, stk⟩) := by
  simp [fieldLine, P.bind_run, lit_ok, line_okE e l r stk h]

theorem fieldLine_fail (d : Nat) (r : Bytes) (stk : List Bytes) (h : (sp d).isPrefixOf r = false) :
    fieldLine d ⟨r, stk⟩ = (.error .fail, ⟨r, stk⟩) := by
  simp [fieldLine, P.bind_run, lit_fail _ _ _ h]

theorem bodyMore_lines (e : Eol) (d : Nat) (sep : UInt8) (ls : List Bytes) (rest : Bytes) (stk : List Bytes)
    (acc : Bytes) (k f : Nat) (hls : ∀ x ∈ ls, noEOL x = true)
    (hrest : (sp d).isPrefixOf rest = false) (hf : (contText e (sp d) ls ++ rest).length < f) :
    bodyMore d sep f acc k ⟨contText e (sp d) ls ++ rest, stk⟩ =
      (.ok (acc ++ sepText sep ls, k + ls.length), ⟨rest, stk⟩) := by
  induction ls generalizing acc k f with
  | nil =>
    cases f with
    | zero => omega
    | succ f =>
      simp [bodyMore, contText, sepText, P.bind_run, attempt_run, fieldLine_fail d rest stk hrest, P.pure_run]
  | cons l ls ih =>
    cases f with
    | zero => omega
    | succ f =>
      have hl : noEOL l = true := hls l (by simp)
      have hls' : ∀ x ∈ ls, noEOL x = true := fun x hx => hls x (by simp [hx])
      rw [contText_cons] at hf ⊢
      rw [sepText_cons]
      simp only [bodyMore, P.bind_run, attempt_run, List.append_assoc, List.cons_append,
        fieldLine_ok e d l _ stk hl]
      rw [ih (acc ++ sep :: l) (k + 1) f hls' (by
        have := e.bytes_pos; simp only [List.length_append] at hf ⊢; omega)]
      have e : k + 1 + ls.length = k + (ls.length + 1) := by omega
      simp only [List.append_assoc, List.cons_append, List.length_cons, e]

theorem fieldBody_ok (e : Eol) (d : Nat) (sep : UInt8) (l0 : Bytes) (ls : List Bytes) (rest : Bytes)
    (stk : List Bytes) (h0 : noEOL l0 = true) (hls : ∀ x ∈ ls, noEOL x = true)
    (hrest : (sp d).isPrefixOf rest = false) :
    fieldBody d sep ⟨l0 ++ (e.bytes ++ (contText e (sp d) ls ++ rest)), stk⟩ =
      (.ok (l0 ++ sepText sep ls, ls.length), ⟨rest, stk⟩) := by
  simp only [fieldBody, P.bind_run, line_okE e l0 _ stk h0, getS]
  rw [bodyMore_lines e d sep ls rest stk l0 0 _ hls hrest (Nat.lt_succ_self _)]
  simp

/-- no carriage return (decidable): the only byte a field text must avoid -/
def noCR (v : Bytes) : Bool := v.all fun c => c != 13

theorem noCR_append (a b : Bytes) : noCR (a ++ b) = (noCR a && noCR b) := by
  simp [noCR, List.all_append]

theorem noEOL_noCR (l : Bytes) (h : noEOL l = true) : noCR l = true := by
  simp only [noEOL, noCR, List.all_eq_true, Bool.and_eq_true] at h ⊢
  exact fun c hc => (h c hc).2

theorem noCR_sepText (sep : UInt8) (hsep : sep ≠ 13) (ls : List Bytes) :
    noCR (sepText sep ls) = ls.all noCR := by
  induction ls with
  | nil => rfl
  | cons l ls ih =>
    rw [sepText_cons, noCR_append, ih, List.all_cons]
    have h : (sep != 13) = true := by simpa using hsep
    simp [noCR, h]

theorem splitLF_ne_nil (v : Bytes) : splitLF v ≠ [] := by
  induction v with
  | nil => simp [splitLF]
  | cons c v ih =>
    unfold splitLF
    by_cases hc : c = 10
    · simp [hc]
    · simp only [hc, if_false]
      split <;> simp

/-- the head line and the further lines of a text -/
def headLine (v : Bytes) : Bytes := (splitLF v).headD []
def tailLines (v : Bytes) : List Bytes := (splitLF v).tail

theorem splitLF_eq (v : Bytes) : splitLF v = headLine v :: tailLines v := by
  have := splitLF_ne_nil v
  unfold headLine tailLines
  cases h : splitLF v with
  | nil => exact absurd h this
  | cons a b => rfl

theorem splitLF_cons_lf (v : Bytes) : splitLF (10 :: v) = [] :: splitLF v := by
  simp [splitLF]

theorem splitLF_cons_other (c : UInt8) (v : Bytes) (hc : c ≠ 10) :
    splitLF (c :: v) = (c :: headLine v) :: tailLines v := by
  rw [splitLF]
  simp only [hc, if_false]
  rw [splitLF_eq v]

theorem headLine_cons_lf (v : Bytes) : headLine (10 :: v) = [] := by
  simp [headLine, splitLF_cons_lf]

theorem tailLines_cons_lf (v : Bytes) : tailLines (10 :: v) = headLine v :: tailLines v := by
  rw [tailLines, splitLF_cons_lf, List.tail_cons, splitLF_eq]

theorem headLine_cons_ne (c : UInt8) (v : Bytes) (hc : c ≠ 10) : headLine (c :: v) = c :: headLine v := by
  simp [headLine, splitLF_cons_other c v hc]

theorem tailLines_cons_ne (c : UInt8) (v : Bytes) (hc : c ≠ 10) : tailLines (c :: v) = tailLines v := by
  simp [tailLines, splitLF_cons_other c v hc]

/-- induction over a text by its lines: a line feed in front opens a new head line, any other byte
joins the head line -/
theorem lines_induction {P : Bytes → Bytes → List Bytes → Prop} (v : Bytes) (nil : P [] [] [])
    (lf : ∀ v, P v (headLine v) (tailLines v) → P (10 :: v) [] (headLine v :: tailLines v))
    (other : ∀ c v, c ≠ 10 → P v (headLine v) (tailLines v) → P (c :: v) (c :: headLine v) (tailLines v)) :
    P v (headLine v) (tailLines v) := by
  induction v with
  | nil => exact nil
  | cons c v ih =>
    by_cases hc : c = 10
    · subst hc
      rw [headLine_cons_lf, tailLines_cons_lf]
      exact lf v ih
    · rw [headLine_cons_ne c v hc, tailLines_cons_ne c v hc]
      exact other c v hc ih

theorem lines_join (v : Bytes) : v = headLine v ++ sepText 10 (tailLines v) := by
  refine lines_induction (P := fun v h t => v = h ++ sepText 10 t) v rfl (fun v ih => ?_) (fun c v _ ih => ?_)
  · rw [sepText_cons, List.nil_append, List.cons_append, ← ih]
  · rw [List.cons_append, ← ih]

theorem lines_noEOL (v : Bytes) (h : noCR v = true) :
    noEOL (headLine v) = true ∧ ∀ x ∈ tailLines v, noEOL x = true := by
  refine lines_induction (P := fun v h t => noCR v = true → noEOL h = true ∧ ∀ x ∈ t, noEOL x = true) v
    (fun _ => by simp [noEOL]) (fun v ih h => ?_) (fun c v hc ih h => ?_) h
  all_goals
    simp only [noCR, List.all_cons, Bool.and_eq_true] at h
    obtain ⟨ih1, ih2⟩ := ih h.2
  · exact ⟨rfl, List.forall_mem_cons.mpr ⟨ih1, ih2⟩⟩
  · refine ⟨?_, ih2⟩
    rw [noEOL_cons, ih1, h.1]
    simpa using hc

theorem addPrefix_lines (e : Eol) (pre v : Bytes) (rest : Bytes) (hpre : noLF pre) :
    tr e (addPrefix pre v) ++ (e.bytes ++ rest) =
      headLine v ++ (e.bytes ++ (contText e pre (tailLines v) ++ rest)) := by
  refine lines_induction (P := fun v h t =>
    tr e (addPrefix pre v) ++ (e.bytes ++ rest) = h ++ (e.bytes ++ (contText e pre t ++ rest))) v
    (by simp [addPrefix, contText]) (fun v ih => ?_) (fun c v hc ih => ?_)
  · rw [contText_cons]
    simp only [addPrefix, if_true, tr_cons_lf, tr_append, tr_noLF e pre hpre, List.nil_append, List.append_assoc]
    rw [ih]
  · simp only [addPrefix, hc, if_false, tr_cons_ne _ _ _ hc, List.cons_append]
    rw [ih]

theorem noLF_sp (n : Nat) : noLF (sp n) := by
  intro c hc
  simp only [sp, List.mem_replicate] at hc
  rw [hc.2]; decide

theorem noLF_append_iff (a b : Bytes) : noLF (a ++ b) ↔ noLF a ∧ noLF b := by
  simp only [noLF, List.mem_append]
  exact ⟨fun h => ⟨fun c hc => h c (Or.inl hc), fun c hc => h c (Or.inr hc)⟩,
    fun h c hc => hc.elim (h.1 c) (h.2 c)⟩

theorem noLF_cons_iff (c : UInt8) (a : Bytes) : noLF (c :: a) ↔ c ≠ 10 ∧ noLF a := by
  simp only [noLF, List.mem_cons, forall_eq_or_imp]

theorem noLF_of_class (p : UInt8 → Bool) (hp : p 10 = false) (l : Bytes) (h : l.all p = true) : noLF l := by
  intro c hc e
  subst e
  rw [List.all_eq_true.mp h 10 hc] at hp
  cases hp

theorem noLF_of_all (l : Bytes) (h : l.all (fun c => c != 10) = true) : noLF l :=
  noLF_of_class _ rfl l h

theorem natDigits_noLF (k : Nat) : noLF (natDigits k) :=
  noLF_of_class isDigit rfl _ (natDigits_spec k).2.1

theorem noLF_itoaB (n : Int) : noLF (itoaB n) := by
  unfold itoaB
  split
  · exact (noLF_cons_iff _ _).mpr ⟨by decide, natDigits_noLF _⟩
  · exact natDigits_noLF _

theorem fieldBody_addPrefix (e : Eol) (d : Nat) (v rest : Bytes) (stk : List Bytes) (hv : noCR v = true)
    (hrest : (sp d).isPrefixOf rest = false) :
    fieldBody d 10 ⟨tr e (addPrefix (sp d) v) ++ (e.bytes ++ rest), stk⟩ =
      (.ok (v, (tailLines v).length), ⟨rest, stk⟩) := by
  obtain ⟨h0, hls⟩ := lines_noEOL v hv
  rw [addPrefix_lines e _ _ _ (noLF_sp d), fieldBody_ok e d 10 _ _ rest stk h0 hls hrest, ← lines_join v]

end Gts.GenBank
