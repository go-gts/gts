/-
  C15 — the multi-site edit commands act on exactly the located regions, in the INPUT's
  coordinates: the scan-loop bodies of `gts delete`, `insert`, `infix`, `split`, `rotate`,
  `extract` (`Gts/Model/Cli.lean`), for EVERY locator `loc : Seq → List Reg`.
  The property theorems, the specifications they are stated against (`keepUncovered`, `insertSpec`,
  `readAt`) and a few helpers used only here; the other helper lemmas live in Gts/Lemmas/Cli.lean and
  Gts/Lemmas/CliFeatures.lean.

  Residue-level statements are proved in full, against specs that mention positions of the
  input only:
    delete   removes exactly the union of the located regions (`keepUncovered`), whatever their
             order, strand, nesting, overlap — because the cuts are minimised (C09) and applied
             rightmost first; applied leftmost first the result is wrong (`…_ascending_refuted`);
    insert   (and infix) puts one guest copy per located region before the residue that had the
             region's 5' position in the input (`insertSpec`) — because the indices are applied
             in descending order; ascending order is wrong (`…_ascending_refuted`);
    split    linear: the pieces concatenate to the input; circular with at least two distinct
             cuts: to the input re-origined at the last cut; circular with ONE distinct cut
             (one region, or several sharing it): the record rotated to that position;
             together `split_concat_circular_any`, for every non-empty collection;
    rotate   the head of the first located region becomes position 0;
    extract  the emitted regions are the first occurrences of the located ones (or, with `-v`,
             exactly the maximal unlocated stretches, by C09), filtered by length.
  Feature-level statements ("features in every output denote the residues they denoted in the
  input"), for the whole loops (helper lemmas in Gts/Lemmas/CliFeatures.lean):
    delete   every feature kept in table order (`delete_feats`); its location denotes its former
             residues re-mapped by `Cli.unionDelMap` of the minimised located regions
             (`delete_features_partial`, `=` under `Nodup`), which is where the residues went
             (`delete_residue_at`), hence it READS the same residues (`…_residues_partial`);
             `-e`: exactly the features failing `Cli.eraseKeep` are dropped, never one that keeps
             a residue, always a plain range inside one located stretch;
    insert   table = host features + one guest copy per region (`insert_feats_perm`); host
             features re-mapped by `Cli.multiInsMap` (`insert_host_features_partial`), guest
             copies offset by their position in the OUTPUT (`guest_den_partial`,
             `guest_copy_bytes`); infix: the same outside the guest copies;
    rotate / linear split   C04 / C03 lifted to the loops (`rotate_features_partial`,
             `split_features_partial`: the windows partition the record and every residue of a
             feature is denoted by the feature's piece in exactly one window);
    circular split / extract   in `Gts/Props/C15Extract.lean` (same namespace).
  All under the K2 guards of the single steps folded along the loop (`Cli.delAbs`, `Cli.insAbs`);
  the unguarded statements are refuted (`…_full_refuted`).
-/
import Gts.Lemmas.Cli
import Gts.Lemmas.CliFeatures
import Gts.Lemmas.CliSplitCirc
import Gts.Props.C02
import Gts.Props.C03
import Gts.Props.C04
import Gts.Props.C09
namespace Gts.C15
open Gts Reg
open Gts.Cli (scanOff covB)

/-- SPEC: the residues of `bs` at the positions `k` (`0 ≤ k < bs.length`) that the region `r`
does not cover, in order. -/
def keepUncovered (r : Reg) (bs : List UInt8) : List UInt8 :=
  (List.range bs.length).filterMap fun (k : Nat) => if cover r (k : Int) then none else bs[k]?

theorem keepUncovered_eq (r : Reg) (bs : List UInt8) :
    keepUncovered r bs = scanOff (fun _ => []) (fun k => decide (cover r (k : Int))) 0 bs := by
  rw [Cli.scanOff_eq_range, List.range_succ, List.flatMap_append, keepUncovered, Cli.filterMap_eq_flatMap]
  simp only [List.flatMap_singleton, List.getElem?_eq_none (Nat.le_refl _), Option.toList_none, ite_self,
    List.append_nil, List.nil_append, Nat.add_zero, decide_eq_true_eq, apply_ite Option.toList]

/-- **delete removes exactly the union of the located regions**, whatever their order, strand,
nesting and overlap, with or without `-e` (`erase`): for every locator whose regions lie inside
the record (`within`: every end of every leaf in `[0, len]`), the residues of the result are the
residues of the input at the positions no located region covers. -/
theorem delete_bytes (loc : Seq → List Reg) (erase : Bool) (s : Seq)
    (hw : within s.len (many (loc s))) :
    (Cli.delete loc erase s).bytes = keepUncovered (many (loc s)) s.bytes := by
  unfold Cli.delete
  rw [Cli.deleteSegs_bytes,
    Cli.foldr_cutB _ _ (minimize_fwd _) ((C09.minimize_strictly_increasing_nonabutting _).imp Int.le_of_lt)
      (minimize_within _ _ hw),
    keepUncovered_eq]
  unfold Cli.covB
  simp only [C09.minimize_cover]

/-- … hence the result is shorter by exactly the number of covered positions. -/
theorem delete_length (loc : Seq → List Reg) (erase : Bool) (s : Seq)
    (hw : within s.len (many (loc s))) :
    (Cli.delete loc erase s).bytes.length +
      ((List.range s.bytes.length).filter fun (k : Nat) => decide (cover (many (loc s)) (k : Int))).length =
      s.bytes.length := by
  rw [delete_bytes loc erase s hw, keepUncovered_eq, List.range_eq_range']
  exact Cli.scanOff_length _ 0 _

/-- Without any located region nothing is deleted. -/
theorem delete_none (loc : Seq → List Reg) (erase : Bool) (s : Seq) (h : loc s = []) :
    Cli.delete loc erase s = s := by
  unfold Cli.delete
  rw [h, minimize_nil_of _ (by simp)]
  rfl

/-- One step of the loop (the cuts run from the rightmost segment to the leftmost: `flip.Flip`):
the segment `a` is cut from the sequence from which everything to its right is already gone, by
`gts.Delete` or `gts.Erase` — whose effect on residues and features is C03 (`C03.delete_bytes`,
`C03.delete_feats`, `C03.erase_spec`). -/
theorem delete_step (erase : Bool) (a : Seg) (ss : List Seg) (s : Seq) :
    Cli.deleteSegs erase (a :: ss) s =
      if erase then (Cli.deleteSegs erase ss s).erase a.1 (Reg.gabs (a.2 - a.1))
      else (Cli.deleteSegs erase ss s).delete a.1 (Reg.gabs (a.2 - a.1)) :=
  Cli.deleteSegs_cons erase a ss s

/-- `-e` only changes the feature table: the residues are the same. -/
theorem delete_erase_same_bytes (loc : Seq → List Reg) (s : Seq) :
    (Cli.delete loc true s).bytes = (Cli.delete loc false s).bytes := by
  unfold Cli.delete
  rw [Cli.deleteSegs_bytes, Cli.deleteSegs_bytes]

/-- the loop WITHOUT `flip.Flip`: the minimised segments are cut leftmost first -/
def deleteAscending (loc : Seq → List Reg) (erase : Bool) (s : Seq) : Seq :=
  (Reg.many (loc s)).minimize.foldl (fun acc sg =>
    let i := sg.1
    let n := Reg.gabs (sg.2 - sg.1)
    if erase then acc.erase i n else acc.delete i n) s

/-- The flip is needed: cutting in ASCENDING order is wrong, because every cut shifts the
coordinates to its right.  Deleting `[0,1)` and `[3,4)` from `ACGTA` must give `CGA`; ascending
order gives `CGT`. -/
theorem delete_ascending_refuted :
    ¬ (∀ (loc : Seq → List Reg) (erase : Bool) (s : Seq), within s.len (many (loc s)) →
        (deleteAscending loc erase s).bytes = keepUncovered (many (loc s)) s.bytes) := by
  intro h
  have := h (fun _ => [seg 0 1, seg 3 4]) false ⟨[], [65, 67, 71, 84, 65]⟩ (by decide)
  revert this
  unfold deleteAscending
  rw [minimize_eq]
  decide

/-- SPEC: for every position `p = 0 … bs.length`, as many copies of the guest `g` as `p` occurs
in the index list, then the residue `bs[p]` (if `p < bs.length`). -/
def insertSpec (idx : List Int) (g bs : List UInt8) : List UInt8 :=
  (List.range (bs.length + 1)).flatMap fun (p : Nat) =>
    (List.replicate (idx.count (p : Int)) g).flatten ++ bs[p]?.toList

/-- The model's `sort.Sort(sort.Reverse(sort.IntSlice(indices)))` returns a permutation of its
input in descending order — what any correct sort returns (ties are equal integers). -/
theorem sortDesc_sorted_perm (l : List Int) :
    (Cli.sortDesc l).Perm l ∧ (Cli.sortDesc l).Pairwise (fun a b => b ≤ a) :=
  ⟨Cli.sortDesc_perm l, Cli.sortDesc_sorted l⟩

/-- **insert / infix put one guest copy per located region, at that region's 5' position
measured in the INPUT's coordinates** (`Cli.insert` is the loop body of both `gts insert` and
`gts infix` for one host and one guest record; `embed` is the `-e` flag: `gts.Embed` instead of
`gts.Insert`): if the head `h` of every located region satisfies
`0 ≤ h ≤ len`, the residues of the result are `insertSpec` of the list of heads.  Regions with
the same head give several copies at the same place. -/
theorem insert_bytes (loc : Seq → List Reg) (embed : Bool) (host guest : Seq)
    (hw : ∀ h ∈ (loc host).map Reg.head, 0 ≤ h ∧ h ≤ host.len) :
    (Cli.insert loc embed host guest).bytes =
      insertSpec ((loc host).map Reg.head) guest.bytes host.bytes := by
  unfold Cli.insert
  -- the loop runs over the descending list: read from the right it is the ascending one
  rw [Cli.insertAt_bytes, ← List.foldr_reverse,
    Cli.foldr_splice _ _ _ (List.pairwise_reverse.mpr (Cli.sortDesc_sorted _))
      (fun i hi => hw i ((Cli.sortDesc_perm _).subset (List.mem_reverse.mp hi))),
    Cli.scanOff_eq_range, insertSpec]
  simp only [List.count_reverse, (Cli.sortDesc_perm _).count_eq, Nat.add_zero, Bool.false_eq_true, if_false]

/-- … and the result grows by one guest length per located region (wherever the heads lie). -/
theorem insert_length (loc : Seq → List Reg) (embed : Bool) (host guest : Seq) :
    (Cli.insert loc embed host guest).bytes.length =
      host.bytes.length + (loc host).length * guest.bytes.length := by
  unfold Cli.insert
  rw [Cli.insertAt_bytes, Cli.foldl_splice_length, (Cli.sortDesc_perm _).length_eq, List.length_map]

/-- Without any located region the host is written unchanged. -/
theorem insert_none (loc : Seq → List Reg) (embed : Bool) (host guest : Seq) (h : loc host = []) :
    Cli.insert loc embed host guest = host := by
  unfold Cli.insert
  rw [h]
  rfl

/-- with and without `-e` (`gts.Embed` instead of `gts.Insert`) the residues are the same: the flag
only changes how host features spanning a site are re-located. -/
theorem insert_infix_same_bytes (loc : Seq → List Reg) (host guest : Seq) :
    (Cli.insert loc true host guest).bytes = (Cli.insert loc false host guest).bytes := by
  unfold Cli.insert
  rw [Cli.insertAt_bytes, Cli.insertAt_bytes]

/-- One step of the loop is `gts.Insert` (or `gts.Embed`) at the largest remaining index, whose
effect on residues and features is C02 (`C02.insert_bytes`, `C02.insert_table_perm`,
`C02.embed_table_perm`, `C02.shift_den_partial`, …). -/
theorem insert_step (embed : Bool) (i : Int) (idx : List Int) (host guest : Seq) :
    Cli.insertAt embed (i :: idx) host guest =
      Cli.insertAt embed idx (if embed then host.embed i guest else host.insert i guest) guest := rfl

/-- the loop WITHOUT the descending sort: ascending indices -/
def insertAscending (loc : Seq → List Reg) (embed : Bool) (host guest : Seq) : Seq :=
  Cli.insertAt embed (Cli.sortDesc ((loc host).map Reg.head)).reverse host guest

/-- The descending order is needed: in ASCENDING order every insertion shifts the later ones.
Inserting `N` at positions 1 and 3 of `ACGT` must give `ANCGNT`; ascending order gives `ANCNGT`. -/
theorem insert_ascending_refuted :
    ¬ (∀ (loc : Seq → List Reg) (embed : Bool) (host guest : Seq),
        (∀ h ∈ (loc host).map Reg.head, 0 ≤ h ∧ h ≤ host.len) →
        (insertAscending loc embed host guest).bytes =
          insertSpec ((loc host).map Reg.head) guest.bytes host.bytes) := by
  intro h
  have := h (fun _ => [seg 1 2, seg 3 4]) false ⟨[], [65, 67, 71, 84]⟩ ⟨[], [78]⟩ (by decide)
  revert this
  decide

/-- The model's `sort.Ints` over the keys of the `unique` map returns the distinct cuts in
strictly ascending order. -/
theorem sortAscU_sorted_mem (l : List Int) :
    (Cli.sortAscU l).Pairwise (fun a b => a < b) ∧ ∀ x, x ∈ Cli.sortAscU l ↔ x ∈ l :=
  ⟨Cli.sortAscU_sorted l, fun x => Cli.mem_sortAscU x l⟩

theorem split_nil (loc : Seq → List Reg) (circular : Bool) (s : Seq) (h : loc s = []) :
    Cli.split loc circular s = [s] := by
  simp only [Cli.split, h]

/-- at least one located region: one rotation (circular and exactly one region: at its head;
circular and exactly one distinct cut: at that cut), else the pieces between consecutive cuts —
linear: `0, cuts…, len`; circular: `last cut, cuts…` -/
theorem split_cons (loc : Seq → List Reg) (circular : Bool) (s : Seq) (r0 : Reg) (rest : List Reg)
    (h : loc s = r0 :: rest) :
    Cli.split loc circular s =
      if (r0 :: rest).length = 1 ∧ circular then [s.rotate (-(r0.head))]
      else if circular ∧ (Cli.sortAscU ((r0 :: rest).map Cli.cutOf)).length = 1 then
        [s.rotate (-((Cli.sortAscU ((r0 :: rest).map Cli.cutOf)).headD 0))]
      else Cli.pieces s (if circular
        then (Cli.sortAscU ((r0 :: rest).map Cli.cutOf)).getLast?.toList ++
          Cli.sortAscU ((r0 :: rest).map Cli.cutOf)
        else (0 : Int) :: Cli.sortAscU ((r0 :: rest).map Cli.cutOf) ++ [s.len]) := by
  simp only [Cli.split, h]

theorem split_linear_cuts_sorted (loc : Seq → List Reg) (s : Seq)
    (hw : ∀ r ∈ loc s, 0 ≤ Cli.cutOf r ∧ Cli.cutOf r ≤ s.len) :
    ((0 : Int) :: Cli.sortAscU ((loc s).map Cli.cutOf) ++ [s.len]).Pairwise (fun x y => x ≤ y) :=
  Cli.cuts_sorted _ s.len (Int.natCast_nonneg _) (Cli.sortAscU_map_bounds _ _ _ _ hw) (Cli.sortAscU_sorted_le _)

/-- **linear split**: when every cut lies in `[0, len]`, the pieces, concatenated in the order
they are written, are the input — for any number of located regions, also none, also repeated
or unordered cuts (empty pieces are possible: a cut at 0, at `len`). -/
theorem split_concat_linear (loc : Seq → List Reg) (s : Seq)
    (hw : ∀ r ∈ loc s, 0 ≤ Cli.cutOf r ∧ Cli.cutOf r ≤ s.len) :
    ((Cli.split loc false s).map (·.bytes)).flatten = s.bytes := by
  cases hl : loc s with
  | nil => rw [split_nil loc false s hl]; simp
  | cons r0 rest =>
    rw [split_cons loc false s r0 rest hl, ← hl]
    simp only [Bool.false_eq_true, and_false, false_and, if_false]
    rw [List.cons_append, Cli.pieces_bytes s 0 (Cli.sortAscU ((loc s).map Cli.cutOf) ++ [s.len])
        (split_linear_cuts_sorted loc s hw) (Int.le_refl 0), Cli.lastFrom_append]
    exact List.take_of_length_le (by simp [Seq.len])

/-- **circular split, one located region**: the record is rotated so that the region's head
becomes position 0 (one piece). -/
theorem split_circular_single (loc : Seq → List Reg) (s : Seq) (r : Reg) (h : loc s = [r]) :
    Cli.split loc true s = [s.rotate (-(r.head))] := by
  rw [split_cons loc true s r [] h]
  simp

/-- … whose residues are the input re-origined at that head (`0 ≤ head ≤ len`, `0 < len`). -/
theorem split_circular_single_bytes (loc : Seq → List Reg) (s : Seq) (r : Reg) (h : loc s = [r])
    (hL : 0 < s.len) (h0 : 0 ≤ r.head) (h1 : r.head ≤ s.len) :
    (Cli.split loc true s).map (·.bytes) = [s.bytes.drop r.head.toNat ++ s.bytes.take r.head.toNat] := by
  rw [split_circular_single loc s r h, List.map_singleton, Cli.rotate_neg_bytes s r.head h0 h1 hL]

/-- the byte-level behaviour of `gts.Slice(seq, a, b)` in its wrap-around branch (`0 ≤ b < a ≤
len`: rotate by `-a`, then slice forward): from `a` to the end, then from the start to `b` -/
theorem slice_bytes_wrap (s : Seq) (a b : Int) (hb : 0 ≤ b) (hab : b < a) (ha : a ≤ s.len) :
    (s.slice a b).bytes = s.bytes.drop a.toNat ++ s.bytes.take b.toNat :=
  Cli.slice_bytes_wrap s a b hb hab ha

/-- **circular split, at least two distinct cuts**, all inside `[0, len]`: the pieces,
concatenated in the order they are written, are the input re-origined at the LAST (largest) cut
`c`; the first piece runs across the origin, from `c` to the smallest cut. -/
theorem split_concat_circular (loc : Seq → List Reg) (s : Seq)
    (hw : ∀ r ∈ loc s, 0 ≤ Cli.cutOf r ∧ Cli.cutOf r ≤ s.len)
    (h2 : 2 ≤ (Cli.sortAscU ((loc s).map Cli.cutOf)).length) :
    ∃ c, (Cli.sortAscU ((loc s).map Cli.cutOf)).getLast? = some c ∧
      (∀ r ∈ loc s, Cli.cutOf r ≤ c) ∧
      ((Cli.split loc true s).map (·.bytes)).flatten =
        s.bytes.drop c.toNat ++ s.bytes.take c.toNat := by
  have hmem := Cli.sortAscU_map_bounds _ _ _ _ hw
  have hlt := Cli.sortAscU_sorted ((loc s).map Cli.cutOf)
  match hh : Cli.sortAscU ((loc s).map Cli.cutOf), h2 with
  | a :: b :: t, _ =>
    have hc := Cli.getLast?_lastFrom a (b :: t)
    refine ⟨_, hc, fun r hr => Cli.le_getLast _ (hlt.imp Int.le_of_lt) _ (hh ▸ hc) _
      ((Cli.mem_sortAscU _ _).mpr (List.mem_map_of_mem hr)), ?_⟩
    rw [Cli.split_circular_windows loc s h2 _ (hh ▸ hc), ← Cli.pieces_eq_map]
    rw [hh] at hmem hlt ⊢
    -- the piece across the origin, from the last cut `c` to the first cut `a`, then the forward pieces
    have hcm : Cli.lastFrom a (b :: t) ∈ b :: t := Cli.lastFrom_mem b t
    have hac := (List.pairwise_cons.mp hlt).1 _ hcm
    have ha0 := (hmem a (List.mem_cons_self ..)).1
    rw [Cli.pieces, List.map_cons, List.flatten_cons, Cli.pieces_bytes s a (b :: t) (hlt.imp Int.le_of_lt) ha0,
      Cli.slice_bytes_wrap s _ a ha0 hac (hmem _ (List.mem_cons_of_mem _ hcm)).2, List.append_assoc,
      ← List.take_add]
    congr 3; omega

/-- **circular split, several located regions sharing ONE distinct cut** `c` (e.g. a gene and its
CDS): the circle is opened at `c` — one piece, the record rotated so that `c` becomes position 0
(split.go after repair 78dc8d4; before it the output was ONE EMPTY record). -/
theorem split_circular_one_cut (loc : Seq → List Reg) (s : Seq) (r0 r1 : Reg) (rest : List Reg)
    (h : loc s = r0 :: r1 :: rest) (c : Int)
    (hc : Cli.sortAscU ((loc s).map Cli.cutOf) = [c]) :
    Cli.split loc true s = [s.rotate (-c)] := by
  rw [split_cons loc true s r0 (r1 :: rest) h, ← h, hc]
  simp [h]

/-- … whose residues are the input re-origined at that cut. -/
theorem split_circular_one_cut_bytes (loc : Seq → List Reg) (s : Seq) (r0 r1 : Reg) (rest : List Reg)
    (h : loc s = r0 :: r1 :: rest) (c : Int)
    (hc : Cli.sortAscU ((loc s).map Cli.cutOf) = [c])
    (hL : 0 < s.len) (h0 : 0 ≤ c) (h1 : c ≤ s.len) :
    (Cli.split loc true s).map (·.bytes) = [s.bytes.drop c.toNat ++ s.bytes.take c.toNat] := by
  rw [split_circular_one_cut loc s r0 r1 rest h c hc, List.map_singleton,
    Cli.rotate_neg_bytes s c h0 h1 hL]

/-- the witness of the repaired defect F24: `ACGTAC`, circular, two regions with head 2 -/
theorem split_circular_one_cut_example :
    (Cli.split (fun _ => [seg 2 4, seg 2 5]) true ⟨[], [65, 67, 71, 84, 65, 67]⟩).map (·.bytes)
      = [[71, 84, 65, 67, 65, 67]] := by
  decide

/-- **circular split, at full strength**: for ANY non-empty collection of located regions on a
non-empty circular record, with every head and every cut inside `[0, len]`, the pieces,
concatenated in the order they are written, are the input re-origined at a located position `c`
— the head of the only region, the only distinct cut, or the last of several distinct cuts. -/
theorem split_concat_circular_any (loc : Seq → List Reg) (s : Seq) (hne : loc s ≠ [])
    (hL : 0 < s.len)
    (hw : ∀ r ∈ loc s, 0 ≤ Cli.cutOf r ∧ Cli.cutOf r ≤ s.len ∧ 0 ≤ r.head ∧ r.head ≤ s.len) :
    ∃ c, (∃ r ∈ loc s, c = Cli.cutOf r ∨ c = r.head) ∧
      ((Cli.split loc true s).map (·.bytes)).flatten =
        s.bytes.drop c.toNat ++ s.bytes.take c.toNat := by
  obtain ⟨r0, rest, hl⟩ := List.exists_cons_of_ne_nil hne
  have hr0 : r0 ∈ loc s := by rw [hl]; exact List.mem_cons_self ..
  cases rest with
  | nil =>
    refine ⟨r0.head, ⟨r0, hr0, Or.inr rfl⟩, ?_⟩
    rw [split_circular_single_bytes loc s r0 hl hL (hw r0 hr0).2.2.1 (hw r0 hr0).2.2.2]
    simp
  | cons r1 rest =>
    by_cases h1 : (Cli.sortAscU ((loc s).map Cli.cutOf)).length = 1
    · obtain ⟨c, hc⟩ := List.length_eq_one_iff.mp h1
      obtain ⟨r, hr, rfl⟩ := List.mem_map.mp ((Cli.mem_sortAscU c _).mp (by rw [hc]; simp))
      have hb := hw r hr
      refine ⟨_, ⟨r, hr, Or.inl rfl⟩, ?_⟩
      rw [split_circular_one_cut_bytes loc s r0 r1 rest hl _ hc hL hb.1 hb.2.1]
      simp
    · have h2 : 2 ≤ (Cli.sortAscU ((loc s).map Cli.cutOf)).length := by
        have := List.length_pos_of_mem ((Cli.mem_sortAscU (Cli.cutOf r0) ((loc s).map Cli.cutOf)).mpr
          (List.mem_map_of_mem hr0))
        omega
      obtain ⟨c, hlast, _, hcat⟩ := split_concat_circular loc s
        (fun r hr => ⟨(hw r hr).1, (hw r hr).2.1⟩) h2
      obtain ⟨r, hr, rfl⟩ := List.mem_map.mp ((Cli.mem_sortAscU c _).mp (List.mem_of_getLast? hlast))
      exact ⟨_, ⟨r, hr, Or.inl rfl⟩, hcat⟩

/-- **rotate**: the head of the FIRST located region becomes position 0 (the other located
regions are ignored); the residues are a pure change of origin (C04 for the features:
`C04.rotate_table_perm`, `C04.rotate_den_partial`). -/
theorem rotate_first_head (loc : Seq → List Reg) (s : Seq) (r : Reg) (rest : List Reg)
    (h : loc s = r :: rest) (hL : 0 < s.len) (h0 : 0 ≤ r.head) (h1 : r.head ≤ s.len) :
    (Cli.rotate loc s).bytes = s.bytes.drop r.head.toNat ++ s.bytes.take r.head.toNat := by
  simp only [Cli.rotate, h]
  exact Cli.rotate_neg_bytes s r.head h0 h1 hL

/-- no located region: the record is unchanged -/
theorem rotate_none (loc : Seq → List Reg) (s : Seq) (h : loc s = []) : Cli.rotate loc s = s := by
  simp only [Cli.rotate, h]

/-- rotate and the one-region circular split do the same thing -/
theorem rotate_eq_split_single (loc : Seq → List Reg) (s : Seq) (r : Reg) (h : loc s = [r]) :
    Cli.split loc true s = [Cli.rotate loc s] := by
  rw [split_circular_single loc s r h]
  simp only [Cli.rotate, h]

/-- `reflect.DeepEqual` on regions, modelled by the derived-by-hand `==`, is equality. -/
theorem region_beq_iff_eq (a b : Reg) : (a == b) = true ↔ a = b := Cli.reg_beq_iff a b

/-- **de-duplication** (`containsRegion` + append): the result has no two `==`-equal elements,
has exactly the elements of the input, keeps the input's order (it is a sublist), and leaves an
input without repetitions untouched. -/
theorem extract_dedup (l : List Reg) :
    (Cli.dedupRegs [] l).Pairwise (fun a b => (a == b) = false) ∧
    (∀ x, x ∈ Cli.dedupRegs [] l ↔ x ∈ l) ∧
    (Cli.dedupRegs [] l).Sublist l ∧
    (l.Pairwise (fun a b => (a == b) = false) → Cli.dedupRegs [] l = l) := by
  refine ⟨?_, ?_, ?_, ?_⟩
  · exact (Cli.dedupRegs_nodup [] l List.nodup_nil).imp (Cli.reg_beq_false_iff _ _).mpr
  · intro x; simpa using Cli.mem_dedupRegs [] l x
  · obtain ⟨l', h1, h2⟩ := Cli.dedupRegs_sublist [] l
    exact h1 ▸ h2
  · intro h
    exact Cli.dedupRegs_of_nodup [] l (h.imp (Cli.reg_beq_false_iff _ _).mp)

/-- … and it is the list of FIRST occurrences: one more region at the end is appended iff it
did not occur before. -/
theorem extract_dedup_snoc (l : List Reg) (r : Reg) :
    Cli.dedupRegs [] (l ++ [r]) =
      if l.any (· == r) then Cli.dedupRegs [] l else Cli.dedupRegs [] l ++ [r] := by
  rw [Cli.dedupRegs_snoc]
  have : (Cli.dedupRegs [] l).any (· == r) = l.any (· == r) := by
    rw [Bool.eq_iff_iff, Cli.any_beq_iff, Cli.any_beq_iff]
    simpa using Cli.mem_dedupRegs [] l r
  rw [this]

/-- **what is emitted**: the de-duplicated located regions (or, with `-v`, their linear
inversion), of which — unless there is exactly one — only those whose length differs from the
record's; each is then cut out by `Locate`. -/
theorem extract_regs_filter (locs : List (Seq → List Reg)) (invert : Bool) (s : Seq) :
    let rr0 := Cli.dedupRegs [] (locs.flatMap fun l => l s)
    let rr := if invert then invertLinear (many rr0) s.len else rr0
    (∀ r, r ∈ Cli.extractRegs locs invert s ↔ r ∈ rr ∧ (rr.length = 1 ∨ r.len ≠ s.len)) ∧
    (Cli.extractRegs locs invert s).Sublist rr ∧
    (rr.length = 1 → Cli.extractRegs locs invert s = rr) ∧
    Cli.extract locs invert s = (Cli.extractRegs locs invert s).map fun r => r.locate s := by
  intro rr0 rr
  have hdef : Cli.extractRegs locs invert s = rr.filter fun r => rr.length == 1 || r.len != s.len := rfl
  refine ⟨?_, ?_, ?_, rfl⟩
  · intro r
    rw [hdef, List.mem_filter]
    simp
  · rw [hdef]; exact List.filter_sublist
  · intro h1
    rw [hdef, List.filter_eq_self]
    intro a _
    simp [h1]

/-- **residues of an extracted forward segment** `h..t` (`0 ≤ h ≤ t`): exactly the window. -/
theorem extract_forward_bytes (s : Seq) (h t : Int) (h0 : 0 ≤ h) (ht : h ≤ t) :
    (Reg.locate (seg h t) s).bytes = (s.bytes.drop h.toNat).take (t - h).toNat := by
  simp only [Reg.locate, show ¬ t < h by omega, if_false]
  exact C03.slice_bytes_fwd s h t h0 ht

/-- **residues of an extracted backward segment** (`0 ≤ t < h`): the reverse complement of the
window `[t, h)`. -/
theorem extract_backward_bytes (s : Seq) (h t : Int) (h0 : 0 ≤ t) (ht : t < h) :
    (Reg.locate (seg h t) s).bytes =
      (((s.bytes.drop t.toNat).take (h - t).toNat).map Nuc.complementByte).reverse := by
  simp only [Reg.locate, ht, if_true]
  show ((s.slice t h).bytes.map Nuc.complementByte).reverse = _
  rw [C03.slice_bytes_fwd s t h h0 (by omega)]

/-- **residues of an extracted compound region**: the parts, in the order they are listed. -/
theorem extract_many_bytes (s : Seq) (rs : List Reg) :
    (Reg.locate (many rs) s).bytes = (rs.map fun r => (Reg.locate r s).bytes).flatten := by
  simp only [Reg.locate]
  rw [Seq.concat_bytes_flatten, Cli.locateList_eq_map, List.map_map]
  rfl

/-- **`-v`**: when every located region lies inside the record, the inverted regions are plain
forward segments, non-empty, inside `[0, len]`, increasing and pairwise disjoint, and inside
`[0, len)` they cover exactly the positions that NO located region covers; when no located leaf
is zero-length they do not abut either — they are exactly the maximal unlocated stretches
(C09 `invertLinear_partition`, `invertLinear_cover`, `invertLinear_nonabutting`). -/
theorem extract_invert_cover (locs : List (Seq → List Reg)) (s : Seq)
    (hw : within s.len (many (locs.flatMap fun l => l s))) :
    let located := locs.flatMap fun l => l s
    let inv := invertLinear (many (Cli.dedupRegs [] located)) s.len
    inv = (leaves (many inv)).map (fun g => seg g.1 g.2) ∧
    (∀ g ∈ leaves (many inv), 0 ≤ g.1 ∧ g.1 < g.2 ∧ g.2 ≤ s.len) ∧
    (leaves (many inv)).Pairwise (fun a b => a.2 ≤ b.1) ∧
    (∀ x, 0 ≤ x → x < s.len → (cover (many inv) x ↔ ¬ cover (many located) x)) ∧
    (nonEmpty (many located) → (leaves (many inv)).Pairwise (fun a b => a.2 < b.1)) := by
  intro located inv
  have hmem := (extract_dedup located).2.1
  have hw' : within s.len (many (Cli.dedupRegs [] located)) := by
    simpa only [Cli.within_many_iff, hmem] using hw
  obtain ⟨hb, hp, _, _⟩ := C09.invertLinear_partition _ s.len s.len_nonneg hw'
  refine ⟨?_, hb, hp, ?_, ?_⟩
  · show inv = _
    rw [leaves_invertLinear]
    rfl
  · intro x h0 h1
    simpa only [Cli.cover_many_iff, hmem] using C09.invertLinear_cover _ s.len s.len_nonneg hw' x h0 h1
  · intro hne
    apply C09.invertLinear_nonabutting _ s.len s.len_nonneg hw'
    simpa only [Cli.nonEmpty_many_iff, hmem] using hne

/-- **composition lemma (delete)**, pure arithmetic: for forward, increasing, pairwise disjoint
segments, folding the single-cut re-mappings `delMap s (e-s)` over the segments in DESCENDING
order (`Cli.composeDel`, the order of the loop) is `Cli.unionDelMap`, a re-mapping of the
INPUT's positions: a position inside some segment is removed, any other position `x` moves left
by the total length of the segments that end at or before `x`. -/
theorem delete_remap_compose_segs (ss : List Seg) (hf : ∀ o ∈ ss, o.1 ≤ o.2)
    (hp : ss.Pairwise (fun a b => a.2 ≤ b.1)) (x : Int) :
    Cli.composeDel ss x = Cli.unionDelMap ss x :=
  Cli.composeDel_eq_unionDelMap ss hf hp x

/-- … in particular for the minimised segments of ANY region (C09: forward, strictly increasing,
never abutting) — no hypothesis. -/
theorem delete_remap_compose (r : Reg) (x : Int) :
    Cli.composeDel (minimize r) x = Cli.unionDelMap (minimize r) x :=
  Cli.composeDel_eq_unionDelMap _ (minimize_fwd r) ((C09.minimize_strictly_increasing_nonabutting r).imp Int.le_of_lt) x

theorem unionDelMap_removed_iff (r : Reg) (x : Int) :
    Cli.unionDelMap (minimize r) x = none ↔ cover r x := by
  unfold Cli.unionDelMap
  rw [← C09.minimize_cover r x]
  split <;> simp [*]

/-- a position left of every located region stays where it is -/
theorem unionDelMap_left (r : Reg) (x : Int) (h : ∀ o ∈ minimize r, x < o.1) :
    Cli.unionDelMap (minimize r) x = some x := by
  unfold Cli.unionDelMap
  rw [if_neg, Cli.delOffset_zero_of_lt _ (minimize_fwd r) x h]
  · simp
  · rintro ⟨o, ho, h1, _⟩
    have := h o ho; omega

/-- **`unionDelMap` in words of the INPUT only**: a position `x ≥ 0` that no located region covers
moves left by the NUMBER OF COVERED POSITIONS below it (located regions at non-negative
positions) — the re-mapping does not depend on how the regions are presented. -/
theorem unionDelMap_eq_count (r : Reg) (hw : ∀ o ∈ minimize r, 0 ≤ o.1) (x : Int) (hx : 0 ≤ x)
    (hc : ¬ cover r x) :
    Cli.unionDelMap (minimize r) x =
      some (x - ((List.range x.toNat).countP fun (k : Nat) => decide (cover r (k : Int)) : Nat)) := by
  have hcs := mt (C09.minimize_cover r x).mp hc
  unfold Cli.unionDelMap
  rw [if_neg hcs, Cli.delOffset_eq_count _ (minimize_fwd r) ((C09.minimize_strictly_increasing_nonabutting r).imp Int.le_of_lt)
    hw x hx hcs]
  unfold Cli.covB
  simp only [C09.minimize_cover]

theorem unionDelMap_inj (r : Reg) (x x' y : Int) (h : Cli.unionDelMap (minimize r) x = some y)
    (h' : Cli.unionDelMap (minimize r) x' = some y) : x = x' := by
  rw [← delete_remap_compose] at h h'
  exact Cli.composeDel_inj _ x x' y h h'

theorem delLoc_den_union (r : Reg) (l : Loc) (hw : l.wf = true) (hk2 : Cli.delAbs (minimize r) l = false) :
    (Cli.delLoc (minimize r) l).den ≼ filterMapPos (Cli.unionDelMap (minimize r)) l.den := by
  rw [← funext (delete_remap_compose r)]
  exact (Cli.delLoc_den _ l hw).1 hk2

/-- **`gts delete` keeps every feature**: the same number, in the same table order, with
unchanged key and qualifiers; each is re-located by `Cli.delLoc` — `Expand(head, -len)` for
every minimised segment, from the rightmost to the leftmost. -/
theorem delete_feats (loc : Seq → List Reg) (s : Seq) :
    (Cli.delete loc false s).feats =
      s.feats.map fun f => { f with loc := Cli.delLoc (minimize (many (loc s))) f.loc } :=
  Cli.deleteSegs_feats _ _

/-- FULL STATEMENT (false today through known finding K2 inside `Join`):
`∀ loc s, ∀ f ∈ s.feats, wf f.loc → ∃ f' ∈ (Cli.delete loc false s).feats, f'.key = f.key ∧
 f'.props = f.props ∧ den f'.loc ≼ filterMapPos (unionDelMap (minimize (many (loc s)))) (den f.loc)`;
witness: `join(4..6,9)` on a 10-residue record with `[6,8)` deleted loses base 9. -/
theorem delete_features_full_refuted :
    ¬ (∀ (loc : Seq → List Reg) (s : Seq) (f : Feature), f ∈ s.feats → f.loc.wf = true →
        ∃ f' ∈ (Cli.delete loc false s).feats, f'.key = f.key ∧ f'.props = f.props ∧
          f'.loc.den ≼ filterMapPos (Cli.unionDelMap (minimize (many (loc s)))) f.loc.den) := by
  intro h
  obtain ⟨f', hf', _, _, hden⟩ := h (fun _ => [seg 6 8])
    ⟨[⟨"gene", .joined [.ranged 3 6 false false, .point 8], []⟩], [97, 99, 103, 116, 97, 99, 103, 116, 97, 99]⟩
    ⟨"gene", .joined [.ranged 3 6 false false, .point 8], []⟩ (by simp) (by decide)
  rw [delete_feats] at hf'
  simp only [List.map_cons, List.map_nil, List.mem_singleton] at hf'
  subst hf'
  have := hden.2 (6, false) (by rw [minimize_eq]; decide)
  revert this
  rw [minimize_eq]
  decide

/-- **`gts delete`, every feature, every locator** (last sentence of the property): for every
feature `f` of the input record with a well-formed location of any kind, nesting and strand, and
every locator, the record written by `gts delete` contains a feature with the same key and
qualifiers whose location denotes exactly the residues `f` denoted in the INPUT that no located
region covers, at their new positions (`Cli.unionDelMap` of the minimised located regions), in
the same order and on the same strand (duplicate occurrences may be merged) — provided rule K2
fires in no `Join` of any step of the loop (`Cli.delAbs`, the conjunction of the single-step
guards `expandAbs`, decidable).  The located regions may overlap, nest, lie on either strand,
have zero length, or reach outside the record. -/
theorem delete_features_partial (loc : Seq → List Reg) (s : Seq) (f : Feature) (hf : f ∈ s.feats)
    (hw : f.loc.wf = true) (hk2 : Cli.delAbs (minimize (many (loc s))) f.loc = false) :
    ∃ f' ∈ (Cli.delete loc false s).feats, f'.key = f.key ∧ f'.props = f.props ∧
      f'.loc.den ≼ filterMapPos (Cli.unionDelMap (minimize (many (loc s)))) f.loc.den := by
  refine ⟨{ f with loc := Cli.delLoc (minimize (many (loc s))) f.loc }, ?_, rfl, rfl, ?_⟩
  · rw [delete_feats]; exact List.mem_map_of_mem hf
  · exact delLoc_den_union _ f.loc hw hk2

/-- … with EQUALITY for duplicate-free locations (every real feature). -/
theorem delete_features_eq_partial (loc : Seq → List Reg) (s : Seq) (f : Feature) (hf : f ∈ s.feats)
    (hw : f.loc.wf = true) (hk2 : Cli.delAbs (minimize (many (loc s))) f.loc = false)
    (hnd : f.loc.den.Nodup) :
    ∃ f' ∈ (Cli.delete loc false s).feats, f'.key = f.key ∧ f'.props = f.props ∧
      f'.loc.den = filterMapPos (Cli.unionDelMap (minimize (many (loc s)))) f.loc.den := by
  obtain ⟨f', h1, h2, h3, h4⟩ := delete_features_partial loc s f hf hw hk2
  exact ⟨f', h1, h2, h3, h4.eq_of_nodup
    (Cli.nodup_filterMapPos _ _ (unionDelMap_inj (many (loc s))) hnd)⟩

/-- the re-located features stay well-formed (so the theorems apply again to the output) -/
theorem delete_features_wf (loc : Seq → List Reg) (s : Seq) (f : Feature) (hw : f.loc.wf = true) :
    (Cli.delLoc (minimize (many (loc s))) f.loc).wf = true :=
  (Cli.delLoc_den _ f.loc hw).2

/-- **`gts delete -e`, which features are dropped**: exactly those failing `Cli.eraseKeep` — at
some cut of the loop the feature is not a `source` and its CURRENT location (after the cuts to
the right) lies wholly within the segment being cut (`gts.Erase`, C03 `erase_spec`); the others
survive in table order with unchanged key and qualifiers, re-located as under plain delete. -/
theorem delete_erase_feats (loc : Seq → List Reg) (s : Seq) :
    (Cli.delete loc true s).feats =
      (s.feats.filter (Cli.eraseKeep (minimize (many (loc s))))).map fun f =>
        { f with loc := Cli.delLoc (minimize (many (loc s))) f.loc } :=
  Cli.deleteSegs_erase_feats _ _

/-- a `source` feature is never dropped -/
theorem delete_erase_keeps_source (ss : List Seg) (f : Feature) (h : f.key = "source") :
    Cli.eraseKeep ss f = true := by
  induction ss with
  | nil => rfl
  | cons a ss ih => simp [Cli.eraseKeep, ih, h]

/-- without any located region nothing is dropped; a feature is dropped at the first (rightmost)
cut at which its current location lies within the cut -/
theorem delete_erase_keep_iff (a : Seg) (ss : List Seg) (f : Feature) :
    Cli.eraseKeep (a :: ss) f = true ↔
      Cli.eraseKeep ss f = true ∧
        (f.key = "source" ∨ (Cli.delLoc ss f.loc).within a.1 (a.1 + Reg.gabs (a.2 - a.1)) = false) := by
  simp [Cli.eraseKeep]

/-- **`gts delete -e`, surviving features** denote their former residues like under plain delete -/
theorem delete_erase_features_partial (loc : Seq → List Reg) (s : Seq) (f : Feature) (hf : f ∈ s.feats)
    (hkeep : Cli.eraseKeep (minimize (many (loc s))) f = true)
    (hw : f.loc.wf = true) (hk2 : Cli.delAbs (minimize (many (loc s))) f.loc = false) :
    ∃ f' ∈ (Cli.delete loc true s).feats, f'.key = f.key ∧ f'.props = f.props ∧
      f'.loc.den ≼ filterMapPos (Cli.unionDelMap (minimize (many (loc s)))) f.loc.den := by
  refine ⟨{ f with loc := Cli.delLoc (minimize (many (loc s))) f.loc }, ?_, rfl, rfl, ?_⟩
  · rw [delete_erase_feats]; exact List.mem_map_of_mem (List.mem_filter.mpr ⟨hf, hkeep⟩)
  · exact delLoc_den_union _ f.loc hw hk2

/-- … and every feature of the `-e` output comes from a kept feature of the input -/
theorem delete_erase_feature_origin (loc : Seq → List Reg) (s : Seq) (f' : Feature)
    (hf' : f' ∈ (Cli.delete loc true s).feats) :
    ∃ f ∈ s.feats, Cli.eraseKeep (minimize (many (loc s))) f = true ∧ f'.key = f.key ∧
      f'.props = f.props ∧ f'.loc = Cli.delLoc (minimize (many (loc s))) f.loc := by
  rw [delete_erase_feats] at hf'
  obtain ⟨f, hf, rfl⟩ := List.mem_map.mp hf'
  obtain ⟨hm, hk⟩ := List.mem_filter.mp hf
  exact ⟨f, hm, hk, rfl, rfl, rfl⟩

/-- **`gts delete -e` never drops a feature that keeps a residue** (safety, in terms of the
INPUT): if a feature with a well-formed location is dropped, every residue it denoted is covered
by a located region — provided K2 fires in no step before the drop. -/
theorem delete_erase_dropped_covered_partial (loc : Seq → List Reg) (s : Seq) (f : Feature)
    (hw : f.loc.wf = true) (hk2 : Cli.delAbs (minimize (many (loc s))) f.loc = false)
    (hd : Cli.eraseKeep (minimize (many (loc s))) f = false) :
    ∀ p ∈ f.loc.den, cover (many (loc s)) p.1 := by
  intro p hp
  rw [← unionDelMap_removed_iff, ← delete_remap_compose]
  exact Cli.composeDel_none_of_dropped _ f hw hk2 hd p hp

/-- … equivalently: a feature one of whose residues survives is kept (with that residue). -/
theorem delete_erase_kept_of_survivor_partial (loc : Seq → List Reg) (s : Seq) (f : Feature)
    (hw : f.loc.wf = true) (hk2 : Cli.delAbs (minimize (many (loc s))) f.loc = false)
    (p : Pos) (hp : p ∈ f.loc.den) (hs : ¬ cover (many (loc s)) p.1) :
    Cli.eraseKeep (minimize (many (loc s))) f = true :=
  eq_true_of_ne_false fun h => hs (delete_erase_dropped_covered_partial loc s f hw hk2 h p hp)

/-- **`gts delete -e` drops every plain range lying within one maximal located stretch**
(liveness for the contiguous kind, in terms of the INPUT): a non-`source` feature `s..e` with
`[s, e)` inside one minimised segment of the located regions fails `eraseKeep`, so it is not
written (`delete_erase_feats`).  No guard: a range is never `Join`ed. -/
theorem delete_erase_drops_ranged (loc : Seq → List Reg) (s : Seq) (f : Feature)
    (st e : Int) (p5 p3 : Bool) (hloc : f.loc = .ranged st e p5 p3) (hse : st < e)
    (hns : f.key ≠ "source") (a : Seg) (ha : a ∈ minimize (many (loc s)))
    (hin : a.1 ≤ st ∧ e ≤ a.2) :
    Cli.eraseKeep (minimize (many (loc s))) f = false := by
  obtain ⟨pre, post, hsplit⟩ := List.append_of_mem ha
  have hp := C09.minimize_strictly_increasing_nonabutting (many (loc s))
  rw [hsplit] at hp ⊢
  have hpost := (List.pairwise_cons.mp (List.pairwise_append.mp hp).2.1).1
  exact Cli.eraseKeep_false_of_ranged_within pre a post f st e p5 p3 hloc hse hns hin
    (fun b hb => by have := hpost b hb; omega)

/-- **composition lemma (insert)**, pure arithmetic: folding the single-insertion re-mappings
`insMap h g` over the heads in DESCENDING order (`Cli.composeIns`, the order of the loop;
duplicates allowed) is `Cli.multiInsMap`, a re-mapping of the INPUT's positions: `x` moves right
by `g · #{h ∈ heads | h ≤ x}` (the boundary convention of `insMap`: the residue AT a head moves). -/
theorem insert_remap_compose (heads : List Int) (g : Int) (hg : 0 ≤ g) (x : Int) :
    Cli.composeIns g (Cli.sortDesc heads) x = Cli.multiInsMap heads g x := by
  rw [Cli.composeIns_eq_multiInsMap g hg _ (Cli.sortDesc_sorted heads),
    Cli.multiInsMap_perm (Cli.sortDesc_perm heads)]

theorem multiInsMap_inj (heads : List Int) (g : Int) (hg : 0 ≤ g) (x x' : Int)
    (h : Cli.multiInsMap heads g x = Cli.multiInsMap heads g x') : x = x' := by
  rw [← insert_remap_compose heads g hg, ← insert_remap_compose heads g hg] at h
  exact Cli.composeIns_inj g hg _ x x' h

/-- **feature table after `gts insert` / `gts infix`**: every host feature exactly once
(re-located by `Cli.insLoc`: `Shift(i, n)` — infix: `Expand(i, n)` — for every head, descending)
and one copy of every guest feature per located region (`Cli.guestCopies`: `Expand(0, i)`, then
re-located like a host feature by the later insertions); keys and qualifiers unchanged. -/
theorem insert_feats_perm (loc : Seq → List Reg) (embed : Bool) (host guest : Seq) :
    (Cli.insert loc embed host guest).feats.Perm
      (host.feats.map (Cli.relocate embed guest.len (Cli.sortDesc ((loc host).map Reg.head))) ++
        Cli.guestCopies embed guest.len guest.feats (Cli.sortDesc ((loc host).map Reg.head))) :=
  Cli.insertAt_feats_perm embed _ host guest

/-- … hence `|host| + #regions · |guest|` features -/
theorem insert_feature_count (loc : Seq → List Reg) (embed : Bool) (host guest : Seq) :
    (Cli.insert loc embed host guest).feats.length =
      host.feats.length + (loc host).length * guest.feats.length := by
  rw [(insert_feats_perm loc embed host guest).length_eq, List.length_append, List.length_map,
    Cli.guestCopies_length, (Cli.sortDesc_perm _).length_eq, List.length_map]

/-- FULL STATEMENT (false today through known finding K2 inside `Join`): the same without the
guard; witness: `join(4..6,7)` with an empty guest inserted at 0 (C02 `shift_den_full_refuted`). -/
theorem insert_host_features_full_refuted :
    ¬ (∀ (loc : Seq → List Reg) (host guest : Seq) (f : Feature), f ∈ host.feats → f.loc.wf = true →
        ∃ f' ∈ (Cli.insert loc false host guest).feats, f'.key = f.key ∧ f'.props = f.props ∧
          f'.loc.den ≼ mapPos (Cli.multiInsMap ((loc host).map Reg.head) guest.len) f.loc.den) := by
  intro h
  obtain ⟨f', hf', _, _, hden⟩ := h (fun _ => [seg 0 1])
    ⟨[⟨"gene", .joined [.ranged 3 6 false false, .point 6], []⟩], [97, 99, 103, 116, 97, 99, 103, 116, 97, 99]⟩
    ⟨[], []⟩ ⟨"gene", .joined [.ranged 3 6 false false, .point 6], []⟩ (by simp) (by decide)
  have hp : f' ∈ [Cli.relocate false 0 [0]
      ⟨"gene", .joined [.ranged 3 6 false false, .point 6], []⟩] :=
    (insert_feats_perm _ false _ _).subset hf'
  rw [List.mem_singleton] at hp
  subst hp
  have := hden.2 (6, false) (by decide)
  revert this
  decide

/-- **`gts insert`, host features, every locator** (last sentence of the property): for every
host feature `f` with a well-formed location of any kind, nesting and strand, the record written
by `gts insert` contains a feature with the same key and qualifiers whose location denotes
exactly the residues `f` denoted in the INPUT, at their new positions (`Cli.multiInsMap` of the
heads of the located regions: one guest length per head at or before the residue), same order
and strand — provided K2 fires in no `Join` of any step (`Cli.insAbs false`, the conjunction of
the single-step guards `shiftAbs`).  Heads may repeat, be unordered, or lie outside the record. -/
theorem insert_host_features_partial (loc : Seq → List Reg) (host guest : Seq) (f : Feature)
    (hf : f ∈ host.feats) (hw : f.loc.wf = true)
    (hk2 : Cli.insAbs false guest.len (Cli.sortDesc ((loc host).map Reg.head)) f.loc = false) :
    ∃ f' ∈ (Cli.insert loc false host guest).feats, f'.key = f.key ∧ f'.props = f.props ∧
      f'.loc.den ≼ mapPos (Cli.multiInsMap ((loc host).map Reg.head) guest.len) f.loc.den := by
  refine ⟨Cli.relocate false guest.len (Cli.sortDesc ((loc host).map Reg.head)) f, ?_, rfl, rfl, ?_⟩
  · exact (insert_feats_perm loc false host guest).symm.subset
      (List.mem_append_left _ (List.mem_map_of_mem hf))
  · rw [← funext (insert_remap_compose _ _ guest.len_nonneg)]
    exact (Cli.insLoc_den guest.len guest.len_nonneg _ f.loc hw).1 hk2

/-- … with EQUALITY for duplicate-free locations (every real feature). -/
theorem insert_host_features_eq_partial (loc : Seq → List Reg) (host guest : Seq) (f : Feature)
    (hf : f ∈ host.feats) (hw : f.loc.wf = true)
    (hk2 : Cli.insAbs false guest.len (Cli.sortDesc ((loc host).map Reg.head)) f.loc = false)
    (hnd : f.loc.den.Nodup) :
    ∃ f' ∈ (Cli.insert loc false host guest).feats, f'.key = f.key ∧ f'.props = f.props ∧
      f'.loc.den = mapPos (Cli.multiInsMap ((loc host).map Reg.head) guest.len) f.loc.den := by
  obtain ⟨f', h1, h2, h3, h4⟩ := insert_host_features_partial loc host guest f hf hw hk2
  exact ⟨f', h1, h2, h3, h4.eq_of_nodup
    (Loc.nodup_mapPos_of_inj _ _ (fun a _ b _ => multiInsMap_inj _ _ guest.len_nonneg a.1 b.1) hnd)⟩

/-- **`gts infix` (`Embed`), host features**: `Expand` stretches a part that spans a head over
the guest copy there (that is the point of infix), so the law is stated like C02
`expand_den_partial`: OUTSIDE the guest copies (`Cli.stripGuests` removes the residues of every
copy, whose output positions are `Cli.copyStarts`) the location denotes exactly the residues
`f` denoted in the input, at their new positions — under the folded guard `Cli.insAbs true`. -/
theorem infix_host_features_partial (loc : Seq → List Reg) (host guest : Seq) (f : Feature)
    (hf : f ∈ host.feats) (hw : f.loc.wf = true)
    (hk2 : Cli.insAbs true guest.len (Cli.sortDesc ((loc host).map Reg.head)) f.loc = false) :
    ∃ f' ∈ (Cli.insert loc true host guest).feats, f'.key = f.key ∧ f'.props = f.props ∧
      Cli.stripGuests (Cli.copyStarts guest.len (Cli.sortDesc ((loc host).map Reg.head))) guest.len
          f'.loc.den ≼
        mapPos (Cli.multiInsMap ((loc host).map Reg.head) guest.len) f.loc.den := by
  refine ⟨Cli.relocate true guest.len (Cli.sortDesc ((loc host).map Reg.head)) f, ?_, rfl, rfl, ?_⟩
  · exact (insert_feats_perm loc true host guest).symm.subset
      (List.mem_append_left _ (List.mem_map_of_mem hf))
  · rw [← funext (insert_remap_compose _ _ guest.len_nonneg)]
    exact (Cli.embLoc_den guest.len guest.len_nonneg _ (Cli.sortDesc_sorted _) f.loc hw).1 hk2

theorem sortDesc_split (heads pre post : List Int) (i : Int)
    (h : Cli.sortDesc heads = pre ++ i :: post) :
    post.Pairwise (fun a b => b ≤ a) ∧ (∀ a ∈ post, a ≤ i) ∧ i ∈ heads ∧ (∀ a ∈ post, a ∈ heads) := by
  have hs := Cli.sortDesc_sorted heads
  have hm := (Cli.sortDesc_perm heads).subset
  rw [h] at hs hm
  have h2 := List.pairwise_cons.mp (List.pairwise_append.mp hs).2.1
  exact ⟨h2.2, h2.1, hm (by simp), fun a ha => hm (by simp [ha])⟩

/-- **guest features, every copy** (`gts insert`): let the descending head list be
`pre ++ i :: post`.  The copy inserted at `i` ends up at position `i + |guest| · |post|` of the
OUTPUT (it is moved by the `|post|` later insertions), and each of its features — same key and
qualifiers as in the guest — denotes the guest's residues offset by exactly that position.
Hypotheses: `0 ≤ i`, guest location well-formed with non-negative coordinates, K2 guards of
`Expand(0, i)` and of the later steps. -/
theorem guest_den_partial (loc : Seq → List Reg) (host guest : Seq) (pre post : List Int) (i : Int)
    (hsplit : Cli.sortDesc ((loc host).map Reg.head) = pre ++ i :: post) (hi : 0 ≤ i)
    (f : Feature) (hf : f ∈ guest.feats) (hw : f.loc.wf = true) (hnn : f.loc.nonneg = true)
    (g1 : Loc.expandAbs f.loc 0 i = false)
    (g2 : Cli.insAbs false guest.len post (f.loc.expand 0 i) = false) :
    ∃ f' ∈ (Cli.insert loc false host guest).feats, f'.key = f.key ∧ f'.props = f.props ∧
      f'.loc.den ≼ mapPos (· + (i + guest.len * post.length)) f.loc.den := by
  obtain ⟨hs, hpost, _, _⟩ := sortDesc_split _ pre post i hsplit
  refine ⟨Cli.relocate false guest.len post { f with loc := f.loc.expand 0 i }, ?_, rfl, rfl, ?_⟩
  · apply (insert_feats_perm loc false host guest).symm.subset
    rw [hsplit]
    exact List.mem_append_right _ (Cli.mem_guestCopies false guest.len guest.feats pre i post f hf)
  · exact ((Cli.insLoc_den guest.len guest.len_nonneg post _ (Loc.expand_ins f.loc 0 i hw hi).2).1 g2).trans
      (Cli.guest_remap guest.len guest.len_nonneg i hi post hs hpost f.loc hw hnn g1)

/-- **guest features, every copy** (`gts infix`): the same outside the LATER guest copies
(`Expand` of a later insertion at an index `≤ i` only translates the copy; the statement keeps
the form of C02 `expand_den_partial`). -/
theorem infix_guest_den_partial (loc : Seq → List Reg) (host guest : Seq) (pre post : List Int) (i : Int)
    (hsplit : Cli.sortDesc ((loc host).map Reg.head) = pre ++ i :: post) (hi : 0 ≤ i)
    (f : Feature) (hf : f ∈ guest.feats) (hw : f.loc.wf = true) (hnn : f.loc.nonneg = true)
    (g1 : Loc.expandAbs f.loc 0 i = false)
    (g2 : Cli.insAbs true guest.len post (f.loc.expand 0 i) = false) :
    ∃ f' ∈ (Cli.insert loc true host guest).feats, f'.key = f.key ∧ f'.props = f.props ∧
      Cli.stripGuests (Cli.copyStarts guest.len post) guest.len f'.loc.den ≼
        mapPos (· + (i + guest.len * post.length)) f.loc.den := by
  obtain ⟨hs, hpost, _, _⟩ := sortDesc_split _ pre post i hsplit
  refine ⟨Cli.relocate true guest.len post { f with loc := f.loc.expand 0 i }, ?_, rfl, rfl, ?_⟩
  · apply (insert_feats_perm loc true host guest).symm.subset
    rw [hsplit]
    exact List.mem_append_right _ (Cli.mem_guestCopies true guest.len guest.feats pre i post f hf)
  · exact ((Cli.embLoc_den guest.len guest.len_nonneg post hs _ (Loc.expand_ins f.loc 0 i hw hi).2).1 g2).trans
      (Cli.guest_remap guest.len guest.len_nonneg i hi post hs hpost f.loc hw hnn g1)

/-- **… and that position is where the copy's residues are**: with every head in `[0, len]`, the
output of `gts insert` / `gts infix` reads the guest's residues at
`[i + |guest| · |post|, i + |guest| · |post| + |guest|)`. -/
theorem guest_copy_bytes (loc : Seq → List Reg) (embed : Bool) (host guest : Seq)
    (hw : ∀ h ∈ (loc host).map Reg.head, 0 ≤ h ∧ h ≤ host.len) (pre post : List Int) (i : Int)
    (hsplit : Cli.sortDesc ((loc host).map Reg.head) = pre ++ i :: post) :
    ((Cli.insert loc embed host guest).bytes.drop (i + guest.len * post.length).toNat).take
      guest.bytes.length = guest.bytes := by
  obtain ⟨_, hpost, hi, hpm⟩ := sortDesc_split _ pre post i hsplit
  have hi' := hw i hi
  unfold Cli.insert
  rw [Cli.insertAt_bytes, hsplit]
  have e : (i + guest.len * post.length).toNat = i.toNat + post.length * guest.bytes.length := by
    unfold Seq.len; rw [← Int.natCast_mul, Nat.mul_comm]; omega
  rw [e]
  exact Cli.foldl_splice_copy pre i post guest.bytes host.bytes hi'
    (fun a ha => ⟨(hw a (hpm a ha)).1, hpost a ha⟩)

/-! ## non-vacuity -/

/-- `ACGTAC` -/
def s0 : Seq := ⟨[], [65, 67, 71, 84, 65, 67]⟩

/-- a backward segment and a nested, overlapping compound region -/
def loc0 : Seq → List Reg := fun _ => [seg 4 1, many [seg 0 2, seg 1 3]]

example : within s0.len (many (loc0 s0)) := by decide +kernel
example : keepUncovered (many (loc0 s0)) s0.bytes = [65, 67] := by decide +kernel
example : (Cli.delete loc0 false s0).bytes = [65, 67] := by
  unfold Cli.delete; rw [minimize_eq]; decide +kernel
example : (Cli.delete loc0 true s0).bytes = [65, 67] := by
  unfold Cli.delete; rw [minimize_eq]; decide +kernel

example : ∀ h ∈ (loc0 s0).map Reg.head, 0 ≤ h ∧ h ≤ s0.len := by decide +kernel
example : insertSpec ((loc0 s0).map Reg.head) [78, 78] s0.bytes = [78, 78, 65, 67, 71, 84, 78, 78, 65, 67] := by
  decide +kernel
example : (Cli.insert loc0 false s0 ⟨[], [78, 78]⟩).bytes = [78, 78, 65, 67, 71, 84, 78, 78, 65, 67] := by
  decide +kernel
/-- two regions with the same head: two copies at the same place -/
example : (Cli.insert (fun _ => [seg 2 3, seg 2 5]) true s0 ⟨[], [78]⟩).bytes = [65, 67, 78, 78, 71, 84, 65, 67] := by
  decide +kernel

example : ∀ r ∈ loc0 s0, 0 ≤ Cli.cutOf r ∧ Cli.cutOf r ≤ s0.len := by decide +kernel
example : (Cli.split loc0 false s0).map (·.bytes) = [[], [65], [67, 71, 84, 65, 67]] := by decide +kernel
example : 2 ≤ (Cli.sortAscU ((loc0 s0).map Cli.cutOf)).length := by decide +kernel
example : (Cli.split loc0 true s0).map (·.bytes) = [[67, 71, 84, 65, 67], [65]] := by decide +kernel
example : (Cli.split (fun _ => [seg 4 1]) true s0).map (·.bytes) = [[65, 67, 65, 67, 71, 84]] := by decide +kernel

example : (Cli.rotate loc0 s0).bytes = [65, 67, 65, 67, 71, 84] := by decide +kernel

example : (Cli.extract [loc0, loc0] false s0).map (·.bytes) = [[65, 67, 71], [65, 67, 67, 71]] := by decide +kernel
example : (Cli.extract [loc0] true s0).map (·.bytes) = [[65, 67]] := by
  simp only [Cli.extract, Cli.extractRegs, invertLinear_eq, minimize_eq]; decide +kernel
example : within s0.len (many ([loc0].flatMap fun l => l s0)) ∧ nonEmpty (many ([loc0].flatMap fun l => l s0)) := by
  decide +kernel

/-! ## the re-mappings are what the loops do to the RESIDUES, hence: features read the same residues -/

/-- **`unionDelMap` is where `gts delete` puts the residues**: the surviving residue that was at
position `x ≥ 0` of the input is at position `unionDelMap … x` of the output (located regions
inside the record). -/
theorem delete_residue_at (loc : Seq → List Reg) (erase : Bool) (s : Seq)
    (hw : within s.len (many (loc s))) (x y : Int) (hx : 0 ≤ x)
    (h : Cli.unionDelMap (minimize (many (loc s))) x = some y) :
    0 ≤ y ∧ (Cli.delete loc erase s).bytes[y.toNat]? = s.bytes[x.toNat]? := by
  unfold Cli.delete
  rw [Cli.deleteSegs_bytes]
  rw [← delete_remap_compose] at h
  exact Cli.foldr_cutB_get _ _
    (fun o ho => ⟨(minimize_within _ _ hw o ho).1, minimize_fwd _ o ho⟩) x y hx h

/-- **`multiInsMap` is where `gts insert` / `gts infix` put the host's residues**: the residue at
position `x` of the host (`0 ≤ x < len`) is at position `multiInsMap heads |guest| x` of the
output (every head `≥ 0`). -/
theorem insert_residue_at (loc : Seq → List Reg) (embed : Bool) (host guest : Seq)
    (hw : ∀ h ∈ (loc host).map Reg.head, 0 ≤ h) (x : Int) (hx : 0 ≤ x) (hxl : x < host.len) :
    (Cli.insert loc embed host guest).bytes[(Cli.multiInsMap ((loc host).map Reg.head) guest.len x).toNat]? =
      host.bytes[x.toNat]? := by
  unfold Cli.insert
  rw [Cli.insertAt_bytes, ← insert_remap_compose _ _ guest.len_nonneg]
  exact Cli.foldl_splice_get _ guest.bytes host.bytes
    (fun i hi => hw i ((Cli.sortDesc_perm _).subset hi)) x hx hxl

/-- a residue as a feature reads it: the byte at the position (if any) and the strand -/
def readAt (bs : List UInt8) (p : Pos) : Option UInt8 × Bool := (bs[p.1.toNat]?, p.2)

theorem map_readAt_mapPos (bs bs' : List UInt8) (φ : Int → Int) (d : List Pos)
    (h : ∀ p ∈ d, bs'[(φ p.1).toNat]? = bs[p.1.toNat]?) :
    (mapPos φ d).map (readAt bs') = d.map (readAt bs) := by
  unfold mapPos
  rw [List.map_map]
  exact List.map_congr_left fun p hp => by simp only [Function.comp, readAt, h p hp]

/-- **`gts delete`: every feature reads, in the output, the residues it read in the input** — the
last sentence of the property, literally: for a feature `f` with a well-formed, duplicate-free
location on non-negative positions, the written record has a feature with the same key and
qualifiers whose location reads (`readAt`: byte and strand, in order) from the OUTPUT residues
exactly what `f`'s location read from the INPUT residues at the positions no located region
covers.  Guards: located regions inside the record, K2 in no step (`Cli.delAbs`). -/
theorem delete_features_residues_partial (loc : Seq → List Reg) (s : Seq) (f : Feature)
    (hf : f ∈ s.feats) (hwr : within s.len (many (loc s)))
    (hw : f.loc.wf = true) (hk2 : Cli.delAbs (minimize (many (loc s))) f.loc = false)
    (hnd : f.loc.den.Nodup) (hpos : ∀ p ∈ f.loc.den, 0 ≤ p.1) :
    ∃ f' ∈ (Cli.delete loc false s).feats, f'.key = f.key ∧ f'.props = f.props ∧
      f'.loc.den.map (readAt (Cli.delete loc false s).bytes) =
        (f.loc.den.filter fun p => !decide (cover (many (loc s)) p.1)).map (readAt s.bytes) := by
  obtain ⟨f', h1, h2, h3, h4⟩ := delete_features_eq_partial loc s f hf hw hk2 hnd
  refine ⟨f', h1, h2, h3, ?_⟩
  rw [h4]
  apply Cli.map_filterMapPos_eq
  intro p hp
  by_cases hc : cover (many (loc s)) p.1
  · exact .inl ⟨(unionDelMap_removed_iff _ _).mpr hc, by simp [hc]⟩
  · obtain ⟨y, hy⟩ := Option.ne_none_iff_exists'.mp (mt (unionDelMap_removed_iff _ _).mp hc)
    exact .inr ⟨y, hy, by simp [hc], by
      simp only [readAt, (delete_residue_at loc false s hwr p.1 y (hpos p hp) hy).2]⟩

/-- **`gts insert`: every host feature reads, in the output, the residues it read in the host**
(location well-formed, duplicate-free, on positions of the host; every head `≥ 0`; K2 in no
step). -/
theorem insert_host_features_residues_partial (loc : Seq → List Reg) (host guest : Seq) (f : Feature)
    (hf : f ∈ host.feats) (hwh : ∀ h ∈ (loc host).map Reg.head, 0 ≤ h) (hw : f.loc.wf = true)
    (hk2 : Cli.insAbs false guest.len (Cli.sortDesc ((loc host).map Reg.head)) f.loc = false)
    (hnd : f.loc.den.Nodup) (hpos : ∀ p ∈ f.loc.den, 0 ≤ p.1 ∧ p.1 < host.len) :
    ∃ f' ∈ (Cli.insert loc false host guest).feats, f'.key = f.key ∧ f'.props = f.props ∧
      f'.loc.den.map (readAt (Cli.insert loc false host guest).bytes) =
        f.loc.den.map (readAt host.bytes) := by
  obtain ⟨f', h1, h2, h3, h4⟩ := insert_host_features_eq_partial loc host guest f hf hw hk2 hnd
  refine ⟨f', h1, h2, h3, ?_⟩
  rw [h4]
  exact map_readAt_mapPos _ _ _ _ fun p hp =>
    insert_residue_at loc false host guest hwh p.1 (hpos p hp).1 (hpos p hp).2

/-- **`gts infix`: every host feature reads, in the output and OUTSIDE the guest copies, the
residues it read in the host** (`Expand` stretches a part spanning a head over the guest copy
there; those additional residues are the copy's). -/
theorem infix_host_features_residues_partial (loc : Seq → List Reg) (host guest : Seq) (f : Feature)
    (hf : f ∈ host.feats) (hwh : ∀ h ∈ (loc host).map Reg.head, 0 ≤ h) (hw : f.loc.wf = true)
    (hk2 : Cli.insAbs true guest.len (Cli.sortDesc ((loc host).map Reg.head)) f.loc = false)
    (hnd : f.loc.den.Nodup) (hpos : ∀ p ∈ f.loc.den, 0 ≤ p.1 ∧ p.1 < host.len) :
    ∃ f' ∈ (Cli.insert loc true host guest).feats, f'.key = f.key ∧ f'.props = f.props ∧
      (Cli.stripGuests (Cli.copyStarts guest.len (Cli.sortDesc ((loc host).map Reg.head))) guest.len
          f'.loc.den).map (readAt (Cli.insert loc true host guest).bytes) =
        f.loc.den.map (readAt host.bytes) := by
  obtain ⟨f', h1, h2, h3, h4⟩ := infix_host_features_partial loc host guest f hf hw hk2
  refine ⟨f', h1, h2, h3, ?_⟩
  rw [h4.eq_of_nodup (Loc.nodup_mapPos_of_inj _ _ (fun a _ b _ => multiInsMap_inj _ _ guest.len_nonneg a.1 b.1) hnd)]
  exact map_readAt_mapPos _ _ _ _ fun p hp =>
    insert_residue_at loc true host guest hwh p.1 (hpos p hp).1 (hpos p hp).2

/-- **`gts insert`: every feature of every guest copy reads, in the output, the residues it read
in the guest** (descending head list `pre ++ i :: post`, the copy inserted at `i`; every head in
`[0, len]`; guest location well-formed, duplicate-free, on positions of the guest; K2 in no
step). -/
theorem guest_features_residues_partial (loc : Seq → List Reg) (host guest : Seq)
    (hwh : ∀ h ∈ (loc host).map Reg.head, 0 ≤ h ∧ h ≤ host.len) (pre post : List Int) (i : Int)
    (hsplit : Cli.sortDesc ((loc host).map Reg.head) = pre ++ i :: post)
    (f : Feature) (hf : f ∈ guest.feats) (hw : f.loc.wf = true) (hnn : f.loc.nonneg = true)
    (g1 : Loc.expandAbs f.loc 0 i = false)
    (g2 : Cli.insAbs false guest.len post (f.loc.expand 0 i) = false)
    (hnd : f.loc.den.Nodup) (hpos : ∀ p ∈ f.loc.den, p.1 < guest.len) :
    ∃ f' ∈ (Cli.insert loc false host guest).feats, f'.key = f.key ∧ f'.props = f.props ∧
      f'.loc.den.map (readAt (Cli.insert loc false host guest).bytes) =
        f.loc.den.map (readAt guest.bytes) := by
  obtain ⟨_, _, hi, _⟩ := sortDesc_split _ pre post i hsplit
  have hi0 := (hwh i hi).1
  obtain ⟨f', h1, h2, h3, h4⟩ := guest_den_partial loc host guest pre post i hsplit hi0 f hf hw hnn g1 g2
  refine ⟨f', h1, h2, h3, ?_⟩
  rw [h4.eq_of_nodup (Loc.nodup_mapPos_of_inj _ _ (fun a _ b _ h => by omega) hnd)]
  refine map_readAt_mapPos _ _ _ _ fun p hp => ?_
  -- the copy starts at `i + |guest| · |post|` (`guest_copy_bytes`); `p.1` is an index into it
  have h0 := Loc.den_nonneg f.loc hw hnn p hp
  have hkl : p.1.toNat < guest.bytes.length := by have := hpos p hp; unfold Seq.len at this; omega
  rw [Int.toNat_add h0 (Int.add_nonneg hi0 (Int.mul_nonneg guest.len_nonneg (Int.natCast_nonneg post.length))),
    ← guest_copy_bytes loc false host guest hwh pre post i hsplit, List.getElem?_take_of_lt hkl,
    List.getElem?_drop, Nat.add_comm]

/-- **`gts rotate`, every feature**: C04 `rotate_feature_partial` lifted to the scan loop — with at
least one located region, every feature of a non-empty record is present in the output with
unchanged key and qualifiers and denotes the same residues at `(x - head) mod L`, where `head`
is the head of the FIRST located region (domain of the `Normalize` law and K2 guards as in C04:
`normOk` excludes every range of length ≥ L, in particular the whole-sequence `source` feature, for
which `rotate_full_length_feature` below is the statement). -/
theorem rotate_features_partial (loc : Seq → List Reg) (s : Seq) (r : Reg) (rest : List Reg)
    (h : loc s = r :: rest) (hL : 0 < s.len) (f : Feature) (hf : f ∈ s.feats)
    (hw : f.loc.wf = true) (hnn : f.loc.nonneg = true)
    (hok : Loc.normOk s.len (f.loc.expand 0 (C04.rotN (-(r.head)) s.len)) = true)
    (h1 : Loc.expandAbs f.loc 0 (C04.rotN (-(r.head)) s.len) = false)
    (h2 : Loc.normalizeAbs (f.loc.expand 0 (C04.rotN (-(r.head)) s.len)) s.len = false) :
    ∃ f' ∈ (Cli.rotate loc s).feats, f'.key = f.key ∧ f'.props = f.props ∧
      f'.loc.den ≼ mapPos (rotMap (-(r.head)) s.len) f.loc.den := by
  simp only [Cli.rotate, h]
  exact C04.rotate_feature_partial s (-(r.head)) hL f hf hw hnn hok h1 h2

/-- **`gts rotate`, the full-length feature** (`source 1..L` of every record; either strand, any markers —
`C04.fullLength`): it fails `normOk` for every rotation amount, so `rotate_features_partial` is silent on
it; what holds is that it is a feature of the output UNCHANGED (key, qualifiers, location, markers),
whatever the locator finds (also when it finds nothing).  No guard. -/
theorem rotate_full_length_feature (loc : Seq → List Reg) (s : Seq) (hL : 0 < s.len) (f : Feature)
    (hf : f ∈ s.feats) (hfl : C04.fullLength s.len f.loc = true) : f ∈ (Cli.rotate loc s).feats := by
  unfold Cli.rotate
  split
  · exact hf
  · exact C04.rotate_full_length_feature s _ hL f hf hfl

/-- **circular `gts split` with one distinct cut, the full-length feature**: the single piece (the record
opened at the cut, `split_circular_single`) carries it unchanged.  (With two or more distinct cuts the
pieces are `gts.Slice` windows, the first one across the origin: `C03.slice_wrap_full_length_feature` /
`C03.slice_fwd_feature_partial` say what each piece carries.) -/
theorem split_circular_single_full_length_feature (loc : Seq → List Reg) (s : Seq) (r : Reg)
    (h : loc s = [r]) (hL : 0 < s.len) (f : Feature) (hf : f ∈ s.feats)
    (hfl : C04.fullLength s.len f.loc = true) :
    ∀ pc ∈ Cli.split loc true s, f ∈ pc.feats := by
  rw [split_circular_single loc s r h]
  exact List.forall_mem_singleton.mpr (C04.rotate_full_length_feature s _ hL f hf hfl)

/-- non-vacuity: the `source` feature of a six-residue record, a locator with head 4 -/
example :
    let s : Seq := ⟨[⟨"source", .ranged 0 6 false false, []⟩], [65, 67, 71, 84, 65, 67]⟩
    0 < s.len ∧ C04.fullLength s.len (.ranged 0 6 false false) = true ∧
    Loc.normOk s.len ((Loc.ranged 0 6 false false).expand 0 (C04.rotN (-4) s.len)) = false ∧
    (Cli.rotate (fun _ => [seg 4 1]) s).bytes = [65, 67, 65, 67, 71, 84] := by decide +kernel

/-- … nothing is lost or added -/
theorem rotate_feature_count (loc : Seq → List Reg) (s : Seq) :
    (Cli.rotate loc s).feats.length = s.feats.length := by
  unfold Cli.rotate
  split
  · rfl
  · exact C04.rotate_feature_count s _

/-- **`rotMap (-head)` is where `gts rotate` puts the residues** (`0 ≤ head ≤ len`, `0 ≤ x < len`) -/
theorem rotate_residue_at (loc : Seq → List Reg) (s : Seq) (r : Reg) (rest : List Reg)
    (h : loc s = r :: rest) (h0 : 0 ≤ r.head) (h1 : r.head ≤ s.len) (x : Int) (hx : 0 ≤ x)
    (hxl : x < s.len) :
    (Cli.rotate loc s).bytes[(rotMap (-(r.head)) s.len x).toNat]? = s.bytes[x.toNat]? := by
  simp only [Cli.rotate, h]
  have := C04.rotate_bytes_get s (-(r.head)) x.toNat (by have : s.len = s.bytes.length := rfl; omega)
  rwa [Int.toNat_of_nonneg hx] at this

/-- **linear `gts split`, the pieces**: with at least one located region the pieces are the
slices of the record over the windows between consecutive cuts `0, cuts…, len`
(`Cli.windows`: consecutive pairs). -/
theorem split_linear_windows (loc : Seq → List Reg) (s : Seq) (hne : loc s ≠ []) :
    Cli.split loc false s =
      (Cli.windows ((0 : Int) :: Cli.sortAscU ((loc s).map Cli.cutOf) ++ [s.len])).map
        fun w => s.slice w.1 w.2 := by
  obtain ⟨r0, rest, hl⟩ := List.exists_cons_of_ne_nil hne
  rw [split_cons loc false s r0 rest hl, ← Cli.pieces_eq_map, hl]
  simp

/-- **the windows partition the record**: every position `0 ≤ x < len` lies in exactly one window,
and every window is a forward window inside `[0, len]`. -/
theorem split_linear_windows_partition (loc : Seq → List Reg) (s : Seq)
    (hw : ∀ r ∈ loc s, 0 ≤ Cli.cutOf r ∧ Cli.cutOf r ≤ s.len) :
    (∀ x, 0 ≤ x → x < s.len →
      ∃ w ∈ Cli.windows ((0 : Int) :: Cli.sortAscU ((loc s).map Cli.cutOf) ++ [s.len]),
        (w.1 ≤ x ∧ x < w.2) ∧
        ∀ w' ∈ Cli.windows ((0 : Int) :: Cli.sortAscU ((loc s).map Cli.cutOf) ++ [s.len]),
          w'.1 ≤ x ∧ x < w'.2 → w' = w) ∧
    (∀ w ∈ Cli.windows ((0 : Int) :: Cli.sortAscU ((loc s).map Cli.cutOf) ++ [s.len]),
      0 ≤ w.1 ∧ w.1 ≤ w.2 ∧ w.2 ≤ s.len) := by
  have hs := split_linear_cuts_sorted loc s hw
  have hl := Cli.getLast?_cuts (Cli.sortAscU ((loc s).map Cli.cutOf)) s.len
  exact ⟨Cli.windows_partition 0 _ s.len hs hl, Cli.window_mem 0 _ s.len hs hl⟩

/-- **linear `gts split`, a feature in a piece**: C03 `slice_fwd_feature_partial` lifted to the
scan loop — for every window `w` of the cut list, a feature overlapping `w` is present in the
piece `s.slice w.1 w.2` (which IS one of the written pieces) with unchanged key and qualifiers
and denotes exactly its former residues inside the window, re-based to the window start. -/
theorem split_piece_feature_partial (loc : Seq → List Reg) (s : Seq) (hne : loc s ≠ [])
    (hw : ∀ r ∈ loc s, 0 ≤ Cli.cutOf r ∧ Cli.cutOf r ≤ s.len)
    (w : Int × Int)
    (hwm : w ∈ Cli.windows ((0 : Int) :: Cli.sortAscU ((loc s).map Cli.cutOf) ++ [s.len]))
    (f : Feature) (hf : f ∈ s.feats) (hov : f.loc.overlap w.1 w.2 = true)
    (hwf : f.loc.wf = true) (hpos : ∀ p ∈ f.loc.den, 0 ≤ p.1 ∧ p.1 < s.len)
    (g1 : Loc.expandAbs f.loc w.2 (w.2 - s.len) = false)
    (g2 : Loc.expandAbs (f.loc.expand w.2 (w.2 - s.len)) 0 (-w.1) = false) :
    s.slice w.1 w.2 ∈ Cli.split loc false s ∧
    ∃ f' ∈ (s.slice w.1 w.2).feats, f'.key = f.key ∧ f'.props = f.props ∧
      f'.loc.den ≼ filterMapPos (winMap w.1 w.2) f.loc.den := by
  obtain ⟨h0, h1, h2⟩ := (split_linear_windows_partition loc s hw).2 w hwm
  refine ⟨?_, C03.slice_fwd_feature_partial s w.1 w.2 h0 h1 h2 f hf hov hwf hpos g1 g2⟩
  rw [split_linear_windows loc s hne]
  exact List.mem_map_of_mem hwm

/-- … and every feature of a piece comes from a feature of the record overlapping its window -/
theorem split_piece_feature_origin (loc : Seq → List Reg) (s : Seq)
    (hw : ∀ r ∈ loc s, 0 ≤ Cli.cutOf r ∧ Cli.cutOf r ≤ s.len)
    (w : Int × Int)
    (hwm : w ∈ Cli.windows ((0 : Int) :: Cli.sortAscU ((loc s).map Cli.cutOf) ++ [s.len]))
    (f' : Feature) (hf' : f' ∈ (s.slice w.1 w.2).feats) :
    ∃ f ∈ s.feats, f.loc.overlap w.1 w.2 = true ∧ f'.key = f.key ∧ f'.props = f.props := by
  obtain ⟨h0, h1, _⟩ := (split_linear_windows_partition loc s hw).2 w hwm
  exact C03.slice_fwd_feature_origin s w.1 w.2 h0 h1 f' hf'

/-- **linear `gts split`: the pieces of a feature together denote its residues** — every residue
`p` a feature denotes (location well-formed, positions inside the record)
lies in exactly one window `w`; the piece written for `w` contains the feature (same key and
qualifiers), its location there denotes only former residues of the feature inside `w`, re-based,
and among them `p` at `p - w.1` on the same strand.  Guards: K2 in neither `Expand` of the
`Slice` of any window. -/
theorem split_features_partial (loc : Seq → List Reg) (s : Seq) (hne : loc s ≠ [])
    (hw : ∀ r ∈ loc s, 0 ≤ Cli.cutOf r ∧ Cli.cutOf r ≤ s.len)
    (f : Feature) (hf : f ∈ s.feats) (hwf : f.loc.wf = true)
    (hpos : ∀ p ∈ f.loc.den, 0 ≤ p.1 ∧ p.1 < s.len)
    (hg : ∀ w ∈ Cli.windows ((0 : Int) :: Cli.sortAscU ((loc s).map Cli.cutOf) ++ [s.len]),
      Loc.expandAbs f.loc w.2 (w.2 - s.len) = false ∧
      Loc.expandAbs (f.loc.expand w.2 (w.2 - s.len)) 0 (-w.1) = false)
    (p : Pos) (hp : p ∈ f.loc.den) :
    ∃ w ∈ Cli.windows ((0 : Int) :: Cli.sortAscU ((loc s).map Cli.cutOf) ++ [s.len]),
      (w.1 ≤ p.1 ∧ p.1 < w.2) ∧
      (∀ w' ∈ Cli.windows ((0 : Int) :: Cli.sortAscU ((loc s).map Cli.cutOf) ++ [s.len]),
          w'.1 ≤ p.1 ∧ p.1 < w'.2 → w' = w) ∧
      s.slice w.1 w.2 ∈ Cli.split loc false s ∧
      ∃ f' ∈ (s.slice w.1 w.2).feats, f'.key = f.key ∧ f'.props = f.props ∧
        f'.loc.den ≼ filterMapPos (winMap w.1 w.2) f.loc.den ∧ (p.1 - w.1, p.2) ∈ f'.loc.den := by
  obtain ⟨w, hwm, hwx, huniq⟩ := (split_linear_windows_partition loc s hw).1 p.1 (hpos p hp).1 (hpos p hp).2
  have hov : f.loc.overlap w.1 w.2 = true :=
    Loc.overlap_of_mem_den f.loc w.1 w.2 hwf p hp hwx.1 hwx.2
  obtain ⟨hmem, f', hf', hk, hpr, hden⟩ := split_piece_feature_partial loc s hne hw w hwm f hf hov hwf hpos
    (hg w hwm).1 (hg w hwm).2
  exact ⟨w, hwm, hwx, huniq, hmem, f', hf', hk, hpr, hden,
    hden.2 _ (Cli.mem_filterMapPos hp (if_pos hwx))⟩

/-! ### non-vacuity of the feature theorems -/

/-- a complement-strand join with partial ends, spanning both cuts / all insertion sites -/
def gene1 : Feature :=
  ⟨"gene", .compl (.joined [.ranged 1 4 true false, .point 6, .ranged 8 11 false true]), []⟩

/-- `ACGTACGTACGT` with a `source`, the join above and a feature equal to the first cut -/
def s1 : Seq :=
  ⟨[⟨"source", .ranged 0 12 false false, []⟩, gene1, ⟨"misc_feature", .ranged 2 5 false false, []⟩],
   [65, 67, 71, 84, 65, 67, 71, 84, 65, 67, 71, 84]⟩

/-- a backward segment, a nested compound region and a zero-length leaf -/
def loc1 : Seq → List Reg := fun _ => [seg 5 2, many [seg 9 10, seg 3 4], seg 7 7]

example : gene1 ∈ s1.feats := List.mem_cons_of_mem _ (List.mem_cons_self ..)
example : minimize (many (loc1 s1)) = [(2, 5), (7, 7), (9, 10)] := by rw [minimize_eq]; decide +kernel
/-- hypotheses of `delete_features_partial` / `delete_features_eq_partial` -/
example : gene1.loc.wf = true ∧ Cli.delAbs (minimize (many (loc1 s1))) gene1.loc = false ∧
    gene1.loc.den.Nodup := by
  rw [minimize_eq]; decide +kernel
/-- … and what they give: of the residues 10,9,8 | 6 | 3,2,1 (complement strand) 9 and 3,2 are cut;
the survivors 10, 8, 6, 1 move left by 4, 3, 3 and 0 -/
example : filterMapPos (Cli.unionDelMap (minimize (many (loc1 s1)))) gene1.loc.den =
    [(6, true), (5, true), (3, true), (1, true)] := by
  rw [minimize_eq]; decide +kernel
example : (Cli.delete loc1 false s1).feats.map (·.loc.den) =
    [fwd [0, 1, 2, 3, 4, 5, 6, 7], [(6, true), (5, true), (3, true), (1, true)], []] := by
  unfold Cli.delete; rw [minimize_eq]; decide +kernel
/-- `-e`: the feature lying within the first cut is dropped, `source` and the join survive -/
example : (s1.feats.map (Cli.eraseKeep (minimize (many (loc1 s1))))) = [true, true, false] ∧
    (Cli.delete loc1 true s1).feats.map (·.key) = ["source", "gene"] := by
  unfold Cli.delete; rw [minimize_eq]; decide +kernel

/-- hypotheses of `delete_erase_drops_ranged` for the `misc_feature` `3..5` (0-based `[2,5)`) -/
example : (2, 5) ∈ minimize (many (loc1 s1)) := by rw [minimize_eq]; decide +kernel

/-- guest `NN` with one feature over both residues -/
def guest1 : Seq := ⟨[⟨"misc_feature", .ranged 0 2 false false, []⟩], [78, 78]⟩

/-- three regions, two of them with the same head: heads 5, 3, 5 -/
def loc2 : Seq → List Reg := fun _ => [seg 5 2, seg 3 4, seg 5 9]

example : Cli.sortDesc ((loc2 s1).map Reg.head) = [5, 5, 3] := by decide +kernel
/-- hypotheses of `insert_host_features_partial` / `…_eq_partial` and of `infix_host_features_partial` -/
example : gene1.loc.wf = true ∧
    Cli.insAbs false guest1.len (Cli.sortDesc ((loc2 s1).map Reg.head)) gene1.loc = false ∧
    Cli.insAbs true guest1.len (Cli.sortDesc ((loc2 s1).map Reg.head)) gene1.loc = false ∧
    gene1.loc.den.Nodup := by decide +kernel
/-- … and what they give: residues 1,2 stay, 3 moves by one guest, 6 and 8..10 by three -/
example : mapPos (Cli.multiInsMap ((loc2 s1).map Reg.head) guest1.len) gene1.loc.den =
    [(16, true), (15, true), (14, true), (12, true), (5, true), (2, true), (1, true)] := by decide +kernel
example : ((Cli.insert loc2 false s1 guest1).feats.filter (·.key = "gene")).map (·.loc.den) =
    [[(16, true), (15, true), (14, true), (12, true), (5, true), (2, true), (1, true)]] := by decide +kernel
/-- infix stretches the part `2..4` over the guest copy at 3 (output residues 3, 4) -/
example : ((Cli.insert loc2 true s1 guest1).feats.filter (·.key = "gene")).map (·.loc.den) =
    [[(16, true), (15, true), (14, true), (12, true), (5, true), (4, true), (3, true), (2, true), (1, true)]] ∧
    Cli.copyStarts guest1.len (Cli.sortDesc ((loc2 s1).map Reg.head)) = [9, 7, 3] := by decide +kernel
/-- hypotheses of `guest_den_partial` / `infix_guest_den_partial` / `guest_copy_bytes` for the
FIRST copy (inserted at 5, then moved by two later insertions to 9) -/
example : Cli.sortDesc ((loc2 s1).map Reg.head) = [] ++ 5 :: [5, 3] ∧
    (∀ h ∈ (loc2 s1).map Reg.head, 0 ≤ h ∧ h ≤ s1.len) ∧
    (∀ f ∈ guest1.feats, f.loc.wf = true ∧ f.loc.nonneg = true ∧ Loc.expandAbs f.loc 0 5 = false ∧
      Cli.insAbs false guest1.len [5, 3] (f.loc.expand 0 5) = false ∧
      Cli.insAbs true guest1.len [5, 3] (f.loc.expand 0 5) = false) := by decide +kernel
example : ((Cli.insert loc2 false s1 guest1).feats.filter (·.key = "misc_feature")).map (·.loc.den) =
    [fwd [2, 5, 6], fwd [3, 4], fwd [7, 8], fwd [9, 10]] ∧
    (Cli.insert loc2 false s1 guest1).bytes =
      [65, 67, 71, 78, 78, 84, 65, 78, 78, 78, 78, 67, 71, 84, 65, 67, 71, 84] := by decide +kernel

/-- hypotheses of the `…_residues_partial` theorems (positions inside the records) and the
residues the join reads before and after `gts delete`: `GT A G C` → complement strand of
positions 10,8,6,1 -/
example : within s1.len (many (loc1 s1)) ∧ (∀ p ∈ gene1.loc.den, 0 ≤ p.1 ∧ p.1 < s1.len) ∧
    (∀ h ∈ (loc2 s1).map Reg.head, 0 ≤ h ∧ h ≤ s1.len) ∧
    (∀ f ∈ guest1.feats, f.loc.den.Nodup ∧ ∀ p ∈ f.loc.den, p.1 < guest1.len) := by decide +kernel
example : (gene1.loc.den.filter fun p => !decide (cover (many (loc1 s1)) p.1)).map (readAt s1.bytes) =
    [(some 71, true), (some 65, true), (some 71, true), (some 67, true)] := by decide +kernel

/-- hypotheses of `rotate_features_partial` / `rotate_residue_at` (first head 5: rotation by 7) -/
example : loc2 s1 = seg 5 2 :: [seg 3 4, seg 5 9] ∧ 0 < s1.len ∧
    gene1.loc.wf = true ∧ gene1.loc.nonneg = true ∧
    Loc.normOk s1.len (gene1.loc.expand 0 (C04.rotN (-5) s1.len)) = true ∧
    Loc.expandAbs gene1.loc 0 (C04.rotN (-5) s1.len) = false ∧
    Loc.normalizeAbs (gene1.loc.expand 0 (C04.rotN (-5) s1.len)) s1.len = false := ⟨rfl, by decide +kernel⟩
example : mapPos (rotMap (-5) s1.len) gene1.loc.den =
    [(5, true), (4, true), (3, true), (1, true), (10, true), (9, true), (8, true)] := by decide +kernel
/-- hypotheses of `split_features_partial` (cuts 2, 3, 5: windows `[0,2) [2,3) [3,5) [5,12)`) -/
example : loc2 s1 ≠ [] ∧ (∀ r ∈ loc2 s1, 0 ≤ Cli.cutOf r ∧ Cli.cutOf r ≤ s1.len) ∧
    Cli.windows ((0 : Int) :: Cli.sortAscU ((loc2 s1).map Cli.cutOf) ++ [s1.len]) =
      [(0, 2), (2, 3), (3, 5), (5, 12)] ∧
    (∀ w ∈ Cli.windows ((0 : Int) :: Cli.sortAscU ((loc2 s1).map Cli.cutOf) ++ [s1.len]),
      Loc.expandAbs gene1.loc w.2 (w.2 - s1.len) = false ∧
      Loc.expandAbs (gene1.loc.expand w.2 (w.2 - s1.len)) 0 (-w.1) = false) :=
  ⟨by simp [loc2], by decide +kernel⟩
/-- the join in the four pieces: residue 1 | 2 | 3 | 6, 8, 9, 10 (re-based to 1, 3, 4, 5) -/
example : (Cli.split loc2 false s1).map (fun pc => (pc.feats.filter (·.key = "gene")).map (·.loc.den)) =
    [[[(1, true)]], [[(0, true)]], [[(0, true)]], [[(5, true), (4, true), (3, true), (1, true)]]] := by
  decide +kernel

end Gts.C15
