/-
  C04 — Rotate is a pure change of origin on circular sequences.
  Property theorems, with the amount `rotN` they are stated with.
-/
import Gts.Lemmas.Normalize
import Gts.Lemmas.Table
import Gts.Model.Seq
import Gts.Lemmas.Record
import Gts.Lemmas.MarksOps
import Gts.Lemmas.MarksCoords
import Gts.Lemmas.MarkGuardOps
import Gts.Spec.Read
import Gts.Bridge.SeqRotate
namespace Gts.C04
open Gts Loc

/-- the amount by which `gts.Rotate` actually rotates: `n` reduced into `[0, L)` -/
def rotN (n L : Int) : Int := Int.tmod (if n < 0 then n + ((-n + L - 1) / L) * L else n) L

/-- the loop `for n < 0 { n += L }; n %= L` computes the mathematical residue, for every sign
and magnitude of `n` -/
theorem rotN_eq_emod (n L : Int) (hL : 0 < L) : rotN n L = n % L :=
  Seq.rotAmount_emod n L hL

theorem rotate_bytes_eq (s : Gts.Seq) (n : Int) :
    (s.rotate n).bytes = s.bytes.drop (s.len - rotN n s.len).toNat ++ s.bytes.take (s.len - rotN n s.len).toNat := rfl

/-- a list cut at `m` and put together the other way round: element `k` moves `length - m` places on,
cyclically -/
theorem getElem?_drop_append_take {α : Type} (l : List α) (m k : Nat) (hm : m ≤ l.length) (hk : k < l.length) :
    (l.drop m ++ l.take m)[(k + (l.length - m)) % l.length]? = l[k]? := by
  by_cases hc : k < m
  · rw [Nat.mod_eq_of_lt (by omega), List.getElem?_append_right (by rw [List.length_drop]; omega),
      List.length_drop, show k + (l.length - m) - (l.length - m) = k by omega, List.getElem?_take_of_lt hc]
  · rw [Nat.mod_eq_sub_mod (by omega), Nat.mod_eq_of_lt (by omega),
      List.getElem?_append_left (by rw [List.length_drop]; omega), List.getElem?_drop]
    congr 1; omega

/-- **residues**: rotating by any `n` moves residue `k` to position `(k + n) mod L` -/
theorem rotate_bytes_get (s : Gts.Seq) (n : Int) (k : Nat) (hk : k < s.bytes.length) :
    (s.rotate n).bytes[((k + n) % s.len).toNat]? = s.bytes[k]? := by
  have hL : 0 < s.len := by unfold Seq.len; omega
  have hr0 := Int.emod_nonneg n (Int.ne_of_gt hL)
  have hr1 := Int.emod_lt_of_pos n hL
  rw [rotate_bytes_eq, rotN_eq_emod n s.len hL, ← Int.add_emod_emod]
  unfold Seq.len at *
  generalize n % (s.bytes.length : Int) = r at *
  have hm : (s.bytes.length - r).toNat ≤ s.bytes.length := by omega
  rw [show (k : Int) + r = ((k + (s.bytes.length - (s.bytes.length - r).toNat) : Nat) : Int) by omega,
    ← Int.natCast_emod, Int.toNat_natCast]
  exact getElem?_drop_append_take s.bytes _ k hm hk

/-- read the other way: position `j` of the rotated record holds residue `(j - n) mod L` -/
theorem rotate_bytes_at (s : Gts.Seq) (n : Int) (j : Nat) (hj : j < s.bytes.length) :
    (s.rotate n).bytes[j]? = s.bytes[(((j : Int) - n) % s.len).toNat]? := by
  have hlen : s.len = s.bytes.length := rfl
  have hL : 0 < s.len := by omega
  have h0 := Int.emod_nonneg ((j : Int) - n) (Int.ne_of_gt hL)
  have h1 := Int.emod_lt_of_pos ((j : Int) - n) hL
  have := rotate_bytes_get s n (((j : Int) - n) % s.len).toNat (by omega)
  rwa [Int.toNat_of_nonneg h0, Int.emod_add_emod, Int.sub_add_cancel,
    Int.emod_eq_of_lt (by omega) (by omega), Int.toNat_natCast] at this

/-- no feature is lost or duplicated; each is re-located by `Expand(0, n')` then `Normalize(L)` -/
theorem rotate_table_perm (s : Gts.Seq) (n : Int) :
    (s.rotate n).feats.Perm
      (s.feats.map fun f => { f with loc := (f.loc.expand 0 (rotN n s.len)).normalize s.len }) := by
  unfold Seq.rotate rotN
  simpa using Table.insertAll_perm [] _

theorem translate_mod_refines (l : Loc) (n L : Int) (hn : 0 ≤ n) (hw : wf l = true) (hnn : nonneg l = true)
    (h1 : expandAbs l 0 n = false) :
    mapPos (· % L) (den (expand l 0 n)) ≼ mapPos (rotMap n L) (den l) := by
  have c := mapPos_refines (· % L) (guest_translate l n hw hnn hn h1)
  rwa [Cli.mapPos_mapPos] at c

/-- **features**: the re-located location denotes the same residues at their new positions
`(x + n) mod L`, in the same order and strand — for every well-formed location with
non-negative coordinates, every `0 ≤ n`, provided the translated location is in the domain of
the Normalize law (`normOk`: every range / ambiguous span SHORTER than `L` — this excludes the
bare whole-sequence range `source 1..L` too, for every `n`; its clause is `rotate_full_length` —
and no ambiguous span across the new origin) and rule K2 does not fire in either step.
FULL STATEMENT (without `normOk`): false, `rotate_den_full_refuted`. -/
theorem rotate_den_partial (l : Loc) (n L : Int) (hL : 0 < L) (hn : 0 ≤ n)
    (hw : wf l = true) (hnn : nonneg l = true)
    (hok : normOk L (expand l 0 n) = true)
    (h1 : expandAbs l 0 n = false) (h2 : normalizeAbs (expand l 0 n) L = false) :
    den (normalize (expand l 0 n) L) ≼ mapPos (rotMap n L) (den l) :=
  ((normalize_mod (expand l 0 n) L hL (expand_ins l 0 n hw hn).2 hok).1 h2).trans
    (translate_mod_refines l n L hn hw hnn h1)

/-- an origin-spanning range becomes `join(‹p5›[s,L), [0,e)‹p3›)`: partial markers stay on the
outer ends -/
theorem ranged_normalize_split (s e : Int) (p5 p3 : Bool) (L : Int) (h0 : 0 ≤ s) (h1 : s < L) (h2 : L < e)
    (h3 : e - s < L) :
    normalize (ranged s e p5 p3) L = joined [ranged s L p5 false, ranged 0 (e - L) false p3] := by
  rw [normalize, rangedNormalize_cases s e p5 p3 L (by omega) h0 (by omega), if_neg (by omega),
    Int.emod_eq_of_lt h0 h1, mod_window L L (e - 1) 1 (Int.one_mul L) (by omega) (by omega), if_neg (by omega),
    show e - 1 - L + 1 = e - L by omega]

/-- a full-length range stays full-length (re-based to `[0, L)`) with its partial markers -/
theorem full_length (s : Int) (p5 p3 : Bool) (L : Int) (hL : 0 < L) (hs : 0 ≤ s) :
    normalize (ranged s (s + L) p5 p3) L = ranged 0 L p5 p3 := by
  rw [normalize, rangedNormalize_cases s (s + L) p5 p3 L hL hs (by omega), if_pos (by omega)]

/-- `Expand(0, n)` (`0 ≤ n`) translates the whole-sequence range as a block: no clipping, no marker set -/
theorem expand_full_length (p5 p3 : Bool) (n L : Int) (hL : 0 < L) (hn : 0 ≤ n) :
    expand (ranged 0 L p5 p3) 0 n = ranged n (n + L) p5 p3 := by
  rw [expand, rangedExpand_ins 0 L p5 p3 0 n hL hn, if_pos (Int.le_refl 0), if_pos hL, Int.zero_add,
    Int.add_comm L n]

/-- **the full-length clause, both steps of Rotate** ("a full-length feature stays full-length"): the
whole-sequence range `[0, L)` — the `source 1..L` feature of every GenBank record, which `normOk`
excludes from `rotate_den_partial` for EVERY rotation amount — is, after `Expand(0, n)` and
`Normalize(L)`, the SAME location `[0, L)` with the same partial markers; for every `0 < L` and every
`0 ≤ n` (no other hypothesis, no K2 / marker guard). -/
theorem rotate_full_length (p5 p3 : Bool) (n L : Int) (hL : 0 < L) (hn : 0 ≤ n) :
    normalize (expand (ranged 0 L p5 p3) 0 n) L = ranged 0 L p5 p3 := by
  rw [expand_full_length p5 p3 n L hL hn, full_length n p5 p3 L hL hn]

/-- … and the complement-strand whole-sequence range `complement(1..L)` likewise -/
theorem rotate_full_length_compl (p5 p3 : Bool) (n L : Int) (hL : 0 < L) (hn : 0 ≤ n) :
    normalize (expand (compl (ranged 0 L p5 p3)) 0 n) L = compl (ranged 0 L p5 p3) := by
  have := rotate_full_length p5 p3 n L hL hn
  simp only [expand] at this
  simp only [expand, normalize, this]

/-- "is the whole-sequence range of a sequence of length `L`, on either strand" (decidable) -/
def fullLength (L : Int) : Loc → Bool
  | ranged s e _ _ => decide (s = 0) && decide (e = L)
  | compl (ranged s e _ _) => decide (s = 0) && decide (e = L)
  | _ => false

/-- the two theorems above in one: a whole-sequence range (either strand, any markers) is a fixed
point of the two steps of Rotate, for every `0 ≤ n` -/
theorem rotate_full_length_loc (l : Loc) (n L : Int) (hL : 0 < L) (hn : 0 ≤ n)
    (hf : fullLength L l = true) : normalize (expand l 0 n) L = l := by
  match l, hf with
  | ranged s e p5 p3, hf =>
      simp only [fullLength, Bool.and_eq_true, decide_eq_true_eq] at hf
      obtain ⟨rfl, rfl⟩ := hf
      exact rotate_full_length p5 p3 n _ hL hn
  | compl (ranged s e p5 p3), hf =>
      simp only [fullLength, Bool.and_eq_true, decide_eq_true_eq] at hf
      obtain ⟨rfl, rfl⟩ := hf
      exact rotate_full_length_compl p5 p3 n _ hL hn

/-- what the clause means for the residues: the rotated whole-sequence range denotes the same SET
of residues as the rotated positions `(x + n) mod L` of the original (all of `[0, L)`, forward
strand) — but read from position 0, not from `n mod L`: the reading start is lost, which is what
the property's own clause "a full-length feature stays full-length" prescribes (see
`rotate_den_full_refuted`: the ORDER law of `rotate_den_partial` fails here). -/
theorem rotate_full_length_same_set (p5 p3 : Bool) (n L : Int) (hL : 0 < L) (hn : 0 ≤ n) (p : Pos) :
    p ∈ den (normalize (expand (ranged 0 L p5 p3) 0 n) L) ↔
      p ∈ mapPos (rotMap n L) (den (ranged 0 L p5 p3)) := by
  rw [rotate_full_length p5 p3 n L hL hn]
  simp only [den_ranged, mapPos, fwd, List.map_map, List.mem_map, mem_irange, Function.comp]
  constructor
  · rintro ⟨x, ⟨h0, h1⟩, rfl⟩
    refine ⟨(x - n) % L, ⟨Int.emod_nonneg _ (by omega), ?_⟩, ?_⟩
    · have := Int.emod_lt_of_pos (x - n) hL; omega
    · simp only [rotMap]
      rw [Int.emod_add_emod, show x - n + n = x by omega, Int.emod_eq_of_lt h0 (by omega)]
  · rintro ⟨x, ⟨h0, h1⟩, rfl⟩
    refine ⟨rotMap n L x, ⟨Int.emod_nonneg _ (by omega), ?_⟩, rfl⟩
    have := Int.emod_lt_of_pos (x + n) hL
    simp only [rotMap]; omega

/-- FULL STATEMENT of `rotate_den_partial` without `normOk` (false on the model, and on the code):
"for every well-formed location with non-negative coordinates on which K2 does not fire, the
re-located location denotes the residues at `(x + n) mod L` IN THE SAME ORDER".  Witness: the
whole-sequence range `1..3` of a circle of 3 rotated by 1: the code answers `1..3` (residues
0,1,2) where the order law wants 1,2,0.  This is not a defect: it is what the property's own
clause "a full-length feature stays full-length" prescribes; the statements that DO hold for
this shape are `rotate_full_length` (same location) and `rotate_full_length_same_set` (same set
of residues). -/
theorem rotate_den_full_refuted :
    ¬ (∀ (l : Loc) (n L : Int), 0 < L → 0 ≤ n → wf l = true → nonneg l = true →
        expandAbs l 0 n = false → normalizeAbs (expand l 0 n) L = false →
        den (normalize (expand l 0 n) L) ≼ mapPos (rotMap n L) (den l)) := by
  intro h
  have := h (ranged 0 3 false false) 1 3 (by decide +kernel) (by decide +kernel) (by decide +kernel) (by decide +kernel) (by decide +kernel) (by decide +kernel)
  have hs := this.1
  revert hs
  decide +kernel

/-- non-vacuity: `source <1..12>` on a circle of 12, rotation by 5 — outside `normOk`, inside the
full-length clause; and `normOk` fails for this shape whatever the amount -/
example : fullLength 12 (ranged 0 12 true true) = true ∧ fullLength 12 (compl (ranged 0 12 false false)) = true ∧
    normOk 12 (expand (ranged 0 12 true true) 0 5) = false ∧
    (normalize (expand (ranged 0 12 true true) 0 5) 12).beq (ranged 0 12 true true) = true ∧
    (expand (ranged 0 12 true true) 0 5).beq (ranged 5 17 true true) = true := by decide +kernel
example (p5 p3 : Bool) (n L : Int) (hL : 0 < L) (hn : 0 ≤ n) :
    normOk L (expand (ranged 0 L p5 p3) 0 n) = false := by
  rw [expand_full_length p5 p3 n L hL hn]
  simp only [normOk, Bool.and_eq_false_iff, decide_eq_false_iff_not]
  right; omega

/-- composition of the position maps: rotations compose additively, a multiple of `L` is the
identity, `-n` undoes `n` (hence the same laws for residues and denotations) -/
theorem rotMap_add (a b L x : Int) : rotMap b L (rotMap a L x) = rotMap (a + b) L x := by
  unfold rotMap
  rw [Int.emod_add_emod]; congr 1; omega

theorem mapPos_rotMap_add (a b L : Int) (d : List Pos) :
    mapPos (rotMap b L) (mapPos (rotMap a L) d) = mapPos (rotMap (a + b) L) d :=
  (Cli.mapPos_mapPos _ _ d).trans (Cli.mapPos_congr _ _ d fun p _ => rotMap_add a b L p.1)

theorem rotMap_mul (m L x : Int) (hL : 0 < L) (h0 : 0 ≤ x) (h1 : x < L) : rotMap (m * L) L x = x := by
  unfold rotMap
  rw [Int.add_mul_emod_self_right, Int.emod_eq_of_lt h0 h1]

theorem rotMap_neg (n L x : Int) (hL : 0 < L) (h0 : 0 ≤ x) (h1 : x < L) :
    rotMap (-n) L (rotMap n L x) = x := by
  rw [rotMap_add]
  have : n + -n = 0 * L := by omega
  rw [this, rotMap_mul 0 L x hL h0 h1]

/-- **rotations compose additively on every feature's denotation**: rotating by `a` and then by
`b` re-locates a location exactly as one rotation by `a + b` maps its residues (guards of both
steps as in `rotate_den_partial`). -/
theorem rotate_twice_den_partial (l : Loc) (a b L : Int) (hL : 0 < L) (ha : 0 ≤ a) (hb : 0 ≤ b)
    (hw : wf l = true) (hnn : nonneg l = true)
    (hok1 : normOk L (expand l 0 a) = true)
    (h11 : expandAbs l 0 a = false) (h12 : normalizeAbs (expand l 0 a) L = false)
    (hnn2 : nonneg (normalize (expand l 0 a) L) = true)
    (hok2 : normOk L (expand (normalize (expand l 0 a) L) 0 b) = true)
    (h21 : expandAbs (normalize (expand l 0 a) L) 0 b = false)
    (h22 : normalizeAbs (expand (normalize (expand l 0 a) L) 0 b) L = false) :
    den (normalize (expand (normalize (expand l 0 a) L) 0 b) L) ≼ mapPos (rotMap (a + b) L) (den l) := by
  have s1 := rotate_den_partial l a L hL ha hw hnn hok1 h11 h12
  have wf1 : wf (normalize (expand l 0 a) L) = true :=
    (normalize_mod (expand l 0 a) L hL (expand_ins l 0 a hw ha).2 hok1).2
  have s2 := rotate_den_partial (normalize (expand l 0 a) L) b L hL hb wf1 hnn2 hok2 h21 h22
  exact mapPos_rotMap_add a b L (den l) ▸ s2.trans (mapPos_refines (rotMap b L) s1)

/-- non-vacuity: a complement-strand join that crosses the new origin -/
example : wf (compl (joined [ranged 1 3 true false, ranged 6 9 false true])) = true ∧
    nonneg (compl (joined [ranged 1 3 true false, ranged 6 9 false true])) = true ∧
    normOk 10 (expand (compl (joined [ranged 1 3 true false, ranged 6 9 false true])) 0 3) = true ∧
    expandAbs (compl (joined [ranged 1 3 true false, ranged 6 9 false true])) 0 3 = false ∧
    normalizeAbs (expand (compl (joined [ranged 1 3 true false, ranged 6 9 false true])) 0 3) 10 = false := by
  decide +kernel

/-! ### record level -/

/-- the re-mapping does not depend on which representative of `n` modulo `L` is used -/
theorem rotMap_emod (n L : Int) : rotMap (n % L) L = rotMap n L := by
  funext x; simp [rotMap, Int.add_emod_emod]

theorem rotN_nonneg (n L : Int) (hL : 0 < L) : 0 ≤ rotN n L := by
  rw [rotN_eq_emod n L hL]; exact Int.emod_nonneg _ (Int.ne_of_gt hL)

/-- `rotate_den_partial` at the amount `gts.Rotate` uses, any sign and magnitude of `n`; the re-located
location is well-formed -/
theorem rotN_den_partial (l : Loc) (n L : Int) (hL : 0 < L) (hw : wf l = true) (hnn : nonneg l = true)
    (hok : normOk L (expand l 0 (rotN n L)) = true) (h1 : expandAbs l 0 (rotN n L) = false)
    (h2 : normalizeAbs (expand l 0 (rotN n L)) L = false) :
    den (normalize (expand l 0 (rotN n L)) L) ≼ mapPos (rotMap n L) (den l) ∧
    wf (normalize (expand l 0 (rotN n L)) L) = true := by
  have hr := rotN_nonneg n L hL
  refine ⟨?_, (normalize_mod _ L hL (expand_ins l 0 _ hw hr).2 hok).2⟩
  have e : rotMap (rotN n L) L = rotMap n L := by rw [rotN_eq_emod n L hL, rotMap_emod]
  exact e ▸ rotate_den_partial l (rotN n L) L hL hr hw hnn hok h1 h2

/-- **Rotate, record level**: for every `n` (any sign and magnitude) every feature of a non-empty
record is present in the rotated record with unchanged key and qualifiers and a location
denoting the same residues at `(x + n) mod L`, in the same order and strand (domain of the
Normalize law and K2 guards as in `rotate_den_partial`). -/
theorem rotate_feature_partial (s : Gts.Seq) (n : Int) (hL : 0 < s.len) (f : Feature) (hf : f ∈ s.feats)
    (hw : wf f.loc = true) (hnn : nonneg f.loc = true)
    (hok : normOk s.len (expand f.loc 0 (rotN n s.len)) = true)
    (h1 : expandAbs f.loc 0 (rotN n s.len) = false)
    (h2 : normalizeAbs (expand f.loc 0 (rotN n s.len)) s.len = false) :
    ∃ f' ∈ (s.rotate n).feats, f'.key = f.key ∧ f'.props = f.props ∧
      den f'.loc ≼ mapPos (rotMap n s.len) (den f.loc) := by
  exact ⟨_, mem_of_perm_map (rotate_table_perm s n) hf, rfl, rfl,
    (rotN_den_partial f.loc n s.len hL hw hnn hok h1 h2).1⟩

/-- nothing is lost or added -/
theorem rotate_feature_count (s : Gts.Seq) (n : Int) : (s.rotate n).feats.length = s.feats.length := by
  simpa using (rotate_table_perm s n).length_eq

/-- **Rotate, record level, the full-length clause**: for every `n` (any sign and magnitude) a
feature of a non-empty record whose location is the whole-sequence range (`source 1..L`, either
strand, any partial markers) is a feature of the rotated record UNCHANGED — same key, same
qualifiers, same location, same markers.  No guard: this is the clause that `normOk` keeps out of
`rotate_feature_partial`. -/
theorem rotate_full_length_feature (s : Gts.Seq) (n : Int) (hL : 0 < s.len) (f : Feature)
    (hf : f ∈ s.feats) (hfl : fullLength s.len f.loc = true) : f ∈ (s.rotate n).feats := by
  have h := mem_of_perm_map (rotate_table_perm s n) hf
  rwa [rotate_full_length_loc f.loc (rotN n s.len) s.len hL (rotN_nonneg n s.len hL) hfl] at h

/-- non-vacuity: the `source` feature of a six-residue record, rotation by -8 -/
example : 0 < (⟨[⟨"source", ranged 0 6 false false, []⟩], [65, 67, 71, 84, 65, 67]⟩ : Gts.Seq).len ∧
    fullLength (⟨[⟨"source", ranged 0 6 false false, []⟩], [65, 67, 71, 84, 65, 67]⟩ : Gts.Seq).len
      (ranged 0 6 false false) = true ∧
    ((⟨[⟨"source", ranged 0 6 false false, []⟩], [65, 67, 71, 84, 65, 67]⟩ : Gts.Seq).rotate (-8)).bytes
      = [71, 84, 65, 67, 65, 67] := by decide +kernel

/-! ### partial markers stay on the outer ends; all coordinates lie in `[0, L]`

`outerMarks` / `coordsWithin` (`Gts/Spec/Marks.lean`) are the Lean restatements of the Go
oracles `harness/spec.go outerMarks`, `coordsWithin`. -/

/-- FULL STATEMENT for the markers (false on the model, and on the code): "rotating leaves the
outer 5'/3' markers of every well-formed location with non-negative coordinates unchanged".
Witness `join(4,<4..6)` (a literal that `Join` would reduce), rotation by 0 on length 10: both
steps rebuild the join, `Push` replaces the point by the range that starts at it, and `<4..6`
has a 5' marker where the unmarked point was. -/
theorem rotate_marks_full_refuted :
    ¬ (∀ (l : Loc) (n L : Int), 0 < L → 0 ≤ n → wf l = true → nonneg l = true →
        outerMarks (normalize (expand l 0 n) L) = outerMarks l) :=
  fun h => absurd (h (joined [point 3, ranged 3 6 true false]) 0 10) (by decide +kernel)

/-- **Normalize keeps the partial markers on the same outer ends**: every kind and arity, also a
range that is split at the origin (`join(‹p5›[s,L), [0,e)‹p3›)`) and a full-length range (re-based
to `[0, L)`); ambiguous spans may cross the origin (they carry no marker).  Guard: no
marker-moving rule of `Push` fires (`normalizeMarkAbs`, `Gts/Spec/MarkGuard.lean`). -/
theorem normalize_marks_partial (l : Loc) (L : Int) (hL : 0 < L) (hw : wf l = true)
    (hnn : nonneg l = true) (hg : normalizeMarkAbs l L = false) :
    outerMarks (normalize l L) = outerMarks l :=
  outerMarks_of_marks ((normalize_marks_aux l L hL (rwf_of_wf l hw) hnn).1 hg)

/-- **Rotate keeps the partial markers on the same outer ends**: the two steps of `gts.Rotate`
on a location (`Expand(0, n)` then `Normalize(L)`), for every well-formed location with
non-negative coordinates, every `0 ≤ n` and `0 < L` — no `normOk` restriction: full-length parts
and origin-crossing ambiguous spans included.  Guards: no marker-moving rule of `Push` fires in
either step. -/
theorem rotate_marks_partial (l : Loc) (n L : Int) (hL : 0 < L) (hn : 0 ≤ n)
    (hw : wf l = true) (hnn : nonneg l = true)
    (h1 : expandMarkAbs l 0 n = false) (h2 : normalizeMarkAbs (expand l 0 n) L = false) :
    outerMarks (normalize (expand l 0 n) L) = outerMarks l := by
  have wfe : wf (expand l 0 n) = true := (expand_ins l 0 n hw hn).2
  have nne : nonneg (expand l 0 n) = true := expand0_nonneg' l n hn hw hnn
  rw [normalize_marks_partial (expand l 0 n) L hL wfe nne h2]
  exact outerMarks_of_marks (expand_ins_marks_aux l 0 n hw hn h1)

/-- … in particular under the hypotheses of `rotate_den_partial` plus duplicate-freeness and
positions inside the sequence — the conditions under which the Go oracle evaluates the clause -/
theorem rotate_marks_nodup_partial (l : Loc) (n L : Int) (hL : 0 < L) (hn : 0 ≤ n)
    (hw : wf l = true) (hnn : nonneg l = true)
    (hok : normOk L (expand l 0 n) = true)
    (h1 : expandAbs l 0 n = false) (h2 : normalizeAbs (expand l 0 n) L = false)
    (hin : denIn L (den l)) (hnd : (den l).Nodup) :
    outerMarks (normalize (expand l 0 n) L) = outerMarks l := by
  have wfe : wf (expand l 0 n) = true := (expand_ins l 0 n hw hn).2
  have hnd2 : (mapPos (· % L) (den (expand l 0 n))).Nodup :=
    Refines.nodup (translate_mod_refines l n L hn hw hnn h1) (nodup_mapPos_rotMap n L hL _ hin hnd)
  exact rotate_marks_partial l n L hL hn hw hnn
    (expand0MarkAbs_of_nodup l n hw hnn hn h1 hnd)
    (normalizeMarkAbs_of_nodup (expand l 0 n) L hL wfe hok h2 hnd2)

/-- FULL STATEMENT for the coordinates without the property's proviso on ambiguous spans (false
on the model, and on the code): `one-of(4.5)` on a circle of length 5 rotated by 1 becomes
`Ambiguous{4, 1}` — `Start > End`.  The property text excludes ambiguous spans that cross the
new origin; `ambOk` below is exactly that proviso. -/
theorem rotate_coords_full_refuted :
    ¬ (∀ (l : Loc) (n L : Int), 0 < L → 0 ≤ n → wf l = true → coordsWithin l L = true →
        coordsWithin (normalize (expand l 0 n) L) L = true) :=
  fun h => absurd (h (ambiguous 3 5) 1 5) (by decide +kernel)

/-- `Expand(0, n)` translates an ambiguous span with non-negative coordinates as a block -/
theorem expand_ambiguous_zero (s e n : Int) (hs : 0 ≤ s) (hse : s < e) (hn : 0 ≤ n) :
    expand (ambiguous s e) 0 n = ambiguous (s + n) (e + n) := by
  rw [expand, ambiguousExpand_ins s e 0 n hse hn, if_pos hs, if_pos (by omega)]

/-- **the carve-out, characterised** (audit follow-up, S3 tail): EVERY ambiguous span that lies across the
new origin comes back INVERTED.  For an ambiguous span `[s, e)` with `0 ≤ s < e`, not longer than the
circle, and a rotation amount `0 < n` whose new origin `L - n` lies strictly inside it
(`s + n < L < e + n`, i.e. `s < L - n < e`), `Normalize(Expand(·, 0, n), L)` — the two calls `gts.Rotate`
makes — is exactly `Ambiguous{s + n, e + n - L}`, and its end is not above its start
(`e + n - L ≤ s + n`; equal only for a span as long as the circle, which comes back EMPTY; a shorter one
fails `coordsWithin`, the oracle "all coordinates lie in [0, L]" of harness/spec.go).  So the property's proviso
"ambiguous spans only when they do not cross the new origin" (`ambOk` / the ambiguous clause of `normOk`)
is not a gap of the proof: outside it the code's answer is never a span of the rotated record
(`rotate_coords_full_refuted` is one instance; under a wrap-around `Slice` this is known finding K3A,
`C03.slice_wrap_ambiguous_coords_full_refuted`). -/
theorem rotate_ambiguous_across_origin (s e n L : Int) (hs : 0 ≤ s) (hse : s < e) (heL : e - s ≤ L)
    (hn : 0 < n) (h1 : s + n < L) (h2 : L < e + n) :
    normalize (expand (ambiguous s e) 0 n) L = ambiguous (s + n) (e + n - L) ∧
    e + n - L ≤ s + n ∧
    (e - s < L → coordsWithin (normalize (expand (ambiguous s e) 0 n) L) L = false) := by
  have hexp := expand_ambiguous_zero s e n hs hse (by omega)
  have hnorm : normalize (ambiguous (s + n) (e + n)) L = ambiguous (s + n) (e + n - L) := by
    simp only [normalize]
    rw [tmod_nonneg_eq _ _ (by omega), tmod_nonneg_eq _ _ (by omega),
      Int.emod_eq_of_lt (by omega) (by omega),
      mod_window L L (e + n - 1) 1 (by omega) (by omega) (by omega)]
    congr 1; omega
  rw [hexp, hnorm]
  refine ⟨rfl, by omega, fun hlt => ?_⟩
  have hinv : e + n - L < s + n := by omega
  simp [coordsWithin, leaves, leafWithin, leafSpan, hinv]

/-- non-vacuity: `one-of(4.5)` on a circle of 5 rotated by 1 (the witness of `rotate_coords_full_refuted`), and
`one-of(7.9)` on a circle of 10 rotated by 2 = the rotation step of `Slice(seq, 8, 4)` (known finding K3A) -/
example : (0 : Int) ≤ 3 ∧ (3 : Int) < 5 ∧ (5 : Int) - 3 ≤ 5 ∧ (0 : Int) < 1 ∧ (3 : Int) + 1 < 5 ∧ (5 : Int) < 5 + 1 ∧
    (normalize (expand (ambiguous 3 5) 0 1) 5).beq (ambiguous 4 1) = true ∧
    (normalize (expand (ambiguous 6 9) 0 2) 10).beq (ambiguous 8 1) = true := by decide +kernel

/-- **what the guard `normOk` asks of an ambiguous span, in the property's words** (audit follow-up, S3
tail): for an ambiguous span `[s, e)` inside the record (`0 ≤ s < e ≤ L`), shorter than the circle, and a
reduced rotation amount `0 ≤ n < L`, the guard `normOk L (expand · 0 n)` of the rotation theorems
(`rotate_den_partial`, `rotate_feature_partial`, C04Table, C03 `slice_wrap_*_partial`, C15
`rotate_features_partial`, C15Extract) holds EXACTLY when the span does not lie across the new origin
`L - n` — so for ambiguous spans the guard is the property's own proviso, nothing more.  (The harness
restates the right-hand side as `ambCrossesOrigin`, harness/props_loc.go.) -/
theorem normOk_ambiguous_iff (s e n L : Int) (hs : 0 ≤ s) (hse : s < e) (heL : e ≤ L) (hlen : e - s < L)
    (hn : 0 ≤ n) (hnL : n < L) :
    normOk L (expand (ambiguous s e) 0 n) = true ↔ ¬ (s + n < L ∧ L < e + n) := by
  have hexp := expand_ambiguous_zero s e n hs hse hn
  rw [hexp]
  simp only [normOk, Bool.and_eq_true, decide_eq_true_eq]
  by_cases hc : s + n < L
  · rw [Int.emod_eq_of_lt (by omega) hc]; omega
  · rw [mod_window L L (s + n) 1 (by omega) (by omega) (by omega)]; omega

/-- non-vacuity, both sides: `one-of(3.5)` on a circle of 10 rotated by 2 stays inside (guard true), `one-of(7.9)`
rotated by 2 lies across the new origin 8 (guard false: the shape of known finding K3A) -/
example : normOk 10 (expand (ambiguous 2 5) 0 2) = true ∧ ¬ ((2 : Int) + 2 < 10 ∧ (10 : Int) < 5 + 2) ∧
    normOk 10 (expand (ambiguous 6 9) 0 2) = false ∧ ((6 : Int) + 2 < 10 ∧ (10 : Int) < 9 + 2) := by decide +kernel

/-- a location inside `[0, L]` has non-negative coordinates (so `coordsWithin l L` discharges
the hypothesis `nonneg l` of the theorems of this file) -/
theorem coordsWithin_nonneg (l : Loc) (L : Int) (h : coordsWithin l L = true) : nonneg l = true :=
  nonneg_of_coordsWithin l L h

/-- **all coordinates lie in `[0, L]` after Rotate**: for every well-formed location with
non-negative coordinates (in particular: `coordsWithin l L`), every `0 ≤ n` (in particular the
reduced `n mod L` that `gts.Rotate` uses, see `rotN_eq_emod`) and `0 < L`, every leaf of
`Normalize(Expand(l, 0, n), L)` has `0 ≤ start ≤ end ≤ L` — provided no ambiguous span crosses the
new origin (`ambOk`, the property's own proviso).  No K2 / marker guard: `Join` only copies or
merges leaves. -/
theorem rotate_coords (l : Loc) (n L : Int) (hL : 0 < L) (hn : 0 ≤ n)
    (hw : wf l = true) (hnn : nonneg l = true) (ha : ambOk L (expand l 0 n) = true) :
    coordsWithin (normalize (expand l 0 n) L) L = true :=
  normalize_coordsWithin (expand l 0 n) L hL (expand_ins l 0 n hw hn).2
    (expand0_nonneg' l n hn hw hnn) ha

/-- non-vacuity: a complement-strand join that crosses the new origin, with both outer markers;
its rotated form keeps them and lies inside `[0, 10]` -/
example : wf (compl (joined [ranged 1 3 true false, ranged 6 9 false true])) = true ∧
    nonneg (compl (joined [ranged 1 3 true false, ranged 6 9 false true])) = true ∧
    coordsWithin (compl (joined [ranged 1 3 true false, ranged 6 9 false true])) 10 = true ∧
    expandMarkAbs (compl (joined [ranged 1 3 true false, ranged 6 9 false true])) 0 3 = false ∧
    normalizeMarkAbs (expand (compl (joined [ranged 1 3 true false, ranged 6 9 false true])) 0 3) 10 = false ∧
    ambOk 10 (expand (compl (joined [ranged 1 3 true false, ranged 6 9 false true])) 0 3) = true ∧
    outerMarks (compl (joined [ranged 1 3 true false, ranged 6 9 false true])) = (true, true) ∧
    normOk 10 (expand (compl (joined [ranged 1 3 true false, ranged 6 9 false true])) 0 3) = true ∧
    expandAbs (compl (joined [ranged 1 3 true false, ranged 6 9 false true])) 0 3 = false ∧
    normalizeAbs (expand (compl (joined [ranged 1 3 true false, ranged 6 9 false true])) 0 3) 10 = false ∧
    denIn 10 (den (compl (joined [ranged 1 3 true false, ranged 6 9 false true]))) ∧
    (den (compl (joined [ranged 1 3 true false, ranged 6 9 false true]))).Nodup ∧
    (normalize (expand (compl (joined [ranged 1 3 true false, ranged 6 9 false true])) 0 3) 10).beq
      (compl (joined [ranged 4 6 true false, ranged 9 10 false false, ranged 0 2 false true])) = true := by
  decide +kernel

/-- **Rotate, record level (markers)**: for every `n` (any sign and magnitude) every feature of
a non-empty record is present in the rotated record with unchanged key and qualifiers and the
same outer partial markers. -/
theorem rotate_feature_marks_partial (s : Gts.Seq) (n : Int) (hL : 0 < s.len) (f : Feature)
    (hf : f ∈ s.feats) (hw : wf f.loc = true) (hnn : nonneg f.loc = true)
    (h1 : expandMarkAbs f.loc 0 (rotN n s.len) = false)
    (h2 : normalizeMarkAbs (expand f.loc 0 (rotN n s.len)) s.len = false) :
    ∃ f' ∈ (s.rotate n).feats, f'.key = f.key ∧ f'.props = f.props ∧
      outerMarks f'.loc = outerMarks f.loc := by
  exact ⟨_, mem_of_perm_map (rotate_table_perm s n) hf, rfl, rfl,
    rotate_marks_partial f.loc (rotN n s.len) s.len hL (rotN_nonneg n s.len hL) hw hnn h1 h2⟩

/-- **Rotate, record level (coordinates)**: every feature of the rotated record that stems from
a well-formed feature with non-negative coordinates and no ambiguous span across the new origin
has all its coordinates in `[0, L]`. -/
theorem rotate_feature_coords (s : Gts.Seq) (n : Int) (hL : 0 < s.len) (f : Feature)
    (hf : f ∈ s.feats) (hw : wf f.loc = true) (hnn : nonneg f.loc = true)
    (ha : ambOk s.len (expand f.loc 0 (rotN n s.len)) = true) :
    ∃ f' ∈ (s.rotate n).feats, f'.key = f.key ∧ f'.props = f.props ∧
      coordsWithin f'.loc s.len = true := by
  exact ⟨_, mem_of_perm_map (rotate_table_perm s n) hf, rfl, rfl,
    rotate_coords f.loc (rotN n s.len) s.len hL (rotN_nonneg n s.len hL) hw hnn ha⟩

/-! ### the statements above, for the code AS IT IS WRITTEN NOW

`Gts.Gen.seqRotate` is regenerated from sequence.go on every run (go2lean/gseq.go: the loop `for n < 0` literally,
with fuel); `Gts/Bridge/SeqRotate.lean` proves it equal to the model on every non-empty sequence. -/

/-- **`gts.Rotate` as written**: on a non-empty sequence it does not panic for any `n` (given `-n` units of fuel for
the normalisation loop), residue `k` moves to position `(k + n) mod L`, no feature is lost or duplicated, and the
metadata is untouched -/
theorem gen_rotate_spec {ι : Type} (fuel : Nat) (info : ι) (s : Gts.Seq) (n : Int) (hL : 0 < s.len) (hf : -n ≤ fuel) :
    ∃ ff p, Gen.seqRotate fuel info s.feats s.bytes n = .ok (info, ff, p) ∧
      (∀ k : Nat, k < s.bytes.length → p[((k + n) % s.len).toNat]? = s.bytes[k]?) ∧
      ff.Perm (s.feats.map fun f => { f with loc := (f.loc.expand 0 (rotN n s.len)).normalize s.len }) :=
  ⟨_, _, Bridge.seqRotate_eq fuel info s n hL hf, fun k hk => rotate_bytes_get s n k hk, rotate_table_perm s n⟩

/-- **`gts.Rotate` as written** panics on the empty sequence (`n %= 0`) -/
theorem gen_rotate_empty_panics {ι : Type} (fuel : Nat) (info : ι) (feats : List Feature) (n : Int) :
    Gen.seqRotate fuel info feats [] n = .error .panic :=
  Bridge.seqRotate_panic fuel info feats n

-- non-vacuity
example : 0 < (⟨[], [65, 67, 71]⟩ : Gts.Seq).len ∧ -(-7 : Int) ≤ (7 : Nat) := by decide +kernel

end Gts.C04
