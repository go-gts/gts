/-
  C19 — feature selection and sorted insertion behave as documented for every table.
  Property theorems and a few combinator lemmas they share (`and_spec`, `or_spec_partial`, `not_spec`,
  `selectFilter_orF`, `insertAll_inv`, `insertAll_perm`); helper lemmas live in Gts/Lemmas/Select.lean,
  Gts/Lemmas/SelSplit.lean, Gts/Lemmas/SelectEsc.lean and Gts/Lemmas/LessOrder.lean; the declarative selector
  grammar in Gts/Spec/Selector.lean, with escapes in Gts/Spec/SelectorEsc.lean.

  Findings (known_findings.json):
  * F8    (fixed in /repo 76e7391) an *unnamed* selector clause used to test the qualifier
          **names** as well (`/=note` accepted every feature with a `note` qualifier).  On the
          repaired code `selector_spec` holds at full strength.
  * K19B  `Or()` with no filters is `TrueFilter` (asserted by TestFeatureFilter), not the neutral
          element of `Or`.  `or_spec_full_refuted`, `or_spec_partial`.
  `LocationLess` turned out to be a strict weak order on **all** locations (no guard needed).
-/
import Gts.Lemmas.Select
import Gts.Lemmas.LessOrder
import Gts.Lemmas.SelectEsc
import Gts.Bridge.FeatSelector
import Gts.Bridge.CmdSelect
import Gts.Bridge.CmdSort
namespace Gts.C19
open Gts Loc SelSpec

/-- A selector errs exactly when one of its clauses carries an invalid regexp
(selector strings without backslash). -/
theorem selector_error_iff (valid : String → Bool) (mtch : String → String → Bool) (s : String)
    (hs : '\\' ∉ s.toList) :
    selector valid mtch s = none ↔ ∃ c ∈ clauses s, valid c.2 = false := by
  rw [selector_none_iff, (esc_plain s hs).2]

/-- **The selection clause of C19.**  For every selector string without backslash, every regexp
oracle and every feature (with `Props` as `Props.Add` builds them), `Selector(s)` accepts the
feature iff the key (when given) is equal and every clause of the grammar
`[key][/[name][=regexp]]...` is satisfied — named: some value of that qualifier matches the
regexp (any value when the regexp is empty); unnamed: some value of any qualifier matches. -/
theorem selector_spec (valid : String → Bool) (mtch : String → String → Bool) (s : String)
    (hs : '\\' ∉ s.toList) (flt : Filter) (hflt : selector valid mtch s = some flt)
    (f : Feature) (hwf : wfProps f.props) :
    flt f = true ↔ accepts mtch s f := by
  rw [selector_some_iff hflt, (esc_plain s hs).1, (esc_plain s hs).2]
  exact and_congr_right fun _ => forall₂_congr fun c _ => qualEval_iff mtch c f hwf

/-- the witness of the repaired defect F8 (an unnamed clause used to match qualifier *names*):
`/=note` on a `gene` feature whose only qualifier is `note="x"` is now rejected, as the
property demands -/
example :
    (selector (fun _ => true) (fun q w => q == w) "/=note").map
        (fun p => p ⟨"gene", ranged 0 3 false false, [["note", "x"]]⟩) = some false ∧
      ¬ accepts (fun q w => q == w) "/=note" ⟨"gene", ranged 0 3 false false, [["note", "x"]]⟩ := by
  decide +kernel

/-- non-vacuity: a three-clause selector with trailing slash on a multi-valued feature meets
all hypotheses of `selector_spec`, compiles, and is accepted on both sides -/
example :
    let m : String → String → Bool := fun q w => q == w
    let f : Feature := ⟨"CDS", point 3, [["gene", "thrL", "b"], ["note", "a=b"]]⟩
    '\\' ∉ "CDS/gene=b/note=a=b/=thrL/".toList ∧ wfProps f.props ∧
      (selector (fun _ => true) m "CDS/gene=b/note=a=b/=thrL/").map (fun p => p f) = some true ∧
      accepts m "CDS/gene=b/note=a=b/=thrL/" f ∧
      clauses "CDS/gene=b/note=a=b/=thrL/" = [("gene", "b"), ("note", "a=b"), ("", "thrL")] := by
  decide +kernel

/-- the reading of a trailing `/`: `"gene/"` has no clause, `"gene//"` has the one clause `""` -/
example : clauses "gene/" = [] ∧ clauses "gene//" = [("", "")] ∧ key "gene//" = "gene" := by decide +kernel

/-- outside `wfProps` (rows that `Props.Add` cannot build) the code deviates from the reading
"some value of that qualifier": `Get` only sees the first row of a repeated name, and `Has`
accepts a row without values. -/
example :
    let m : String → String → Bool := fun q w => q == w
    let v : String → Bool := fun _ => true
    (selector v m "/note=b").map (fun p => p ⟨"gene", point 0, [["note", "a"], ["note", "b"]]⟩)
        = some false ∧
      accepts m "/note=b" ⟨"gene", point 0, [["note", "a"], ["note", "b"]]⟩ ∧
    (selector v m "/pseudo").map (fun p => p ⟨"gene", point 0, [["pseudo"]]⟩) = some true ∧
      ¬ accepts m "/pseudo" ⟨"gene", point 0, [["pseudo"]]⟩ := by
  decide +kernel

/-! ## selectors with backslashes; qualifier tables as they are

`SelSpec.escSplit bs sl` (`Gts/Spec/SelectorEsc.lean`) is the declarative split: a separator splits
unless the TEXT in front of it ends in a backslash followed by zero or more slashes; nothing is
removed from the segments.  `selectorSegments` = the segments, a trailing empty one behind the key
dropped (`for tail != ""`).  /repo documents no escape convention (neither the doc comment of
`Selector` nor the man pages); what the code does is the conventional reading "a `/`
immediately preceded by a backslash does not split" on every string that does not contain `\//` (and differs
from it on `\//` itself), backslashes
do not pair (`\\/` does not split either) and are never removed. -/

/-- **the split with escapes, every byte string**: the key `shiftSelector` returns and the parts the
loop `for tail != ""` of `Selector` goes through (`selectorParts`, iterating `shiftSelector`) are the
segments of the declarative split -/
theorem selector_parts_spec (s : Pars.Bytes) :
    (shiftSelectorB s).1 :: selectorParts ((shiftSelectorB s).2.length + 1) (shiftSelectorB s).2 =
      selectorSegments (92 : UInt8) 47 s := by
  rw [selectorParts_eq]
  simp only [shiftSelectorB, shiftSelectorGo_eq]
  exact segments_spec (92 : UInt8) 47 (by decide) s _ (Nat.le_succ _)

/-- **… for the code AS IT IS WRITTEN NOW** (`Gts.Gen.selector`, regenerated from feature.go on every
run; `Key` / `And` / `FalseFilter` / `Qualifier` abstract): for every byte string `Selector` never
panics, applies `Key` to the first segment of the declarative split and folds `And(·, Qualifier(name,
regexp))` over the further segments in order (each split at its first `=`), the first error ending it -/
theorem gen_selector_segments {φ ε : Type} (key : Pars.Bytes → φ) (false_ : φ) (and_ : φ → φ → φ)
    (qual : Pars.Bytes → Pars.Bytes → φ × Option ε) (s : Pars.Bytes) (fuel : Nat) (h : s.length ≤ fuel) :
    ∃ k parts, selectorSegments (92 : UInt8) 47 s = k :: parts ∧
      Gen.selector fuel key false_ and_ qual s = some (Bridge.selectorGo false_ and_ qual parts (key k)) :=
  ⟨_, _, (selector_parts_spec s).symm, Bridge.selector_eq key false_ and_ qual s fuel h⟩

/-- **reassembly, one way**: the segments of ANY string, joined by single slashes, are the string -/
theorem selector_split_join (s : Pars.Bytes) : joinSep 47 (escSplit (92 : UInt8) 47 s) = s := by
  rw [escSplit_eq (92 : UInt8) 47 (by decide), joinSep_splitSt]; rfl

/-- **reassembly, the other way**: joining parts by single slashes and splitting gives the parts
back, provided every part is `sealed` (decidable): it holds no separator of its own and does not end
in a backslash followed by slashes -/
theorem selector_join_split_partial (ps : List Pars.Bytes) (hne : ps ≠ [])
    (hs : ∀ p ∈ ps, sealed (92 : UInt8) 47 p = true) :
    escSplit (92 : UInt8) 47 (joinSep 47 ps) = ps := by
  rw [escSplit_eq (92 : UInt8) 47 (by decide)]
  exact splitSt_joinSep (92 : UInt8) 47 (by decide) ps hne hs

/-- FULL STATEMENT of the escape round trip (false on the model, and on the code): "writing a
backslash in front of every slash of every part, joining and splitting gives the escaped parts
back".  Witness: the parts `a/` and `b` — `a\//b` is ONE segment, the separator behind an escaped
slash is swallowed (a part that ends in a slash cannot be followed by another part). -/
theorem selector_escape_full_refuted :
    ¬ (∀ ps : List Pars.Bytes, ps ≠ [] →
        escSplit (92 : UInt8) 47 (joinSep 47 (ps.map (escapeSep 92 47))) = ps.map (escapeSep 92 47)) := by
  intro h
  have := h [[97, 47], [98]] (by decide)
  revert this
  decide

/-- **escape round trip**: for parts none of which ends in a slash or a backslash, writing a
backslash in front of every slash, joining by slashes and splitting gives the escaped parts back
(the backslashes stay: nothing un-escapes a key or a qualifier name) -/
theorem selector_escape_partial (ps : List Pars.Bytes) (hne : ps ≠ [])
    (hl : ∀ p ∈ ps, p.getLast? ≠ some 92 ∧ p.getLast? ≠ some 47) :
    escSplit (92 : UInt8) 47 (joinSep 47 (ps.map (escapeSep 92 47))) = ps.map (escapeSep 92 47) := by
  apply selector_join_split_partial _ (by simpa using hne)
  intro p hp
  obtain ⟨q, hq, rfl⟩ := List.mem_map.mp hp
  exact sealed_escapeSep (92 : UInt8) 47 (by decide) q (hl q hq).1 (hl q hq).2

/-- FULL STATEMENT of the conventional reading (false on the model, and on the code): "a `/` splits
unless it is immediately preceded by a backslash".  Witness `\//`: the conventional reading yields
the segments `\/` and `` (empty), the code one segment `\//`. -/
theorem selector_intent_full_refuted :
    ¬ (∀ s : Pars.Bytes, escSplit (92 : UInt8) 47 s = intentSplit 92 47 s) := by
  intro h
  have := h [92, 47, 47]
  revert this
  decide

/-- **the conventional reading holds on every string that does not contain `\//`** — two
backslashes included: in `a\\/b` the slash does not split under either reading -/
theorem selector_intent_partial (s : Pars.Bytes) (h : hasSticky (92 : UInt8) 47 s = false) :
    escSplit (92 : UInt8) 47 s = intentSplit 92 47 s :=
  escSplit_intent (92 : UInt8) 47 (by decide) s h

/-- non-vacuity and the three peculiarities: `gene\/x/note=a\/b/` has the key `gene\/x` (backslash
kept) and the one clause `note=a\/b`; `a\\/b` is one segment; `a\//b` is one segment; sealed parts;
an escapable list of parts -/
example :
    selectorSegments (92 : UInt8) 47 "gene\\/x/note=a\\/b/".toUTF8.toList =
      ["gene\\/x".toUTF8.toList, "note=a\\/b".toUTF8.toList] ∧
    escSplit (92 : UInt8) 47 "a\\\\/b".toUTF8.toList = ["a\\\\/b".toUTF8.toList] ∧
    escSplit (92 : UInt8) 47 "a\\//b".toUTF8.toList = ["a\\//b".toUTF8.toList] ∧
    hasSticky (92 : UInt8) 47 "gene\\/x/note=a\\/b/".toUTF8.toList = false ∧
    (∀ p ∈ ["gene\\/x".toUTF8.toList, "note=a\\/b".toUTF8.toList, []], sealed (92 : UInt8) 47 p = true) ∧
    (∀ p ∈ ["a/b".toUTF8.toList, "c\\d".toUTF8.toList, []], p.getLast? ≠ some 92 ∧ p.getLast? ≠ some 47) := by
  decide +kernel

/-- **the syntactic half of `Selector` on strings, EVERY string** (the character-level model the
protocol op `sel.eval` answers with): key and clauses of the grammar with escapes -/
theorem parse_selector_esc (s : String) : parseSelector s = ⟨keyEsc s, clausesEsc s⟩ :=
  parseSelector_esc s

/-- without a backslash the grammar with escapes is the plain one -/
example : keyEsc "CDS/gene=b/note=a=b/=thrL/" = key "CDS/gene=b/note=a=b/=thrL/" ∧
    clausesEsc "CDS/gene=b/note=a=b/=thrL/" = clauses "CDS/gene=b/note=a=b/=thrL/" ∧
    keyEsc "gene\\/x/note=a\\/b" = "gene\\/x" ∧ clausesEsc "gene\\/x/note=a\\/b" = [("note", "a\\/b")] := by
  decide +kernel

/-- **what a clause tests on ANY qualifier table** (repeated names, rows without values — tables
`Props.Add` cannot build but a caller can; every row has a name: `props[i][0]` panics otherwise).
`/=regexp`: every value of every row, never a name.  `/name`: is there a row of that name, with or
without values.  `/name=regexp`: the values of the FIRST row of that name only — `Props.Get` — so a
later row of the same name is never looked at (the writer, since repair 7b61a9a, writes every row). -/
theorem qualifier_rows_spec (mtch : String → String → Bool) (name query : String) (f : Feature)
    (_hrows : Props.rowsOk f.props = true) :
    qualEval mtch name query f = true ↔ clauseSatRows mtch (name, query) f :=
  qualEval_rows mtch (name, query) f

/-- FULL STATEMENT of the property's reading on raw tables (false on the model, and on the code):
"a named clause is satisfied iff some value of that qualifier matches" with `valuesOf` = the values
of EVERY row of that name.  Witness `/note=b` on the rows `note=a`, `note=b`: only the first row is
read. -/
theorem selector_spec_rows_full_refuted :
    ¬ (∀ (valid : String → Bool) (mtch : String → String → Bool) (s : String) (flt : Filter),
        selector valid mtch s = some flt → ∀ f : Feature, Props.rowsOk f.props = true →
        (flt f = true ↔ accepts mtch s f)) := by
  intro h
  have hf : (selector (fun _ => true) (fun q w => q == w) "/note=b").map
      (fun p => p ⟨"gene", point 0, [["note", "a"], ["note", "b"]]⟩) = some false := by decide
  cases hsel : selector (fun _ => true) (fun q w => q == w) "/note=b" with
  | none => rw [hsel] at hf; cases hf
  | some flt =>
    rw [hsel] at hf
    have := (h _ _ _ flt hsel ⟨"gene", point 0, [["note", "a"], ["note", "b"]]⟩ (by decide)).mpr (by decide)
    exact Bool.noConfusion (this.symm.trans (Option.some.inj hf))

/-- **The selection clause for EVERY selector string and EVERY qualifier table.**  Whatever the
string (backslashes included) and whatever the rows (as long as each has a name), `Selector(s)`
accepts the feature iff the key of the grammar with escapes is empty or equal and every clause is
satisfied in the row-by-row reading `clauseSatRows`.  On strings without backslash and tables
`Props.Add` builds this is `selector_spec`. -/
theorem selector_rows_spec (valid : String → Bool) (mtch : String → String → Bool) (s : String)
    (flt : Filter) (hflt : selector valid mtch s = some flt)
    (f : Feature) (_hrows : Props.rowsOk f.props = true) :
    flt f = true ↔ acceptsRows mtch s f :=
  (selector_some_iff hflt f).trans (and_congr_right fun _ => forall₂_congr fun c _ => qualEval_rows mtch c f)

/-- … and it errs exactly when a clause of the grammar with escapes carries an invalid regexp -/
theorem selector_error_iff_esc (valid : String → Bool) (mtch : String → String → Bool) (s : String) :
    selector valid mtch s = none ↔ ∃ c ∈ clausesEsc s, valid c.2 = false :=
  selector_none_iff valid mtch s

/-- non-vacuity: an escaped selector on a raw table (a repeated name, a row without value) — accepted
on both sides; and the first-row reading: `/note=b` sees only `note=a` -/
example :
    let m : String → String → Bool := fun q w => q == w
    let f : Feature := ⟨"CDS", point 3, [["note", "a/b"], ["pseudo"], ["note", "b"]]⟩
    Props.rowsOk f.props = true ∧
    (selector (fun _ => true) m "CDS/note=a/b").map (fun p => p f) = some false ∧
    (selector (fun _ => true) m "CDS/=a\\/b/pseudo").map (fun p => p f) = some false ∧
    (selector (fun _ => true) m "CDS/=b/pseudo/note=a\\/b").map (fun p => p f) = some false ∧
    acceptsRows m "CDS/=b/pseudo" f ∧ ¬ acceptsRows m "/note=b" f ∧
    clausesEsc "CDS/=b/pseudo/note=a\\/b" = [("", "b"), ("pseudo", ""), ("note", "a\\/b")] := by
  decide +kernel

/-- `And(fs...)` is the conjunction of its arguments — for every arity, `And()` included. -/
theorem and_spec (fs : List Filter) (f : Feature) : andF fs f = fs.all fun p => p f := by
  unfold andF
  cases fs with
  | nil => rfl
  | cons p ps => simp

/-- what the code does: `Or()` accepts everything -/
theorem or_nil (f : Feature) : orF [] f = true := rfl

/-- FULL STATEMENT (false today, known finding K19B, asserted by TestFeatureFilter `{Or(), …}`):
"`Or(fs...)` is the disjunction of its arguments".  Refuted by `Or()`. -/
theorem or_spec_full_refuted : ¬ (∀ (fs : List Filter) (f : Feature), orF fs f = fs.any fun p => p f) := by
  intro h
  have := h [] ⟨"gene", point 0, []⟩
  simp [orF, trueFilter] at this

/-- `Or(fs...)` is the disjunction of its arguments for every arity ≥ 1. -/
theorem or_spec_partial (fs : List Filter) (hne : fs ≠ []) (f : Feature) :
    orF fs f = fs.any fun p => p f := by
  unfold orF
  cases fs with
  | nil => exact absurd rfl hne
  | cons p ps => simp

/-- consequently `Or()` is not neutral: `Or(Or(), p)` is not `p` -/
theorem or_nil_not_neutral : ¬ (∀ (p : Filter) (f : Feature), orF [orF [], p] f = p f) := by
  intro h
  have := h falseFilter ⟨"gene", point 0, []⟩
  simp [orF, trueFilter, falseFilter] at this

theorem not_spec (p : Filter) (f : Feature) : notF p f = !p f := rfl

/-- De Morgan, for every arity ≥ 1 (at arity 0 both fail because of K19B: `Not(And())` rejects
everything while `Or()` accepts everything, and `Not(Or())` rejects while `And()` accepts). -/
theorem de_morgan_and_partial (fs : List Filter) (hne : fs ≠ []) (f : Feature) :
    notF (andF fs) f = orF (fs.map notF) f := by
  rw [or_spec_partial _ (by simpa using hne), not_spec, and_spec]
  clear hne
  induction fs with
  | nil => rfl
  | cons p ps ih => simp only [List.all_cons, List.map_cons, List.any_cons, Bool.not_and, ih, notF]

theorem de_morgan_or_partial (fs : List Filter) (hne : fs ≠ []) (f : Feature) :
    notF (orF fs) f = andF (fs.map notF) f := by
  rw [and_spec, not_spec, or_spec_partial _ hne]
  clear hne
  induction fs with
  | nil => rfl
  | cons p ps ih => simp only [List.all_cons, List.map_cons, List.any_cons, Bool.not_or, ih, notF]

theorem de_morgan_full_refuted :
    ¬ (∀ (fs : List Filter) (f : Feature), notF (andF fs) f = orF (fs.map notF) f) ∧
    ¬ (∀ (fs : List Filter) (f : Feature), notF (orF fs) f = andF (fs.map notF) f) := by
  constructor <;> intro h <;> have := h [] ⟨"gene", point 0, []⟩ <;>
    simp [notF, andF, orF, trueFilter] at this

/-- `Key(k)`: the empty key accepts everything, otherwise equality -/
theorem key_spec (k : String) (f : Feature) : keyF k f = true ↔ (k = "" ∨ f.key = k) := keyF_iff k f

/-- `Within(lo, hi)` accepts iff **every** contiguous leaf of the location lies in the bounds -/
theorem within_spec (lo hi : Int) (f : Feature) :
    withinF lo hi f = true ↔
      ∀ x ∈ leaves f.loc, rangeWithin (leafSpan x).1 (leafSpan x).2 lo hi = true :=
  within_iff_leaves f.loc lo hi

/-- `Overlap(lo, hi)` accepts iff **some** contiguous leaf of the location overlaps the bounds -/
theorem overlap_spec (lo hi : Int) (f : Feature) :
    overlapF lo hi f = true ↔
      ∃ x ∈ leaves f.loc, rangeOverlap (leafSpan x).1 (leafSpan x).2 lo hi = true :=
  overlap_iff_leaves f.loc lo hi

/-- … over the denoted residues: when every leaf denotes at least one residue and `lo ≤ hi`,
`Within(lo, hi)` accepts iff all residues the location denotes lie in `[lo, hi)`. -/
theorem within_den (lo hi : Int) (f : Feature) (hp : ProperLeaves f.loc) (hb : lo ≤ hi) :
    withinF lo hi f = true ↔ ∀ q b, (q, b) ∈ den f.loc → lo ≤ q ∧ q < hi :=
  within_iff_den f.loc lo hi hp hb

/-- … and `Overlap(lo, hi)`, `lo < hi`, accepts iff some denoted residue lies in `[lo, hi)`. -/
theorem overlap_den (lo hi : Int) (f : Feature) (hp : ProperLeaves f.loc) (hb : lo < hi) :
    overlapF lo hi f = true ↔ ∃ q b, (q, b) ∈ den f.loc ∧ lo ≤ q ∧ q < hi :=
  overlap_iff_den f.loc lo hi hp hb

/-- the strand filters exclude each other -/
theorem strand_exclusive (f : Feature) : ¬ (forwardStrand f = true ∧ reverseStrand f = true) := by
  simp only [forwardStrand, reverseStrand, beq_iff_eq]
  omega

/-- a complement is on the reverse strand, a contiguous location on the forward strand, a
multi-part location is forward iff all parts are and reverse iff it has parts and all are -/
theorem strand_spec :
    (∀ l, strand (compl l) = 2) ∧
    (∀ l, isLeaf l = true → strand l = 1) ∧
    (∀ ls, strand (joined ls) = 1 ↔ ∀ l ∈ ls, strand l = 1) ∧
    (∀ ls, strand (ordered ls) = 1 ↔ ∀ l ∈ ls, strand l = 1) ∧
    (∀ ls, strand (joined ls) = 2 ↔ ls ≠ [] ∧ ∀ l ∈ ls, strand l = 2) ∧
    (∀ ls, strand (ordered ls) = 2 ↔ ls ≠ [] ∧ ∀ l ∈ ls, strand l = 2) := by
  have hleaf : ∀ l, isLeaf l = true → strand l = 1 := by
    intro l hl
    cases l <;> simp_all [strand, isLeaf, span?]
  -- a multi-part location, of either kind, has the strand of `strandList (ls.map strand)`
  have hfwd : ∀ ls : List Loc, strandList (strands ls) = 1 ↔ ∀ l ∈ ls, strand l = 1 := fun ls => by
    rw [strandList_forward, strands_eq_map, List.forall_mem_map]
  have hrev : ∀ ls : List Loc, strandList (strands ls) = 2 ↔ ls ≠ [] ∧ ∀ l ∈ ls, strand l = 2 := fun ls => by
    rw [strandList_reverse, strands_eq_map, List.forall_mem_map, Ne, List.map_eq_nil_iff]
  exact ⟨fun l => by simp [strand], hleaf, hfwd, hfwd, hrev, hrev⟩

/-- non-vacuity of the residue reading: a complemented join of two ranges -/
example : ProperLeaves (compl (joined [ranged 2 5 false true, point 7])) ∧
    withinF 2 8 ⟨"gene", compl (joined [ranged 2 5 false true, point 7]), []⟩ = true ∧
    overlapF 5 7 ⟨"gene", compl (joined [ranged 2 5 false true, point 7]), []⟩ = false := by
  refine ⟨?_, by decide +kernel, by decide +kernel⟩
  intro x hx
  simp [leaves, leavesList] at hx
  rcases hx with rfl | rfl <;> simp [leafSpan, span?]

/-- Filtering returns exactly the accepted features, in table order, unaltered. -/
theorem filter_spec (p : Filter) (t : Table) : Table.filterTable p t = t.filter p := by
  have := Table.filterIndices_spec p t []
  simpa [Table.filterTable] using this

/-- `LocationLess(a, b)` in closed form: some contiguous leaf of `a` is below every contiguous
leaf of `b`, leaves being compared by (normalised start, normalised end, number of partial
markers). -/
theorem less_iff_leaves (a b : Loc) :
    less a b = true ↔ ∃ la ∈ leaves a, ∀ lb ∈ leaves b, lexLt (nkey la) (nkey lb) := by
  rw [less_iff]
  exact exists_congr fun la => and_congr_right fun hla => forall₂_congr fun lb hlb =>
    contigLess_iff (leaves_isLeaf a la hla) (leaves_isLeaf b lb hlb)

/-- `LocationLess` is irreflexive — on **every** location (any nesting, multi-leaf, even the
empty `Joined{}`), no guard. -/
theorem less_irrefl (a : Loc) : less a a = false := Loc.less_irrefl a

/-- `LocationLess` is transitive on every location. -/
theorem less_trans (a b c : Loc) (h₁ : less a b = true) (h₂ : less b c = true) :
    less a c = true := Loc.less_trans h₁ h₂

/-- `LocationLess` is asymmetric on every location. -/
theorem less_asymm (a b : Loc) (h : less a b = true) : less b a = false := Loc.less_asymm h

/-- Incomparability under `LocationLess` is transitive on every location: the order is a
strict **weak** order (which is what makes binary-search insertion well defined). -/
theorem less_incomp_trans (a b c : Loc) (hab : less a b = false) (hba : less b a = false)
    (hbc : less b c = false) (hcb : less c b = false) :
    less a c = false ∧ less c a = false := Loc.less_incomp_trans hab hba hbc hcb

/-- non-vacuity: the order is not total and not trivial — two multi-leaf locations with the
same minimal leaf are incomparable, and a join is ordered by its *minimal* leaf wherever that
leaf stands -/
example :
    less (joined [ranged 4 6 false false, ranged 1 2 false false]) (ranged 1 3 false false) = true ∧
    less (joined [ranged 1 2 false false, point 9]) (ordered [point 5, ranged 1 2 false false]) = false ∧
    less (ordered [point 5, ranged 1 2 false false]) (joined [ranged 1 2 false false, point 9]) = false ∧
    less (ranged 1 3 false false) (ranged 1 3 true false) = true := by decide +kernel

/-- For a monotone predicate (`false … false true … true` on `[0, n)`) `sort.Search(n, f)`
returns the partition point. -/
theorem sortSearch_spec (n : Nat) (f : Nat → Bool) (hm : MonotoneUpTo n f) :
    sortSearch n f ≤ n ∧ (∀ k, k < sortSearch n f → f k = false) ∧
      (∀ k, sortSearch n f ≤ k → k < n → f k = true) := sortSearch_partition n f hm

/-- For an arbitrary predicate it returns some `i ≤ n` with `f i` (or `i = n`) and `¬ f (i-1)`
(or `i = 0`). -/
theorem sortSearch_any (n : Nat) (f : Nat → Bool) :
    sortSearch n f ≤ n ∧ (sortSearch n f = n ∨ f (sortSearch n f) = true) ∧
      (sortSearch n f = 0 ∨ f (sortSearch n f - 1) = false) := sortSearch_general n f

example : sortSearch 7 (fun k => decide (4 ≤ k)) = 4 ∧ sortSearch 0 (fun _ => true) = 0 ∧
    sortSearch 5 (fun _ => false) = 5 := by decide +kernel

/-- `Insert` returns the same features plus the new one (a permutation of `f :: t`; nothing is
altered) — for **every** table, sorted or not. -/
theorem insert_perm (t : Table) (f : Feature) : (Table.insert t f).Perm (f :: t) :=
  Table.insert_perm t f

/-- If the table has its `source` features first, so has the table after `Insert`. -/
theorem insert_sources_first (t : Table) (f : Feature) (h : Table.Ok t) :
    ∀ g ∈ (Table.insert t f).drop (Table.sourceCount (Table.insert t f)), g.key ≠ "source" :=
  (Table.insert_ok t f h).1

/-- If moreover the non-`source` features are in non-decreasing location order (no later one is
`LocationLess` than an earlier one), so are they after `Insert`. -/
theorem insert_sorted (t : Table) (f : Feature) (h : Table.Ok t) :
    Table.NonDecreasing ((Table.insert t f).drop (Table.sourceCount (Table.insert t f))) :=
  (Table.insert_ok t f h).2

/-- The invariant over **all insertion sequences**: starting from any table that satisfies it
(in particular the empty one), every sequence of `Insert`s yields a table with the `source`
features first and all others in non-decreasing location order … -/
theorem insertAll_inv (t : Table) (fs : List Feature) (h : Table.Ok t) :
    Table.Ok (Table.insertAll t fs) := Table.insertAll_ok fs t h

theorem insertAll_inv_nil (fs : List Feature) : Table.Ok (Table.insertAll [] fs) :=
  Table.insertAll_ok fs [] Table.ok_nil

/-- … holding exactly the inserted features. -/
theorem insertAll_perm (t : Table) (fs : List Feature) :
    (Table.insertAll t fs).Perm (fs.reverse ++ t) :=
  (Table.insertAll_perm t fs).trans (List.perm_append_comm.trans ((List.reverse_perm fs).symm.append_right t))

/-- non-vacuity: an insertion sequence with two sources, equal spans and a multi-leaf location;
the equal-span `CDS` lands *after* the `gene` inserted before it (insertion is stable). -/
example :
    (Table.insertAll [] [⟨"gene", ranged 1 3 false false, []⟩, ⟨"source", ranged 0 9 false false, []⟩,
        ⟨"exon", joined [ranged 4 6 false false, ranged 0 2 false false], []⟩,
        ⟨"CDS", ranged 1 3 false false, []⟩, ⟨"source", ranged 2 4 false false, []⟩]).map (·.key)
      = ["source", "source", "exon", "gene", "CDS"] := by decide +kernel

/-! ## the CLI glue: `gts select`, `gts clear`, `gts define`, `gts annotate`, `gts sort`

What the COMMANDS do with the library functions above.  `Cli.selectFilter`, `Cli.selectStep` … (Gts/Model/CliGlue.lean)
are the statements of cmd/gts/select.go …; `Gts.Gen.selectFilter`, `Gts.Gen.selectStep` … are REGENERATED from those files
on every run (go2lean/cmdsteps.go) and `Gts/Bridge/CmdSelect.lean`, `CmdSort.lean` prove them equal to the model — so the
`…_cli_step` theorems are statements about the code as it is written now. -/

/-- the strand condition `-s` asks for: `forward` = `ForwardStrand`, `reverse` = `ReverseStrand`, any other word (the
default `both`) = no condition -/
def strandOk (strand : String) (f : Feature) : Bool :=
  if strand = "forward" then forwardStrand f else if strand = "reverse" then reverseStrand f else true

/-- FULL STATEMENT (false today, known finding K19B): "a feature is kept iff (its key is `source` or (SOME selector
accepts it) ≠ `-v`) and it meets the strand condition", for every list of selectors.  With NO selector `Or()` is
`TrueFilter`: `gts select` without selectors keeps every feature (and `gts select -v` only the source features), where
"some selector accepts" is false. -/
theorem select_spec_full_refuted :
    ¬ (∀ (sels : List Filter) (invert : Bool) (strand : String) (f : Feature),
        Cli.selectFilter sels invert strand f =
          ((decide (f.key = "source") || ((sels.any fun p => p f) != invert)) && strandOk strand f)) := by
  intro h
  exact absurd (h [] false "both" ⟨"gene", .point 1, []⟩) (by decide)

/-- the filter of `gts select` for any list of selectors, `Or` left as it is -/
theorem selectFilter_orF (sels : List Filter) (invert : Bool) (strand : String) (f : Feature) :
    Cli.selectFilter sels invert strand f =
      ((decide (f.key = "source") || (orF sels f != invert)) && strandOk strand f) := by
  have hk : keyF "source" f = decide (f.key = "source") := by simp [keyF]
  have ho2 : ∀ p q : Filter, orF [p, q] f = (p f || q f) := fun p q => by simp [orF]
  have hinv : (if invert then notF (orF sels) else orF sels) f = (orF sels f != invert) := by
    cases invert <;> simp [notF]
  simp only [Cli.selectFilter, strandOk]
  split
  · rw [andF_pair, ho2, hk, hinv]
  · split
    · rw [andF_pair, ho2, hk, hinv]
    · rw [ho2, hk, hinv, Bool.and_true]

/-- **the filter of `gts select`** (guard: at least one selector — K19B): a feature is kept iff
(its key is `source` ∨ (some selector accepts it) ≠ `-v`) ∧ the `-s` strand condition.  The negation of `-v` covers
the selectors only: not the `source` exemption, not the strand condition (seeded W10-1 moved the strand condition
inside it). -/
theorem select_spec_partial (sels : List Filter) (hne : sels ≠ []) (invert : Bool) (strand : String) (f : Feature) :
    Cli.selectFilter sels invert strand f =
      ((decide (f.key = "source") || ((sels.any fun p => p f) != invert)) && strandOk strand f) := by
  rw [selectFilter_orF, or_spec_partial sels hne f]

/-- without a selector (K19B): everything passes the selector part unless `-v`, which then leaves the source features -/
theorem select_spec_nil (invert : Bool) (strand : String) (f : Feature) :
    Cli.selectFilter [] invert strand f = ((decide (f.key = "source") || !invert) && strandOk strand f) := by
  rw [selectFilter_orF, or_nil, Bool.true_bne]

/-- non-vacuity, and the case W10-1 changes: `-v -s forward` with a selector that rejects a REVERSE-strand feature — the
feature is not kept (it fails the strand condition), although it is "not (selected and forward)" -/
example :
    let sel : Filter := keyF "gene"
    let g : Feature := ⟨"CDS", .compl (.ranged 1 4 false false), []⟩
    Cli.selectFilter [sel] true "forward" g = false ∧
      ((decide (g.key = "source") || (([sel].any fun p => p g) != true)) && strandOk "forward" g) = false := by
  decide +kernel

/-- **`gts select`, the command as written**: for at least one selector the regenerated filter-building statements
yield a filter (no panic) and the regenerated scan-loop body writes exactly one record: the features with
(`source` ∨ selected ≠ `-v`) ∧ strand, in table order, residues as they are. -/
theorem select_cli_step (sels : List Filter) (hne : sels ≠ []) (invert : Bool) (strand : String) (s : Seq) :
    ∃ flt, Gen.selectFilter sels strand invert = some flt ∧
      Gen.selectStep flt s = some [⟨s.feats.filter fun f =>
        (decide (f.key = "source") || ((sels.any fun p => p f) != invert)) && strandOk strand f, s.bytes⟩] := by
  refine ⟨_, Bridge.selectFilter_eq sels strand invert, ?_⟩
  rw [Bridge.selectStep_eq]
  have : Cli.selectFilter sels invert strand = fun f =>
      (decide (f.key = "source") || ((sels.any fun p => p f) != invert)) && strandOk strand f :=
    funext fun f => select_spec_partial sels hne invert strand f
  simp [Cli.selectStep, Cli.withFeats, this]

example : ∃ flt, Gen.selectFilter [keyF "gene"] "reverse" true = some flt ∧
    Gen.selectStep flt ⟨[⟨"source", .ranged 0 9 false false, []⟩, ⟨"gene", .compl (.point 1), []⟩], [65]⟩ =
      some [⟨[⟨"source", .ranged 0 9 false false, []⟩, ⟨"gene", .compl (.point 1), []⟩].filter fun f =>
        (decide (f.key = "source") || (([keyF "gene"].any fun p => p f) != true)) && strandOk "reverse" f, [65]⟩] :=
  select_cli_step _ (by simp) _ _ _

/-- **`gts clear`, the command as written**: exactly the `source` features stay, in table order -/
theorem clear_cli_step (s : Seq) :
    Gen.clearStep s = some [⟨s.feats.filter fun f => decide (f.key = "source"), s.bytes⟩] := by
  rw [Bridge.clearStep_eq]
  have : keyF "source" = fun f => decide (f.key = "source") := by funext f; simp [keyF]
  simp [Cli.clearStep, Cli.withFeats, this]

example : Gen.clearStep ⟨[⟨"source", .point 0, []⟩, ⟨"gene", .point 1, []⟩], [65, 67]⟩ =
    some [⟨[⟨"source", .point 0, []⟩, ⟨"gene", .point 1, []⟩].filter fun f => decide (f.key = "source"), [65, 67]⟩] :=
  clear_cli_step _

/-- **`gts define`, the command as written**: the record gets the new feature and loses none (a permutation of
`f :: table`), and a table with its sources first and the rest in location order stays one -/
theorem define_cli_step (f : Feature) (s : Seq) :
    ∃ t, Gen.defineStep f s = some [⟨t, s.bytes⟩] ∧ t.Perm (f :: s.feats) ∧ (Table.Ok s.feats → Table.Ok t) :=
  ⟨Table.insert s.feats f, Bridge.defineStep_eq f s, insert_perm _ _, fun h => Table.insert_ok _ _ h⟩

example : ∃ t, Gen.defineStep ⟨"gene", .ranged 1 3 false false, []⟩ ⟨[⟨"source", .point 0, []⟩, ⟨"CDS", .point 4, []⟩], [65, 67, 71, 84, 65]⟩
      = some [⟨t, [65, 67, 71, 84, 65]⟩] ∧
    t.Perm (⟨"gene", .ranged 1 3 false false, []⟩ :: [⟨"source", .point 0, []⟩, ⟨"CDS", .point 4, []⟩]) ∧
    (Table.Ok [⟨"source", .point 0, []⟩, ⟨"CDS", .point 4, []⟩] → Table.Ok t) := define_cli_step _ _

/-- **`gts annotate`, the command as written**: the record gets every feature of the table file and loses none, and
the table invariant is kept -/
theorem annotate_cli_step (featin : List Feature) (s : Seq) :
    ∃ t, Gen.annotateStep featin s = some [⟨t, s.bytes⟩] ∧ t.Perm (featin.reverse ++ s.feats) ∧
      (Table.Ok s.feats → Table.Ok t) :=
  ⟨Table.insertAll s.feats featin, Bridge.annotateStep_eq featin s, insertAll_perm _ _, fun h => insertAll_inv _ _ h⟩

example : ∃ t, Gen.annotateStep [⟨"gene", .point 1, []⟩] ⟨[⟨"source", .point 0, []⟩], [65, 67]⟩ = some [⟨t, [65, 67]⟩] ∧
    t.Perm ([⟨"gene", .point 1, []⟩].reverse ++ [⟨"source", .point 0, []⟩]) ∧
    (Table.Ok [⟨"source", .point 0, []⟩] → Table.Ok t) := annotate_cli_step _ _

/-- **`gts sort`, the order as written**: whatever `sort.Sort` does beyond its contract, a result in which no later
record is `Less` — the REGENERATED `byLength.Less`, behind `-r` with its arguments swapped by `sort.Reverse` — than an
earlier one has its lengths in DESCENDING order (`-r`: ascending).  (Records of one length are ties: their order is
not determined, `sort.Sort` is not stable.) -/
theorem sort_cli_step (reverse : Bool) (out : List Seq)
    (hsorted : ∀ i j : Nat, i < j → j < out.length →
      (if reverse then Gen.byLengthLess out i j else Gen.byLengthLess out j i) = some false) :
    ∀ (i j : Nat) (_ : i < j) (hj : j < out.length),
      if reverse then (out[i]'(by omega)).len ≤ out[j].len else out[j].len ≤ (out[i]'(by omega)).len := by
  intro i j hij hj
  have hi : i < out.length := by omega
  have h := hsorted i j hij hj
  cases reverse
  · simp only [Bool.false_eq_true, if_false] at h ⊢
    rw [Bridge.byLengthLess_eq out j i _ _ (List.getElem?_eq_getElem hj) (List.getElem?_eq_getElem hi)] at h
    simp only [Cli.lenLess, Bool.false_eq_true, if_false, Option.some.injEq, decide_eq_false_iff_not] at h
    omega
  · simp only [if_true] at h ⊢
    rw [Bridge.byLengthLess_eq out i j _ _ (List.getElem?_eq_getElem hi) (List.getElem?_eq_getElem hj)] at h
    simp only [Cli.lenLess, Bool.false_eq_true, if_false, Option.some.injEq, decide_eq_false_iff_not] at h
    omega

/-- non-vacuity: three records, longest first, meet the hypothesis for `reverse = false` -/
example : ∀ i j : Nat, i < j → j < ([⟨[], [1, 2, 3]⟩, ⟨[], [1, 2]⟩, ⟨[], [1, 2]⟩] : List Seq).length →
    Gen.byLengthLess [⟨[], [1, 2, 3]⟩, ⟨[], [1, 2]⟩, ⟨[], [1, 2]⟩] j i = some false := by
  intro i j hij hj
  have hj3 : j < 3 := hj
  obtain ⟨rfl, rfl⟩ | ⟨rfl, rfl⟩ | ⟨rfl, rfl⟩ : (i = 0 ∧ j = 1) ∨ (i = 0 ∧ j = 2) ∨ (i = 1 ∧ j = 2) := by omega
  all_goals decide +kernel

end Gts.C19
