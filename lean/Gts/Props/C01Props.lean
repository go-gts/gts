/-
  C01 / C19: API laws of the qualifier table `Props` (props.go), stated for the functions REGENERATED from the
  current source (Gts/Gen/Props.lean; `none` = Go panic; the pointer-receiver methods return the new `*props`)
  and for any string type — the model's `String` table (Gts/Model/Feature.lean) and the seqio byte-string tables
  alike.  `rowsOk`: every row has its name (what `Set` / `Add` — the only writers — establish and keep).
  Rows of one name CAN repeat (a table read from a file, F31): the laws say which row each method touches.
-/
import Gts.Lemmas.PropsLaws
namespace Gts.C01
open Gts.Gen Gts.Gen.PropsGo Gts.PropsG

variable {σ : Type} [DecidableEq σ]

/-- Every operation keeps every row named: on a table with `rowsOk`, `Set`, `Add` and `Del` do not panic and
their result has `rowsOk` again. -/
theorem props_ops_preserve_rowsOk (z : σ) (ps : List (List σ)) (k : σ) (vs : List σ) (ok : rowsOk ps = true) :
    (∃ r, propsSet z ps k vs = some r ∧ rowsOk r = true) ∧ (∃ r, propsAdd z ps k vs = some r ∧ rowsOk r = true) ∧
      (∃ r, propsDel ps k = some r ∧ rowsOk r = true) := by
  exact ⟨⟨_, propsSet_total z ps k vs ok, rowsOk_gset ps k vs ok⟩, ⟨_, propsAdd_total z ps k vs ok, rowsOk_gadd ps k vs ok⟩,
    ⟨_, propsDel_total ps k ok, rowsOk_gdel ps k ok⟩⟩

example : rowsOk [["gene", "a"], ["note", "x", "y"]] = true := by decide

/-- `Get` after `Set`: exactly the values that were set (whatever rows of that name there were). -/
theorem props_get_set (z : σ) (ps : List (List σ)) (k : σ) (vs : List σ) (ok : rowsOk ps = true) :
    (propsSet z ps k vs).bind (fun r => propsGet r k) = some vs := by
  rw [propsSet_total z ps k vs ok, Option.bind_some,
    propsGet_total (gset ps k vs) k (rowsOk_gset ps k vs ok), gget_gset]
  rfl

example : (propsSet "" [["gene", "a"], ["note", "x"], ["note", "y"]] "note" ["p", "q"]).bind (fun r => propsGet r "note")
    = some ["p", "q"] := by decide

/-- `Get` after `Add`: the old values of the first row of that name (none when absent) followed by the added ones. -/
theorem props_get_add (z : σ) (ps : List (List σ)) (k : σ) (vs old : List σ) (ok : rowsOk ps = true)
    (hold : propsGet ps k = some old) :
    (propsAdd z ps k vs).bind (fun r => propsGet r k) = some (old ++ vs) := by
  rw [propsGet_total ps k ok] at hold
  rw [propsAdd_total z ps k vs ok, Option.bind_some,
    propsGet_total (gadd ps k vs) k (rowsOk_gadd ps k vs ok), gget_gadd ps k vs]
  simp only [Option.some.injEq] at hold
  simp [hold]

example : propsGet [["gene", "a"], ["note", "x"]] "note" = some ["x"] ∧
    (propsAdd "" [["gene", "a"], ["note", "x"]] "note" ["y", "z"]).bind (fun r => propsGet r "note") = some ["x", "y", "z"] := by
  decide

/-- `Del` removes the FIRST row of that name only: behind `Del`, `Get` and `Has` answer what they answer on the
rows BEHIND that first row — the values of the second row of that name if there is one (F31: names can repeat),
absent otherwise. -/
theorem props_get_del (a b : List (List σ)) (k : σ) (t : List σ) (hn : ∀ row ∈ a, row.head? ≠ some k)
    (ok : rowsOk (a ++ (k :: t) :: b) = true) :
    (propsDel (a ++ (k :: t) :: b) k).bind (fun r => propsGet r k) = propsGet b k ∧
      (propsDel (a ++ (k :: t) :: b) k).bind (fun r => propsHas r k) = propsHas b k := by
  have oka : rowsOk a = true := by simp [rowsOk_append] at ok; exact ok.1
  have okb : rowsOk b = true := by simp [rowsOk] at ok ⊢; exact ok.2
  have okab : rowsOk (a ++ b) = true := by simp [rowsOk_append, oka, okb]
  have hd := propsDel_total (a ++ (k :: t) :: b) k ok
  simp only [gdel, gupd_at _ _ _ a t b hn, Option.toList_none, List.append_nil] at hd
  have hg : gget (a ++ b) k = gget b k := gget_append a b k hn
  rw [hd, Option.bind_some, Option.bind_some, propsGet_total (a ++ b) k okab,
    propsHas_total (a ++ b) k okab, propsGet_total b k okb, propsHas_total b k okb, hg]
  exact ⟨rfl, rfl⟩

example : (propsDel [["gene", "a"], ["note", "first"], ["x", "1"], ["note", "second"]] "note").bind (fun r => propsGet r "note")
    = some ["second"] ∧ propsHas [["x", "1"], ["note", "second"]] "note" = some true := by decide

/-- `Items` after `Add`: the new pairs stand behind the pairs of the first row of that name (and in front of every
later row's), or at the very end when no row has the name. -/
theorem props_items_add (z : σ) (a b : List (List σ)) (k : σ) (t vs : List σ) (hn : ∀ row ∈ a, row.head? ≠ some k)
    (ok : rowsOk (a ++ (k :: t) :: b) = true) :
    ∃ ia ib, propsItems z a = some ia ∧ propsItems z b = some ib ∧
      (propsAdd z (a ++ (k :: t) :: b) k vs).bind (propsItems z) =
        some (ia ++ (t ++ vs).map (fun v => (k, v)) ++ ib) := by
  have oka : rowsOk a = true := by simp [rowsOk_append] at ok; exact ok.1
  have okb : rowsOk b = true := by simp [rowsOk] at ok ⊢; exact ok.2
  refine ⟨gitems a, gitems b, propsItems_total z a oka, propsItems_total z b okb, ?_⟩
  have hadd := propsAdd_total z (a ++ (k :: t) :: b) k vs ok
  have ok2 := rowsOk_gadd _ k vs ok
  rw [hadd, Option.bind_some, propsItems_total z _ ok2, gadd, gupd_at _ _ _ a t b hn]
  simp [gitems, gitems_append]

/-- … when no row has the name: a new last row. -/
theorem props_items_add_absent (z : σ) (ps : List (List σ)) (k : σ) (vs : List σ) (hn : ∀ row ∈ ps, row.head? ≠ some k)
    (ok : rowsOk ps = true) :
    ∃ ip, propsItems z ps = some ip ∧
      (propsAdd z ps k vs).bind (propsItems z) = some (ip ++ vs.map (fun v => (k, v))) := by
  refine ⟨gitems ps, propsItems_total z ps ok, ?_⟩
  have ok2 := rowsOk_gadd _ k vs ok
  rw [propsAdd_total z ps k vs ok, Option.bind_some, propsItems_total z _ ok2, gadd, gupd_noRow _ _ _ ps hn,
    gitems_append]
  simp [gitems]

example : (propsAdd "" [["gene", "a"], ["note", "x"], ["db", "1"]] "note" ["y"]).bind (propsItems "")
    = some [("gene", "a"), ("note", "x"), ("note", "y"), ("db", "1")] := by decide

/-- Operations on the key `k` do not change what `Get` answers for another key. -/
theorem props_get_other (z : σ) (ps : List (List σ)) (k k' : σ) (vs : List σ) (ok : rowsOk ps = true) (hne : k' ≠ k) :
    (propsSet z ps k vs).bind (fun r => propsGet r k') = propsGet ps k' ∧
      (propsAdd z ps k vs).bind (fun r => propsGet r k') = propsGet ps k' ∧
      (propsDel ps k).bind (fun r => propsGet r k') = propsGet ps k' := by
  rw [propsSet_total z ps k vs ok, propsAdd_total z ps k vs ok, propsDel_total ps k ok]
  simp only [Option.bind_some]
  rw [propsGet_total _ k' (rowsOk_gset ps k vs ok), propsGet_total _ k' (rowsOk_gadd ps k vs ok),
    propsGet_total _ k' (rowsOk_gdel ps k ok), propsGet_total ps k' ok,
    gset, gadd, gdel, gget_gupd_other k k' (fun _ => some (k :: vs)) _ ps hne (by simp) (by simp),
    gget_gupd_other k k' (fun row => some (row ++ vs)) _ ps hne
      (fun r _ e h => by cases e; cases r with | nil => cases h | cons x t => exact h) (by simp),
    gget_gupd_other k k' (fun _ => none) _ ps hne (by simp) (by simp)]
  exact ⟨rfl, rfl, rfl⟩

example : (propsDel [["gene", "a"], ["note", "x"]] "note").bind (fun r => propsGet r "gene") = some ["a"] ∧
    "gene" ≠ "note" := by decide

end Gts.C01
