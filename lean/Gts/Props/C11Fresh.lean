/-
  C11 — `Expand` never returns a slice of its receiver: a THEOREM about the heap programs of the
  location methods (Gts/Model/MemLoc.lean), not an oracle.

  `Joined.Expand`, `Ordered.Expand`, `Complemented.Expand` are written as the heap programs the Go
  code is (`make` + element loop + `Join` / `Order`, i.e. `LocationList.Push`, `LocationList.Slice()`,
  `flattenLocations`, every `append` with its capacity policy `g`).  For EVERY heap, EVERY receiver
  (well formed or not, sharing arrays with other values or with itself), every position / amount,
  every capacity policy and every fuel `k` (nesting depth the program is allowed to descend):

    * FRESH       `expand_fresh`    — if the program has a result, every array that existed is
                                      unchanged and the result refers only to arrays allocated by
                                      the call (`RefsAbove h.length`), which in turn refer only to
                                      such arrays (`Closed`);
    * REFINEMENT  `expand_refines`  — if the receiver reads as the location value `l`, the result
                                      reads as `Loc.expand l i n` (the pure model of Gts/Model/Loc.lean);
    * TOTAL       `expand_total`    — a receiver that reads as a value has a result for all
                                      sufficiently large `k` (`none` only ever means "descend further").

  `Shift`, `Normalize` (same shape) and `Reverse` (a loop from both ends) have the same three
  theorems; `Complement` allocates nothing and SHARES the receiver's slices (`complement_shares`).
  `asComplete` itself refines `Loc.asComplete` on EVERY readable argument and changes nothing in the
  heap but partial markers (`asComplete_refines`, `asComplete_only_erases`).

  The call site of `asComplete` (`gts.Slice`, sequence.go:276-279) is the program `sliceLocMem` =
  `Expand`, `Expand`, `asComplete`; `sliceLoc_frame` / `sliceLoc_refines_feature` / `sliceLoc_total`
  replace the stand-in `allocLoc` of `C11.asComplete_fresh_frame`: nothing about `Slice` rests on
  the oracle `expand-fresh`.  Helper lemmas: Gts/Lemmas/MemLoc*.lean.
-/
import Gts.Lemmas.MemLocConv
import Gts.Lemmas.MemLocComplete
import Gts.Lemmas.MemLocReverse
namespace Gts.C11
open Gts Gts.Mem Gts.Mem.Heap

/-- **`Expand` is fresh.**  In any heap `h`, for any receiver `m` (no hypothesis: it may be ill
formed, share arrays with anything, lie anywhere), any `i`, `n`, capacity policy `g` and fuel `k`:
if the heap program `Location.Expand(i, n)` has a result `r`, then every array of `h` exists
unchanged in the heap it leaves (`h <+: r.2`), every slice header inside the returned location
points at an array allocated by the call (`RefsAbove h.length r.1`), and the arrays allocated by
the call refer only to arrays allocated by the call (`Closed h.length r.2`) — so nothing reachable
from the result is an array of the receiver, at any nesting depth. -/
theorem expand_fresh (g : Grow) (i n : Int) (k : Nat) (h : LHeap) (m : MLoc) {r : MLoc × LHeap}
    (he : expandMem g i n k h m = some r) :
    h <+: r.2 ∧ RefsAbove h.length r.1 ∧ Closed h.length r.2 :=
  (expandMem_fresh g i n k h m r he).parts

/-- **`Expand` on memory is `Loc.expand` on values.**  If the receiver `m` reads in `h` as the
location value `l` (every slice header on the way well formed), the result of the heap program
reads, in the heap the program leaves, as `Loc.expand l i n` — for every nesting depth. -/
theorem expand_refines (g : Grow) (i n : Int) (k : Nat) {h : LHeap} {m : MLoc} {l : Loc}
    (hl : Reads h l m) {r : MLoc × LHeap} (he : expandMem g i n k h m = some r) :
    Reads r.2 (l.expand i n) r.1 :=
  let ⟨_, c⟩ := expandMem_conv g i n l
  (c h m hl).sound he

/-- … and every other value that was readable before the call — the receiver itself, another
feature's location sharing its arrays — reads the same afterwards. -/
theorem expand_keeps (g : Grow) (i n : Int) (k : Nat) {h : LHeap} {m : MLoc} {r : MLoc × LHeap}
    (he : expandMem g i n k h m = some r) {l' : Loc} {m' : MLoc} (hl : Reads h l' m') :
    Reads r.2 l' m' :=
  Reads.mono (expand_fresh g i n k h m he).1 l' m' hl

/-- **`Expand` is total on readable receivers.**  If `m` reads in `h` as a location value, the heap
program has a result for some fuel `k0` and the SAME result for every `k ≥ k0`: `none` never means
anything but "allow a deeper descent", and the result does not depend on the fuel. -/
theorem expand_total (g : Grow) (i n : Int) {h : LHeap} {m : MLoc} {l : Loc} (hl : Reads h l m) :
    ∃ k0 r, ∀ k, k0 ≤ k → expandMem g i n k h m = some r :=
  let ⟨k0, c⟩ := expandMem_conv g i n l
  let ⟨r, _, hr⟩ := (c h m hl).total
  ⟨k0, r, hr⟩

/-- `join(<2..3, order(8..>9, 6), complement(join(13, 15..16)), complement(21..22))`: nested,
with two adjacent `complement(…)` that `Push` merges through a second `Join` -/
def exLoc : Loc :=
  .joined [.ranged 1 3 true false, .ordered [.ranged 7 9 false true, .point 5],
    .compl (.joined [.point 12, .ranged 14 16 false false]), .compl (.ranged 20 22 false false)]

/-- the example laid out in memory behind an unrelated array -/
def exMem : MLoc × LHeap := allocLoc exLoc [[.leaf (.point 99)]]

/-- non-vacuity: the receiver is readable (`allocLoc_reads`: EVERY location value has a readable
layout), the program has a result for fuel 4 and for two capacity policies, the result reads as
the pure `Loc.expand`, and refers to none of the arrays `0..3` of the receiver -/
example : Reads exMem.2 exLoc exMem.1 := (allocLoc_reads exLoc _).2
example : ∀ g ∈ [(fun _ _ => 0 : Grow), fun _ n => n],
    ((expandMem g 4 (-2) 4 exMem.2 exMem.1).map fun r =>
      (readLoc 8 r.2 r.1).beq (exLoc.expand 4 (-2)) && (sliceArrs r.2 8 r.1).all (4 ≤ ·) &&
      (sliceArrs r.2 8 r.1).length == 3) = some true := by decide +kernel

example : ∃ k0 r, ∀ k, k0 ≤ k → expandMem (fun _ n => n) 4 (-2) k exMem.2 exMem.1 = some r :=
  expand_total _ 4 (-2) (allocLoc_reads exLoc _).2

/-- fuel 2 is not enough for this value: no result (and nothing is claimed) -/
example : (expandMem (fun _ _ => 0) 4 (-2) 2 exMem.2 exMem.1).isNone = true := by decide +kernel

/-- `Join(locs...)` on memory: for a slice `locs` of readable locations the result reads as
`Loc.join` of their values; nothing that existed is written. -/
theorem join_refines (g : Grow) (k : Nat) {h : LHeap} {locs : Slice} (hs : WF h locs) {xs : List Loc}
    (hx : ReadsList h xs (read h locs)) {r : MLoc × LHeap} (he : joinLocs g k h locs = some r) :
    h <+: r.2 ∧ Reads r.2 (Loc.join xs) r.1 :=
  let ⟨_, c⟩ := joinLocs_conv g xs
  (c h locs hs hx).sound he

/-- `Order(locs...)` on memory: the result reads as `Loc.order` of the values; nothing that existed
is written. -/
theorem order_refines (g : Grow) (k : Nat) {h : LHeap} {locs : Slice} (hs : WF h locs) {xs : List Loc}
    (hx : ReadsList h xs (read h locs)) {r : MLoc × LHeap} (he : orderLocs g k h locs = some r) :
    h <+: r.2 ∧ Reads r.2 (Loc.order xs) r.1 :=
  let ⟨_, c⟩ := orderLocs_conv g xs
  (c h locs hs hx).sound he

/-- `Join` / `Order` of a slice that was allocated after mark `n`, in a heap whose arrays `≥ n`
refer only to arrays `≥ n`: the result is again at level `n` (a single part is returned as it is —
it is one of the arguments; otherwise the slice is new) -/
theorem join_order_fresh (g : Grow) (k : Nat) {n : Nat} {h : LHeap} {locs : Slice} (hs : n ≤ locs.arr)
    (hn : n ≤ h.length) (hc : Closed n h) :
    (∀ r, joinLocs g k h locs = some r → h <+: r.2 ∧ RefsAbove n r.1 ∧ Closed n r.2) ∧
    (∀ r, orderLocs g k h locs = some r → h <+: r.2 ∧ RefsAbove n r.1 ∧ Closed n r.2) :=
  ⟨fun _ he => (joinLocs_fresh g k hs he hn hc).parts, fun _ he => (orderLocs_fresh g k hs he hn hc).parts⟩

/-- non-vacuity: `Join` of the one-element slice `[<2..3]` returns the element itself (no new
array), `Join` of `[<2..3, 4..5]` merges into one `Ranged` value, `Order` of the example's parts
flattens the inner `order(…)` into a new five-element array -/
example :
    (joinLocs (fun _ _ => 0) 4 [[.leaf (.ranged 1 3 true false)]] ⟨0, 0, 1, 1⟩).map
      (fun r => (readLoc 8 r.2 r.1).beq (.ranged 1 3 true false) && r.2.length == 1) = some true ∧
    (joinLocs (fun _ _ => 0) 4 [[.leaf (.ranged 1 3 true false), .leaf (.ranged 3 5 false false)]]
      ⟨0, 0, 2, 2⟩).map (fun r => (readLoc 8 r.2 r.1).beq (.ranged 1 5 true false)) = some true ∧
    (orderLocs (fun _ _ => 0) 4 exMem.2 ⟨3, 0, 4, 4⟩).map
      (fun r => (sliceArrs r.2 8 r.1).head? == some 9 && (read r.2 ⟨9, 0, 5, 5⟩).length == 5) = some true := by
  decide +kernel

/-- **`Shift` and `Normalize` are fresh, refine `Loc.shift` / `Loc.normalize`, and are total** —
the same three statements as for `Expand` (they have the same shape: `make`, element loop, `Join` /
`Order`; a `Ranged` / `Ambiguous` that is split by an insertion inside it, and a `Ranged` that
wraps around the origin, come back as `Join(left, right)` / `Order(left, right)` over a new
two-element slice).  For every heap, receiver, argument, capacity policy and fuel. -/
theorem shift_normalize_fresh (g : Grow) (i n len : Int) (k : Nat) (h : LHeap) (m : MLoc) :
    (∀ r, shiftMem g i n k h m = some r → h <+: r.2 ∧ RefsAbove h.length r.1 ∧ Closed h.length r.2) ∧
    (∀ r, normalizeMem g len k h m = some r → h <+: r.2 ∧ RefsAbove h.length r.1 ∧ Closed h.length r.2) :=
  ⟨fun r he => (shiftMem_fresh g i n k h m r he).parts, fun r he => (normalizeMem_fresh g len k h m r he).parts⟩

theorem shift_normalize_refines (g : Grow) (i n len : Int) (k : Nat) {h : LHeap} {m : MLoc} {l : Loc}
    (hl : Reads h l m) :
    (∀ r, shiftMem g i n k h m = some r → Reads r.2 (l.shift i n) r.1) ∧
    (∀ r, normalizeMem g len k h m = some r → Reads r.2 (l.normalize len) r.1) :=
  let ⟨_, c1⟩ := shiftMem_conv g i n l
  let ⟨_, c2⟩ := normalizeMem_conv g len l
  ⟨fun _ he => (c1 h m hl).sound he, fun _ he => (c2 h m hl).sound he⟩

theorem shift_normalize_total (g : Grow) (i n len : Int) {h : LHeap} {m : MLoc} {l : Loc}
    (hl : Reads h l m) :
    (∃ k0 r, ∀ k, k0 ≤ k → shiftMem g i n k h m = some r) ∧
    (∃ k0 r, ∀ k, k0 ≤ k → normalizeMem g len k h m = some r) :=
  let ⟨k1, c1⟩ := shiftMem_conv g i n l
  let ⟨k2, c2⟩ := normalizeMem_conv g len l
  let ⟨r1, _, e1⟩ := (c1 h m hl).total
  let ⟨r2, _, e2⟩ := (c2 h m hl).total
  ⟨⟨k1, r1, e1⟩, ⟨k2, r2, e2⟩⟩

/-- non-vacuity: `5..12` shifted by an insertion of 3 at 8 is split into a NEW two-part join;
`join(3..9, 15..22)` normalized to length 20 wraps its second part: a new three-part array -/
example :
    ((shiftMem (fun _ _ => 0) 8 3 3 [] (.leaf (.ranged 4 12 true false))).map fun r =>
      (readLoc 8 r.2 r.1).beq (.joined [.ranged 4 8 true false, .ranged 11 15 false false]) &&
      sliceArrs r.2 8 r.1 == [2]) = some true ∧
    ((normalizeMem (fun _ _ => 0) 20 3 [[.leaf (.ranged 2 9 false false), .leaf (.ranged 14 22 false false)]]
        (.joined ⟨0, 0, 2, 2⟩)).map fun r =>
      (readLoc 8 r.2 r.1).beq (Loc.normalize (.joined [.ranged 2 9 false false, .ranged 14 22 false false]) 20) &&
      (sliceArrs r.2 8 r.1).all (1 ≤ ·)) = some true := by
  decide +kernel

/-- **`Reverse` is fresh, refines `Loc.reverse`, and is total.**  Its element loop runs from both
ends (`ll[l], ll[r] = v[r].Reverse(n), v[l].Reverse(n)`: two calls, then two stores; the middle
element of an odd length is reversed twice and the second store wins) into a `make`d slice, then
`Join` / `Order`: for every heap, receiver, length, capacity policy and fuel the result lies in
arrays allocated by the call and nothing that existed is written (the seeded change "`Ordered.Reverse`
reverses the receiver's parts in place" is what this excludes); on a readable receiver the result
reads as `Loc.reverse l len`; a readable receiver has a result, the same for all large fuels. -/
theorem locReverse_fresh (g : Grow) (len : Int) (k : Nat) (h : LHeap) (m : MLoc) {r : MLoc × LHeap}
    (he : reverseMem g len k h m = some r) :
    h <+: r.2 ∧ RefsAbove h.length r.1 ∧ Closed h.length r.2 :=
  (reverseMem_fresh g len k h m r he).parts

theorem locReverse_refines (g : Grow) (len : Int) (k : Nat) {h : LHeap} {m : MLoc} {l : Loc}
    (hl : Reads h l m) {r : MLoc × LHeap} (he : reverseMem g len k h m = some r) :
    Reads r.2 (l.reverse len) r.1 :=
  let ⟨_, c⟩ := reverseMem_conv g len l
  (c h m hl).sound he

theorem locReverse_total (g : Grow) (len : Int) {h : LHeap} {m : MLoc} {l : Loc} (hl : Reads h l m) :
    ∃ k0 r, ∀ k, k0 ≤ k → reverseMem g len k h m = some r :=
  let ⟨k0, c⟩ := reverseMem_conv g len l
  let ⟨r, _, hr⟩ := (c h m hl).total
  ⟨k0, r, hr⟩

/-- non-vacuity: the example reversed on a sequence of length 24 (an even and an odd number of
parts at the two levels): a result with fuel 4, equal to the pure `Loc.reverse`, in new arrays -/
example :
    ((reverseMem (fun _ n => n) 24 4 exMem.2 exMem.1).map fun r =>
      (readLoc 8 r.2 r.1).beq (exLoc.reverse 24) && (sliceArrs r.2 8 r.1).all (4 ≤ ·) &&
      (readLoc 8 r.2 exMem.1).beq exLoc) = some true := by decide +kernel

/-- **`Complement` allocates nothing and SHARES**: the result reads as `Loc.complement`, in the
same heap; wrapping a `Joined` / `Ordered` keeps the receiver's own slice header inside the result
(`Complemented{joined}`), unwrapping returns the inner location itself.  So `Complement` is pure
(it writes nothing) but its result is NOT fresh — which is harmless only because the one writer,
`asComplete`, runs on the result of `Expand`. -/
theorem complement_shares {h : LHeap} {l : Loc} {m : MLoc} (hl : Reads h l m) :
    Reads h l.complement (complementMem m) ∧
    (∀ s, complementMem (.joined s) = .compl (.joined s)) ∧
    (∀ s, complementMem (.ordered s) = .compl (.ordered s)) ∧
    (∀ m', complementMem (.compl m') = m') :=
  ⟨complementMem_refines hl, fun _ => rfl, fun _ => rfl, fun _ => rfl⟩

/-- … not fresh: the complement of the example refers to array 3 of the receiver -/
example : Reads exMem.2 exLoc.complement (complementMem exMem.1) ∧
    ¬ RefsAbove exMem.2.length (complementMem exMem.1) :=
  ⟨(complement_shares (allocLoc_reads exLoc _).2).1, by show ¬ ((4 : Nat) ≤ 3); decide⟩

/-- **`asComplete` on memory is `Loc.asComplete` on values** — for EVERY readable argument, fresh or
not, whatever it shares with other values or with itself (two windows over one array, a part that
occurs twice): with fuel at least the nesting depth, the value returned reads as `l.asComplete` in
the heap `asCompleteMem` leaves, and that heap is the old one with some cells COMPLETED
(`Erased`: same arrays, same lengths, every cell as it was or with its partial markers erased). -/
theorem asComplete_refines {k : Nat} {h : LHeap} {m : MLoc} {l : Loc} (hk : mdepth l ≤ k)
    (hl : Reads h l m) :
    Reads (asCompleteMem k h m).2 l.asComplete (asCompleteMem k h m).1 ∧
    Erased h (asCompleteMem k h m).2 :=
  have sp := asCompleteMem_spec k l h m hk hl
  ⟨sp.2.1, sp.1⟩

/-- … so what its impurity can do to ANY other value that was readable — the feature's own
location, had it been passed — is to erase partial markers: the value still reads, as `l'` with
some of its contiguous parts completed (`Er`), in particular with the same completion. -/
theorem asComplete_only_erases {k : Nat} {h : LHeap} {m : MLoc} {l : Loc} (hk : mdepth l ≤ k)
    (hl : Reads h l m) {l' : Loc} {m' : MLoc} (hl' : Reads h l' m') :
    ∃ l'', Reads (asCompleteMem k h m).2 l'' m' ∧ Er l' l'' ∧ l''.asComplete = l'.asComplete := by
  obtain ⟨l'', h1, h2⟩ := Reads.erased (asCompleteMem_spec k l h m hk hl).1 l' m' m' hl' (CellE.refl _)
  exact ⟨l'', h1, h2, Er.asComplete_eq _ _ h2⟩

/-- non-vacuity: the argument of `C11.asComplete_impure` (`join(<2..3, order(8..>9, 6))`, depth 3) is
readable, and a value with a part that occurs TWICE (one slice, two cells) is handled as well -/
example : mdepth (.joined [.ranged 1 3 true false, .ordered [.ranged 7 9 false true, .point 5]]) ≤ 3 ∧
    Reads [[.leaf (.ranged 7 9 false true)], [.ordered ⟨0, 0, 1, 1⟩, .ordered ⟨0, 0, 1, 1⟩]]
      (.joined [.ordered [.ranged 7 9 false true], .ordered [.ranged 7 9 false true]]) (.joined ⟨1, 0, 2, 2⟩) := by
  refine ⟨by decide, ?_⟩
  simp [Reads, ReadsList, WF, Heap.read, Heap.get]

/-- **FRAME at the only call site of `asComplete`** (`gts.Slice`, sequence.go:276-279), with the
real `Expand` programs in place of the stand-in `allocLoc`: for every heap `h`, every feature
location `m` in it (no hypothesis), every window, `source` or not, every capacity policy and fuel —
if the program `f.Loc.Expand(end, end-L).Expand(0, -start)` (+ `asComplete` for a `source`) has a
result, every array that existed before is unchanged: the feature's own location, the locations of
other features sharing its slices, anything else.  `asComplete` writes, but only into arrays the
two `Expand` calls allocated. -/
theorem sliceLoc_frame (g : Grow) (k : Nat) (L start end_ : Int) (source : Bool) (h : LHeap) (m : MLoc)
    {r : MLoc × LHeap} (he : sliceLocMem g k L start end_ source h m = some r) :
    h <+: r.2 ∧ RefsAbove h.length r.1 := by
  unfold sliceLocMem at he
  obtain ⟨r1, h1, h2⟩ := Option.bind_eq_some_iff.1 he
  obtain ⟨r2, h3, h4⟩ := Option.bind_eq_some_iff.1 h2
  have p1 := expandMem_fresh g _ _ k h m r1 h1
  have p2 := expandMem_fresh g _ _ k r1.2 r1.1 r2 h3
  simp only [Option.some.injEq] at h4
  subst h4
  cases source with
  | false => exact ⟨p1.pre.trans p2.pre, RefsAbove.mono p1.pre.length_le p2.refs⟩
  | true =>
    have a := asCompleteMem_closed (h0 := r1.2) k r2.2 r2.1 p2.pre p2.closed p2.refs
    exact ⟨p1.pre.trans a.1, RefsAbove.mono p1.pre.length_le a.2.2⟩

/-- every value readable before the call site ran — in particular the feature's own location, which
`asComplete` would have rewritten had `Expand` returned a slice of its receiver — reads the same
afterwards -/
theorem sliceLoc_keeps (g : Grow) (k : Nat) (L start end_ : Int) (source : Bool) {h : LHeap} {m : MLoc}
    {r : MLoc × LHeap} (he : sliceLocMem g k L start end_ source h m = some r) {l' : Loc} {m' : MLoc}
    (hl : Reads h l' m') : Reads r.2 l' m' :=
  Reads.mono (sliceLoc_frame g k L start end_ source h m he).1 l' m' hl

/-- REFINEMENT at the call site, feature other than `source`: the new location reads as
`(l.expand end (end-L)).expand 0 (-start)`, the location `Mem.sliceLoc` / `Seq.sliceFwd` give the
feature. -/
theorem sliceLoc_refines (g : Grow) (k : Nat) (L start end_ : Int) {h : LHeap} {m : MLoc} {l : Loc}
    (hl : Reads h l m) {r : MLoc × LHeap} (he : sliceLocMem g k L start end_ false h m = some r) :
    Reads r.2 ((l.expand end_ (end_ - L)).expand 0 (-start)) r.1 := by
  unfold sliceLocMem at he
  obtain ⟨r1, h1, h2⟩ := Option.bind_eq_some_iff.1 he
  obtain ⟨r2, h3, h4⟩ := Option.bind_eq_some_iff.1 h2
  simp only [Bool.false_eq_true, if_false, Option.some.injEq] at h4
  subst h4
  exact expand_refines g _ _ k (expand_refines g _ _ k hl h1) h3

/-- the call site has a result for every readable feature location at every sufficiently large
fuel -/
theorem sliceLoc_total (g : Grow) (L start end_ : Int) (source : Bool) {h : LHeap} {m : MLoc} {l : Loc}
    (hl : Reads h l m) : ∃ k0, ∀ k, k0 ≤ k → ∃ r, sliceLocMem g k L start end_ source h m = some r := by
  obtain ⟨k1, r1, e1⟩ := expand_total g end_ (end_ - L) hl
  obtain ⟨k2, r2, e2⟩ := expand_total g 0 (-start) (expand_refines g _ _ k1 hl (e1 k1 (Nat.le_refl _)))
  refine ⟨max k1 k2, fun k hk => ?_⟩
  unfold sliceLocMem
  rw [e1 k (by omega)]
  simp only [Option.bind_some]
  rw [e2 k (by omega)]
  exact ⟨_, rfl⟩

/-- **REFINEMENT at the call site for every feature**, `source` or not: the location the program
leaves reads as the location `Mem.sliceLoc` — the table-level model that `slice_refines` /
`Seq.sliceFwd` use — gives the feature.  (For a `source` the fuel has to cover the depth of the
expanded location, because `asCompleteMem` stops silently when it runs out; `sliceLoc_total` says a
sufficient fuel exists.) -/
theorem sliceLoc_refines_feature (g : Grow) (k : Nat) (L start end_ : Int) (f : Feature) {h : LHeap}
    {m : MLoc} (hl : Reads h f.loc m) {r : MLoc × LHeap}
    (he : sliceLocMem g k L start end_ (decide (f.key = "source")) h m = some r)
    (hk : mdepth ((f.loc.expand end_ (end_ - L)).expand 0 (-start)) ≤ k) :
    Reads r.2 (Mem.sliceLoc L start end_ f).loc r.1 := by
  unfold sliceLocMem at he
  obtain ⟨r1, h1, h2⟩ := Option.bind_eq_some_iff.1 he
  obtain ⟨r2, h3, h4⟩ := Option.bind_eq_some_iff.1 h2
  have hr2 := expand_refines g _ _ k (expand_refines g _ _ k hl h1) h3
  simp only [Option.some.injEq] at h4
  subst h4
  by_cases hs : f.key = "source"
  · simp only [hs, decide_true, if_true, Mem.sliceLoc]
    exact (asComplete_refines hk hr2).1
  · simp only [hs, decide_false, Mem.sliceLoc, if_false, Bool.false_eq_true]
    exact hr2

/-- non-vacuity: the `source`-style location `join(<2..3, order(8..>9, 6), …)` of `exMem`, window
`[2, 18)` of a sequence of length 24: fuel 6 covers the depth of the expanded location, the program
has a result, the result is complete at every depth and is what `Mem.sliceLoc` computes, and the
feature's own location still reads `exLoc` -/
example :
    mdepth ((exLoc.expand 18 (18 - 24)).expand 0 (-2)) ≤ 6 ∧
    ((sliceLocMem (fun _ _ => 0) 6 24 2 18 true exMem.2 exMem.1).map fun r =>
      (readLoc 8 r.2 r.1).beq (Mem.sliceLoc 24 2 18 ⟨"source", exLoc, []⟩).loc &&
      (readLoc 8 r.2 exMem.1).beq exLoc) = some true := by decide +kernel

end Gts.C11
