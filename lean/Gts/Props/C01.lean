/-
  C01 — GenBank records written by gts read back identically (closure + fidelity).
  Property theorems only (models: Gts/Model/GenBank.lean, InsdcParse.lean, GenBankParse.lean;
  helper lemmas: Gts/Lemmas/Gb*.lean, ParsRun.lean).

  Every theorem is a statement about the executable models of the WRITER (`GenBank.String`,
  `INSDCFormatter`, `QualifierIO.String`) and of the READER (`GenBankParser` and its sub-parsers on
  the `Gts.Pars` state model), which the check ties to /repo by the correspondence ops `gb.*`.
  Shape of a statement: the sub-parser, run on the text the writer produces for a value of the
  stated decidable domain, followed by ANY text that does not look like a continuation, returns
  the value, leaves exactly that following text and the backtracking stack as it found it.

  The location column of the feature table is taken from C06: `LocRT l` (the printed location is
  read back by `ParseLocation` in front of a line feed) holds for every canonical location
  (`Loc.canonP`, C06 `parse_print_fuel`): `locations_from_C06`.  The `_canon` theorems use that and
  have only decidable hypotheses.

  Known findings (each: the refuted full statement at a witness, and the `_partial` theorem whose
  guard excludes exactly the finding's shape):
    K1A  the ` REGION: a..b` suffix is read back into Accession        (accession_*)
    K1E  a double quote inside a quoted value ends the value           (quote_*)
  Repaired in /repo and therefore plain positive theorems now: the organism name (F27, repo 69bb3bf:
  written unwrapped), the SOURCE text (F28, repo 3d74d27: written as it is), toggle qualifiers (F29,
  repo 2dd2956: the value reads back empty) — `source_roundtrip`, `toggle_roundtrip`.

  Beyond read ∘ write (sections at the end of the file):
    byte fixed point     write reg' (readBack reg r p) = write reg r, per field group and composed
                         (`write_read_write_partial`, guard `namesAdjacent`; full statement refuted at a
                         hand-built `Props` with a repeated, NON-adjacent row name: order only, since
                         repo 7b61a9a no value is lost — `write_keeps_every_value`), second generation without guard
                         (`reread_fixed_point`, `read_back_idempotent`)
    learning             reading under a registry that has learned names, streams in which records
                         teach the registry names (`read_stream_learning`), learning never changes what
                         is written (`write_learned_same`, `write_pipeline_same`)
    closure              `Writable` under reverse / complement / rotate / delete / erase / insert /
                         embed / concat (`writable_*`), `WritableRecord` under complement; `WritableRecord`
                         (canonical locations included) under the other edits: `Gts/Props/C01Canon.lean`
    CRLF input           the CRLF translation of the written text (every line feed replaced by CR LF) read
                         by `GenBankParser`: exactly `readBackC` (`read_write_crlf_exact`) — the record of the
                         LF reading except that a value written between quotes comes back with CR LF where it
                         had a line feed (finding F36: `read_write_crlf_full_refuted`, witness replayed on the
                         real code); the same record, registry and rest as the LF reading under the guard
                         `quotedOneLine` (`read_write_crlf_partial`); streams (`read_stream_crlf_*`)
-/
import Gts.Lemmas.GbReadWrite
import Gts.Lemmas.GbFixed
import Gts.Lemmas.GbLearn
import Gts.Lemmas.GbSecond
import Gts.Lemmas.GbEdit
import Gts.Lemmas.GbLocRT
import Gts.Lemmas.GbProps
import Gts.Lemmas.GbCrlfReadWrite
import Gts.Bridge.GenBankWrite
import Gts.Lemmas.GbRegistryOn
import Gts.Lemmas.BsLit
namespace Gts.C01
open Gts Gts.Pars Gts.GenBank

/-- **Qualifier round trip (quoted / literal / toggle / unknown, continuation lines at the indent).**
`QualifierParser(prefix)` on the text of `QualifierIO.Format(prefix)`: the same name and the same
value; the registry only grows: an unknown name is learned as quoted.
Domain `WritableQualifier`: a snake-case name; quoted/unknown: the value survives the quote scan of
`pars.Quoted` and no line feed in it is followed by the whole indent; literal: no carriage return, no
continuation line starting with `/`; toggle: the empty value (a toggle has none: the writer writes
`/name`). -/
theorem qualifier_roundtrip (reg : Registry) (d : Nat) (name value rest : Bytes) (stk : List Bytes)
    (hw : WritableQualifier reg d name value = true) (hstop : litStop d rest) :
    qualifier (sp d) reg ⟨qualifierFmt reg (sp d) name value ++ 10 :: rest, stk⟩ =
      (.ok ((name, value), learn reg name), ⟨rest, stk⟩) ∧
    reg.le (learn reg name) := by
  refine ⟨?_, learn_le reg name⟩
  have := GenBank.qualifier_roundtrip reg d name value rest stk hw hstop
  rwa [readValue_eq reg d name value hw] at this

/-- non-vacuity: a three-line quoted value (with a line starting with a slash and one starting with
20 blanks), a literal value with a continuation line, a toggle, and an unknown name are in the
domain under the initial registry -/
example :
    WritableQualifier Registry.default 21 (bs "note") (bs "first\n/second\n                    third \\\" x") = true ∧
    WritableQualifier Registry.default 21 (bs "transl_except") (bs "(pos:1..3,\n aa:Met)") = true ∧
    WritableQualifier Registry.default 21 (bs "pseudo") [] = true ∧
    WritableQualifier Registry.default 21 (bs "my_tag") (bs "v") = true ∧
    Registry.default.typeOf (bs "my_tag") = .unknown := by
  have v : ∀ n ∈ vecNames, _ := default_vecReg
  rw [WritableQualifier_on (v _ (by decide +kernel)), WritableQualifier_on (v _ (by decide +kernel)),
    WritableQualifier_on (v _ (by decide +kernel)), WritableQualifier_on (v _ (by decide +kernel)), v _ (by decide +kernel)]
  repeat rw [bs_ofList]
  decide +kernel

/-- **Toggle qualifiers** (formerly known finding K1D, repaired by repo 2dd2956): a toggle is
written as `/name` and reads back with the empty value — under every registry that lists the name
as a toggle, whatever follows. -/
theorem toggle_roundtrip (reg : Registry) (d : Nat) (name rest : Bytes) (stk : List Bytes)
    (hn : nameOk name = true) (ht : reg.typeOf name = .toggle) (hstop : litStop d rest) :
    qualifier (sp d) reg ⟨qualifierFmt reg (sp d) name [] ++ 10 :: rest, stk⟩ =
      (.ok ((name, []), reg), ⟨rest, stk⟩) := by
  have hw : WritableQualifier reg d name [] = true := by simp [WritableQualifier, hn, ht]
  have := (qualifier_roundtrip reg d name [] rest stk hw hstop).1
  simpa [learn, ht] using this

/-- … and what the writer cannot represent: a value given to a toggle through the API is not
written, so it comes back empty (this is the domain clause `value = []` of `WritableQualifier`,
not a defect of the reader). -/
theorem toggle_value_not_written (reg : Registry) (name value : Bytes) (ht : reg.typeOf name = .toggle) :
    qualifierText reg name value = qualifierText reg name [] := by
  simp [qualifierText, ht]

/-- K1E, FULL STATEMENT (false): "every value of a quoted qualifier reads back".  Witness: `/note`
with the value `a"b` reads back as `a` (and what follows is no longer read as this feature's). -/
theorem quote_full_refuted :
    ((qualifier (sp 21) Registry.default).run'
        ⟨qualifierFmt Registry.default (sp 21) (bs "note") (bs "a\"b") ++ [10], []⟩).1 =
      .ok ((bs "note", bs "a"), Registry.default) ∧
    quotedOk 21 (bs "a\"b") = false := by
  have v : Registry.default.typeOf (bs "note") = vecReg.typeOf (bs "note") := default_vecReg _ (by decide +kernel)
  refine ⟨?_, by decide +kernel⟩
  rw [qualifierFmt_on v]
  show (qualifier (sp 21) Registry.default ⟨_, []⟩).1 = _
  rw [qualifier_known_on (sp 21) _ (bs "note") (by decide +kernel) v (by decide +kernel),
    show (qualifier (sp 21) vecReg _).1 = .ok ((bs "note", bs "a"), vecReg) by decide +kernel]
  rfl

/-- **Qualifier lines of a feature** (`pars.Many(QualifierParser)`): all items in order, the registry
threaded from item to item: names learned on the way do not change how the rest of the text —
written under the initial registry — is read. -/
theorem qualifier_lines_roundtrip (reg : Registry) (d : Nat) (items : List (Bytes × Bytes)) (rest : Bytes)
    (stk : List Bytes) (hw : ∀ kv ∈ items, WritableQualifier reg d kv.1 kv.2 = true)
    (hrest : (sp d).isPrefixOf rest = false) :
    qualifiers (sp d) (items.length + 1) reg [] ⟨qualLines reg d items ++ rest, stk⟩ =
      (.ok (items, learnAll reg items), ⟨rest, stk⟩) ∧
    reg.le (learnAll reg items) := by
  refine ⟨?_, learnAll_le reg items⟩
  have := qualifiers_roundtripE .lf reg d items rest stk reg [] (items.length + 1) (sameText_refl reg) hw hrest (by omega)
  simp only [← tr_qualLines, tr_lf, trValue_lf] at this
  have hid : items.map (fun kv => (kv.1, readValue reg kv.1 kv.2)) = items :=
    map_readValue_eq reg items fun kv hkv => readValue_eq reg d kv.1 kv.2 (hw kv hkv)
  rw [hid] at this
  simpa using this

/-- **FEATURES round trip.**  The section `GenBank.String` writes for a non-empty table (header
line, key lines with the 5+16 column layout, qualifier lines at column 21, final line feed), read by
`genbankFeatureParser`: THE SAME TABLE — keys, locations, qualifier names, values and their order —
and the registry only grows.  Domain `tableFaithful`: keys are snake-case words of 1..15 bytes,
every `Props` is what `Props.Add` builds (rows `name :: value :: …` with pairwise distinct names),
every written item is a `WritableQualifier`; locations satisfy `LocRT` (C06).  The text behind the
table must not start with five blanks. -/
theorem features_roundtrip (reg : Registry) (ft : QFeature) (fs : List QFeature) (rest : Bytes)
    (stk : List Bytes) (hw : tableFaithful reg (ft :: fs) = true) (hloc : ∀ x ∈ ft :: fs, LocRT x.loc)
    (hrest : (sp 5).isPrefixOf rest = false) :
    (∃ t, tableText reg (ft :: fs) = .ok t ∧
      featuresField reg ⟨bs "FEATURES             Location/Qualifiers\n" ++ (t ++ 10 :: rest), stk⟩ =
        (.ok (ft :: fs, learnTable reg (ft :: fs)), ⟨rest, []⟩)) ∧
    reg.le (learnTable reg (ft :: fs)) := by
  refine ⟨?_, learnTable_le reg _⟩
  have hw' := hw
  simp only [tableFaithful, Bool.and_eq_true] at hw'
  have := GenBank.features_roundtrip reg ft fs rest stk hw'.1 hloc hrest
  rwa [readTable_eq reg (ft :: fs) hw] at this

/-- non-vacuity of the Boolean part of the table domain -/
example : tableFaithful Registry.default
    [⟨bs "source", .ranged 0 10 false false, [[bs "organism", bs "Homo sapiens"], [bs "focus", bs ""]]⟩,
     ⟨bs "x23456789012345", .point 3, [[bs "zzz", bs "learned"], [bs "codon_start", bs "1"]]⟩] = true := by
  rw [tableFaithful_on (default_vecReg.sub (by decide +kernel))]
  decide +kernel

/-- **Date round trip**: `AsDate` of `strings.ToUpper(Format("02-Jan-2006"))` is the date, for every
valid calendar date of the years 0..9999 (by arithmetic on the digits, not by enumeration). -/
theorem date_roundtrip (d : Date) (h : d.valid = true) : asDate d.text = some d :=
  GenBank.date_roundtrip d h

example : (⟨2000, 2, 29⟩ : Date).valid = true ∧ (⟨1900, 2, 29⟩ : Date).valid = false ∧
    (⟨0, 1, 1⟩ : Date).valid = true ∧ (⟨9999, 12, 31⟩ : Date).valid = true := by decide

/-- **LOCUS line round trip**: `genbankLocusParser` on the written line: field depth 12, name,
length, molecule, topology word, division, date.  Domain `locusOk`: name and molecule are non-empty
words without white space, topology 0/1, division empty or three upper-case letters, a valid date,
`0 ≤ length ≤ 2^63-1`. -/
theorem locus_roundtrip (f : Fields) (length : Int) (rest : Bytes) (stk : List Bytes)
    (h : locusOk f length = true) :
    locusParser ⟨locusLine f length ++ 10 :: rest, stk⟩ =
      (.ok ⟨12, f.locusName, length, f.molecule, topologyText f.topology, f.division, f.date⟩, ⟨rest, stk⟩) :=
  GenBank.locus_roundtrip f length rest stk h

def locusWitness : Fields :=
  { Fields.empty with locusName := bs "NC_000913", molecule := bs "ss-DNA", topology := 1, division := bs "CON", date := ⟨2018, 10, 11⟩ }

example : locusOk locusWitness 4641652 = true ∧
    locusOk { Fields.empty with locusName := bs "X", molecule := bs "AA", date := ⟨1, 1, 1⟩ } 0 = true := by
  decide +kernel

/-- **DEFINITION**: every text without carriage return (continuation lines may start with any
number of blanks; the final period is the writer's). -/
theorem definition_roundtrip (f : Fields) (v rest : Bytes) (stk : List Bytes) (hv : noCR v = true)
    (hrest : (sp 12).isPrefixOf rest = false) :
    definitionField 12 f ⟨bs "DEFINITION  " ++ (addPrefix indent v ++ (bs ".\n" ++ rest)), stk⟩ =
      (.ok ({ f with definition := v }, true), ⟨rest, stk⟩) :=
  GenBank.definition_roundtripE .lf f v rest stk hv hrest

/-- **ACCESSION**: the LINE comes back (one line, no CR/LF). -/
theorem accession_line_roundtrip (f : Fields) (l rest : Bytes) (stk : List Bytes) (hl : noEOL l = true)
    (hrest : (sp 12).isPrefixOf rest = false) :
    accessionField 12 f ⟨bs "ACCESSION   " ++ (l ++ 10 :: rest), stk⟩ =
      (.ok ({ f with accession := l }, true), ⟨rest, stk⟩) :=
  GenBank.accession_roundtripE .lf f l rest stk hl hrest

/-- K1A, FULL STATEMENT (false): "the accession reads back".  For EVERY record with a proper region
(`h < t`: otherwise no suffix is written, repo 0f056fc) the re-read accession is longer than the
written one. -/
theorem accession_region_full_refuted (f g : Fields) (rest : Bytes) (stk : List Bytes) (h t : Int)
    (hr : f.region = some (h, t)) (hht : h < t) (hl : noEOL (accessionLine f) = true)
    (hrest : (sp 12).isPrefixOf rest = false) :
    ∃ g', accessionField 12 g ⟨bs "ACCESSION   " ++ (accessionLine f ++ 10 :: rest), stk⟩ =
        (.ok (g', true), ⟨rest, stk⟩) ∧ g'.accession ≠ f.accession := by
  refine ⟨_, GenBank.accession_roundtripE .lf g _ rest stk hl hrest, ?_⟩
  have hnot : ¬ t ≤ h := by omega
  simp only [accessionLine, hr, hnot, if_false]
  intro e
  have := congrArg List.length e
  simp [bs] at this

/-- K1A, proved part: without a region (`noRegion`) the accession reads back. -/
theorem accession_partial (f g : Fields) (rest : Bytes) (stk : List Bytes) (noRegion : f.region = none)
    (hl : noEOL f.accession = true) (hrest : (sp 12).isPrefixOf rest = false) :
    accessionField 12 g ⟨bs "ACCESSION   " ++ (accessionLine f ++ 10 :: rest), stk⟩ =
      (.ok ({ g with accession := f.accession }, true), ⟨rest, stk⟩) := by
  have e : accessionLine f = f.accession := by simp [accessionLine, noRegion]
  rw [e]
  exact GenBank.accession_roundtripE .lf g _ rest stk hl hrest

/-- **VERSION** (one line). -/
theorem version_roundtrip (f : Fields) (l rest : Bytes) (stk : List Bytes) (hl : noEOL l = true)
    (hrest : (sp 12).isPrefixOf rest = false) :
    versionField 12 f ⟨bs "VERSION     " ++ (l ++ 10 :: rest), stk⟩ =
      (.ok ({ f with version := l }, true), ⟨rest, stk⟩) :=
  GenBank.version_roundtripE .lf f l rest stk hl hrest

/-- **DBLINK**: pairs on one line each, no colon in the key, non-empty value; they are `Set` into
the dictionary in order — for pairwise distinct keys that is the list itself. -/
theorem dblink_roundtrip (f : Fields) (p : Bytes × Bytes) (ps : List (Bytes × Bytes)) (rest : Bytes)
    (stk : List Bytes) (hps : ∀ q ∈ p :: ps, pairOk q = true) (hd : distinctKeys (p :: ps) = true)
    (hf : f.dblink = []) (hrest : (sp 12).isPrefixOf rest = false) :
    dblinkField 12 f ⟨dblinkText (p :: ps) true ++ rest, stk⟩ =
      (.ok ({ f with dblink := p :: ps }, true), ⟨rest, stk⟩) := by
  rw [dblinkText_eq]
  refine (GenBank.dblink_okE .lf f p ps rest stk hps hrest).trans ?_
  rw [hf, dictSetAll_distinct [] (p :: ps) hd (by simp)]
  simp

/-- **KEYWORDS** with `wrap.Space(…, 67)`: domain `listOk` — the joined list has no carriage
return, survives wrapping + re-joining with blanks, and `FlatFileSplit` gives the list back
(decidable; the list `[""]` is outside: it is written `.`, which `FlatFileSplit` reads as the empty
list). -/
theorem keywords_roundtrip (f : Fields) (kws : List Bytes) (rest : Bytes) (stk : List Bytes)
    (h : listOk kws = true) (hrest : (sp 12).isPrefixOf rest = false) :
    keywordsField 12 f
        ⟨bs "KEYWORDS    " ++ (addPrefix indent (wrapSpace (joinWith (bs "; ") kws ++ [46])) ++ 10 :: rest), stk⟩ =
      (.ok ({ f with keywords := kws }, true), ⟨rest, stk⟩) :=
  GenBank.keywords_roundtripE .lf f kws rest stk h hrest

/-- non-vacuity, including a list that is wrapped onto three lines and one with an empty list -/
example : listOk [bs "RefSeq", bs "complete genome"] = true ∧ listOk [] = true ∧
    listOk [bs "aaaaaaaaa bbbbbbbbb ccccccccc ddddddddd eeeeeeeee fffffffff ggggggggg hhhhhhhhh",
      bs "iiiiiiiii jjjjjjjjj kkkkkkkkk lllllllll mmmmmmmmm nnnnnnnnn ooooooooo ppppppppp qqqqqqqqq"] = true := by
  repeat rw [bs_ofList]
  decide +kernel

/-- **SOURCE / ORGANISM / taxonomy.**  The species text (any text without carriage return, of any
length, with or without line feeds — written as it is since repo 3d74d27, formerly known finding
K1C), the organism name (domain `organismOk`: one line that does not start with a blank; written
unwrapped since repo 69bb3bf, formerly known finding K1B) and the taxonomy list (domain `taxonOk`)
come back. -/
theorem source_roundtrip (f : Fields) (species name : Bytes) (taxon : List Bytes) (rest : Bytes)
    (stk : List Bytes) (hs : noCR species = true) (hn : organismOk name = true)
    (ht : taxonOk taxon = true) (hrest : (sp 12).isPrefixOf rest = false) :
    sourceField 12 f
        ⟨bs "SOURCE      " ++ (addPrefix indent species ++ 10 ::
          (bs "  ORGANISM  " ++ (addPrefix indent name ++ 10 ::
          (indent ++ (addPrefix indent (wrapSpace (joinWith (bs "; ") taxon ++ [46])) ++ 10 :: rest))))), stk⟩ =
      (.ok ({ f with species := species, organism := name, taxon := taxon }, true), ⟨rest, stk⟩) := by
  rw [addPrefix_noLF _ name (by simp only [organismOk, Bool.and_eq_true] at hn; exact hn.1)]
  exact GenBank.source_roundtripE .lf f species name taxon rest stk hs hn ht hrest

/-- the witness of the former findings K1B / K1C: a text that `wrap.Space(…, 67)` would break -/
def wrapWitness : Bytes := List.replicate 40 97 ++ [32] ++ List.replicate 40 98

/-- non-vacuity: the texts on which K1B and K1C failed are in the domain now, and so is a species
text with line feeds -/
example : wrapSpace wrapWitness ≠ wrapWitness ∧ organismOk wrapWitness = true ∧ noCR wrapWitness = true ∧
    noCR (bs "Escherichia coli\n  str. K-12") = true := by
  decide +kernel

/-- **REFERENCE**: head line (number, padding, info) and the sub-fields AUTHORS, CONSRTM, TITLE,
JOURNAL, PUBMED, REMARK that are present.  Domain `referenceOk`: `0 ≤ number`, info on one line and
not starting with a digit when the number has three or more digits (761240c: no padding then),
sub-field values without carriage return that do not start with a blank, PUBMED on one line.  What
follows must start neither with a blank nor with a sub-field name (`refStop`). -/
theorem reference_roundtrip (f : Fields) (r : Reference) (more : Bytes) (stk : List Bytes)
    (h : referenceOk r = true) (hstop : refStop more = true) :
    (∃ t, referenceText r = .ok t ∧ t = refHead r ++ 10 :: subLinesText (presentLines r)) ∧
    referenceField 12 f ⟨refHead r ++ 10 :: (subLinesText (presentLines r) ++ more), stk⟩ =
      (.ok ({ f with references := f.references ++ [r] }, true), ⟨more, stk⟩) := by
  refine ⟨⟨_, referenceText_eq r ?_, rfl⟩, GenBank.reference_roundtripE .lf f r more stk h hstop⟩
  intro v hv
  simp only [referenceOk, Bool.and_eq_true] at h
  have := h.1.2
  rw [hv] at this; exact this

example : referenceOk ⟨1, bs "(bases 1 to 5386)", bs "Sanger,F.\nand others", [], bs "Nucleotide sequence", bs "J. Mol. Biol.",
    some (bs "731693"), []⟩ = true ∧ referenceOk ⟨1000, [], [], [], [], [], none, []⟩ = true := by
  decide +kernel

/-- **COMMENT**: every text without carriage return; comments accumulate in order. -/
theorem comment_roundtrip (f : Fields) (v rest : Bytes) (stk : List Bytes) (hv : noCR v = true)
    (hrest : (sp 12).isPrefixOf rest = false) :
    commentField 12 f ⟨bs "COMMENT     " ++ (addPrefix indent v ++ 10 :: rest), stk⟩ =
      (.ok ({ f with comments := f.comments ++ [v] }, true), ⟨rest, stk⟩) :=
  GenBank.comment_roundtripE .lf f v rest stk hv hrest

/-- **extra field** (default formatter): domain `WritableExtra`. -/
theorem extra_roundtrip (f : Fields) (name value rest : Bytes) (stk : List Bytes)
    (hw : WritableExtra name value = true) (hrest : (sp 12).isPrefixOf rest = false) :
    extraField 12 f ⟨extraText name value ++ 10 :: rest, stk⟩ =
      (.ok ({ f with extra := f.extra ++ [(name, value)] }, true), ⟨rest, stk⟩) := by
  have := GenBank.extra_roundtripE .lf f name value rest stk hw hrest
  rwa [tr_lf, ← List.append_assoc] at this

/-- **CONTIG**: domain `contigOk`. -/
theorem contig_roundtrip (f g : Fields) (rest : Bytes) (stk : List Bytes) (h : contigOk g = true) :
    contigField 12 f ⟨bs "CONTIG      " ++ (contigText g ++ rest), stk⟩ =
      (.ok ({ f with contigAcc := g.contigAcc, contigHead := g.contigHead, contigTail := g.contigTail }, true),
        ⟨rest, stk⟩) :=
  GenBank.contig_roundtrip f g rest stk h

/-- **ORIGIN**: printable residues (fewer than 10^9) are read on the fast path; the reader keeps the
written block, which decodes to the residues (C16 `bytes_roundtrip`). -/
theorem origin_roundtrip (p rest : Bytes) (stk : List Bytes) (hp : ∀ c ∈ p, Origin.isBase c = true)
    (hlen : p.length < 10 ^ 9) (hrest : rest.head? ≠ some 32) :
    originField (p.length : Int) 12 ⟨bs "ORIGIN      \n" ++ (Origin.originStream p ++ rest), stk⟩ =
      (.ok (Origin.originStream p), ⟨rest, []⟩) ∧
    Origin.newOrigin p = .ok (Origin.originStream p) ∧ Origin.originBytes (Origin.originStream p) = .ok p :=
  ⟨GenBank.origin_roundtrip p rest stk hp hlen hrest, Origin.newOrigin_ok p hlen, Origin.originBytes_originStream p hlen⟩

/-- **One pass of the record loop**: a DEFINITION section is taken by its own sub-parser (the same
holds for every section; `SecOK`), and `//` + line feed ends the record, leaving the rest of the
stream untouched. -/
theorem definition_section (length : Int) (v : Bytes) (hv : noCR v = true) : SecOK length (secDefinition v) :=
  secDefinition_ok length v hv

theorem record_end (length : Int) (k : Nat) (s : Sub) (rest : Bytes) :
    recordLoop length 12 (k + 1) s ⟨bs "//\n" ++ rest, []⟩ = (.ok s, ⟨rest, []⟩) :=
  loop_end length k s rest

/-- **C06 → C01**: the printed form of every canonical location is read back by `ParseLocation` at
the end of a key line. -/
theorem locations_from_C06 (l : Loc) (h : Loc.canonP l = true) : LocRT l := locRT_of_canon l h

/-- the FEATURES round trip with decidable hypotheses only -/
theorem features_roundtrip_canon (reg : Registry) (ft : QFeature) (fs : List QFeature) (rest : Bytes)
    (stk : List Bytes) (hw : tableWritable reg (ft :: fs) = true)
    (hloc : (ft :: fs).all (fun x => Loc.canonP x.loc) = true) (hrest : (sp 5).isPrefixOf rest = false) :
    ∃ t, tableText reg (ft :: fs) = .ok t ∧
      featuresField reg ⟨bs "FEATURES             Location/Qualifiers\n" ++ (t ++ 10 :: rest), stk⟩ =
        (.ok ((ft :: fs).map (readFeature reg), learnTable reg (ft :: fs)), ⟨rest, []⟩) :=
  GenBank.features_roundtrip reg ft fs rest stk hw
    (fun x hx => locRT_of_canon x.loc (List.all_eq_true.mp hloc x hx)) hrest

/-- **read (write r).**  For a record of the decidable domain `Writable reg r p` (`p` its residues;
locations satisfy `LocRT`), `GenBank.String` succeeds and `GenBankParser`, run on that text followed
by ANY further text `rest'`, returns `readBack reg r p`, consumes exactly the record's text, and
ends with the registry `learnTable reg r.table ⊇ reg`.  `readBack` is the record itself except for
the accession, which carries the REGION suffix while the region is gone (known finding K1A); the
table comes back feature by feature as `readFeature` (the written items added back one by one: the
feature itself under `tableFaithful`); the residues are kept as the written block. -/
theorem read_write (reg : Registry) (r : Record) (p : Bytes) (ho : r.origin = .residues p)
    (hw : Writable reg r p = true) (hloc : ∀ x ∈ r.table, LocRT x.loc) (rest' : Bytes) :
    (∃ t, write reg r = .ok t ∧ t ≠ [] ∧
      genbankParser reg ⟨t ++ rest', []⟩ = (.ok (readBack reg r p, learnTable reg r.table), ⟨rest', []⟩)) ∧
    reg.le (learnTable reg r.table) :=
  ⟨GenBank.read_write reg r p ho hw hloc rest', learnTable_le reg r.table⟩

/-- the decidable domain of the whole round trip: `Writable` and canonical locations (C06) -/
def WritableRecord (reg : Registry) (r : Record) (p : Bytes) : Bool :=
  Writable reg r p && r.table.all fun f => Loc.canonP f.loc

theorem writableRecord_parts (reg : Registry) (r : Record) (p : Bytes) :
    WritableRecord reg r p = true ↔
      Writable reg r p = true ∧ (r.table.all fun f => Loc.canonP f.loc) = true := by
  simp only [WritableRecord, Bool.and_eq_true]

theorem WritableRecord_on {r : Record} {a b : Registry} (h : AgreeOn (tableNames r.table) a b) (p : Bytes) :
    WritableRecord a r p = WritableRecord b r p := by
  simp only [WritableRecord, Writable_on h]

/-- what `read_write` and its CRLF form ask for -/
theorem writableRecord_hyps (reg : Registry) (r : Record) (p : Bytes) (h : WritableRecord reg r p = true) :
    Writable reg r p = true ∧ (∀ x ∈ r.table, LocRT x.loc) ∧ (∀ x ∈ r.table, LocRTC x.loc) := by
  obtain ⟨hw, hc⟩ := (writableRecord_parts reg r p).mp h
  exact ⟨hw, fun x hx => locRT_of_canon x.loc (List.all_eq_true.mp hc x hx),
    fun x hx => locRTC_of_canon x.loc (List.all_eq_true.mp hc x hx)⟩

/-- **read (write r)** with decidable hypotheses only. -/
theorem read_write_canon (reg : Registry) (r : Record) (p : Bytes) (ho : r.origin = .residues p)
    (hw : WritableRecord reg r p = true) (rest' : Bytes) :
    ∃ t, write reg r = .ok t ∧
      genbankParser reg ⟨t ++ rest', []⟩ = (.ok (readBack reg r p, learnTable reg r.table), ⟨rest', []⟩) := by
  obtain ⟨hw, hloc, _⟩ := writableRecord_hyps reg r p hw
  obtain ⟨t, h1, _, h2⟩ := GenBank.read_write reg r p ho hw hloc rest'
  exact ⟨t, h1, h2⟩

/-- **fidelity**, proved part: with no region (`noRegion`, known finding K1A) the header fields that
come back are the fields that were written; a table of the domain `tableFaithful` comes back as the
same table; the residues decode to the residues (C16). -/
theorem read_write_faithful_partial (reg : Registry) (r : Record) (p : Bytes)
    (noRegion : r.fields.region = none) (htab : tableFaithful reg r.table = true)
    (hlen : p.length < 10 ^ 9) :
    (readBack reg r p).fields = r.fields ∧ (readBack reg r p).table = r.table ∧
    (readBack reg r p).origin.bytes = .ok p := by
  obtain ⟨f, t, o⟩ := r
  simp only at noRegion htab
  refine ⟨?_, readTable_eq reg t htab, ?_⟩
  · obtain ⟨a1, a2, a3, a4, a5, a6, a7, a8, a9, a10, a11, a12, a13, a14, a15, a16, a17, a18, a19, a20⟩ := f
    simp only at noRegion
    simp [readBack, accessionLine, noRegion]
  · by_cases hp : p.isEmpty = true
    · have : p = [] := by simpa using hp
      subst this
      simp [readBack, OriginV.bytes, Origin.originBytes]
    · simp [readBack, hp, OriginV.bytes, Origin.originBytes_originStream p hlen]

/-- non-vacuity of `Writable`: a record with every header field, two references, a comment, an
extra field, a CONTIG and 70 residues; and a record with nothing but a LOCUS line -/
def sampleRecord : Record :=
  ⟨{ Fields.empty with
     locusName := bs "NC_001422", molecule := bs "ss-DNA", topology := 1, division := bs "PHG", date := ⟨2018, 7, 6⟩,
     definition := bs "Coliphage phi-X174,\n  complete genome", accession := bs "NC_001422", version := bs "NC_001422.1",
     dblink := [(bs "BioProject", bs "PRJNA14015"), (bs "KEGG BRITE", bs " NC_001422")],
     keywords := [bs "RefSeq"], species := bs "Escherichia virus phiX174", organism := bs "Escherichia virus phiX174",
     taxon := [bs "Viruses", bs "ssDNA viruses", bs "Microviridae"],
     references := [⟨1, bs "(bases 1 to 70)", bs "Sanger,F.", [], bs "Nucleotide sequence", bs "J. Mol. Biol.", some (bs "731693"), []⟩,
                    ⟨2, [], [], bs "NCBI", [], [], none, bs "REVIEWED REFSEQ"⟩],
     comments := [bs "line one\n    indented line two"], extra := [(bs "PRIMARY", bs "x")],
     contigAcc := bs "J02482.1", contigHead := 0, contigTail := 70 },
   [], .residues (List.replicate 70 97)⟩

example : Writable Registry.default sampleRecord (List.replicate 70 97) = true ∧
    Writable Registry.default ⟨{ Fields.empty with locusName := bs "X", molecule := bs "DNA", date := ⟨1, 1, 1⟩ }, [], .residues []⟩ [] = true := by
  unfold sampleRecord
  repeat rw [bs_ofList]
  decide +kernel

/-- **Framing of multi-record streams**: every record is read from exactly its own text; a stream of
`Writable` records (all qualifier names registered, so the registry does not change between the
records) written with `WriteSeq` and read until the input is used up yields exactly the records, each
as `readBack`, without error. -/
theorem read_stream (reg : Registry) (rs : List (Record × Bytes))
    (hall : ∀ x ∈ rs, x.1.origin = .residues x.2 ∧ Writable reg x.1 x.2 = true ∧ (∀ f ∈ x.1.table, LocRT f.loc) ∧
      learnTable reg x.1.table = reg) :
    ∃ t, writeAll reg (rs.map (·.1)) = .ok t ∧
      readAll reg t = some (rs.map (fun x => readBack reg x.1 x.2), reg, true) :=
  GenBank.read_stream reg rs hall

/-- **FEATURES, fixed point.**  The table that was read back (`readFeature`: the written items
added back one by one with `Props.Add`, a toggle's value empty), written by `INSDCFormatter` under
any registry `reg'` that writes the same text as `reg` (`sameText`: `reg` plus some of its unknown
names learned as quoted — `learnTable reg fs` is one), is byte for byte the table text that was
read.  Needs only that in every `Props` the rows have names and the written qualifiers of one name
are consecutive (`propsAdjacent`: rows of one name adjacent, rows without a value not counting —
weaker than pairwise distinct names, `names_distinct_adjacent`); no clause on values: the writer
looks up the NAMES of the table only, and learning keeps every earlier answer except
unknown → quoted, which are written alike. -/
theorem features_fixed_point (reg reg' : Registry) (hs : sameText reg reg') (fs : List QFeature)
    (hd : tableAdjacent fs = true) :
    tableText reg' (fs.map (readFeature reg)) = tableText reg fs :=
  tableText_readFeature reg reg' hs fs hd

/-- pairwise distinct row names (what `Props.Add` / `Props.Set` build) are the special case of the
guard -/
theorem names_distinct_adjacent (fs : List QFeature) (h : tableDistinct fs = true) : tableAdjacent fs = true :=
  tableAdjacent_of_distinct fs h

/-- non-vacuity of the weaker guard: a repeated name in ADJACENT rows (and a row without a value in
between) is inside it and not inside `tableDistinct`; the re-read table is not the table, yet
prints identically -/
def adjacentWitness : List QFeature :=
  [⟨bs "gene", .point 0, [[bs "note", bs "a"], [bs "focus"], [bs "note", bs "c"], [bs "gene", bs "b"]]⟩]

example : tableAdjacent adjacentWitness = true ∧ tableDistinct adjacentWitness = false ∧
    (adjacentWitness.map (readFeature Registry.default)).map (·.props) =
      [[[bs "note", bs "a", bs "c"], [bs "gene", bs "b"]]] := by
  rw [readFeature_on (default_vecReg.sub (by decide +kernel))]
  decide +kernel

/-- non-vacuity: a table with a toggle that was given a value through the API, a row without a
value, a multi-valued row and an unknown name has distinct row names, is not `tableFaithful` (it
does not come back as itself), and the registry that read it writes the same text -/
def fixedWitness : List QFeature :=
  [⟨bs "source", .ranged 0 10 false false, [[bs "organism", bs "Homo sapiens"], [bs "focus", bs "x"], [bs "note"]]⟩,
   ⟨bs "CDS", .point 3, [[bs "my_tag", bs "learned", bs "twice"], [bs "codon_start", bs "1"]]⟩]

example : tableAdjacent fixedWitness = true ∧ tableFaithful Registry.default fixedWitness = false ∧
    fixedWitness.map (readFeature Registry.default) ≠ fixedWitness ∧
    (learnTable Registry.default fixedWitness).typeOf (bs "my_tag") = .quoted ∧
    Registry.default.typeOf (bs "my_tag") = .unknown := by
  have hs : (tableNames fixedWitness).all (· ∈ vecNames) = true := by decide +kernel
  have v := default_vecReg.sub hs
  rw [tableFaithful_on v, readFeature_on v, default_vecReg.learnTable _ hs _ (by decide +kernel),
    default_vecReg _ (by decide +kernel)]
  refine ⟨by decide +kernel, by decide +kernel, fun h => ?_, by decide +kernel, by decide +kernel⟩
  have := congrArg (fun t => (t.map fun f => f.props.length)) h
  revert this; decide +kernel

/-- the same table with the toggle's value empty: in the domain `tableWritable`, and still not
`tableFaithful` (the row without a value does not come back) -/
def fixedWitness' : List QFeature :=
  [⟨bs "source", .ranged 0 10 false false, [[bs "organism", bs "Homo sapiens"], [bs "focus", bs ""], [bs "note"]]⟩,
   ⟨bs "CDS", .point 3, [[bs "my_tag", bs "learned", bs "twice"], [bs "codon_start", bs "1"]]⟩]

example : sameText Registry.default (learnTable Registry.default fixedWitness) :=
  sameText_learnTable _ _ _ (sameText_refl _)

/-- **header fields, fixed point.**  The fields that come back — the accession carrying the REGION
suffix, the region gone (known finding K1A) — print the same header: K1A is a byte fixed point. -/
theorem header_fixed_point (f : Fields) (L : Int) :
    headerText { f with accession := accessionLine f, region := none } L = headerText f L :=
  headerText_readBack f L

example : accessionLine { Fields.empty with accession := bs "AB000001", region := some (2, 9) } = bs "AB000001 REGION: 3..9" := by
  decide +kernel

/-- **residues, fixed point.**  The reader keeps the ORIGIN block as written; that block has the
length of the residues (`Origin.Len`, which goes into the LOCUS line) and `Origin.String` prints it
as `NewOrigin(p).String()` printed the residues. -/
theorem origin_fixed_point (p : Bytes) (hlen : p.length < 10 ^ 9) :
    OriginV.len (if p.isEmpty then .buffer [] else .buffer (Origin.originStream p)) = OriginV.len (.residues p) ∧
    (¬ p.isEmpty → OriginV.text (.buffer (Origin.originStream p)) = OriginV.text (.residues p)) :=
  origin_readBack p hlen

example : (bs "acgtacgtacgtacgtacgtacgtacgtacgtacgtacgtacgtacgtacgtacgtacgtacgtacgtacgt").length < 10 ^ 9 := by
  rw [bs_ofList]
  decide +kernel

/-- **Learning never changes what is written**: a registry that has learned names (unknown →
quoted) since — by reading this record, earlier records of the stream, or anything else — writes
every record byte for byte as before.  (`QualifierIO.String` consults the process-global registry
at write time; the reader is the only code that registers names.) -/
theorem write_learned_same (reg reg' : Registry) (hs : sameText reg reg') (r : Record) :
    write reg' r = write reg r :=
  write_same reg reg' hs r

/-- **The writer keeps every value** (what repo 7b61a9a, F31, buys).  The qualifier lines of a
feature are one line group per (name, value) of every row, ROW BY ROW in the order of the rows,
each value under its own row's name: `propsItems` — the items `INSDCFormatter.String` and
`Props.Items` walk — is the concatenation of the rows' own items; every value of every row is among
them; and the text of the feature is the key line followed by exactly their qualifier texts.
(Before the repair a repeated row name wrote the FIRST row's values once per row of that name and
never the later row's.) -/
theorem write_keeps_every_value (reg : Registry) (depth : Nat) (f : QFeature) (hok : propsOk f.props = true) :
    propsItems f.props = f.props.flatMap rowItems ∧
    (∀ row ∈ f.props, ∀ v ∈ row.tail, (row.headD [], v) ∈ propsItems f.props) ∧
    featureText reg depth f = .ok (sp 5 ++ f.key ++ sp (depth - 5 - f.key.length) ++ f.loc.printB ++
      ((f.props.flatMap rowItems).flatMap fun kv => 10 :: qualifierFmt reg (sp depth) kv.1 kv.2)) := by
  refine ⟨propsItems_eq _, ?_, ?_⟩
  · intro row hrow v hv
    rw [propsItems_eq]
    refine List.mem_flatMap.mpr ⟨row, hrow, ?_⟩
    cases row with
    | nil => simp at hv
    | cons k vs => simpa [rowItems] using hv
  · simp only [featureText, hok, Bool.not_true, Bool.false_eq_true, if_false, propsItems_eq]

/-- non-vacuity on the witness of F31: the three values `a`, `b`, `c` are written, in row order
(the defect wrote `a`, `b`, `a`) -/
example : propsOk [[bs "note", bs "a"], [bs "gene", bs "b"], [bs "note", bs "c"]] = true ∧
    propsItems [[bs "note", bs "a"], [bs "gene", bs "b"], [bs "note", bs "c"]] =
      [(bs "note", bs "a"), (bs "gene", bs "b"), (bs "note", bs "c")] := by
  decide +kernel

/-- FULL STATEMENT of the fixed point (false): "for every `Writable` record, writing the re-read
record reproduces the first output".  `Writable` admits a hand-built `Props` in which a row name
occurs twice in NON-adjacent rows (not constructible with `Props.Add` / `Props.Set`).  Since repo
7b61a9a (F31) the writer walks the rows one by one and every value is written
(`write_keeps_every_value`; before, `Keys()` + `Get(key)` wrote the first row's values once per row
of that name and lost the later row's: `/note="a" /gene="b" /note="a"`).  What is left is ORDER
only: the first output is `/note="a" /gene="b" /note="c"`, `Props.Add` on reading gathers the two
`note` rows into one, and the second output is `/note="a" /note="c" /gene="b"` — no value lost, the
lines in another order.  Replayed on the real code: `gb.write` / `gb.wrw` of this witness give the
two texts. -/
def dupNamesWitness : Record :=
  ⟨{ Fields.empty with locusName := bs "X", molecule := bs "DNA", date := ⟨1, 1, 1⟩ },
   [⟨bs "gene", .point 0, [[bs "note", bs "a"], [bs "gene", bs "b"], [bs "note", bs "c"]]⟩], .residues []⟩

theorem write_read_write_full_refuted :
    Writable Registry.default dupNamesWitness [] = true ∧
    (dupNamesWitness.table.all fun f => Loc.canonP f.loc) = true ∧
    write (learnTable Registry.default dupNamesWitness.table) (readBack Registry.default dupNamesWitness []) ≠
      write Registry.default dupNamesWitness ∧
    tableAdjacent dupNamesWitness.table = false := by
  have v : AgreeOn (tableNames dupNamesWitness.table) Registry.default vecReg := default_vecReg.sub (by decide +kernel)
  have v' : AgreeOn (tableNames (readBack vecReg dupNamesWitness []).table) Registry.default vecReg :=
    default_vecReg.sub (by decide +kernel)
  rw [Writable_on v, write_same _ _ (sameText_learnTable _ _ _ (sameText_refl _)), readBack_on v, write_on v, write_on v']
  refine ⟨by decide +kernel, by decide +kernel, by decide +kernel, by decide +kernel⟩

/-- **write → read → write, proved part** (guard `namesAdjacent`: in every feature the written
qualifiers of one name are consecutive — rows of one name adjacent; pairwise distinct names, what
`Props.Add` / `Props.Set` build, are the special case `names_distinct_adjacent`; rows without a value
are allowed; before repo 7b61a9a the writer lost the values of a repeated name, and the names had to be pairwise
distinct).  For a `Writable` record: `GenBank.String` succeeds with a text `t`; `GenBankParser` reads
from `t` (followed by anything) the record `readBack reg r p` and ends with the registry
`reg' = learnTable reg r.table`; and `GenBank.String` of THAT record under THAT registry is `t`
again, byte for byte.  Neither K1A (the REGION suffix moves into the accession: same bytes) nor K1E
(excluded by `Writable` through `quotedOk`, as in `read_write`) needs a further guard. -/
theorem write_read_write_partial (reg : Registry) (r : Record) (p : Bytes) (ho : r.origin = .residues p)
    (hw : Writable reg r p = true) (hloc : ∀ x ∈ r.table, LocRT x.loc)
    (namesAdjacent : tableAdjacent r.table = true) (rest' : Bytes) :
    ∃ t, write reg r = .ok t ∧
      genbankParser reg ⟨t ++ rest', []⟩ = (.ok (readBack reg r p, learnTable reg r.table), ⟨rest', []⟩) ∧
      write (learnTable reg r.table) (readBack reg r p) = .ok t := by
  obtain ⟨t, h1, _, h2⟩ := GenBank.read_write reg r p ho hw hloc rest'
  refine ⟨t, h1, h2, ?_⟩
  have hlen : p.length < 10 ^ 9 := (writable_parts reg r p hw).2.2.2.2.2.2.2
  rw [write_readBack reg _ (sameText_learnTable reg reg r.table (sameText_refl reg)) r p ho hlen namesAdjacent, h1]

/-- the fixed point alone, under ANY registry that writes the same text (the reader's registry
after further records, for instance): `write reg' (readBack reg r p) = write reg r`. -/
theorem write_readBack_partial (reg reg' : Registry) (hs : sameText reg reg') (r : Record) (p : Bytes)
    (ho : r.origin = .residues p) (hlen : p.length < 10 ^ 9) (namesAdjacent : tableAdjacent r.table = true) :
    write reg' (readBack reg r p) = write reg r :=
  write_readBack reg reg' hs r p ho hlen namesAdjacent

/-- non-vacuity: a record with a region (K1A), a table that does not come back as itself
(`fixedWitness`) and residues is in the domain of `write_read_write_partial` -/
def wrwWitness : Record :=
  ⟨{ locusWitness with accession := bs "AB000001", definition := bs "two\n lines", region := some (2, 9) }, fixedWitness',
   .residues (List.replicate 12 97)⟩

theorem wrwWitness_vec : AgreeOn (tableNames wrwWitness.table) Registry.default vecReg :=
  default_vecReg.sub (by decide +kernel)

theorem wrwWitness_writable : WritableRecord Registry.default wrwWitness (List.replicate 12 97) = true := by
  rw [WritableRecord_on wrwWitness_vec]
  decide +kernel

theorem wrwWitness_adjacent : tableAdjacent wrwWitness.table = true := by decide +kernel

example : Writable Registry.default wrwWitness (List.replicate 12 97) = true ∧
    (wrwWitness.table.all fun f => Loc.canonP f.loc) = true ∧ tableAdjacent wrwWitness.table = true ∧
    wrwWitness.fields.region ≠ none ∧ tableFaithful Registry.default wrwWitness.table = false :=
  ⟨((writableRecord_parts _ _ _).mp wrwWitness_writable).1, ((writableRecord_parts _ _ _).mp wrwWitness_writable).2,
    wrwWitness_adjacent, by decide, by rw [tableFaithful_on wrwWitness_vec]; decide +kernel⟩

/-- **`readBack` is idempotent on its image**, for every record and without any guard: what the
reader builds is what `Props.Add` builds (rows `name :: value :: …`, names pairwise distinct), its
toggle values are already empty and its accession already carries the REGION suffix. -/
theorem read_back_idempotent (reg reg' : Registry) (hs : sameText reg reg') (r : Record) (p : Bytes) :
    readBack reg' (readBack reg r p) p = readBack reg r p :=
  readBack_idem' reg reg' hs r p

/-- … and the table of a record that was read always has distinct row names: from the second
generation on the guard `namesAdjacent` of `write_read_write_partial` holds by itself
(`names_distinct_adjacent`). -/
theorem read_back_names_distinct (reg : Registry) (r : Record) (p : Bytes) :
    tableDistinct (readBack reg r p).table = true :=
  tableDistinct_readFeature reg r.table

example : readBack Registry.default dupNamesWitness [] ≠ ⟨dupNamesWitness.fields, dupNamesWitness.table, .buffer []⟩ := by
  rw [readBack_on (default_vecReg.sub (by decide +kernel))]
  intro h
  have := congrArg (fun r => r.table.map fun f => f.props.length) h
  revert this; decide +kernel

/-- **Second generation: the record that was READ is a fixed point of write → read**, for every
`Writable` record — no guard: neither on row names (the duplicate-name shape of
`write_read_write_full_refuted` is gone after one reading) nor on K1A (the region is already inside
the accession).  `GenBank.String` of `readBack reg r p` under the registry `reg'` the reader ended
with succeeds with some text `t1`; `GenBankParser` under `reg'` reads from `t1` (followed by
anything) the record `readBack reg r p` itself and leaves the registry `reg'`.  With
`namesAdjacent`, `t1` is the first output (`write_read_write_partial`). -/
theorem reread_fixed_point (reg : Registry) (r : Record) (p : Bytes) (hw : Writable reg r p = true)
    (hloc : ∀ x ∈ r.table, LocRT x.loc) (rest' : Bytes) :
    ∃ t1, write (learnTable reg r.table) (readBack reg r p) = .ok t1 ∧
      genbankParser (learnTable reg r.table) ⟨t1 ++ rest', []⟩ =
        (.ok (readBack reg r p, learnTable reg r.table), ⟨rest', []⟩) :=
  reread_fixed reg r p hw hloc rest'

/-- non-vacuity: the duplicate-name witness meets the hypotheses (and not the guard `namesAdjacent`) -/
example : Writable Registry.default dupNamesWitness [] = true ∧
    (dupNamesWitness.table.all fun f => Loc.canonP f.loc) = true ∧ tableAdjacent dupNamesWitness.table = false :=
  ⟨write_read_write_full_refuted.1, write_read_write_full_refuted.2.1, write_read_write_full_refuted.2.2.2⟩

/-- **read (write r) under a registry that has learned names.**  The text `GenBank.String` wrote
under `reg`, read by `GenBankParser` under any `reg'` that writes the same text as `reg`: the same
record `readBack reg r p` as under `reg` itself, exactly the record's text consumed, and the
registry `learnTable reg' r.table`.  (`read_write` is the case `reg' = reg`.) -/
theorem read_write_learned (reg reg' : Registry) (hs : sameText reg reg') (r : Record) (p : Bytes)
    (ho : r.origin = .residues p) (hw : Writable reg r p = true) (hloc : ∀ x ∈ r.table, LocRT x.loc)
    (rest' : Bytes) :
    (∃ t, write reg r = .ok t ∧ t ≠ [] ∧
      genbankParser reg' ⟨t ++ rest', []⟩ = (.ok (readBack reg r p, learnTable reg' r.table), ⟨rest', []⟩)) ∧
    reg'.le (learnTable reg' r.table) :=
  ⟨read_write_gen reg reg' hs r p ho hw hloc rest', learnTable_le reg' r.table⟩

/-- **Reading the same text a second time** (same process, registry as the first reading left it):
the same record, and the registry does not change any more — the pair (record, registry) reached
after one reading is stable.  No guard beyond `Writable`. -/
theorem read_write_second_reading (reg : Registry) (r : Record) (p : Bytes) (ho : r.origin = .residues p)
    (hw : Writable reg r p = true) (hloc : ∀ x ∈ r.table, LocRT x.loc) (rest' : Bytes) :
    ∃ t, write reg r = .ok t ∧
      genbankParser reg ⟨t ++ rest', []⟩ = (.ok (readBack reg r p, learnTable reg r.table), ⟨rest', []⟩) ∧
      genbankParser (learnTable reg r.table) ⟨t ++ rest', []⟩ =
        (.ok (readBack reg r p, learnTable reg r.table), ⟨rest', []⟩) := by
  obtain ⟨t, h1, _, h2⟩ := GenBank.read_write reg r p ho hw hloc rest'
  obtain ⟨t', h1', _, h3⟩ := read_write_gen reg (learnTable reg r.table)
    (sameText_learnTable reg reg r.table (sameText_refl reg)) r p ho hw hloc rest'
  rw [h1] at h1'
  cases h1'
  rw [learnTable_idem] at h3
  exact ⟨t, h1, h2, h3⟩

/-- **Streams with learning.**  `WriteSeq` for every record under the registry as it is at write
time (`QualifierIO.String` reads the process-global lists; writing registers nothing, so the whole
stream is written under one registry `reg`), then `GenBankParser` until the input is used up,
starting from `reg` and carrying what each record teaches to the next (`learnStream`): exactly the
records, each as `readBack reg`, no error, and the final registry is the fold of `learnTable` over the
tables.  No record has to have its names registered: `read_stream` is the special case in which
nothing is learned. -/
theorem read_stream_learning (reg : Registry) (rs : List (Record × Bytes))
    (hall : ∀ x ∈ rs, x.1.origin = .residues x.2 ∧ Writable reg x.1 x.2 = true ∧ (∀ f ∈ x.1.table, LocRT f.loc)) :
    (∃ t, writeAll reg (rs.map (·.1)) = .ok t ∧
      readAll reg t = some (rs.map (fun x => readBack reg x.1 x.2), learnStream reg (rs.map (·.1)), true)) ∧
    reg.le (learnStream reg (rs.map (·.1))) :=
  ⟨GenBank.read_stream_learning reg reg (sameText_refl reg) rs hall, learnStream_le reg _⟩

/-- … and the same when the reader has ALREADY learned names (it read other files before, or this
stream once already): any starting registry `reg'` that writes the same text as the writer's. -/
theorem read_stream_learning_from (reg reg' : Registry) (hs : sameText reg reg') (rs : List (Record × Bytes))
    (hall : ∀ x ∈ rs, x.1.origin = .residues x.2 ∧ Writable reg x.1 x.2 = true ∧ (∀ f ∈ x.1.table, LocRT f.loc)) :
    ∃ t, writeAll reg (rs.map (·.1)) = .ok t ∧
      readAll reg' t = some (rs.map (fun x => readBack reg x.1 x.2), learnStream reg' (rs.map (·.1)), true) :=
  GenBank.read_stream_learning reg reg' hs rs hall

/-- **Byte fixed point of a stream** (guard `namesAdjacent` for every record): the records that
were read from a stream, written again with `WriteSeq` under any registry that writes the same text
as the first writer's — the registry the reader ended with is one — reproduce the stream byte for
byte. -/
theorem write_stream_fixed_partial (reg reg' : Registry) (hs : sameText reg reg') (rs : List (Record × Bytes))
    (hall : ∀ x ∈ rs, x.1.origin = .residues x.2 ∧ x.2.length < 10 ^ 9 ∧ tableAdjacent x.1.table = true) :
    writeAll reg' (rs.map fun x => readBack reg x.1 x.2) = writeAll reg (rs.map (·.1)) :=
  writeAll_readBack reg reg' hs rs hall

/-- non-vacuity: a stream of two records; the first teaches `my_tag` (unknown under the initial
registry, learned as quoted), the second uses it again and is read under the larger registry -/
def streamWitness : List (Record × Bytes) :=
  [(⟨locusWitness, fixedWitness', .residues (List.replicate 12 97)⟩, List.replicate 12 97),
   (⟨{ Fields.empty with locusName := bs "X", molecule := bs "DNA", date := ⟨1, 1, 1⟩ },
      [⟨bs "gene", .point 0, [[bs "my_tag", bs "again"], [bs "other_tag", bs "new"]]⟩], .residues []⟩, [])]

theorem streamWitness_writable : ∀ x ∈ streamWitness, x.1.origin = .residues x.2 ∧
    WritableRecord Registry.default x.1 x.2 = true ∧ quotedOneLine Registry.default x.1.table = true := by
  have h : ∀ x ∈ streamWitness, AgreeOn (tableNames x.1.table) Registry.default vecReg :=
    fun x hx => default_vecReg.sub (by revert x; decide +kernel)
  have : ∀ x ∈ streamWitness, x.1.origin = .residues x.2 ∧
    WritableRecord vecReg x.1 x.2 = true ∧ quotedOneLine vecReg x.1.table = true := by decide +kernel
  intro x hx
  rw [WritableRecord_on (h x hx), quotedOneLine_on (h x hx)]
  exact this x hx

example : (∀ x ∈ streamWitness, x.1.origin = .residues x.2 ∧ Writable Registry.default x.1 x.2 = true ∧
      (∀ f ∈ x.1.table, LocRT f.loc)) ∧
    learnStream Registry.default (streamWitness.map (·.1)) ≠ Registry.default ∧
    (∀ x ∈ streamWitness, x.2.length < 10 ^ 9 ∧ tableAdjacent x.1.table = true) := by
  refine ⟨fun x hx => ?_, fun h => ?_, by decide +kernel⟩
  case refine_2 =>
    have := default_vecReg.learnStream (streamWitness.map (·.1)) (by decide +kernel) (bs "my_tag") (by decide +kernel)
    rw [h, default_vecReg _ (by decide +kernel)] at this
    revert this; decide +kernel
  obtain ⟨ho, hw, _⟩ := streamWitness_writable x hx
  exact ⟨ho, (writableRecord_hyps _ _ _ hw).1, (writableRecord_hyps _ _ _ hw).2.1⟩

/-- **A pipeline that reads and writes in turn** (`gts` commands scan a record, write it, scan the
next: the process-global registry grows between two writes).  `writeEach` writes record `i` under
the registry `gᵢ` of its moment; if every `gᵢ` is the starting registry `reg` plus names learned
since (`sameText reg gᵢ`), the stream is byte for byte the one `WriteSeq` writes under `reg` alone
— and is therefore read back by `read_stream_learning`. -/
theorem write_pipeline_same (reg : Registry) (xs : List (Registry × Record)) (h : ∀ x ∈ xs, sameText reg x.1) :
    writeEach xs = writeAll reg (xs.map (·.2)) :=
  writeEach_same reg xs h

/-- non-vacuity: the second record of `streamWitness` written under the registry that has learned
the names of the first -/
example (r1 r2 : Record) : ∀ x ∈ [(Registry.default, r1), (learnTable Registry.default fixedWitness', r2)],
    sameText Registry.default x.1 := by
  -- stated for a variable registry, so that checking `(g, r).1 = g` does not evaluate `g`
  have pair : ∀ (g : Registry) (r : Record), sameText Registry.default g → sameText Registry.default (g, r).1 :=
    fun _ _ h => h
  intro x hx
  simp only [List.mem_cons, List.not_mem_nil, or_false] at hx
  rcases hx with rfl | rfl
  · exact pair _ _ (sameText_refl _)
  · exact pair _ _ (sameText_learnTable _ _ _ (sameText_refl _))

example : learnTable Registry.default fixedWitness' ≠ Registry.default := fun h => by
  have := default_vecReg.learnTable fixedWitness' (by decide +kernel) (bs "my_tag") (by decide +kernel)
  rw [h, default_vecReg _ (by decide +kernel)] at this
  revert this; decide +kernel

/-! ## closure of the writable domain under the edit operations

`ofSeq F s` is the GenBank record `GenBank{F, s.feats, NewOrigin(s.bytes)}` that `WithFeatures` /
`WithBytes` build around the result `s` of an edit (models of the edits: `Gts/Model/Seq.lean`,
`SeqNuc.lean`; the header `F` is untouched: `GenBankFields` is neither `Shiftable` nor
`Expandable`).  These theorems cover the part of the domain that `Writable` states — header, keys,
qualifiers, residues, LOCUS length.  That the edited LOCATIONS are again canonical (`Loc.canonP`,
needed for `LocRT`) is a statement about `Shift` / `Expand` / `Reverse` / `Normalize` and the join
reduction: `Gts/Props/C06.lean` (location level) and `Gts/Props/C01Canon.lean` (`WritableRecord` under
insert / embed / concat / delete / erase / reverse / rotate, with the K3 guards where the full
statement is false).  `gts.Slice`, whose `GenBankFields.Slice` rewrites the header (REGION, clipped
and renumbered references), has a module of its own: `Gts/Props/C01Slice.lean`. -/

/-- **Frame.**  `Writable` looks at the table only through key and `Props` of each feature and at
the residues only through "printable, fewer than 10^9" and the LOCUS length: a record with the same
header whose features each carry key and `Props` of some old feature, with printable residues and
a LOCUS length that is the old one, or positive, or zero without CONTIG, is `Writable`. -/
theorem writable_frame (reg : Registry) (F : Fields) (s s' : Seq)
    (hw : Writable reg (ofSeq F s) s.bytes = true)
    (htab : ∀ g ∈ s'.feats, ∃ f ∈ s.feats, g.key = f.key ∧ g.props = f.props)
    (hbase : ∀ c ∈ s'.bytes, Origin.isBase c = true) (hlen : s'.bytes.length < 10 ^ 9)
    (hL : s'.bytes.length = s.bytes.length ∨ 0 < s'.bytes.length ∨ F.contigAcc.isEmpty = true) :
    Writable reg (ofSeq F s') s'.bytes = true :=
  writable_ofSeq reg F s s' hw (fun g hg => featW_fromTable reg s.feats (writable_feats reg F s hw) g (htab g hg))
    hbase hlen hL

/-- **`gts.Reverse`** keeps the record writable. -/
theorem writable_reverse (reg : Registry) (F : Fields) (s : Seq) (hw : Writable reg (ofSeq F s) s.bytes = true) :
    Writable reg (ofSeq F s.reverse) s.reverse.bytes = true :=
  GenBank.writable_reverse reg F s hw

/-- **`gts.Complement`** never panics and keeps the record writable (the complement of a printable
byte is printable). -/
theorem writable_complement (reg : Registry) (F : Fields) (s : Seq) (hw : Writable reg (ofSeq F s) s.bytes = true) :
    ∃ s', s.complementRec = some s' ∧ Writable reg (ofSeq F s') s'.bytes = true :=
  ⟨_, complementRec_eq s, GenBank.writable_complement reg F s hw⟩

/-- **`gts.Complement`, the whole round-trip domain**: `WritableRecord` (`Writable` AND canonical
locations, the decidable domain of `read_write_canon`) is closed under `gts.Complement` —
`Location.Complement()` wraps a canonical location or unwraps a wrapped one.  The complemented
record is therefore written, read back and re-written as `read_write_canon` and
`write_read_write_partial` say. -/
theorem writable_record_complement (reg : Registry) (F : Fields) (s : Seq)
    (hw : WritableRecord reg (ofSeq F s) s.bytes = true) :
    ∃ s', s.complementRec = some s' ∧ WritableRecord reg (ofSeq F s') s'.bytes = true := by
  rw [writableRecord_parts] at hw
  refine ⟨_, complementRec_eq s, (writableRecord_parts _ _ _).mpr ⟨GenBank.writable_complement reg F s hw.1, ?_⟩⟩
  have h2 := hw.2
  simp only [ofSeq, List.all_map, List.all_eq_true] at h2 ⊢
  intro f hf
  exact canonP_complement _ (h2 f hf)

/-- **`gts.Rotate`** by any amount keeps the record writable. -/
theorem writable_rotate (reg : Registry) (F : Fields) (s : Seq) (n : Int)
    (hw : Writable reg (ofSeq F s) s.bytes = true) :
    Writable reg (ofSeq F (s.rotate n)) (s.rotate n).bytes = true :=
  GenBank.writable_rotate reg F s n hw

/-- **`gts.Delete`** / **`gts.Erase`** of `length ≥ 0` residues keep the record writable when residues
remain or the record has no CONTIG.  (A record emptied of its residues takes its LOCUS length from
the CONTIG region, which `Writable` does not bound.) -/
theorem writable_delete (reg : Registry) (F : Fields) (s : Seq) (offset length : Int) (hlen0 : 0 ≤ length)
    (hw : Writable reg (ofSeq F s) s.bytes = true)
    (hne : 0 < (s.delete offset length).bytes.length ∨ F.contigAcc.isEmpty = true) :
    Writable reg (ofSeq F (s.delete offset length)) (s.delete offset length).bytes = true :=
  GenBank.writable_delete reg F s offset length hlen0 hw hne

theorem writable_erase (reg : Registry) (F : Fields) (s : Seq) (offset length : Int) (hlen0 : 0 ≤ length)
    (hw : Writable reg (ofSeq F s) s.bytes = true)
    (hne : 0 < (s.erase offset length).bytes.length ∨ F.contigAcc.isEmpty = true) :
    Writable reg (ofSeq F (s.erase offset length)) (s.erase offset length).bytes = true :=
  GenBank.writable_erase reg F s offset length hlen0 hw hne

/-- **`gts.Insert`**, **`gts.Embed`**, **`gts.Concat`** of two writable records (the guest under any
header `G`) give a writable record with the host's header, as long as the residues together stay
below 10^9. -/
theorem writable_insert (reg : Registry) (F G : Fields) (host guest : Seq) (index : Int)
    (hw : Writable reg (ofSeq F host) host.bytes = true) (hg : Writable reg (ofSeq G guest) guest.bytes = true)
    (hsum : host.bytes.length + guest.bytes.length < 10 ^ 9) :
    Writable reg (ofSeq F (host.insert index guest)) (host.insert index guest).bytes = true :=
  GenBank.writable_insert reg F G host guest index hw hg hsum

theorem writable_embed (reg : Registry) (F G : Fields) (host guest : Seq) (index : Int)
    (hw : Writable reg (ofSeq F host) host.bytes = true) (hg : Writable reg (ofSeq G guest) guest.bytes = true)
    (hsum : host.bytes.length + guest.bytes.length < 10 ^ 9) :
    Writable reg (ofSeq F (host.embed index guest)) (host.embed index guest).bytes = true :=
  GenBank.writable_embed reg F G host guest index hw hg hsum

theorem writable_concat (reg : Registry) (F G : Fields) (a b : Seq)
    (hw : Writable reg (ofSeq F a) a.bytes = true) (hg : Writable reg (ofSeq G b) b.bytes = true)
    (hsum : a.bytes.length + b.bytes.length < 10 ^ 9) :
    Writable reg (ofSeq F (Seq.concat2 a b)) (Seq.concat2 a b).bytes = true :=
  GenBank.writable_concat2 reg F G a b hw hg hsum

/-- non-vacuity: a host with a source feature and a CDS with a learned qualifier and a toggle, and a
guest, are writable under the initial registry; the edits change the record -/
def editHost : Seq :=
  ⟨[⟨"source", .ranged 0 12 false false, [["organism", "Homo sapiens"], ["focus", ""]]⟩,
    ⟨"CDS", .joined [.ranged 1 4 false false, .ranged 6 9 false false], [["my_tag", "v"], ["codon_start", "1"]]⟩],
   bs "acgtacgtacgt"⟩

def editGuest : Seq := ⟨[⟨"gene", .compl (.ranged 0 3 false false), [["gene", "x"]]⟩], bs "ttt"⟩

example : Writable Registry.default (ofSeq locusWitness editHost) editHost.bytes = true ∧
    Writable Registry.default (ofSeq sampleRecord.fields editGuest) editGuest.bytes = true ∧
    editHost.reverse.bytes ≠ editHost.bytes ∧ 0 < (editHost.delete 2 5).bytes.length ∧
    editHost.bytes.length + editGuest.bytes.length < 10 ^ 9 ∧
    WritableRecord Registry.default (ofSeq locusWitness editHost) editHost.bytes = true := by
  have h : WritableRecord Registry.default (ofSeq locusWitness editHost) editHost.bytes = true := by
    rw [WritableRecord_on (default_vecReg.sub (by decide +kernel))]; decide +kernel
  exact ⟨((writableRecord_parts _ _ _).mp h).1,
    by rw [Writable_on (default_vecReg.sub (by decide +kernel))]; unfold sampleRecord; repeat rw [bs_ofList]
       decide +kernel,
    by decide +kernel, by decide +kernel, by decide +kernel, h⟩

/-! ## CRLF input: the written text after a CRLF-translating transport

`Origin.crlf t` replaces every line feed of `t` by CR LF (`crlf_is_fasta_crlf`: the same function as the
`crlf` of the FASTA model, C17) — the line ends of the file, and the line feeds inside multi-line field
texts and qualifier values with them, which is what a transport in text mode does to the bytes.  The
reader's line primitives take CR LF as one terminator (`pars.Line`, `pars.EOL`), so every header field,
the key lines, literal and toggle qualifiers, CONTIG and the terminator read exactly as from the LF
text, and the ORIGIN block — which the fast path rejects: a carriage return stands where the line feed
of the first line should — is rebuilt by the slow path (C16).  The ONE place where the CRLF text reads
differently is a value written between quotes that contains a line feed: `pars.Quoted` hands over the
raw bytes between the quotes and `quotedQualifierParser` deletes the continuation indent behind every
`"\n"`, so the carriage return in front of it stays inside the value (finding F36). -/

/-- the CRLF translation used here is the one of the FASTA model (C17 `scan_write_all_crlf`) -/
theorem crlf_is_fasta_crlf (t : Bytes) : Origin.crlf t = Fasta.crlf t := crlf_eq_fasta t

example : Origin.crlf (bs "a\nb\r\n") = bs "a\r\nb\r\r\n" := by decide

/-- **C06 → C01, CRLF**: the printed form of every canonical location is read back by `ParseLocation`
in front of the carriage return that ends a key line of a CRLF file (`LocRTC`). -/
theorem locations_crlf_from_C06 (l : Loc) (h : Loc.canonP l = true) : LocRTC l := locRTC_of_canon l h

example : Loc.canonP (.joined [.ranged 1 4 false false, .compl (.point 7)]) = true := by decide +kernel

/-- **One qualifier in a CRLF file** (`QualifierParser(prefix)` on the CRLF translation of
`QualifierIO.Format(prefix)`, followed by CR LF): the same name and the same registry step as from the
LF text; the value is `crlfValue reg name value` — the value itself for a literal (read line by line
with `pars.Line`) and a toggle (`pars.EOL` takes CR LF), and THE CRLF TRANSLATION of the value for a
value written between quotes (a name registered as quoted, or unknown).  Same domain
`WritableQualifier` as `qualifier_roundtrip`. -/
theorem qualifier_crlf (reg : Registry) (d : Nat) (name value rest : Bytes) (stk : List Bytes)
    (hw : WritableQualifier reg d name value = true) (hstop : litStop d rest) :
    qualifier (sp d) reg ⟨Origin.crlf (qualifierFmt reg (sp d) name value) ++ 13 :: 10 :: rest, stk⟩ =
      (.ok ((name, readValue reg name (crlfValue reg name value)), learn reg name), ⟨rest, stk⟩) :=
  qualifier_roundtripC reg d name value rest stk hw hstop

/-- non-vacuity: a two-line quoted value comes back with CR LF inside, a two-line literal value as
it is, a one-line quoted value as it is -/
example :
    WritableQualifier Registry.default 21 (bs "note") (bs "a\nb") = true ∧
    crlfValue Registry.default (bs "note") (bs "a\nb") = bs "a\r\nb" ∧
    WritableQualifier Registry.default 21 (bs "transl_except") (bs "(pos:1..3,\n aa:Met)") = true ∧
    crlfValue Registry.default (bs "transl_except") (bs "(pos:1..3,\n aa:Met)") = bs "(pos:1..3,\n aa:Met)" ∧
    crlfValue Registry.default (bs "note") (bs "one line") = bs "one line" := by
  have v : ∀ n ∈ vecNames, _ := default_vecReg
  rw [WritableQualifier_on (v _ (by decide +kernel)), WritableQualifier_on (v _ (by decide +kernel)),
    crlfValue_on (v _ (by decide +kernel)), crlfValue_on (v _ (by decide +kernel)), crlfValue_on (v _ (by decide +kernel))]
  repeat rw [bs_ofList]
  decide +kernel

/-- **ORIGIN in a CRLF file.**  For at least one and fewer than 10^9 printable residues: on the first
`toOriginLength(length)` bytes of the CRLF translation of the written block the fast path
(`validateOrigin`) reports an ERROR, it does not panic; `makeGenbankOriginParser`, run on the header
line and the translated block followed by ANY text that does not start with a blank, falls back to
the slow path and returns the block as it was written (LF line ends) — the same `Origin` as from the
LF file, the following text untouched, the stack cleared. -/
theorem origin_crlf (p rest : Bytes) (stk : List Bytes) (hp : ∀ c ∈ p, Origin.isBase c = true)
    (hlen : p.length < 10 ^ 9) (hne : p ≠ []) (hrest : rest.head? ≠ some 32) :
    Origin.validateOrigin ((Origin.crlf (Origin.originStream p) ++ rest).take (Origin.tl p.length)) p.length =
      .error .fail ∧
    originField (p.length : Int) 12 ⟨Origin.crlf (bs "ORIGIN      \n" ++ Origin.originStream p) ++ rest, stk⟩ =
      (.ok (Origin.originStream p), ⟨rest, []⟩) := by
  refine ⟨Origin.validateOrigin_crlf_fail p rest hne hp hlen, ?_⟩
  have h1 : Origin.crlf (bs "ORIGIN      \n") = bs "ORIGIN      " ++ [13, 10] := by decide +kernel
  have e : Origin.crlf (bs "ORIGIN      \n" ++ Origin.originStream p) ++ rest =
      bs "ORIGIN      " ++ 13 :: 10 :: (Origin.crlf (Origin.originStream p) ++ rest) := by
    rw [crlf_append, h1]; simp
  rw [e]
  exact origin_roundtripC p rest stk hp hlen hne hrest

example : (∀ c ∈ List.replicate 70 (97 : UInt8), Origin.isBase c = true) ∧ (List.replicate 70 (97 : UInt8)).length < 10 ^ 9 ∧
    List.replicate 70 (97 : UInt8) ≠ [] := by
  refine ⟨by decide +kernel, by decide, by decide⟩

/-- **FEATURES in a CRLF file.**  The CRLF translation of the section `GenBank.String` writes for a
non-empty table, read by `genbankFeatureParser`: keys, locations, qualifier names, their order and
the registry as from the LF text (`features_roundtrip_canon`); every feature comes back as
`readFeatureC` — `readFeature` with the values written between quotes CRLF-translated. -/
theorem features_crlf (reg : Registry) (ft : QFeature) (fs : List QFeature) (rest : Bytes)
    (stk : List Bytes) (hw : tableWritable reg (ft :: fs) = true)
    (hloc : (ft :: fs).all (fun x => Loc.canonP x.loc) = true) (hrest : (sp 5).isPrefixOf rest = false) :
    ∃ t, tableText reg (ft :: fs) = .ok t ∧
      featuresField reg ⟨Origin.crlf (bs "FEATURES             Location/Qualifiers\n" ++ (t ++ [10])) ++ rest, stk⟩ =
        (.ok ((ft :: fs).map (readFeatureC reg), learnTable reg (ft :: fs)), ⟨rest, []⟩) :=
  features_roundtripC reg reg (sameText_refl reg) ft fs rest stk hw
    (fun x hx => locRTC_of_canon x.loc (List.all_eq_true.mp hloc x hx)) hrest

/-- non-vacuity: `fixedWitness'` (quoted, toggle, unknown, literal qualifiers) is in the domain -/
example : tableWritable Registry.default fixedWitness' = true ∧
    (fixedWitness'.all fun x => Loc.canonP x.loc) = true := by
  refine ⟨?_, by decide +kernel⟩
  rw [tableWritable_on (default_vecReg.sub (by decide +kernel))]
  decide +kernel

/-- **read (crlf (write r)), exactly.**  For every record of the domain `Writable reg r p` (the domain
of `read_write`: NO further clause — carriage returns inside field texts are excluded by `Writable`
already, because `pars.Line` ends a line at a lone CR in the LF text as well; inside quoted values
they are allowed and survive) whose locations are read back in front of a carriage return (`LocRTC`:
every canonical location, `locations_crlf_from_C06`): `GenBank.String` succeeds with a text `t`, and
`GenBankParser` run on the CRLF translation of `t` followed by ANY further text `rest'` returns the
record `readBackC reg r p`, consumes exactly the translated text and ends with the registry
`learnTable reg r.table` — the registry and the rest of the LF reading.  `readBackC` is `readBack`
with the table read as `readFeatureC`: header fields, keys, locations, qualifier names, literal and
toggle values and the residues are those of the LF reading; a value written between quotes is its
CRLF translation. -/
theorem read_write_crlf_exact (reg : Registry) (r : Record) (p : Bytes) (ho : r.origin = .residues p)
    (hw : Writable reg r p = true) (hloc : ∀ x ∈ r.table, LocRTC x.loc) (rest' : Bytes) :
    ∃ t, write reg r = .ok t ∧ t ≠ [] ∧
      genbankParser reg ⟨Origin.crlf t ++ rest', []⟩ =
        (.ok (readBackC reg r p, learnTable reg r.table), ⟨rest', []⟩) :=
  read_write_crlf_gen reg reg (sameText_refl reg) r p ho hw hloc rest'

/-- the witness of finding F36: one feature with a `/note` of two lines -/
def crlfWitness : Record :=
  ⟨{ Fields.empty with locusName := bs "X", molecule := bs "DNA", date := ⟨1, 1, 1⟩ },
   [⟨bs "gene", .point 0, [[bs "note", bs "a\nb"]]⟩], .residues []⟩

/-- `read_write_crlf`, FULL STATEMENT (false): "for every `Writable` record with canonical locations,
`GenBankParser` reads from the CRLF translation of the written text the SAME record as from the
written text".  Witness `crlfWitness` (in the decidable domain `WritableRecord` of `read_write_canon`):
the LF text gives the note `a\nb`, its CRLF translation gives `a\r\nb` — a carriage return inside the
value, which the next `GenBank.String` writes out again (`a\r\n` + indent + `b`) and every later
reading keeps.  Replayed on the real code: `gb.read (R () () ()) x<text>` answers `… x6e6f7465 x610a62 …`
for the text and `… x6e6f7465 x610d0a62 …` for its CRLF translation.  In a real GenBank file with CRLF
line ends every wrapped `/translation`, `/note`, `/product` … is read this way. -/
theorem read_write_crlf_full_refuted :
    WritableRecord Registry.default crlfWitness [] = true ∧
    ∃ t, write Registry.default crlfWitness = .ok t ∧
      (∃ rl rc g, genbankParser Registry.default ⟨t, []⟩ = (.ok (rl, g), ⟨[], []⟩) ∧
        genbankParser Registry.default ⟨Origin.crlf t, []⟩ = (.ok (rc, g), ⟨[], []⟩) ∧
        rl.table.map (·.props) = [[[bs "note", bs "a\nb"]]] ∧
        rc.table.map (·.props) = [[[bs "note", bs "a\r\nb"]]]) ∧
      (genbankParser Registry.default ⟨Origin.crlf t, []⟩).1 ≠ (genbankParser Registry.default ⟨t, []⟩).1 := by
  have v : AgreeOn (tableNames crlfWitness.table) Registry.default vecReg := default_vecReg.sub (by decide +kernel)
  have hwr : WritableRecord Registry.default crlfWitness [] = true := by
    rw [WritableRecord_on v]; decide +kernel
  refine ⟨hwr, ?_⟩
  obtain ⟨hw, hloc, hlocC⟩ := writableRecord_hyps _ _ _ hwr
  obtain ⟨t, h1, _, h2⟩ := GenBank.read_write Registry.default crlfWitness [] rfl hw hloc []
  obtain ⟨t', h1', _, h3⟩ := read_write_crlf_gen Registry.default Registry.default (sameText_refl _) crlfWitness []
    rfl hw hlocC []
  rw [h1] at h1'
  cases h1'
  simp only [List.append_nil] at h2 h3
  have hl : (readBack Registry.default crlfWitness []).table.map (·.props) = [[[bs "note", bs "a\nb"]]] := by
    rw [readBack_on v]; decide +kernel
  have hc : (readBackC Registry.default crlfWitness []).table.map (·.props) = [[[bs "note", bs "a\r\nb"]]] := by
    rw [readBackC_on v]; decide +kernel
  refine ⟨t, h1, ⟨_, _, _, h2, h3, hl, hc⟩, ?_⟩
  rw [h2, h3]
  intro e
  have e' : readBackC Registry.default crlfWitness [] = readBack Registry.default crlfWitness [] :=
    congrArg Prod.fst (Except.ok.inj e)
  have := congrArg (fun x : Record => x.table.map (·.props)) e'
  simp only [hl, hc] at this
  revert this
  decide +kernel

/-- non-vacuity of `read_write_crlf_exact`: the witness of the finding meets its hypotheses (the
theorem says what IS read from the CRLF text: the note `a\r\nb`) -/
example : Writable Registry.default crlfWitness [] = true ∧ (∀ x ∈ crlfWitness.table, LocRTC x.loc) ∧
    (readBackC Registry.default crlfWitness []).table.map (·.props) = [[[bs "note", bs "a\r\nb"]]] := by
  obtain ⟨hw, _, hlocC⟩ := writableRecord_hyps _ _ _ read_write_crlf_full_refuted.1
  exact ⟨hw, hlocC, by rw [readBackC_on (default_vecReg.sub (by decide +kernel))]; decide +kernel⟩

/-- **read (crlf (write r)) = read (write r), proved part** (guard `quotedOneLine reg r.table`,
decidable: no value that is written between quotes — its name registered as quoted, or unknown —
contains a line feed; literal values may).  For a `Writable` record with canonical locations:
`GenBankParser` on the CRLF translation of the written text, followed by any text `rest'`, returns
`readBack reg r p`, the registry `learnTable reg r.table` and leaves `rest'` — the very answer of
`read_write` for the LF text; the two runs are equal. -/
theorem read_write_crlf_partial (reg : Registry) (r : Record) (p : Bytes) (ho : r.origin = .residues p)
    (hw : WritableRecord reg r p = true) (quotedOneLine : quotedOneLine reg r.table = true) (rest' : Bytes) :
    ∃ t, write reg r = .ok t ∧
      genbankParser reg ⟨Origin.crlf t ++ rest', []⟩ =
        (.ok (readBack reg r p, learnTable reg r.table), ⟨rest', []⟩) ∧
      genbankParser reg ⟨Origin.crlf t ++ rest', []⟩ = genbankParser reg ⟨t ++ rest', []⟩ := by
  obtain ⟨hw, hloc, hlocC⟩ := writableRecord_hyps reg r p hw
  obtain ⟨t, h1, _, h2⟩ := GenBank.read_write reg r p ho hw hloc rest'
  obtain ⟨t', h1', _, h3⟩ := read_write_crlf_gen reg reg (sameText_refl reg) r p ho hw hlocC rest'
  rw [h1] at h1'
  cases h1'
  rw [readBackC_eq_readBack reg r p quotedOneLine] at h3
  exact ⟨t, h1, h3, by rw [h2, h3]⟩

/-- non-vacuity: `wrwWitness` (region, multi-line DEFINITION, quoted / toggle / unknown / literal
qualifiers, residues) meets the hypotheses of `read_write_crlf_partial`; `crlfWitness` meets all but
the guard -/
example : WritableRecord Registry.default wrwWitness (List.replicate 12 97) = true ∧
    quotedOneLine Registry.default wrwWitness.table = true ∧
    WritableRecord Registry.default crlfWitness [] = true ∧
    quotedOneLine Registry.default crlfWitness.table = false := by
  refine ⟨wrwWitness_writable, by rw [quotedOneLine_on wrwWitness_vec]; decide +kernel, read_write_crlf_full_refuted.1,
    by rw [quotedOneLine_on (default_vecReg.sub (by decide +kernel))]; decide +kernel⟩

/-- **Streams in a CRLF file, exactly** (framing, with learning).  `WriteSeq` for every record under
`reg`, the CRLF translation of the whole stream read by `GenBankParser` until the input is used up,
starting from any registry `reg'` that writes the same text as `reg` and carrying what each record
teaches to the next: exactly the records, each as `readBackC reg`, no error, and the final registry
`learnStream reg'` of the LF reading (`read_stream_learning_from`).  Every record is read from
exactly its own translated text. -/
theorem read_stream_crlf_exact (reg reg' : Registry) (hs : sameText reg reg') (rs : List (Record × Bytes))
    (hall : ∀ x ∈ rs, x.1.origin = .residues x.2 ∧ Writable reg x.1 x.2 = true ∧ (∀ f ∈ x.1.table, LocRTC f.loc)) :
    ∃ t, writeAll reg (rs.map (·.1)) = .ok t ∧
      readAll reg' (Origin.crlf t) =
        some (rs.map (fun x => readBackC reg x.1 x.2), learnStream reg' (rs.map (·.1)), true) :=
  read_stream_crlf_learning reg reg' hs rs hall

/-- **read_stream_crlf, proved part** (guard `quotedOneLine` for every record; the full statement
fails at the one-record stream `[crlfWitness]`, `read_write_crlf_full_refuted`): a stream of
`WritableRecord`s written with `WriteSeq` reads from its CRLF translation exactly as from the
written bytes — the same records (`readBack`), the same final registry, no error. -/
theorem read_stream_crlf_partial (reg reg' : Registry) (hs : sameText reg reg') (rs : List (Record × Bytes))
    (hall : ∀ x ∈ rs, x.1.origin = .residues x.2 ∧ WritableRecord reg x.1 x.2 = true ∧
      quotedOneLine reg x.1.table = true) :
    ∃ t, writeAll reg (rs.map (·.1)) = .ok t ∧
      readAll reg' (Origin.crlf t) =
        some (rs.map (fun x => readBack reg x.1 x.2), learnStream reg' (rs.map (·.1)), true) ∧
      readAll reg' (Origin.crlf t) = readAll reg' t := by
  have hyp := fun x (hx : x ∈ rs) => writableRecord_hyps reg x.1 x.2 (hall x hx).2.1
  obtain ⟨t, h1, h2⟩ := read_stream_crlf_learning reg reg' hs rs
    fun x hx => ⟨(hall x hx).1, (hyp x hx).1, (hyp x hx).2.2⟩
  obtain ⟨t', h1', h3⟩ := GenBank.read_stream_learning reg reg' hs rs
    fun x hx => ⟨(hall x hx).1, (hyp x hx).1, (hyp x hx).2.1⟩
  rw [h1] at h1'
  cases h1'
  have hmap : rs.map (fun x => readBackC reg x.1 x.2) = rs.map (fun x => readBack reg x.1 x.2) :=
    List.map_congr_left fun x hx => readBackC_eq_readBack reg x.1 x.2 (hall x hx).2.2
  rw [hmap] at h2
  exact ⟨t, h1, h2, by rw [h2, h3]⟩

/-- non-vacuity: the two records of `streamWitness` (the first teaches `my_tag`) meet the hypotheses
of `read_stream_crlf_partial` and of `read_stream_crlf_exact` -/
example : (∀ x ∈ streamWitness, x.1.origin = .residues x.2 ∧ WritableRecord Registry.default x.1 x.2 = true ∧
      quotedOneLine Registry.default x.1.table = true) ∧
    (∀ x ∈ streamWitness, x.1.origin = .residues x.2 ∧ Writable Registry.default x.1 x.2 = true ∧
      (∀ f ∈ x.1.table, LocRTC f.loc)) := by
  refine ⟨streamWitness_writable, fun x hx => ?_⟩
  obtain ⟨ho, hw, _⟩ := streamWitness_writable x hx
  exact ⟨ho, (writableRecord_hyps _ _ _ hw).1, (writableRecord_hyps _ _ _ hw).2.2⟩

/-! ## the REGENERATED writer (go2lean gwriter: `Gts/Gen/GenBankWrite.lean`, `Gts/Bridge/GenBankWrite.lean`)

`Bridge.genWrite reg r` is `GenBank.String` as it is re-read from seqio/genbank.go and seqio/insdc.go on every
run of the check (library calls instantiated as listed in `Gts/Bridge/GenBankWrite.lean`).  The two theorems
below restate the composition and the byte fixed point for THAT function: they stop checking when the code of
the writer changes what it writes. -/

theorem writable_date_valid (reg : Registry) (r : Record) (p : Bytes) (hw : Writable reg r p = true) :
    r.fields.date.valid = true := by
  have h := (writable_parts reg r p hw).1
  simp only [locusOk, Bool.and_eq_true] at h
  exact h.1.2

/-- **read (write r) for the regenerated writer**, decidable hypotheses only: for a record of the domain
`WritableRecord` the text that `GenBank.String` — as written in the tree — produces is read by `GenBankParser`,
followed by ANY further text, as `readBack reg r p`, consuming exactly that text. -/
theorem gen_read_write_canon (reg : Registry) (r : Record) (p : Bytes) (ho : r.origin = .residues p)
    (hw : WritableRecord reg r p = true) (rest' : Bytes) :
    ∃ t, Bridge.genWrite reg r = .ok t ∧
      genbankParser reg ⟨t ++ rest', []⟩ = (.ok (readBack reg r p, learnTable reg r.table), ⟨rest', []⟩) := by
  have hw1 : Writable reg r p = true := (writableRecord_hyps reg r p hw).1
  rw [Bridge.genWrite_eq reg r (writable_date_valid reg r p hw1)]
  exact read_write_canon reg r p ho hw rest'

/-- **write → read → write for the regenerated writer** (guard `namesAdjacent` as in
`write_read_write_partial`): the text `t` the code of the tree writes for a `Writable` record is read back
as `readBack reg r p` under the registry `learnTable reg r.table`, and the code of the tree writes THAT
record under THAT registry as `t` again, byte for byte. -/
theorem gen_write_read_write_partial (reg : Registry) (r : Record) (p : Bytes) (ho : r.origin = .residues p)
    (hw : Writable reg r p = true) (hloc : ∀ x ∈ r.table, LocRT x.loc)
    (namesAdjacent : tableAdjacent r.table = true) (rest' : Bytes) :
    ∃ t, Bridge.genWrite reg r = .ok t ∧
      genbankParser reg ⟨t ++ rest', []⟩ = (.ok (readBack reg r p, learnTable reg r.table), ⟨rest', []⟩) ∧
      Bridge.genWrite (learnTable reg r.table) (readBack reg r p) = .ok t := by
  have hv := writable_date_valid reg r p hw
  have hv' : (readBack reg r p).fields.date.valid = true := hv
  rw [Bridge.genWrite_eq reg r hv, Bridge.genWrite_eq _ _ hv']
  exact write_read_write_partial reg r p ho hw hloc namesAdjacent rest'

/-- non-vacuity: `wrwWitness` (region, multi-line DEFINITION, quoted / toggle / unknown / literal qualifiers,
residues) meets the hypotheses of `gen_read_write_canon` and `gen_write_read_write_partial`, and the regenerated
writer answers a text for it -/
example : wrwWitness.origin = .residues (List.replicate 12 97) ∧
    WritableRecord Registry.default wrwWitness (List.replicate 12 97) = true ∧
    tableAdjacent wrwWitness.table = true ∧
    ∃ t, Bridge.genWrite Registry.default wrwWitness = .ok t := by
  refine ⟨rfl, wrwWitness_writable, wrwWitness_adjacent, ?_⟩
  obtain ⟨t, h, _⟩ := gen_read_write_canon Registry.default wrwWitness (List.replicate 12 97) rfl wrwWitness_writable []
  exact ⟨t, h⟩

end Gts.C01
