/-
  C01 — closure under `gts.Slice` at the RECORD level (property theorems only; models:
  Gts/Model/GbSlice.lean, GbSliceRec.lean, Seq.lean; helper lemmas: Gts/Lemmas/GbSlice*.lean).

  `sliceRecord F s a b` is the GenBank record `gts.Slice(record, a, b)` returns for the record with
  header `F`, table `s.feats` and residues `s.bytes`:
    header    `sliceHeader` = `GenBankFields.Slice(w)` + `WithTopology(Linear)`: REGION := the window `w`
              (set, not composed), every REFERENCE whose `(bases x to y; …)` info parses clipped to the
              window, re-based, dropped when disjoint; unparsable infos kept; numbers `1..m`
    window    `w = sliceWindow L a b`: the normalised indices, or `(0, L - a + b)` behind the rotation of
              a wrap-around window (the header is NOT rotated: `GenBankFields` has no `Shift`)
    the rest  `Seq.slice` (C03)
  `slice_is_generated` ties this record to the code regenerated from sequence.go.
-/
import Gts.Lemmas.GbSliceFixed
import Gts.Bridge.SeqSlice
import Gts.Lemmas.BsLit
import Gts.Lemmas.GbRegistryOn
namespace Gts.C01
open Gts Gts.Pars Gts.GenBank

/-- **The integers `GenBankFields.Slice` prints.**  The model prints the clipped bounds with Lean's
`toString` (`intBytes`); that is `strconv.Itoa` / `%d` as the writer and reader models have it
(`itoaB`: the decimal digits, a leading `-` for negatives) — for every `Int`. -/
theorem slice_numbers_are_itoa (n : Int) : intBytes n = itoaB n := GbSliceInt.intBytes_eq n

example : intBytes 0 = [48] ∧ intBytes 1000000000 = bs "1000000000" ∧ intBytes (-12) = bs "-12" := by
  decide +kernel

/-- **Reference info round trip.**  For every counter word `pref` and every non-empty list of ranges
`[s, e)` with `1 ≤ s+1 ≤ e ≤ 2^63-1` (`RangeOk`), the text
`"(" pref " " s₁+1 " to " e₁ "; " s₂+1 " to " e₂ … ")"` that `GenBankFields.Slice` builds with
`fmt.Sprintf("%d to %d", head+1, tail)` / `strings.Join(ss, "; ")` is read back by
`parseReferenceInfo(pref)` as exactly those ranges. -/
theorem refinfo_roundtrip (pref : Bytes) (rs : List (Int × Int)) (hne : rs ≠ [])
    (h : ∀ r ∈ rs, 0 ≤ r.1 ∧ r.1 < r.2 ∧ r.2 ≤ 9223372036854775807) :
    parseRefInfo pref (fmtRanges pref rs) = some rs :=
  GbSliceRef.parseRefInfo_fmtRanges pref rs hne h

/-- non-vacuity: one-digit, nine-digit and 19-digit bounds, three ranges; the printed text -/
example :
    (∀ r ∈ [((0 : Int), (1 : Int)), (8, 999999999), (999999999, 9223372036854775807)],
      0 ≤ r.1 ∧ r.1 < r.2 ∧ r.2 ≤ 9223372036854775807) ∧
    fmtRanges (bs "bases") [(0, 1), (8, 999999999), (999999999, 9223372036854775807)] =
      bs "(bases 1 to 1; 9 to 999999999; 1000000000 to 9223372036854775807)" := by
  repeat rw [bs_ofList]
  decide +kernel

/-- **What `Slice` writes into a reference re-parses.**  Non-empty window `[a, b)` of at most
`2^63-1` residues, an info that `parseReferenceInfo` reads as `locs`, at least one of them
overlapping the window: `Slice` replaces the info by the text of the overlapping ranges clipped to
the window and re-based (`clipRange`), and `parseReferenceInfo` reads THAT text back as exactly these
ranges — so slicing a sliced record again sees the clipped ranges. -/
theorem sliced_refinfo_reparses (pref info : Bytes) (a b : Int) (locs : List (Int × Int)) (hab : a < b)
    (hfit : b - a ≤ 9223372036854775807) (hp : parseRefInfo pref info = some locs)
    (hol : (locs.filter fun r => Loc.rangeOverlap r.1 r.2 a b) ≠ []) :
    ∃ i, sliceRefInfo pref a b info = some i ∧
      i = fmtRanges pref ((locs.filter fun r => Loc.rangeOverlap r.1 r.2 a b).map (clipRange a b)) ∧
      parseRefInfo pref i = some ((locs.filter fun r => Loc.rangeOverlap r.1 r.2 a b).map (clipRange a b)) :=
  GbSliceRef.sliceRefInfo_reparse pref info a b locs hab hfit hp hol

/-- non-vacuity: a window touching a range end (`[4, 10)` against `1 to 5`), a range outside, a range
across the window end -/
example :
    parseRefInfo (bs "bases") (bs "(bases 1 to 5; 20 to 30; 8 to 15)") = some [(0, 5), (19, 30), (7, 15)] ∧
    sliceRefInfo (bs "bases") 4 10 (bs "(bases 1 to 5; 20 to 30; 8 to 15)") = some (bs "(bases 1 to 1; 4 to 6)") ∧
    sliceRefInfo (bs "bases") 5 10 (bs "(bases 1 to 5)") = none := by
  repeat rw [bs_ofList]
  decide +kernel

/-- **The kept references are numbered `1..m`** (`refs[i].Number = i + 1`), whatever their numbers
were. -/
theorem sliced_references_numbered (pref : Bytes) (a b : Int) (refs : List Reference) (k : Nat)
    (hk : k < (sliceReferences pref a b refs).length) :
    ((sliceReferences pref a b refs)[k]).number = (k : Int) + 1 := by
  unfold sliceReferences renumberRefs at hk ⊢
  simp only [List.getElem_map, List.getElem_zipIdx, Nat.zero_add]

/-- the metadata operations `gts.Slice` reaches through `trySlice` / `WithTopology` when the
sequence is a `seqio.GenBank`: `GenBankFields` implements `Slice` and neither `Shift` nor `Expand`
(`nilInfo`, the `nil` of `gts.New(nil, nil, nil)`, is not used by `Slice`) -/
def gbInfoOps : Gen.InfoOps Fields :=
  ⟨fun f _ _ => f, fun f _ _ => f, Fields.slice, Fields.withTopology, Fields.empty⟩

/-- **`sliceRecord` is what the code does.**  `Gen.seqSlice` is `gts.Slice` as regenerated from
sequence.go on every run (statement by statement; `Bridge/SeqSlice.lean`).  Run on a GenBank record —
metadata operations `gbInfoOps` — with a window of `sliceWindowOk` (forward inside the sequence, or
wrap-around on a non-empty sequence with `0 ≤ L - a + b`) it returns, without panic, exactly the
header, table and residues of `sliceRecord`: in particular the header is sliced with the window
`sliceWindow` — `(0, L - a + b)` behind the rotation — and made linear.  (Fuel: the recursion depth of
`Slice` calling itself, 2, and the literal loop of `Rotate`.) -/
theorem slice_is_generated (F : Fields) (s : Seq) (a b : Int) (fuel : Nat)
    (hwin : sliceWindowOk s.len a b = true) (hf : sliceIndex s.len a ≤ fuel + 1) :
    Gen.seqSlice gbInfoOps (fuel + 2) F s.feats s.bytes a b =
      .ok (sliceHeader F s.len a b, (s.slice a b).feats, (s.slice a b).bytes) ∧
    sliceRecord F s a b = ofSeq (sliceHeader F s.len a b) (s.slice a b) := by
  refine ⟨?_, rfl⟩
  have hn : ∀ x, Bridge.sliceNorm s.len x = sliceIndex s.len x := fun _ => rfl
  by_cases hc : sliceIndex s.len b < sliceIndex s.len a
  · simp only [sliceWindowOk, hc, if_true, decide_eq_true_eq] at hwin
    rw [Bridge.seqSlice_wrap gbInfoOps fuel F s a b hc hwin.1 hwin.2 hf]
    simp only [hn, sliceHeader, sliceWindow, hc, if_true, gbInfoOps]
  · simp only [sliceWindowOk, hc, if_false, decide_eq_true_eq] at hwin
    rw [Bridge.seqSlice_fwd gbInfoOps (fuel + 1) F s a b (Int.not_lt.mp hc) hwin]
    simp only [hn, sliceHeader, sliceWindow, hc, if_false, gbInfoOps]

/-- a record with three references (one clipped, one without base ranges, one outside the window), an
accession, a `source` and a `gene` feature and twelve residues; the windows used below: forward
`[2, 8)`, wrap-around `(9, 3)` -/
def sliceF : Fields :=
  { Fields.empty with
    locusName := bs "X", molecule := bs "DNA", topology := 1, date := ⟨2020, 2, 29⟩, accession := bs "AB000001",
    references := [⟨1, bs "(bases 1 to 12)", bs "A,B.", [], bs "T", [], none, []⟩,
                   ⟨2, bs "(sites)", [], [], [], bs "J", none, []⟩,
                   ⟨3, bs "(bases 9 to 12)", [], [], [], [], some (bs "1"), []⟩] }

def sliceS : Seq :=
  ⟨[⟨"source", .ranged 0 12 false false, [["organism", "x"]]⟩, ⟨"gene", .ranged 2 5 false false, [["gene", "g"]]⟩],
   [97, 99, 103, 116, 97, 99, 103, 116, 97, 99, 103, 116]⟩

example : sliceWindowOk sliceS.len 2 8 = true ∧ sliceWindowOk sliceS.len 9 3 = true ∧
    sliceWindowOk sliceS.len (-4) (-1) = true ∧ sliceWindowOk sliceS.len 5 13 = false ∧
    sliceWindow sliceS.len 2 8 = (2, 8) ∧ sliceWindow sliceS.len 9 3 = (0, 6) ∧ sliceWindow sliceS.len (-4) (-1) = (8, 11) := by
  decide

/-- the sliced header of the witness: region, the references `(bases 1 to 6)` and `(sites)` numbered
1, 2, the third one dropped, topology linear -/
example : (sliceHeader sliceF sliceS.len 2 8).region = some (2, 8) ∧
    (sliceHeader sliceF sliceS.len 2 8).topology = 0 ∧
    (sliceHeader sliceF sliceS.len 2 8).references.map (fun r => (r.number, r.info)) =
      [(1, bs "(bases 1 to 6)"), (2, bs "(sites)")] ∧
    (sliceHeader sliceF sliceS.len 9 3).references.map (fun r => (r.number, r.info)) =
      [(1, bs "(bases 1 to 6)"), (2, bs "(sites)")] ∧
    (sliceRecord sliceF sliceS 9 3).origin = .residues [99, 103, 116, 97, 99, 103] := by
  decide +kernel

/-- **Closure of `Writable` under `gts.Slice`, proved part.**  For every record of the domain
(`Writable reg (ofSeq F s) s.bytes`) and EVERY window of `sliceWindowOk` (forward windows
`0 ≤ a ≤ b ≤ L` — negative indices counted from the end — and wrap-around windows with `0 ≤ L - a + b`), the record
`gts.Slice` returns is in the domain again (its residues are the sliced residues, its LOCUS length their
count — third conjunct).  Field by field: the LOCUS length is the new residue
count (a count below the old one: `0 ≤ · < 10^9`), the topology linear; the ACCESSION line with the
new ` REGION: a+1..b` suffix is one line (`itoaB` prints digits); every kept REFERENCE has a number in
`1..m`, a one-line info — the old one, or `(bases x to y; …)`, which starts with `(` — and its
sub-fields unchanged; the table keeps key and `Props` of features of the old table; the residues are
residues of the old record.
Guards: `renumberOk` (at most 99 references, or no info starting with a digit and a count inside Go's
`int` — see `writable_slice_full_refuted`), and — as for `writable_delete` — residues remain or the
record has no CONTIG (an empty window leaves the LOCUS length to the CONTIG region, whose size
`Writable` does not bound once there are residues).
FULL STATEMENT (false, `writable_slice_full_refuted`):
  `Writable reg (ofSeq F s) s.bytes → sliceWindowOk s.len a b → Writable reg (sliceRecord F s a b) (s.slice a b).bytes`.
What is missing for it is not a proof but a repair: `Slice` renumbers without looking at the info. -/
theorem writable_slice_partial (reg : Registry) (F : Fields) (s : Seq) (a b : Int)
    (hw : Writable reg (ofSeq F s) s.bytes = true) (_hwin : sliceWindowOk s.len a b = true)
    (renumberGuard : renumberOk F.references = true)
    (hne : 0 < (s.slice a b).bytes.length ∨ F.contigAcc.isEmpty = true) :
    Writable reg (sliceRecord F s a b) (s.slice a b).bytes = true ∧
    (sliceRecord F s a b).origin = .residues (s.slice a b).bytes ∧
    locusLength (sliceRecord F s a b).fields (s.slice a b).bytes =
      (if (s.slice a b).bytes.isEmpty then contigLen F else ((s.slice a b).bytes.length : Int)) :=
  ⟨writable_sliceRecord reg F s a b hw renumberGuard hne, rfl, rfl⟩

/-- non-vacuity: the witness meets every hypothesis for a forward, a wrap-around and an EMPTY window
(no CONTIG) -/
example : Writable Registry.default (ofSeq sliceF sliceS) sliceS.bytes = true ∧
    renumberOk sliceF.references = true ∧ sliceF.contigAcc.isEmpty = true ∧
    sliceWindowOk sliceS.len 5 5 = true ∧ (sliceS.slice 5 5).bytes = [] ∧
    0 < (sliceS.slice 2 8).bytes.length ∧ 0 < (sliceS.slice 9 3).bytes.length := by
  rw [Writable_on (default_vecReg.sub (by decide +kernel))]
  decide +kernel

/-- a header with 100 references whose info starts with a digit (as read from `REFERENCE   1  5 x`) -/
def manyRefsF : Fields :=
  { Fields.empty with
    locusName := bs "X", molecule := bs "DNA", date := ⟨2020, 2, 29⟩,
    references := List.replicate 100 ⟨1, bs "5 x", [], [], [], [], none, []⟩ }

/-- FULL STATEMENT of the closure (false): "the slice of every `Writable` record is `Writable`".
`GenBankFields.Slice` renumbers the kept references `1..m` without looking at their info; the writer
puts no blank between a number of three or more digits and the info (761240c).  Witness: 100
references `REFERENCE   1  5 x` (number 1, info `5 x`, unparsable, kept): the record is `Writable`,
the window `[0, 1)` of its two residues is a forward window, and in the sliced record reference 100
has the info `5 x` — written `REFERENCE   1005 x`, read back as number 1005 with the info ` x`. -/
theorem writable_slice_full_refuted :
    Writable Registry.default (ofSeq manyRefsF ⟨[], [97, 99]⟩) [97, 99] = true ∧
    sliceWindowOk 2 0 1 = true ∧
    Writable Registry.default (sliceRecord manyRefsF ⟨[], [97, 99]⟩ 0 1) (Seq.slice ⟨[], [97, 99]⟩ 0 1).bytes = false ∧
    renumberOk manyRefsF.references = false ∧
    ((sliceRecord manyRefsF ⟨[], [97, 99]⟩ 0 1).fields.references.getLast?.map fun r => refHead r) =
      some (bs "REFERENCE   1005 x") := by
  decide +kernel

/-- … and what the round trip makes of it: the hundredth reference of the sliced witness has the
number 100 and the info `5 x`; its REFERENCE block is written `REFERENCE   1005 x`, and
`genbankReferenceParser` reads from that block the number 1005 and the info ` x`.  (The whole record
goes to the real code and to the model on every run: harness case `slice/renumber-to-3-digits`; the
text is still a write → read → write fixed point.) -/
theorem sliced_reference_misread :
    ((sliceRecord manyRefsF ⟨[], [97, 99]⟩ 0 1).fields.references.getLast?.map fun r => (r.number, r.info)) =
      some (100, bs "5 x") ∧
    referenceText ⟨100, bs "5 x", [], [], [], [], none, []⟩ = .ok (bs "REFERENCE   1005 x\n") ∧
    (referenceField 12 Fields.empty ⟨bs "REFERENCE   1005 x\n//\n", []⟩).1 =
      .ok ({ Fields.empty with references := [⟨1005, bs " x", [], [], [], [], none, []⟩] }, true) := by
  unfold manyRefsF
  repeat rw [bs_ofList]
  decide +kernel

/-- **read (write (slice r)), exactly — K1A stated positively, for every window.**  For a `Writable`
record, a window of `sliceWindowOk` and the guards of `writable_slice_partial`, with canonical
locations in the sliced table (C06; that `Slice` keeps locations canonical is not a theorem):
`GenBank.String` of the sliced record succeeds with a text `t`, and `GenBankParser` reads from `t`
followed by ANY text the record
  header   = the sliced header with `Accession := accession ++ " REGION: " ++ a+1 ".." b`
             (`regionSuffix`: the window as `gts.Range` prints it; nothing for an empty window) and
             `Region := none`,
  table    = the sliced table feature by feature (`readFeature`),
  residues = the written ORIGIN block of the sliced residues,
consuming exactly `t` and ending with the registry `learnTable reg table`. -/
theorem read_write_sliced_exact (reg : Registry) (F : Fields) (s : Seq) (a b : Int)
    (hw : Writable reg (ofSeq F s) s.bytes = true) (hwin : sliceWindowOk s.len a b = true)
    (renumberGuard : renumberOk F.references = true)
    (hne : 0 < (s.slice a b).bytes.length ∨ F.contigAcc.isEmpty = true)
    (hcanon : ((sliceRecord F s a b).table.all fun f => Loc.canonP f.loc) = true) (rest' : Bytes) :
    ∃ t, write reg (sliceRecord F s a b) = .ok t ∧
      genbankParser reg ⟨t ++ rest', []⟩ =
        (.ok (⟨slicedHeaderRead F s.len a b, (sliceRecord F s a b).table.map (readFeature reg),
                if (s.slice a b).bytes.isEmpty then .buffer [] else .buffer (Origin.originStream (s.slice a b).bytes)⟩,
              learnTable reg (sliceRecord F s a b).table), ⟨rest', []⟩) ∧
      (slicedHeaderRead F s.len a b).accession = F.accession ++ regionSuffix (sliceWindow s.len a b) ∧
      (slicedHeaderRead F s.len a b).region = none ∧
      (slicedHeaderRead F s.len a b).references = (sliceHeader F s.len a b).references := by
  obtain ⟨hw', ho, _⟩ := writable_slice_partial reg F s a b hw hwin renumberGuard hne
  obtain ⟨t, h1, _, h2⟩ := GenBank.read_write reg (sliceRecord F s a b) (s.slice a b).bytes ho hw'
    (fun x hx => locRT_of_canon x.loc (List.all_eq_true.mp hcanon x hx)) rest'
  rw [readBack_sliceRecord] at h2
  exact ⟨t, h1, h2, rfl, rfl, rfl⟩

/-- non-vacuity: the witness with its forward and its wrap-around window meets the hypotheses; the
suffixes the reader moves into the accession -/
example : ((sliceRecord sliceF sliceS 2 8).table.all fun f => Loc.canonP f.loc) = true ∧
    ((sliceRecord sliceF sliceS 9 3).table.all fun f => Loc.canonP f.loc) = true ∧
    (slicedHeaderRead sliceF sliceS.len 2 8).accession = bs "AB000001 REGION: 3..8" ∧
    (slicedHeaderRead sliceF sliceS.len 9 3).accession = bs "AB000001 REGION: 1..6" ∧
    (slicedHeaderRead sliceF sliceS.len 5 5).accession = bs "AB000001" := by
  decide +kernel

/-- FULL STATEMENT of fidelity for sliced records (false, for EVERY record and EVERY window): "the
record read from the written sliced record has the same header fields".  Under the hypotheses of
`read_write_sliced_exact` the reader returns a record whose header differs from the sliced header:
its region is gone, and for a non-empty window its accession is longer (known finding K1A). -/
theorem read_write_sliced_full_refuted (reg : Registry) (F : Fields) (s : Seq) (a b : Int)
    (hw : Writable reg (ofSeq F s) s.bytes = true) (hwin : sliceWindowOk s.len a b = true)
    (renumberGuard : renumberOk F.references = true)
    (hne : 0 < (s.slice a b).bytes.length ∨ F.contigAcc.isEmpty = true)
    (hcanon : ((sliceRecord F s a b).table.all fun f => Loc.canonP f.loc) = true) (rest' : Bytes) :
    ∃ t r' reg', write reg (sliceRecord F s a b) = .ok t ∧
      genbankParser reg ⟨t ++ rest', []⟩ = (.ok (r', reg'), ⟨rest', []⟩) ∧
      r'.fields ≠ (sliceRecord F s a b).fields ∧ r'.fields.region = none ∧
      (sliceRecord F s a b).fields.region = some (sliceWindow s.len a b) ∧
      ((sliceWindow s.len a b).1 < (sliceWindow s.len a b).2 → r'.fields.accession ≠ F.accession) := by
  obtain ⟨t, h1, h2, _⟩ := read_write_sliced_exact reg F s a b hw hwin renumberGuard hne hcanon rest'
  refine ⟨t, _, _, h1, h2, ?_, rfl, rfl, ?_⟩
  · intro e
    have := congrArg Fields.region e
    exact absurd this (by simp [slicedHeaderRead, sliceRecord, ofSeq, sliceHeader, Fields.slice, Fields.withTopology])
  · intro hlt e
    have hnot : ¬ (sliceWindow s.len a b).2 ≤ (sliceWindow s.len a b).1 := by omega
    have : (F.accession ++ regionSuffix (sliceWindow s.len a b)).length = F.accession.length := congrArg List.length e
    simp [regionSuffix, hnot, bs] at this

/-- the witness by evaluation: the header the reader returns for the window `[2, 8)` is not the sliced
header -/
example : slicedHeaderRead sliceF sliceS.len 2 8 ≠ sliceHeader sliceF sliceS.len 2 8 := by decide +kernel

/-- **Byte fixed point for sliced records, every window**:
`write (read (write (slice r))) = write (slice r)`.  Under the hypotheses of
`read_write_sliced_exact` and the adjacency guard of `write_read_write_partial` on the ORIGINAL table
(`Slice` carries every `Props` along unchanged): `GenBank.String` of the sliced record gives `t`;
`GenBankParser` reads from `t` (followed by anything) the record of `read_write_sliced_exact` and ends
with the registry `reg'`; `GenBank.String` of THAT record under `reg'` is `t` again, byte for byte —
the REGION suffix that moved into the accession prints the same ACCESSION line. -/
theorem write_read_write_sliced (reg : Registry) (F : Fields) (s : Seq) (a b : Int)
    (hw : Writable reg (ofSeq F s) s.bytes = true) (hwin : sliceWindowOk s.len a b = true)
    (renumberGuard : renumberOk F.references = true)
    (hne : 0 < (s.slice a b).bytes.length ∨ F.contigAcc.isEmpty = true)
    (hcanon : ((sliceRecord F s a b).table.all fun f => Loc.canonP f.loc) = true)
    (namesAdjacent : tableAdjacent (ofSeq F s).table = true) (rest' : Bytes) :
    ∃ t r' reg', write reg (sliceRecord F s a b) = .ok t ∧
      genbankParser reg ⟨t ++ rest', []⟩ = (.ok (r', reg'), ⟨rest', []⟩) ∧
      r'.fields = slicedHeaderRead F s.len a b ∧
      write reg' r' = .ok t := by
  obtain ⟨hw', ho, _⟩ := writable_slice_partial reg F s a b hw hwin renumberGuard hne
  obtain ⟨t, h1, h2, _⟩ := read_write_sliced_exact reg F s a b hw hwin renumberGuard hne hcanon rest'
  refine ⟨t, _, _, h1, h2, rfl, ?_⟩
  have hlen : (s.slice a b).bytes.length < 10 ^ 9 := (writable_parts reg _ _ hw').2.2.2.2.2.2.2
  rw [← readBack_sliceRecord, write_readBack reg _ (sameText_learnTable reg reg _ (sameText_refl reg))
    (sliceRecord F s a b) _ ho hlen (tableAdjacent_slice F _ s a b namesAdjacent), h1]

/-- non-vacuity: the witness meets the adjacency guard -/
example : tableAdjacent (ofSeq sliceF sliceS).table = true := by decide +kernel

end Gts.C01
