/-
  C07 — parsers are total: malformed input gives an error, never a panic or hang.
  Property theorems only (helpers: Gts/Lemmas/ParsSafe*.lean, Fuel.lean, Date.lean, SelShift.lean;
  regenerated tables: Gts/Bridge/Tables.lean; panic-site inventory: Gts/Bridge/PanicSites.lean).

  What is proved here, for ALL byte strings, about the hand-written models of the STRING parsers
  (`gts.AsLocation` / `ParseLocation`, `AsModifier`, `tryLocation` / `AsLocator`,
  `shiftSelector` / `Selector`, `seqio.AsDate`, `gts.AsMolecule`, `gts.AsTopology`):

  * NO PANIC.  The `pars` model has one run-time panic, the slice expression of `pars.Trail`
    when a saved position lies behind the current one; several gts parsers leak stack frames or
    return without `Pop`.  The invariant `Pars.Sorted` (every saved position is at or before every
    younger one and the current one) is kept by every primitive, and the frame invariant `Pars.Fr`
    shows that parsers only ever leak frames, never pop one of their caller's: the panic branch is
    unreachable — from the empty stack, and from any sorted state (the state in which the feature
    table parser calls `ParseLocation`).
  * NO HANG.  All model functions are total Lean definitions (structural or well-founded
    recursion).  The location parsers carry recursion fuel; `*_fuel_stable` is the explicit
    measure argument: every recursive call and every loop iteration has consumed input, so with
    fuel greater than the number of bytes left the outcome does not depend on the fuel ("out of
    fuel" never shows up as a spurious error).
  * ERRORS ARE VALUES.  `asDate` accepts exactly calendar dates and reads back every date stamp
    the writer prints.

  THE RECORD SCANNERS (`seqio.GenBankParser` with `genbankLocusParser`, every field sub-parser,
  `tryAllParsers`, the ORIGIN reader, `INSDCTableParser`; model: Gts/Model/GenBankParse.lean,
  InsdcParse.lean, Origin.lean; lemmas: Gts/Lemmas/ParsSorted.lean, GbSafe*.lean, ParsProgress.lean,
  GbProgress.lean, GbFuel.lean, GbOriginDecode.lean, FastaScan.lean):

  * NO PANIC, for EVERY byte string and every registry, from every sorted state
    (`genbankParser_nopanic`, `readAll_nopanic`, `table_nopanic`, `originField_nopanic`,
    `validateOrigin_nopanic`; the `_partial` forms carry the bound of 10^9 bytes that was needed
    before be672b0).  The field parsers `Clear` the stack and `Pop` on a possibly empty one, so the
    frame invariant `Fr` of the string parsers is replaced by the forward invariant `Pars.Fw` "the
    saved positions sorted, the young ones bounded" (all of them young: the S-invariant `Fr L [] 0`),
    under which every field parser is taken apart once (`Pars.Fwd`); `patchFrames` (the DEFINITION body joined in place) keeps
    every frame's length because the LOCUS parser reports an indent of at least five columns.  The
    ORIGIN reader's three panic sites need the range check of `GenBankParser` and the guard
    `length ≤ 1000000020` of be672b0, which is EXACTLY the largest length whose line indices fit
    nine columns (`validateOrigin_nopanic` for `≤ 1000000020`, `validateOrigin_wide_index_panics`
    at 1000000021).
  * INTERNAL CONSISTENCY (`genbank_length_consistent`, `genbank_sequence_decodes`,
    `originField_decodes`, `accepted_block_is_written`): a returned record has
    declared length = `Origin.Len()` = number of residues `Origin.Bytes()` decodes (no panic), or
    no sequence at all next to a CONTIG line — for every declared length.
  * FUEL (`bodyMore_fuel_stable`, `taxonMore_fuel_stable`, `dblinkMore_fuel_stable`,
    `parseAll_fuel_stable`, `recordLoop_fuel_stable`, `recordLoop_fuel_full`,
    `genbankParser_loop_fuel`, `recordLoop_fuel_partial`): any two fuels above the bytes left give
    the same outcome and final state, for the record loop from any sorted state (since 66de3a0; the
    forward invariant `Pars.Fw`: no sub-parser pops a saved position that is older than its own
    entry).  That the record loop makes at most `bytes left + 1` iterations is
    `recordLoop_iterations_le` (Gts/Props/C07Fuel.lean).

  PARTIAL, named as such (DESIGN.md section 6, C07):
  * "time proportional to the input" is NOT a Lean theorem.  What is proved is termination with an
    explicit measure and a linear bound on the ITERATIONS of the record loop and of the scan loop;
    the work inside one iteration (eleven sub-parsers, each of which may read ahead over
    continuation lines and restore) is not counted here (Gts/Props/C07Fuel.lean counts it: two
    shapes of accepted records were quadratic, both repaired in /repo, a4b3f5d and 2612fae; no
    general bound is proved).
  * stack exhaustion of the Go run time on deeply nested `complement(` and the memory held by
    leaked `Push` frames are below the level of the model; they are covered by the depth sweep of
    the harness (recorded in the evidence), not by a theorem.
  * the loops of the qualifier and feature-table readers (`qualifiers`, `tableMore`,
    `literalMore`), `refSubfields` and every other fuelled loop have their fuel theorems in
    Gts/Props/C07Fuel.lean, with `genbankParser_fuel_free` (every fuel of the reader at once) and
    the cost-counting reading (`steps_linear_full_refuted`: the prefix loop of
    `quotedQualifierParser` before 2612fae had no linear bound; `steps_prefix_loop_linear`: the
    loop of today has one).
  * the FASTA scanner is covered on its modelled fragment (`fasta_scan_nopanic`); K7C is about
    content, not panics.
-/
import Gts.Lemmas.Fuel
import Gts.Lemmas.Date
import Gts.Lemmas.SelShift
import Gts.Model.MolTop
import Gts.Bridge.Tables
import Gts.Bridge.PanicSites
import Gts.Lemmas.GbFuel
import Gts.Lemmas.GbOriginDecode
import Gts.Lemmas.FastaScan
import Gts.Lemmas.BsLit
namespace Gts.C07
open Gts Pars

def cls {α} : Except Err α → Nat
  | .ok _ => 0
  | .error .fail => 1
  | .error .panic => 2

/-- `ParseLocation`, entered in any state whose saved positions are sorted (in particular with an
empty stack), at any fuel: never the `Trail` panic; the final state is sorted again and not
before the entry position. -/
theorem loc_total (fuel : Nat) (s : PS) (hs : Sorted s.rest.length s.stk) :
    ((LocParse.loc fuel).run' s).1 ≠ .error .panic ∧
      Sorted ((LocParse.loc fuel).run' s).2.rest.length ((LocParse.loc fuel).run' s).2.stk ∧
      ((LocParse.loc fuel).run' s).2.rest.length ≤ s.rest.length :=
  let h := loc_safe fuel _ _ _ s (Fr.init hs)
  ⟨h.1, h.2.srt, h.2.le⟩

/-- `AsLocation(s)` / `ParseLocation` on a fresh state never panics, for every byte string. -/
theorem parseLocation_nopanic (bs : Bytes) : parseLocation bs ≠ .error .panic := by
  have h := (loc_safe (bs.length + 2)).fresh bs
  unfold parseLocation
  cases hr : (LocParse.loc (bs.length + 2)).run' ⟨bs, []⟩ with
  | mk r s =>
    rw [hr] at h
    cases r with
    | ok l => intro h'; cases h'
    | error e =>
      cases e with
      | fail => intro h'; cases h'
      | panic => exact absurd rfl h

/-- Fuel adequacy of `ParseLocation` (termination measure = bytes left): with more fuel than bytes
left, any larger fuel gives the same outcome and the same final state. -/
theorem loc_fuel_stable (s : PS) (hs : Sorted s.rest.length s.stk) (n m : Nat)
    (hn : s.rest.length < n) (hnm : n ≤ m) :
    (LocParse.loc n).run' s = (LocParse.loc m).run' s :=
  Pars.loc_fuel_stable s hs n m hn hnm

/-- the fuel `length + 2` that `parseLocation` uses is adequate: no larger fuel changes the answer -/
theorem parseLocation_fuel (bs : Bytes) (m : Nat) (hm : bs.length + 2 ≤ m) :
    (LocParse.loc m).run' ⟨bs, []⟩ = (LocParse.loc (bs.length + 2)).run' ⟨bs, []⟩ :=
  (Pars.loc_fuel_stable ⟨bs, []⟩ trivial (bs.length + 2) m (by show bs.length < _; omega) hm).symm

/-- `multipleLocationParser` never returns an empty list, so the explicit
`panic("Join without arguments is not allowed")` / `panic("Order without …")` of `Join` / `Order`
is not reachable from `parseJoin` / `parseOrder` (the model's `Loc.join []` stands for that panic). -/
theorem multiple_nonempty (fuel : Nat) (s s' : PS) (ls : List Loc)
    (h : (LocParse.multiple fuel).run' s = (.ok ls, s')) : ls ≠ [] :=
  Pars.multiple_nonempty fuel s s' ls h

/-- `AsModifier(s)` never panics. -/
theorem asModifier_nopanic (bs : Bytes) : asModifier bs ≠ .error .panic := by
  unfold asModifier
  exact (exact_safe _ parseModifier_safe).fresh bs

/-- `tryLocation(s)` never panics. -/
theorem tryLocation_nopanic (bs : Bytes) : tryLocation bs ≠ .error .panic := by
  unfold tryLocation
  exact (exact_safe _ (tryLoc_safe _)).fresh bs

/-- fuel adequacy of the recursive parser of `tryLocation` (each `complement(` consumes 11 bytes) -/
theorem tryLoc_fuel_stable (s : PS) (hs : Sorted s.rest.length s.stk) (n m : Nat)
    (hn : s.rest.length < n) (hnm : n ≤ m) :
    (LocParse.tryLoc n).run' s = (LocParse.tryLoc m).run' s :=
  Pars.tryLoc_fuel_stable s hs n m hn hnm

def isPanic : LocatorDesc → Bool
  | .panic => true
  | _ => false

theorem asLocatorBare_nopanic (selOk : Bytes → Bool) (s : Bytes) :
    isPanic (asLocatorBare selOk s) = false := by
  unfold asLocatorBare
  have hm := asModifier_nopanic s
  have hl := tryLocation_nopanic s
  generalize asModifier s = rm at hm ⊢
  generalize tryLocation s = rl at hl ⊢
  rcases rm with (_ | _) | m
  · dsimp only
    rcases rl with (_ | _) | l
    · dsimp only; cases selOk s <;> rfl
    · exact absurd rfl hl
    · rfl
  · exact absurd rfl hm
  · rfl

/-- `AsLocator(s)` never panics (whatever `regexp.Compile` says about the selector's queries: a
compile error makes `Selector`, hence `AsLocator`, return an error). -/
theorem asLocator_nopanic (selOk : Bytes → Bool) (s : Bytes) :
    isPanic (asLocator selOk s) = false := by
  unfold asLocator
  generalize splitAt s = sp
  rcases sp with ⟨hd, _ | tl⟩
  · dsimp only
    exact asLocatorBare_nopanic selOk s
  · have hm := asModifier_nopanic tl
    cases hd with
    | nil =>
      dsimp only
      generalize asModifier tl = rm at hm ⊢
      rcases rm with (_ | _) | m
      · rfl
      · exact absurd rfl hm
      · rfl
    | cons c hd =>
      dsimp only
      have hb := asLocatorBare_nopanic selOk (c :: hd)
      generalize asModifier tl = rm at hm ⊢
      generalize asLocatorBare selOk (c :: hd) = d at hb ⊢
      cases d <;> first
        | rfl
        | exact absurd hb (by decide)
        | (rcases rm with (_ | _) | m
           · rfl
           · exact absurd rfl hm
           · rfl)

/-- `shiftSelector(s)` with its index expression `s[i]` and slice expressions `s[:i]`, `s[i+1:]`
made explicit never panics and is the structural model used by C08 / C19. -/
theorem shiftSelector_total (s : Bytes) : shiftIdx s 0 false = .ok (shiftSelectorB s) :=
  shiftIdx_ok s

/-- the loop `for tail != ""` of `Selector` terminates: the tail gets strictly shorter … -/
theorem selector_tail_shrinks (c : UInt8) (r : Bytes) :
    (shiftSelectorB (c :: r)).2.length < (c :: r).length := shiftSelectorB_tail_lt c r

/-- … so the fuel `tail.length + 1` of the model is adequate -/
theorem selector_fuel (n m : Nat) (tl : Bytes) (hn : tl.length < n) (hm : tl.length < m) :
    selectorParts n tl = selectorParts m tl := selectorParts_fuel n m tl hn hm

/-- `AsDate(s)` never panics: `parts[0]`, `parts[1]`, `parts[2]` sit behind `len(parts) != 3`. -/
theorem asDate_nopanic (s : Bytes) : Date.asDate s ≠ .error .panic := Date.asDate_nopanic s

/-- `AsDate` returns a date only if it is a calendar date (month 1..12, day within the month,
29 February only in leap years); everything else is an error value. -/
theorem asDate_valid (s : Bytes) (d : Date.DateV) (h : Date.asDate s = .ok d) : Date.validDate d :=
  Date.asDate_valid s d h

/-- Every date stamp the GenBank writer prints for a calendar date is read back as the same date:
for ALL years `0 ≤ year ≤ 2^63 - 1` (arithmetic, not enumeration). -/
theorem date_roundtrip_int (d : Date.DateV) (hv : Date.validDate d) (hy0 : 0 ≤ d.year)
    (hy1 : d.year ≤ 9223372036854775807) : Date.asDate (Date.fmtDate d) = .ok d :=
  Date.asDate_fmtDate d hv hy0 hy1

/-- … in particular for the four-digit years of the flat-file format -/
theorem date_roundtrip (d : Date.DateV) (hv : Date.validDate d) (hy : 1 ≤ d.year ∧ d.year ≤ 9999) :
    Date.asDate (Date.fmtDate d) = .ok d :=
  Date.asDate_fmtDate d hv (by omega) (by omega)

/-- `isLeapYear` is the Gregorian rule. -/
theorem leap_year_gregorian (y : Int) :
    Date.isLeapYear y = true ↔ (4 ∣ y ∧ (¬ 100 ∣ y ∨ 400 ∣ y)) := Date.isLeapYear_gregorian y

/-- non-vacuity: 29 February 2000 is valid and round-trips, 29 February 1900 is refused,
`1-JAN-2000-` (four fields) and `x` are errors, not panics -/
example : Date.validDate ⟨2000, 2, 29⟩ ∧ Date.fmtDate ⟨2000, 2, 29⟩ = [50, 57, 45, 70, 69, 66, 45, 50, 48, 48, 48] ∧
    (Date.asDate ([50, 57, 45, 70, 69, 66, 45, 50, 48, 48, 48])).toOption = some ⟨2000, 2, 29⟩ ∧
    cls (Date.asDate ([50, 57, 45, 70, 69, 66, 45, 49, 57, 48, 48])) = 1 ∧
    cls (Date.asDate ([49, 45, 74, 65, 78, 45, 50, 48, 48, 48, 45])) = 1 ∧
    cls (Date.asDate ([120])) = 1 ∧
    Date.fmtDate ⟨7, 3, 1⟩ = [48, 49, 45, 77, 65, 82, 45, 48, 48, 48, 55] ∧
    Date.fmtDate ⟨12345, 12, 31⟩ = [51, 49, 45, 68, 69, 67, 45, 49, 50, 51, 52, 53] := by decide

/-- `AsMolecule(s)`: one of the five case strings is returned unchanged, everything else is an
error value; there is no panic outcome. -/
theorem asMolecule_total (s : Bytes) :
    (MolTop.asMolecule s = .ok s ∧ s ∈ MolTop.moleculeCases) ∨
      (MolTop.asMolecule s = .error .fail ∧ s ∉ MolTop.moleculeCases) := by
  unfold MolTop.asMolecule
  by_cases h : MolTop.moleculeCases.contains s = true
  · left; rw [if_pos h]; exact ⟨rfl, by simpa using h⟩
  · right; rw [if_neg h]; exact ⟨rfl, by simpa using h⟩

theorem asMolecule_nopanic (s : Bytes) : MolTop.asMolecule s ≠ .error .panic := by
  rcases asMolecule_total s with h | h <;> rw [h.1] <;> intro h' <;> cases h'

/-- `AsTopology(s)`: `Linear` (0), `Circular` (1) or an error value; no panic outcome. -/
theorem asTopology_total (s : Bytes) :
    MolTop.asTopology s = .ok 0 ∨ MolTop.asTopology s = .ok 1 ∨ MolTop.asTopology s = .error .fail := by
  unfold MolTop.asTopology
  cases h : MolTop.topologyCases.lookup (MolTop.lowerFold s) with
  | none => right; right; rfl
  | some t =>
    have hall : ∀ p ∈ MolTop.topologyCases, p.2 = 0 ∨ p.2 = 1 := by decide
    rcases hall _ (Date.mem_of_lookup _ _ _ h) with h0 | h1
    · left; dsimp only at h0 ⊢; rw [h0]
    · right; left; dsimp only at h1 ⊢; rw [h1]

theorem asTopology_nopanic (s : Bytes) : MolTop.asTopology s ≠ .error .panic := by
  rcases asTopology_total s with h | h | h <;> rw [h] <;> intro h' <;> cases h'

/-- non-vacuity: case-insensitive topology, exact molecule -/
example : (MolTop.asTopology ([67, 73, 82, 67, 85, 76, 65, 82])).toOption = some 1 ∧
    (MolTop.asTopology ([76, 105, 110, 101, 97, 114])).toOption = some 0 ∧
    (MolTop.asTopology [108, 0xC4, 0xB0, 110, 101, 97, 114]).toOption = some 0 ∧
    cls (MolTop.asTopology ([114, 105, 110, 103])) = 1 ∧
    (MolTop.asMolecule ([115, 115, 45, 68, 78, 65])).toOption = some ([115, 115, 45, 68, 78, 65]) ∧
    cls (MolTop.asMolecule ([100, 110, 97])) = 1 := by decide

open GenBank in
/-- `INSDCTableParser("")` (with `gts.ParseLocation`, the qualifier parsers and the learning of
unknown qualifier names), entered in ANY state whose saved positions are sorted, for ANY bytes and
any registry: never a panic, and the final state is sorted again. -/
theorem table_nopanic (reg : GenBank.Registry) (s : PS) (hs : Sorted s.rest.length s.stk) :
    ((GenBank.table reg).run' s).1 ≠ .error .panic ∧
      Sorted ((GenBank.table reg).run' s).2.rest.length ((GenBank.table reg).run' s).2.stk := by
  have := (GenBank.table_fwd reg).run hs
  exact ⟨this.1, this.2.1⟩

/-- non-vacuity of `table_nopanic`: a state in the middle of a record, with a saved position at the
start of the FEATURES line, is sorted (the table parser itself runs `LocParse.loc`, which the
kernel cannot evaluate; its results on concrete tables are correspondence-checked by `table.parse`) -/
example : let rest := GenBank.bs "     source          1..4\n                     /mol_type=\"genomic DNA\"\n"
    Sorted (PS.mk rest [GenBank.bs "FEATURES             Location/Qualifiers\n" ++ rest]).rest.length
      (PS.mk rest [GenBank.bs "FEATURES             Location/Qualifiers\n" ++ rest]).stk :=
  have h (a b : Bytes) : Sorted (PS.mk b [a ++ b]).rest.length (PS.mk b [a ++ b]).stk :=
    ⟨by show b.length ≤ _; rw [List.length_append]; omega, trivial⟩
  h _ _

/-- `validateOrigin(p, length)` indexes `p` without bounds checks.  For a declared length of at
most 1000000020 (`maxOriginResidues`, the guard of `makeGenbankOriginParser` since be672b0) and a
buffer of at least `toOriginLength(length)` bytes (the reader hands it exactly that many) no index
is out of range, whatever the bytes are: the lines start at residue `i + 1` with `i` a multiple of
60 below `length`, so `i ≤ 999999960` and the `%9d` index is nine columns wide.  (The constant of the
Go code is exactly the largest for which this holds, see `validateOrigin_wide_index_panics`.) -/
theorem validateOrigin_nopanic (p : Bytes) (length : Nat) (hL : length ≤ 1000000020)
    (hp : (Origin.toOriginLength (length : Int)).toNat ≤ p.length) :
    Origin.validateOrigin p (length : Int) ≠ .error .panic :=
  Origin.validateOrigin_ne_panic_le p length hL (by rwa [Origin.toNat_tl] at hp)

/-- the bound `length ≤ 1000000020` of `validateOrigin_nopanic` cannot be raised by a single
residue: for a declared length of 1000000021 the last line index has ten digits; in its last round
(`i = 1000000020`, one residue to go) the loop of `validateOrigin` stands before the last
`toOriginLength(1) = 12` bytes of its buffer, and on the well-formed line `1000000021 a` (ten
digits, a blank, the residue: twelve bytes) `p[offset] != '\n'` indexes one byte past the end: a
run-time panic.  This is about `validateOrigin` itself; since be672b0 the ORIGIN reader refuses
such a length before it calls `validateOrigin` (`originField_nopanic`). -/
theorem validateOrigin_wide_index_panics :
    Origin.validateLines 1000000021 1 1000000020 (GenBank.bs "1000000021 a") = .error .panic ∧
      (GenBank.bs "1000000021 a").length = (Origin.toOriginLength (1000000021 - 1000000020)).toNat := by
  decide +kernel

/-- the ORIGIN reader `makeGenbankOriginParser(length)` for a declared length that passed the
range check of `GenBankParser` (`0 ≤ length`), from ANY sorted state, for any bytes: never a panic
(not the negative `Request`, not `validateOrigin`'s indexing — a length above 1000000020 is
refused first —, not the slow path's `p[offset] = '\n'`), and the final state is sorted.  (Before
be672b0 this needed fewer than 10^9 bytes left.) -/
theorem originField_nopanic (length : Int) (depth : Nat) (h0 : 0 ≤ length) (s : PS)
    (hs : Sorted s.rest.length s.stk) :
    ((GenBank.originField length depth).run' s).1 ≠ .error .panic ∧
      Sorted ((GenBank.originField length depth).run' s).2.rest.length
        ((GenBank.originField length depth).run' s).2.stk := by
  have := ((GenBank.strict_originField length depth).1.mono (by omega)).run hs
  exact ⟨this.1, this.2.1⟩

/-- non-vacuity of the three statements above: the block of the four-residue sample is long
enough for `validateOrigin`; the ORIGIN reader accepts it from a sorted state with a saved
position; a declared length of 1000000021 is refused (class 1 = error value) before anything is
indexed, 1000000020 fails at the `Request` -/
example : (Origin.toOriginLength ((4 : Nat) : Int)).toNat ≤ (GenBank.bs "        1 acgt\n").length ∧
    Sorted (PS.mk (GenBank.bs "ORIGIN      \n        1 acgt\n//\n")
      [GenBank.bs "ORIGIN      \n        1 acgt\n//\n"]).rest.length
      [GenBank.bs "ORIGIN      \n        1 acgt\n//\n"] ∧
    ((GenBank.originField 4 12).run' ⟨GenBank.bs "ORIGIN      \n        1 acgt\n//\n",
      [GenBank.bs "ORIGIN      \n        1 acgt\n//\n"]⟩).1 = .ok (GenBank.bs "        1 acgt\n") ∧
    cls ((GenBank.originField 1000000021 12).run' ⟨GenBank.bs "ORIGIN      \n        1 acgt\n//\n", []⟩).1 = 1 ∧
    cls ((GenBank.originField 1000000020 12).run' ⟨GenBank.bs "ORIGIN      \n        1 acgt\n//\n", []⟩).1 = 1 := by
  repeat rw [GenBank.bs_ofList]
  refine ⟨by decide +kernel, ⟨Nat.le_refl _, trivial⟩, ?_⟩
  decide +kernel

/-- `seqio.GenBankParser`, entered in ANY state whose saved positions are sorted (in particular
the fresh state of a scanner), for ANY bytes and any qualifier registry: never a panic — neither
the `Trail` slice panic (LOCUS line, field names and bodies, `tryAllParsers` with its Push / Pop /
Drop / Clear traffic, the in-place joined DEFINITION body, the feature table) nor one of the ORIGIN
reader's — and the final state is sorted and not before the entry position.
(The FULL statement; before be672b0 it was false — `validateOrigin` panicked on a well-formed
block of more than 1000000020 residues — and only the `_partial` form below was proved.) -/
theorem genbankParser_nopanic (reg : GenBank.Registry) (s : PS)
    (hs : Sorted s.rest.length s.stk) :
    ((GenBank.genbankParser reg).run' s).1 ≠ .error .panic ∧
      Sorted ((GenBank.genbankParser reg).run' s).2.rest.length
        ((GenBank.genbankParser reg).run' s).2.stk ∧
      ((GenBank.genbankParser reg).run' s).2.rest.length ≤ s.rest.length :=
  GenBank.genbankParser_wp reg s hs

/-- the `_partial` form, with fewer than 10^9 bytes left: what held of the code before be672b0 (the
hypothesis is not used) -/
theorem genbankParser_nopanic_partial (reg : GenBank.Registry) (s : PS)
    (hs : Sorted s.rest.length s.stk) (_hlen : s.rest.length < 10 ^ 9) :
    ((GenBank.genbankParser reg).run' s).1 ≠ .error .panic ∧
      Sorted ((GenBank.genbankParser reg).run' s).2.rest.length
        ((GenBank.genbankParser reg).run' s).2.stk ∧
      ((GenBank.genbankParser reg).run' s).2.rest.length ≤ s.rest.length :=
  genbankParser_nopanic reg s hs

/-- … in particular on the fresh state of `pars.FromBytes(input)`, for EVERY byte string. -/
theorem genbankParser_fresh_nopanic (reg : GenBank.Registry) (input : Bytes) :
    ((GenBank.genbankParser reg).run' ⟨input, []⟩).1 ≠ .error .panic :=
  (GenBank.genbankParser_wp reg ⟨input, []⟩ trivial).1

/-- the `_partial` form: byte strings shorter than 10^9 bytes (the hypothesis is not used) -/
theorem genbankParser_fresh_nopanic_partial (reg : GenBank.Registry) (input : Bytes)
    (_hlen : input.length < 10 ^ 9) :
    ((GenBank.genbankParser reg).run' ⟨input, []⟩).1 ≠ .error .panic :=
  genbankParser_fresh_nopanic reg input

/-- Scanning ANY byte stream as GenBank (record after record until the input is used up or a
record fails) never panics.  (The FULL statement, for every byte string and every registry.) -/
theorem readAll_nopanic (reg : GenBank.Registry) (input : Bytes) : GenBank.readAll reg input ≠ none :=
  GenBank.parseAll_ne_none _ reg input []

/-- the `_partial` form: byte streams shorter than 10^9 bytes (the hypothesis is not used) -/
theorem readAll_nopanic_partial (reg : GenBank.Registry) (input : Bytes)
    (_hlen : input.length < 10 ^ 9) : GenBank.readAll reg input ≠ none :=
  readAll_nopanic reg input

/-- the LOCUS length of the record that starts at `s`, as `genbankLocusParser` reads it
(specification helper: re-reads the LOCUS line, nothing else) -/
def declaredLength (s : PS) : Option Int :=
  match (GenBank.locusParser.run' s).1 with
  | .ok l => some l.length
  | .error _ => none

/-- INTERNAL CONSISTENCY: whenever `GenBankParser` returns a record, the LOCUS line was readable,
the declared length is not negative, and the sequence returned has exactly the declared number of
residues (`Origin.Len()`), or there is no sequence at all next to a CONTIG line.  A truncated,
over-long or otherwise inconsistent ORIGIN block is never returned as a shortened sequence. -/
theorem genbank_length_consistent (reg : GenBank.Registry) (s : PS) (r : GenBank.Record)
    (reg' : GenBank.Registry) (s' : PS)
    (h : (GenBank.genbankParser reg).run' s = (.ok (r, reg'), s')) :
    ∃ n, declaredLength s = some n ∧ 0 ≤ n ∧
      (r.origin.len = n ∨ (r.origin.len = 0 ∧ r.fields.contigAcc ≠ [])) := by
  obtain ⟨l, s1, hl, h0, hc⟩ := GenBank.genbankParser_length reg s r reg' s' h
  refine ⟨l.length, ?_, h0, hc⟩
  unfold declaredLength
  rw [hl]

def sampleRecord : Bytes :=
  GenBank.bs "LOCUS       X 4 bp DNA linear UNA 01-JAN-2000\nDEFINITION  d.\nORIGIN      \n        1 acgt\n//\n"

/-- non-vacuity: the sample record (fresh state: sorted, 92 bytes) is accepted with `Len() = 4`
= the declared length; with one residue missing, one too many, a negative length or a length the
nine column index cannot number (1000000021) the same text is an error value (class 1), not a
panic and not a shorter sequence; two records in one stream are both read -/
example : Sorted (PS.mk sampleRecord []).rest.length (PS.mk sampleRecord []).stk ∧
    sampleRecord.length < 10 ^ 9 ∧
    ((GenBank.genbankParser GenBank.Registry.default).run' ⟨sampleRecord, []⟩).1.toOption.map
      (fun r => r.1.origin.len) = some 4 ∧
    declaredLength ⟨sampleRecord, []⟩ = some 4 ∧
    cls ((GenBank.genbankParser GenBank.Registry.default).run' ⟨GenBank.bs
      "LOCUS       X 4 bp DNA linear UNA 01-JAN-2000\nORIGIN      \n        1 acg\n//\n", []⟩).1 = 1 ∧
    cls ((GenBank.genbankParser GenBank.Registry.default).run' ⟨GenBank.bs
      "LOCUS       X 4 bp DNA linear UNA 01-JAN-2000\nORIGIN      \n        1 acgta\n//\n", []⟩).1 = 1 ∧
    cls ((GenBank.genbankParser GenBank.Registry.default).run' ⟨GenBank.bs
      "LOCUS       X -4 bp DNA linear UNA 01-JAN-2000\nORIGIN      \n        1 acgt\n//\n", []⟩).1 = 1 ∧
    cls ((GenBank.genbankParser GenBank.Registry.default).run' ⟨GenBank.bs
      "LOCUS       X 4 bp DNA linear UNA 01-JAN-2000\n//\n", []⟩).1 = 1 ∧
    cls ((GenBank.genbankParser GenBank.Registry.default).run' ⟨GenBank.bs
      "LOCUS       X 1000000021 bp DNA linear UNA 01-JAN-2000\nORIGIN      \n        1 acgt\n//\n", []⟩).1 = 1 ∧
    (GenBank.readAll GenBank.Registry.default (sampleRecord ++ sampleRecord)).map
      (fun r => (r.1.length, r.2.2)) = some (2, true) := by
  refine ⟨trivial, ?_⟩
  unfold sampleRecord
  repeat rw [GenBank.bs_ofList]
  decide +kernel

/-- `validateOrigin` accepts nothing but written blocks: a buffer of `toOriginLength(L)` bytes
that it accepts (`L ≤ 1000000020`, the guard of the reader) is byte for byte the
block `NewOrigin` writes for `L` printable residues … -/
theorem accepted_block_is_written (b : Bytes) (L : Nat) (hL : L ≤ 1000000020)
    (hb : b.length = (Origin.toOriginLength (L : Int)).toNat)
    (h : Origin.validateOrigin b (L : Int) = .ok ()) :
    ∃ p, b = Origin.originStream p ∧ (∀ c ∈ p, Origin.isBase c = true) ∧ p.length = L :=
  Origin.validateOrigin_inv_le b L hL (by rw [hb, Origin.toNat_tl]) h

/-- … and whatever the ORIGIN reader `makeGenbankOriginParser(length)` returns (fast or slow
path, any `0 ≤ length`: a length above 1000000020 returns nothing) is such a block:
`Origin.Bytes()` on it does not panic and yields exactly `length` printable residues. -/
theorem originField_decodes (length : Nat) (depth : Nat) (s s' : PS)
    (b : Bytes) (h : (GenBank.originField (length : Int) depth).run' s = (.ok b, s')) :
    ∃ p, Origin.originBytes b = .ok p ∧ p.length = length ∧ (∀ c ∈ p, Origin.isBase c = true) ∧
      b = Origin.originStream p := by
  obtain ⟨hL, hv, hl⟩ := GenBank.originField_accepted length depth _ _ _ h
  exact Origin.accepted_decodes_le b length hL hl hv

/-- INTERNAL CONSISTENCY, residues: every record `GenBankParser` returns (whatever its LOCUS line
declares; the restriction to fewer than 10^9 residues is gone with be672b0) carries a sequence
that `Origin.Bytes()` decodes WITHOUT a panic to exactly `Origin.Len()` residues, all printable —
together with `genbank_length_consistent`: declared length = `Len()` = number of residues (or no
sequence next to a CONTIG line). -/
theorem genbank_sequence_decodes (reg : GenBank.Registry) (s : PS) (r : GenBank.Record)
    (reg' : GenBank.Registry) (s' : PS)
    (h : (GenBank.genbankParser reg).run' s = (.ok (r, reg'), s')) :
    ∃ n, declaredLength s = some n ∧
      ∃ p, r.origin.bytes = .ok p ∧ (p.length : Int) = r.origin.len ∧
        ∀ c ∈ p, Origin.isBase c = true := by
  obtain ⟨l, s1, hl, hd⟩ := GenBank.genbankParser_decodes reg s r reg' s' h
  refine ⟨l.length, ?_, hd⟩
  unfold declaredLength
  rw [hl]

/-- non-vacuity: the sample record's sequence decodes to `acgt`; the block of the sample is
accepted by `validateOrigin` for `L = 4` and has `toOriginLength 4 = 15` bytes -/
example : ((GenBank.genbankParser GenBank.Registry.default).run' ⟨sampleRecord, []⟩).1.toOption.map
      (fun r => r.1.origin.bytes) = some (.ok [97, 99, 103, 116]) ∧
    Origin.validateOrigin (GenBank.bs "        1 acgt\n") 4 = .ok () ∧
    (GenBank.bs "        1 acgt\n").length = (Origin.toOriginLength 4).toNat ∧
    ((GenBank.originField 4 12).run' ⟨GenBank.bs "ORIGIN      \n        1 acgt\n//\n", []⟩).1 =
      .ok (GenBank.bs "        1 acgt\n") := by
  unfold sampleRecord
  repeat rw [GenBank.bs_ofList]
  decide +kernel

/-- THE OUTCOME OF THE RECORD LOOP DOES NOT DEPEND ON ITS FUEL (the loop of `GenBankParser`; audit
finding S4: this statement ALONE does not say "never loops forever" — the model's
loop answers `fail` when its fuel is used up, which a malformed record gives as well, so a loop that
spins on an error path satisfies it too.  That each round consumes and that the loop ends BY ITSELF
within `bytes left + 1` rounds are `recordLoop_round_consumes` / `recordLoop_iterations_le` in
Props/C07Fuel.lean, about a copy of the loop with a distinguishable fuel-out.)  The proof goes:
from ANY state whose saved positions are sorted — also with positions on the stack that earlier
parsers leaked — every iteration either ends the loop (end mark, hard failure, end of input) or
leaves strictly fewer bytes: a parsed field has consumed its name, a skipped line at least one
byte, and no sub-parser ever goes back behind the position where the iteration began.  Hence the
fuel is an iteration counter that is never used up once it exceeds the number of bytes left: any
two such fuels give the same outcome and the same final state (the statement).  (`depth ≥ 1`: `genbankLocusParser` reports an indent of at least 5, see
`genbankParser_loop_fuel`.)

Before 66de3a0 this was FALSE: a SOURCE field without ORGANISM popped the frame of `tryAllParsers` AND one more saved
position; with frames leaked by a failing location parser on the stack the scan went back and read
the lines in between again, once per leaked frame — quadratically often (F34: 7 KB took 1.6 s,
28 KB 42 s on the real code).  The parser now clears the stack there and fails the record. -/
theorem recordLoop_fuel_stable (length : Int) (depth : Nat) (hd : 1 ≤ depth) (sub : GenBank.Sub)
    (s : PS) (hs : Sorted s.rest.length s.stk) (n m : Nat) (hn : s.rest.length < n)
    (hm : s.rest.length < m) :
    (GenBank.recordLoop length depth n sub).run' s = (GenBank.recordLoop length depth m sub).run' s :=
  GenBank.recordLoop_fuel length depth hd n m sub s hs hn hm

/-- the statement in the shape that was false of the code before 66de3a0 (fuel `2·bytes + 2` as in
`GenBankParser`, and any larger fuel) -/
theorem recordLoop_fuel_full (length : Int) (depth : Nat) (hd : 1 ≤ depth) (sub : GenBank.Sub)
    (s : PS) (hs : Sorted s.rest.length s.stk) (n m : Nat) (hn : 2 * s.rest.length + 2 ≤ n)
    (hnm : n ≤ m) :
    (GenBank.recordLoop length depth n sub).run' s = (GenBank.recordLoop length depth m sub).run' s :=
  recordLoop_fuel_stable length depth hd sub s hs n m (by omega) (by omega)

/-- … as `GenBankParser` runs it: behind a LOCUS line that was read (its indent is the `depth`),
on the cleared stack, the fuel `2n+2` it passes gives what every fuel above the `n` bytes left
gives — in particular `n + 1`.  (That the loop makes at most `n + 1` iterations is
`genbankParser_loop_ends`, Props/C07Fuel.lean.) -/
theorem genbankParser_loop_fuel (s s1 : PS) (l : GenBank.Locus)
    (h : GenBank.locusParser.run' s = (.ok l, s1)) (sub : GenBank.Sub) (m : Nat)
    (hm : s1.rest.length < m) :
    (GenBank.recordLoop l.length l.depth (2 * s1.rest.length + 2) sub).run' ⟨s1.rest, []⟩ =
      (GenBank.recordLoop l.length l.depth m sub).run' ⟨s1.rest, []⟩ := by
  have hd := GenBank.locusParser_depth s
  unfold WP at hd
  rw [h] at hd
  have := hd l rfl
  exact recordLoop_fuel_stable l.length l.depth (by omega) sub ⟨s1.rest, []⟩ trivial _ _
    (by show s1.rest.length < _; omega) hm

/-- the weaker statement that was all that held before 66de3a0 (it needs neither the sorted
state nor `depth ≥ 1`): running out of fuel can only ever show up as the error value.  An outcome
other than that error — a record, or a panic — and its final state are the same for every larger
fuel: no record is ever lost or altered by the fuel. -/
theorem recordLoop_fuel_partial (length : Int) (depth : Nat) (k m : Nat) (sub : GenBank.Sub)
    (s s' : PS) (r : Except Err GenBank.Sub)
    (h : (GenBank.recordLoop length depth k sub).run' s = (r, s')) (hr : r ≠ .error .fail)
    (hkm : k ≤ m) : (GenBank.recordLoop length depth m sub).run' s = (r, s') :=
  GenBank.recordLoop_mono length depth k sub s r s' h hr m hkm

/-- the continuation-line loop of `genbankFieldBodyParser` (indent `depth ≥ 1`; the LOCUS parser
reports `depth ≥ 5`): every iteration consumes the indent, so with more fuel than bytes left the
outcome and the final state do not depend on the fuel -/
theorem bodyMore_fuel_stable (depth : Nat) (sep : UInt8) (hd : 1 ≤ depth) (n m : Nat)
    (acc : Bytes) (k : Nat) (s : PS) (hn : s.rest.length < n) (hm : s.rest.length < m) :
    (GenBank.bodyMore depth sep n acc k).run' s = (GenBank.bodyMore depth sep m acc k).run' s :=
  GenBank.bodyMore_fuel depth sep hd n m acc k s hn hm

/-- the taxonomy lines of SOURCE / ORGANISM: same measure -/
theorem taxonMore_fuel_stable (depth : Nat) (hd : 1 ≤ depth) (n m : Nat) (acc : Bytes) (s : PS)
    (hn : s.rest.length < n) (hm : s.rest.length < m) :
    (GenBank.taxonMore depth n acc).run' s = (GenBank.taxonMore depth m acc).run' s :=
  GenBank.taxonMore_fuel depth hd n m acc s hn hm

/-- the further lines of DBLINK: same measure -/
theorem dblinkMore_fuel_stable (depth : Nat) (hd : 1 ≤ depth) (n m : Nat) (f : GenBank.Fields)
    (s : PS) (hn : s.rest.length < n) (hm : s.rest.length < m) :
    (GenBank.dblinkMore depth n f).run' s = (GenBank.dblinkMore depth m f).run' s :=
  GenBank.dblinkMore_fuel depth hd n m f s hn hm

/-- a record that `GenBankParser` returns has consumed at least the five bytes of `LOCUS`
(from any sorted state) … -/
theorem genbankParser_consumes (reg : GenBank.Registry) (s : PS) (hs : Sorted s.rest.length s.stk)
    (v : GenBank.Record × GenBank.Registry)
    (h : ((GenBank.genbankParser reg).run' s).1 = .ok v) :
    ((GenBank.genbankParser reg).run' s).2.rest.length + 5 ≤ s.rest.length :=
  GenBank.genbankParser_consumes reg s hs v h

/-- … so the scan loop's fuel `len(input) + 1` is adequate: any two fuels above the number of
bytes give the same records, for every byte string. -/
theorem parseAll_fuel_stable (reg : GenBank.Registry) (input : Bytes)
    (acc : List GenBank.Record) (n m : Nat) (hn : input.length < n) (hm : input.length < m) :
    GenBank.parseAll reg n input acc = GenBank.parseAll reg m input acc :=
  GenBank.parseAll_fuel n m reg input acc hn hm

/-- the `_partial` form: input shorter than 10^9 bytes (the hypothesis is not used) -/
theorem parseAll_fuel_stable_partial (reg : GenBank.Registry) (input : Bytes)
    (acc : List GenBank.Record) (n m : Nat) (_hlen : input.length < 10 ^ 9)
    (hn : input.length < n) (hm : input.length < m) :
    GenBank.parseAll reg n input acc = GenBank.parseAll reg m input acc :=
  parseAll_fuel_stable reg input acc n m hn hm

/-- non-vacuity: the state that refuted the fuel statement before 66de3a0 (37 bytes left: twenty empty
lines and a SOURCE field without ORGANISM; three saved copies of that position) is sorted, the
fuels 38, 76 = 2·37+2 and 200 are above the bytes left, and all three end in the same state,
3 bytes before the end (the first reading of the SOURCE line fails the record; before 66de3a0 it was
21 resp. 17 bytes for the fuels 76 and 200); the LOCUS line of the sample is read with `depth = 12`;
in the sample record the body loop runs with that depth, and the scan loop on two records agrees
for the fuels 177 and 1000 -/
example : Sorted GenBank.rescanState.rest.length GenBank.rescanState.stk ∧
    GenBank.rescanState.rest.length < 38 ∧ 2 * GenBank.rescanState.rest.length + 2 ≤ 76 ∧
    ((GenBank.recordLoop 0 12 38 GenBank.sub0).run' GenBank.rescanState).2.rest.length = 3 ∧
    ((GenBank.recordLoop 0 12 76 GenBank.sub0).run' GenBank.rescanState).2.rest.length = 3 ∧
    ((GenBank.recordLoop 0 12 200 GenBank.sub0).run' GenBank.rescanState).2.rest.length = 3 ∧
    cls ((GenBank.recordLoop 0 12 38 GenBank.sub0).run' GenBank.rescanState).1 = 1 ∧
    (GenBank.locusParser.run' ⟨sampleRecord, []⟩).1.toOption.map (·.depth) = some 12 ∧
    (GenBank.parseAll GenBank.Registry.default 177 (sampleRecord ++ sampleRecord) []).map
      (fun r => r.1.length) = some 2 ∧
    (GenBank.parseAll GenBank.Registry.default 1000 (sampleRecord ++ sampleRecord) []).map
      (fun r => r.1.length) = some 2 := by
  refine ⟨⟨Nat.le_refl _, Nat.le_refl _, Nat.le_refl _, trivial⟩, ?_⟩
  unfold sampleRecord GenBank.rescanState GenBank.rescanRest
  repeat rw [GenBank.bs_ofList]
  decide +kernel

/-- `seqio.NewScanner(seqio.FastaParser, r)` over ANY byte string, and `seqio.NewAutoScanner(r)`
over any byte string that does not begin with `LOCUS` (the modelled fragment of the auto scanner;
on `LOCUS…` it continues with `GenBankParser`, see `genbankParser_fresh_nopanic`): the scan
never reports a panic.  (Every single `FastaParser` call: `Gts.C17.parse_never_panics`.) -/
theorem fasta_scan_nopanic (auto : Bool) (text : Bytes) : Fasta.scanAll auto text ≠ .panic :=
  Fasta.scanAll_ne_panic auto text

/-- non-vacuity: an arbitrary byte salad is scanned to an error, a two-record stream to its records -/
example : Fasta.scanAll true [0, 255, 62, 10, 13] = .done [] false ∧
    Fasta.scanAll false [62, 97, 10, 65, 67, 10, 62, 98, 10, 71, 10] =
      .done [([97], [65, 67]), ([98], [71])] true := by decide +kernel

end Gts.C07
