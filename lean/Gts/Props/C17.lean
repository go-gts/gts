/-
  C17 — FASTA output reads back identically; conversion to FASTA keeps residues.
  Property theorems only (helper lemmas live in Gts/Lemmas/Fasta.lean).

  Domains (decidable predicates of `Gts.Fasta`):
    `descOk d`  — the description contains neither `\n` nor `\r`
    `noCR d`    — the description contains no `\r` (line feeds allowed: the writer turns them into blanks)
    `resOk r`   — the residues contain none of `>`, `\n`, `\r` (any other byte, any length incl. 0)
    `recEnd t`  — `t` is empty or starts with `>` (what may follow a record)
  The full statement of the property holds on the current tree (with repair 646f789); there is
  no `_partial` theorem and no known finding for C17.

  AUTO-DETECTION WITH THE REAL GenBank READER (section "the real auto scanner" below; model
  `Gts/Model/AutoScan.lean`, lemmas `Gts/Lemmas/FastaAuto.lean`, `FastaAutoMixed.lean`):
  `Gts.Fasta.scanFirstAuto` stands in "fails in place unless the input begins with LOCUS" for
  `GenBankParser`.  `genbankParser_rejects_fasta` proves that of the real reader model
  `Gts.GenBank.genbankParser` (every state, every registry), `auto_real_eq_standin` discharges the
  stand-in, the `…_real` theorems restate the stream theorems for `Gts.Auto.scanAll`, and
  `scan_auto_sticks_to_first_format`, `scan_genbank_then_fasta`, `scan_fasta_then_genbank` say what the
  scanner does with a stream that changes format.
-/
import Gts.Lemmas.Fasta
import Gts.Bridge.FastaWrite
import Gts.Bridge.FastaRead
import Gts.Lemmas.FastaAutoMixed
import Gts.Lemmas.BsLit
import Gts.Spec.CliWriters
namespace Gts.C17
open Gts Gts.Pars Gts.Fasta

/-- **Write, then parse, one record.**  For every description on one line, all residues (every
length, including none and exact multiples of 70) and every backtracking stack: `FastaParser`
applied to the output of `Fasta.WriteTo`, followed by nothing or by the next record, returns
exactly `(d, r)`, stops exactly in front of what follows and leaves the stack as it was. -/
theorem parse_write_one (d r rest : Bytes) (stk : List Bytes)
    (hd : descOk d = true) (hr : resOk r = true) (hrest : recEnd rest = true) :
    fastaParse.run' ⟨fastaWrite d r ++ rest, stk⟩ = (.ok (d, r), ⟨rest, stk⟩) := by
  have := parse_write d r rest stk (descOk_noCR d hd) hr hrest
  rwa [nl2sp_id d hd] at this

/-- … and for a description that does contain line feeds (e.g. a multi-line GenBank
DEFINITION) the description read back is the written one with every `\n` replaced by a blank;
the residues are still identical.  `noCR` is the exact remaining requirement. -/
theorem parse_write_one_nl (d r rest : Bytes) (stk : List Bytes)
    (hd : noCR d = true) (hr : resOk r = true) (hrest : recEnd rest = true) :
    fastaParse.run' ⟨fastaWrite d r ++ rest, stk⟩ = (.ok (nl2sp d, r), ⟨rest, stk⟩) :=
  parse_write d r rest stk hd hr hrest

/-- **CRLF.**  The same record after every `\n` of the written text became `\r\n`. -/
theorem parse_write_one_crlf (d r rest : Bytes) (stk : List Bytes)
    (hd : descOk d = true) (hr : resOk r = true) (hrest : recEnd rest = true) :
    fastaParse.run' ⟨crlf (fastaWrite d r) ++ rest, stk⟩ = (.ok (d, r), ⟨rest, stk⟩) := by
  have := parse_write_crlf d r rest stk (descOk_noCR d hd) hr hrest
  rwa [nl2sp_id d hd] at this

/-- **No residues.**  A record without residues is written as `>d`, newline, empty line, and is
read back as `(d, [])` — the property's "every residue count including 0" holds. -/
theorem write_empty (d : Bytes) : fastaWrite d [] = 62 :: nl2sp d ++ [10, 10] := by
  simp [fastaWrite, wrapForce, wrapGo]

/-- see `write_empty` -/
theorem parse_write_empty (d rest : Bytes) (stk : List Bytes) (hd : descOk d = true)
    (hrest : recEnd rest = true) :
    fastaParse.run' ⟨62 :: d ++ [10, 10] ++ rest, stk⟩ = (.ok (d, []), ⟨rest, stk⟩) := by
  have := parse_write_one d [] rest stk hd (by rfl) hrest
  rwa [write_empty, nl2sp_id d hd] at this

/-- `FastaParser` fails exactly when the input is empty or does not start with `>`; it then
consumes nothing (`Fasta.fastaParse_cases`; so the scanner's error position is the start of the record, and the error is
the reader's `io.EOF` exactly when the input is empty). -/
theorem parse_fails_iff (t : Bytes) (stk : List Bytes) :
    (fastaParse.run' ⟨t, stk⟩).1 = .error .fail ↔ (t = [] ∨ ∃ c t', t = c :: t' ∧ c ≠ 62) := by
  rw [run'_eq, fastaParse_run]
  cases t with
  | nil => simp
  | cons c t' => by_cases h : c = 62 <;> simp [h]

theorem parse_never_panics (t : Bytes) (stk : List Bytes) :
    (fastaParse.run' ⟨t, stk⟩).1 ≠ .error .panic :=
  fastaParse_ne_panic ⟨t, stk⟩

/-- the text of a stream of records, as `FastaWriter.WriteSeq` calls write it one after another -/
def writeAll (rs : List (Bytes × Bytes)) : Bytes := (rs.map fun p => fastaWrite p.1 p.2).flatten

/-- all records of a stream are in the property's domain -/
def recsOk (rs : List (Bytes × Bytes)) : Bool := rs.all fun p => descOk p.1 && resOk p.2

/-- a stream written with either line end (`GenBank.tr`), descriptions with line feeds included:
the records come back in order, the line feeds of the descriptions as blanks -/
theorem scan_write_all_tr (e : GenBank.Eol) (auto : Bool) (rs : List (Bytes × Bytes))
    (h : (rs.all fun p => noCR p.1 && resOk p.2) = true) :
    scanAll auto (GenBank.tr e (writeAll rs)) = .done (rs.map fun p => (nl2sp p.1, p.2)) true := by
  have := scanAll_map auto rs (fun p => GenBank.tr e (fastaWrite p.1 p.2)) (fun p => (nl2sp p.1, p.2))
    (fun p hp => by
      have hp' := Bool.and_eq_true_iff.1 (List.all_eq_true.1 h p hp)
      exact ⟨⟨_, tr_fastaWrite e _ _⟩, fun rest stk hrest => by
        simpa [fastaBody_nil] using parse_write_tr e p.1 p.2 [] rest stk hp'.1 hp'.2 rfl hrest⟩)
  rwa [writeAll, GenBank.tr_flatten, List.map_map]

/-- in the property's domain the descriptions hold no line feed: they come back as they are -/
theorem recsOk_nl {rs : List (Bytes × Bytes)} (h : recsOk rs = true) :
    (rs.all fun p => noCR p.1 && resOk p.2) = true ∧ (rs.map fun p => (nl2sp p.1, p.2)) = rs := by
  have hp := fun p hp => Bool.and_eq_true_iff.1 (List.all_eq_true.1 h p hp)
  refine ⟨List.all_eq_true.2 fun p hm => ?_, ?_⟩
  · rw [descOk_noCR _ (hp p hm).1, (hp p hm).2]; rfl
  · conv => rhs; rw [← List.map_id rs]
    exact List.map_congr_left fun p hm => by rw [nl2sp_id _ (hp p hm).1]; rfl

/-- **N records read back as the same N records, in order, without error** — for every record
count (0 included), by `seqio.NewAutoScanner` (`auto = true`: the first `Scan` tries
`GenBankParser`, which fails in place, then `FastaParser`) and by
`seqio.NewScanner(seqio.FastaParser, …)` (`auto = false`); `Scanner.Err()` is `nil` at the end. -/
theorem scan_write_all (auto : Bool) (rs : List (Bytes × Bytes)) (h : recsOk rs = true) :
    scanAll auto (writeAll rs) = .done rs true := by
  have := scan_write_all_tr .lf auto rs (recsOk_nl h).1
  rwa [(recsOk_nl h).2] at this

/-- **CRLF streams.**  Replacing every `\n` of the written stream by `\r\n` yields the same
records (this is what repair 646f789 established). -/
theorem scan_write_all_crlf (auto : Bool) (rs : List (Bytes × Bytes)) (h : recsOk rs = true) :
    scanAll auto (crlf (writeAll rs)) = .done rs true := by
  have := scan_write_all_tr .crlf auto rs (recsOk_nl h).1
  rwa [(recsOk_nl h).2, show GenBank.tr .crlf _ = crlf _ from GenBank.crlf_eq_fasta _] at this

/-- streams whose descriptions contain line feeds: the descriptions come back with blanks -/
theorem scan_write_all_nl (auto : Bool) (rs : List (Bytes × Bytes))
    (h : (rs.all fun p => noCR p.1 && resOk p.2) = true) :
    scanAll auto (writeAll rs) = .done (rs.map fun p => (nl2sp p.1, p.2)) true :=
  scan_write_all_tr .lf auto rs h

/-- removing the line feeds of the wrapped text gives back the input (any input, any width) -/
theorem wrap_strip (s : Bytes) (n : Nat) :
    (wrapForce s n).filter isNotNL = s.filter isNotNL := wrapGo_filter _ s n

/-- … so for residues without line feeds the wrapped text is the residues plus line feeds -/
theorem wrap_strip_res (r : Bytes) (hr : resOk r = true) :
    (wrapForce r width).filter isNotNL = r := (wrapped_facts r hr).2.2

/-- every line of the wrapped text has at most `n` bytes, every line but the last exactly `n`,
and no line is empty unless there are no residues — in particular an exact multiple of `n`
does not produce an empty last line. -/
theorem wrap_lines (s : Bytes) (n : Nat) (hn : 0 < n) (h : ∀ c ∈ s, c ≠ 10) :
    (∀ l ∈ splitLines (wrapForce s n), l.length ≤ n) ∧
    (∀ l ∈ (splitLines (wrapForce s n)).dropLast, l.length = n) ∧
    (s ≠ [] → ∀ l ∈ splitLines (wrapForce s n), l ≠ []) :=
  wrapGo_lines s.length s n hn (Nat.le_refl _) h

/-- the same for the residues of a record at the writer's width: at most 70 bytes per line,
70 in every line but the last, no empty line unless the record has no residues -/
theorem wrap_lines_res (r : Bytes) (hr : resOk r = true) :
    (∀ l ∈ splitLines (wrapForce r 70), l.length ≤ 70) ∧
    (∀ l ∈ (splitLines (wrapForce r 70)).dropLast, l.length = 70) ∧
    (r ≠ [] → ∀ l ∈ splitLines (wrapForce r 70), l ≠ []) := by
  refine wrap_lines r 70 (by decide) ?_
  intro c hc
  have := (List.all_eq_true.1 hr) c hc
  simp at this
  exact this.1.2

/-- the wrapped text never ends in a line feed (the single `\n` after it comes from `WriteTo`) -/
theorem wrap_no_trailing_newline (s : Bytes) (n : Nat) (h : ∀ c ∈ s, c ≠ 10) :
    (wrapForce s n).getLast? ≠ some 10 := wrapGo_getLast _ s n h

theorem wrap_empty (n : Nat) : wrapForce [] n = [] := rfl

/-- wrapping adds nothing but line feeds -/
theorem wrap_mem (s : Bytes) (n : Nat) (c : UInt8) (h : c ∈ wrapForce s n) : c ∈ s ∨ c = 10 :=
  wrapGo_mem _ s n c h

/-- `FastaWriter.WriteSeq`: a `Fasta`, a `*Fasta`, and any sequence whose metadata is a `string`
or a `fmt.Stringer` are all written as `Fasta{description, seq.Bytes()}`; every other metadata
type is refused. -/
theorem writer_cases (d b : Bytes) :
    fastaWriteSeq (.fasta d b) = some (fastaWrite d b) ∧
    fastaWriteSeq (.fastaPtr d b) = some (fastaWrite d b) ∧
    fastaWriteSeq (.generic (.str d) b) = some (fastaWrite d b) ∧
    fastaWriteSeq (.generic (.stringer d) b) = some (fastaWrite d b) ∧
    fastaWriteSeq (.generic .other b) = none := ⟨rfl, rfl, rfl, rfl, rfl⟩

/-- `GenBankFields.String()`: version, blank, definition for a whole record … -/
theorem genbank_desc_whole (version definition : Bytes) :
    fastaDescOfGenBank version definition none = version ++ [32] ++ definition := by
  simp [fastaDescOfGenBank]

/-- … and `version:head+1-tail definition` for a slice (`Region = Segment{head, tail}`) -/
theorem genbank_desc_slice (version definition : Bytes) (head tail : Int) :
    fastaDescOfGenBank version definition (some (head, tail)) =
      version ++ [58] ++ str (toString (head + 1)) ++ [45] ++ str (toString tail) ++ [32] ++ definition := by
  simp [fastaDescOfGenBank, itoaBytes, itoa]

/-- **GenBank → FASTA (model level).**  Writing a GenBank record (whole or sliced) through the
FASTA writer writes `Fasta{GenBankFields.String(), residues}`; read back, the residues are the
GenBank record's residues and the description is `version[:head+1-tail] definition` (line
feeds of a multi-line DEFINITION as blanks). -/
theorem genbank_to_fasta (auto : Bool) (version definition bytes : Bytes) (region : Option (Int × Int))
    (hd : noCR (fastaDescOfGenBank version definition region) = true) (hr : resOk bytes = true) :
    ∃ text, fastaWriteSeq (.generic (.genbank version definition region) bytes) = some text ∧
      scanAll auto text = .done [(nl2sp (fastaDescOfGenBank version definition region), bytes)] true := by
  refine ⟨_, rfl, ?_⟩
  have := scan_write_all_nl auto [(fastaDescOfGenBank version definition region, bytes)]
    (by simp [hd, hr])
  simpa [writeAll] using this

/-- with a one-line description the description read back is exactly `GenBankFields.String()` -/
theorem genbank_to_fasta_one_line (auto : Bool) (version definition bytes : Bytes)
    (region : Option (Int × Int))
    (hd : descOk (fastaDescOfGenBank version definition region) = true) (hr : resOk bytes = true) :
    ∃ text, fastaWriteSeq (.generic (.genbank version definition region) bytes) = some text ∧
      scanAll auto text = .done [(fastaDescOfGenBank version definition region, bytes)] true := by
  have := genbank_to_fasta auto version definition bytes region (descOk_noCR _ hd) hr
  rwa [nl2sp_id _ hd] at this

/-- `NewWriter(w, DefaultFile)`: a GenBank record is *not* converted (GenBank writer);
`Fasta`, `*Fasta`, `string` and `Stringer` metadata select the FASTA writer. -/
theorem detect_writer_cases (v d b : Bytes) (reg : Option (Int × Int)) :
    detectWriter (.generic (.genbank v d reg) b) = .genbank ∧
    detectWriter (.fasta d b) = .fasta ∧ detectWriter (.fastaPtr d b) = .fasta ∧
    detectWriter (.generic (.str d) b) = .fasta ∧ detectWriter (.generic (.stringer d) b) = .fasta ∧
    detectWriter (.generic .other b) = .error := ⟨rfl, rfl, rfl, rfl, rfl, rfl⟩

/-- before repair 646f789 (`bytes.Join(bytes.Split(body, "\n"), nil)`) a CRLF body kept a
carriage return after every line; the repaired mapping drops it.  Body of `">a\r\nAC\r\nGT\r\n"`. -/
theorem crlf_repair_witness :
    fastaBodyUnrepaired [65, 67, 13, 10, 71, 84, 13, 10] = [65, 67, 13, 71, 84, 13] ∧
    fastaBody [65, 67, 13, 10, 71, 84, 13, 10] = [65, 67, 71, 84] := by decide +kernel

/-- the recorded witness of F5 on the current model: `">a\r\nAC\r\nGT\r\n"` is one record `a`/`ACGT` -/
theorem crlf_witness_scan :
    scanAll true [62, 97, 13, 10, 65, 67, 13, 10, 71, 84, 13, 10] = .done [([97], [65, 67, 71, 84])] true := by
  decide +kernel

/-- non-vacuity of the hypotheses: a two-record stream with an empty description, a `>` inside a
description, an empty record and a 71-residue record satisfies `recsOk` -/
example : recsOk [([], []), ([62, 32, 97], List.replicate 71 65)] = true := by decide +kernel

/-- non-vacuity of the conclusions on concrete data (empty record, then a record) -/
example : scanAll true (writeAll [([100], []), ([101], [65, 67])]) = .done [([100], []), ([101], [65, 67])] true := by
  decide +kernel

/-- the domain is tight (1): a carriage return inside a description ends the description line -/
example : descOk [97, 13, 98] = false ∧
    scanAll true (writeAll [([97, 13, 98], [65])]) = .done [([97], [98, 65])] true := by decide +kernel

/-- the domain is tight (2): a line feed inside a description is written as a blank -/
example : scanAll true (writeAll [([97, 10, 98], [65])]) = .done [([97, 32, 98], [65])] true := by
  decide +kernel

/-- the domain is tight (3): a `>` inside the residues starts a new record -/
example : resOk [65, 62, 67] = false ∧
    scanAll true (writeAll [([97], [65, 62, 67])]) = .done [([97], [65]), ([67], [])] true := by decide +kernel

/-- the domain is tight (4): a carriage return at the end of the residues is stripped -/
example : resOk [65, 13] = false ∧
    scanAll true (writeAll [([97], [65, 13])]) = .done [([97], [65])] true := by decide +kernel

/-- non-vacuity at an exact multiple of the width, CRLF, two full lines: 140 residues -/
example : scanAll false (crlf (writeAll [([97], List.replicate 140 65)])) =
    .done [([97], List.replicate 140 65)] true := by decide +kernel

/-! ### the REGENERATED writer (go2lean gwriter: `Gts/Gen/FastaWrite.lean`, `Gts/Gen/GbFields.lean`, `Gts/Bridge/FastaWrite.lean`)

The round trip restated for `Fasta.WriteTo`, `FastaWriter.WriteSeq` and `GenBankFields.String` as they are re-read
from seqio/fasta.go and seqio/genbank.go on every run (`wrap.Force` = the model's `wrapForce`, `%d` = `itoaBytes`). -/

/-- **Write, then parse, one record — the code of the tree.**  `FastaParser` applied to the text the
regenerated `Fasta.WriteTo` hands to its writer, followed by nothing or by the next record, returns exactly
`(d, r)` and stops in front of what follows. -/
theorem gen_parse_write_one (d r rest : Bytes) (stk : List Bytes)
    (hd : descOk d = true) (hr : resOk r = true) (hrest : recEnd rest = true) :
    fastaParse.run' ⟨Gen.FastaWrite.fastaWriteTo Bridge.wrapForceModel { Desc := d, Data := r } ++ rest, stk⟩ =
      (.ok (d, r), ⟨rest, stk⟩) := by
  rw [Bridge.fastaWriteTo_eq]
  exact parse_write_one d r rest stk hd hr hrest

/-- **GenBank → FASTA — the code of the tree.**  A sequence whose metadata is a `GenBankFields` value (a
`fmt.Stringer`), handed to the regenerated `FastaWriter.WriteSeq` with the regenerated `String()`, is written
as one FASTA record that both scanners read back as (description with line feeds as blanks, residues). -/
theorem gen_genbank_to_fasta (auto : Bool) (gbf : Gen.GbFields.GenBankFields) (bytes : Bytes)
    (hd : noCR (Gen.GbFields.genBankFieldsString itoaBytes gbf) = true) (hr : resOk bytes = true) :
    ∃ text, Gen.FastaWrite.fastaWriterWriteSeq Bridge.wrapForceModel
        (.other (.stringer (Gen.GbFields.genBankFieldsString itoaBytes gbf)) bytes) = some text ∧
      scanAll auto text = .done [(nl2sp (Gen.GbFields.genBankFieldsString itoaBytes gbf), bytes)] true := by
  rw [Bridge.fastaWriterWriteSeq_genbank]
  rw [Bridge.genBankFieldsString_eq] at hd ⊢
  exact genbank_to_fasta auto gbf.Version gbf.Definition bytes gbf.Region hd hr

/-- non-vacuity: a description on one line, residues without `>`, the next record behind; a sliced record -/
example : descOk [105, 100] = true ∧ resOk (List.replicate 71 65) = true ∧ recEnd [62, 120, 10] = true ∧
    noCR (fastaDescOfGenBank [86] [100, 10, 101] (some (2, 9))) = true := by decide +kernel

/-! ### the REGENERATED Map function of the reader (go2lean gfastard.go: `Gts/Gen/FastaRead.lean`, `Gts/Bridge/FastaRead.lean`) -/

/-- **`FastaParser` is the sequence followed by the Map function of the tree.**  On every input, every
backtracking stack and whatever token the `'>'` child carries: the model's `fastaParse` does what the model's
sequence `fastaSeq` (`pars.Seq('>', pars.Line, pars.Until(pars.Any('>', pars.End)))`) does, and on success
returns what the REGENERATED Map function stores for the children (`'>'`, description line, body); that function
never panics there. -/
theorem gen_parse_eq_seq_map (t gtTok : Bytes) (stk : List Bytes) :
    fastaParse.run' ⟨t, stk⟩ =
      match fastaSeq.run' ⟨t, stk⟩ with
      | (.ok (desc, body), s') =>
        (match Gen.FastaRead.fastaMap [gtTok, desc, body] with
         | some v => (.ok v, s')
         | none => (.error .panic, s'))
      | (.error e, s') => (.error e, s') := by
  rw [run'_eq, run'_eq, fastaParse_run, fastaSeq_run]
  cases t with
  | nil => rfl
  | cons c t' =>
    by_cases hc : (c == 62) = true
    · simp only [hc, if_true, Bridge.fastaMap_seq]
    · simp only [hc, if_false, Bool.false_eq_true]

/-- **Write, then read, one record — the Map function of the tree.**  On the output of `Fasta.WriteTo` followed
by nothing or by the next record, the sequence of `FastaParser` stops exactly in front of what follows with the
description and a body token on which the regenerated Map function stores exactly `Fasta{d, r}`. -/
theorem gen_map_parse_write_one (d r rest gtTok : Bytes) (stk : List Bytes)
    (hd : descOk d = true) (hr : resOk r = true) (hrest : recEnd rest = true) :
    ∃ body, fastaSeq.run' ⟨fastaWrite d r ++ rest, stk⟩ = (.ok (d, body), ⟨rest, stk⟩) ∧
      Gen.FastaRead.fastaMap [gtTok, d, body] = some (d, r) := by
  have h := parse_write_one d r rest stk hd hr hrest
  rw [gen_parse_eq_seq_map _ gtTok] at h
  generalize fastaSeq.run' ⟨fastaWrite d r ++ rest, stk⟩ = o at h
  obtain ⟨res, s'⟩ := o
  cases res with
  | error e => simp at h
  | ok v =>
    obtain ⟨desc, body⟩ := v
    simp only [Bridge.fastaMap_seq, Prod.mk.injEq, Except.ok.injEq] at h
    obtain ⟨⟨h1, h2⟩, h3⟩ := h
    subst h1 h3
    exact ⟨body, rfl, by rw [Bridge.fastaMap_seq, h2]⟩

/-- non-vacuity: the regenerated Map function on a CRLF body with a `>`-free tail; the hypotheses of
`gen_map_parse_write_one` are those of `parse_write_one` (instance above) -/
example : Gen.FastaRead.fastaMap [[62], [105, 100], [65, 67, 13, 10, 71, 13, 10]] = some ([105, 100], [65, 67, 71]) ∧
    Gen.FastaRead.fastaMap [[62], [105, 100]] = none := by decide +kernel

/-! ### the real auto scanner (`seqio.NewAutoScanner` with the whole GenBank reader) -/

open Gts.Auto (Rec Out faRecs startsLocus) in
/-- **`GenBankParser` rejects FASTA input in place.**  On every input that does not begin with the five
bytes `LOCUS` — every FASTA text, which begins with `>`, and the empty input — the real reader model
`genbankParser` FAILS (no panic), consumes nothing and leaves the stack of saved positions exactly
as it found it; from every parser state (the fresh one of a scanner included) and for every
qualifier registry.  (`genbankLocusParser`'s first literal fails; `Seq` and `Map` pop their two frames.) -/
theorem genbankParser_rejects_fasta (reg : GenBank.Registry) (s : PS)
    (h : startsLocus s.rest = false) :
    (GenBank.genbankParser reg).run' s = (.error .fail, s) :=
  Auto.genbankParser_not_locus reg s h

/-- … in particular on a text whose first byte is `>`, from the initial state of a scanner and from
the state the auto scanner's `Push` makes -/
theorem genbankParser_rejects_gt (reg : GenBank.Registry) (t : Bytes) (stk : List Bytes) :
    (GenBank.genbankParser reg).run' ⟨62 :: t, stk⟩ = (.error .fail, ⟨62 :: t, stk⟩) :=
  Auto.genbankParser_not_locus reg ⟨62 :: t, stk⟩ rfl

/-- non-vacuity: `>a`, `LOCU`, `xLOCUS` and the empty input do not begin with `LOCUS`; `LOCUS X` does -/
example : Auto.startsLocus [62, 97] = false ∧ Auto.startsLocus [76, 79, 67, 85] = false ∧
    Auto.startsLocus [120, 76, 79, 67, 85, 83] = false ∧ Auto.startsLocus [] = false ∧
    Auto.startsLocus [76, 79, 67, 85, 83, 32, 88] = true := by decide

open Gts.Auto (Rec Out faRecs startsLocus) in
/-- **The stand-in is discharged.**  For every text that does not begin with `LOCUS` and every
registry, the auto scanner with the REAL GenBank reader (`Gts.Auto.scanAll`: `Push`, `GenBankParser`,
`Pop`, `Push`, `FastaParser`, `Drop`, then `FastaParser` for every later `Scan`) returns exactly what the
stand-in model `scanAll true` returns: the same FASTA records in the same order, the same `Err()`
verdict, the registry untouched — and the stand-in's answer is a `done`, never `unmodelled` or a panic. -/
theorem auto_real_eq_standin (reg : GenBank.Registry) (text : Bytes) (h : startsLocus text = false) :
    ∃ rs c, scanAll true text = .done rs c ∧ Auto.scanAll reg text = .done (faRecs rs) reg c :=
  Auto.scanAll_not_locus reg text h

open Gts.Auto (faRecs startsLocus) in
/-- … so whatever the stand-in returns on such a text is what the real auto scanner returns -/
theorem real_of_standin (reg : GenBank.Registry) (text : Bytes) (rs : List (Bytes × Bytes)) (c : Bool)
    (hl : startsLocus text = false) (hs : scanAll true text = .done rs c) :
    Auto.scanAll reg text = .done (faRecs rs) reg c := by
  obtain ⟨rs', c', h1, h2⟩ := auto_real_eq_standin reg text hl
  obtain ⟨h3, h4⟩ := ScanOut.done.inj (h1.symm.trans hs)
  rw [h2, h3, h4]

/-- a written stream never begins with `LOCUS` (it is empty or begins with `>`) -/
theorem writeAll_not_locus (rs : List (Bytes × Bytes)) :
    Auto.startsLocus (writeAll rs) = false ∧ Auto.startsLocus (crlf (writeAll rs)) = false := by
  cases rs with
  | nil => exact ⟨rfl, rfl⟩
  | cons p rs =>
    have e : writeAll (p :: rs) = 62 :: (nl2sp p.1 ++ 10 :: wrapForce p.2 width ++ [10] ++ writeAll rs) := by
      simp [writeAll, fastaWrite]
    rw [e]
    have e2 : ∀ t : Bytes, crlf (62 :: t) = 62 :: crlf t := fun t => by simp [crlf]
    rw [e2]
    exact ⟨rfl, rfl⟩

open Gts.Auto (Rec Out faRecs) in
/-- **N records read back as the same N records — real auto scanner.**  `scan_write_all` with the
stand-in replaced by the real GenBank reader: for every registry and every stream of records in the
property's domain (every count, 0 included) `seqio.NewAutoScanner` returns the records in order as
`seqio.Fasta` values, `Err()` is `nil`, and the qualifier registry is unchanged. -/
theorem scan_write_all_real (reg : GenBank.Registry) (rs : List (Bytes × Bytes)) (h : recsOk rs = true) :
    Auto.scanAll reg (writeAll rs) = .done (faRecs rs) reg true :=
  real_of_standin reg _ _ _ (writeAll_not_locus rs).1 (scan_write_all true rs h)

open Gts.Auto (Rec Out faRecs) in
/-- **CRLF streams — real auto scanner** (`scan_write_all_crlf` with the real GenBank reader) -/
theorem scan_write_all_crlf_real (reg : GenBank.Registry) (rs : List (Bytes × Bytes))
    (h : recsOk rs = true) :
    Auto.scanAll reg (crlf (writeAll rs)) = .done (faRecs rs) reg true :=
  real_of_standin reg _ _ _ (writeAll_not_locus rs).2 (scan_write_all_crlf true rs h)

open Gts.Auto (Rec Out faRecs) in
/-- **descriptions with line feeds — real auto scanner** (`scan_write_all_nl` with the real GenBank reader) -/
theorem scan_write_all_nl_real (reg : GenBank.Registry) (rs : List (Bytes × Bytes))
    (h : (rs.all fun p => noCR p.1 && resOk p.2) = true) :
    Auto.scanAll reg (writeAll rs) = .done (faRecs (rs.map fun p => (nl2sp p.1, p.2))) reg true :=
  real_of_standin reg _ _ _ (writeAll_not_locus rs).1 (scan_write_all_nl true rs h)

open Gts.Auto (Rec Out faRecs) in
/-- **GenBank → FASTA, read back by the real auto scanner** (`genbank_to_fasta` with the real GenBank
reader): the text `FastaWriter.WriteSeq` writes for a GenBank record is read back by
`seqio.NewAutoScanner` as ONE `seqio.Fasta` value with the record's residues and the description
`version[:head+1-tail] definition` (line feeds as blanks) — it is not mistaken for a GenBank file. -/
theorem genbank_to_fasta_real (reg : GenBank.Registry) (version definition bytes : Bytes)
    (region : Option (Int × Int))
    (hd : noCR (fastaDescOfGenBank version definition region) = true) (hr : resOk bytes = true) :
    ∃ text, fastaWriteSeq (.generic (.genbank version definition region) bytes) = some text ∧
      Auto.scanAll reg text =
        .done [.fa (nl2sp (fastaDescOfGenBank version definition region)) bytes] reg true := by
  refine ⟨_, rfl, ?_⟩
  have := scan_write_all_nl_real reg [(fastaDescOfGenBank version definition region, bytes)]
    (by simp [hd, hr])
  simpa [writeAll, faRecs] using this

open Gts.Auto (Rec Out) in
/-- **GenBank → FASTA — the code of the tree, read back by the real auto scanner** (`gen_genbank_to_fasta`
with the real GenBank reader in front of `FastaParser`) -/
theorem gen_genbank_to_fasta_real (reg : GenBank.Registry) (gbf : Gen.GbFields.GenBankFields) (bytes : Bytes)
    (hd : noCR (Gen.GbFields.genBankFieldsString itoaBytes gbf) = true) (hr : resOk bytes = true) :
    ∃ text, Gen.FastaWrite.fastaWriterWriteSeq Bridge.wrapForceModel
        (.other (.stringer (Gen.GbFields.genBankFieldsString itoaBytes gbf)) bytes) = some text ∧
      Auto.scanAll reg text =
        .done [.fa (nl2sp (Gen.GbFields.genBankFieldsString itoaBytes gbf)) bytes] reg true := by
  rw [Bridge.fastaWriterWriteSeq_genbank]
  rw [Bridge.genBankFieldsString_eq] at hd ⊢
  exact genbank_to_fasta_real reg gbf.Version gbf.Definition bytes gbf.Region hd hr

/-- non-vacuity of the `…_real` theorems on concrete data: the default registry, an empty record and a
71-residue record; the summary lists (is GenBank, length) per record and the `Err() == nil` verdict -/
example : (Auto.scanAll GenBank.Registry.default (writeAll [([100], []), ([101], List.replicate 71 65)])).summary =
    some ([(false, 0), (false, 71)], true) := by decide +kernel

open Gts.Auto (Rec Out) in
/-- **The auto scanner never panics**, for every byte string and every registry (`Push` / `Drop` /
`Pop` of the scanner around `C07.genbankParser_nopanic` and `parse_never_panics`). -/
theorem scan_auto_never_panics (reg : GenBank.Registry) (text : Bytes) :
    Auto.scanAll reg text ≠ .panic :=
  Auto.scanFirst_ne_panic reg ⟨text, []⟩ trivial

open Gts.Auto (Rec Out) in
/-- **The auto scanner sticks to the format of the first record.**  `Scanner.Scan` chooses its
parser ONCE — the first of `GenBankParser`, `FastaParser` that accepts the first record, there is no
peeking and no re-detection — so for every byte string and every registry the scan ends with a list
of records of ONE kind: when `GenBankParser` accepts the first record (run on the state the scanner's
`Push` made) every record returned is a `seqio.GenBank` (at least that one); when it does not, every
record returned is a `seqio.Fasta` and the qualifier registry is untouched. -/
theorem scan_auto_sticks_to_first_format (reg : GenBank.Registry) (text : Bytes) :
    ∃ rs rg c, Auto.scanAll reg text = .done rs rg c ∧
      match ((GenBank.genbankParser reg).run' ⟨text, [text]⟩).1 with
      | .ok _ => rs.all Rec.isGb = true ∧ rs ≠ []
      | .error _ => rs.all Rec.isFa = true ∧ rg = reg :=
  Auto.scanFirst_sticks reg ⟨text, []⟩ trivial

open Gts.Auto (Rec Out startsLocus) in
/-- **With `GenBankParser` kept, a `Scan` in front of anything but a LOCUS line fails.**  Whatever
is left of the input, if it is not empty and does not begin with `LOCUS` (a FASTA record, for one),
the next `Scan` returns false with `Err() != nil`; nothing is consumed and nothing registered. -/
theorem gb_scan_stops_at_fasta (fuel : Nat) (reg : GenBank.Registry) (s : PS)
    (hne : s.rest.isEmpty = false) (h : startsLocus s.rest = false) :
    Auto.gbLoop (fuel + 1) reg s = .done [] reg false :=
  Auto.gbLoop_stops fuel reg s hne h

open Gts.Auto (Rec Out startsLocus) in
/-- **GenBank record, then FASTA.**  If `GenBankParser` reads the record `r` from the front of the
text and stops in front of `f` — `f` not empty and not beginning with `LOCUS`: the `>` of a FASTA
record — then the auto scanner returns exactly that one GenBank record and ends with an ERROR
(`Err() != nil`): the FASTA records behind it are not read (and not silently dropped either). -/
theorem scan_genbank_then_fasta (reg reg' : GenBank.Registry) (g f : Bytes) (r : GenBank.Record)
    (stk' : List Bytes) (hf : f.isEmpty = false) (hl : startsLocus f = false)
    (hg : (GenBank.genbankParser reg).run' ⟨g ++ f, [g ++ f]⟩ = (.ok (r, reg'), ⟨f, stk'⟩)) :
    Auto.scanAll reg (g ++ f) = .done [.gb r] reg' false := by
  have hne : (PS.mk (g ++ f) []).rest.isEmpty = false := by
    show (g ++ f).isEmpty = false
    cases g with
    | nil => exact hf
    | cons c g => rfl
  have := Auto.scanFirst_first_ok reg reg' ⟨g ++ f, []⟩ ⟨f, stk'⟩ r hne hg
  unfold Auto.scanAll
  rw [this]
  show (Auto.gbLoop (f.length + 1) reg' ⟨f, stk'.drop 1⟩).cons (.gb r) = _
  rw [Auto.gbLoop_stops f.length reg' ⟨f, stk'.drop 1⟩ hf hl]
  rfl

/-- a minimal GenBank record (`LOCUS` line and `//`) -/
def miniGenBank : Bytes :=
  GenBank.bs "LOCUS       X                  0 bp    DNA     linear   UNA 01-JAN-2000\n//\n"

/-- non-vacuity of `scan_genbank_then_fasta` and of the GenBank case of
`scan_auto_sticks_to_first_format`: a GenBank record followed by the FASTA record `>a / AC` scans as
one GenBank record and an error; two GenBank records scan as two, without error -/
example : (Auto.scanAll GenBank.Registry.default (miniGenBank ++ [62, 97, 10, 65, 67, 10])).summary =
      some ([(true, 0)], false) ∧
    (Auto.scanAll GenBank.Registry.default (miniGenBank ++ miniGenBank)).summary =
      some ([(true, 0), (true, 0)], true) := by
  unfold miniGenBank
  rw [GenBank.bs_ofList]
  decide +kernel

/-- non-vacuity of the hypotheses of `gb_scan_stops_at_fasta` and `scan_genbank_then_fasta`: `>a / AC` is
not empty and does not begin with `LOCUS`, and `GenBankParser` (default registry, on the state the
scanner's `Push` made) reads the minimal record from the front of `record ++ ">a\nAC\n"` and stops
exactly in front of the `>` -/
example : ([62, 97, 10, 65, 67, 10] : Bytes).isEmpty = false ∧
    Auto.startsLocus [62, 97, 10, 65, 67, 10] = false ∧
    ∃ r reg' stk', (GenBank.genbankParser GenBank.Registry.default).run'
        ⟨miniGenBank ++ [62, 97, 10, 65, 67, 10], [miniGenBank ++ [62, 97, 10, 65, 67, 10]]⟩ =
      (.ok (r, reg'), ⟨[62, 97, 10, 65, 67, 10], stk'⟩) := by
  unfold miniGenBank
  rw [GenBank.bs_ofList]
  refine ⟨rfl, rfl, ?_⟩
  generalize hrun : (GenBank.genbankParser GenBank.Registry.default).run' _ = x
  have h : (match x with
      | (.ok _, s') => s'.rest == [62, 97, 10, 65, 67, 10]
      | _ => false) = true := by subst hrun; decide +kernel
  obtain ⟨res, s'⟩ := x
  rcases res with e | ⟨r, reg'⟩
  · cases h
  · obtain ⟨rest, stk⟩ := s'
    have h' : rest = [62, 97, 10, 65, 67, 10] := by simpa using h
    subst h'
    exact ⟨r, reg', stk, rfl⟩

open Gts.Auto (Rec Out) in
/-- **FASTA record, then GenBank (or any text without `>`).**  With `FastaParser` kept, a record's
body runs to the next `>` or the end of input: a written FASTA record followed by a text `g` without
`>` scans — for every registry — as ONE FASTA record whose residues are the record's residues
followed by `g` with its line breaks removed; `Err()` is `nil`.  The GenBank record is neither
recognised nor reported: it is silently read as residues. -/
theorem scan_fasta_then_genbank (reg : GenBank.Registry) (d r g : Bytes) (hd : noCR d = true)
    (hr : resOk r = true) (hg : g.all notGt = true) :
    Auto.scanAll reg (fastaWrite d r ++ g) = .done [.fa (nl2sp d) (r ++ fastaBody g)] reg true := by
  have e : fastaWrite d r ++ g = 62 :: (nl2sp d ++ 10 :: wrapForce r width ++ [10] ++ g) := by
    simp [fastaWrite]
  have hl : Auto.startsLocus (fastaWrite d r ++ g) = false := by rw [e]; rfl
  have hs := scanAll_records true [(fastaWrite d r ++ g, (nl2sp d, r ++ fastaBody g))] fun p hp => by
    obtain rfl := List.mem_singleton.1 hp
    exact ⟨⟨_, e⟩, fun rest stk hrest => by
      rw [List.append_assoc]; exact parse_write_then d r g rest stk hd hr hg hrest⟩
  rw [List.map_singleton, List.flatten_singleton] at hs
  exact real_of_standin reg _ _ _ hl hs

/-- non-vacuity of `scan_fasta_then_genbank`: `>d / AC` followed by the minimal GenBank record is one
FASTA record whose residues are `AC` and the record's text without its two line feeds -/
example : noCR [100] = true ∧ resOk [65, 67] = true ∧ miniGenBank.all notGt = true ∧
    (Auto.scanAll GenBank.Registry.default (fastaWrite [100] [65, 67] ++ miniGenBank)).summary =
      some ([(false, (miniGenBank.length : Int))], true) := by
  unfold miniGenBank
  rw [GenBank.bs_ofList]
  decide +kernel

/-- **The fuels of the two scan loops are adequate** (so no theorem above is true because a loop ran
out of fuel): a record that `GenBankParser` returns has consumed its LOCUS keyword, one that
`FastaParser` returns its `>`, hence any two fuels above the number of bytes left give the same
result — `Gts.Auto.scanFirst` passes `len + 1`. -/
theorem gbLoop_fuel_stable (reg : GenBank.Registry) (s : PS) (hs : Sorted s.rest.length s.stk)
    (n m : Nat) (hn : s.rest.length < n) (hm : s.rest.length < m) :
    Auto.gbLoop n reg s = Auto.gbLoop m reg s :=
  Auto.gbLoop_fuel n m reg s hs hn hm

/-- see `gbLoop_fuel_stable` -/
theorem faLoop_fuel_stable (reg : GenBank.Registry) (s : PS)
    (n m : Nat) (hn : s.rest.length < n) (hm : s.rest.length < m) :
    Auto.faLoop n reg s = Auto.faLoop m reg s :=
  Auto.faLoop_fuel reg n m s hn hm

/-- non-vacuity: the fresh state of a scanner is sorted, and 3 bytes are fewer than 4 and than 9 -/
example : Sorted (PS.mk [62, 97, 10] []).rest.length (PS.mk [62, 97, 10] []).stk ∧
    (PS.mk [62, 97, 10] []).rest.length < 4 ∧ (PS.mk [62, 97, 10] []).rest.length < 9 :=
  ⟨trivial, by decide, by decide⟩

/-- **Where the first `Scan` does NOT restore the position (a property of the code, confirmed on
/repo by the op `auto.scan`).**  `GenBankParser` calls `state.Clear()` behind the LOCUS line, which
also discards the position the scanner pushed; when the record fails after that, the scanner's `Pop`
finds an empty stack and `FastaParser` is tried where `GenBankParser` gave up.  Witness: a LOCUS line
with the unknown molecule `XNA`, then `>a / AC`: the scan returns the FASTA record `a / AC` without
error, the LOCUS line is skipped silently. -/
theorem auto_skips_broken_locus_witness :
    (Auto.scanAll GenBank.Registry.default
      (GenBank.bs "LOCUS       X                  0 bp    XNA     linear   UNA 01-JAN-2000\n>a\nAC\n")).summary =
      some ([(false, 2)], true) := by
  rw [GenBank.bs_ofList]
  decide +kernel

/-! ### the CLI path `gts <cmd> -F fasta` (generated table `Gts/Gen/CliWriters.lean`, re-read from
cmd/gts/*.go, seqio/filetype.go and seqio/writer.go on every run) -/

/-- **Every subcommand that writes sequences declares `-F` / `--format` and hands it to
`seqio.NewWriter`.**  For every function of cmd/gts that calls `seqio.NewWriter` or `WriteSeq` (facts
from the AST): the option is `opt.String('F', "format", "", …)`; the file type given to every
`NewWriter` call is one variable, assigned from `seqio.Detect(*output)` and then, under
`if *format != ""`, from `seqio.ToFileType(*format)`, both before the writer is made; every `WriteSeq`
goes to such a writer.  So a non-empty `-F` value decides the writer, whatever the output path says. -/
theorem cli_format_reaches_writer :
    ∀ w ∈ Gen.CliWriters.writers, CliWriters.declaresFormat w = true ∧ CliWriters.formatReachesWriter w = true := by
  decide +kernel

/-- the same as a report (what `bin/check` would print): nothing is missing -/
theorem cli_format_report : CliWriters.report = [] := by
  rw [CliWriters.report, List.flatMap_eq_nil_iff]
  intro w hw
  obtain ⟨h1, h2⟩ := cli_format_reaches_writer w hw
  rw [if_pos h1, if_pos h2]; rfl

/-- **`-F fasta` selects the FASTA writer, `-F gb` / `genbank` the GenBank writer, no `-F` and no
known extension auto-detection** (the string switch of `seqio.ToFileType` and the FileType switch of
`seqio.NewWriter`, as tables): the writer whose output the theorems above are about
(`fastaWriteSeq`, `writer_cases`, `genbank_to_fasta_real`) is the one the command uses. -/
theorem cli_fasta_selects_fasta_writer :
    CliWriters.writerOf (CliWriters.fileTypeOf "fasta") = "FastaWriter" ∧
    CliWriters.writerOf (CliWriters.fileTypeOf "gb") = "GenBankWriter" ∧
    CliWriters.writerOf (CliWriters.fileTypeOf "genbank") = "GenBankWriter" ∧
    CliWriters.writerOf (CliWriters.fileTypeOf "") = "AutoWriter" := by decide

/-- non-vacuity: the table is not empty; it holds the subcommands the harness oracle `cli.fasta` runs -/
example : (Gen.CliWriters.writers.map (·.name)).length ≥ 5 ∧
    (["clear", "complement", "repair", "reverse", "sort"].all
      (Gen.CliWriters.writers.map (·.name)).contains) = true := by decide

end Gts.C17
