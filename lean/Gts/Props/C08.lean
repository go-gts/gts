/-
  C08 — Resizing a region equals slicing its spliced sequence; locators compose.
  Property theorems only (helper lemmas live in Gts/Lemmas/{RegDen,Resize,ResizeLocate,ModText,ModRoundTrip,LocRun,Locator}).

  Vocabulary: `Reg.den r` is the ordered, stranded list of residues `r.Locate(seq)` reads
  (Gts/Spec/Den.lean); `Reg.bounds m total = (lo, hi)` are the offsets, counted from the 5' end
  of the region along its own direction, that `Regions.Resize` computes for the modifier;
  `Reg.mirror L` is the region as seen on the reverse-complemented record of length `L`.
-/
import Gts.Lemmas.Resize
import Gts.Lemmas.ModRoundTrip
import Gts.Lemmas.Locator
import Gts.Lemmas.ResizeLocate
namespace Gts.C08
open Gts Reg Pars

/-- the five `Apply` on a forward pair (`h ≤ t`), form by form -/
theorem apply_forms_fwd (h t p q : Int) (hle : h ≤ t) :
    (Mod.head p).apply h t = (h + p, h + p) ∧
    (Mod.tail q).apply h t = (t + q, t + q) ∧
    (Mod.headTail p q).apply h t = (h + p, Loc.gmax (h + p) (t + q)) ∧
    (Mod.headHead p q).apply h t = (h + p, Loc.gmax (h + p) (h + q)) ∧
    (Mod.tailTail p q).apply h t = (t + p, Loc.gmax (t + p) (t + q)) := by
  have : ¬ t < h := by omega
  simp [Mod.apply, Mod.applyFwd, this]

/-- the five `Apply` on a backward pair (`t < h`, complement strand): the same offsets, applied
along the pair's own direction (signs flipped, `Max` becomes `Min`) -/
theorem apply_forms_bwd (h t p q : Int) (hlt : t < h) :
    (Mod.head p).apply h t = (h - p, h - p) ∧
    (Mod.tail q).apply h t = (t - q, t - q) ∧
    (Mod.headTail p q).apply h t = (h - p, Loc.gmin (h - p) (t - q)) ∧
    (Mod.headHead p q).apply h t = (h - p, Loc.gmin (h - p) (h - q)) ∧
    (Mod.tailTail p q).apply h t = (t - p, Loc.gmin (t - p) (t - q)) := by
  simp only [Mod.apply, Mod.applyFwd, hlt, ↓reduceIte, Loc.gmax_eq_max, Loc.gmin_eq_min, Prod.mk.injEq]
  omega

/-- all forms at once, forward pair: `(h + lo, h + max lo hi)` with `(lo, hi)` the modifier's
bounds over the pair's length -/
theorem apply_fwd (m : Mod) (h t : Int) (hle : h ≤ t) :
    m.apply h t = (h + (bounds m (t - h)).1, h + Loc.gmax (bounds m (t - h)).1 (bounds m (t - h)).2) := by
  rw [Mod.apply_eq, if_neg (by omega), show gabs (t - h) = t - h by rw [gabs_eq]; omega]

/-- all forms at once, backward pair: `(h - lo, h - max lo hi)` -/
theorem apply_bwd (m : Mod) (h t : Int) (hlt : t < h) :
    m.apply h t = (h - (bounds m (h - t)).1, h - Loc.gmax (bounds m (h - t)).1 (bounds m (h - t)).2) := by
  rw [Mod.apply_eq, if_pos hlt, show gabs (t - h) = h - t by rw [gabs_eq]; omega]

/-- the negation trick of the Go code as a law: applying to the negated pair and negating back
is the identity on results, for every non-empty pair of either orientation -/
theorem apply_neg (m : Mod) (h t : Int) (hne : h ≠ t) :
    m.apply h t = (-(m.apply (-h) (-t)).1, -(m.apply (-h) (-t)).2) := by
  have := m.apply_reflect 0 (-h) (-t) (by omega)
  simp only [Int.zero_sub, Int.neg_neg] at this
  rw [this]

/-- mirror law for one pair: on the reverse-complemented record of length `L` the pair
`(h, t)` is `(L - h, L - t)`, and `Apply` commutes with that change of coordinates -/
theorem apply_mirror (m : Mod) (L h t : Int) (hne : h ≠ t) :
    m.apply (L - h) (L - t) = (L - (m.apply h t).1, L - (m.apply h t).2) :=
  m.apply_reflect L h t hne

/-- … and the guard `h ≠ t` is needed: an empty pair has no orientation, `Apply` reads it as
forward on both records (`Head(2)` on `(5,5)`, `L = 10`: `(7,7)` mirrored is `(3,3)`, but the
mirrored pair `(5,5)` resizes to `(7,7)`). -/
theorem apply_mirror_empty_refuted :
    ¬ ∀ (m : Mod) (L h : Int), m.apply (L - h) (L - h) = (L - (m.apply h h).1, L - (m.apply h h).2) := by
  intro H
  have := H (.head 2) 10 5
  revert this
  decide

/-- a region's length is the number of residues it reads -/
theorem len_eq_residues (r : Reg) (hv : nonvoid r = true) : len r = ((den r).length : Int) :=
  (Cli.den_length r).symm

/-- MAIN.  For every region `r` — a segment of either orientation, a `Regions` value of any
number of elements of any orientation mix, nested to any depth, as long as no `Regions` value
in it is empty — and every modifier `m` of the five forms whose bounds `(lo, hi)` stay inside
the region (`0 ≤ lo ≤ hi ≤ len r`), the residues read by the resized region are exactly the
residues `lo .. hi-1` of the residues read by `r`, in the same order and on the same strand:
`^` is the region's 5' end and `$` its 3' end in the direction of its strand. -/
theorem resize_den (r : Reg) (m : Mod) (hv : nonvoid r = true)
    (h0 : 0 ≤ (bounds m (len r)).1) (h1 : (bounds m (len r)).1 ≤ (bounds m (len r)).2)
    (h2 : (bounds m (len r)).2 ≤ len r) :
    den (resize r m) =
      ((den r).drop (bounds m (len r)).1.toNat).take ((bounds m (len r)).2 - (bounds m (len r)).1).toNat :=
  resize_den_of_nonvoid r m hv h0 h1 h2

/-- **resize_locate_bytes** — the MAIN theorem at the byte level ("the extracted sequence").  For a record
`s`, a region `r` INSIDE it (`Reg.within s.len r`: both ends of every segment, zero-length ones included, lie
in `[0, len]` — the condition under which no `Slice` inside the real `Locate` panics or wraps), no `Regions`
value in `r` empty, and a modifier whose bounds satisfy `0 ≤ lo ≤ hi ≤ len r`: the residues extracted by
`r.Resize(m).Locate(s)` are the residues of `Slice(r.Locate(s), lo, hi)`, which are bytes `lo .. hi-1` of the
residues extracted by `r.Locate(s)`.  BYTES only: nothing is said about the feature table of the two
sequences, nor — on the real code — about `r.Resize(m)` itself staying clear of a panicking `Slice`. -/
theorem resize_locate_bytes (r : Reg) (m : Mod) (s : Seq) (hv : nonvoid r = true)
    (hb : within s.len r)
    (h0 : 0 ≤ (bounds m (len r)).1) (h1 : (bounds m (len r)).1 ≤ (bounds m (len r)).2)
    (h2 : (bounds m (len r)).2 ≤ len r) :
    (locate (resize r m) s).bytes =
        ((locate r s).slice (bounds m (len r)).1 (bounds m (len r)).2).bytes ∧
    ((locate r s).slice (bounds m (len r)).1 (bounds m (len r)).2).bytes =
      ((locate r s).bytes.drop (bounds m (len r)).1.toNat).take
        ((bounds m (len r)).2 - (bounds m (len r)).1).toNat := by
  have hs := slice_bytes_inside (locate r s) _ _ h0 h1
  exact ⟨(resize_locate_bytes_den r m s hv (denIn_of_within hb) h0 h1 h2).trans hs.symm, hs⟩

/-- non-vacuity: a mixed-orientation three-segment region inside a 12-residue record, `^+2..^+5`:
hypotheses hold and the extraction is evaluated (`acgt` ++ reverse complement of `gt` ++ `gt` = `acgtacgt`,
its bytes 2..4 = `gta`; 97 = a, 99 = c, 103 = g, 116 = t) -/
example :
    let s : Seq := ⟨[], [97, 99, 103, 116, 97, 99, 103, 116, 97, 99, 103, 116]⟩
    let r := many [seg 0 4, seg 8 6, seg 10 12]
    let m := Mod.headHead 2 5
    nonvoid r = true ∧ within s.len r ∧ bounds m (len r) = (2, 5) ∧ len r = 8 ∧
    (locate r s).bytes = [97, 99, 103, 116, 97, 99, 103, 116] ∧
    (locate (resize r m) s).bytes = [103, 116, 97] := by decide +kernel

/-- the flat case of the property text: `1..n` segments (`(head, tail)` pairs, forward when
`head ≤ tail`, backward otherwise, any mix, empty segments allowed) -/
theorem resize_den_flat (segs : List (Int × Int)) (m : Mod) (hne : segs ≠ [])
    (h0 : 0 ≤ (bounds m (len (many (segs.map fun s => seg s.1 s.2)))).1)
    (h1 : (bounds m (len (many (segs.map fun s => seg s.1 s.2)))).1 ≤
          (bounds m (len (many (segs.map fun s => seg s.1 s.2)))).2)
    (h2 : (bounds m (len (many (segs.map fun s => seg s.1 s.2)))).2 ≤
          len (many (segs.map fun s => seg s.1 s.2))) :
    den (resize (many (segs.map fun s => seg s.1 s.2)) m) =
      ((den (many (segs.map fun s => seg s.1 s.2))).drop
          (bounds m (len (many (segs.map fun s => seg s.1 s.2)))).1.toNat).take
        ((bounds m (len (many (segs.map fun s => seg s.1 s.2)))).2 -
          (bounds m (len (many (segs.map fun s => seg s.1 s.2)))).1).toNat := by
  refine resize_den _ m ?_ h0 h1 h2
  have hl : ∀ l : List (Int × Int), nonvoidList (l.map fun s => seg s.1 s.2) = true := by
    intro l; induction l with
    | nil => rfl
    | cons a tl ih => simp [nonvoidList, nonvoid, ih]
  cases segs with
  | nil => exact absurd rfl hne
  | cons a tl => simp only [nonvoid, List.map_cons, List.isEmpty_cons, Bool.not_false, Bool.true_and]; exact hl (a :: tl)

/-- a resized segment in closed form: for every modifier with `lo ≤ hi` (inside or outside)
the result is `(h ± lo, h ± hi)` along the segment's own direction -/
theorem resize_seg (h t : Int) (m : Mod)
    (h1 : (bounds m (gabs (t - h))).1 ≤ (bounds m (gabs (t - h))).2) :
    resize (seg h t) m =
      if t < h then seg (h - (bounds m (gabs (t - h))).1) (h - (bounds m (gabs (t - h))).2)
      else seg (h + (bounds m (gabs (t - h))).1) (h + (bounds m (gabs (t - h))).2) :=
  resize_seg_eq h t m h1

/-- offsets outside a single segment extend it outward: with `a = max 0 (-lo)` and
`b = max 0 (hi - len)`, the resized segment reads the residues `lo + a .. hi + a - 1` of the
segment whose head is moved outward by `a` and whose tail is moved outward by `b`
(no bound on `lo`, `hi` other than `lo ≤ hi`) -/
theorem resize_seg_outside (h t : Int) (m : Mod) (lo hi : Int)
    (hb : bounds m (gabs (t - h)) = (lo, hi)) (h1 : lo ≤ hi) :
    den (resize (seg h t) m) =
      sliceDen (den (extSeg h t (Loc.gmax 0 (-lo)) (Loc.gmax 0 (hi - gabs (t - h)))))
        (lo + Loc.gmax 0 (-lo)) (hi + Loc.gmax 0 (-lo)) :=
  resize_seg_ext_den h t m lo hi _ _ hb h1 (by rw [Loc.gmax_eq_max]; omega) (by rw [Loc.gmax_eq_max]; omega)

/-- offsets outside a flat region of any number of segments (either orientation, any mix)
extend its first / last segment outward: for every modifier with `lo ≤ hi` (no other bound) the
resized region reads the residues `lo + a .. hi + a - 1` of the region whose first segment's head
is moved outward by `a = max 0 (-lo)` and whose last segment's tail is moved outward by
`b = max 0 (hi - len)`; inside (`a = b = 0`) this is `resize_den` again -/
theorem resize_flat_outside (rs : List Reg) (hflat : rs.all isSeg = true) (hne : rs ≠ []) (m : Mod)
    (lo hi : Int) (hb : bounds m (lenList rs) = (lo, hi)) (h1 : lo ≤ hi) :
    den (resize (many rs) m) =
      sliceDen (denList (extLast (Loc.gmax 0 (hi - lenList rs)) (extFirst (Loc.gmax 0 (-lo)) rs)))
        (lo + Loc.gmax 0 (-lo)) (hi + Loc.gmax 0 (-lo)) := by
  have ha : 0 ≤ Loc.gmax 0 (-lo) ∧ -lo ≤ Loc.gmax 0 (-lo) := by rw [Loc.gmax_eq_max]; omega
  have hbb : 0 ≤ Loc.gmax 0 (hi - lenList rs) ∧ hi - lenList rs ≤ Loc.gmax 0 (hi - lenList rs) := by
    rw [Loc.gmax_eq_max]; omega
  rw [resize_many_eq, hb]
  -- a segment obeys the slicing law with every allowance at either end
  refine resizeCore_den _ _ rs (fun r hr a' b' ha' hb' => ?_) hne lo hi (by omega) h1 (by omega)
  match r, List.all_eq_true.mp hflat r hr with
  | seg h t, _ =>
    exact extLaw_seg h t a' b' (by rcases ha' with rfl | rfl <;> omega) (by rcases hb' with rfl | rfl <;> omega)

/-- non-vacuity of `resize_flat_outside`: `^-2..$+3` on a forward and a backward segment: two
bases before the first segment, three bases beyond the 3' end of the second -/
example : den (resize (many [seg 10 12, seg 20 17]) (.headTail (-2) 3)) =
    [(8, false), (9, false), (10, false), (11, false),
     (19, true), (18, true), (17, true), (16, true), (15, true), (14, true)] ∧
    bounds (.headTail (-2) 3) (lenList [seg 10 12, seg 20 17]) = (-2, 8) := by decide +kernel

/-- non-vacuity of `resize_den`: a three-segment region and a modifier spanning all three -/
example : nonvoid (many [seg 0 5, seg 10 12, seg 20 30]) = true ∧
    bounds (.headHead 4 9) (len (many [seg 0 5, seg 10 12, seg 20 30])) = (4, 9) ∧
    len (many [seg 0 5, seg 10 12, seg 20 30]) = 17 := by decide +kernel

/-- … and what the theorem says there, evaluated: bases 4 | 10 11 | 20 21 -/
example : den (resize (many [seg 0 5, seg 10 12, seg 20 30]) (.headHead 4 9)) =
    [(4, false), (10, false), (11, false), (20, false), (21, false)] := by decide +kernel

/-- the same region on the complement strand (as `complement(join(..))` yields it): `^+4..^+9`
counts from the 5' end of the reverse strand -/
example : den (resize (many [seg 30 20, seg 12 10, seg 5 0]) (.headHead 4 9)) =
    [(25, true), (24, true), (23, true), (22, true), (21, true)] := by decide +kernel

/-- the witness of the repaired defect F3 (commit 83028a8), on the model: the walk stops at the
bounding segment -/
example : (resize (many [seg 0 5, seg 10 12, seg 20 30]) (.headHead 2 4) == seg 2 4) = true := by decide +kernel

/-- non-vacuity of `resize_seg_outside`: `^-3..$+2` on the backward segment `(9, 4)` -/
example : den (resize (seg 9 4) (.headTail (-3) 2)) =
    sliceDen (den (extSeg 9 4 3 2)) 0 10 ∧ (den (resize (seg 9 4) (.headTail (-3) 2))).length = 10 := by
  decide +kernel

/-- For every proper region (no empty `Regions`, every segment non-empty; any orientation mix
and nesting) resizing commutes with `mirror L`: what `^..$`-relative offsets select does not
depend on which strand of the record the coordinates are written on. -/
theorem resize_mirror (L : Int) (r : Reg) (m : Mod) (hp : proper r = true) :
    resize (mirror L r) m = mirror L (resize r m) :=
  mirrorLaw_of_proper L r hp m

/-- `mirror L` is what it claims to be — the change of coordinates to the reverse-complemented
record: a proper region and its mirror image read, position by position, mirrored residues
(`x ↦ L - 1 - x`) on the opposite strand, in the same order.  Together with `resize_mirror`:
a modifier selects the same residues of a feature whichever strand the record is written on. -/
theorem mirror_den (L : Int) (r : Reg) (hp : proper r = true) :
    den (mirror L r) = (den r).map (mirrorPos L) :=
  Gts.den_mirror L r hp

/-- the guard "every segment non-empty" is needed (an empty segment is read as forward on both
records): `Head(2)` on the empty segment `(5, 5)`, `L = 10` -/
theorem resize_mirror_empty_refuted :
    ¬ ∀ (L : Int) (r : Reg) (m : Mod), nonvoid r = true → resize (mirror L r) m = mirror L (resize r m) := by
  intro H
  have := H 10 (seg 5 5) (.head 2) rfl
  simp [mirror, resize, Mod.apply, Mod.applyFwd] at this

/-- the law is *not* commutation with `Region.Complement()`, which swaps the ends that `^` and
`$` refer to: `Head(1)` on `(3, 6)` -/
theorem resize_complement_refuted :
    ¬ ∀ (r : Reg) (m : Mod), proper r = true → resize (complement r) m = complement (resize r m) := by
  intro H
  have := H (seg 3 6) (.head 1) (by decide)
  simp [complement, resize, Mod.apply, Mod.applyFwd] at this

/-- non-vacuity: a mixed-orientation nested region is proper -/
example : proper (many [seg 3 8, many [seg 20 15, seg 30 32], seg 40 41]) = true := by decide +kernel

/-- `Modifier.String()` of the forms of the property text, byte for byte:
`^`, `^+3`, `^-2`, `$`, `^..$`, `^+1..$-2`, `^..^+5`, `$-3..$` -/
example : Mod.printB (.head 0) = [94] ∧ Mod.printB (.head 3) = [94, 43, 51] ∧
    Mod.printB (.head (-2)) = [94, 45, 50] ∧ Mod.printB (.tail 0) = [36] ∧
    Mod.printB (.headTail 0 0) = [94, 46, 46, 36] ∧
    Mod.printB (.headTail 1 (-2)) = [94, 43, 49, 46, 46, 36, 45, 50] ∧
    Mod.printB (.headHead 0 5) = [94, 46, 46, 94, 43, 53] ∧
    Mod.printB (.tailTail (-3) 0) = [36, 45, 51, 46, 46, 36] := by decide +kernel

/-- `AsModifier(m.String()) = m` for all five forms and all offsets a Go `int` can hold
(the model's `strconv.Atoi` rejects anything beyond 64 bits, hence `fits64`). -/
theorem parse_print_mod (m : Mod) (hf : m.fits64) : asModifier m.printB = .ok m :=
  asModifier_printB m hf

/-- non-vacuity -/
example : (Mod.headTail 1 (-2)).fits64 ∧ (Mod.tailTail (-9223372036854775808) 9223372036854775807).fits64 := by
  simp [Mod.fits64, fits64]

/-- bare modifier ↦ the whole sequence resized: `AsLocator(m.String())` is
`relativeLocator(m)`, whatever the selector oracle says, and yields `[Segment{0, L}.Resize(m)]` -/
theorem locator_bare_modifier (selOk : Bytes → Bool) (filt : Bytes → Feature → Bool) (seq : Seq)
    (m : Mod) (hf : m.fits64) :
    asLocator selOk m.printB = .bareModifier m ∧
    (asLocator selOk m.printB).apply filt seq = [resize (seg 0 seq.len) m] := by
  have h : asLocator selOk m.printB = .bareModifier m := by
    unfold asLocator
    rw [splitAt_noAt _ (printB_noAt m)]
    simp [asLocatorBare, asModifier_printB m hf]
  exact ⟨h, by rw [h]; rfl⟩

/-- … and that region reads the bases `lo .. hi-1` of the sequence (forward strand) whenever
`lo ≤ hi`, inside or outside `[0, L]` -/
theorem locator_bare_modifier_den (L : Int) (hL : 0 ≤ L) (m : Mod)
    (h1 : (bounds m L).1 ≤ (bounds m L).2) :
    den (resize (seg 0 L) m) = fwd (irange (bounds m L).1 ((bounds m L).2 - (bounds m L).1).toNat) := by
  have hg : gabs (L - 0) = L := by rw [gabs_eq]; omega
  rw [resize_seg_eq 0 L m (by rw [hg]; exact h1), hg, if_neg (by omega)]
  simp only [den, Int.zero_add]
  rw [if_neg (by omega)]

/-- precedence: a string without `@` is read by `asLocatorBare` (Gts/Model/Locator.lean), which
tries, in this order, modifier, point / range / complement location, selector … -/
theorem locator_precedence (selOk : Bytes → Bool) (s : Bytes) (hs : (64 : UInt8) ∉ s) :
    asLocator selOk s = asLocatorBare selOk s := by
  unfold asLocator
  rw [splitAt_noAt s hs]

/-- … so whatever parses as a modifier is never read as a location or a selector -/
theorem locator_modifier_first (selOk : Bytes → Bool) (s : Bytes) (m : Mod) (hs : (64 : UInt8) ∉ s)
    (hm : asModifier s = .ok m) : asLocator selOk s = .bareModifier m := by
  rw [locator_precedence selOk s hs]; simp [asLocatorBare, hm]

/-- … and a string that is none of the three is rejected -/
theorem locator_rejected (selOk : Bytes → Bool) (s : Bytes) (hs : (64 : UInt8) ∉ s)
    (hm : asModifier s = .error .fail) (hl : tryLocation s = .error .fail) (hok : selOk s = false) :
    asLocator selOk s = .error := by
  rw [locator_precedence selOk s hs]; simp [asLocatorBare, hm, hl, hok]

/-- a string that does not start with `^` or `$` is not a modifier (so digits, `<`,
`complement(`, feature keys fall through to the location / selector rules) -/
theorem not_modifier (c : UInt8) (r : Bytes) (h1 : c ≠ 94) (h2 : c ≠ 36) :
    asModifier (c :: r) = .error .fail := asModifier_err_of_first c r h1 h2

/-- bare location ↦ itself -/
theorem locator_location (selOk : Bytes → Bool) (filt : Bytes → Feature → Bool) (seq : Seq) (s : Bytes)
    (l : Loc) (hs : (64 : UInt8) ∉ s) (hm : asModifier s = .error .fail) (hl : tryLocation s = .ok l) :
    asLocator selOk s = .bareLocation l ∧ (asLocator selOk s).apply filt seq = [l.region] := by
  have h : asLocator selOk s = .bareLocation l := by
    rw [locator_precedence selOk s hs]; simp [asLocatorBare, hm, hl]
  exact ⟨h, by rw [h]; rfl⟩

/-- bare point ↦ itself: the decimal `n` (1-based) is the one-base region `[n-1, n)` -/
theorem locator_point (selOk : Bytes → Bool) (filt : Bytes → Feature → Bool) (seq : Seq) (n : Nat)
    (h0 : 0 < n) (hf : n ≤ 9223372036854775807) :
    (asLocator selOk (natDigits n)).apply filt seq = [seg ((n : Int) - 1) ((n : Int) - 1 + 1)] := by
  have hm := asModifier_natDigits n []
  rw [List.append_nil] at hm
  exact (locator_location selOk filt seq _ _ (natDigits_noAt n) hm (tryLocation_point n hf)).2

/-- bare range ↦ itself: `a..b` (1-based, inclusive) is the region `[a-1, b)` -/
theorem locator_range (selOk : Bytes → Bool) (filt : Bytes → Feature → Bool) (seq : Seq) (a b : Nat)
    (ha : 0 < a) (hfa : a ≤ 9223372036854775807) (hb : 0 < b) (hfb : b ≤ 9223372036854775807) :
    (asLocator selOk (natDigits a ++ 46 :: 46 :: natDigits b)).apply filt seq = [seg ((a : Int) - 1) b] := by
  have hat : (64 : UInt8) ∉ natDigits a ++ 46 :: 46 :: natDigits b := by
    simp only [List.mem_append, List.mem_cons, not_or]
    exact ⟨natDigits_noAt a, by decide, by decide, natDigits_noAt b⟩
  exact (locator_location selOk filt seq _ _ hat (asModifier_natDigits a _) (tryLocation_range a b hfa hfb)).2

/-- bare selector ↦ the matching features' regions, in table order.  `tryLocation s` fails exactly
when `s` is not, as a whole, a point / range / complement location (`pars.Exact`, repair 03b944a
of finding F9), so the hypotheses say: `s` is neither a modifier nor entirely a location, and
its qualifier regexps compile. -/
theorem locator_selector (selOk : Bytes → Bool) (filt : Bytes → Feature → Bool) (seq : Seq)
    (s : Bytes) (hs : (64 : UInt8) ∉ s) (hm : asModifier s = .error .fail)
    (hl : tryLocation s = .error .fail) (hok : selOk s = true) :
    asLocator selOk s = .selector s ∧
    (asLocator selOk s).apply filt seq = (seq.feats.filter (filt s)).map fun f => f.loc.region := by
  have h : asLocator selOk s = .selector s := by
    rw [locator_precedence selOk s hs]; simp [asLocatorBare, hm, hl, hok]
  exact ⟨h, by rw [h]; rfl⟩

/-- a location *prefix* does not make a location: a number followed by any byte that is not a
digit or `.` (`5'UTR`, `3'UTR`, `12abc`, `5S_rRNA`, …) is rejected by `tryLocation` (the point is
parsed, but `End` fails on the remaining bytes) -/
theorem number_prefix_not_location (n : Nat) (c : UInt8) (r : Bytes) (h0 : 0 < n)
    (hf : n ≤ 9223372036854775807) (hc : isDigit c = false) (hc46 : c ≠ 46) :
    tryLocation (natDigits n ++ c :: r) = .error .fail :=
  tryLocation_of_ok fun fuel stk =>
    tryLoc_point fuel n (c :: r) stk hf (by simp [hc]) (by cases r <;> simp [hc46])

/-- … hence such a string is read as a selector, at full strength (no hypothesis on
`tryLocation` left): feature keys that start with a number select their features -/
theorem locator_selector_number_prefix (selOk : Bytes → Bool) (filt : Bytes → Feature → Bool) (seq : Seq)
    (n : Nat) (c : UInt8) (r : Bytes) (h0 : 0 < n) (hf : n ≤ 9223372036854775807)
    (hc : isDigit c = false) (hc46 : c ≠ 46) (hs : (64 : UInt8) ∉ natDigits n ++ c :: r)
    (hok : selOk (natDigits n ++ c :: r) = true) :
    (asLocator selOk (natDigits n ++ c :: r)).apply filt seq =
      (seq.feats.filter (filt (natDigits n ++ c :: r))).map fun f => f.loc.region := by
  exact (locator_selector selOk filt seq _ hs (asModifier_natDigits n _)
    (number_prefix_not_location n c r h0 hf hc hc46) hok).2

/-- the witnesses of the repaired finding F9, on the model: `5'UTR`, `3'UTR`, `12abc` and
`3..5xyz` are selectors, `5` and `3..5` are still locations -/
example :
    (match asLocator (fun _ => true) [53, 39, 85, 84, 82] with
      | .selector [53, 39, 85, 84, 82] => true | _ => false) = true ∧
    (match asLocator (fun _ => true) [51, 39, 85, 84, 82] with
      | .selector [51, 39, 85, 84, 82] => true | _ => false) = true ∧
    (match asLocator (fun _ => true) [49, 50, 97, 98, 99] with
      | .selector [49, 50, 97, 98, 99] => true | _ => false) = true ∧
    (match asLocator (fun _ => true) [51, 46, 46, 53, 120, 121, 122] with
      | .selector [51, 46, 46, 53, 120, 121, 122] => true | _ => false) = true ∧
    (match asLocator (fun _ => true) [53] with | .bareLocation (.point 4) => true | _ => false) = true ∧
    (match asLocator (fun _ => true) [51, 46, 46, 53] with
      | .bareLocation (.ranged 2 5 false false) => true | _ => false) = true := by decide +kernel

/-- non-vacuity of `locator_selector`: the selector `gene` (bytes 103 101 110 101) -/
example : (64 : UInt8) ∉ [103, 101, 110, 101] ∧
    (match asModifier [103, 101, 110, 101] with | .error .fail => true | _ => false) = true ∧
    (match tryLocation [103, 101, 110, 101] with | .error .fail => true | _ => false) = true := by decide +kernel

/-- `X@M`: the first `@` splits the specifier from the modifier; the specifier is read by the
bare rules -/
theorem locator_at (selOk : Bytes → Bool) (x : Bytes) (m : Mod) (hx : (64 : UInt8) ∉ x) (hne : x ≠ [])
    (hf : m.fits64) :
    asLocator selOk (x ++ 64 :: m.printB) =
      match asLocator selOk x with
      | .error => .error
      | .panic => .panic
      | d => .at d m := by
  rw [locator_precedence selOk x hx]
  unfold asLocator
  rw [splitAt_at x _ hx]
  cases x with
  | nil => exact absurd rfl hne
  | cons c r =>
    simp only [asModifier_printB m hf]
    cases asLocatorBare selOk (c :: r) <;> rfl

/-- MAIN (locators): `X@M` denotes exactly the regions of `X`, each resized by `M` (when `X`
is rejected both sides are empty, and `locator_at` says the whole string is rejected) -/
theorem locator_compose (selOk : Bytes → Bool) (filt : Bytes → Feature → Bool) (seq : Seq) (x : Bytes)
    (m : Mod) (hx : (64 : UInt8) ∉ x) (hne : x ≠ []) (hf : m.fits64) :
    (asLocator selOk (x ++ 64 :: m.printB)).apply filt seq =
      ((asLocator selOk x).apply filt seq).map fun r => resize r m := by
  rw [locator_at selOk x m hx hne hf]
  cases asLocator selOk x <;> rfl

/-- `@M` (empty specifier): every feature of the table, in table order, resized by `M` -/
theorem locator_at_all (selOk : Bytes → Bool) (filt : Bytes → Feature → Bool) (seq : Seq) (m : Mod)
    (hf : m.fits64) :
    asLocator selOk (64 :: m.printB) = .atAll m ∧
    (asLocator selOk (64 :: m.printB)).apply filt seq = seq.feats.map fun f => f.loc.region.resize m := by
  have h : asLocator selOk (64 :: m.printB) = .atAll m := by
    simp [asLocator, splitAt, asModifier_printB m hf]
  exact ⟨h, by rw [h]; rfl⟩

/-- non-vacuity of `locator_compose`: `5@^-2..^+1` (specifier `5` is a point, hence neither
error nor panic) -/
example : (asLocator (fun _ => true) (natDigits 5 ++ 64 :: (Mod.headHead (-2) 1).printB)).apply
    (fun _ _ => true) ⟨[], []⟩ = [seg 2 5] := by
  have hp : asLocator (fun _ => true) (natDigits 5) = .bareLocation (.point 4) :=
    (locator_location _ (fun _ _ => true) ⟨[], []⟩ _ _ (natDigits_noAt 5) (asModifier_natDigits 5 [])
      (tryLocation_point 5 (by decide))).1
  rw [locator_compose _ _ _ _ _ (natDigits_noAt 5) (by decide) (by simp [Mod.fits64, fits64]), hp]
  simp [LocatorDesc.apply, Loc.region, Reg.resize, Mod.apply, Mod.applyFwd, Loc.gmax]

end Gts.C08
