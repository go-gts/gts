/-
  C03 — Delete/Erase/Slice remove exactly the requested residues and features follow.
  Property theorems only.
-/
import Gts.Lemmas.Delete
import Gts.Model.Seq
import Gts.Model.GbSlice
import Gts.Model.GbSliceRec
import Gts.Lemmas.Bounds
import Gts.Lemmas.Window
import Gts.Lemmas.SliceWrap
import Gts.Lemmas.RefInfo
import Gts.Lemmas.GbSliceRefCompose
import Gts.Lemmas.Record
import Gts.Props.C04
import Gts.Lemmas.MarksDelAll
import Gts.Lemmas.MarkGuardOps
import Gts.Bridge.SeqDelete
import Gts.Bridge.SeqSlice
import Gts.Bridge.GbSlice
namespace Gts.C03
open Gts Loc

/-- residues after Delete: `seq[:i] + seq[i+n:]` -/
theorem delete_bytes (s : Seq) (i n : Int) :
    (s.delete i n).bytes = s.bytes.take i.toNat ++ s.bytes.drop (i + n).toNat := rfl

/-- Delete keeps every feature (key, qualifiers, order), re-locating each by `Expand(i, -n)` -/
theorem delete_feats (s : Seq) (i n : Int) :
    (s.delete i n).feats = s.feats.map fun f => { f with loc := f.loc.expand i (-n) } := rfl

/-- Erase drops exactly the non-`source` features lying wholly within the removed region, then
behaves like Delete -/
theorem erase_spec (s : Seq) (i n : Int) :
    s.erase i n =
      Seq.delete ⟨s.feats.filter fun f => f.key = "source" || !(f.loc.within i (i + n)), s.bytes⟩ i n := rfl

/-- residues of a forward slice: exactly the window -/
theorem slice_bytes_fwd (s : Seq) (a b : Int) (ha : 0 ≤ a) (hab : a ≤ b) :
    (s.slice a b).bytes = (s.bytes.drop a.toNat).take (b - a).toNat := by
  rw [Seq.slice_fwd_eq s a b ha hab]; rfl

/-- a forward slice keeps exactly the features overlapping the window, each re-located by
`Expand(end, end-L)` then `Expand(0, -start)`; `source` features lose their partial markers -/
theorem slice_feats_fwd (s : Seq) (a b : Int) (ha : 0 ≤ a) (hab : a ≤ b) :
    (s.slice a b).feats =
      (s.feats.filter fun f => f.loc.overlap a b).map fun f =>
        let loc := (f.loc.expand b (b - s.len)).expand 0 (-a)
        { f with loc := if f.key = "source" then loc.asComplete else loc } := by
  rw [Seq.slice_fwd_eq s a b ha hab]; rfl

/-- FULL STATEMENT (false today through known finding K2):
    `∀ l i k, wf l → 0 < k → den (expand l i (-k)) ≼ filterMapPos (delMap i k) (den l)`;
    witness: `join(4..6,9)` with `[6,8)` deleted loses base 9 (0-based 8). -/
theorem expand_del_full_refuted :
    ¬ (∀ (l : Loc) (i k : Int), wf l = true → 0 < k →
        den (expand l i (-k)) ≼ filterMapPos (delMap i k) (den l)) := by
  intro h
  have := (h (joined [ranged 3 6 false false, point 8]) 6 2 (by decide +kernel) (by decide +kernel)).2 (6, false) (by decide +kernel)
  revert this
  decide +kernel

/-- **Delete, every location kind**: the surviving location denotes exactly the former residues
minus the removed ones, re-based, in the same order and on the same strand — for every
well-formed location of any nesting, every `i` and every `k > 0` — provided K2 does not fire. -/
theorem expand_del_partial (l : Loc) (i k : Int) (hw : wf l = true) (hk : 0 < k)
    (hk2 : expandAbs l i (-k) = false) :
    den (expand l i (-k)) ≼ filterMapPos (delMap i k) (den l) := (expand_del l i k hw hk).1 hk2

/-- the contiguous kinds need no guard -/
theorem ranged_del_den (s e : Int) (p5 p3 : Bool) (i k : Int) (h : s < e) (hk : 0 < k) :
    den (expand (ranged s e p5 p3) i (-k)) = filterMapPos (delMap i k) (den (ranged s e p5 p3)) :=
  den_rangedExpand_del s e p5 p3 i k h hk

theorem point_del_den (p i k : Int) (hk : 0 < k) :
    den (expand (point p) i (-k)) = filterMapPos (delMap i k) (den (point p)) :=
  den_pointExpand_del p i k hk

/-- an end whose residue was cut off becomes partial: the 5' marker is set iff it was set or the
first residue `s` lies in `[i, i+k)`; the 3' marker iff it was set or the last residue `e-1`
lies in `[i, i+k)`; a range that lost all residues becomes a between-site. -/
theorem ranged_del_shape (s e : Int) (p5 p3 : Bool) (i k : Int) (hk : 0 < k) :
    expand (ranged s e p5 p3) i (-k) =
      if delStart s i k = delEnd e i k then between (delStart s i k)
      else ranged (delStart s i k) (delEnd e i k)
        (if i ≤ s ∧ s < i + k then true else p5) (if i < e ∧ e - 1 < i + k then true else p3) := by
  have : (i < e ∧ e - 1 < i + k) ↔ (i < e ∧ e ≤ i + k) := by omega
  simp only [expand, rangedExpand_del_eq s e p5 p3 i k hk, this]

/-- a range lying wholly inside the deletion collapses to the site at the cut -/
theorem ranged_del_collapse (s e : Int) (p5 p3 : Bool) (i k : Int) (h : s < e) (h1 : i ≤ s) (h2 : e ≤ i + k) :
    expand (ranged s e p5 p3) i (-k) = between i := by
  have hk : 0 < k := by omega
  rw [ranged_del_shape s e p5 p3 i k hk]
  have e1 : delStart s i k = i := by unfold delStart; omega
  have e2 : delEnd e i k = i := by unfold delEnd; omega
  rw [e1, e2, if_pos rfl]

/-- a point inside the deletion collapses to the site at the cut (repaired in commit c067f2d) -/
theorem point_del_collapse (p i k : Int) (h1 : i ≤ p) (h2 : p < i + k) :
    expand (point p) i (-k) = between i := by
  simp only [expand, pointExpand]
  rw [if_pos (by omega)]

/-- **no resulting location refers to a position outside the new sequence**: deleting `[i, i+k)`
from a sequence of length `L` maps every location whose coordinates lie in `[0, L]` to one whose
coordinates lie in `[0, L-k]` — every kind, nesting and arity, no guard (Join only copies
coordinates). -/
theorem expand_del_inside (L i k : Int) (hi : 0 ≤ i) (hk : 0 < k) (hL : i + k ≤ L) (l : Loc)
    (h : coordsAll (inB 0 L) l = true) : coordsAll (inB 0 (L - k)) (expand l i (-k)) = true :=
  expand_del_coords L i k hi hk hL l h

/-- **Slice, every location kind**: on a forward window `[a, b)` of a sequence of length `L` the
re-located feature (`Expand(b, b-L)` then `Expand(0, -a)`, see `slice_feats_fwd`) denotes exactly
its former residues inside the window, re-based to the window start, in the same order and on
the same strand — provided K2 does not fire in either step. -/
theorem slice_den_partial (l : Loc) (a b L : Int) (h0 : 0 ≤ a) (hab : a ≤ b) (hbL : b ≤ L)
    (hw : wf l = true) (hpos : ∀ p ∈ den l, 0 ≤ p.1 ∧ p.1 < L)
    (g1 : expandAbs l b (b - L) = false) (g2 : expandAbs (l.expand b (b - L)) 0 (-a) = false) :
    den ((l.expand b (b - L)).expand 0 (-a)) ≼ filterMapPos (winMap a b) (den l) :=
  (sliceLoc_den l a b L h0 hab hbL hw hpos g1 g2).1

/-- well-formedness is preserved -/
theorem expand_del_wf (l : Loc) (i k : Int) (hw : wf l = true) (hk : 0 < k) :
    wf (expand l i (-k)) = true := (expand_del l i k hw hk).2

/-- REFERENCE ranges: a range `[s,e)` overlapping the window `[a,b)` is replaced by exactly the
re-based intersection (clipped to the window, counted from the window start) -/
theorem clipRange_spec (a b s e : Int) (x : Int) :
    ((clipRange a b (s, e)).1 ≤ x ∧ x < (clipRange a b (s, e)).2) ↔
      (s ≤ x + a ∧ x + a < e ∧ a ≤ x + a ∧ x + a < b) := by
  simp only [clipRange, gmax, gmin]
  omega

/-- a clipped overlapping range is non-empty and lies inside the new sequence `[0, b-a]` -/
theorem clipRange_inside (a b s e : Int) (hse : s < e) (hov : s < b ∧ a < e) (hab : a < b) :
    0 ≤ (clipRange a b (s, e)).1 ∧ (clipRange a b (s, e)).1 < (clipRange a b (s, e)).2 ∧
      (clipRange a b (s, e)).2 ≤ b - a := by
  simp only [clipRange, gmax, gmin]
  omega

/-- references that survive are renumbered consecutively from 1 -/
theorem renumber_numbers (infos : List Pars.Bytes) :
    (renumber infos).map (·.number) = (List.range infos.length).map (fun (k : Nat) => (k : Int) + 1) := by
  unfold renumber
  apply List.ext_getElem
  · simp
  · intro i h1 h2
    simp

theorem sliceRefs_renumbered (pref : Pars.Bytes) (a b : Int) (refs : List Ref) :
    ∃ infos, sliceRefs pref a b refs = renumber infos := ⟨_, rfl⟩

/-- every range accepted by `parseReferenceInfo` is proper (`start < end`), so `gts.Range` never
panics while the metadata of a slice is clipped (an inverted range such as `(bases 5 to 2)` is a
parse error and the info is kept verbatim) -/
theorem parseRefInfo_proper (pref info : Pars.Bytes) (rs : List (Int × Int))
    (h : parseRefInfo pref info = some rs) : ∀ r ∈ rs, r.1 < r.2 :=
  RefInfo.parseRefInfo_proper pref info rs h

/-- an unparsable or inverted info is kept verbatim, a parsable one is clipped or dropped -/
theorem sliceRefInfo_verbatim (pref info : Pars.Bytes) (a b : Int)
    (h : parseRefInfo pref info = none) : sliceRefInfo pref a b info = some info := by
  simp [sliceRefInfo, h]

/-- non-vacuity -/
example : wf (compl (joined [ranged 2 5 true false, point 7, ranged 9 12 false true])) = true ∧
    expandAbs (compl (joined [ranged 2 5 true false, point 7, ranged 9 12 false true])) 4 (-4) = false := by
  decide +kernel

/-! ### partial markers after a deletion; the oracle's in-bounds predicate

`outerMarks`, `outerLeaves`, `coordsWithin` (`Gts/Spec/Marks.lean`) are the Lean restatements of
the Go oracles of `harness/spec.go`.  `remAt i k o` (`Gts/Lemmas/MarksDel.lean`): the residue `o`
(if any) lies in the removed span `[i, i+k)`. -/

/-- FULL STATEMENT (false on the model, and on the code): "after deleting `[i, i+k)` the 5'
marker is set iff it was set or the first residue read by `l` was removed, and likewise the 3'
marker with the last residue".  Witness `join(1..3,6..8)` with `[0, 3)` deleted: the first part
loses all its residues and collapses to the site `0^1`, which carries no marker; the result
`join(0^1,3..5)` has no 5' marker although the first residue read was removed.  (The property
only speaks of an END whose residues were cut off — a part that disappears altogether has no end
left; the Go oracle makes the same restriction, see `outer5Kept`.) -/
theorem expand_del_marks_full_refuted :
    ¬ (∀ (l : Loc) (i k : Int), wf l = true → 0 < k →
        outerMarks (expand l i (-k)) =
          ((outerMarks l).1 || remAt i k (den l).head?, (outerMarks l).2 || remAt i k (den l).getLast?)) :=
  fun h => absurd (h (joined [ranged 0 3 false false, ranged 5 8 false false]) 0 3) (by decide +kernel)

/-- THE PROPERTY'S CLAUSE "an end whose residues were cut off becomes partial", 5' end, with exactly its own
hypothesis — the first residue read by `l` was removed and something of `l` survives — and NO guard on the shape
(`outer5Kept` is not assumed; `expandMarkAbs = false` is): false on the model and on the code, known finding K3M.
Witness `join(1..3,6..8)` minus `[0, 3)` = `join(0^1,3..5)`: the 5' residues `1..3` were cut off, residues `6..8`
survive, and the result carries no `<`.  The refutation is about the clause, not about a guard: what
`expand_del_marks5_partial` / `3_partial` prove is the clause for locations whose first (last) residue-bearing leaf
is a range that KEEPS a residue (`outer5Kept` / `outer3Kept`); a first / last part lying wholly inside the removed
span — "a feature straddling either edge", "a join whose middle part vanishes" of the quantifier — is outside them. -/
theorem expand_del_marks5_cut_full_refuted :
    ¬ (∀ (l : Loc) (i k : Int), wf l = true → 0 < k → expandMarkAbs l i (-k) = false →
        remAt i k (den l).head? = true → den (expand l i (-k)) ≠ [] →
        (outerMarks (expand l i (-k))).1 = true) :=
  fun h => absurd (h (joined [ranged 0 3 false false, ranged 5 8 false false]) 0 3) (by decide +kernel)

/-- … and the 3' end: `join(1..3,6..8)` minus `[5, 8)` = `join(1..3,5^6)`, no `>` -/
theorem expand_del_marks3_cut_full_refuted :
    ¬ (∀ (l : Loc) (i k : Int), wf l = true → 0 < k → expandMarkAbs l i (-k) = false →
        remAt i k (den l).getLast? = true → den (expand l i (-k)) ≠ [] →
        (outerMarks (expand l i (-k))).2 = true) :=
  fun h => absurd (h (joined [ranged 0 3 false false, ranged 5 8 false false]) 5 3) (by decide +kernel)

/-- **an end whose residues were cut off becomes partial (5' end)**: for every well-formed
location of any kind, arity, nesting and strand, if the first residue-bearing leaf in reading
order is a range that keeps at least one residue (guard `outer5Kept` — it excludes a first part lying
wholly inside the removed span, for which the property's clause FAILS: `expand_del_marks5_cut_full_refuted`,
known finding K3M), then after deleting `[i, i+k)` the 5' marker is set iff it was set before or the first
residue read by `l` (the head of `den l`) was among the removed ones.  Guard: no marker-moving
rule of `Push` fires in a `Join` of the evaluation (`expandMarkAbs`). -/
theorem expand_del_marks5_partial (l : Loc) (i k : Int) (hw : wf l = true) (hk : 0 < k)
    (hg : expandMarkAbs l i (-k) = false) (h5 : outer5Kept l i k = true) :
    (outerMarks (expand l i (-k))).1 = ((outerMarks l).1 || remAt i k (den l).head?) :=
  (expand_del_outer l i k hw hk hg).1 h5

/-- **… (3' end)**: if the last residue-bearing leaf is a range that keeps a residue (guard `outer3Kept`;
outside it `expand_del_marks3_cut_full_refuted`, K3M), the 3'
marker is set afterwards iff it was set or the last residue read by `l` was removed. -/
theorem expand_del_marks3_partial (l : Loc) (i k : Int) (hw : wf l = true) (hk : 0 < k)
    (hg : expandMarkAbs l i (-k) = false) (h3 : outer3Kept l i k = true) :
    (outerMarks (expand l i (-k))).2 = ((outerMarks l).2 || remAt i k (den l).getLast?) :=
  (expand_del_outer l i k hw hk hg).2 h3

/-- … both ends under the hypotheses of `expand_del_partial` (K2 guard) plus duplicate-freeness —
the conditions under which the Go oracle evaluates the two marker clauses -/
theorem expand_del_marks_nodup_partial (l : Loc) (i k : Int) (hw : wf l = true) (hk : 0 < k)
    (hk2 : expandAbs l i (-k) = false) (hnd : (den l).Nodup) :
    (outer5Kept l i k = true →
      (outerMarks (expand l i (-k))).1 = ((outerMarks l).1 || remAt i k (den l).head?)) ∧
    (outer3Kept l i k = true →
      (outerMarks (expand l i (-k))).2 = ((outerMarks l).2 || remAt i k (den l).getLast?)) :=
  expand_del_outer l i k hw hk (expandDelMarkAbs_of_nodup l i k hw hk hk2 hnd)

/-- **when every residue was removed** the result consists of zero-length sites only (every
leaf is a between-site), so it denotes nothing and carries no marker — every kind and arity, no
guard. -/
theorem expand_del_all_removed (l : Loc) (i k : Int) (hw : wf l = true) (hk : 0 < k)
    (hall : filterMapPos (delMap i k) (den l) = []) :
    (leaves (expand l i (-k))).all isBetween = true ∧
    outerMarks (expand l i (-k)) = (false, false) := by
  have h := expand_del_allBetween l i k hw hk hall
  refine ⟨by rw [← allLeaves_eq_all]; exact h, ?_⟩
  rw [outerMarks_eq, marks_of_allBetween _ h]
  rfl

/-- **no resulting location refers to a position outside the new sequence**, with the oracle's
own predicate: every leaf of a location inside `[0, L]` (not inverted) is, after deleting
`[i, i+k)`, inside `[0, L-k]` and not inverted — every kind, nesting and arity, no guard. -/
theorem expand_del_coordsWithin (L i k : Int) (hi : 0 ≤ i) (hk : 0 < k) (hL : i + k ≤ L) (l : Loc)
    (h : coordsWithin l L = true) : coordsWithin (expand l i (-k)) (L - k) = true := by
  rw [coordsWithin_eq] at *
  exact expand_del_within L i k hi hk hL l h

/-- non-vacuity: a complement-strand join read from position 11 down to 2; deleting `[10, 13)`
cuts off the first residues read (the 5' end, a range that keeps residue 9), deleting `[2, 4)` the
last ones; deleting `[0, 20)` leaves sites only -/
example :
    wf (compl (joined [ranged 2 5 false false, point 7, ranged 9 12 false false])) = true ∧
    expandMarkAbs (compl (joined [ranged 2 5 false false, point 7, ranged 9 12 false false])) 10 (-3) = false ∧
    outer5Kept (compl (joined [ranged 2 5 false false, point 7, ranged 9 12 false false])) 10 3 = true ∧
    outer3Kept (compl (joined [ranged 2 5 false false, point 7, ranged 9 12 false false])) 2 2 = true ∧
    remAt 10 3 (den (compl (joined [ranged 2 5 false false, point 7, ranged 9 12 false false]))).head? = true ∧
    outerMarks (compl (joined [ranged 2 5 false false, point 7, ranged 9 12 false false])) = (false, false) ∧
    outerMarks (expand (compl (joined [ranged 2 5 false false, point 7, ranged 9 12 false false])) 10 (-3)) = (true, false) ∧
    outerMarks (expand (compl (joined [ranged 2 5 false false, point 7, ranged 9 12 false false])) 2 (-2)) = (false, true) ∧
    filterMapPos (delMap 0 20) (den (compl (joined [ranged 2 5 false false, point 7, ranged 9 12 false false]))) = [] ∧
    coordsWithin (compl (joined [ranged 2 5 false false, point 7, ranged 9 12 false false])) 13 = true ∧
    expandAbs (compl (joined [ranged 2 5 false false, point 7, ranged 9 12 false false])) 10 (-3) = false ∧
    (den (compl (joined [ranged 2 5 false false, point 7, ranged 9 12 false false]))).Nodup := by
  decide +kernel

/-! ### record level: what `gts.Delete` / `gts.Erase` / `gts.Slice` do to every feature -/

/-- **Delete, record level**: every feature survives with unchanged key and qualifiers, and its
location denotes exactly its former residues minus the removed ones, re-based. -/
theorem delete_feature_partial (s : Seq) (i k : Int) (hk : 0 < k) (f : Feature) (hf : f ∈ s.feats)
    (hw : wf f.loc = true) (hk2 : expandAbs f.loc i (-k) = false) :
    ∃ f' ∈ (s.delete i k).feats, f'.key = f.key ∧ f'.props = f.props ∧
      den f'.loc ≼ filterMapPos (delMap i k) (den f.loc) := by
  exact ⟨_, Seq.mem_delete_feats i k hf, rfl, rfl, expand_del_partial f.loc i k hw hk hk2⟩

/-- **Delete, record level (markers and bounds)**: the surviving feature's outer ends become
partial exactly when their residues were cut off (under the oracle's applicability tests), and
all its coordinates lie inside the shortened record. -/
theorem delete_feature_marks_partial (s : Seq) (i k : Int) (hi : 0 ≤ i) (hk : 0 < k)
    (hL : i + k ≤ s.len) (f : Feature) (hf : f ∈ s.feats)
    (hw : wf f.loc = true) (hg : expandMarkAbs f.loc i (-k) = false)
    (hc : coordsWithin f.loc s.len = true) :
    ∃ f' ∈ (s.delete i k).feats, f'.key = f.key ∧ f'.props = f.props ∧
      (outer5Kept f.loc i k = true →
        (outerMarks f'.loc).1 = ((outerMarks f.loc).1 || remAt i k (den f.loc).head?)) ∧
      (outer3Kept f.loc i k = true →
        (outerMarks f'.loc).2 = ((outerMarks f.loc).2 || remAt i k (den f.loc).getLast?)) ∧
      coordsWithin f'.loc (s.len - k) = true := by
  exact ⟨_, Seq.mem_delete_feats i k hf, rfl, rfl,
    expand_del_marks5_partial f.loc i k hw hk hg, expand_del_marks3_partial f.loc i k hw hk hg,
    expand_del_coordsWithin s.len i k hi hk hL f.loc hc⟩

/-- **Erase, record level**: a feature is dropped iff it is not a `source` and lies wholly within
the removed region; every other feature behaves as under Delete. -/
theorem erase_feature_partial (s : Seq) (i k : Int) (hk : 0 < k) (f : Feature) (hf : f ∈ s.feats)
    (hkeep : f.key = "source" ∨ f.loc.within i (i + k) = false)
    (hw : wf f.loc = true) (hk2 : expandAbs f.loc i (-k) = false) :
    ∃ f' ∈ (s.erase i k).feats, f'.key = f.key ∧ f'.props = f.props ∧
      den f'.loc ≼ filterMapPos (delMap i k) (den f.loc) := by
  rw [erase_spec]
  apply delete_feature_partial _ i k hk f _ hw hk2
  simp only [List.mem_filter]
  refine ⟨hf, ?_⟩
  rcases hkeep with h | h <;> simp [h]

/-- … and nothing else is dropped or added -/
theorem erase_feature_count (s : Seq) (i k : Int) :
    (s.erase i k).feats.length =
      (s.feats.filter fun f => f.key = "source" || !(f.loc.within i (i + k))).length := by
  rw [erase_spec, delete_feats]; simp

/-- **Slice (forward window), record level**: a feature survives iff its location overlaps the
window; a surviving feature keeps key and qualifiers and denotes exactly its former residues
inside the window, re-based (`source` additionally loses its partial markers, which does not
change what it denotes). -/
theorem slice_fwd_feature_partial (s : Seq) (a b : Int) (h0 : 0 ≤ a) (hab : a ≤ b) (hbL : b ≤ s.len)
    (f : Feature) (hf : f ∈ s.feats) (hov : f.loc.overlap a b = true)
    (hw : wf f.loc = true) (hpos : ∀ p ∈ den f.loc, 0 ≤ p.1 ∧ p.1 < s.len)
    (g1 : expandAbs f.loc b (b - s.len) = false)
    (g2 : expandAbs (f.loc.expand b (b - s.len)) 0 (-a) = false) :
    ∃ f' ∈ (s.slice a b).feats, f'.key = f.key ∧ f'.props = f.props ∧
      den f'.loc ≼ filterMapPos (winMap a b) (den f.loc) := by
  rw [slice_feats_fwd s a b h0 hab]
  refine ⟨_, List.mem_map_of_mem (List.mem_filter.mpr ⟨hf, hov⟩), rfl, rfl, ?_⟩
  have h := slice_den_partial f.loc a b s.len h0 hab hbL hw hpos g1 g2
  by_cases hs : f.key = "source"
  · simp only [hs, if_true, den_asComplete]; exact h
  · simp only [hs, if_false]; exact h

/-- every feature of a forward slice comes from a feature overlapping the window -/
theorem slice_fwd_feature_origin (s : Seq) (a b : Int) (h0 : 0 ≤ a) (hab : a ≤ b)
    (f' : Feature) (hf' : f' ∈ (s.slice a b).feats) :
    ∃ f ∈ s.feats, f.loc.overlap a b = true ∧ f'.key = f.key ∧ f'.props = f.props := by
  rw [slice_feats_fwd s a b h0 hab] at hf'
  obtain ⟨f, hf, rfl⟩ := List.mem_map.mp hf'
  obtain ⟨hm, ho⟩ := List.mem_filter.mp hf
  exact ⟨f, hm, ho, rfl, rfl⟩

/-- **Slice, wrap-around window** (`end < start`): the record is first rotated so that the window
starts at 0, then cut forward … -/
theorem slice_wrap_eq (s : Seq) (a b : Int) (ha : 0 ≤ a) (hb : 0 ≤ b) (hba : b < a) :
    s.slice a b = Seq.sliceFwd (s.rotate (-a)) 0 (s.len - a + b) := by
  unfold Seq.slice
  simp only [show ¬ a < 0 by omega, show ¬ b < 0 by omega, hba, if_false, if_true]

/-- the rotation amount of a wrap-around window that starts at `0 < a ≤ L` -/
theorem neg_emod_start (a L : Int) (ha : 0 < a) (haL : a ≤ L) : (-a) % L = L - a := by
  rw [mod_window L (-L) (-a) (-1) (by omega) (by omega) (by omega)]; omega

/-- … so its residues are `seq[start:] ++ seq[:end]` -/
theorem slice_bytes_wrap (s : Seq) (a b : Int) (hb : 0 ≤ b) (hba : b < a) (haL : a ≤ s.len) :
    (s.slice a b).bytes = s.bytes.drop a.toNat ++ s.bytes.take b.toNat := by
  have hL : 0 < s.len := by omega
  rw [slice_wrap_eq s a b (by omega) hb hba]
  simp only [Seq.sliceFwd, C04.rotate_bytes_eq, C04.rotN_eq_emod _ _ hL, neg_emod_start a s.len (by omega) haL,
    Int.toNat_zero, List.drop_zero]
  obtain ⟨a', rfl⟩ := Int.eq_ofNat_of_zero_le (show 0 ≤ a by omega)
  obtain ⟨b', rfl⟩ := Int.eq_ofNat_of_zero_le hb
  unfold Seq.len at *
  rw [show ((s.bytes.length : Int) - (s.bytes.length - (a' : Nat))).toNat = a' by omega,
    show ((s.bytes.length : Int) - (a' : Nat) + (b' : Nat) - 0).toNat = (s.bytes.drop a').length + b' by
      rw [List.length_drop]; omega,
    List.take_length_add_append, List.take_take, Nat.min_eq_left (by omega), Int.toNat_natCast, Int.toNat_natCast]

theorem rotate_len (s : Seq) (n : Int) (hL : 0 < s.len) : (s.rotate n).len = s.len :=
  Seq.rotate_len s n

/-- the table of a wrap-around slice: the features whose rotated location (rotation by `-a`, C04) overlaps
`[0, L-a+b)`, each re-located by the rotation and then by the forward cut (`source` completed) -/
theorem slice_wrap_feats_perm (s : Seq) (a b : Int) (hb : 0 ≤ b) (hba : b < a) :
    (s.slice a b).feats.Perm
      ((s.feats.filter fun f =>
          ((f.loc.expand 0 (C04.rotN (-a) s.len)).normalize s.len).overlap 0 (s.len - a + b)).map fun f =>
        { f with loc := (if f.key = "source" then Loc.asComplete else id)
                          (sliceLoc ((f.loc.expand 0 (C04.rotN (-a) s.len)).normalize s.len) 0 (s.len - a + b)
                            (s.rotate (-a)).len) }) := by
  rw [slice_wrap_eq s a b (by omega) hb hba]
  unfold Seq.sliceFwd
  refine (((C04.rotate_table_perm s (-a)).filter _).map _).trans (List.Perm.of_eq ?_)
  rw [List.filter_map, List.map_map]
  apply List.map_congr_left
  intro f _
  by_cases hs : f.key = "source" <;> simp [hs, sliceLoc]

/-- **Slice (wrap-around window), record level**: with `0 ≤ b < a ≤ L` the window is
`[a, L) ++ [0, b)`.  A feature whose rotated location `l'` (rotation by `-a`, C04) overlaps
`[0, L-a+b)` survives with unchanged key and qualifiers and denotes exactly its former residues
inside the window, in window coordinates: first the rotation re-maps `x ↦ (x - a) mod L`, then the
forward window `[0, L-a+b)` is cut.  Guards: the domain and K2 guards of the two steps. -/
theorem slice_wrap_feature_partial (s : Seq) (a b : Int) (hb : 0 ≤ b) (hba : b < a) (haL : a ≤ s.len)
    (f : Feature) (hf : f ∈ s.feats)
    (hw : wf f.loc = true) (hnn : nonneg f.loc = true)
    (hok : normOk s.len (expand f.loc 0 (C04.rotN (-a) s.len)) = true)
    (h1 : expandAbs f.loc 0 (C04.rotN (-a) s.len) = false)
    (h2 : normalizeAbs (expand f.loc 0 (C04.rotN (-a) s.len)) s.len = false)
    (hov : ((f.loc.expand 0 (C04.rotN (-a) s.len)).normalize s.len).overlap 0 (s.len - a + b) = true)
    (g1 : expandAbs ((f.loc.expand 0 (C04.rotN (-a) s.len)).normalize s.len)
            (s.len - a + b) (s.len - a + b - s.len) = false)
    (g2 : expandAbs (((f.loc.expand 0 (C04.rotN (-a) s.len)).normalize s.len).expand
            (s.len - a + b) (s.len - a + b - s.len)) 0 (-0) = false) :
    ∃ f' ∈ (s.slice a b).feats, f'.key = f.key ∧ f'.props = f.props ∧
      den f'.loc ≼ filterMapPos (winMap 0 (s.len - a + b)) (mapPos (rotMap (-a) s.len) (den f.loc)) := by
  have hL : 0 < s.len := by omega
  obtain ⟨hd', hwf'⟩ := C04.rotN_den_partial f.loc (-a) s.len hL hw hnn hok h1 h2
  have hpos : ∀ p ∈ den ((f.loc.expand 0 (C04.rotN (-a) s.len)).normalize s.len), 0 ≤ p.1 ∧ p.1 < s.len := by
    intro p hp'
    have := hd'.1.subset hp'
    simp only [mapPos, List.mem_map] at this
    obtain ⟨q, _, rfl⟩ := this
    exact ⟨Int.emod_nonneg _ (by omega), Int.emod_lt_of_pos _ hL⟩
  have key := slice_den_partial _ 0 (s.len - a + b) s.len (Int.le_refl 0) (by omega) (by omega) hwf' hpos g1 g2
  refine ⟨_, (slice_wrap_feats_perm s a b hb hba).symm.subset
    (List.mem_map_of_mem (List.mem_filter.mpr ⟨hf, hov⟩)), rfl, rfl, ?_⟩
  have hden : ∀ l : Loc, den ((if f.key = "source" then Loc.asComplete else id) l) = den l := fun l => by
    split
    · exact den_asComplete l
    · rfl
  rw [rotate_len s (-a) hL, hden]
  exact key.trans (filterMapPos_refines _ hd')

/-- non-vacuity of `slice_wrap_feature_partial`: a gene `3..9` on a 10-residue record, window
`Slice(seq, 8, 4)` — the feature crosses the new origin after the rotation and is cut by the window -/
example :
    let s : Seq := ⟨[⟨"gene", ranged 2 9 false false, []⟩], [97, 99, 103, 116, 97, 99, 103, 116, 97, 99]⟩
    let l := ranged 2 9 false false
    wf l = true ∧ nonneg l = true ∧ normOk s.len (expand l 0 (C04.rotN (-8) s.len)) = true ∧
    expandAbs l 0 (C04.rotN (-8) s.len) = false ∧
    normalizeAbs (expand l 0 (C04.rotN (-8) s.len)) s.len = false ∧
    ((l.expand 0 (C04.rotN (-8) s.len)).normalize s.len).overlap 0 (s.len - 8 + 4) = true ∧
    expandAbs ((l.expand 0 (C04.rotN (-8) s.len)).normalize s.len) (s.len - 8 + 4) (s.len - 8 + 4 - s.len) = false ∧
    expandAbs (((l.expand 0 (C04.rotN (-8) s.len)).normalize s.len).expand (s.len - 8 + 4) (s.len - 8 + 4 - s.len)) 0 (-0) = false := by
  decide +kernel

/-! ### the wrap-around window as ONE position map; negative indices; where the features come from

`wrapMap a b L` (`Gts/Lemmas/SliceWrap.lean`): a residue `x` inside `[a, L) ++ [0, b)` moves to
`(x - a) mod L`, every other residue is cut.  `Bridge.sliceNorm L x` is what `Slice` makes of an
index first (`if x < 0 { x += L }`). -/

/-- the window map, piecewise: the tail `[a, L)` comes first (`x - a`), the head `[0, b)` behind it
(`x + (L - a)`), in the order of the residues `seq[a:] ++ seq[:b]` of `slice_bytes_wrap` -/
theorem slice_wrap_map (a b L x : Int) (hb : 0 ≤ b) (hba : b < a) (haL : a ≤ L) :
    wrapMap a b L x =
      if a ≤ x ∧ x < L then some (x - a) else if 0 ≤ x ∧ x < b then some (x + (L - a)) else none :=
  wrapMap_cases a b L x hb hba haL

/-- FULL STATEMENT of the wrap-around feature law (no K2 guard; false on the model and on the code
through known finding K2 in the `Join` of the rotation step).  Witness: the feature
`join(3..4,5)` on ten residues, window `Slice(seq, 8, 5)` = residues `9,10,1..5`: the law demands the
window positions `4,5,6` (0-based), the code yields `5..6` — the point behind the range is dropped. -/
theorem slice_wrap_feature_full_refuted :
    ¬ (∀ (s : Seq) (a b : Int), 0 ≤ b → b < a → a ≤ s.len → ∀ f ∈ s.feats,
        wf f.loc = true → nonneg f.loc = true → denIn s.len (den f.loc) →
        normOk s.len (expand f.loc 0 (C04.rotN (-a) s.len)) = true →
        ((f.loc.expand 0 (C04.rotN (-a) s.len)).normalize s.len).overlap 0 (s.len - a + b) = true →
        ∃ f' ∈ (s.slice a b).feats, f'.key = f.key ∧ f'.props = f.props ∧
          den f'.loc ≼ filterMapPos (wrapMap a b s.len) (den f.loc)) := by
  intro h
  obtain ⟨f', hf', _, _, hden⟩ :=
    h ⟨[⟨"gene", joined [ranged 2 4 false false, point 4], []⟩], [97, 99, 103, 116, 97, 99, 103, 116, 97, 99]⟩
      8 5 (by decide +kernel) (by decide +kernel) (by decide +kernel) _ (List.mem_singleton.mpr rfl)
      (by decide +kernel) (by decide +kernel) (by decide +kernel) (by decide +kernel) (by decide +kernel)
  have hall : ∀ g ∈ (Seq.slice ⟨[⟨"gene", joined [ranged 2 4 false false, point 4], []⟩],
      [97, 99, 103, 116, 97, 99, 103, 116, 97, 99]⟩ 8 5).feats, ((6, false) : Pos) ∉ den g.loc := by decide +kernel
  exact hall f' hf' (hden.2 (6, false) (by decide +kernel))

/-- **Slice (wrap-around window), every surviving feature in window coordinates**: with
`0 ≤ b < a ≤ L` the window is `[a, L) ++ [0, b)`.  A feature inside the record whose rotated location
overlaps `[0, L-a+b)` is a feature of the slice with unchanged key and qualifiers, and its new
location denotes exactly its former residues inside the window, each at `(x - a) mod L`, in the same
order and on the same strands (`≼`: a residue read twice possibly once) — `wrapMap` is the rotation
of C04 followed by the forward cut.  Guards as in `slice_wrap_feature_partial`
(`C04.rotate_feature_partial` ∘ `slice_fwd_feature_partial`). -/
theorem slice_wrap_den_partial (s : Seq) (a b : Int) (hb : 0 ≤ b) (hba : b < a) (haL : a ≤ s.len)
    (f : Feature) (hf : f ∈ s.feats)
    (hw : wf f.loc = true) (hnn : nonneg f.loc = true) (hin : denIn s.len (den f.loc))
    (hok : normOk s.len (expand f.loc 0 (C04.rotN (-a) s.len)) = true)
    (h1 : expandAbs f.loc 0 (C04.rotN (-a) s.len) = false)
    (h2 : normalizeAbs (expand f.loc 0 (C04.rotN (-a) s.len)) s.len = false)
    (hov : ((f.loc.expand 0 (C04.rotN (-a) s.len)).normalize s.len).overlap 0 (s.len - a + b) = true)
    (g1 : expandAbs ((f.loc.expand 0 (C04.rotN (-a) s.len)).normalize s.len)
            (s.len - a + b) (s.len - a + b - s.len) = false)
    (g2 : expandAbs (((f.loc.expand 0 (C04.rotN (-a) s.len)).normalize s.len).expand
            (s.len - a + b) (s.len - a + b - s.len)) 0 (-0) = false) :
    ∃ f' ∈ (s.slice a b).feats, f'.key = f.key ∧ f'.props = f.props ∧
      den f'.loc ≼ filterMapPos (wrapMap a b s.len) (den f.loc) := by
  have h := slice_wrap_feature_partial s a b hb hba haL f hf hw hnn hok h1 h2 hov g1 g2
  rwa [filterMapPos_wrap a b s.len hb hba haL (den f.loc) hin] at h

/-- **a feature with a residue inside the wrap-around window survives**: the overlap test of the
code (on the rotated location) is implied by the meaning-level condition "some residue of the feature
lies in `[a, L) ++ [0, b)`", so under the rotation guards alone every such feature is kept -/
theorem slice_wrap_survives_partial (s : Seq) (a b : Int) (hb : 0 ≤ b) (hba : b < a) (haL : a ≤ s.len)
    (f : Feature) (hw : wf f.loc = true) (hnn : nonneg f.loc = true) (hin : denIn s.len (den f.loc))
    (hok : normOk s.len (expand f.loc 0 (C04.rotN (-a) s.len)) = true)
    (h1 : expandAbs f.loc 0 (C04.rotN (-a) s.len) = false)
    (h2 : normalizeAbs (expand f.loc 0 (C04.rotN (-a) s.len)) s.len = false)
    (p : Pos) (hp : p ∈ den f.loc) (hwin : (a ≤ p.1 ∧ p.1 < s.len) ∨ (0 ≤ p.1 ∧ p.1 < b)) :
    ((f.loc.expand 0 (C04.rotN (-a) s.len)).normalize s.len).overlap 0 (s.len - a + b) = true := by
  have hL : 0 < s.len := by omega
  obtain ⟨hd', hwf'⟩ := C04.rotN_den_partial f.loc (-a) s.len hL hw hnn hok h1 h2
  have hm : (rotMap (-a) s.len p.1, p.2) ∈ den ((f.loc.expand 0 (C04.rotN (-a) s.len)).normalize s.len) := by
    apply hd'.2
    simp only [mapPos, List.mem_map]
    exact ⟨p, hp, rfl⟩
  have hwm := winMap_rotMap a b s.len p.1 hb hba haL (hin p hp).1 (hin p hp).2
  have hsome : wrapMap a b s.len p.1 = some ((p.1 - a) % s.len) := by
    unfold wrapMap; rw [if_pos hwin]
  rw [hsome] at hwm
  unfold winMap at hwm
  split at hwm
  · rename_i hc
    exact overlap_of_mem_den _ 0 (s.len - a + b) hwf' _ hm hc.1 hc.2
  · cases hwm

/-- non-vacuity of `slice_wrap_survives_partial`: residue 9 of `complement(join(<2..3,6,9..10))` lies in
the tail `[8, 10)` of the window `Slice(seq, 8, 4)` (the other hypotheses: see the example below) -/
example : ((9, true) : Pos) ∈ den (compl (joined [ranged 1 3 true false, point 5, ranged 8 10 false false])) ∧
    (((8 : Int) ≤ 9 ∧ (9 : Int) < 10) ∨ ((0 : Int) ≤ 9 ∧ (9 : Int) < 4)) := by
  decide +kernel

/-- … and exactly those residues when the feature reads none twice -/
theorem slice_wrap_den_nodup_partial (s : Seq) (a b : Int) (hb : 0 ≤ b) (hba : b < a) (haL : a ≤ s.len)
    (f : Feature) (hf : f ∈ s.feats)
    (hw : wf f.loc = true) (hnn : nonneg f.loc = true) (hin : denIn s.len (den f.loc))
    (hnd : (filterMapPos (wrapMap a b s.len) (den f.loc)).Nodup)
    (hok : normOk s.len (expand f.loc 0 (C04.rotN (-a) s.len)) = true)
    (h1 : expandAbs f.loc 0 (C04.rotN (-a) s.len) = false)
    (h2 : normalizeAbs (expand f.loc 0 (C04.rotN (-a) s.len)) s.len = false)
    (hov : ((f.loc.expand 0 (C04.rotN (-a) s.len)).normalize s.len).overlap 0 (s.len - a + b) = true)
    (g1 : expandAbs ((f.loc.expand 0 (C04.rotN (-a) s.len)).normalize s.len)
            (s.len - a + b) (s.len - a + b - s.len) = false)
    (g2 : expandAbs (((f.loc.expand 0 (C04.rotN (-a) s.len)).normalize s.len).expand
            (s.len - a + b) (s.len - a + b - s.len)) 0 (-0) = false) :
    ∃ f' ∈ (s.slice a b).feats, f'.key = f.key ∧ f'.props = f.props ∧
      den f'.loc = filterMapPos (wrapMap a b s.len) (den f.loc) := by
  obtain ⟨f', m, k, p, d⟩ := slice_wrap_den_partial s a b hb hba haL f hf hw hnn hin hok h1 h2 hov g1 g2
  exact ⟨f', m, k, p, d.eq_of_nodup hnd⟩

/-- **where the features of a wrap-around slice come from**: every feature of `Slice(seq, a, b)` is a
feature of the record whose rotated location overlaps `[0, L-a+b)`, with its key and qualifiers,
re-located by the rotation (`Expand(0, n)`, `Normalize(L)`), the cut (`Expand(W, W-L)`, `Expand(0, 0)`)
and — `source` only — `asComplete` -/
theorem slice_wrap_feature_origin (s : Seq) (a b : Int) (hb : 0 ≤ b) (hba : b < a)
    (f' : Feature) (hf' : f' ∈ (s.slice a b).feats) :
    ∃ f ∈ s.feats,
      ((f.loc.expand 0 (C04.rotN (-a) s.len)).normalize s.len).overlap 0 (s.len - a + b) = true ∧
      f'.key = f.key ∧ f'.props = f.props ∧
      f'.loc = (if f.key = "source" then Loc.asComplete else id)
        (sliceLoc ((f.loc.expand 0 (C04.rotN (-a) s.len)).normalize s.len) 0 (s.len - a + b)
          (s.rotate (-a)).len) := by
  obtain ⟨f, hf, rfl⟩ := List.mem_map.mp ((slice_wrap_feats_perm s a b hb hba).subset hf')
  obtain ⟨hm, ho⟩ := List.mem_filter.mp hf
  exact ⟨f, hm, ho, rfl, rfl, rfl⟩

/-- … and there are exactly as many as features whose rotated location overlaps the window -/
theorem slice_wrap_feature_count (s : Seq) (a b : Int) (hb : 0 ≤ b) (hba : b < a) :
    (s.slice a b).feats.length =
      (s.feats.filter fun f =>
        ((f.loc.expand 0 (C04.rotN (-a) s.len)).normalize s.len).overlap 0 (s.len - a + b)).length := by
  rw [(slice_wrap_feats_perm s a b hb hba).length_eq, List.length_map]

/-! ### the full-length feature (`source 1..L`) under a wrap-around window

`normOk` keeps the whole-sequence range out of every `slice_wrap_*_partial` theorem above (it fails for
every rotation amount, see `C04.rotate_full_length`).  What the code does with it: the rotation leaves it
`[0, L)` (C04), the forward cut `[0, W)`, `W = L - a + b`, clips it to the whole window. -/

/-- the forward cut `Expand(W, W-L)`, `Expand(0, -0)` of the whole-sequence range is the whole window
`[0, W)`, the 5' marker kept, the 3' marker set (`0 < W < L`) -/
theorem cut_full_length (p5 p3 : Bool) (W L : Int) (h0 : 0 < W) (hWL : W < L) :
    ((ranged 0 L p5 p3).expand W (W - L)).expand 0 (-0) = ranged 0 W p5 true := by
  have e1 : delStart 0 W (L - W) = 0 := by unfold delStart; omega
  have e2 : delEnd L W (L - W) = W := by unfold delEnd; omega
  rw [show W - L = -(L - W) by omega, expand, rangedExpand_del_eq 0 L p5 p3 W (L - W) (by omega), e1, e2,
    if_neg (by omega), if_neg (by omega), if_pos (by omega)]
  simp [expand, rangedExpand]

/-- **Slice (wrap-around window), the full-length feature**: with `0 ≤ b < a ≤ L` and a non-empty window
(`W = L - a + b > 0`) a feature whose location is the whole-sequence range (either strand) is a feature of
the slice, with unchanged key and qualifiers, located at the WHOLE window `[0, W)` (same strand): `source`
(the case of every GenBank record) completed — no partial marker; any other key with its 5' marker kept and
the 3' marker set.  No K2 / `normOk` guard.  So the new location denotes exactly the residues of the window
(the same SET as the feature's former residues inside `[a,L) ++ [0,b)` at `(x - a) mod L`), read from
window position 0: the reading start is lost as in `C04.rotate_full_length_same_set`, and for a non-`source`
full-length feature the marker goes to the 3' end whichever residues were cut (with `b = 0` the residues cut
off, `[0, a)`, are the 5' ones of the original reading) — a consequence of "a full-length feature stays
full-length" in the rotation step, noted here, not a recorded finding. -/
theorem slice_wrap_full_length_feature (s : Seq) (a b : Int) (hb : 0 ≤ b) (hba : b < a) (haL : a ≤ s.len)
    (hW : 0 < s.len - a + b) (f : Feature) (hf : f ∈ s.feats) (p5 p3 : Bool)
    (hloc : f.loc = ranged 0 s.len p5 p3 ∨ f.loc = compl (ranged 0 s.len p5 p3)) :
    ∃ f' ∈ (s.slice a b).feats, f'.key = f.key ∧ f'.props = f.props ∧
      f'.loc = (if f.key = "source" then Loc.asComplete else id)
        (match f.loc with
          | compl _ => compl (ranged 0 (s.len - a + b) p5 true)
          | _ => ranged 0 (s.len - a + b) p5 true) := by
  have hL : 0 < s.len := by omega
  have hfl : C04.fullLength s.len f.loc = true := by
    rcases hloc with h | h <;> rw [h] <;> simp [C04.fullLength]
  -- the rotation leaves the location as it is; residue 0 lies in it and in the window
  have hrot := C04.rotate_full_length_loc f.loc _ s.len hL (C04.rotN_nonneg (-a) s.len hL) hfl
  have hov : f.loc.overlap 0 (s.len - a + b) = true := by
    rcases hloc with h | h <;> rw [h] <;>
      exact rangeOverlap_of_point 0 s.len 0 _ 0 (Int.le_refl 0) hL (Int.le_refl 0) hW
  refine ⟨_, (slice_wrap_feats_perm s a b hb hba).symm.subset
    (List.mem_map_of_mem (List.mem_filter.mpr ⟨hf, by rw [hrot]; exact hov⟩)), rfl, rfl, ?_⟩
  have hcut := cut_full_length p5 p3 (s.len - a + b) s.len hW (by omega)
  simp only [hrot, rotate_len s (-a) hL, sliceLoc]
  rcases hloc with h | h
  · rw [h, hcut]
  · rw [h]
    exact congrArg (fun l => (if f.key = "source" then Loc.asComplete else id) (compl l)) hcut

/-- non-vacuity: `source 1..10` and a complement-strand full-length `misc_feature`, window `Slice(seq, 8, 4)` -/
example :
    let s : Seq := ⟨[⟨"source", ranged 0 10 false false, []⟩, ⟨"misc_feature", compl (ranged 0 10 true false), []⟩],
      [97, 99, 103, 116, 97, 99, 103, 116, 97, 99]⟩
    (0 : Int) ≤ 4 ∧ (4 : Int) < 8 ∧ 8 ≤ s.len ∧ 0 < s.len - 8 + 4 ∧
    normOk s.len (expand (ranged 0 10 false false) 0 (C04.rotN (-8) s.len)) = false ∧
    (s.slice 8 4).feats.map (fun f => (f.key, f.loc.den.map (·.1))) =
      [("source", [0, 1, 2, 3, 4, 5]), ("misc_feature", [5, 4, 3, 2, 1, 0])] := by decide +kernel

/-- FULL STATEMENT of "no resulting location refers to a position outside the new sequence" for a WRAP-AROUND
window without a proviso on ambiguous spans (false on the model and on the code; confirmed on the real code by
`seq.slice … (A 6 9) … 8 4`, which answers `(A 6 1)`): an ambiguous span across the window START — `one-of(7.9)` on
ten residues, window `Slice(seq, 8, 4)` = residues `9,10,1..4` — comes back INVERTED, `Ambiguous{6, 1}`, printed
`7.1` on a six-residue record.  It is the rotation step's `Ambiguous.Normalize` (C04 `rotate_coords_full_refuted`;
C04's quantifier carves the shape out: "ambiguous spans only when they do not cross the new origin"); C03's
quantifier has no such carve-out, so by C03's words this is a violation: KNOWN FINDING K3A (`known_findings.json`,
witness `seq.slice … (A 6 9) … 8 4`).  `genFeature` (harness/gen.go) draws Ambiguous
features at sequence level; the wrap-around oracle of `propC03` skips the denotation law for exactly the shape
`slice_wrap_ambiguous_guard` below names (counted) and attributes the inverted span the code returns to K3A;
`C04.rotate_ambiguous_across_origin` shows that EVERY such span comes out of the rotation step inverted. -/
theorem slice_wrap_ambiguous_coords_full_refuted :
    ¬ (∀ (s : Seq) (a b : Int), 0 ≤ b → b < a → a ≤ s.len →
        (∀ f ∈ s.feats, wf f.loc = true ∧ coordsWithin f.loc s.len = true) →
        ∀ f' ∈ (s.slice a b).feats, coordsWithin f'.loc (s.slice a b).len = true) := by
  intro h
  have := h ⟨[⟨"misc", ambiguous 6 9, []⟩], [97, 99, 103, 116, 97, 99, 103, 116, 97, 99]⟩ 8 4
    (by decide +kernel) (by decide +kernel) (by decide +kernel) (by decide +kernel) ⟨"misc", ambiguous 6 1, []⟩
    (by
      have hs : (Seq.slice ⟨[⟨"misc", ambiguous 6 9, []⟩], [97, 99, 103, 116, 97, 99, 103, 116, 97, 99]⟩ 8 4).feats
          = [⟨"misc", ambiguous 6 1, []⟩] := by rfl
      rw [hs]; exact List.mem_singleton.mpr rfl)
  revert this
  decide +kernel

/-- **the `normOk` guard of the wrap-around theorems on an ambiguous span, in the property's words**: for an
ambiguous span `[s, e)` inside the record (`0 ≤ s < e ≤ L`, shorter than `L`) and a wrap-around window starting at
`0 < a ≤ L`, the guard `normOk L (expand · 0 (rotN (-a) L))` of `slice_wrap_feature_partial` /
`slice_wrap_den_partial` / `slice_wrap_survives_partial` / `slice_wrap_den_nodup_partial` /
`slice_wrap_neg_den_partial` holds EXACTLY when the span does not lie across the window start (`¬ (s < a < e)`):
every other ambiguous span is inside the theorems' quantifier, the excluded shape is exactly known finding K3A. -/
theorem slice_wrap_ambiguous_guard (s e a L : Int) (hs : 0 ≤ s) (hse : s < e) (heL : e ≤ L) (hlen : e - s < L)
    (ha : 0 < a) (haL : a ≤ L) :
    normOk L (expand (ambiguous s e) 0 (C04.rotN (-a) L)) = true ↔ ¬ (s < a ∧ a < e) := by
  have hL : 0 < L := by omega
  rw [C04.rotN_eq_emod _ _ hL, neg_emod_start a L ha haL,
    C04.normOk_ambiguous_iff s e (L - a) L hs hse heL hlen (by omega) (by omega)]
  omega

/-- non-vacuity of `slice_wrap_ambiguous_guard`, and of `slice_wrap_feature_partial` ON A FEATURE WITH AN AMBIGUOUS
SPAN: `order(one-of(3.6), 9..10)` on ten residues, window `Slice(seq, 8, 4)` = residues `9,10,1..4`; the ambiguous
span is not across the window start 8, every guard holds, and the sliced feature denotes residues `9` (window
position 1) and `2, 3` (window positions 4, 5) — the span is cut by the window END, which no guard excludes -/
example :
    let s : Seq := ⟨[⟨"gene", ordered [ambiguous 2 6, ranged 9 10 false false], []⟩], [97, 99, 103, 116, 97, 99, 103, 116, 97, 99]⟩
    let l := ordered [ambiguous 2 6, ranged 9 10 false false]
    ¬ ((2 : Int) < 8 ∧ (8 : Int) < 6) ∧
    wf l = true ∧ nonneg l = true ∧ normOk s.len (expand l 0 (C04.rotN (-8) s.len)) = true ∧
    expandAbs l 0 (C04.rotN (-8) s.len) = false ∧
    normalizeAbs (expand l 0 (C04.rotN (-8) s.len)) s.len = false ∧
    ((l.expand 0 (C04.rotN (-8) s.len)).normalize s.len).overlap 0 (s.len - 8 + 4) = true ∧
    expandAbs ((l.expand 0 (C04.rotN (-8) s.len)).normalize s.len) (s.len - 8 + 4) (s.len - 8 + 4 - s.len) = false ∧
    expandAbs (((l.expand 0 (C04.rotN (-8) s.len)).normalize s.len).expand (s.len - 8 + 4) (s.len - 8 + 4 - s.len)) 0 (-0) = false ∧
    (s.slice 8 4).feats.map (fun f => (f.key, f.loc.den.map (·.1))) = [("gene", [4, 5, 1])] := by
  decide +kernel

/-- **negative indices, as the code treats them**: `Slice` first adds the length to a negative
`start` / `end` (once); from `-L` upwards that is all the sign does -/
theorem slice_neg_norm (s : Seq) (a b : Int) (ha : 0 ≤ Bridge.sliceNorm s.len a)
    (hb : 0 ≤ Bridge.sliceNorm s.len b) :
    s.slice a b = s.slice (Bridge.sliceNorm s.len a) (Bridge.sliceNorm s.len b) := by
  unfold Bridge.sliceNorm at *
  generalize hA : (if a < 0 then a + s.len else a) = A at *
  generalize hB : (if b < 0 then b + s.len else b) = B at *
  unfold Seq.slice
  simp only [hA, hB, if_neg (show ¬ A < 0 by omega), if_neg (show ¬ B < 0 by omega)]

/-- wrap-around window given by indices of any sign: with `A`, `B` the normalised indices and
`0 ≤ B < A ≤ L` the residues are `seq[A:] ++ seq[:B]` — `Slice(seq, -3, 2)` on ten residues is
`seq[7:] ++ seq[:2]`, `Slice(seq, 5, -8)` is `seq[5:] ++ seq[:2]` -/
theorem slice_wrap_neg_bytes (s : Seq) (a b A B : Int) (hA : Bridge.sliceNorm s.len a = A)
    (hB : Bridge.sliceNorm s.len b = B) (hB0 : 0 ≤ B) (hBA : B < A) (hAL : A ≤ s.len) :
    (s.slice a b).bytes = s.bytes.drop A.toNat ++ s.bytes.take B.toNat := by
  subst hA hB
  rw [slice_neg_norm s a b (by omega) hB0]
  exact slice_bytes_wrap s _ _ hB0 hBA hAL

/-- … and the feature law of `slice_wrap_den_partial` holds verbatim for the normalised indices -/
theorem slice_wrap_neg_den_partial (s : Seq) (a b A B : Int) (hA : Bridge.sliceNorm s.len a = A)
    (hB : Bridge.sliceNorm s.len b = B) (hB0 : 0 ≤ B) (hBA : B < A) (hAL : A ≤ s.len)
    (f : Feature) (hf : f ∈ s.feats)
    (hw : wf f.loc = true) (hnn : nonneg f.loc = true) (hin : denIn s.len (den f.loc))
    (hok : normOk s.len (expand f.loc 0 (C04.rotN (-A) s.len)) = true)
    (h1 : expandAbs f.loc 0 (C04.rotN (-A) s.len) = false)
    (h2 : normalizeAbs (expand f.loc 0 (C04.rotN (-A) s.len)) s.len = false)
    (hov : ((f.loc.expand 0 (C04.rotN (-A) s.len)).normalize s.len).overlap 0 (s.len - A + B) = true)
    (g1 : expandAbs ((f.loc.expand 0 (C04.rotN (-A) s.len)).normalize s.len)
            (s.len - A + B) (s.len - A + B - s.len) = false)
    (g2 : expandAbs (((f.loc.expand 0 (C04.rotN (-A) s.len)).normalize s.len).expand
            (s.len - A + B) (s.len - A + B - s.len)) 0 (-0) = false) :
    ∃ f' ∈ (s.slice a b).feats, f'.key = f.key ∧ f'.props = f.props ∧
      den f'.loc ≼ filterMapPos (wrapMap A B s.len) (den f.loc) := by
  subst hA hB
  rw [slice_neg_norm s a b (by omega) hB0]
  exact slice_wrap_den_partial s _ _ hB0 hBA hAL f hf hw hnn hin hok h1 h2 hov g1 g2

/-- non-vacuity: a complement-strand join `complement(join(<2..3,6,9..10))` on a 10-residue record, window
`Slice(seq, -2, 4)` = `Slice(seq, 8, 4)` = residues `9,10,1,2,3,4`: the last part wraps to the front,
the point is cut; and the wrap-around map itself -/
example :
    let s : Seq := ⟨[⟨"CDS", compl (joined [ranged 1 3 true false, point 5, ranged 8 10 false false]), []⟩],
      [97, 99, 103, 116, 97, 99, 103, 116, 97, 99]⟩
    let l := compl (joined [ranged 1 3 true false, point 5, ranged 8 10 false false])
    Bridge.sliceNorm s.len (-2) = 8 ∧ Bridge.sliceNorm s.len 4 = 4 ∧
    wf l = true ∧ nonneg l = true ∧ denIn s.len (den l) ∧
    normOk s.len (expand l 0 (C04.rotN (-8) s.len)) = true ∧
    expandAbs l 0 (C04.rotN (-8) s.len) = false ∧
    normalizeAbs (expand l 0 (C04.rotN (-8) s.len)) s.len = false ∧
    ((l.expand 0 (C04.rotN (-8) s.len)).normalize s.len).overlap 0 (s.len - 8 + 4) = true ∧
    expandAbs ((l.expand 0 (C04.rotN (-8) s.len)).normalize s.len) (s.len - 8 + 4) (s.len - 8 + 4 - s.len) = false ∧
    expandAbs (((l.expand 0 (C04.rotN (-8) s.len)).normalize s.len).expand (s.len - 8 + 4) (s.len - 8 + 4 - s.len)) 0 (-0) = false ∧
    filterMapPos (wrapMap 8 4 s.len) (den l) = [(1, true), (0, true), (4, true), (3, true)] ∧
    (filterMapPos (wrapMap 8 4 s.len) (den l)).Nodup ∧
    (s.slice (-2) 4).bytes = [97, 99, 97, 99, 103, 116] := by
  decide +kernel

/-! ### the statements above, for the code AS IT IS WRITTEN NOW

`Gts.Gen.seqDelete` / `seqErase` / `seqSlice` are regenerated from sequence.go on every run (go2lean/gseq.go);
`Gts/Bridge/SeqDelete.lean` and `SeqSlice.lean` prove them equal to the model wherever Go does not panic. -/

/-- **`gts.Delete` as written**: inside the sequence (`Bridge.deleteOk`) it does not panic, removes exactly the
residues `[i, i+n)`, keeps every feature re-located by `Expand(i, -n)`, and hands `tryExpand(info, i, -n)` on -/
theorem gen_delete_spec {ι : Type} (ops : Gen.InfoOps ι) (info : ι) (s : Seq) (i n : Int)
    (h : Bridge.deleteOk s.len i n) :
    Gen.seqDelete ops info s.feats s.bytes i n =
      .ok (ops.tryExpand info i (-n), s.feats.map (fun f => { f with loc := f.loc.expand i (-n) }),
        s.bytes.take i.toNat ++ s.bytes.drop (i + n).toNat) :=
  Bridge.seqDelete_eq ops info s i n h

/-- **`gts.Erase` as written**: Delete on the table without the non-`source` features wholly within `[i, i+n)` -/
theorem gen_erase_spec {ι : Type} (ops : Gen.InfoOps ι) (info : ι) (s : Seq) (i n : Int)
    (h : Bridge.deleteOk s.len i n) :
    Gen.seqErase ops info s.feats s.bytes i n =
      .ok (ops.tryExpand info i (-n),
        (s.feats.filter fun f => f.key = "source" || !(f.loc.within i (i + n))).map
          (fun f => { f with loc := f.loc.expand i (-n) }),
        s.bytes.take i.toNat ++ s.bytes.drop (i + n).toNat) :=
  Bridge.seqErase_eq ops info s i n h

/-- **`gts.Slice` as written**, forward window `0 ≤ a ≤ b ≤ L`: no panic, exactly the residues of the window, exactly
the overlapping features re-based (`source` completed), metadata through `trySlice` and `WithTopology(Linear)` -/
theorem gen_slice_fwd_spec {ι : Type} (ops : Gen.InfoOps ι) (fuel : Nat) (info : ι) (s : Seq) (a b : Int)
    (ha : 0 ≤ a) (hab : a ≤ b) (hb : b ≤ s.len) :
    Gen.seqSlice ops (fuel + 1) info s.feats s.bytes a b =
      .ok (ops.withTopology (ops.trySlice info a b) 0,
        (s.feats.filter fun f => f.loc.overlap a b).map (fun f =>
          let loc := (f.loc.expand b (b - s.len)).expand 0 (-a)
          { f with loc := if f.key = "source" then loc.asComplete else loc }),
        (s.bytes.drop a.toNat).take (b - a).toNat) := by
  have ea := Bridge.sliceNorm_nonneg s.len ha
  have eb := Bridge.sliceNorm_nonneg s.len (Int.le_trans ha hab)
  have := Bridge.seqSlice_fwd ops fuel info s a b (by rw [ea, eb]; exact hab) (by rw [ea, eb]; exact ⟨ha, hb⟩)
  rw [this, ea, eb, slice_bytes_fwd s a b ha hab, slice_feats_fwd s a b ha hab]

/-- **`gts.Slice` as written**, wrap-around window given by indices of ANY sign whose normalised values
satisfy `0 ≤ B < A ≤ L`: no panic, the residues are `seq[A:] + seq[:B]`, the table is that of
`Seq.slice` (the subject of `slice_wrap_den_partial` / `slice_wrap_feature_origin`), the metadata goes
through `Rotate`'s and then `trySlice(·, 0, L-A+B)` and `WithTopology(Linear)` -/
theorem gen_slice_wrap_spec {ι : Type} (ops : Gen.InfoOps ι) (fuel : Nat) (info : ι) (s : Seq) (a b A B : Int)
    (hA : Bridge.sliceNorm s.len a = A) (hB : Bridge.sliceNorm s.len b = B)
    (hB0 : 0 ≤ B) (hBA : B < A) (hAL : A ≤ s.len) (hf : A ≤ fuel + 1) :
    Gen.seqSlice ops (fuel + 2) info s.feats s.bytes a b =
      .ok (ops.withTopology (ops.trySlice info 0 (s.len - A + B)) 0, (s.slice a b).feats,
        s.bytes.drop A.toNat ++ s.bytes.take B.toNat) := by
  have := Bridge.seqSlice_wrap ops fuel info s a b (by rw [hA, hB]; exact hBA) (by omega)
    (by rw [hA, hB]; omega) (by rw [hA]; exact hf)
  rw [this, hA, hB, slice_wrap_neg_bytes s a b A B hA hB hB0 hBA hAL]

/-- **`gts.Slice` as written**, wrap-around window `0 ≤ b < a ≤ L`: no panic and the residues are
`seq[a:] + seq[:b]` -/
theorem gen_slice_wrap_bytes {ι : Type} (ops : Gen.InfoOps ι) (fuel : Nat) (info : ι) (s : Seq) (a b : Int)
    (hb : 0 ≤ b) (hba : b < a) (haL : a ≤ s.len) (hf : a ≤ fuel + 1) :
    ∃ i' ff, Gen.seqSlice ops (fuel + 2) info s.feats s.bytes a b =
      .ok (i', ff, s.bytes.drop a.toNat ++ s.bytes.take b.toNat) :=
  ⟨_, _, gen_slice_wrap_spec ops fuel info s a b a b (Bridge.sliceNorm_nonneg s.len (by omega))
    (Bridge.sliceNorm_nonneg s.len hb) hb hba haL hf⟩

/-! ### "except on source features after slicing" (finding F37, repaired in /repo e43d5f2)

`asComplete` had no case for `Complemented`: the `source` feature of a reverse-complemented record
(`complement(1..L)`) kept the markers `Slice` puts on the ends it cuts off. -/

/-- some contiguous leaf of the location carries a partial marker (harness `anyPartial`) -/
def anyPartial (l : Loc) : Bool :=
  l.leaves.any fun u => match u with
    | .ranged _ _ p5 p3 => p5 || p3
    | _ => false

mutual
theorem leaves_asComplete_noPartial : ∀ l : Loc, ∀ u ∈ (asComplete l).leaves,
    (match u with | .ranged _ _ p5 p3 => p5 || p3 | _ => false) = false
  | .joined ls | .ordered ls => by
    intro u hu; simp only [asComplete, leaves] at hu; exact leavesList_asComplete_noPartial ls u hu
  | .compl l => by
    intro u hu; simp only [asComplete, leaves] at hu; exact leaves_asComplete_noPartial l u hu
  | .ranged .. | .between _ | .point _ | .ambiguous .. => by
    intro u hu; simp only [asComplete, leaves, List.mem_singleton] at hu; subst hu; rfl
theorem leavesList_asComplete_noPartial : ∀ ls : List Loc, ∀ u ∈ leavesList (asCompleteList ls),
    (match u with | .ranged _ _ p5 p3 => p5 || p3 | _ => false) = false
  | [] => by intro u hu; simp only [asCompleteList, leavesList] at hu; cases hu
  | l :: ls => by
    intro u hu
    simp only [asCompleteList, leavesList, List.mem_append] at hu
    rcases hu with h | h
    · exact leaves_asComplete_noPartial l u h
    · exact leavesList_asComplete_noPartial ls u h
end

/-- `asComplete` leaves no partial marker anywhere: every kind, every nesting depth, either strand -/
theorem asComplete_noPartial (l : Loc) : anyPartial (asComplete l) = false := by
  unfold anyPartial
  rw [List.any_eq_false]
  intro u hu
  simp only [leaves_asComplete_noPartial l u hu, Bool.false_eq_true, not_false_eq_true]

/-- **a `source` feature never becomes (or stays) partial by slicing**: every `source` feature of a
forward slice is marker-free — for every record, every window and every location kind, the
complement strand included (the clause "except on source features after slicing"). -/
theorem slice_source_complete (s : Seq) (a b : Int) (ha : 0 ≤ a) (hab : a ≤ b) :
    ∀ g ∈ (s.slice a b).feats, g.key = "source" → anyPartial g.loc = false := by
  intro g hg hk
  rw [slice_feats_fwd s a b ha hab, List.mem_map] at hg
  obtain ⟨f, _, rfl⟩ := hg
  simp only at hk
  simp only [hk, if_true]
  exact asComplete_noPartial _

/-- the reading of `asComplete` before repair e43d5f2 (no clause for a complement) -/
def asCompleteOld : Loc → Loc
  | .compl l => .compl l
  | l => asComplete l

/-- with the old reading the statement is false: `source complement(3..10)` cut to its first residue
comes out as `complement(3..>3)` (finding F37; witness replayed on the real code every run) -/
theorem slice_source_complete_old_refuted :
    ¬ (∀ l : Loc, ∀ b L : Int, anyPartial (asCompleteOld ((l.expand b (b - L)).expand 0 0)) = false) := by
  intro h
  exact absurd (h (.compl (.ranged 2 10 false false)) 3 10) (by decide +kernel)

-- non-vacuity: the source of a reverse-complemented record of ten residues, cut to [0,3)
example : ((Seq.slice ⟨[⟨"source", .compl (.ranged 2 10 false false), []⟩], [97, 99, 103, 116, 97, 99, 103, 116, 97, 99]⟩ 0 3).feats.map
    fun f => f.loc.beq (.compl (.ranged 2 3 false false))) = [true] := by decide +kernel

-- non-vacuity: windows of a sequence of six residues
example : Bridge.deleteOk (⟨[], [65, 67, 71, 84, 65, 67]⟩ : Seq).len 2 3 := by decide +kernel
example : (0 : Int) ≤ 1 ∧ (1 : Int) ≤ 4 ∧ (4 : Int) ≤ (⟨[], [65, 67, 71, 84, 65, 67]⟩ : Seq).len := by decide +kernel
example : (0 : Int) ≤ 2 ∧ (2 : Int) < 5 ∧ (5 : Int) ≤ (⟨[], [65, 67, 71, 84, 65, 67]⟩ : Seq).len ∧ (5 : Int) ≤ (4 : Nat) + 1 := by decide +kernel
example : Bridge.sliceNorm (⟨[], [65, 67, 71, 84, 65, 67]⟩ : Seq).len (-1) = 5 ∧ Bridge.sliceNorm (⟨[], [65, 67, 71, 84, 65, 67]⟩ : Seq).len (-4) = 2 ∧
    (0 : Int) ≤ 2 ∧ (2 : Int) < 5 ∧ (5 : Int) ≤ (⟨[], [65, 67, 71, 84, 65, 67]⟩ : Seq).len ∧ (5 : Int) ≤ (4 : Nat) + 1 := by decide +kernel

/-! ### the REGENERATED `GenBankFields.Slice` (go2lean gwriter: `Gts/Gen/GbSlice.lean`, `Gts/Bridge/GbSlice.lean`) -/

/-- **`GenBankFields.Slice` as written**: for every value of the struct and every window the method does not
panic, the result's region is the window, and its references are numbered `1, 2, …, m` in order — whatever was
dropped. -/
theorem gen_slice_refs_numbered (gbf : Gen.GbFields.GenBankFields) (a b : Int) :
    ∃ g, Gen.GbSlice.genBankFieldsSlice intBytes Bridge.overlapModel Bridge.parseInfoModel gbf a b = some g ∧
      g.Region = some (a, b) ∧
      g.References.map (·.Number) = (List.range g.References.length).map (fun (k : Nat) => (k : Int) + 1) := by
  refine ⟨_, Bridge.genBankFieldsSlice_eq gbf a b, rfl, ?_⟩
  show (Bridge.sliceRefsFull _ a b gbf.References).map (·.Number) = _
  have hm := Bridge.sliceRefsFull_model (Gen.GbSlice.moleculeCounter gbf.Molecule) a b gbf.References
  generalize Bridge.sliceRefsFull (Gen.GbSlice.moleculeCounter gbf.Molecule) a b gbf.References = rs at hm ⊢
  have hn : rs.map (·.Number) = (rs.map Bridge.toRef).map (·.number) := by
    simp [Bridge.toRef, Function.comp_def]
  have hl := congrArg List.length hm
  unfold sliceRefs at hm hl
  rw [hn, hm, renumber_numbers]
  simp only [List.length_map] at hl
  have hr : ∀ infos, (renumber infos).length = infos.length := fun _ => by simp [renumber]
  rw [hl, hr]

/-- **a reference whose info is no range list survives `GenBankFields.Slice` verbatim** (as written): when every
info is unparsable, the references come back as they were, renumbered -/
theorem gen_slice_unparsable_kept (gbf : Gen.GbFields.GenBankFields) (a b : Int)
    (h : ∀ r ∈ gbf.References, parseRefInfo (Gen.GbSlice.moleculeCounter gbf.Molecule) r.Info = none) :
    ∃ g, Gen.GbSlice.genBankFieldsSlice intBytes Bridge.overlapModel Bridge.parseInfoModel gbf a b = some g ∧
      g.References.map (·.Info) = gbf.References.map (·.Info) := by
  refine ⟨_, Bridge.genBankFieldsSlice_eq gbf a b, ?_⟩
  show (Bridge.sliceRefsFull _ a b gbf.References).map (·.Info) = _
  unfold Bridge.sliceRefsFull
  generalize gbf.References = l at h ⊢
  have hk : l.filterMap (Bridge.sliceRefFull (Gen.GbSlice.moleculeCounter gbf.Molecule) a b) = l :=
    (filterMap_congr' l _ some fun r hr => by
      simp [Bridge.sliceRefFull, sliceRefInfo_verbatim _ _ a b (h r hr)]).trans List.filterMap_some
  rw [hk]
  have : ∀ (k : Nat) (l : List Gen.GbFields.Reference), (Bridge.renumberFrom k l).map (·.Info) = l.map (·.Info) := by
    intro k l
    induction l generalizing k with
    | nil => rfl
    | cons r l ih => simp [Bridge.renumberFrom, ih]
  exact this 0 _

/-! ### a slice OF A SLICE (composition; seeded change W35-1) -/

/-- **REFERENCE ranges under a slice of a slice** (model): for non-empty forward windows `[a, b)` and
`[c, d) ⊆ [0, b − a)`, slicing the references twice is slicing them once to `[a + c, a + d)`: each range is
clipped to the INNER window of the original record, re-based to it, dropped when disjoint from it, and the
survivors are renumbered `1..m`; an info that is no range list is kept verbatim by both.  (What the first
slice writes is read back by the second as the clipped ranges — `sliceRefInfo_reparse`.) -/
theorem slice_of_slice_refs (pref : Pars.Bytes) (a b c d : Int) (refs : List Ref) (hab : a < b)
    (hfit : b - a ≤ 9223372036854775807) (hc : 0 ≤ c) (hcd : c < d) (hd : d ≤ b - a) :
    sliceRefs pref c d (sliceRefs pref a b refs) = sliceRefs pref (a + c) (a + d) refs :=
  GbSliceRef.sliceRefs_compose pref a b c d refs hab hfit hc hcd hd

-- non-vacuity: `(bases 1 to 10; 12 to 14)` and a verbatim info under [2,8) then [1,4) = [3,6): `(bases 1 to 3)`
example : ((sliceRefs (Pars.str "bases") 1 4 (sliceRefs (Pars.str "bases") 2 8
      [⟨7, Pars.str "(bases 1 to 10; 12 to 14)"⟩, ⟨8, Pars.str "(sites)"⟩, ⟨9, Pars.str "(bases 9 to 20)"⟩])).map (·.info)) =
    [Pars.str "(bases 1 to 3)", Pars.str "(sites)"] ∧ (2 : Int) < 8 ∧ (0 : Int) ≤ 1 ∧ (1 : Int) < 4 ∧ (4 : Int) ≤ 8 - 2 := by
  decide +kernel

/-- **the same for `GenBankFields.Slice` as written** (regenerated): two applications of the method do not panic;
the result's references are (number and info) those of ONE application with the window `[a + c, a + d)`, and its
region is the second window as given, `[c, d)` — the method does not look at the region the value already has. -/
theorem gen_slice_of_slice_refs (gbf : Gen.GbFields.GenBankFields) (a b c d : Int) (hab : a < b)
    (hfit : b - a ≤ 9223372036854775807) (hc : 0 ≤ c) (hcd : c < d) (hd : d ≤ b - a) :
    ∃ g1 g2 g,
      Gen.GbSlice.genBankFieldsSlice intBytes Bridge.overlapModel Bridge.parseInfoModel gbf a b = some g1 ∧
      Gen.GbSlice.genBankFieldsSlice intBytes Bridge.overlapModel Bridge.parseInfoModel g1 c d = some g2 ∧
      Gen.GbSlice.genBankFieldsSlice intBytes Bridge.overlapModel Bridge.parseInfoModel gbf (a + c) (a + d) = some g ∧
      g2.References.map Bridge.toRef = g.References.map Bridge.toRef ∧ g2.Region = some (c, d) := by
  refine ⟨_, _, _, Bridge.genBankFieldsSlice_eq gbf a b, Bridge.genBankFieldsSlice_eq _ c d,
    Bridge.genBankFieldsSlice_eq gbf (a + c) (a + d), ?_, rfl⟩
  show (Bridge.sliceRefsFull (Gen.GbSlice.moleculeCounter gbf.Molecule) c d
      (Bridge.sliceRefsFull (Gen.GbSlice.moleculeCounter gbf.Molecule) a b gbf.References)).map Bridge.toRef =
    (Bridge.sliceRefsFull (Gen.GbSlice.moleculeCounter gbf.Molecule) (a + c) (a + d) gbf.References).map Bridge.toRef
  rw [Bridge.sliceRefsFull_model, Bridge.sliceRefsFull_model, Bridge.sliceRefsFull_model]
  exact GbSliceRef.sliceRefs_compose _ a b c d _ hab hfit hc hcd hd

section RecordRefs
open Gts.GenBank

/-! ### REFERENCE ranges at the RECORD level: forward windows (holds) and wrap-around windows (known finding K3R)

`GenBank.sliceHeader f L a b` (`Model/GbSliceRec.lean`) is the header `gts.Slice` gives a GenBank record of `L`
residues.  The property's clause — "REFERENCE base ranges are clipped to the window, re-based, dropped when disjoint
and renumbered consecutively", for "all windows (forward and wrap-around …)" — is stated against an independent
specification: `referencesSpec pieces f`, where `pieces r` lists what is left of the range `r = [s, e)` in window
coordinates. -/

/-- forward window `[a, b)`: the intersection, counted from `a` -/
def fwdPieces (a b : Int) (r : Int × Int) : List (Int × Int) :=
  if gmax r.1 a < gmin r.2 b then [(gmax r.1 a - a, gmin r.2 b - a)] else []

/-- wrap-around window `[a, L) ++ [0, b)`: the part of the range inside the tail `[a, L)` moves to `x - a`, the part
inside the head `[0, b)` to `x + (L - a)` (together `x ↦ (x - a) mod L`, the map of the residues, `slice_wrap_map`);
a range that runs across the origin of the record stays ONE range (its two pieces abut at window position `L - a`);
otherwise the pieces are listed in window order; a range disjoint from the window leaves nothing (same function as
`wrapRefSpec` of harness/props_c03_refs.go) -/
def wrapPieces (L a b : Int) (r : Int × Int) : List (Int × Int) :=
  let t := (gmax r.1 a, gmin r.2 L)
  let h := (gmax r.1 0, gmin r.2 b)
  if t.1 < t.2 then
    if h.1 < h.2 then
      if t.2 - a = h.1 + (L - a) then [(t.1 - a, h.2 + (L - a))]
      else [(t.1 - a, t.2 - a), (h.1 + (L - a), h.2 + (L - a))]
    else [(t.1 - a, t.2 - a)]
  else if h.1 < h.2 then [(h.1 + (L - a), h.2 + (L - a))] else []

/-- one reference info: unparsable = verbatim; no piece left = dropped; else the pieces, printed -/
def refInfoSpec (pieces : Int × Int → List (Int × Int)) (pref info : Pars.Bytes) : Option Pars.Bytes :=
  match parseRefInfo pref info with
  | none => some info
  | some rs => if (rs.flatMap pieces).isEmpty then none else some (fmtRanges pref (rs.flatMap pieces))

/-- the references the clause prescribes: clipped / dropped as above, the kept ones renumbered `1..m` -/
def referencesSpec (pieces : Int × Int → List (Int × Int)) (f : Fields) : List Reference :=
  renumberRefs (f.references.filterMap fun r =>
    (refInfoSpec pieces (counterWord f.molecule) r.info).map fun i => { r with info := i })

/-- the code's `filter overlap; map clipRange` IS the intersection list, for proper ranges and a non-empty window -/
theorem fwdPieces_eq (a b : Int) (hab : a < b) (rs : List (Int × Int)) (hp : ∀ r ∈ rs, r.1 < r.2) :
    (rs.filter fun r => rangeOverlap r.1 r.2 a b).map (clipRange a b) = rs.flatMap (fwdPieces a b) := by
  -- range by range: kept, clipped, iff it meets the window
  conv => lhs; rw [← List.flatMap_singleton' rs, List.filter_flatMap, List.map_flatMap]
  apply flatMap_congr'
  intro r hr
  have h1 := hp r hr
  simp only [List.filter_cons, List.filter_nil, GbSliceRef.rangeOverlap_proper r.1 r.2 a b h1 hab, fwdPieces]
  by_cases c : r.1 < b ∧ a < r.2
  · have hc : clipRange a b r = (gmax r.1 a - a, gmin r.2 b - a) := by
      unfold clipRange gmax gmin
      ext <;> simp only <;> omega
    rw [if_pos (by simp only [c.1, c.2, decide_true, Bool.and_self]), if_pos (by unfold gmax gmin; omega),
      List.map_cons, List.map_nil, hc]
  · rw [if_neg (by simp only [Bool.and_eq_true, decide_eq_true_eq]; exact c), if_neg (by unfold gmax gmin; omega),
      List.map_nil]

/-- **REFERENCE ranges, forward window** (`0 ≤ a < b`): the clause "clipped to the window, re-based, dropped
when disjoint, renumbered" HOLDS — the header of the slice carries exactly the references the
independent statement `referencesSpec (fwdPieces a b)` prescribes: an unparsable info verbatim; a parsed one
with, for each range, its intersection with `[a, b)` counted from `a` (`fwdPieces`; `clipRange_spec`,
`clipRange_inside` say the same of the code's `clipRange` position by position), dropped when no range meets
the window; numbers `1..m`. -/
theorem slice_fwd_refs (f : Fields) (L a b : Int) (ha : 0 ≤ a) (hab : a < b) :
    (sliceHeader f L a b).references = referencesSpec (fwdPieces a b) f := by
  have hw : sliceWindow L a b = (a, b) := by
    unfold sliceWindow sliceIndex
    rw [if_neg (by omega), if_neg (by omega), if_neg (by omega)]
  have hinfo : ∀ info, sliceRefInfo (counterWord f.molecule) a b info
      = refInfoSpec (fwdPieces a b) (counterWord f.molecule) info := by
    intro info
    unfold sliceRefInfo refInfoSpec
    cases hpr : parseRefInfo (counterWord f.molecule) info with
    | none => rfl
    | some rs =>
      simp only
      have hp := parseRefInfo_proper _ _ rs hpr
      rw [← fwdPieces_eq a b hab rs hp]
      by_cases hemp : (rs.filter fun r => rangeOverlap r.1 r.2 a b).isEmpty <;> simp [hemp]
  simp only [sliceHeader, hw, Fields.slice, Fields.withTopology, sliceReferences, referencesSpec, hinfo]

/-- the witness of K3R: ten residues, `REFERENCE 1 (bases 9 to 10)`, `REFERENCE 2 (bases 5 to 6)`; window `Slice(seq, 8, 4)`
= residues `9,10,1..4` -/
def witF : Fields :=
  { (default : Fields) with
    molecule := [68, 78, 65]
    references := [{ (default : Reference) with number := 1, info := [40, 98, 97, 115, 101, 115, 32, 57, 32, 116, 111, 32, 49, 48, 41] },
                   { (default : Reference) with number := 2, info := [40, 98, 97, 115, 101, 115, 32, 53, 32, 116, 111, 32, 54, 41] }] }

/-- what the model (and the code) answers at the witness: REFERENCE 1 `(bases 9 to 10)` — residues INSIDE the
window — is dropped, REFERENCE 2 `(bases 5 to 6)` — residues OUTSIDE it — is kept, un-rebased, as number 1 -/
theorem slice_wrap_refs_witness :
    (sliceHeader witF 10 8 4).references.map (fun r => (r.number, r.info)) = [(1, [40, 98, 97, 115, 101, 115, 32, 53, 32, 116, 111, 32, 54, 41])] := by
  decide +kernel

/-- what the property's clause demands there -/
theorem slice_wrap_refs_witness_spec :
    (referencesSpec (wrapPieces 10 8 4) witF).map (fun r => (r.number, r.info)) = [(1, [40, 98, 97, 115, 101, 115, 32, 49, 32, 116, 111, 32, 50, 41])] := by
  decide +kernel

/-- FULL STATEMENT of the REFERENCE clause for a WRAP-AROUND window (false on the model and on the code: known
finding K3R): "for every header and every window `0 ≤ b < a ≤ L` the references of the slice are the ranges clipped to
the window `[a, L) ++ [0, b)`, re-based by `(x - a) mod L`, dropped when disjoint, renumbered".  `gts.Slice` rotates
residues and table by `-a` but not the header (`GenBankFields` has no `Shift` / `Expand`), then clips the UN-rotated
ranges against `[0, L - a + b)`.  Witness `witF`, window `(8, 4)`: `(bases 9 to 10)` — inside the window, new
positions `1 to 2` — is DROPPED; `(bases 5 to 6)` — outside the window — is KEPT as `(bases 5 to 6)`.  Replayed on the
real code by op `gb.slice` (witness of K3R in known_findings.json), flagged by oracle `c03RefsWrap`.
The clause HOLDS for forward windows: `slice_fwd_refs`. -/
theorem slice_wrap_refs_full_refuted :
    ¬ (∀ (f : Fields) (L a b : Int), 0 ≤ b → b < a → a ≤ L →
        (sliceHeader f L a b).references = referencesSpec (wrapPieces L a b) f) := by
  intro h
  have := h witF 10 8 4 (by decide +kernel) (by decide +kernel) (by decide +kernel)
  have h2 := congrArg (List.map fun r => (r.number, r.info)) this
  rw [slice_wrap_refs_witness, slice_wrap_refs_witness_spec] at h2
  revert h2
  decide +kernel

/-- non-vacuity of `slice_fwd_refs`, and `wrapPieces` on the shapes the oracle names: a range inside the tail, one
across the origin of the record (stays one range), one meeting both parts without the junction (two ranges, window
order), one disjoint -/
example : (0 : Int) ≤ 2 ∧ (2 : Int) < 8 ∧
    (sliceHeader witF 10 2 8).references.map (fun r => r.number) = [1] ∧
    wrapPieces 10 8 4 (8, 10) = [(0, 2)] ∧ wrapPieces 10 8 4 (6, 10) = [(0, 2)] ∧
    wrapPieces 10 8 4 (0, 10) = [(0, 6)] ∧ wrapPieces 10 8 4 (2, 9) = [(0, 1), (4, 6)] ∧
    wrapPieces 10 8 4 (4, 6) = [] := by decide +kernel

end RecordRefs

/-- non-vacuity: `(sites)` is no range list under the counter word `bases` -/
example : parseRefInfo (Gen.GbSlice.moleculeCounter (Gen.GoStrings.wsLit "DNA")) (Gen.GoStrings.wsLit "(sites)") = none := by
  decide +kernel

end Gts.C03
