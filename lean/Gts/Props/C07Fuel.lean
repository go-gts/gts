/-
  C07 — parsers are total, "never hangs", second part: the REMAINING fuelled loops of the GenBank
  reader model, the reader with every fuel a parameter, and a step count.
  Property theorems only (helpers: Gts/Lemmas/GbFuel2Pure.lean, GbFuel2Table.lean, GbFuel2X.lean,
  GbFuel2Agree.lean, GbCost.lean, GbRounds.lean — `recordLoopF`, `parseAllF`).

  FUEL.  The model (Gts/Model/GenBankParse.lean, InsdcParse.lean, Origin.lean, LocText.lean) gives
  every loop of the Go code a fuel computed from the bytes left.  Gts/Props/C07.lean proves the fuel
  adequate for `bodyMore`, `taxonMore`, `dblinkMore`, `recordLoop`, `parseAll`, `LocParse.loc`.  Here:
  every other fuelled loop of the reader, a `…_fuel_stable` theorem each — `splitOn`, `stripContOld`
  (the prefix loop of `quotedQualifierParser` BEFORE 2612fae), `literalMore`, `qualifiers`,
  `tableMore`, `refSubfields`, the four counter loops of the ORIGIN reader, the two decimal printers
  (`refAlts`, `blanks`, `scanQ`, `findSub`, `calcLine`, `tryList` and — since 2612fae — `stripCont`,
  the loop of `quotedQualifierParser` over the bytes of the token, recurse on a list or a counter
  and carry no fuel) — and the statement that puts them together: `genbankParser_fuel_free`,
  `readAll_fuel_free`; and PROGRESS of the record loop and the scan loop (audit S4: stability alone is
  also true of a loop that spins): `recordLoop_round_consumes`, `recordLoop_iterations_le`,
  `parseAll_iterations_le`, `recordLoop_spin_mutant_refuted`.  `Gts.GenBank.Fuels` has one fuel policy per loop kind; `genbankParserX g` is
  the reader with `g.<loop> (model fuel)` passed wherever the model passes its fuel, at every level
  at once; for every `g` that lowers no fuel it IS `genbankParser`, as a term.  So no answer of the
  model — record, error, final state — is an artefact of a fuel.

  ONE loop's fuel STOOD for a hang of the Go code: the old loop of `quotedQualifierParser` with the
  EMPTY continuation prefix (`stripCont_exits_full_refuted`, a statement about `stripContOld`).  It
  was not reachable from `INSDCTableParser("")` (the prefix is the indent of the first key line, at
  least one column) but through the exported `seqio.QualifierParser("")`.  REPAIRED by 2612fae (K7E):
  the loop is one counted pass over the token; it gives the value of the old loop for every token
  and every non-empty prefix (`stripCont_onepass`), its value holds no `"\n" ++ prefix` any more
  (`stripCont_exits`), and with the empty prefix it ends and returns the token as it is
  (`stripCont_empty_prefix`).  No fuel of the reader model stands for a hang any more.

  STEPS ("time proportional to the input"; exploratory).
  Gts/Lemmas/GbCostReader.lean (generated by bin/gen_cost_reader: the model's parser text over
  instrumented primitives) counts one step per primitive call and per byte a primitive inspects or
  skips; value construction is not counted.  Evaluated on thirteen families in four sizes
  (Gts/Lemmas/GbCost.lean, table at the end): eleven were linear (2 … 38 steps per byte), TWO WERE
  QUADRATIC ON ACCEPTED RECORDS — so "at most c·n + d steps" was FALSE of the reader, and the real
  code showed it (152 KB of CONTIG lines without a colon: 10 s; a quoted qualifier value of 1.8 MB:
  16 s).  BOTH ARE REPAIRED.  K7D → F38 (/repo a4b3f5d): the CONTIG parser looks for the colon on its
  own line only — `contig_reads_one_line` (from every state at most two counted steps per byte of the
  line plus 37), `contig_accession_one_line`; the family is linear now (8 … 9 steps per byte).  K7E →
  F39 (/repo 2612fae): the continuation indent is removed in one pass — `steps_prefix_loop_linear` (at
  most `len(prefix) + 2` steps per byte of the token), `stripCont_onepass` (same value as the old loop).
  Theorems: the counted primitives are the model's (`steps_counted_primitives`); `pars.Until(':')`
  scans to the end of the input (`steps_until_colon_partial`, a statement about the primitive); the OLD
  prefix loop cost at least `(d+2)·m·(m+1)/2` for `m` continuation lines and had no linear bound
  (`steps_prefix_loop_quadratic_partial`, `steps_linear_full_refuted`: statements about the old reading
  `stripContCostOld`); every other byte-looping primitive spends at most bytes-left + 3 per call
  (`steps_long_primitives_partial`).
  MISSING: the step count of the whole record loop on the two families for every size (it is
  evaluated, not proved: the kernel cannot run the counted reader on useful sizes, and the proof
  needs one symbolic round of `tryAllParsers` on a parametric input), and any general upper bound
  (a quadratic one would need an amortised cost logic for all ninety parsers).
-/
import Gts.Props.C07
import Gts.Lemmas.GbFuel2Agree
import Gts.Lemmas.GbCost
import Gts.Lemmas.GbRounds
import Gts.Lemmas.BsLit
namespace Gts.C07
open Gts Pars GenBank

/-- `strings.Split(s, sep)` for a non-empty separator (`"; "` in `FlatFileSplit`, `"-"` in
`AsDate`): every step consumes a byte, so any two fuels above `len(s)` give the same fields. -/
theorem split_fuel_stable (sep : Bytes) (hsep : sep ≠ []) (n m : Nat) (cur s : Bytes)
    (hn : s.length < n) (hm : s.length < m) :
    GenBank.splitOn sep n cur s = GenBank.splitOn sep m cur s :=
  GenBank.splitOn_fuel sep hsep n m cur s hn hm

/-- non-vacuity: a keyword list of 9 bytes split at fuel 13 and at fuel 1000 -/
example : (GenBank.bs "; ") ≠ [] ∧ (GenBank.bs "a; bc; d.").length < 13 ∧
    GenBank.splitOn (GenBank.bs "; ") 13 [] (GenBank.bs "a; bc; d.") =
      [GenBank.bs "a", GenBank.bs "bc", GenBank.bs "d."] ∧
    GenBank.splitOn (GenBank.bs "; ") 1000 [] (GenBank.bs "a; bc; d.") =
      [GenBank.bs "a", GenBank.bs "bc", GenBank.bs "d."] := by decide +kernel

/-- THE OLD READING (the loop of `quotedQualifierParser` before 2612fae, `for i >= 0 { delete the
prefix behind "\n" }`, searching from the start of the token every time; today's loop is a counted
loop and has no fuel, `stripCont_onepass` ties the two) for a NON-EMPTY continuation prefix: every
round deletes `len(prefix) ≥ 1` bytes, so with at least `len(token)` rounds (the old model's fuel) the
value does not depend on the fuel … -/
theorem stripCont_fuel_stable (pre : Bytes) (hpre : pre ≠ []) (n m : Nat) (t : Bytes)
    (hn : t.length ≤ n) (hm : t.length ≤ m) :
    GenBank.stripContOld pre n t = GenBank.stripContOld pre m t :=
  GenBank.stripContOld_fuel pre hpre n m t hn hm

/-- … and the old loop has ended BY ITS OWN CONDITION: `"\n" ++ prefix` no longer occurs in the value
(`bytes.Index(token, p) < 0`).
FULL statement (false of the old loop, see `stripCont_exits_full_refuted`): the same for every prefix.
`_partial`: the guard `pre ≠ []` is what `INSDCTableParser` guarantees. -/
theorem stripCont_exits_partial (pre : Bytes) (hpre : pre ≠ []) (n : Nat) (t : Bytes)
    (hn : t.length ≤ n) :
    GenBank.findSub (10 :: pre) (GenBank.stripContOld pre n t) 0 = none :=
  GenBank.stripContOld_exits pre hpre n t hn

/-- the full statement was FALSE for the empty prefix: whatever the fuel, a token that begins with a
line feed came back unchanged from the old loop and the loop condition still held — in Go
`copy(token[i+1:], token[i+len(p):])` copied the tail onto itself and `for i >= 0` never ended.  (An
observation about the exported `seqio.QualifierParser("")`; the GenBank reader never builds it.
Repaired with K7E, 2612fae: `stripCont_empty_prefix`.) -/
theorem stripCont_exits_full_refuted (n : Nat) (t : Bytes) :
    GenBank.stripContOld [] n (10 :: t) = 10 :: t ∧
      GenBank.findSub (10 :: []) (GenBank.stripContOld [] n (10 :: t)) 0 = some 0 := by
  rw [GenBank.stripContOld_empty_prefix_steps]
  refine ⟨rfl, ?_⟩
  unfold GenBank.findSub; simp

/-- non-vacuity: a two-line `/note` value under a 21-column indent loses the indent at fuel
`len(token)` and at fuel 1000; with the empty prefix nothing happens at any fuel -/
example : GenBank.sp 21 ≠ [] ∧
    GenBank.stripContOld (GenBank.sp 21) 26 (GenBank.bs "ab\n" ++ GenBank.sp 21 ++ GenBank.bs "cd") =
      GenBank.bs "ab\ncd" ∧
    GenBank.stripContOld (GenBank.sp 21) 1000 (GenBank.bs "ab\n" ++ GenBank.sp 21 ++ GenBank.bs "cd") =
      GenBank.bs "ab\ncd" ∧
    (GenBank.bs "ab\n" ++ GenBank.sp 21 ++ GenBank.bs "cd").length = 26 ∧
    GenBank.stripContOld [] 5 (GenBank.bs "\nab") = GenBank.bs "\nab" := by decide +kernel

/-- ONE PASS GIVES THE SAME VALUE (the repair of K7E, 2612fae).  The loop of `quotedQualifierParser`
is now `for r := 0; r < len(token); r++ { token[w] = token[r]; w++; if bytes.HasSuffix(token[:w], p)
{ w -= len(prefix) } }` — every byte of the token is moved once.  For EVERY token and EVERY NON-EMPTY
continuation prefix its value (`stripCont`, no fuel) is the value of the loop it replaced, run to
its end (any fuel of at least `len(token)`): every theorem about quoted values keeps its statement.
This includes the old loop's habit of stripping a continuation line that is indented by twice the
prefix TWICE (the line feed that stays completes the next occurrence), and prefixes that contain a
line feed themselves. -/
theorem stripCont_onepass (pre : Bytes) (hpre : pre ≠ []) (t : Bytes) (n : Nat) (hn : t.length ≤ n) :
    GenBank.stripCont pre t = GenBank.stripContOld pre n t :=
  GenBank.stripCont_onepass_eq pre hpre t n hn

/-- … so the value of today's loop holds no `"\n" ++ prefix` any more (non-empty prefix) … -/
theorem stripCont_exits (pre : Bytes) (hpre : pre ≠ []) (t : Bytes) :
    GenBank.findSub (10 :: pre) (GenBank.stripCont pre t) 0 = none :=
  GenBank.stripCont_exits pre hpre t

/-- … and WITH THE EMPTY PREFIX, where the old loop did not end (`stripCont_exits_full_refuted`),
today's loop ends — it is a counted loop — and returns the token as it is (`w -= 0` cuts nothing
off).  POSITIVE statement the repair made possible: `quotedQualifierParser(prefix)` terminates for
every prefix (the model's `stripCont` is a structural recursion over the token, and the translated
loop of the Go code has ended after `len(token)` rounds, `Gts.Bridge.quotedStrip_eq`). -/
theorem stripCont_empty_prefix (t : Bytes) : GenBank.stripCont [] t = t :=
  GenBank.stripCont_nil t

/-- non-vacuity: the two-line `/note` value of above; a line indented by twice the prefix is
stripped twice by both loops; a prefix that holds a line feed (old loop: the occurrence completed by
the line feed that stays begins BEFORE the cut); the empty prefix -/
example : GenBank.sp 21 ≠ [] ∧
    GenBank.stripCont (GenBank.sp 21) (GenBank.bs "ab\n" ++ GenBank.sp 21 ++ GenBank.bs "cd") =
      GenBank.bs "ab\ncd" ∧
    GenBank.stripCont (GenBank.sp 2) (GenBank.bs "a\n    b\n  c") = GenBank.bs "a\nb\nc" ∧
    GenBank.stripContOld (GenBank.sp 2) 12 (GenBank.bs "a\n    b\n  c") = GenBank.bs "a\nb\nc" ∧
    GenBank.stripCont (GenBank.bs "x\ny") (GenBank.bs "\nx\nx\nyy") = GenBank.bs "\n" ∧
    GenBank.stripContOld (GenBank.bs "x\ny") 8 (GenBank.bs "\nx\nx\nyy") = GenBank.bs "\n" ∧
    GenBank.stripCont [] (GenBank.bs "\nab\n\n") = GenBank.bs "\nab\n\n" := by decide +kernel

/-- the continuation lines of `literalQualifierValueParser`: a round that goes on has read the
prefix, one byte that is not `/`, and a line — at least one byte, in ANY state.  Any two fuels above
the bytes left give the same value and the same final state. -/
theorem literalMore_fuel_stable (pre : Bytes) (n m : Nat) (p : Bytes) (s : PS)
    (hn : s.rest.length < n) (hm : s.rest.length < m) :
    (GenBank.literalMore pre n p).run' s = (GenBank.literalMore pre m p).run' s :=
  GenBank.literalMore_fuel pre n m p s hn hm

/-- non-vacuity: two continuation lines, then the next qualifier (the frame of
`literalQualifierParser` on the stack), fuels 20 and 1000 -/
example : let st : PS := ⟨GenBank.bs "  b\n  c\n  /x\n", [GenBank.bs "  b\n  c\n  /x\n"]⟩
    st.rest.length < 20 ∧
    ((GenBank.literalMore (GenBank.sp 2) 20 (GenBank.bs "a")).run' st).1 = .ok (GenBank.bs "a\nb\nc") ∧
    ((GenBank.literalMore (GenBank.sp 2) 1000 (GenBank.bs "a")).run' st).1 = .ok (GenBank.bs "a\nb\nc") ∧
    ((GenBank.literalMore (GenBank.sp 2) 20 (GenBank.bs "a")).run' st).2.rest = GenBank.bs "  /x\n" := by
  dsimp only
  repeat rw [GenBank.bs_ofList]
  decide +kernel

/-- `pars.Many(qualifierParser)`: from a SORTED state (failing location parsers leak saved
positions, `pars.Any` pops) a qualifier that is read has consumed `prefix/`, and nothing goes back
behind the start of the round: at most bytes-left rounds. -/
theorem qualifiers_fuel_stable (pre : Bytes) (n m : Nat) (reg : GenBank.Registry)
    (acc : List (Bytes × Bytes)) (s : PS) (hs : Sorted s.rest.length s.stk)
    (hn : s.rest.length < n) (hm : s.rest.length < m) :
    (GenBank.qualifiers pre n reg acc).run' s = (GenBank.qualifiers pre m reg acc).run' s :=
  GenBank.qualifiers_fuel pre n m reg acc s hs hn hm

/-- non-vacuity: two qualifiers and the next key line (33 bytes), a leaked position on the stack; the
fuels 36 and 1000 read the same two qualifiers -/
example : let txt := GenBank.bs "  /gene=\"x\"\n  /pseudo\n  CDS 1..2\n"
    let st : PS := ⟨txt, [GenBank.bs "gene 1\n" ++ txt]⟩
    Sorted st.rest.length st.stk ∧ st.rest.length < 36 ∧
    ((GenBank.qualifiers (GenBank.sp 2) 36 GenBank.Registry.default []).run' st).1.toOption.map (·.1) =
      some [(GenBank.bs "gene", GenBank.bs "x"), (GenBank.bs "pseudo", [])] ∧
    ((GenBank.qualifiers (GenBank.sp 2) 1000 GenBank.Registry.default []).run' st).1.toOption.map (·.1) =
      some [(GenBank.bs "gene", GenBank.bs "x"), (GenBank.bs "pseudo", [])] := by
  dsimp only
  repeat rw [GenBank.bs_ofList]
  refine ⟨⟨by decide +kernel, trivial⟩, ?_⟩
  decide +kernel

/-- the key-line loop of `INSDCTableParser`: from a sorted state a key line that is read has
consumed its key and the qualifiers behind it do not go back. -/
theorem tableMore_fuel_stable (pre depth n m : Nat) (reg : GenBank.Registry)
    (acc : List GenBank.QFeature) (s : PS) (hs : Sorted s.rest.length s.stk)
    (hn : s.rest.length < n) (hm : s.rest.length < m) :
    (GenBank.tableMore pre depth n reg acc).run' s = (GenBank.tableMore pre depth m reg acc).run' s :=
  GenBank.tableMore_fuel pre depth n m reg acc s hs hn hm

/-- non-vacuity: the state behind the first feature of a table (positions leaked by the location
parser on the stack) is sorted, 57 bytes are left.  (The loop itself runs `LocParse.loc`, which the
kernel cannot evaluate; its results are correspondence-checked by `table.parse` / `gb.read`.) -/
example : let txt := GenBank.bs "     gene            1..2\n                     /gene=\"x\"\n"
    Sorted (PS.mk txt [txt, GenBank.bs "x" ++ txt]).rest.length (PS.mk txt [txt, GenBank.bs "x" ++ txt]).stk ∧
    (PS.mk txt [txt, GenBank.bs "x" ++ txt]).rest.length < 60 := by
  dsimp only
  repeat rw [GenBank.bs_ofList]
  refine ⟨⟨Nat.le_refl _, by decide +kernel, trivial⟩, by decide +kernel⟩

/-- `pars.Many(genbankReferenceSubfieldParser)`: from a sorted state a sub-field that is read has
consumed its name (`AUTHORS`, `TITLE`, …), whichever alternative of the `pars.Any` took it. -/
theorem refSubfields_fuel_stable (depth n m stale : Nat) (r : GenBank.Reference) (s : PS)
    (hs : Sorted s.rest.length s.stk) (hn : s.rest.length < n) (hm : s.rest.length < m) :
    (GenBank.refSubfields depth n stale r).run' s = (GenBank.refSubfields depth m stale r).run' s :=
  GenBank.refSubfields_fuel depth n m stale r s hs hn hm

/-- non-vacuity: AUTHORS and TITLE, then the next field (44 bytes); fuels 46 and 1000 -/
example : let txt := GenBank.bs "  AUTHORS   A,B\n  TITLE     t\nCOMMENT     c\n"
    let r0 : GenBank.Reference := ⟨1, [], [], [], [], [], none, []⟩
    Sorted (PS.mk txt [txt]).rest.length (PS.mk txt [txt]).stk ∧ txt.length < 46 ∧
    ((GenBank.refSubfields 12 46 3 r0).run' ⟨txt, [txt]⟩).1.toOption.map
      (fun r => (r.authors, r.title)) = some (GenBank.bs "A,B", GenBank.bs "t") ∧
    ((GenBank.refSubfields 12 1000 3 r0).run' ⟨txt, [txt]⟩).1.toOption.map
      (fun r => (r.authors, r.title)) = some (GenBank.bs "A,B", GenBank.bs "t") := by
  dsimp only
  repeat rw [GenBank.bs_ofList]
  refine ⟨⟨Nat.le_refl _, trivial⟩, ?_⟩
  decide +kernel

/-- the counter loops of the ORIGIN reader — `for k < 10` (`walkChars`), `for j < 60; j += 10`
(`walkGroups`), `for i < length; i += 60` (`validateLines` in `validateOrigin`, `slowLines` in
`slowGenBankOriginParser`): a fuel that covers the trip count can be replaced by any other such
fuel; in particular the model's own fuels 10, 6 and `length` by anything larger. -/
theorem origin_counters_fuel_stable (oob : Err) (length : Int) (cap i k j n m : Nat)
    (rest st acc : Bytes) :
    (10 ≤ k + n → 10 ≤ k + m →
      Origin.walkChars oob length i n k rest = Origin.walkChars oob length i m k rest) ∧
    (60 ≤ j + 10 * n → 60 ≤ j + 10 * m →
      Origin.walkGroups oob length i n j rest = Origin.walkGroups oob length i m j rest) ∧
    (length ≤ (i : Int) + 60 * (n : Int) → length ≤ (i : Int) + 60 * (m : Int) →
      Origin.validateLines length n i rest = Origin.validateLines length m i rest) ∧
    (length ≤ (i : Int) + 60 * (n : Int) → length ≤ (i : Int) + 60 * (m : Int) →
      GenBank.slowLines length cap n i st acc = GenBank.slowLines length cap m i st acc) :=
  ⟨GenBank.walkChars_fuel oob length i n m k rest, GenBank.walkGroups_fuel oob length i n m j rest,
    GenBank.validateLines_fuel length n m i rest, GenBank.slowLines_fuel length cap n m i st acc⟩

/-- … as `validateOrigin` runs its loop: the fuel `length` it passes gives what every larger fuel
gives -/
theorem validateOrigin_fuel (p : Bytes) (length : Int) (m : Nat) (hm : length.toNat ≤ m) :
    Origin.validateLines length m 0 p = Origin.validateOrigin p length := by
  unfold Origin.validateOrigin
  exact GenBank.validateLines_fuel length m length.toNat 0 p (by omega) (by omega)

/-- non-vacuity: the block of four residues at the fuels 4 (= `length`), 1 (one line) and 1000 -/
example : (4 : Int).toNat ≤ 1000 ∧ (4 : Int) ≤ ((0 : Nat) : Int) + 60 * ((1 : Nat) : Int) ∧
    Origin.validateLines 4 1000 0 (GenBank.bs "        1 acgt\n") = .ok () ∧
    Origin.validateLines 4 1 0 (GenBank.bs "        1 acgt\n") = .ok () ∧
    Origin.validateOrigin (GenBank.bs "        1 acgt\n") 4 = .ok () := by decide +kernel

/-- the decimal printers of the model (`fmt.Sprintf("%9d", ·)` in the ORIGIN reader, `strconv.Itoa`
in the REFERENCE parser — library calls): a number has fewer digits than its value plus one -/
theorem decimal_fuel_stable (n f f' : Nat) (hf : n < f) (hf' : n < f') :
    Origin.digitsAux f n = Origin.digitsAux f' n ∧ natDigitsF f n = natDigitsF f' n :=
  ⟨GenBank.digitsAux_fuel f f' n hf hf', GenBank.natDigitsF_fuel f f' n hf hf'⟩

example : (61 : Nat) < 62 ∧ Origin.digitsAux 62 61 = [54, 49] ∧ Origin.digitsAux 1000 61 = [54, 49] := by
  decide +kernel

/-- THE READER MODEL IS FREE OF FUEL ARTEFACTS.  `Gts.GenBank.Fuels` holds one fuel policy
(model fuel ↦ fuel used) for each of the seventeen loop kinds of the reader: `strings.Split`, the
two decimal printers, field-body / DBLINK / taxonomy continuation lines, REFERENCE sub-fields,
literal-value continuation lines, `pars.Many(qualifier)`, the key-line
loop, `ParseLocation` (recursion depth and list loop), the four ORIGIN counters, the record loop,
the scan loop.  `genbankParserX g` is `GenBankParser` with `g.<loop> (model fuel)` passed to every
loop at every level (Gts/Lemmas/GbFuel2X.lean repeats the model's definitions statement for
statement with that one change).  For EVERY policy that lowers no fuel (`g.Ge`) it is the model's
`genbankParser` — as a term, i.e. same outcome and same final state from every state, sorted or
not (the record loop starts behind `state.Clear()`).  Each per-loop theorem above (those about
`stripContOld` apart: the model has had no such loop since 2612fae), and those of
Gts/Props/C07.lean, is used exactly where the model calls the loop; the hypotheses they need
(indent `≥ 1`, sorted state) are established on the way (`locusParser_depth`, `KeepS`). -/
theorem genbankParser_fuel_free (g : GenBank.Fuels) (hg : g.Ge) (reg : GenBank.Registry) :
    GenBank.genbankParserX g reg = GenBank.genbankParser reg :=
  GenBank.genbankParserX_eq g hg reg

/-- … and so is the scan of a whole stream (`seqio.Scanner` over `GenBankParser`), scan loop
included -/
theorem readAll_fuel_free (g : GenBank.Fuels) (hg : g.Ge) (reg : GenBank.Registry) (input : Bytes) :
    GenBank.readAllX g reg input = GenBank.readAll reg input :=
  GenBank.readAllX_eq g hg reg input

/-- the feature table reader on its own (`INSDCTableParser("")`, also what `gts` reads feature
files with), from every sorted state -/
theorem table_fuel_free (g : GenBank.Fuels) (hg : g.Ge) (reg : GenBank.Registry) (s : PS)
    (hs : Sorted s.rest.length s.stk) :
    (GenBank.tableX g reg).run' s = (GenBank.table reg).run' s :=
  GenBank.tableX_run g hg reg s hs

def starve (which : Nat) : GenBank.Fuels :=
  let z : Nat → Nat := fun _ => 0
  match which with
  | 0 => { GenBank.Fuels.model with record := z }
  | 1 => { GenBank.Fuels.model with body := z }
  | 2 => { GenBank.Fuels.model with split := z }
  | _ => { GenBank.Fuels.model with scan := z }

def sampleRecord2 : Bytes :=
  GenBank.bs "LOCUS       X 4 bp DNA linear UNA 01-JAN-2000\nDEFINITION  d\n            e.\nORIGIN      \n        1 acgt\n//\n"

/-- non-vacuity of `genbankParser_fuel_free` / `readAll_fuel_free`: the model's own policy and
"seven more rounds for every loop" lower no fuel, and the reader with seven more rounds reads the
sample; the hypothesis is NEEDED and every parameter tried is live: starving the record loop
(error), the body loop (the DEFINITION loses its second line and is kept as an unknown field),
`Split` (the LOCUS date is not read: error) or the scan loop (no record) changes the answer. -/
example : GenBank.Fuels.model.Ge ∧ (GenBank.Fuels.plus 7).Ge ∧
    ((GenBank.genbankParserX (GenBank.Fuels.plus 7) GenBank.Registry.default).run' ⟨sampleRecord2, []⟩).1.toOption.map
      (fun r => r.1.fields.definition) = some (GenBank.bs "d\ne") ∧
    ((GenBank.genbankParser GenBank.Registry.default).run' ⟨sampleRecord2, []⟩).1.toOption.map
      (fun r => r.1.fields.definition) = some (GenBank.bs "d\ne") ∧
    cls ((GenBank.genbankParserX (starve 0) GenBank.Registry.default).run' ⟨sampleRecord2, []⟩).1 = 1 ∧
    ((GenBank.genbankParserX (starve 1) GenBank.Registry.default).run' ⟨sampleRecord2, []⟩).1.toOption.map
      (fun r => (r.1.fields.definition, r.1.fields.extra)) =
      some ([], [(GenBank.bs "DEFINITION", GenBank.bs "d")]) ∧
    cls ((GenBank.genbankParserX (starve 2) GenBank.Registry.default).run' ⟨sampleRecord2, []⟩).1 = 1 ∧
    (GenBank.readAllX (starve 3) GenBank.Registry.default sampleRecord2).map (fun r => (r.1.length, r.2.2)) =
      some (0, false) ∧
    (GenBank.readAll GenBank.Registry.default sampleRecord2).map (fun r => (r.1.length, r.2.2)) =
      some (1, true) := by
  refine ⟨GenBank.Fuels.model_ge, GenBank.Fuels.plus_ge 7, ?_⟩
  unfold sampleRecord2
  repeat rw [GenBank.bs_ofList]
  decide +kernel

/-! ## progress: the loops end BY THEMSELVES (audit S4)

`recordLoop_fuel_stable`, `genbankParser_fuel_free`, `parseAll_fuel_stable` say "two fuels above the
bytes left give the same answer".  For the record loop and the scan loop that does NOT exclude a loop
that spins: their answer when the fuel is used up (`fail` in the state as it is; "no more records, not
clean") is an answer malformed input gives as well, so a round that neither ends the loop nor consumes
gives the same answer at every fuel (`recordLoop_spin_mutant_refuted` below shows such a loop).  The
statements of this section are about a COPY of each loop in which "fuel used up" is an answer of its
own (`none`) and the rounds are counted — `GenBank.recordLoopF`, `GenBank.parseAllF`
(Gts/Lemmas/GbRounds.lean) — proved to BE the model's loop wherever it ends by itself.

THE OTHER FUELLED LOOPS (`bodyMore`, `taxonMore`, `dblinkMore`, `refSubfields`, `literalMore`,
`qualifiers`, `tableMore`, `splitOn`) answer `ok acc` when the fuel is used up — the value gathered so
far, in the state as it is — and have no copy here.  What their `…_fuel_stable` theorems say about
progress:
  * `bodyMore` (the count `k` of continuation lines), `qualifiers`, `tableMore` (the length of the list),
    `splitOn` (the number of fields): the value DETERMINES the number of rounds taken when the fuel is
    used up (one more line / item / field per round), so "fuel `L+1` and fuel `L+2` give the same value"
    (`L` = bytes left) excludes that the run at fuel `L+2` was ended by its fuel: it took at most `L+1`
    rounds and ended by the loop's own condition.  Stability is informative there.
  * `taxonMore` (an empty line added to an empty accumulator leaves it empty), `dblinkMore` and
    `refSubfields` (a round OVERWRITES an entry / a sub-field), `literalMore`: the value does not count
    the rounds.  That every round consumes at least one byte is the content of the PROOFS
    (`GenBank.taxonMore_fuel`, `dblinkMore_fuel`, `refSubfields_fuel`, `literalMore_fuel`: each round reads
    the indent `depth ≥ 1`, a sub-field name, or the prefix and one byte), NOT a statement of its own:
    for these four loops "never hangs" is proved as fuel stability only.  MISSING: `…F` copies for them. -/

/-- (a) EVERY ROUND OF THE RECORD LOOP THAT DOES NOT END IT CONSUMES.  `GenBank.recordRound` is one
round of the loop of `GenBankParser` (the body of `recordLoop`; `recordLoopF_is_recordLoop` ties the two).
From EVERY sorted state — saved positions leaked by earlier parsers may lie on the stack — a round that
answers "another round" (a field was parsed: `.parsed`; or an unknown line was skipped: `.skip` followed
by `pars.Line`, and input is left) leaves STRICTLY fewer bytes than it found, and the state is sorted
again, so the same holds of the next round.  (`depth ≥ 1`: `genbankLocusParser` reports ≥ 5.) -/
theorem recordLoop_round_consumes (length : Int) (depth : Nat) (hd : 1 ≤ depth)
    (sub sub' : GenBank.Sub) (s s' : PS) (hs : Sorted s.rest.length s.stk)
    (h : (GenBank.recordRound length depth sub).run' s = (.ok (.more sub'), s')) :
    Sorted s'.rest.length s'.stk ∧ s'.rest.length < s.rest.length :=
  GenBank.recordRound_consumes length depth hd sub sub' s s' hs h

/-- THE COPY IS THE LOOP.  `GenBank.recordLoopF = roundsLoop recordRound` answers `none` when its fuel is
used up and otherwise `some ((outcome, final state), rounds taken)`.  At EVERY fuel and from EVERY
state: if it ends by itself, the model's `recordLoop` at the same fuel has exactly that outcome and that
final state (and it took between 1 and `fuel` rounds); if it answers `none`, the model's loop answers
`fail` — the model's fuel-out answer, which is why the model's loop alone cannot tell a hang. -/
theorem recordLoopF_is_recordLoop (length : Int) (depth : Nat) (k : Nat) (sub : GenBank.Sub) (s : PS) :
    (∀ x c, GenBank.recordLoopF length depth k sub s = some (x, c) →
      (GenBank.recordLoop length depth k sub).run' s = x ∧ 1 ≤ c ∧ c ≤ k) ∧
    (GenBank.recordLoopF length depth k sub s = none →
      ((GenBank.recordLoop length depth k sub).run' s).1 = .error .fail) :=
  ⟨GenBank.recordLoopF_sound length depth k sub s, GenBank.recordLoopF_none length depth k sub s⟩

/-- (b) THE RECORD LOOP ENDS BY ITS OWN CONDITION WITHIN `bytes left + 1` ROUNDS: from every sorted
state and with every fuel above the bytes left, the copy with the distinguishable fuel-out does NOT
answer "fuel used up": it ends by itself (end mark read, or an error of a round: hard failure, end of
input) after `c ≤ bytes left + 1` rounds, and the model's `recordLoop` at that fuel has exactly that
outcome and final state.  A loop with a round that neither ends nor consumes is NOT a model of this
statement (`recordLoop_spin_mutant_refuted`). -/
theorem recordLoop_iterations_le (length : Int) (depth : Nat) (hd : 1 ≤ depth) (sub : GenBank.Sub)
    (s : PS) (hs : Sorted s.rest.length s.stk) (n : Nat) (hn : s.rest.length < n) :
    GenBank.recordLoopF length depth n sub s ≠ none ∧
    ∃ x c, GenBank.recordLoopF length depth n sub s = some (x, c) ∧ c ≤ s.rest.length + 1 ∧
      (GenBank.recordLoop length depth n sub).run' s = x := by
  obtain ⟨x, c, hx, hc⟩ := GenBank.recordLoopF_ends length depth hd n sub s hs hn
  refine ⟨(by rw [hx]; intro h0; cases h0), x, c, hx, hc, ?_⟩
  exact (GenBank.recordLoopF_sound length depth n sub s x c hx).1

/-- … as `GenBankParser` runs it: behind a LOCUS line that was read, on the cleared stack, with the
fuel `2n + 2` it passes (`n` bytes left): the loop ends by itself after at most `n + 1` rounds. -/
theorem genbankParser_loop_ends (s s1 : PS) (l : GenBank.Locus)
    (h : GenBank.locusParser.run' s = (.ok l, s1)) (sub : GenBank.Sub) :
    ∃ x c, GenBank.recordLoopF l.length l.depth (2 * s1.rest.length + 2) sub ⟨s1.rest, []⟩ = some (x, c) ∧
      c ≤ s1.rest.length + 1 ∧
      (GenBank.recordLoop l.length l.depth (2 * s1.rest.length + 2) sub).run' ⟨s1.rest, []⟩ = x := by
  have hd := GenBank.locusParser_depth s
  unfold WP at hd
  rw [h] at hd
  have := hd l rfl
  exact (recordLoop_iterations_le l.length l.depth (by omega) sub ⟨s1.rest, []⟩ trivial _
    (by show s1.rest.length < _; omega)).2

/-- non-vacuity: the state of `recordLoop_fuel_stable` (37 bytes, three leaked positions) is sorted;
the loop ends by itself after 21 rounds (twenty skipped lines and the round in which SOURCE without
ORGANISM fails the record) at the fuels 38 and 200; on `"@@@ junk line\n//\n"` (17 bytes) it ends after 2
rounds with a record value; one round on that text answers "another round" and leaves the 3 bytes
`//\n`; the LOCUS line of the sample is read -/
example : Sorted GenBank.rescanState.rest.length GenBank.rescanState.stk ∧
    GenBank.rescanState.rest.length < 38 ∧
    (GenBank.recordLoopF 0 12 38 GenBank.sub0 GenBank.rescanState).map (fun r => (cls r.1.1, r.2)) =
      some (1, 21) ∧
    (GenBank.recordLoopF 0 12 200 GenBank.sub0 GenBank.rescanState).map (fun r => (cls r.1.1, r.2)) =
      some (1, 21) ∧
    (GenBank.recordLoopF 0 12 18 GenBank.sub0 ⟨GenBank.bs "@@@ junk line\n//\n", []⟩).map
      (fun r => (cls r.1.1, r.1.2.rest.length, r.2)) = some (0, 0, 2) ∧
    GenBank.moreLeft ((GenBank.recordRound 0 12 GenBank.sub0).run' GenBank.junkState) = some 3 ∧
    (GenBank.locusParser.run' ⟨sampleRecord2, []⟩).1.toOption.map (·.depth) = some 12 := by
  refine ⟨⟨Nat.le_refl _, Nat.le_refl _, Nat.le_refl _, trivial⟩, ?_⟩
  unfold sampleRecord2 GenBank.rescanState GenBank.rescanRest GenBank.junkState
  repeat rw [GenBank.bs_ofList]
  decide +kernel

/-- THE MUTANT OF THE AUDIT (finding S4) — the record loop whose `.skip` branch has lost its
`pars.Line` (`GenBank.recordRoundSpin`; in Go the loop spins on the first unknown line) — on the
reviewer's input `"@@@ junk line\n//\n"`, empty stack (sorted), 17 bytes (`GenBank.junkState`):
  * it IS fuel stable in the sense of `recordLoop_fuel_stable`: as the model writes its loop (fuel-out =
    `fail`) it would answer "error, 17 bytes left" at the fuels 18 and 100 alike — the copy answers
    `none` at each of them, i.e. the error IS the fuel;
  * `recordLoop_round_consumes` is FALSE for it: its round answers "another round" with all 17 bytes left;
  * `recordLoop_iterations_le` is FALSE for it: fuel 18 > 17 bytes, and the copy answers "fuel used up". -/
theorem recordLoop_spin_mutant_refuted :
    Sorted GenBank.junkState.rest.length GenBank.junkState.stk ∧ GenBank.junkState.rest.length < 18 ∧
    GenBank.moreLeft ((GenBank.recordRoundSpin 0 12 GenBank.sub0).run' GenBank.junkState) = some 17 ∧
    GenBank.recordLoopSpinF 0 12 18 GenBank.sub0 GenBank.junkState = none ∧
    GenBank.recordLoopSpinF 0 12 100 GenBank.sub0 GenBank.junkState = none ∧
    ¬ (∃ x c, GenBank.recordLoopSpinF 0 12 18 GenBank.sub0 GenBank.junkState = some (x, c) ∧
        c ≤ GenBank.junkState.rest.length + 1) := by
  -- the round of the mutant gives back the value and the state it was given, so no fuel is enough
  have hfix : (GenBank.recordRoundSpin 0 12 GenBank.sub0).run' GenBank.junkState =
      (.ok (.more GenBank.sub0), GenBank.junkState) := by rfl
  have spin : ∀ k, GenBank.recordLoopSpinF 0 12 k GenBank.sub0 GenBank.junkState = none := fun k =>
    GenBank.roundsLoop_spins_on (GenBank.recordRoundSpin 0 12) GenBank.junkState (· = GenBank.sub0)
      (fun _ h => ⟨GenBank.sub0, rfl, by rw [h]; exact hfix⟩) k GenBank.sub0 rfl
  refine ⟨trivial, by decide +kernel, by decide +kernel, spin 18, spin 100, ?_⟩
  rintro ⟨x, c, hx, _⟩
  rw [spin 18] at hx
  cases hx

/-- (c) THE SCAN LOOP (`seqio.Scanner` over `GenBankParser`: `parseAll` / `readAll`) ENDS BY ITSELF.
`GenBank.parseAllF` is `parseAll` with "fuel used up" as an answer of its own (`none`; the model's
`parseAll` answers "no more records, not clean" there, as for a record that fails) and a round count.
For every byte string and every fuel above its length it does not answer `none`: the scan ends by itself
— input used up, a record failed, or a panic value (excluded by `readAll_nopanic`) — after `c` rounds with
`5·c ≤ len + 5` (every record read consumes at least `LOCUS`: `genbankParser_consumes`), and `parseAll`
at that fuel has exactly that answer. -/
theorem parseAll_iterations_le (reg : GenBank.Registry) (input : Bytes) (acc : List GenBank.Record)
    (n : Nat) (hn : input.length < n) :
    GenBank.parseAllF reg n input acc ≠ none ∧
    ∃ x c, GenBank.parseAllF reg n input acc = some (x, c) ∧ 5 * c ≤ input.length + 5 ∧
      GenBank.parseAll reg n input acc = x := by
  obtain ⟨x, c, hx, hc⟩ := GenBank.parseAllF_ends n reg input acc hn
  refine ⟨(by rw [hx]; intro h0; cases h0), x, c, hx, hc, ?_⟩
  exact (GenBank.parseAllF_sound n reg input acc x c hx).1

/-- … in particular `readAll` (fuel `len + 1`) -/
theorem readAll_iterations_le (reg : GenBank.Registry) (input : Bytes) :
    ∃ x c, GenBank.parseAllF reg (input.length + 1) input [] = some (x, c) ∧
      5 * c ≤ input.length + 5 ∧ GenBank.readAll reg input = x :=
  (parseAll_iterations_le reg input [] (input.length + 1) (Nat.lt_succ_self _)).2

/-- non-vacuity: two sample records (2 × 106 bytes): the scan takes 3 rounds (two records and the round
that finds the input used up) at the fuels 225 and 1000; with fuel 2 the copy answers "fuel used up"
where `parseAll` answers "two records, not clean" -/
example : (sampleRecord2 ++ sampleRecord2).length < 225 ∧
    (GenBank.parseAllF GenBank.Registry.default 225 (sampleRecord2 ++ sampleRecord2) []).map
      (fun r => (r.1.map (fun v => (v.1.length, v.2.2)), r.2)) = some (some (2, true), 3) ∧
    (GenBank.parseAllF GenBank.Registry.default 1000 (sampleRecord2 ++ sampleRecord2) []).map
      (fun r => (r.1.map (fun v => (v.1.length, v.2.2)), r.2)) = some (some (2, true), 3) ∧
    (GenBank.parseAllF GenBank.Registry.default 2 (sampleRecord2 ++ sampleRecord2) []).isNone = true ∧
    (GenBank.parseAll GenBank.Registry.default 2 (sampleRecord2 ++ sampleRecord2) []).map
      (fun v => (v.1.length, v.2.2)) = some (2, false) := by
  unfold sampleRecord2
  repeat rw [GenBank.bs_ofList]
  decide +kernel

/-- WHAT IS COUNTED is the model's own run: each of the thirteen instrumented primitives below of the
cost-counting reading (Gts/Lemmas/GbCostReader.lean), with its counter thrown away, IS the primitive of
`Gts.Pars` — same outcome, same position, same saved positions (`Cost.eol`, `quoted`, `untilColon`,
`untilFilter`, which also count on their own, are not in the statement).  The composite parsers of the
counted reading are the model's text over these primitives (generated, bin/gen_cost_reader); the
units are listed in the header of GbCostReader.lean (one per call, one per byte inspected or
skipped; value construction is not counted). -/
theorem steps_counted_primitives (n : Nat) (f : UInt8 → Bool) (p : Bytes) :
    Cost.forget Cost.next = Pars.next ∧ Cost.forget Cost.advance1 = Pars.advance1 ∧
    Cost.forget (Cost.advanceN n) = Pars.advanceN n ∧ Cost.forget Cost.push = Pars.push ∧
    Cost.forget Cost.pop = Pars.pop ∧ Cost.forget Cost.drop = Pars.drop ∧
    Cost.forget Cost.clear = Pars.clear ∧ Cost.forget Cost.pushed = Pars.pushed ∧
    Cost.forget (Cost.request n) = Pars.request n ∧ Cost.forget Cost.trail = Pars.trail ∧
    Cost.forget (Cost.skipWhile f) = Pars.skipWhile f ∧ Cost.forget Cost.line = Pars.line ∧
    Cost.forget (Cost.lit p) = Pars.lit p :=
  ⟨Cost.forget_next, Cost.forget_advance1, Cost.forget_advanceN n, Cost.forget_push, Cost.forget_pop,
    Cost.forget_drop, Cost.forget_clear, Cost.forget_pushed, Cost.forget_request n, Cost.forget_trail,
    Cost.forget_skipWhile f, Cost.forget_line, Cost.forget_lit p⟩

/-- non-vacuity: the counted `lit` on a concrete state: 1 + 5 steps, state as in the model -/
example : ((Cost.lit (GenBank.bs "LOCUS")).run' ⟨⟨GenBank.bs "LOCUS x", []⟩, 7⟩).2.cost = 13 ∧
    ((Cost.lit (GenBank.bs "LOCUS")).run' ⟨⟨GenBank.bs "LOCUS x", []⟩, 7⟩).2.ps.rest = GenBank.bs " x" ∧
    ((Pars.lit (GenBank.bs "LOCUS")).run' ⟨GenBank.bs "LOCUS x", []⟩).2.rest = GenBank.bs " x" := by
  decide +kernel

/-- `pars.Until(byte(':'))` — until /repo a4b3f5d the CONTIG parser called it behind
`CONTIG      join(` — on a state without a colon: it fails in place and has inspected EVERY
remaining byte (`1 + bytes left` steps).  `tryAllParsers` then restored the position and
`genbankExtraFieldParser` read the line as an unknown field: one line consumed for a scan of the
rest of the file, `k` such lines for `Θ(k · n)` steps (evaluated: 15 / 40 / 136 / 520 steps per byte
for 16 / 64 / 256 / 1024 lines; the real code needed 10 s for 152 KB; finding K7D).  `_partial`: a
statement about the primitive, true as long as go-pars is what it is; the reader no longer calls it
(`contig_reads_one_line`). -/
theorem steps_until_colon_partial (c : Cost.CS) (h : GenBank.indexOf 58 c.ps.rest = none) :
    Cost.untilColon.run' c = (.error .fail, { c with cost := c.cost + (1 + c.ps.rest.length) }) :=
  Cost.untilColon_scans_to_end c h

/-- non-vacuity: the rest of a record behind `CONTIG      join(` has no colon -/
example : GenBank.indexOf 58 (GenBank.bs "x\nORIGIN      \n        1 acgt\n//\n") = none := by
  rw [GenBank.bs_ofList]
  decide +kernel

/-- THE CONTIG PARSER READS ONE LINE (/repo a4b3f5d; before: `steps_until_colon_partial`).  In the
cost-counting reading, from EVERY state — whatever follows, whatever is on the stack of saved
positions — `genbankContigParser` spends at most two counted steps per byte in front of the first line
end (`Cost.lineLen`) plus 37: the field name and its padding, `join(`, `pars.Until` with the filter
"colon or line end" (it stops at the line end at the latest), the required colon, two `pars.Int`, `..`
and `)` each look at bytes of that line only.  So `k` lines `CONTIG      join(x` cost `O(k)` in this
parser, not `Θ(k · n)`; the family is evaluated at 8 … 9 steps per byte for 16 … 1024 lines and
measured on the real code (15 / 61 / 243 KB: 3 / 9 / 33 ms; 0.07 / 1.15 / 18.8 s before). -/
theorem contig_reads_one_line (d : Nat) (f : GenBank.Fields) (c : Cost.CS) :
    ((Cost.contigField d f).run' c).2.cost ≤ c.cost + (2 * Cost.lineLen c.ps.rest + 37) :=
  Cost.contigField_cost_le d f c

/-- non-vacuity: behind `CONTIG      join(x` the record goes on for 32 bytes; the line has 18 bytes,
the parser fails (no colon) after 19 steps where the bound allows 73, and `pars.Until(':')` alone spent
1 + 33 steps from `x` on; with a colon on the line the parser succeeds -/
example :
    Cost.lineLen (GenBank.bs "CONTIG      join(x\nORIGIN      \n        1 acgt\n//\n") = 18 ∧
    ((Cost.contigField 12 GenBank.Fields.empty).run'
      ⟨⟨GenBank.bs "CONTIG      join(x\nORIGIN      \n        1 acgt\n//\n", []⟩, 0⟩).2.cost = 19 ∧
    (Cost.untilColon.run' ⟨⟨GenBank.bs "x\nORIGIN      \n        1 acgt\n//\n", []⟩, 0⟩).2.cost = 34 ∧
    ((Cost.contigField 12 GenBank.Fields.empty).run'
      ⟨⟨GenBank.bs "CONTIG      join(U00096.3:1..20)\n//\n", []⟩, 0⟩).1.toOption.map
        (fun r => (r.1.contigAcc, r.1.contigHead, r.1.contigTail)) =
      some (GenBank.bs "U00096.3", 0, 20) := by
  repeat rw [GenBank.bs_ofList]
  decide +kernel

/-- AN ACCESSION THE CONTIG PARSER READS LIES ON ONE LINE (/repo a4b3f5d): whenever
`genbankContigParser` succeeds, the accession it stores holds no colon, no line feed and no carriage
return.  Before the repair `CONTIG      join(x` followed, lines later, by a colon was read with an
accession that spanned those lines. -/
theorem contig_accession_one_line (d : Nat) (f : GenBank.Fields) (s s' : PS)
    (r : GenBank.Fields × Bool) (h : (GenBank.contigField d f).run' s = (.ok r, s')) :
    ∀ b ∈ r.1.contigAcc, b ≠ 58 ∧ b ≠ 10 ∧ b ≠ 13 := by
  intro b hb
  have := GenBank.contigField_accession d f s s' r h b hb
  simp only [GenBank.contigStop, Bool.or_eq_false_iff, beq_eq_false_iff_ne, ne_eq] at this
  exact ⟨this.1.1, this.1.2, this.2⟩

/-- non-vacuity: a CONTIG line is read; a line without colon followed by one with a colon is not (the
old reader answered the accession `x\nCONTIG      join(y`) -/
example :
    ((GenBank.contigField 12 GenBank.Fields.empty).run'
      ⟨GenBank.bs "CONTIG      join(U00096.3:1..20)\n", []⟩).1.toOption.map (·.1.contigAcc) =
      some (GenBank.bs "U00096.3") ∧
    ((GenBank.contigField 12 GenBank.Fields.empty).run'
      ⟨GenBank.bs "CONTIG      join(x\nCONTIG      join(y:1..2)\n", []⟩).1.toOption.map (·.1.contigAcc) =
      none := by
  repeat rw [GenBank.bs_ofList]
  decide +kernel

/-- THE OLD READING: THE PREFIX LOOP OF `quotedQualifierParser` WAS QUADRATIC in the counted steps
(before 2612fae, K7E: every round `bytes.Index` from the start of the token plus `copy` of the tail,
charged `len(token)`): a quoted value of `m` continuation lines under an indent of `d ≥ 1` columns —
a token of `m·(d+2)` bytes — cost at least `(d+2)·m·(m+1)/2` steps at the old model's fuel.
`_partial`: the loop alone, and the charge per round is `len(token)` where the Go code touched between
`len − d` and `2·len` bytes. -/
theorem steps_prefix_loop_quadratic_partial (d m : Nat) (hd : 1 ≤ d) :
    (d + 2) * (m * (m + 1)) ≤
      2 * Cost.stripContCostOld (GenBank.sp d) (Cost.rep m (Cost.contLine d)).length
        (Cost.rep m (Cost.contLine d)) := by
  have h := Cost.stripContCostOld_quadratic d hd m 0 (Cost.rep m (Cost.contLine d)).length
    (by rw [Cost.rep_length, Cost.contLine_length]
        exact Nat.le_mul_of_pos_right m (by omega))
  have h0 : Cost.rep 0 [10, 120] ++ Cost.rep m (Cost.contLine d) = Cost.rep m (Cost.contLine d) := by
    simp [Cost.rep]
  rwa [h0] at h

/-- "at most `c·n + e` steps" was FALSE already for the old loop: for every `c`, `e` there is a token
(continuation lines under the 21-column indent of a GenBank feature table) whose old prefix loop alone
took more than `c·len + e` counted steps.  (Such a token inside `/note="…"` is an ACCEPTED record:
`quotedFam`, 8 / 33 / 137 / 554 steps per byte for 16 / 64 / 256 / 1024 lines, and the real code needed
16.5 s for 1.8 MB; since 2612fae 15 / 21 / 23 / 23 steps per byte and 0.06 s.) -/
theorem steps_linear_full_refuted (c e : Nat) :
    ∃ t : Bytes, c * t.length + e < Cost.stripContCostOld (GenBank.sp 21) t.length t :=
  Cost.stripContCostOld_not_linear c e

/-- THE ONE-PASS LOOP OF TODAY IS LINEAR in the counted steps (2612fae: per byte of the token one move
and one `bytes.HasSuffix(token[:w], p)`, charged `1 + min (len p) w`): at most `len(prefix) + 2` steps
per byte of the token, for EVERY token and EVERY prefix — each byte of the token is moved once and
looked at by at most `len(p)` comparisons.  (As far as the cost model carries it: the counted steps
of the loop, not the run time of the Go code; measured on the real code: `time.family
quoted-continuation-lines`, 115 KB / 460 KB / 1.8 MB in 0.003 / 0.010 / 0.06 s.) -/
theorem steps_prefix_loop_linear (pre t : Bytes) :
    Cost.stripContCost pre t ≤ (pre.length + 2) * t.length :=
  Cost.stripContCost_linear pre t

/-- non-vacuity: three continuation lines under a two-column indent: 12 bytes; the old loop 4·3·4/2 =
24 ≤ 36 = 12 + 10 + 8 + 6 steps, today's loop 44 ≤ 4·12 steps; and the token is what `quotedValue`
strips to `\nx\nx\nx` -/
example : (Cost.rep 3 (Cost.contLine 2)).length = 12 ∧
    Cost.stripContCostOld (GenBank.sp 2) 12 (Cost.rep 3 (Cost.contLine 2)) = 36 ∧
    Cost.stripContCost (GenBank.sp 2) (Cost.rep 3 (Cost.contLine 2)) = 44 ∧
    GenBank.stripCont (GenBank.sp 2) (Cost.rep 3 (Cost.contLine 2)) = [10, 120, 10, 120, 10, 120] := by
  decide +kernel

/-- every OTHER primitive that loops over input bytes — the loops of `pars.Int / Spaces / Word`
(`skipWhile`), `pars.Line`, `pars.String`, `pars.Quoted`, `pars.Until(byte)` — spends at most
`bytes left + 3` steps per call; the remaining primitives spend a constant (`pars.Until(filter)`,
`Cost.untilFilter`, is not in the statement).  `_partial`: a bound
per CALL; how often the reader calls them is bounded only for the record loop and the scan loop
(`recordLoop_iterations_le`, `parseAll_iterations_le`: at most bytes-left + 1 rounds). -/
theorem steps_long_primitives_partial (c : Cost.CS) (f : UInt8 → Bool) (p : Bytes) :
    ((Cost.skipWhile f).run' c).2.cost ≤ c.cost + (c.ps.rest.length + 3) ∧
    (Cost.line.run' c).2.cost ≤ c.cost + (c.ps.rest.length + 3) ∧
    ((Cost.lit p).run' c).2.cost ≤ c.cost + (c.ps.rest.length + 3) ∧
    (Cost.quoted.run' c).2.cost ≤ c.cost + (c.ps.rest.length + 3) ∧
    (Cost.untilColon.run' c).2.cost ≤ c.cost + (c.ps.rest.length + 3) :=
  Cost.long_primitives_le c f p

/-- non-vacuity: `pars.Line` on a 7-byte state: 1 + 3 steps -/
example : (Cost.line.run' ⟨⟨GenBank.bs "ab\ncd\ne", []⟩, 0⟩).2.cost = 4 := by decide +kernel

end Gts.C07
