/-
  C12 — `Repair` re-assembles features fragmented by split/join, changes nothing else.
  Property theorems only (model: Gts/Model/Repair.lean; guards: Gts/Spec/RepairGuard.lean;
  helper lemmas: Gts/Lemmas/Repair*.lean).

  Repaired in /repo (known_findings.json F18, F19, F20; the model follows the repaired code):
  * F18/F19 (was K12A)  `indices[:len(locs)]` panicked, or re-sliced into spare capacity and
          duplicated features, when a flattened `Joined` member gave more locations than the
          class has members.  Now: `no_panic` for every table.
  * F20 (was K12C)  the grouping text `"%s:%v"` identified different qualifier lists.  Now
          `"%q:%q"`: `classKey_inj`.

  Still FALSE on the current tree; every such clause comes as the refuted full statement
  (`…_full_refuted`, a concrete witness that is replayed on the real code by the harness /
  `known_findings.json`) plus the strongest statement that was proved (`…_partial`, with a
  decidable guard naming the known finding it excludes):

  * K12G  a `Joined` member of a class that is reduced is flattened by `Push`: its parts are
          written back as separate features, unsorted, and `Repair` is not idempotent; a cut
          joined feature is not re-assembled.
  * K12B  two `Complemented` members of a class are always fused (abutting or not).
  * K12D  `Push`'s site rules (`Between`/`Point` absorbed or de-duplicated) are applied across
          different features.
  * K2    (`Ranged` then `Point` at its `End`) changes the covered residues.  Guard `Table.k2`.
  * K12E/K12F  restoration: only forward ranges are re-assembled; the table order is not restored.
  `Table.plain` (every feature a forward range, or alone in its class) excludes K12B, K12D,
  K12E, K12G at once.
-/
import Gts.Lemmas.RepairRoundTrip
import Gts.Lemmas.RepairKey
import Gts.Lemmas.RepairEq
import Gts.Bridge.CmdRepair
namespace Gts.C12
open Gts Loc

/-- a feature without qualifiers -/
def gene (l : Loc) : Feature := ⟨"gene", l, []⟩

/-! ### the map iteration order -/

/-- Go iterates the map `index` in an unspecified order.  Whatever the order `cs` in which the
classes are visited, `Repair` computes the same result (each class reads and writes its own
indices only, `keep` is sorted). -/
theorem repair_order_indep (t : Table) (cs : List (List Nat)) (h : cs.Perm (Table.groups t)) :
    repairOrd t cs = repair t :=
  (repairOrd_perm t _ _ h.symm (Table.groups_flatten_nodup t)).symm

example : repairOrd [gene (ranged 0 2 false true), ⟨"CDS", point 1, []⟩, gene (ranged 2 4 true false)]
    [[1], [0, 2]] = .ok [gene (ranged 0 4 false false), ⟨"CDS", point 1, []⟩] := RepairOutcome.eq_of_decide (by decide +kernel)

/-! ### (a) never panics -/

/-- **`Repair` never panics**, on any table: the only checked operations left are the index
expressions of the in-place compaction, and `keep` is a duplicate-free list of table indices.
The result is the explicit table `specRepair t` — except that a class of two or more members
all of which are empty `Joined{}` literals gets the `nil` Location of the empty list
(`.nilLoc`; such literals cannot be parsed or built with `Join`). -/
theorem no_panic (t : Table) : repair t ≠ .panic := by
  rw [repair_eq]
  split <;> simp

theorem repair_total (t : Table) :
    repair t = if (Table.groups t).any (classNil t) then .nilLoc else .ok (specRepair t) :=
  repair_eq t

/-- … and a table is returned whenever no `nil` Location is written (`Table.noNil`; true for
every table without empty `Joined{}` literals, in particular every plain table). -/
theorem no_panic_ok (t : Table) (h : Table.noNil t = true) : repair t = .ok (specRepair t) :=
  repair_eq_specW sortLocs t ((noNil_iffW sortLocs t).mp h)

/-- the witness of the former finding K12A (fixed, F18) is now an unchanged table -/
example : repair [gene (joined [ranged 0 3 false false, ranged 5 8 false false])] =
    .ok [gene (joined [ranged 0 3 false false, ranged 5 8 false false])] := RepairOutcome.eq_of_decide (by decide +kernel)

/-- the witness of the former silent duplication (fixed, F19): the gene class (4 locations for
3 members) is kept as it is, the two CDS fragments are fused -/
example :
    repair [gene (joined [ranged 0 1 false false, ranged 2 3 false false]), gene (ranged 4 5 false false),
            gene (ranged 6 7 false false), ⟨"CDS", ranged 10 12 false true, []⟩, ⟨"CDS", ranged 12 14 true false, []⟩] =
      .ok [gene (joined [ranged 0 1 false false, ranged 2 3 false false]), gene (ranged 4 5 false false),
            gene (ranged 6 7 false false), ⟨"CDS", ranged 10 14 false false, []⟩] := RepairOutcome.eq_of_decide (by decide +kernel)

/-- non-vacuity of `noNil`: every location kind, several features per class -/
example : Table.noNil [gene (compl (ranged 0 3 false true)), gene (ordered [point 1, point 5]),
    gene (between 3), gene (ambiguous 2 6), gene (joined [ranged 3 6 true false, point 9])] = true := by decide +kernel

/-! ### (b) idempotent -/

/-- FULL STATEMENT (false today, K12G): `repair t = .ok t' → repair t' = .ok t'`.  The flattened
parts of a join are written back unsorted (`7..15`, then the site `6^7`); the second `Repair`
sorts the site in front of the range and lets `Push` absorb it. -/
theorem idempotent_full_refuted :
    ¬ (∀ t t' : Table, repair t = .ok t' → repair t' = .ok t') := by
  intro h
  have h1 := h [gene (ranged 0 2 false true), gene (ranged 2 4 true true), gene (ranged 4 5 true false),
      gene (joined [ranged 6 15 false false, between 6])]
    [gene (ranged 0 5 false false), gene (ranged 6 15 false false), gene (between 6)] (RepairOutcome.eq_of_decide (by decide +kernel))
  exact RepairOutcome.ne_of_decide (by decide +kernel) h1

/-- … and (K12B) so do fused complemented members, without any top-level `Joined`: the two equal
members `complement(join(2..3,<4..6,<7..7))` are fused, the inner `Join` (always with `force`) turns
their parts into `2..7`, and `complement(join(2..7,2..7))` is written back in front of `2..>4` although
it now sorts behind it; the second `Repair` sorts it next to the third complemented member,
`complement(3.3)`, and fuses again (3 features, then 2). -/
theorem idempotent_compl_refuted :
    ¬ (∀ t t' : Table, repair t = .ok t' → repair t' = .ok t') := by
  intro h
  have h1 := h [gene (compl (joined [ranged 1 3 false false, ranged 3 6 true false, ranged 6 7 true false])),
      gene (ranged 1 4 false true),
      gene (compl (joined [ranged 1 3 false false, ranged 3 6 true false, ranged 6 7 true false])),
      gene (compl (ambiguous 2 3))]
    [gene (compl (joined [ranged 1 7 false false, ranged 1 7 false false])), gene (ranged 1 4 false true),
      gene (compl (ambiguous 2 3))] (RepairOutcome.eq_of_decide (by decide +kernel))
  exact RepairOutcome.ne_of_decide (by decide +kernel) h1

/-- **Idempotent** on plain tables of well-formed locations. -/
theorem idempotent_partial (t t' : Table) (hp : Table.plain t = true) (hw : Table.wfT t = true)
    (h : repair t = .ok t') : repair t' = .ok t' := by
  rw [← repairWith_sortLocs] at h ⊢
  exact repairWith_idem sortLocs sortLocs_correct sortLocs_keepsSorted t t' hp hw h

/-- non-vacuity: a plain table in which something is fused -/
example : Table.plain [gene (ranged 0 3 false true), ⟨"gene", compl (point 4), [["x"]]⟩, gene (ranged 3 6 true false)] = true ∧
    Table.wfT [gene (ranged 0 3 false true), ⟨"gene", compl (point 4), [["x"]]⟩, gene (ranged 3 6 true false)] = true := by
  decide +kernel

/-! ### (c) a table with no mergeable pair is unchanged -/

/-- FULL STATEMENT (false today, K12B): `noMergeablePair t → repair t = .ok t`.  Two
complement-strand features with equal key and qualifiers, five bases apart, come back as one
feature `complement(join(6..8,1..3))`. -/
theorem unchanged_full_refuted :
    ¬ (∀ t : Table, Table.noMergeablePair t = true → repair t = .ok t) := by
  intro h
  have h1 := h [gene (compl (ranged 0 3 false false)), gene (compl (ranged 5 8 false false))] (by decide +kernel)
  exact RepairOutcome.ne_of_decide (by decide +kernel) h1

/-- … and (K12D) a zero-length site next to a range of the same class is dropped. -/
theorem unchanged_site_refuted :
    ¬ (∀ t : Table, Table.noMergeablePair t = true → repair t = .ok t) := by
  intro h
  have h1 := h [gene (ranged 0 3 false false), gene (between 3)] (by decide +kernel)
  exact RepairOutcome.ne_of_decide (by decide +kernel) h1

/-- **Unchanged**: whenever no class is reduced by the push loop (`len(locs) ≥ len(indices)`),
`Repair` returns its argument (all location kinds, joins included). -/
theorem unchanged_of_no_reduction (t : Table)
    (h : ∀ idx ∈ Table.groups t, idx.length ≤ classN t idx) : repair t = .ok t :=
  repair_unchanged' t h

/-- **Unchanged**: a plain table in which no two features of a class abut with a 3'-partial end
meeting a 5'-partial start (any abutting ends in a `source` class) is returned as it is. -/
theorem unchanged_partial (t : Table) (hp : Table.plain t = true)
    (hm : Table.noMergeablePair t = true) : repair t = .ok t :=
  repairWith_sortLocs t ▸ repairWith_unchanged_of_unmerged sortLocs sortLocs_perm t hp hm

/-- non-vacuity: abutting but complete, partial but apart, nested, duplicates -/
example : Table.plain [gene (ranged 0 3 false false), gene (ranged 3 6 false false), gene (ranged 6 8 false true),
    gene (ranged 9 12 true false), gene (ranged 1 2 true true), gene (ranged 1 2 true true)] = true ∧
    Table.noMergeablePair [gene (ranged 0 3 false false), gene (ranged 3 6 false false), gene (ranged 6 8 false true),
    gene (ranged 9 12 true false), gene (ranged 1 2 true true), gene (ranged 1 2 true true)] = true := by
  decide +kernel

/-! ### (d)(e) what is merged -/

/-- two complemented ranges fused into one complemented join are not the span of chains -/
theorem not_chains_fused (f : Bool) :
    ¬ ∃ gs : List (List Loc), gs.flatten.Perm [compl (ranged 0 3 false false), compl (ranged 5 8 false false)] ∧
      ChainsOf f gs [compl (joined [ranged 5 8 false false, ranged 0 3 false false])] := by
  rintro ⟨gs, h1, h2⟩
  match gs, h1, h2 with
  | [], _, h2 => simp [ChainsOf] at h2
  | [g], h1, ⟨hc, _⟩ =>
    have hl : g.length = 2 := by simpa using h1.length_eq
    cases hc with
    | single => simp at hl
  | _ :: _ :: _, _, h2 => simp [ChainsOf] at h2

/-- FULL STATEMENT (false today, K12B): per class, the result is obtained by replacing chains of
ranges that abut 3'-partial to 5'-partial by their spans (`ChainsOf`).  The two complemented
members of `unchanged_full_refuted` are fused into a location that is no such chain. -/
theorem merge_chains_full_refuted :
    ¬ (∀ (t t' : Table) (k : String), repair t = .ok t' →
        ∃ gs, gs.flatten.Perm (Table.locsOf t k) ∧ ChainsOf (Table.forceOf t k) gs (Table.locsOf t' k)) := by
  intro h
  exact not_chains_fused _ (h [gene (compl (ranged 0 3 false false)), gene (compl (ranged 5 8 false false))]
    [gene (compl (joined [ranged 5 8 false false, ranged 0 3 false false]))] "\"gene\":[]" (RepairOutcome.eq_of_decide (by decide +kernel)))

/-- **Merges are chains**: on a plain table, the locations of every class after `Repair` are
obtained from a partition of the class's locations into chains — a chain is a single
location, or consecutive forward ranges each ending where the next starts with the meeting
ends marked partial (any abutting ranges when the class is a `source` class) — each chain
replaced by its span with the outer partial markers.  So merged features share their
grouping text (that is: key and qualifiers, `classKey_inj`) and abut 3'-to-5', and nothing else is
merged, dropped or altered. -/
theorem merge_chains_partial (t t' : Table) (hp : Table.plain t = true) (h : repair t = .ok t')
    (k : String) :
    ∃ gs, gs.flatten.Perm (Table.locsOf t k) ∧ ChainsOf (Table.forceOf t k) gs (Table.locsOf t' k) := by
  rw [← repairWith_sortLocs] at h
  exact repairWith_chains sortLocs sortLocs_perm t t' hp h k

/-- **The grouping text separates exactly the (key, qualifiers) pairs** (fix F20: `%q` quotes
every string, so neither a space inside a qualifier value nor a bracket or quote can imitate
a list boundary): features are grouped together iff key and qualifiers are equal.  Within the
modelled byte domain of `strconv.Quote`, see Gts/Model/Repair.lean. -/
theorem classKey_inj (f g : Feature) : classKey f = classKey g ↔ (f.key = g.key ∧ f.props = g.props) :=
  Gts.classKey_inj f g

/-- the witness of the former finding K12C (fixed, F20) is now an unchanged table -/
example : repair [⟨"gene", ranged 0 3 false true, [["note", "a b"]]⟩, ⟨"gene", ranged 3 6 true false, [["note", "a", "b"]]⟩] =
    .ok [⟨"gene", ranged 0 3 false true, [["note", "a b"]]⟩, ⟨"gene", ranged 3 6 true false, [["note", "a", "b"]]⟩] := RepairOutcome.eq_of_decide (by decide +kernel)

/-- **Key and qualifiers are never invented or mixed**: every feature of the result carries the
key and the qualifiers of the input feature at the same (kept) index; only locations change. -/
theorem result_keys (t t' : Table) (h : repair t = .ok t')
    (f' : Feature) (hf : f' ∈ t') : ∃ f ∈ t, f.key = f'.key ∧ f.props = f'.props := by
  obtain ⟨_, rfl⟩ := repair_ok t t' h
  exact specRepairW_keys sortLocs t f' hf

/-! ### (f) the residues covered by a class -/

/-- FULL STATEMENT (false today, K2): per class the covered residues are unchanged.  A range
`1..3` and the single base `4` of the same class: the base is dropped (`Push`: `Ranged` then
`Point` at its `End`). -/
theorem cover_full_refuted :
    ¬ (∀ (t t' : Table) (k : String) (x : Pos), repair t = .ok t' →
        (x ∈ Table.classDen t' k ↔ x ∈ Table.classDen t k)) := by
  intro h
  have h1 := h [gene (ranged 0 3 false false), gene (point 3)] [gene (ranged 0 3 false false)] "\"gene\":[]" (3, false)
    (RepairOutcome.eq_of_decide (by decide +kernel))
  revert h1
  decide +kernel

/-- **Cover preserved**: on well-formed tables, unless rule K2 fires in the push loop of some
class, the set of (stranded) residues covered by the features of each (key, qualifiers) class
is the same before and after — for every location kind, fused complements and joins included. -/
theorem cover_partial (t t' : Table) (hw : Table.wfT t = true)
    (hk2 : Table.k2 t = false) (h : repair t = .ok t') (k : String) (x : Pos) :
    x ∈ Table.classDen t' k ↔ x ∈ Table.classDen t k := by
  rw [← repairWith_sortLocs] at h
  exact classDen_repairWith sortLocs sortLocs_perm t t' hw hk2 h k x

/-- non-vacuity: complements, a join, sites and a fusable pair, no K2 -/
example : Table.wfT [gene (compl (ranged 0 3 false false)), gene (compl (ranged 5 8 false false)),
      gene (between 3), gene (joined [ranged 8 9 false true, ranged 9 12 true false]), gene (ranged 12 13 false false)] = true ∧
    Table.k2 [gene (compl (ranged 0 3 false false)), gene (compl (ranged 5 8 false false)),
      gene (between 3), gene (joined [ranged 8 9 false true, ranged 9 12 true false]), gene (ranged 12 13 false false)] = false := by
  decide +kernel

/-! ### (g) restoration -/

/-! `cutPieces s pts` are the slices of `s` between consecutive cut points, `roundTrip s cuts` is
`repair (concat (cutPieces s (0 :: cuts ++ [len]))).features` (Gts/Lemmas/RepairRoundTrip.lean). -/

/-- FULL STATEMENT (false today, K12B): cutting and repairing restores every feature with a
table-unique class.  A complement-strand range cut in two comes back as
`complement(join(<4..6,1..>3))`. -/
theorem restore_full_refuted :
    ¬ (∀ (s : Seq) (c : Int), 0 < c → c < s.len →
        (∀ f ∈ s.feats, Table.classSize s.feats f = 1 ∧ f.key ≠ "source") →
        roundTrip s [c] = .ok s.feats) := by
  intro h
  have h1 := h ⟨[gene (compl (ranged 0 6 false false))], [97, 99, 103, 116, 97, 99]⟩ 3 (by decide +kernel) (by decide +kernel)
    (by decide +kernel)
  exact RepairOutcome.ne_of_decide (by decide +kernel) h1

/-- FULL STATEMENT (false today, K12F): … restores the table, *order included*.  A fragment
sorts by its own (cut) location, the repaired feature stays where its first fragment was: -/
theorem restore_order_full_refuted :
    ¬ (∀ (s : Seq) (cuts : List Int), Table.plain s.feats = true →
        (∀ f ∈ s.feats, Table.classSize s.feats f = 1 ∧ f.key ≠ "source") →
        roundTrip s cuts = .ok s.feats) := by
  intro h
  have h1 := h ⟨[⟨"CDS", ranged 1 2 true true, []⟩, gene (ranged 1 3 false false)], [97, 99, 103, 116]⟩ [1, 2]
    (by decide +kernel) (by decide +kernel)
  exact RepairOutcome.ne_of_decide (by decide +kernel) h1

/-- **Restoration** (any number of cuts): when every feature of the sequence is a forward range
inside the sequence, is alone in its class and is not a `source` feature, and the cut positions
are increasing and strictly inside the sequence (`Restorable`), then
`slice;…;slice;concat;repair` does not panic and returns a table that has, for every grouping
text, exactly the original feature (key, location with its own partial markers, qualifiers) —
i.e. the original table **up to the order of the features** (a table is a permutation of the
concatenation of its classes; the exact order is refuted by `restore_order_full_refuted`).
`source` features (whose partial markers slicing strips, and which are fused with `force`) are
covered at class level by `restore_class_partial` with `m = false`, `force = true`, and by the
oracle. -/
theorem restore_partial (s : Seq) (cuts : List Int) (h : Restorable s cuts) :
    ∃ t', roundTrip s cuts = .ok t' ∧ ∀ k, Table.featsOf t' k = Table.featsOf s.feats k :=
  roundTripWith_sortLocs s cuts ▸ roundTripWith_restores sortLocs sortLocs_correct s cuts h

/-- non-vacuity: nested and overlapping partial ranges, three cuts, two of them inside features -/
example : Restorable ⟨[⟨"gene", ranged 0 7 false true, [["id", "a"]]⟩, ⟨"CDS", ranged 2 5 true false, [["id", "b"]]⟩,
      ⟨"gene", ranged 4 8 false false, [["id", "c"]]⟩], [97, 99, 103, 116, 97, 99, 103, 116]⟩ [3, 4, 6] :=
  ⟨by decide +kernel, by decide +kernel, by decide +kernel, by decide +kernel⟩

/-- **Slice and concat cut a forward range into `frags`**: the location of `Ranged{s, e}` in the
piece `[a, b)` of a sequence of length `L`, moved back to offset `a` by `Concat`, is the
intersection with a partial marker on every cut end. -/
theorem slice_concat_ranged (s e : Int) (p5 p3 : Bool) (a b L : Int)
    (h0 : 0 ≤ s) (hse : s < e) (heL : e ≤ L) (ha : 0 ≤ a) (hab : a < b) (hbL : b ≤ L)
    (hov : s < b ∧ a < e) :
    (((ranged s e p5 p3).expand b (b - L)).expand 0 (-a)).expand 0 a =
      ranged (if s < a then a else s) (if b < e then b else e) (p5 || decide (s < a)) (p3 || decide (b < e)) :=
  Gts.slice_concat_ranged s e p5 p3 a b L h0 hse heL ha hab hbL hov

/-- **Restoration, one class**: the fragments of a forward range cut at any number of increasing
positions inside it, standing in the table in any order `q`, are sorted and fused back by the
`Repair` loop into the one original range with its own partial markers (`m = true`: the
markers slicing puts on cut ends; for a `source` class, whose markers slicing strips,
`m = false` and `force = true`). -/
theorem restore_class_partial (force m : Bool) (hm : (m || force) = true) (s e : Int) (p5 p3 : Bool)
    (cs : List Int) (hc : cutsOk s e cs) (q : List Loc) (hq : q.Perm (frags m s e p5 p3 cs)) :
    pushedOf force q = [ranged s e p5 p3] :=
  pushedOf_frags force m hm s e p5 p3 cs hc q hq

/-- non-vacuity: three cuts, fragments in scrambled order -/
example : cutsOk 2 20 [5, 9, 14] ∧
    [ranged 9 14 true true, ranged 2 5 false true, ranged 14 20 true true, ranged 5 9 true true].Perm
      (frags true 2 20 false true [5, 9, 14]) := by
  refine ⟨by simp [cutsOk], ?_⟩
  simp only [frags]
  exact (List.Perm.swap _ _ _).trans (List.Perm.cons _ ((List.Perm.cons _ (List.Perm.swap _ _ _)).trans (List.Perm.swap _ _ _)))

/-! ### the CLI glue: `gts repair`

`Gts.Gen.repairStep` is the scan-loop body of cmd/gts/repair.go, regenerated on every run (go2lean/cmdsteps.go):
`ff := seq.Features(); ff = gts.Repair(ff); seq = gts.WithFeatures(seq, ff)`; `Gts/Bridge/CmdRepair.lean` proves it equal to
`Cli.repairStep`. -/

/-- **`gts repair`, the command as written**: the record is written with `Repair` of its WHOLE table — the explicit
table `specRepair` — and its residues as they are, whenever no `nil` Location is written (`Table.noNil`: every table
without empty `Joined{}` literals) -/
theorem repair_cli_step (s : Seq) (h : Table.noNil s.feats = true) :
    Gen.repairStep s = some [⟨specRepair s.feats, s.bytes⟩] :=
  Bridge.repairStep_ok s _ (no_panic_ok s.feats h)

/-- the step fails to hand a record to the writer exactly when `Repair` wrote a `nil` Location (never by a panic of
`Repair` itself: `no_panic`) -/
theorem repair_cli_step_none_iff (s : Seq) : Gen.repairStep s = none ↔ repair s.feats = .nilLoc := by
  rw [Bridge.repairStep_eq]
  have := no_panic s.feats
  cases h : repair s.feats <;> simp_all [Cli.repairStep, Cli.repairTable]

/-- **`gts repair | gts repair`** on plain tables of well-formed locations: the second run writes what the first
wrote (`idempotent_partial` at the CLI step) -/
theorem repair_cli_step_idempotent_partial (s r : Seq) (hp : Table.plain s.feats = true) (hw : Table.wfT s.feats = true)
    (h : Gen.repairStep s = some [r]) : Gen.repairStep r = some [r] := by
  rw [Bridge.repairStep_eq] at h
  cases hr : repair s.feats with
  | ok t =>
    have hr' : r = ⟨t, s.bytes⟩ := by
      simp [Cli.repairStep, Cli.repairTable, hr, Cli.withFeats] at h
      exact h.symm
    subst hr'
    exact Bridge.repairStep_ok _ _ (idempotent_partial s.feats t hp hw hr)
  | panic => simp [Cli.repairStep, Cli.repairTable, hr] at h
  | nilLoc => simp [Cli.repairStep, Cli.repairTable, hr] at h

/-- **`gts repair` leaves a record alone** when its table is plain and has no mergeable pair (`unchanged_partial`) -/
theorem repair_cli_step_unchanged_partial (s : Seq) (hp : Table.plain s.feats = true)
    (hm : Table.noMergeablePair s.feats = true) : Gen.repairStep s = some [s] :=
  Bridge.repairStep_ok s _ (unchanged_partial s.feats hp hm)

/-- non-vacuity: two abutting partial fragments are fused by the command -/
example : Gen.repairStep ⟨[gene (ranged 0 3 false true), gene (ranged 3 6 true false)], [65, 67, 71, 84, 65, 67]⟩ =
    some [⟨[gene (ranged 0 6 false false)], [65, 67, 71, 84, 65, 67]⟩] :=
  Bridge.repairStep_ok _ _ (by rfl)

example : Table.noNil [gene (ranged 0 3 false true), gene (ranged 3 6 true false)] = true ∧
    Table.plain [gene (ranged 0 3 false true), gene (ranged 3 6 true false)] = true ∧
    Table.wfT [gene (ranged 0 3 false true), gene (ranged 3 6 true false)] = true := by decide +kernel

end Gts.C12
