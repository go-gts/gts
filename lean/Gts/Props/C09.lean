/-
  C09 — Minimize and Invert partition the sequence exactly.
  Property theorems only (helper lemmas live in Gts/Lemmas/{Minimize,RegDen}.lean, the meaning of
  "covered" in Gts/Spec/Cover.lean).  All theorems hold for every region tree — any nesting,
  order, strand, overlap, zero-length leaves — and every `n`, except where a guard is written.
-/
import Gts.Lemmas.Minimize
namespace Gts.C09
open Gts Reg

/-- What "covered" means: `cover r x` (between the two ends of some leaf segment) holds exactly
when `Region.Locate` reads position `x`, on either strand (`Reg.den`, the denotation used by the
sequence-edit properties). -/
theorem cover_iff_located (r : Reg) (x : Int) : cover r x ↔ ∃ b, (x, b) ∈ den r :=
  (den_iff_leaves r x).symm

/-- The model's `sort.Sort(BySegment(ss))` (insertion sort) returns a permutation of its input
in which no later element is `Less` than an earlier one — exactly what `sort.Sort` promises. -/
theorem sortSegs_sorted_perm (l : List Seg) : (sortSegs l).Perm l ∧ (sortSegs l).Pairwise segLe :=
  ⟨sortSegs_perm l, sortSegs_sorted l⟩

/-- REMARK: Go's actual sorting algorithm does not matter.  `flattenRegion` only emits forward
segments, on which ties of `BySegment.Less` are equal values; so *any* sorted permutation of the
flattened list is the list the model sorts to. -/
theorem sort_algorithm_irrelevant (r : Reg) (l' : List Seg) (hp : l'.Perm (flatten r))
    (hs : l'.Pairwise segLe) : l' = sortSegs (flatten r) :=
  sorted_perm_unique (fun s hs' => flatten_fwd r s (hp.subset hs')) (hp.trans (sortSegs_perm _).symm) hs
    (sortSegs_sorted _)

/-- Every minimised segment is forward (`lo ≤ hi`).  Zero-length segments `Segment{p,p}` are
legal input and survive: an output has `lo = hi` only if that very point segment is a leaf of the
input (it then covers nothing and, by `minimize_strictly_increasing_nonabutting`, touches no other
output).  When no leaf is zero-length every output is non-empty (`lo < hi`). -/
theorem minimize_forward (r : Reg) :
    (∀ o ∈ minimize r, o.1 ≤ o.2) ∧
    (∀ o ∈ minimize r, o.1 = o.2 → o ∈ leaves r) ∧
    (nonEmpty r → ∀ o ∈ minimize r, o.1 < o.2) := by
  have hpoint : ∀ o ∈ minimize r, o.1 = o.2 → o ∈ leaves r := by
    intro o ho hz
    obtain ⟨u, hu, rfl⟩ := mem_flatten.mp (minimize_point r o ho hz)
    rw [orient_fst, orient_snd] at hz
    rwa [orient_of_fwd (by omega)]
  exact ⟨minimize_fwd r, hpoint, fun hne o ho =>
    Int.lt_iff_le_and_ne.mpr ⟨minimize_fwd r o ho, fun hz => hne o (hpoint o ho hz) hz⟩⟩

/-- No coordinate is invented: every output end is an end of some input segment. -/
theorem minimize_ends (r : Reg) :
    ∀ o ∈ minimize r, (∃ s ∈ flatten r, s.1 = o.1) ∧ (∃ s ∈ flatten r, s.2 = o.2) :=
  fun o ho =>
  let ⟨s, hs, h1, _, t, ht, h3⟩ := minimize_hull r o ho
  ⟨⟨s, hs, h1⟩, ⟨t, ht, h3⟩⟩

/-- Outputs are strictly increasing, pairwise disjoint and never abut: `a.hi < b.lo` for every
earlier `a` and later `b` (all pairs, in particular consecutive ones). -/
theorem minimize_strictly_increasing_nonabutting (r : Reg) :
    (minimize r).Pairwise (fun a b => a.2 < b.1) :=
  mergeSegs_pairwise _ (sorted_flatten_lo r)

/-- The union of the outputs is exactly the set of positions covered by the input. -/
theorem minimize_cover (r : Reg) : ∀ x, segsCover (minimize r) x ↔ cover r x :=
  fun x => by
  rw [minimize, mergeSegs_cover _ (sorted_flatten_fwd r) (sorted_flatten_lo r),
    segsCover_perm (sortSegs_perm _), cover_iff_flatten]

/-- … and each covered position lies in exactly one output segment, each other in none. -/
theorem minimize_count (r : Reg) (x : Int) : coverCount (minimize r) x = if cover r x then 1 else 0 := by
  have hle := coverCount_le_one _ (minimize_strictly_increasing_nonabutting r) x
  simp only [← minimize_cover, ← coverCount_pos_iff]
  split <;> omega

/-- Regions with the same cover have minimisations with the same cover. -/
theorem minimize_cover_congr (r r' : Reg) (h : ∀ x, cover r x ↔ cover r' x) :
    ∀ x, segsCover (minimize r) x ↔ segsCover (minimize r') x := by
  intro x; rw [minimize_cover, minimize_cover, h]

/-- Order independence: regions whose flattened segments are permutations of each other have the
*same* minimisation. -/
theorem minimize_perm (r r' : Reg) (h : (flatten r).Perm (flatten r')) : minimize r = minimize r' := by
  rw [minimize_eq, minimize_eq, sortSegs_congr (flatten_fwd r) h]

/-- Strand independence: the reverse-complemented region has the same minimisation. -/
theorem minimize_complement (r : Reg) : minimize (complement r) = minimize r :=
  minimize_perm _ _ (by rw [flatten_complement]; exact List.reverse_perm _)

/-- Nesting independence: the region tree and the flat list of its leaves minimise alike. -/
theorem minimize_flat (r : Reg) : minimize (many (asRegs (leaves r))) = minimize r :=
  minimize_perm _ _ (by rw [flatten_many, flattenList_asRegs, ← flatten_eq_map])

/-- Canonical form: without zero-length leaves the minimisation is a function of the covered set
alone — however the input is ordered, oriented, nested or overlapped. -/
theorem minimize_eq_of_cover_eq (r r' : Reg) (hn : nonEmpty r) (hn' : nonEmpty r')
    (h : ∀ x, cover r x ↔ cover r' x) : minimize r = minimize r' :=
  canonical_unique _ _ ((minimize_forward r).2.2 hn) ((minimize_forward r').2.2 hn')
    (minimize_strictly_increasing_nonabutting r) (minimize_strictly_increasing_nonabutting r') (minimize_cover_congr r r' h)

/-- Linear inversion inside `[0, n]` (`0 ≤ n`, every leaf end in `[0, n]`): the inverted pieces
are non-empty forward segments inside `[0, n]`, pairwise disjoint and increasing, and together with
the minimised segments they contain every position of `[0, n)` exactly once and nothing else. -/
theorem invertLinear_partition (r : Reg) (n : Int) (hn : 0 ≤ n) (hw : within n r) :
    (∀ g ∈ leaves (many (invertLinear r n)), 0 ≤ g.1 ∧ g.1 < g.2 ∧ g.2 ≤ n) ∧
    (leaves (many (invertLinear r n))).Pairwise (fun a b => a.2 ≤ b.1) ∧
    (∀ x, 0 ≤ x → x < n → coverCount (minimize r ++ leaves (many (invertLinear r n))) x = 1) ∧
    (∀ x, ¬ (0 ≤ x ∧ x < n) → coverCount (minimize r ++ leaves (many (invertLinear r n))) x = 0) := by
  obtain ⟨hb, hp, hc⟩ := invertFrom_spec n _ 0
    (gapChain_of n _ 0 (minimize_fwd r) (minimize_strictly_increasing_nonabutting r) (minimize_within r n hw) hn)
  simp only [leaves_invertLinear, coverCount_append, hc]
  exact ⟨hb, hp.imp fun ⟨_, _, _⟩ => by omega, fun x h0 h1 => if_pos ⟨h0, h1⟩, fun x hx => if_neg hx⟩

/-- In terms of covers: inside `[0, n)` the inversion covers exactly what the region does not. -/
theorem invertLinear_cover (r : Reg) (n : Int) (hn : 0 ≤ n) (hw : within n r) (x : Int)
    (h0 : 0 ≤ x) (h1 : x < n) : cover (many (invertLinear r n)) x ↔ ¬ cover r x := by
  obtain ⟨hb, _, hcount, _⟩ := invertLinear_partition r n hn hw
  have hc := hcount x h0 h1
  rw [coverCount_append] at hc
  rw [cover_of_fwd_leaves _ (fun g hg => by have := hb g hg; omega), ← minimize_cover,
    ← coverCount_pos_iff, ← coverCount_pos_iff]
  omega

/-- Without zero-length leaves the inverted pieces do not abut either. -/
theorem invertLinear_nonabutting (r : Reg) (n : Int) (hn : 0 ≤ n) (hw : within n r) (hne : nonEmpty r) :
    (leaves (many (invertLinear r n))).Pairwise (fun a b => a.2 < b.1) := by
  rw [leaves_invertLinear]
  exact (invertFrom_spec n _ 0
    (gapChain_of n _ 0 (minimize_fwd r) (minimize_strictly_increasing_nonabutting r) (minimize_within r n hw) hn)).2.1.imp
    fun ⟨s, hs, _⟩ => by have := (minimize_forward r).2.2 hne s hs; omega

/-- The guards are needed: a segment reaching beyond `n`, a negative coordinate, or `n < 0` makes
`invertSegments` emit a backward "segment". -/
theorem invertLinear_unguarded_refuted :
    ¬ (∀ (r : Reg) (n : Int), ∀ g ∈ leaves (many (invertLinear r n)), g.1 < g.2) := by
  intro h
  have := h (seg 2 8) 5
  rw [leaves_invertLinear, minimize_eq] at this
  revert this; decide

/-- Circular inversion of a non-empty collection is defined and consists of the *same* pieces as the
linear inversion (same leaves up to order, hence the same cover, each position as often).  If the
minimised region touches the origin (`first.lo = 0` or `last.hi = n`) it is the linear inversion;
otherwise the first piece `[0, first.lo)` and the last piece `[last.hi, n)` are merged into one
region `Regions{[last.hi, n), [0, first.lo)}` that is read across the origin, and put first. -/
theorem invertCircular_cover (r : Reg) (n : Int) (hne : leaves r ≠ []) :
    ∃ f l rs, (minimize r).head? = some f ∧ (minimize r).getLast? = some l ∧
      invertCircular r n = some rs ∧
      (leaves (many rs)).Perm (leaves (many (invertLinear r n))) ∧
      (∀ x, cover (many rs) x ↔ cover (many (invertLinear r n)) x) ∧
      ((f.1 = 0 ∨ l.2 = n) → rs = invertLinear r n) ∧
      (¬ (f.1 = 0 ∨ l.2 = n) → ∃ mid, invertLinear r n = seg 0 f.1 :: (mid ++ [seg l.2 n]) ∧
        rs = many [seg l.2 n, seg 0 f.1] :: mid) := by
  cases hmin : minimize r with
  | nil => exact absurd hmin (minimize_ne_nil r hne)
  | cons f t =>
    obtain ⟨l, hl⟩ : ∃ l, (f :: t).getLast? = some l := ⟨_, List.getLast?_cons⟩
    by_cases hc : f.1 = 0 ∨ l.2 = n
    · refine ⟨f, l, invertLinear r n, rfl, hl, ?_, List.Perm.refl _, fun _ => Iff.rfl, fun _ => rfl, absurd hc⟩
      unfold invertCircular
      simp only [hmin, List.head?_cons, hl, if_pos hc]
    · have hll := getLast?_lastHi f t l hl
      obtain ⟨init, hinit⟩ := invertFrom_last n t f.2 (by omega)
      have hrr : invertLinear r n = seg 0 f.1 :: (asRegs init ++ [seg l.2 n]) := by
        rw [invertLinear_eq, hmin, invertFrom_cons, if_pos (by omega), hinit, hll]
        simp [asRegs]
      have hcirc : invertCircular r n = some (many [seg l.2 n, seg 0 f.1] :: asRegs init) := by
        unfold invertCircular
        simp only [hmin, List.head?_cons, hl, if_neg hc, hrr]
        rw [← List.cons_append, List.getLast?_concat]
        exact congrArg some (List.dropLast_concat (l₁ := _ :: _))
      have hperm : (leaves (many (many [seg l.2 n, seg 0 f.1] :: asRegs init))).Perm
          (leaves (many (invertLinear r n))) := by
        simp only [hrr, leaves_many, leavesList_cons, leavesList_append, leaves_seg, leavesList_asRegs,
          leavesList_nil, List.append_nil]
        exact (List.perm_append_singleton _ (_ :: init)).symm
      exact ⟨f, l, _, rfl, hl, hcirc, hperm, cover_perm hperm, fun h => absurd h hc,
        fun _ => ⟨asRegs init, hrr, rfl⟩⟩

/-- `InvertCircular` panics (`ss[0]` on an empty slice) exactly when the region has no segment at
all; the property quantifies over non-empty collections. -/
theorem invertCircular_none_iff (r : Reg) (n : Int) : invertCircular r n = none ↔ leaves r = [] := by
  constructor
  · intro h
    apply Classical.byContradiction
    intro hne
    obtain ⟨_, _, rs, _, _, hrs, _⟩ := invertCircular_cover r n hne
    rw [h] at hrs; cases hrs
  · intro h
    unfold invertCircular
    simp [minimize_nil_of r h]

/-- Hence, inside `[0, n]`, the circular inversion partitions `[0, n)` together with the minimised
segments exactly as the linear one does: every position exactly once, nothing outside. -/
theorem invertCircular_partition (r : Reg) (n : Int) (hn : 0 ≤ n) (hw : within n r) (hne : leaves r ≠ []) :
    ∃ rs, invertCircular r n = some rs ∧
      (∀ g ∈ leaves (many rs), 0 ≤ g.1 ∧ g.1 < g.2 ∧ g.2 ≤ n) ∧
      (∀ x, 0 ≤ x → x < n → coverCount (minimize r ++ leaves (many rs)) x = 1) ∧
      (∀ x, ¬ (0 ≤ x ∧ x < n) → coverCount (minimize r ++ leaves (many rs)) x = 0) := by
  obtain ⟨_, _, rs, _, _, hrs, hperm, _⟩ := invertCircular_cover r n hne
  obtain ⟨hb, _, h12⟩ := invertLinear_partition r n hn hw
  simp only [← coverCount_perm (hperm.append_left (minimize r))] at h12
  exact ⟨rs, hrs, fun g hg => hb g (hperm.subset hg), h12⟩

/-- the unguarded statement "InvertCircular is always defined" fails on the empty collection -/
theorem invertCircular_empty_refuted : ¬ (∀ (r : Reg) (n : Int), invertCircular r n ≠ none) := by
  intro h
  exact h (many []) 5 ((invertCircular_none_iff _ _).mpr (by decide))

/-- a nested, unordered, two-stranded, overlapping collection with zero-length leaves -/
def ex1 : Reg := many [seg 7 4, many [seg 1 3, seg 3 3, seg 2 5], seg 9 9]

example : within 10 ex1 ∧ leaves ex1 ≠ [] ∧ ¬ nonEmpty ex1 := by decide +kernel
example : minimize ex1 = [(1, 7), (9, 9)] := by rw [minimize_eq]; decide +kernel
example : invertLinear ex1 10 = [seg 0 1, seg 7 9, seg 9 10] := by
  rw [invertLinear_eq, minimize_eq]; rfl
example : invertCircular ex1 10 = some [many [seg 9 10, seg 0 1], seg 7 9] := by
  unfold invertCircular; rw [invertLinear_eq, minimize_eq]; rfl
/-- non-empty, origin-free example for the canonical-form theorem: two presentations, same cover -/
example : minimize (many [seg 5 2, seg 4 8]) = minimize (many [many [seg 2 8], seg 6 3]) := by
  rw [minimize_eq, minimize_eq]; decide +kernel

end Gts.C09
