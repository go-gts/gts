/-
  C16 — ORIGIN block layout is exact for every sequence length.
  Property theorems only (helper lemmas live in Gts/Lemmas/Origin.lean; the model in
  Gts/Model/Origin.lean).  All statements are for every length / every byte string — no bound
  other than the explicit guard `< 10^9` explained below.

  The guard `p.length < 10 ^ 9` (resp. `L < 10 ^ 9` for a declared length): the line index is
  printed with `%9d`, which is *wider* than 9 columns from index 1 000 000 000 on, while
  `toOriginLength` keeps counting 9 columns per line.  Where that happens (from 1000000021 residues
  on: "the guard and the exact bound" below) `NewOrigin` writes past its buffer (the model's
  `newOrigin` is `panic` there), so the size/round-trip statements are genuinely false there;
  sequences of a gigabase and more are outside the property's domain.
  Statements that do not depend on the index width carry no guard (the two `validate_accepts_prefix`
  statements carry one they do not use).
-/
import Gts.Lemmas.Origin
namespace Gts.C16
open Gts.Origin
open Gts.Pars (Bytes)

/-- The residue count recovered from a block's byte length is the residue count the block was
made for: `fromOriginLength (toOriginLength n) = n` for every length `n ≥ 0`. -/
theorem length_roundtrip (n : Nat) : fromOriginLength (toOriginLength (n : Int)) = (n : Int) := by
  rw [toOriginLength_nat]; exact fromOriginLength_tl n

/-- `toOriginLength n` is the size of the stated layout: 76 bytes (9-column index, six times a
space and ten residues, newline) per full line, and for a last line of `r = n % 60 > 0` residues
the 9-column index, the `r` residues, one space per started group of ten, and the newline. -/
theorem toOriginLength_layout (n : Nat) :
    toOriginLength (n : Int) =
      ((76 * (n / 60) + (if n % 60 = 0 then 0 else 9 + n % 60 + (n % 60 + 9) / 10 + 1) : Nat) : Int) := by
  rw [toOriginLength_nat]; unfold tl
  congr 1
  split
  · rfl
  · split <;> omega

/-! ### the guard and the exact bound

The guard `< 10^9` is a round number.  The exact condition under which every line index `%9d`
prints has nine columns is "the index of the LAST line is below 10^9", i.e. at most `1000000020`
residues — the constant `maxOriginResidues` of the reader's length guard (/repo be672b0;
`Gts.Bridge.maxOriginResidues_index`).  Every statement that needs the guard is proved up to that
bound (`…_exact`) and then stated with the round number. -/

/-- `block_length` up to the exact bound: `NewOrigin` does not panic and writes exactly
`toOriginLength (len p)` bytes for every residue string of at most 1000000020 bytes. -/
theorem block_length_exact (p : Bytes) (h : p.length ≤ 1000000020) :
    ∃ b, newOrigin p = .ok b ∧ (b.length : Int) = toOriginLength (p.length : Int) :=
  ⟨originStream p, newOrigin_ok_le p h, by rw [originStream_length_le p h, toOriginLength_nat]⟩

/-- `NewOrigin` does not panic and writes exactly `toOriginLength (len p)` bytes, for every
residue string shorter than 10^9. -/
theorem block_length (p : Bytes) (h : p.length < 10 ^ 9) :
    ∃ b, newOrigin p = .ok b ∧ (b.length : Int) = toOriginLength (p.length : Int) :=
  block_length_exact p (by omega)

/-- The two indexed loops of `NewOrigin` (re-slicing `p[i+j : min(i+j+10, length)]`) write the
same bytes as the purely structural description "while residues remain: index, then up to six
times a space and the next (at most) ten residues, newline" (`fmtLinesS`/`fmtGroupsS`). -/
theorem stream_structural (p : Bytes) : originStream p = fmtLinesS p.length 0 p := by
  rw [originStream_eq_S]; rfl

/-- `bytes_roundtrip` up to the exact bound: residues → block → residues is the identity. -/
theorem bytes_roundtrip_exact (p : Bytes) (h : p.length ≤ 1000000020) :
    ∃ b, newOrigin p = .ok b ∧ originBytes b = .ok p :=
  ⟨originStream p, newOrigin_ok_le p h, originBytes_originStream_le p h⟩

/-- Converting residues to a block and back is the identity (any bytes, any length < 10^9). -/
theorem bytes_roundtrip (p : Bytes) (h : p.length < 10 ^ 9) :
    ∃ b, newOrigin p = .ok b ∧ originBytes b = .ok p :=
  bytes_roundtrip_exact p (by omega)

/-- `len_without_decoding` up to the exact bound: `Origin.Len` on the unparsed block is the
number of residues, and decoding gives them back. -/
theorem len_without_decoding_exact (p : Bytes) (h : p.length ≤ 1000000020) :
    ∃ b, newOrigin p = .ok b ∧ originLen b = (p.length : Int) ∧ originBytes b = .ok p := by
  exact ⟨originStream p, newOrigin_ok_le p h, originLen_of_length (originStream_length_le p h),
    originBytes_originStream_le p h⟩

/-- The length reported without decoding (`Origin.Len` on the unparsed buffer) equals the
decoded length. -/
theorem len_without_decoding (p : Bytes) (h : p.length < 10 ^ 9) :
    ∃ b, newOrigin p = .ok b ∧ originLen b = (p.length : Int) ∧
      originBytes b = .ok p :=
  len_without_decoding_exact p (by omega)

/-- Buffers shorter than the smallest non-empty block (12 bytes) decode to nothing (`nil`). -/
theorem bytes_short (b : Bytes) (h : b.length < 12) : originBytes b = .ok [] := by
  unfold originBytes; rw [if_pos h]

/-- The fast validation path accepts every written block of printable residues (bytes 33..126)
with the right declared length — no guard on the length: the index is compared as printed. -/
theorem validate_accepts (p : Bytes) (hp : ∀ c ∈ p, isBase c = true) :
    validateOrigin (originStream p) (p.length : Int) = .ok () :=
  validateOrigin_originStream p hp

/-- `validate_accepts_prefix` up to the exact bound: the fast path accepts a written block of
printable residues followed by anything. -/
theorem validate_accepts_prefix_exact (p tail : Bytes) (hp : ∀ c ∈ p, isBase c = true)
    (h : p.length ≤ 1000000020) :
    validateOrigin (originStream p ++ tail) (p.length : Int) = .ok () :=
  validateOrigin_prefix p tail hp

/-- … and the fast path only looks at the block: trailing input is irrelevant. -/
theorem validate_accepts_prefix (p tail : Bytes) (hp : ∀ c ∈ p, isBase c = true)
    (h : p.length < 10 ^ 9) :
    validateOrigin (originStream p ++ tail) (p.length : Int) = .ok () :=
  validate_accepts_prefix_exact p tail hp (by omega)

/-- `fast_imp_slow` up to the exact bound: whatever the fast path accepts, the slow path accepts
too and hands over the same bytes, leaving the same rest — every declared length the reader's
guard lets through. -/
theorem fast_imp_slow_exact (b : Bytes) (L : Nat) (hL : L ≤ 1000000020)
    (h : validateOrigin b (L : Int) = .ok ()) :
    slowOrigin b (L : Int) =
      .ok (b.take (toOriginLength (L : Int)).toNat, b.drop (toOriginLength (L : Int)).toNat) := by
  rw [toNat_tl]; exact Gts.Origin.fast_imp_slow_le b L hL h

/-- Whatever the fast path accepts, the slow line-by-line path accepts too, and it rebuilds
exactly the bytes the fast path hands over (`b[:toOriginLength L]`), leaving the same rest — so
both paths yield the same `Origin` and therefore the same residues.  (No hypothesis on `b`.) -/
theorem fast_imp_slow (b : Bytes) (L : Nat) (hL : L < 10 ^ 9)
    (h : validateOrigin b (L : Int) = .ok ()) :
    slowOrigin b (L : Int) =
      .ok (b.take (toOriginLength (L : Int)).toNat, b.drop (toOriginLength (L : Int)).toNat) :=
  fast_imp_slow_exact b L (by omega) h

/-- `slow_token_valid` up to the exact bound: what the slow path returns has the declared size
and is accepted by the fast path (followed by anything). -/
theorem slow_token_valid_exact (st : Bytes) (L : Nat) (out rest : Bytes) (hL : L ≤ 1000000020)
    (h : slowOrigin st (L : Int) = .ok (out, rest)) :
    (out.length : Int) = toOriginLength (L : Int) ∧
      ∀ tail, validateOrigin (out ++ tail) (L : Int) = .ok () := by
  obtain ⟨h1, h2⟩ := Gts.Origin.slow_token_valid_le st L out rest hL h
  exact ⟨by rw [h1, toOriginLength_nat], h2⟩

/-- Whatever the slow path accepts, the block it returns has the declared size and is accepted
by the fast path (followed by anything). -/
theorem slow_token_valid (st : Bytes) (L : Nat) (out rest : Bytes) (hL : L < 10 ^ 9)
    (h : slowOrigin st (L : Int) = .ok (out, rest)) :
    (out.length : Int) = toOriginLength (L : Int) ∧
      ∀ tail, validateOrigin (out ++ tail) (L : Int) = .ok () :=
  slow_token_valid_exact st L out rest (by omega) h

/-- `slow_never_panics` up to the exact bound: the slow path never panics for any declared
length the reader's guard lets through (with `Gts.Bridge.originParser_gen`: for NO length does the
reader reach the slow path beyond it). -/
theorem slow_never_panics_exact (st : Bytes) (L : Nat) (hL : L ≤ 1000000020) :
    slowOrigin st (L : Int) ≠ .error .panic :=
  slowOrigin_ne_panic_le st L hL

/-- The slow path never panics, on any input, for every declared length < 10^9 (every index
into a line is bounds-checked; the token buffer is never overrun). -/
theorem slow_never_panics (st : Bytes) (L : Nat) (hL : L < 10 ^ 9) :
    slowOrigin st (L : Int) ≠ .error .panic :=
  slow_never_panics_exact st L (by omega)

/-- "no trailing blanks": no blank stands directly before a line feed or at the very end of the
input.  Decidable; `written_block_shape` shows that every written block satisfies it. -/
abbrev noTrailingBlank (b : Bytes) : Prop := trailingBlank b = false

/-- Every written block of printable residues is CR-free and carries no trailing blanks. -/
theorem written_block_shape (p : Bytes) (hp : ∀ c ∈ p, isBase c = true) :
    noCR (originStream p) ∧ noTrailingBlank (originStream p) :=
  ⟨originStream_noCR p hp, originStream_no_trailingBlank p hp⟩

theorem slow_imp_fast_or_blanks_exact (b : Bytes) (L : Nat) (hL : L ≤ 1000000020) (hcr : noCR b)
    (hlen : (toOriginLength (L : Int)).toNat ≤ b.length)
    (h : ∃ o, slowOrigin b (L : Int) = .ok o) :
    validateOrigin b (L : Int) = .ok () ∨ trailingBlank b = true := by
  cases hb : trailingBlank b with
  | true => exact Or.inr rfl
  | false =>
    obtain ⟨o, ho⟩ := h
    rw [toNat_tl] at hlen
    exact Or.inl (slow_imp_fast_le b L o hL hcr hb hlen ho)

/-- What the slow path accepts beyond the fast path is exactly trailing blanks: on CR-free input
that is at least as long as the declared block (the reader's `state.Request` precondition for
either path), if the slow path accepts then the fast path accepts or some line carries trailing
blanks. -/
theorem slow_imp_fast_or_blanks (b : Bytes) (L : Nat) (hL : L < 10 ^ 9) (hcr : noCR b)
    (hlen : (toOriginLength (L : Int)).toNat ≤ b.length)
    (h : ∃ o, slowOrigin b (L : Int) = .ok o) :
    validateOrigin b (L : Int) = .ok () ∨ trailingBlank b = true :=
  slow_imp_fast_or_blanks_exact b L (by omega) hcr hlen h

/-- `fast_slow_equiv` up to the exact bound: on CR-free input without trailing blanks that is at
least as long as the declared block, the two paths accept the same input and hand over the same
bytes — every declared length the reader's guard lets through. -/
theorem fast_slow_equiv_exact (b : Bytes) (L : Nat) (hL : L ≤ 1000000020) (hcr : noCR b)
    (hb : noTrailingBlank b) (hlen : (toOriginLength (L : Int)).toNat ≤ b.length) :
    (validateOrigin b (L : Int) = .ok () ↔ ∃ o, slowOrigin b (L : Int) = .ok o) ∧
    ∀ o, slowOrigin b (L : Int) = .ok o →
      o = (b.take (toOriginLength (L : Int)).toNat, b.drop (toOriginLength (L : Int)).toNat) := by
  have hlen' := hlen
  rw [toNat_tl] at hlen'
  refine ⟨⟨fun h => ⟨_, Gts.Origin.fast_imp_slow_le b L hL h⟩,
    fun ⟨o, ho⟩ => slow_imp_fast_le b L o hL hcr hb hlen' ho⟩, fun o ho => ?_⟩
  have hv := slow_imp_fast_le b L o hL hcr hb hlen' ho
  have := fast_imp_slow_exact b L hL hv
  rw [ho] at this
  exact Except.ok.inj this

/-- FULL STATEMENT (holds since the repair 2c8ca02; was refuted as K16a before): on CR-free input
without trailing blanks that is at least as long as the declared block, the fast and the slow
path accept the same input, and then hand over the same bytes (hence the same residues). -/
theorem fast_slow_equiv (b : Bytes) (L : Nat) (hL : L < 10 ^ 9) (hcr : noCR b)
    (hb : noTrailingBlank b) (hlen : (toOriginLength (L : Int)).toNat ≤ b.length) :
    (validateOrigin b (L : Int) = .ok () ↔ ∃ o, slowOrigin b (L : Int) = .ok o) ∧
    ∀ o, slowOrigin b (L : Int) = .ok o →
      o = (b.take (toOriginLength (L : Int)).toNat, b.drop (toOriginLength (L : Int)).toNat) :=
  fast_slow_equiv_exact b L (by omega) hcr hb hlen

/-- The line splitter used by the slow-path model is the framework's model of `pars.Line`
(`Gts.Pars.line`, go-pars v1.1.6 `calculateLineLength`: LF, CRLF, lone CR, end of input). -/
theorem splitLine_is_pars_line (s : Gts.Pars.PS) :
    Gts.Pars.line.run' s = (.ok (splitLine s.rest).1, { s with rest := (splitLine s.rest).2 }) :=
  line_eq_splitLine s

/-- Blocks with CRLF line ends (which the fast path rejects) are read by the slow path exactly
like the same block with LF line ends: same token, corresponding rest — for every input without
stray CR and every declared length. -/
theorem slow_crlf (st : Bytes) (length : Int) (h : noCR st) :
    slowOrigin (crlf st) length =
      match slowOrigin st length with
      | .ok (o, r) => .ok (o, crlf r)
      | .error e => .error e :=
  slowOrigin_crlf st length h

theorem slow_reads_crlf_block_exact (p tail : Bytes) (hp : ∀ c ∈ p, isBase c = true)
    (h : p.length ≤ 1000000020) (ht : noCR tail) :
    slowOrigin (crlf (originStream p ++ tail)) (p.length : Int) = .ok (originStream p, crlf tail) := by
  have hcr : noCR (originStream p ++ tail) := noCR_append (originStream_noCR p hp) ht
  rw [slowOrigin_crlf _ _ hcr]
  have h1 := validate_accepts_prefix_exact p tail hp h
  rw [Gts.Origin.fast_imp_slow_le _ _ h h1]
  have hl := originStream_length_le p h
  simp only [List.take_left' hl, List.drop_left' hl]

/-- A written block of printable residues with CRLF line ends, followed by anything without CR,
is decoded by the slow path to the written block. -/
theorem slow_reads_crlf_block (p tail : Bytes) (hp : ∀ c ∈ p, isBase c = true)
    (h : p.length < 10 ^ 9) (ht : noCR tail) :
    slowOrigin (crlf (originStream p ++ tail)) (p.length : Int) = .ok (originStream p, crlf tail) :=
  slow_reads_crlf_block_exact p tail hp (by omega) ht

/-- non-vacuity of the `_exact` statements: the 13-residue sequence meets their hypotheses, and
they reach lengths the `< 10^9` versions do not (10^9 itself, and the bound). -/
example :
    ([97,99,103,116,97,99,103,116,97,99,103,116,110] : Bytes).length ≤ 1000000020
    ∧ (∀ c ∈ ([97,99,103,116,97,99,103,116,97,99,103,116,110] : Bytes), isBase c = true)
    ∧ (10 ^ 9 : Nat) ≤ 1000000020 ∧ ¬ ((10 ^ 9 : Nat) < 10 ^ 9) ∧ (1000000020 : Nat) ≤ 1000000020 := by
  decide

/-- a concrete 13-residue sequence: the block, its size, the round trip, both reader paths -/
example :
    newOrigin [97,99,103,116,97,99,103,116,97,99,103,116,110] =
      .ok [32,32,32,32,32,32,32,32,49,32,97,99,103,116,97,99,103,116,97,99,32,103,116,110,10]
    ∧ toOriginLength 13 = 25 ∧ fromOriginLength 25 = 13
    ∧ originBytes [32,32,32,32,32,32,32,32,49,32,97,99,103,116,97,99,103,116,97,99,32,103,116,110,10]
        = .ok [97,99,103,116,97,99,103,116,97,99,103,116,110]
    ∧ validateOrigin [32,32,32,32,32,32,32,32,49,32,97,99,103,116,97,99,103,116,97,99,32,103,116,110,10] 13 = .ok ()
    ∧ trailingBlank [32,32,32,32,32,32,32,32,49,32,97,99,103,116,97,99,103,116,97,99,32,103,116,110,10] = false := by
  decide

/-- regression of the repaired defect F10 (was K16a): the block `        1 ab` with declared
length 1 is rejected by both paths and by the whole reader; blanks behind the residues are still
accepted by the slow path; a block holding more lines than declared is rejected by the reader. -/
example :
    validateOrigin [32,32,32,32,32,32,32,32,49,32,97,98,10] 1 = .error .fail
    ∧ slowOrigin [32,32,32,32,32,32,32,32,49,32,97,98,10] 1 = .error .fail
    ∧ originParse [79,82,73,71,73,78,32,32,32,32,32,32,10, 32,32,32,32,32,32,32,32,49,32,97,98,10, 47,47,10] 1
        = .error .fail
    ∧ slowOrigin [32,32,32,32,32,32,32,32,49,32,97,32,32,10, 47,47,10] 1
        = .ok ([32,32,32,32,32,32,32,32,49,32,97,10], [47,47,10])
    ∧ trailingBlank [32,32,32,32,32,32,32,32,49,32,97,32,32,10, 47,47,10] = true
    ∧ originParse [79,82,73,71,73,78,32,32,32,32,32,32,10,
        32,32,32,32,32,32,32,32,49,32,97,10, 32,32,32,32,32,32,32,32,50,32,98,10, 47,47,10] 1
        = .error .fail := by
  decide

/-- why `fast_slow_equiv` asks for input at least as long as the block: the slow path accepts a
last line that ends with the input, where the unchecked fast path would index past the end (the
reader never gets there: `state.Request` fails first). -/
example :
    slowOrigin [32,32,32,32,32,32,32,32,49,32,97] 1 = .ok ([32,32,32,32,32,32,32,32,49,32,97,10], [])
    ∧ validateOrigin [32,32,32,32,32,32,32,32,49,32,97] 1 = .error .panic := by
  decide

end Gts.C16
