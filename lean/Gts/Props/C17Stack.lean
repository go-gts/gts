/-
  C17 — the auto scanner and the saved positions `GenBankParser` is entered with.
  Property theorems only (lemmas: `Gts/Lemmas/ParsIndep.lean` — a relational reading of the `pars` state
  model —, `GbStackIndep.lean`, `GbAutoStream.lean`).

  `Gts.C17.scan_genbank_then_fasta` (Props/C17.lean) takes "GenBankParser reads the first record behind the
  scanner's Push" as a HYPOTHESIS, because C01's `read_write` is stated on the empty stack of saved positions.
  `genbankParser_stack_indep` is the missing piece — what the parser does does not depend on the saved
  positions it finds, and `state.Clear()` behind the LOCUS line decides what is left of them —, and
  `scan_written_genbank_then_fasta` is the statement without a hypothesis about any parse.
-/
import Gts.Props.C17
import Gts.Lemmas.GbAutoStream
import Gts.Lemmas.GbLocRT
import Gts.Lemmas.GbLearn
import Gts.Lemmas.GbRegistryOn
namespace Gts.C17
open Gts Gts.Pars Gts.Fasta

/-- **`GenBankParser` does not depend on the saved positions it is entered with.**  For every registry,
every input `t` and EVERY list `st` of saved positions (no sortedness, no bound):

* if `genbankLocusParser` accepts the LOCUS line at the head of `t`, the outcome of `GenBankParser` — record
  and registry, failure, or panic — and its final state, position AND saved positions, are exactly those of
  the run on the empty stack: `state.Clear()` behind the LOCUS line discards all of `st`, nothing survives
  (also when the record fails further down);
* if it rejects the line, `GenBankParser` fails the same way at the same position, and the saved positions are
  those the run on the empty stack leaves — none, or the single frame `pars.Int` leaks when the input ends
  in front of the length — with ALL of `st` underneath, untouched.

(The LOCUS parser pushes two frames and takes back at most what it pushed; it has no `Pushed` test and no
`Clear`: `Gts.GenBank.locusParser_indep`.) -/
theorem genbankParser_stack_indep (reg : GenBank.Registry) (t : Bytes) (st : List Bytes) :
    (GenBank.genbankParser reg).run' ⟨t, st⟩ =
      if (GenBank.locusParser.run' ⟨t, []⟩).1.toBool then (GenBank.genbankParser reg).run' ⟨t, []⟩
      else (((GenBank.genbankParser reg).run' ⟨t, []⟩).1,
        ⟨((GenBank.genbankParser reg).run' ⟨t, []⟩).2.rest,
         ((GenBank.genbankParser reg).run' ⟨t, []⟩).2.stk ++ st⟩) :=
  GenBank.genbankParser_stack_indep reg t st

/-- … so a record that is READ from the empty stack is read from every stack: same record, same registry,
same position, and the saved positions of the empty-stack run (C01's `read_write` says: none) -/
theorem genbankParser_reads_on_every_stack (reg : GenBank.Registry) (t : Bytes) (st : List Bytes)
    (x : GenBank.Record × GenBank.Registry) (s' : PS)
    (h : (GenBank.genbankParser reg).run' ⟨t, []⟩ = (.ok x, s')) :
    (GenBank.genbankParser reg).run' ⟨t, st⟩ = (.ok x, s') :=
  GenBank.genbankParser_stack_indep_ok reg t st x s' h

/-- non-vacuity, both branches.  (1) The minimal record followed by `>a`, entered with two saved positions:
LOCUS accepted, the record is read, the position is in front of `>a` and NO saved position is left.
(2) `LOCUS X ` and the end of the input, entered with the same two: the LOCUS parser fails inside `pars.Int`,
which leaks its frame; `locusBack` pops that one and one of its own two, so ONE frame of the LOCUS parser (the
entry position) stays, on top of the two older ones, which are untouched. -/
example :
    let st : List Bytes := [[1, 2, 3], [4]]
    (GenBank.locusParser.run' ⟨miniGenBank ++ [62, 97], []⟩).1.toBool = true ∧
    ((GenBank.genbankParser GenBank.Registry.default).run' ⟨miniGenBank ++ [62, 97], st⟩).1.toBool = true ∧
    ((GenBank.genbankParser GenBank.Registry.default).run' ⟨miniGenBank ++ [62, 97], st⟩).2.rest = [62, 97] ∧
    ((GenBank.genbankParser GenBank.Registry.default).run' ⟨miniGenBank ++ [62, 97], st⟩).2.stk = [] ∧
    (GenBank.locusParser.run' ⟨GenBank.bs "LOCUS X ", []⟩).1.toBool = false ∧
    ((GenBank.genbankParser GenBank.Registry.default).run' ⟨GenBank.bs "LOCUS X ", []⟩).2.stk =
      [GenBank.bs "LOCUS X "] ∧
    ((GenBank.genbankParser GenBank.Registry.default).run' ⟨GenBank.bs "LOCUS X ", st⟩).2.stk =
      GenBank.bs "LOCUS X " :: st ∧
    ((GenBank.genbankParser GenBank.Registry.default).run' ⟨GenBank.bs "LOCUS X ", st⟩).2.rest =
      GenBank.bs "LOCUS X " := by
  unfold miniGenBank
  repeat rw [GenBank.bs_ofList]
  decide +kernel

/-- the decidable domain of one record of a written stream: its residues are `p`, it is in the domain of C01's
round trip (`Writable`, canonical locations: `Gts.C01.WritableRecord`), and every qualifier name of its table
is registered (the hypothesis of C01's `read_stream`: the registry is the same for every record) -/
def StreamRecord (reg : GenBank.Registry) (x : GenBank.Record × Bytes) : Prop :=
  x.1.origin = .residues x.2 ∧ GenBank.Writable reg x.1 x.2 = true ∧
    (x.1.table.all fun f => Loc.canonP f.loc) = true ∧ GenBank.learnTable reg x.1.table = reg

open Gts.Auto (Rec Out startsLocus) in
/-- **Written GenBank records, then anything that is not a LOCUS line.**  For every registry, every stream of
one or more records of the domain of C01's round trip written with `GenBank.String`, and every `tail` that is
not empty and does not begin with `LOCUS`: the text is written, and `seqio.NewAutoScanner` on it returns exactly
those records in order — each as `readBack`, what C01 says `GenBankParser` returns for the written text — as
`seqio.GenBank` values and ends with an ERROR (`Err() != nil`); the registry is unchanged.  No hypothesis about
any parse. -/
theorem scan_written_genbank_then (reg : GenBank.Registry) (x : GenBank.Record × Bytes)
    (rs : List (GenBank.Record × Bytes)) (hall : ∀ y ∈ x :: rs, StreamRecord reg y)
    (tail : Bytes) (hne : tail.isEmpty = false) (hl : startsLocus tail = false) :
    ∃ t, GenBank.writeAll reg ((x :: rs).map (·.1)) = .ok t ∧
      Auto.scanAll reg (t ++ tail) =
        .done ((x :: rs).map fun y => .gb (GenBank.readBack reg y.1 y.2)) reg false :=
  Auto.scanAll_written_then reg x rs (fun y hy => by
    obtain ⟨h1, h2, h3, h4⟩ := hall y hy
    exact ⟨h1, h2, fun f hf => GenBank.locRT_of_canon f.loc (List.all_eq_true.mp h3 f hf), h4⟩) tail hne hl

open Gts.Auto (Rec Out) in
/-- **Written GenBank stream, then a written FASTA stream.**  One or more GenBank records (domain of C01's
round trip) written with `GenBank.String`, followed by one or more FASTA records written with `Fasta.WriteTo`
— ANY descriptions and residues —: the auto scanner returns exactly the GenBank records, in order, and then an
error; not one FASTA record is read, and none is silently dropped either (`Err() != nil`).
`scan_genbank_then_fasta` without its hypothesis about the first parse. -/
theorem scan_written_genbank_then_fasta (reg : GenBank.Registry) (x : GenBank.Record × Bytes)
    (rs : List (GenBank.Record × Bytes)) (hall : ∀ y ∈ x :: rs, StreamRecord reg y)
    (f : Bytes × Bytes) (fs : List (Bytes × Bytes)) :
    ∃ t, GenBank.writeAll reg ((x :: rs).map (·.1)) = .ok t ∧
      Auto.scanAll reg (t ++ writeAll (f :: fs)) =
        .done ((x :: rs).map fun y => .gb (GenBank.readBack reg y.1 y.2)) reg false := by
  have e : writeAll (f :: fs) = 62 :: (nl2sp f.1 ++ 10 :: wrapForce f.2 width ++ [10] ++ writeAll fs) := by
    simp [writeAll, fastaWrite]
  exact scan_written_genbank_then reg x rs hall _ (by rw [e]; rfl) (writeAll_not_locus (f :: fs)).1

/-- a record with a feature table: a `source` and a complement-strand `CDS` with registered qualifiers -/
def streamSample : GenBank.Record :=
  ⟨{ GenBank.Fields.empty with
     locusName := GenBank.bs "S1", molecule := GenBank.bs "DNA", topology := 1, division := GenBank.bs "PHG",
     date := ⟨2018, 7, 6⟩, definition := GenBank.bs "sample", accession := GenBank.bs "S1", version := GenBank.bs "S1.1" },
   [⟨GenBank.bs "source", .ranged 0 12 false false, [[GenBank.bs "organism", GenBank.bs "x"]]⟩,
    ⟨GenBank.bs "CDS", .compl (.joined [.ranged 1 4 true false, .ranged 6 9 false false]),
      [[GenBank.bs "gene", GenBank.bs "a"], [GenBank.bs "pseudo", []]]⟩],
   .residues (List.replicate 12 97)⟩

/-- non-vacuity: that record and the record with nothing but a LOCUS line are stream records under the default
registry -/
example : StreamRecord GenBank.Registry.default (streamSample, List.replicate 12 97) ∧
    StreamRecord GenBank.Registry.default
      (⟨{ GenBank.Fields.empty with locusName := GenBank.bs "X", molecule := GenBank.bs "DNA", date := ⟨1, 1, 1⟩ }, [],
        .residues []⟩, []) := by
  -- the default registry is consulted for the names `organism`, `gene`, `pseudo` only
  have v : GenBank.AgreeOn (GenBank.tableNames streamSample.table) GenBank.Registry.default GenBank.vecReg :=
    GenBank.default_vecReg.sub (by decide +kernel)
  refine ⟨⟨rfl, ?_, by decide +kernel, ?_⟩, ⟨rfl, by decide +kernel, rfl, rfl⟩⟩
  · show GenBank.Writable _ streamSample _ = true
    rw [GenBank.Writable_on v]; decide +kernel
  · -- they are registered names, so the table teaches the registry nothing
    refine GenBank.learnTable_known _ _ fun f hf kv hkv => ?_
    rw [v.item hf hkv]
    revert f kv; decide +kernel

/-- … and the scan of such a text, computed: two minimal GenBank records and the FASTA records `>a / AC`, `>b`
scan as two GenBank records and an error -/
example : (Auto.scanAll GenBank.Registry.default
      (miniGenBank ++ miniGenBank ++ writeAll [([97], [65, 67]), ([98], [])])).summary =
    some ([(true, 0), (true, 0)], false) := by
  unfold miniGenBank
  rw [GenBank.bs_ofList]
  decide +kernel

end Gts.C17
