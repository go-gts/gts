/-
  C02 — Insert/Embed place the guest exactly and every feature keeps its residues.
  Property theorems only.
-/
import Gts.Lemmas.Guest
import Gts.Lemmas.Table
import Gts.Lemmas.Record
import Gts.Lemmas.MarksOps
import Gts.Lemmas.MarkGuardOps
import Gts.Lemmas.MarkGuardEmbed
import Gts.Lemmas.EmbedExact
import Gts.Bridge.SeqInsert
namespace Gts.C02
open Gts Loc

/-- residues: `host[:i] + guest + host[i:]` (Insert) -/
theorem insert_bytes (host guest : Seq) (i : Int) :
    (host.insert i guest).bytes = host.bytes.take i.toNat ++ guest.bytes ++ host.bytes.drop i.toNat := rfl

/-- residues: `host[:i] + guest + host[i:]` (Embed) -/
theorem embed_bytes (host guest : Seq) (i : Int) :
    (host.embed i guest).bytes = host.bytes.take i.toNat ++ guest.bytes ++ host.bytes.drop i.toNat := rfl

/-- every host feature (shifted) and every guest feature (offset by `i`) is present exactly once,
with unchanged key and qualifiers -/
theorem insert_table_perm (host guest : Seq) (i : Int) :
    (host.insert i guest).feats.Perm
      (host.feats.map (fun f => { f with loc := f.loc.shift i guest.len }) ++
       guest.feats.map (fun f => { f with loc := f.loc.expand 0 i })) := by
  unfold Seq.insert
  exact (Table.insertAll_perm _ _).trans ((Table.insertAll_perm [] _).append_right _)

theorem embed_table_perm (host guest : Seq) (i : Int) :
    (host.embed i guest).feats.Perm
      (host.feats.map (fun f => { f with loc := f.loc.expand i guest.len }) ++
       guest.feats.map (fun f => { f with loc := f.loc.expand 0 i })) := by
  unfold Seq.embed
  exact (Table.insertAll_perm _ _).trans ((Table.insertAll_perm [] _).append_right _)

/-- FULL STATEMENT (false today through known finding K2 inside `Join`):
    `∀ l i n, wf l → 0 ≤ n → den (shift l i n) ≼ mapPos (insMap i n) (den l)`. -/
theorem shift_den_full_refuted :
    ¬ (∀ (l : Loc) (i n : Int), wf l = true → 0 ≤ n →
        den (shift l i n) ≼ mapPos (insMap i n) (den l)) := by
  intro h
  have := (h (joined [ranged 3 6 false false, point 6]) 0 0 (by decide +kernel) (by decide +kernel)).2 (6, false) (by decide +kernel)
  revert this
  decide +kernel

/-- **Insert, host features**: for every well-formed location of any kind, nesting and strand,
every index `i` and guest length `n ≥ 0`, the shifted location denotes exactly the re-mapped
residues (same order and strand; duplicate occurrences may be merged), provided rule K2 does
not fire in any `Join` of the evaluation. -/
theorem shift_den_partial (l : Loc) (i n : Int) (hw : wf l = true) (hn : 0 ≤ n)
    (hk2 : shiftAbs l i n = false) :
    den (shift l i n) ≼ mapPos (insMap i n) (den l) := (shift_ins l i n hw hn).1 hk2

/-- … with equality for duplicate-free locations (every real feature) -/
theorem shift_den_eq_partial (l : Loc) (i n : Int) (hw : wf l = true) (hn : 0 ≤ n)
    (hk2 : shiftAbs l i n = false) (hnd : (den l).Nodup) :
    den (shift l i n) = mapPos (insMap i n) (den l) :=
  (shift_den_partial l i n hw hn hk2).eq_of_nodup (nodup_mapPos_insMap i n hn _ hnd)

/-- the contiguous kinds need no guard: a range spanning `i` becomes exactly
`join(left‹p5›, right‹p3›)` around the guest, anything else is translated or untouched -/
theorem ranged_shift_den (s e : Int) (p5 p3 : Bool) (i n : Int) (h : s < e) (hn : 0 ≤ n) :
    den (shift (ranged s e p5 p3) i n) = mapPos (insMap i n) (den (ranged s e p5 p3)) :=
  den_rangedShift_ins s e p5 p3 i n h hn

theorem ranged_shift_split (s e : Int) (p5 p3 : Bool) (i n : Int) (h1 : s < i) (h2 : i < e) (hn : 0 < n) :
    shift (ranged s e p5 p3) i n = joined [ranged s i p5 false, ranged (i + n) (e + n) false p3] := by
  rw [shift, rangedShift_ins s e p5 p3 i n (by omega), if_pos ⟨by omega, h1, h2⟩]

/-- **Embed, host features**: Expand with `n ≥ 0` behaves like Insert on the host's residues;
a part spanning `i` additionally covers the guest `[i, i+n)` (which `stripGuest` removes). -/
theorem expand_den_partial (l : Loc) (i n : Int) (hw : wf l = true) (hn : 0 ≤ n)
    (hk2 : expandAbs l i n = false) :
    stripGuest i n (den (expand l i n)) ≼ mapPos (insMap i n) (den l) := (expand_ins l i n hw hn).1 hk2

/-- **Guest features** denote, in the result, the residues they denoted in the guest
(translated by the insertion index). -/
theorem guest_den_partial (l : Loc) (i : Int) (hw : wf l = true) (hnn : nonneg l = true) (hi : 0 ≤ i)
    (hk2 : expandAbs l 0 i = false) :
    den (expand l 0 i) ≼ mapPos (· + i) (den l) := guest_translate l i hw hnn hi hk2

/-- well-formedness is preserved (so the theorems apply again to the result) -/
theorem shift_wf (l : Loc) (i n : Int) (hw : wf l = true) (hn : 0 ≤ n) : wf (shift l i n) = true :=
  (shift_ins l i n hw hn).2

theorem expand_wf (l : Loc) (i n : Int) (hw : wf l = true) (hn : 0 ≤ n) : wf (expand l i n) = true :=
  (expand_ins l i n hw hn).2

/-- non-vacuity: a complement-strand join spanning the insertion point satisfies the hypotheses -/
example : wf (compl (joined [ranged 2 5 true false, point 7, ranged 9 12 false true])) = true ∧
    shiftAbs (compl (joined [ranged 2 5 true false, point 7, ranged 9 12 false true])) 4 3 = false ∧
    expandAbs (compl (joined [ranged 2 5 true false, point 7, ranged 9 12 false true])) 4 3 = false ∧
    (den (compl (joined [ranged 2 5 true false, point 7, ranged 9 12 false true]))).Nodup := by decide +kernel

/-! ### record level: what `gts.Insert` / `gts.Embed` do to every feature of a record -/

/-- **Insert, record level**: every host feature is present in the result with unchanged key
and qualifiers and a location denoting its former residues at their new positions. -/
theorem insert_host_feature_partial (host guest : Seq) (i : Int) (f : Feature) (hf : f ∈ host.feats)
    (hw : wf f.loc = true) (hk2 : shiftAbs f.loc i guest.len = false) :
    ∃ f' ∈ (host.insert i guest).feats, f'.key = f.key ∧ f'.props = f.props ∧
      den f'.loc ≼ mapPos (insMap i guest.len) (den f.loc) :=
  ⟨{ f with loc := f.loc.shift i guest.len },
   mem_of_perm_map_append_left (insert_table_perm host guest i) hf, rfl, rfl,
   shift_den_partial f.loc i guest.len hw guest.len_nonneg hk2⟩

/-- **Embed, record level** (a part spanning `i` additionally covers the guest) -/
theorem embed_host_feature_partial (host guest : Seq) (i : Int) (f : Feature) (hf : f ∈ host.feats)
    (hw : wf f.loc = true) (hk2 : expandAbs f.loc i guest.len = false) :
    ∃ f' ∈ (host.embed i guest).feats, f'.key = f.key ∧ f'.props = f.props ∧
      stripGuest i guest.len (den f'.loc) ≼ mapPos (insMap i guest.len) (den f.loc) :=
  ⟨{ f with loc := f.loc.expand i guest.len },
   mem_of_perm_map_append_left (embed_table_perm host guest i) hf, rfl, rfl,
   expand_den_partial f.loc i guest.len hw guest.len_nonneg hk2⟩

/-- **guest features, record level** (Insert and Embed treat them alike) -/
theorem insert_guest_feature_partial (host guest : Seq) (i : Int) (hi : 0 ≤ i) (f : Feature)
    (hf : f ∈ guest.feats) (hw : wf f.loc = true) (hnn : nonneg f.loc = true)
    (hk2 : expandAbs f.loc 0 i = false) :
    (∃ f' ∈ (host.insert i guest).feats, f'.key = f.key ∧ f'.props = f.props ∧
      den f'.loc ≼ mapPos (· + i) (den f.loc)) ∧
    (∃ f' ∈ (host.embed i guest).feats, f'.key = f.key ∧ f'.props = f.props ∧
      den f'.loc ≼ mapPos (· + i) (den f.loc)) :=
  ⟨⟨{ f with loc := f.loc.expand 0 i },
    mem_of_perm_map_append_right (insert_table_perm host guest i) hf, rfl, rfl,
    guest_den_partial f.loc i hw hnn hi hk2⟩,
   ⟨{ f with loc := f.loc.expand 0 i },
    mem_of_perm_map_append_right (embed_table_perm host guest i) hf, rfl, rfl,
    guest_den_partial f.loc i hw hnn hi hk2⟩⟩

/-- nothing else appears: the result has exactly `|host| + |guest|` features -/
theorem insert_feature_count (host guest : Seq) (i : Int) :
    (host.insert i guest).feats.length = host.feats.length + guest.feats.length ∧
    (host.embed i guest).feats.length = host.feats.length + guest.feats.length := by
  constructor
  · simpa using (insert_table_perm host guest i).length_eq
  · simpa using (embed_table_perm host guest i).length_eq

/-! ### Embed WITHOUT stripping the guest (audit finding S6)

`expand_den_partial` compares after `stripGuest`, so it is also met by Insert's split and by an
`Expand` that stretches a range merely ending / starting at `i`.  The statements below pin the guest
residues `[i, i+n)`: they are denoted exactly inside the leaves that span `i` (`s < i < e`), in
strand order, between the left part and the translated right part. -/

/-- **the coordinate rule of `Ranged.Expand` for `n > 0`** (Embed): the start moves iff `i ≤ start`, the
end moves iff `i < end`; so a range ENDING at `i` is untouched, a range STARTING at `i` is translated
as a whole, a range spanning `i` grows by `n`; partial markers are kept.  (For Insert the same two
rules hold outside the spanning case, `rangedShift`: "otherwise behaves identically".) -/
theorem ranged_expand_extend (s e : Int) (p5 p3 : Bool) (i n : Int) (h : s < e) (hn : 0 < n) :
    expand (ranged s e p5 p3) i n =
      ranged (if i ≤ s then s + n else s) (if i < e then e + n else e) p5 p3 := by
  simp only [expand]; exact rangedExpand_ins_eq s e p5 p3 i n h hn

/-- **Embed, a leaf spanning `i`** (`s < i < e`, guest length `n ≥ 0`), as an equation on residue lists:
the expanded range denotes the left part `[s, i)`, then the guest block `[i, i+n)`, then the right
part translated by `n` — where the insert image `mapPos (insMap i n) (den leaf)` is exactly left part ++
right part (the place where Insert splits).  On the complement strand the same list read backwards
with the strand flag set. -/
theorem expand_embed_span (s e : Int) (p5 p3 : Bool) (i n : Int) (h1 : s < i) (h2 : i < e) (hn : 0 ≤ n) :
    den (expand (ranged s e p5 p3) i n) =
        fwd (irange s (i - s).toNat) ++ fwd (irange i n.toNat) ++ fwd (irange (i + n) (e - i).toNat) ∧
    mapPos (insMap i n) (den (ranged s e p5 p3)) =
        fwd (irange s (i - s).toNat) ++ fwd (irange (i + n) (e - i).toNat) ∧
    den (expand (compl (ranged s e p5 p3)) i n) =
        flipDen (fwd (irange s (i - s).toNat) ++ fwd (irange i n.toNat) ++ fwd (irange (i + n) (e - i).toNat)) := by
  have hd := den_rangedExpand_embed s e p5 p3 i n (by omega) hn
  have hs := embedSeg_span s e i n h1 h2
  refine ⟨?_, ?_, ?_⟩
  · simp only [expand]; rw [hd, hs.1]
  · rw [den_ranged]; exact hs.2
  · simp only [expand, den_compl]; rw [hd, hs.1]

/-- the same for an `Ambiguous` leaf (`one-of(s..e)`) spanning `i` -/
theorem expand_embed_span_ambiguous (s e i n : Int) (h1 : s < i) (h2 : i < e) (hn : 0 ≤ n) :
    den (expand (ambiguous s e) i n) =
        fwd (irange s (i - s).toNat) ++ fwd (irange i n.toNat) ++ fwd (irange (i + n) (e - i).toNat) := by
  simp only [expand]
  rw [den_ambiguousExpand_embed s e i n (by omega) hn, (embedSeg_span s e i n h1 h2).1]

/-- **Embed, a leaf that does not span `i`** (`e ≤ i` or `i ≤ s`, INCLUDING the boundary cases `e = i` and
`s = i` the property's quantifier names): the expanded range denotes exactly the insert image — what
`Shift` (Insert) denotes for the same leaf — and NO residue of the guest `[i, i+n)`; both strands.
(`Ranged.Expand` with `i == end`: the end stays; with `i == start`: the whole range moves by `n`.) -/
theorem expand_embed_outside (s e : Int) (p5 p3 : Bool) (i n : Int) (h : s < e) (hn : 0 ≤ n)
    (ho : e ≤ i ∨ i ≤ s) :
    den (expand (ranged s e p5 p3) i n) = mapPos (insMap i n) (den (ranged s e p5 p3)) ∧
    den (expand (ranged s e p5 p3) i n) = den (shift (ranged s e p5 p3) i n) ∧
    den (expand (compl (ranged s e p5 p3)) i n) = mapPos (insMap i n) (den (compl (ranged s e p5 p3))) ∧
    (∀ p ∈ den (expand (ranged s e p5 p3) i n), p.1 < i ∨ i + n ≤ p.1) ∧
    (∀ p ∈ den (expand (compl (ranged s e p5 p3)) i n), p.1 < i ∨ i + n ≤ p.1) := by
  have hd : den (expand (ranged s e p5 p3) i n) = mapPos (insMap i n) (den (ranged s e p5 p3)) := by
    simp only [expand]
    rw [den_rangedExpand_embed s e p5 p3 i n h hn, embedSeg_outside s e i n ho, den_ranged]
  have hout : ∀ p ∈ mapPos (insMap i n) (den (ranged s e p5 p3)), p.1 < i ∨ i + n ≤ p.1 := by
    intro p hp
    simp only [mapPos, List.mem_map] at hp
    obtain ⟨q, _, rfl⟩ := hp
    simp only [insMap]; omega
  have hc : den (expand (compl (ranged s e p5 p3)) i n) = flipDen (den (expand (ranged s e p5 p3) i n)) := rfl
  refine ⟨hd, ?_, ?_, ?_, ?_⟩
  · rw [hd]; exact (den_rangedShift_ins s e p5 p3 i n h hn).symm
  · rw [hc, hd, den_compl, mapPos_flipDen]
  · rw [hd]; exact hout
  · intro (q, c) hp
    rw [hc, hd] at hp
    exact hout (q, !c) (mem_flipDen.mp hp)

/-- FULL STATEMENT (false today through known finding K2 inside `Join`):
    `∀ l i n, wf l → 0 ≤ n → den (expand l i n) ≼ embedDen l i n`. -/
theorem expand_embed_den_full_refuted :
    ¬ (∀ (l : Loc) (i n : Int), wf l = true → 0 ≤ n → den (expand l i n) ≼ embedDen l i n) := by
  intro h
  have := (h (joined [ranged 3 6 false false, point 6]) 0 0 (by decide +kernel) (by decide +kernel)).2 (6, false) (by decide +kernel)
  revert this
  decide +kernel

/-- **Embed, host features, un-stripped**: for every well-formed location of any kind, nesting and
strand, every index `i` and guest length `n ≥ 0`, the expanded location denotes `embedDen l i n` = the
host image with the guest block `[i, i+n)` inserted exactly inside the leaves that span `i` (same order
and strand; duplicate occurrences may be merged), provided rule K2 does not fire in any `Join` of the
evaluation.  `embedDen` (`Gts/Lemmas/EmbedExact.lean`) is defined from the ORIGINAL location: per leaf
`embedSeg` (`expand_embed_span` / `expand_embed_outside`), concatenated through join / order, read
backwards under complement. -/
theorem expand_embed_den_partial (l : Loc) (i n : Int) (hw : wf l = true) (hn : 0 ≤ n)
    (hk2 : expandAbs l i n = false) :
    den (expand l i n) ≼ embedDen l i n := (expand_embed l i n hw hn).1 hk2

/-- **Embed, record level, un-stripped**: every host feature is present in the result with unchanged
key and qualifiers and a location denoting its former residues at their new positions plus the guest
block inside exactly the parts that spanned `i`. -/
theorem embed_host_feature_exact_partial (host guest : Seq) (i : Int) (f : Feature) (hf : f ∈ host.feats)
    (hw : wf f.loc = true) (hk2 : expandAbs f.loc i guest.len = false) :
    ∃ f' ∈ (host.embed i guest).feats, f'.key = f.key ∧ f'.props = f.props ∧
      den f'.loc ≼ embedDen f.loc i guest.len :=
  ⟨{ f with loc := f.loc.expand i guest.len },
   mem_of_perm_map_append_left (embed_table_perm host guest i) hf, rfl, rfl,
   expand_embed_den_partial f.loc i guest.len hw guest.len_nonneg hk2⟩

/-- non-vacuity, and the law DISTINGUISHES: a complement-strand join with a part spanning `i = 4`, a part
ending at `4` and a part starting at `4` meets the hypotheses; its Embed image has the guest block in the
spanning part only; Insert's image (`shift`) of the same location does NOT meet the conclusion, and
neither does a range ending at `i` stretched over the guest. -/
example : wf (compl (joined [ranged 0 4 true false, ranged 6 9 false false, ranged 2 6 false false, ranged 4 5 false true])) = true ∧
    expandAbs (compl (joined [ranged 0 4 true false, ranged 6 9 false false, ranged 2 6 false false, ranged 4 5 false true])) 4 3 = false ∧
    embedDen (joined [ranged 0 4 true false, ranged 6 9 false false, ranged 2 6 false false, ranged 4 5 false true]) 4 3 =
      fwd [0, 1, 2, 3] ++ fwd [9, 10, 11] ++ fwd [2, 3, 4, 5, 6, 7, 8] ++ fwd [7] ∧
    den (expand (ranged 2 6 false false) 4 3) = embedDen (ranged 2 6 false false) 4 3 ∧
    den (shift (ranged 2 6 false false) 4 3) ≠ embedDen (ranged 2 6 false false) 4 3 ∧
    den (ranged 0 7 true false) ≠ embedDen (ranged 0 4 true false) 4 3 := by decide +kernel

/-! ### partial markers stay on the same outer ends

`outerMarks` (`Gts/Spec/Marks.lean`) is the Lean restatement of the Go oracle
`harness/spec.go outerMarks`. -/

/-- FULL STATEMENT (false on the model, and on the code): "Insert leaves the outer 5'/3' markers
of every well-formed location unchanged".  Witness `join(4,<4..6)` (a literal that `Join` would
reduce), any index, guest length 0: `Shift` rebuilds the join, `Push` replaces the point by the
range that starts at it, and the result `<4..6` has a 5' marker where the unmarked point was. -/
theorem shift_marks_full_refuted :
    ¬ (∀ (l : Loc) (i n : Int), wf l = true → 0 ≤ n → outerMarks (shift l i n) = outerMarks l) :=
  fun h => absurd (h (joined [point 3, ranged 3 6 true false]) 0 0) (by decide +kernel)

/-- **Insert keeps the partial markers on the same outer ends**: for every well-formed location
of any kind, arity, nesting and strand, every index `i` and guest length `n ≥ 0`, the 5' marker
(before the first residue read) and the 3' marker (behind the last residue read) of the shifted
location are those of the original — also when a range is split around the guest — provided no
marker-moving rule of `Push` fires in a `Join` of the evaluation (`shiftMarkAbs`). -/
theorem shift_marks_partial (l : Loc) (i n : Int) (hw : wf l = true) (hn : 0 ≤ n)
    (hg : shiftMarkAbs l i n = false) :
    outerMarks (shift l i n) = outerMarks l :=
  outerMarks_of_marks (shift_marks_aux l i n hw hn hg)

/-- … in particular under the hypotheses of `shift_den_eq_partial` (K2 guard, duplicate-free
denotation) — the conditions under which the Go oracle evaluates the marker clause -/
theorem shift_marks_nodup_partial (l : Loc) (i n : Int) (hw : wf l = true) (hn : 0 ≤ n)
    (hk2 : shiftAbs l i n = false) (hnd : (den l).Nodup) :
    outerMarks (shift l i n) = outerMarks l :=
  shift_marks_partial l i n hw hn (shiftMarkAbs_of_nodup l i n hw hn hk2 hnd)

/-- **Embed keeps the partial markers on the same outer ends** (`Expand` with `n ≥ 0`; also the
guest features, which are translated by `Expand(0, i)`) -/
theorem expand_marks_partial (l : Loc) (i n : Int) (hw : wf l = true) (hn : 0 ≤ n)
    (hg : expandMarkAbs l i n = false) :
    outerMarks (expand l i n) = outerMarks l :=
  outerMarks_of_marks (expand_ins_marks_aux l i n hw hn hg)

/-- … Embed under the hypotheses of `expand_den_partial` (K2 guard) plus duplicate-freeness (the
embedded location is duplicate-free again: a guest residue enters a part only if that part spans
`i`, `Gts/Lemmas/MarkGuardEmbed.lean`) -/
theorem expand_marks_nodup_partial (l : Loc) (i n : Int) (hw : wf l = true) (hn : 0 ≤ n)
    (hk2 : expandAbs l i n = false) (hnd : (den l).Nodup) :
    outerMarks (expand l i n) = outerMarks l :=
  expand_marks_partial l i n hw hn (expandInsMarkAbs_of_nodup l i n hw hn hk2 hnd)

/-- non-vacuity: a complement-strand join with both outer markers, split by the insertion -/
example : wf (compl (joined [ranged 2 5 true false, point 7, ranged 9 12 false true])) = true ∧
    shiftMarkAbs (compl (joined [ranged 2 5 true false, point 7, ranged 9 12 false true])) 4 3 = false ∧
    expandMarkAbs (compl (joined [ranged 2 5 true false, point 7, ranged 9 12 false true])) 4 3 = false ∧
    outerMarks (compl (joined [ranged 2 5 true false, point 7, ranged 9 12 false true])) = (true, true) ∧
    shiftAbs (compl (joined [ranged 2 5 true false, point 7, ranged 9 12 false true])) 4 3 = false ∧
    (den (compl (joined [ranged 2 5 true false, point 7, ranged 9 12 false true]))).Nodup ∧
    (shift (compl (joined [ranged 2 5 true false, point 7, ranged 9 12 false true])) 4 3).beq
      (compl (joined [ranged 2 4 true false, ranged 7 8 false false, point 10, ranged 12 15 false true])) = true := by
  decide +kernel

/-- **Insert / Embed, record level**: every host feature is present in the result with unchanged
key and qualifiers and the same outer partial markers; so is every guest feature. -/
theorem insert_host_feature_marks_partial (host guest : Seq) (i : Int) (f : Feature) (hf : f ∈ host.feats)
    (hw : wf f.loc = true) (hg : shiftMarkAbs f.loc i guest.len = false) :
    ∃ f' ∈ (host.insert i guest).feats, f'.key = f.key ∧ f'.props = f.props ∧
      outerMarks f'.loc = outerMarks f.loc :=
  ⟨{ f with loc := f.loc.shift i guest.len },
   mem_of_perm_map_append_left (insert_table_perm host guest i) hf, rfl, rfl,
   shift_marks_partial f.loc i guest.len hw guest.len_nonneg hg⟩

theorem embed_host_feature_marks_partial (host guest : Seq) (i : Int) (f : Feature) (hf : f ∈ host.feats)
    (hw : wf f.loc = true) (hg : expandMarkAbs f.loc i guest.len = false) :
    ∃ f' ∈ (host.embed i guest).feats, f'.key = f.key ∧ f'.props = f.props ∧
      outerMarks f'.loc = outerMarks f.loc :=
  ⟨{ f with loc := f.loc.expand i guest.len },
   mem_of_perm_map_append_left (embed_table_perm host guest i) hf, rfl, rfl,
   expand_marks_partial f.loc i guest.len hw guest.len_nonneg hg⟩

theorem insert_guest_feature_marks_partial (host guest : Seq) (i : Int) (hi : 0 ≤ i) (f : Feature)
    (hf : f ∈ guest.feats) (hw : wf f.loc = true) (hg : expandMarkAbs f.loc 0 i = false) :
    (∃ f' ∈ (host.insert i guest).feats, f'.key = f.key ∧ f'.props = f.props ∧
      outerMarks f'.loc = outerMarks f.loc) ∧
    (∃ f' ∈ (host.embed i guest).feats, f'.key = f.key ∧ f'.props = f.props ∧
      outerMarks f'.loc = outerMarks f.loc) :=
  ⟨⟨{ f with loc := f.loc.expand 0 i },
    mem_of_perm_map_append_right (insert_table_perm host guest i) hf, rfl, rfl,
    expand_marks_partial f.loc 0 i hw hi hg⟩,
   ⟨{ f with loc := f.loc.expand 0 i },
    mem_of_perm_map_append_right (embed_table_perm host guest i) hf, rfl, rfl,
    expand_marks_partial f.loc 0 i hw hi hg⟩⟩

/-! ### the statements above, for the code AS IT IS WRITTEN NOW

`Gts.Gen.seqInsert` / `seqEmbed` are regenerated from sequence.go on every run (go2lean/gseq.go) and
`Gts/Bridge/SeqInsert.lean` proves them equal to the model wherever Go does not panic. -/

/-- **`gts.Insert` as written**: for an index inside the host the function does not panic, its residues are
`host[:i] + guest + host[i:]`, its table is a permutation of the shifted host features and the re-based guest
features, and the host's metadata went through `tryShift(info, i, Len(guest))` -/
theorem gen_insert_spec {ι : Type} (ops : Gen.InfoOps ι) (hi gi : ι) (host guest : Seq) (i : Int)
    (h : 0 ≤ i ∧ i ≤ host.len) :
    ∃ ff p, Gen.seqInsert ops hi host.feats host.bytes i gi guest.feats guest.bytes =
        .ok (ops.tryShift hi i guest.len, ff, p) ∧
      p = host.bytes.take i.toNat ++ guest.bytes ++ host.bytes.drop i.toNat ∧
      ff.Perm (host.feats.map (fun f => { f with loc := f.loc.shift i guest.len }) ++
        guest.feats.map (fun f => { f with loc := f.loc.expand 0 i })) :=
  ⟨_, _, Bridge.seqInsert_eq ops hi gi host guest i h, insert_bytes host guest i, insert_table_perm host guest i⟩

/-- **`gts.Insert` as written** panics (slice bounds out of range) for every index outside the host -/
theorem gen_insert_panics {ι : Type} (ops : Gen.InfoOps ι) (hi gi : ι) (host guest : Seq) (i : Int)
    (h : ¬ (0 ≤ i ∧ i ≤ host.len)) :
    Gen.seqInsert ops hi host.feats host.bytes i gi guest.feats guest.bytes = .error .panic :=
  Bridge.seqInsert_panic ops hi gi host guest i h

/-- **`gts.Embed` as written**: the same residues, the host features re-located by `Expand(i, Len(guest))` -/
theorem gen_embed_spec {ι : Type} (ops : Gen.InfoOps ι) (hi gi : ι) (host guest : Seq) (i : Int)
    (h : 0 ≤ i ∧ i ≤ host.len) :
    ∃ ff p, Gen.seqEmbed ops hi host.feats host.bytes i gi guest.feats guest.bytes =
        .ok (ops.tryExpand hi i guest.len, ff, p) ∧
      p = host.bytes.take i.toNat ++ guest.bytes ++ host.bytes.drop i.toNat ∧
      ff.Perm (host.feats.map (fun f => { f with loc := f.loc.expand i guest.len }) ++
        guest.feats.map (fun f => { f with loc := f.loc.expand 0 i })) :=
  ⟨_, _, Bridge.seqEmbed_eq ops hi gi host guest i h, embed_bytes host guest i, embed_table_perm host guest i⟩

-- non-vacuity: an index inside (and one outside) a host of four residues
example : (0 : Int) ≤ 2 ∧ (2 : Int) ≤ (⟨[⟨"gene", .ranged 1 3 false false, []⟩], [65, 67, 71, 84]⟩ : Seq).len := by decide +kernel
example : ¬ ((0 : Int) ≤ 5 ∧ (5 : Int) ≤ (⟨[], [65, 67, 71, 84]⟩ : Seq).len) := by decide +kernel

end Gts.C02
