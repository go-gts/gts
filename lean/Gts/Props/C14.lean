/-
  C14 — caching is transparent: cached runs equal uncached runs.
  Property theorems only.

  Two kinds of statements.

  (A) about the REGENERATED table `Gts.Gen.Cli` (go2lean reads every cmd/gts/*.go that calls
      `TryCache`, and io.go, on every run): every declared option and positional reaches the
      payload (`payload_complete`), the key of a secondary input file is the digest of its raw
      bytes (`secondary_digest_raw`), every cached command commits exactly before its one
      successful return (`commit_last`), `Close` removes what was not committed
      (`close_removes_uncommitted`).  They are closed by `decide +kernel`: a changed source changes the
      table and the kernel re-checks them.

  (B) about the protocol model `Gts/Model/CacheProto.lean` (over the C13 file model): for ALL
      histories of runs over a shared cache directory, every run shows the bytes and the status
      of the uncached run (`transparent`), under hypotheses that are written out:
        `hkey`    key-equal runs behave alike — determinism of the command given (input, options,
                  secondary inputs), completeness of the payload, no collision of the digest on
                  the inputs and payloads in play;
        `hcommit` `Commit()` is reached only by successful runs (what (A) `commit_last` ties to
                  the source);
        `hcodec`  inflate ∘ deflate = id;   `hH` the digest has a fixed size.
      Without `hkey` (an option missing from the payload: F4) and without `hcommit` (entries
      finalised by failed runs: F12) the statement is refuted by concrete two-run histories.

  (C) about the ENCODING of the payload into the bytes that are hashed (`Gts/Model/KeyEnc.lean`:
      io.go `exact` / `encodePayload`, strconv.QuoteToASCII, encoding/json on the payload shapes):
      the quoted form of a string is pure ASCII and determines the string
      (`quoteToASCII_ascii`, `quoteToASCII_injective`), the encoded payload determines the list of
      tuples (`encodePayload_injective`), whereas marshalling the raw strings — the encoder before
      1c2c272 — does not (`old_encoding_not_injective`, the witness of F32).  With that, `hkey` is
      a CONSEQUENCE of three hypotheses that say one thing each (`hkey_of_parts`): the command body
      is a function of the bytes of the primary input, it depends on the command line and the
      secondary inputs only through the payload tuples, the digest does not collide on the
      inputs and payloads in play.

  (D) about the protocol when the cache-file WRITER fails (`Gts/Model/CacheProtoFault.lean` = the
      protocol of (B) joined with the C13 fault model): for all histories and all fault schedules
      in which no `os.Remove` fails, every run shows the uncached bytes and status EXCEPT a run
      whose tee `Write` fails — io.go fails the command's own write — and the invariant of (B)
      survives (`transparent_under_faults_partial`, `no_bad_entry_under_faults_partial`); with a
      failing `os.Remove` both are refuted by a two-run history (`…_full_refuted`), which the
      harness replays on the binary.
-/
import Gts.Gen.Cli
import Gts.Spec.CliTable
import Gts.Model.CacheProto
import Gts.Props.C13
import Gts.Lemmas.KeyEncJson
import Gts.Lemmas.CacheProtoFault
namespace Gts.C14
open Gts.Cache Gts.CacheProto Gts.Gen.Cli Gts.CliTable

/-! ## (A) the generated command table -/

/-- **The cached subcommands are the nineteen the property names** (a new cached command must be
added to the harness generators, a vanished one is a changed surface). -/
theorem cached_commands : commands.map (·.name) =
    ["annotate", "clear", "complement", "define", "delete", "extract", "infix", "insert", "join",
     "pick", "query", "repair", "reverse", "rotate", "search", "select", "sort", "split",
     "summary"] := rfl

/-- **Payload completeness** (generated table): every declared option and positional of every
cached command is read by some payload tuple — directly or through a derived variable such as
`filetype ← seqoutPath, format`, `guestSum ← guestPath`, `loc ← locstr`, `comma ← sepstr` —
except the exempt `no-cache`, `output` and the primary input. -/
theorem payload_complete : ∀ c ∈ commands, ∀ d ∈ c.decls, covered c d = true ∨ exempt c d = true := by
  decide +kernel

theorem payload_complete_list : commands.flatMap uncovered = [] := by decide +kernel

/-- **Every payload value is written into the key in a form that determines it** (generated
table): a dereferenced command-line variable, a `String()` text, a digest, the file type, … — never
a parsed value marshalled by its structure (`Joined` / `Ordered`, `Point` / `Between` would share
a key: seeded change C14-f). -/
theorem payload_value_forms : valueFormReport = [] := by decide +kernel

/-- **Every payload value has one of the five kinds the encoding model covers** (generated table):
string, `[]string`, bool, integer, `[]byte` (`Gts.KeyEnc.Kind`) — so `encodePayload_injective` below
speaks about the payloads of all nineteen commands.  (A `float64`, a map or a struct handed to
`encodePayload` is outside the model and shows up here.) -/
theorem payload_value_kinds : valueKindReport = [] := by decide +kernel

/-- the kinds that occur, e.g. `gts infix`: strings, a digest, a bool, the file type -/
example : (commands.find? (·.name == "infix")).map (fun c => c.payload.map fun t => (t.key, valueKind c t)) =
    some [("command", some .str), ("version", some .str), ("locator", some .str), ("host", some .bytes),
      ("embed", some .bool), ("filetype", some .int)] := by decide +kernel

/-- **No payload variable is re-ordered or overwritten in place** anywhere in its command
(generated table: no use of a declared variable that reaches the payload sits in `sort.*`, `copy`,
…): the key describes what the command line said (seeded change C14-e: sorting the locators of
`gts extract` for the key while the output keeps their order).  One use is let through: go2lean marks a re-ordering
that is a statement of the function body in front of every other use of the variable as `canon:` (select.go:42
`sort.Strings(*selectors)`: output and key both see the sorted list), and `mutators` does not hold that text. -/
theorem payload_vars_not_mutated : mutatedReport = [] := by decide +kernel

/-- **The key of a secondary input is the digest of its RAW content** (generated table): the
payload variables bound to `h.Sum(nil)` are exactly `featsum`, `hostSum`, `guestSum`, `querySum`;
each is read by a payload tuple; everything written into the hash between the preceding
`h.Reset()` and the `Sum` is either the bytes of the file opened from a declared positional
(`attach(h, f)` with `f, err := os.Open(*V)`: every byte the parser reads goes through the hash)
or the literal argument itself (`h.Write([]byte(*V))`) — nothing parsed, nothing derived; and
every declared variable that is opened as a file is hashed that way.  (A key computed from the
PARSED guest — residues only — lets two guest files that differ in annotation share an entry.) -/
theorem secondary_digest_raw :
    (commands.filterMap fun c =>
        if c.digests.isEmpty then none else some (c.name, c.digests.map (·.1))) =
      [("annotate", ["featsum"]), ("infix", ["hostSum"]), ("insert", ["guestSum"]),
       ("search", ["querySum"])] ∧
    (∀ c ∈ commands, ∀ d ∈ c.digests,
      d.2 ≠ [] ∧ (c.payload.any fun t => t.direct.contains d.1) = true ∧
      ∀ f ∈ d.2, (f.1 = "file" ∨ f.1 = "literal") ∧
        (c.decls.any fun x => x.var == f.2 && x.cls == "pos" && x.kind == "String") = true) ∧
    (∀ c ∈ commands, ∀ x ∈ c.decls, x.uses.contains "os.Open" = true →
      (c.digests.any fun d => d.2.contains ("file", x.var)) = true) := by decide +kernel

/-- every cached command has the `--no-cache` switch and the ``-o`, `--output`` option, and every
payload carries the command name and the version first -/
theorem payload_header : ∀ c ∈ commands,
    (c.decls.any fun d => d.cls == "opt" && d.long == "no-cache" && d.kind == "Switch") = true ∧
    (c.decls.any fun d => d.cls == "opt" && d.long == "output" && d.var == c.output) = true ∧
    (c.payload.take 2).map (·.key) = ["command", "version"] := by decide +kernel

/-- **Commit is last** (generated table): every cached command defers `d.Close()` right after
`newIODelegate`, has exactly one `d.Commit()` and exactly one `return nil`, the commit
immediately precedes that return, and they are the last two statements of the function.  So
`Commit` is reached only on the path that returns success, and nothing can fail or panic between
the two. -/
theorem commit_last : ∀ c ∈ commands,
    c.deferClose = true ∧ c.commits = 1 ∧ c.nilReturns = 1 ∧ c.commitThenReturnNil = 1 ∧
    c.endsWithCommitReturn = true := by decide +kernel

/-- **`Close` removes what was not committed** (io.go, literally): `Commit` sets `d.done`, the
entry being written is removed when `cache.Close()` fails or `d.done` is false, a hit removes
the entry exactly when the output is not stdout, and a miss arms `d.cache`. -/
theorem close_removes_uncommitted :
    commitBody = "d.done = true" ∧ closeRemoveCond = "err != nil || !d.done" ∧
    hitRemoveCond = "d.outfile != os.Stdout" ∧ missArms = "d.cache = f" := by decide +kernel

/-! ## (B) the protocol -/

variable {Cmd Input : Type} (W : World Cmd Input)

/-- the invariant: **every valid entry is the complete output of a successful run with that
key** -/
def Inv (σ : Store) : Prop :=
  ∀ rs qs body, rs.length = W.d → qs.length = W.d → openAt W.H W.d σ rs qs = .ok body →
    ∃ c i, rs = W.rsum i ∧ qs = W.dsum c ∧ (W.exec c i).status = 0 ∧ (W.exec c i).early = false ∧
      W.inflate body = some (W.exec c i).out

structure Hyp : Prop where
  /-- the digest has a fixed size -/
  hH : ∀ x, (W.H x).length = W.d
  /-- what flate wrote, flate reads back -/
  hcodec : ∀ w, W.inflate (W.deflate w) = some w
  /-- **determinism / payload completeness / no collision**, stated on the sums: two runs whose
  root sums and data sums agree behave alike -/
  hkey : ∀ c c' i i', W.rsum i = W.rsum i' → W.dsum c = W.dsum c' → W.exec c i = W.exec c' i'
  /-- **entries are finalised only by successful runs**: `Commit()` is reached only with exit
  status 0 (`commit_last`) -/
  hcommit : ∀ c i, (W.exec c i).committed = true → (W.exec c i).status = 0

theorem Inv.hit {W : World Cmd Input} (hy : Hyp W) {σ : Store} (hi : Inv W σ) (c : Cmd) (i : Input) {body : Bytes}
    (ho : openAt W.H W.d σ (W.rsum i) (W.dsum c) = .ok body) :
    (W.exec c i).status = 0 ∧ W.inflate body = some (W.exec c i).out := by
  obtain ⟨c', i', hrs, hqs, hst, -, hinf⟩ := hi _ _ body (hy.hH _) (hy.hH _) ho
  rw [hy.hkey c' c i' i hrs.symm hqs.symm] at hst hinf
  exact ⟨hst, hinf⟩

theorem inv_remove {σ : Store} (hi : Inv W σ) (n : String) : Inv W (Store.set σ n none) := by
  intro rs qs body hr hq ho
  by_cases hn : name W.H rs qs = n
  · subst hn; rw [openAt_set_none] at ho; cases ho
  · rw [openAt_set_ne σ n none rs qs hn] at ho; exact hi rs qs body hr hq ho

theorem inv_empty : Inv W emptyStore := by
  intro rs qs body _ _ ho
  simp [openAt, emptyStore] at ho

private theorem openf_finish (hH : ∀ x, (W.H x).length = W.d) {rs₀ qs₀ rs qs w body : Bytes} (hr₀ : rs₀.length = W.d)
    (hq₀ : qs₀.length = W.d) (hr : rs.length = W.d) (hq : qs.length = W.d)
    (ho : openf W.H W.d (finish W.H W.d W.deflate rs₀ qs₀ w) rs qs = .ok body) :
    rs = rs₀ ∧ qs = qs₀ ∧ body = W.deflate w := by
  rw [C13.finish_eq hH W.deflate hr₀ hq₀] at ho
  have hs := C13.open_sound ho
  unfold finished at hs
  simp only [List.append_assoc] at hs
  have h1 := List.append_inj hs (hr₀.trans hr.symm)
  have h2 := List.append_inj h1.2 (hq₀.trans hq.symm)
  exact ⟨h1.1.symm, h2.1.symm, (List.append_inj h2.2 ((hH _).trans (hH _).symm)).2.symm⟩

theorem inv_set_finish (hy : Hyp W) {σ : Store} (hi : Inv W σ) (c : Cmd) (i : Input)
    (hst : (W.exec c i).status = 0) (hearly : (W.exec c i).early = false) :
    Inv W (Store.set σ (name W.H (W.rsum i) (W.dsum c))
      (some (finish W.H W.d W.deflate (W.rsum i) (W.dsum c) (W.exec c i).out))) := by
  intro rs qs body hr hq ho
  by_cases hn : name W.H rs qs = name W.H (W.rsum i) (W.dsum c)
  · rw [openAt_set_some σ _ rs qs hn] at ho
    obtain ⟨h1, h2, h3⟩ := openf_finish W hy.hH (hy.hH _) (hy.hH _) hr hq ho
    exact ⟨c, i, h1, h2, hst, hearly, by rw [h3]; exact hy.hcodec _⟩
  · rw [openAt_set_ne σ _ _ rs qs hn] at ho; exact hi rs qs body hr hq ho

/-- **the directory after a run**: as it was (bypass, hit to stdout, broken hit), without the run's entry (hit to a file,
miss not kept), or with the finished entry of a committed run that got past `TryCache` (miss kept) -/
theorem step_store (σ : Store) (r : Run Cmd Input) :
    (step W σ r).1 = σ ∨ (step W σ r).1 = Store.set σ (name W.H (W.rsum r.input) (W.dsum r.cmd)) none ∨
      ((W.exec r.cmd r.input).committed = true ∧ (W.exec r.cmd r.input).early = false ∧
        (step W σ r).1 = Store.set σ (name W.H (W.rsum r.input) (W.dsum r.cmd))
          (some (finish W.H W.d W.deflate (W.rsum r.input) (W.dsum r.cmd) (W.exec r.cmd r.input).out))) := by
  unfold step
  simp only
  cases hb : (r.nocache || !r.usable || (W.exec r.cmd r.input).early)
  · rw [if_neg nofun]
    split
    · split
      · split
        · exact .inr (.inl rfl)
        · exact .inl rfl
      · exact .inl rfl
    · split
      · rename_i hkeep
        exact .inr (.inr ⟨(Bool.and_eq_true_iff.mp hkeep).1, (Bool.or_eq_false_iff.1 hb).2, rfl⟩)
      · exact .inr (.inl rfl)
  · exact .inl rfl

theorem step_inv (hy : Hyp W) {σ : Store} (hi : Inv W σ) (r : Run Cmd Input) :
    Inv W (step W σ r).1 := by
  rcases step_store W σ r with h | h | ⟨hc, hearly, h⟩ <;> rw [h]
  · exact hi
  · exact inv_remove W hi _
  · exact inv_set_finish W hy hi _ _ (hy.hcommit _ _ hc) hearly

/-- **One run is transparent**: in a directory satisfying the invariant, what a run shows is
exactly what the command body produces — whether it was a hit, a miss or a bypass. -/
theorem step_transparent (hy : Hyp W) {σ : Store} (hi : Inv W σ) (r : Run Cmd Input) :
    (step W σ r).2 = (W.exec r.cmd r.input).observed := by
  unfold step
  simp only
  split
  · rfl
  · split
    · rename_i body ho
      obtain ⟨hst, hinf⟩ := hi.hit hy r.cmd r.input ho
      rw [hinf]
      simp [Outcome.observed, hst]
    · rfl

theorem history_inv (hy : Hyp W) : ∀ (runs : List (Run Cmd Input)) {σ : Store}, Inv W σ →
    Inv W (history W σ runs).1
  | [], _, hi => hi
  | r :: rs, _, hi => history_inv hy rs (step_inv W hy hi r)

/-- **Transparency**: for ALL histories of runs over a shared cache directory that starts in a
state satisfying the invariant (e.g. empty), EVERY run of the history shows the output bytes and
the exit status of the command body — the observations of the cached history are those of the
uncached one. -/
theorem transparent (hy : Hyp W) : ∀ (runs : List (Run Cmd Input)) {σ : Store}, Inv W σ →
    (history W σ runs).2 = runs.map fun r => (W.exec r.cmd r.input).observed
  | [], _, _ => rfl
  | r :: rs, σ, hi => by
    simp only [history, List.map_cons]
    rw [step_transparent W hy hi r, transparent hy rs (step_inv W hy hi r)]

theorem transparent_from_empty (hy : Hyp W) (runs : List (Run Cmd Input)) :
    (history W emptyStore runs).2 = runs.map fun r => (W.exec r.cmd r.input).observed :=
  transparent W hy runs (inv_empty W)

/-- `--no-cache` shows the command body whatever the directory holds, and leaves it alone -/
theorem nocache_step (σ : Store) (r : Run Cmd Input) (h : r.nocache = true) :
    step W σ r = (σ, (W.exec r.cmd r.input).observed) := by
  simp [step, h]

/-- **Cached = uncached**: after any history, a run and the same run with `--no-cache` show the
same bytes and the same status. -/
theorem cached_eq_nocache (hy : Hyp W) (runs : List (Run Cmd Input)) (r : Run Cmd Input) :
    (step W (history W emptyStore runs).1 r).2 =
      (step W (history W emptyStore runs).1 { r with nocache := true }).2 := by
  rw [step_transparent W hy (history_inv W hy runs (inv_empty W)) r, nocache_step W _ _ rfl]

/-- **A failed run leaves no entry**: after a run that went past `TryCache` and did not exit 0,
`cache.Open` for its key fails — a later identical run misses and fails in the same way. -/
theorem failed_run_leaves_no_entry (hy : Hyp W) {σ : Store} (hi : Inv W σ) (r : Run Cmd Input)
    (hfail : (W.exec r.cmd r.input).status ≠ 0) :
    ∃ e, openAt W.H W.d (step W σ r).1 (W.rsum r.input) (W.dsum r.cmd) = .error e :=
  C13.error_of_not_ok fun _ ho => hfail ((step_inv W hy hi r).hit hy r.cmd r.input ho).1

/-- **A successful cached run seeds a hit**: after a committed run (miss), the entry opens and
replays exactly the bytes of that run. -/
theorem committed_run_seeds_entry (hy : Hyp W) (σ : Store) (r : Run Cmd Input)
    (hmiss : verdict W σ r = .miss) (hc : (W.exec r.cmd r.input).committed = true)
    (hclose : r.closeOk = true) :
    openRead W.H W.d W.inflate
      ((step W σ r).1 (W.entry r.cmd r.input)).get! (W.rsum r.input) (W.dsum r.cmd)
      = .ok (W.exec r.cmd r.input).out := by
  have hrl : (W.rsum r.input).length = W.d := hy.hH _
  have hql : (W.dsum r.cmd).length = W.d := hy.hH _
  unfold verdict at hmiss
  unfold step
  simp only
  split at hmiss
  · cases hmiss
  · rename_i hb
    rw [if_neg hb]
    split at hmiss
    · split at hmiss <;> cases hmiss
    · rename_i e he
      simp only [hc, hclose, Bool.and_self, if_true, World.entry, Store.set, Option.get!]
      exact C13.open_close hy.hH W.deflate W.inflate hrl hql _ (hy.hcodec _)

/-- **A run creates no entry that opens under another key**: if `cache.Open` fails for the sums `(rs, qs)` before a
run whose own sums differ from them in the root sum or in the data sum, it still fails after it — whatever the run
did (bypass, hit, `-o` hit that removes, broken hit, miss kept or removed), even when the two keys share a FILE NAME
(the entry the run wrote carries its own sums in the header and fails validation under the other key).  Needs only
the fixed digest size. -/
theorem step_other_key_stays_missing (hH : ∀ x, (W.H x).length = W.d) (σ : Store) (r : Run Cmd Input)
    {rs qs : Bytes} (hr : rs.length = W.d) (hq : qs.length = W.d)
    (hne : rs ≠ W.rsum r.input ∨ qs ≠ W.dsum r.cmd)
    (he : ∃ e, openAt W.H W.d σ rs qs = .error e) :
    ∃ e, openAt W.H W.d (step W σ r).1 rs qs = .error e := by
  have hset : ∀ v : Option Bytes,
      (v = none ∨ v = some (finish W.H W.d W.deflate (W.rsum r.input) (W.dsum r.cmd) (W.exec r.cmd r.input).out)) →
      ∃ e, openAt W.H W.d (Store.set σ (name W.H (W.rsum r.input) (W.dsum r.cmd)) v) rs qs = .error e := by
    intro v hv
    by_cases hn : name W.H rs qs = name W.H (W.rsum r.input) (W.dsum r.cmd)
    · rcases hv with rfl | rfl
      · exact ⟨.notFound, hn ▸ openAt_set_none σ rs qs⟩
      · refine C13.error_of_not_ok fun body ho => ?_
        rw [openAt_set_some σ _ rs qs hn] at ho
        obtain ⟨h1, h2, -⟩ := openf_finish W hH (hH _) (hH _) hr hq ho
        exact hne.elim (· h1) (· h2)
    · rw [openAt_set_ne σ _ v rs qs hn]; exact he
  rcases step_store W σ r with h | h | ⟨-, -, h⟩ <;> rw [h]
  · exact he
  · exact hset none (.inl rfl)
  · exact hset _ (.inr rfl)

theorem history_other_key_stays_missing (hH : ∀ x, (W.H x).length = W.d) {rs qs : Bytes}
    (hr : rs.length = W.d) (hq : qs.length = W.d) :
    ∀ (runs : List (Run Cmd Input)) (σ : Store),
      (∀ r ∈ runs, rs ≠ W.rsum r.input ∨ qs ≠ W.dsum r.cmd) →
      (∃ e, openAt W.H W.d σ rs qs = .error e) →
      ∃ e, openAt W.H W.d (history W σ runs).1 rs qs = .error e
  | [], _, _, he => he
  | r :: rest, σ, hall, he =>
    history_other_key_stays_missing hH hr hq rest (step W σ r).1
      (fun r' hr' => hall r' (List.mem_cons_of_mem _ hr'))
      (step_other_key_stays_missing W hH σ r hr hq (hall r (List.mem_cons_self ..)) he)

/-- **A changed input (or option) misses the cache and recomputes** — the clause of the property, for ALL
histories from the empty directory: a run that goes past `TryCache` and whose key differs from the key of EVERY
earlier run of the history — in the root sum (a changed primary input) or in the data sum (a changed option or
secondary input) — is a MISS, and it shows the bytes and the status of its own command body.  No hypothesis about
the bodies, the payload or collisions: `hkey` is what makes the HITS right, the misses need only the digest size.
(That a changed input HAS a different root sum is `hcollC`: `changed_content_misses`.) -/
theorem changed_key_misses (hH : ∀ x, (W.H x).length = W.d) (runs : List (Run Cmd Input)) (r : Run Cmd Input)
    (hlive : (r.nocache || !r.usable || (W.exec r.cmd r.input).early) = false)
    (hnew : ∀ r' ∈ runs, W.rsum r.input ≠ W.rsum r'.input ∨ W.dsum r.cmd ≠ W.dsum r'.cmd) :
    verdict W (history W emptyStore runs).1 r = .miss ∧
    (step W (history W emptyStore runs).1 r).2 = (W.exec r.cmd r.input).observed := by
  have he' : ∃ e, openAt W.H W.d (history W emptyStore runs).1 (W.rsum r.input) (W.dsum r.cmd) = .error e :=
    history_other_key_stays_missing W hH (hH _) (hH _) runs emptyStore hnew
      ⟨.notFound, by simp [openAt, emptyStore]⟩
  obtain ⟨e, he⟩ := he'
  constructor
  · unfold verdict
    rw [hlive, he]; rfl
  · unfold step
    simp only [hlive, he]; rfl

/-- … stated on the input BYTES: under collision-freeness of the digest on the primary inputs in play (`hcollC` of
`KeyParts`), a run whose primary input differs in content from the input of every earlier run misses and recomputes -/
theorem changed_content_misses (hH : ∀ x, (W.H x).length = W.d)
    (hcollC : ∀ i i', W.H (W.content i) = W.H (W.content i') → W.content i = W.content i')
    (runs : List (Run Cmd Input)) (r : Run Cmd Input)
    (hlive : (r.nocache || !r.usable || (W.exec r.cmd r.input).early) = false)
    (hnew : ∀ r' ∈ runs, W.content r.input ≠ W.content r'.input) :
    verdict W (history W emptyStore runs).1 r = .miss ∧
    (step W (history W emptyStore runs).1 r).2 = (W.exec r.cmd r.input).observed :=
  changed_key_misses W hH runs r hlive fun r' h => .inl fun heq => hnew r' h (hcollC _ _ heq)

/-! ## the hypotheses cannot be dropped: two-run histories

A toy world: digest `toyH` of C13 (one byte: the sum), identity codec, `Cmd = Bool × Bool`
(`(invert, fail)`), one input. -/

def toyExec (commitOnFailure : Bool) (c : Bool × Bool) (_ : Unit) : Outcome :=
  if c.2 then ⟨[], 1, commitOnFailure, false⟩ else ⟨if c.1 then [2] else [1], 0, true, false⟩

/-- `payloadHasInvert = false`: the payload forgets the first option (extract before 4f58328) -/
def toyWorld (payloadHasInvert commitOnFailure : Bool) : World (Bool × Bool) Unit where
  H := C13.toyH
  d := 1
  deflate := id
  inflate := some
  inflatePrefix := fun _ => []
  exec := toyExec commitOnFailure
  payload := fun c => [if payloadHasInvert && c.1 then 1 else 0, if c.2 then 7 else 0]
  content := fun _ => [9]

def toyRun (invert fail : Bool) : Run (Bool × Bool) Unit :=
  ⟨(invert, fail), (), false, false, true, true⟩

/-- with the complete payload the four commands have four different data sums -/
theorem toy_hkey (cf : Bool) (c c' : Bool × Bool) (i i' : Unit)
    (h : (toyWorld true cf).dsum c = (toyWorld true cf).dsum c') : (toyWorld true cf).exec c i = (toyWorld true cf).exec c' i' := by
  have : c = c' := by
    rcases c with ⟨a, b⟩; rcases c' with ⟨a', b'⟩
    revert h; cases cf <;> cases a <;> cases b <;> cases a' <;> cases b' <;> decide
  rw [this]

theorem toy_hcommit (p : Bool) (c : Bool × Bool) (i : Unit) (h : ((toyWorld p false).exec c i).committed = true) :
    ((toyWorld p false).exec c i).status = 0 := by
  rcases c with ⟨a, b⟩
  cases b <;> simp_all [toyWorld, toyExec]

/-- **F4** (`gts extract` then `gts extract -v`, payload without `invert`): the second run is a
hit on the first run's entry and shows the NON-inverted output `[1]`; the uncached run shows
`[2]`.  So `hkey` cannot be dropped. -/
theorem transparent_needs_payload_refuted :
    (history (toyWorld false false) emptyStore [toyRun false false, toyRun true false]).2
      = [⟨[1], 0⟩, ⟨[1], 0⟩] ∧
    ((toyWorld false false).exec (true, false) ()).observed = ⟨[2], 0⟩ := by
  decide +kernel

/-- **… and `hkey` is the ONLY hypothesis that fails in that witness world** (audit C14a F6): the history above
is not transparent, and `toyWorld false false` satisfies the digest size, the codec round trip and `hcommit`
(`Commit()` only on success); what fails is `hkey` — the commands `(false, false)` and `(true, false)` have the
same sums and different outcomes.  So the refutation is tight: it is the missing option in the payload, nothing
else, that breaks transparency. -/
theorem transparent_needs_payload_refuted_tight :
    ((history (toyWorld false false) emptyStore [toyRun false false, toyRun true false]).2
        = [⟨[1], 0⟩, ⟨[1], 0⟩] ∧
      ((toyWorld false false).exec (true, false) ()).observed = ⟨[2], 0⟩) ∧
    (∀ x, ((toyWorld false false).H x).length = (toyWorld false false).d) ∧
    (∀ w, (toyWorld false false).inflate ((toyWorld false false).deflate w) = some w) ∧
    (∀ c i, ((toyWorld false false).exec c i).committed = true → ((toyWorld false false).exec c i).status = 0) ∧
    ¬ (∀ c c' i i', (toyWorld false false).rsum i = (toyWorld false false).rsum i' →
        (toyWorld false false).dsum c = (toyWorld false false).dsum c' →
        (toyWorld false false).exec c i = (toyWorld false false).exec c' i') := by
  exact ⟨transparent_needs_payload_refuted, C13.toyH_size, fun _ => rfl, toy_hcommit false,
    fun h => absurd (h (false, false) (true, false) () () rfl rfl) (by decide)⟩

/-- … and with the complete payload the same history is transparent -/
example : (history (toyWorld true false) emptyStore [toyRun false false, toyRun true false]).2
    = [⟨[1], 0⟩, ⟨[2], 0⟩] := by decide +kernel

/-- **F12** (a failing run, then the identical run; `Close` finalising unconditionally =
`committed` although the run failed): the second run is a hit on the entry the failed run left
and exits 0 with the partial output; the uncached run exits 1.  So `hcommit` cannot be dropped. -/
theorem transparent_needs_commit_refuted :
    (history (toyWorld true true) emptyStore [toyRun false true, toyRun false true]).2
      = [⟨[], 1⟩, ⟨[], 0⟩] ∧
    ((toyWorld true true).exec (false, true) ()).observed = ⟨[], 1⟩ := by
  decide +kernel

/-- **… and `hcommit` is the ONLY hypothesis that fails in that witness world** (audit C14a F6): the history
above is not transparent, and `toyWorld true true` satisfies the digest size, the codec round trip and `hkey` (the
four commands have four different data sums); what fails is `hcommit` — the failing command is `committed` with
status 1. -/
theorem transparent_needs_commit_refuted_tight :
    ((history (toyWorld true true) emptyStore [toyRun false true, toyRun false true]).2
        = [⟨[], 1⟩, ⟨[], 0⟩] ∧
      ((toyWorld true true).exec (false, true) ()).observed = ⟨[], 1⟩) ∧
    (∀ x, ((toyWorld true true).H x).length = (toyWorld true true).d) ∧
    (∀ w, (toyWorld true true).inflate ((toyWorld true true).deflate w) = some w) ∧
    (∀ c c' i i', (toyWorld true true).rsum i = (toyWorld true true).rsum i' →
        (toyWorld true true).dsum c = (toyWorld true true).dsum c' →
        (toyWorld true true).exec c i = (toyWorld true true).exec c' i') ∧
    ¬ (∀ c i, ((toyWorld true true).exec c i).committed = true → ((toyWorld true true).exec c i).status = 0) := by
  exact ⟨transparent_needs_commit_refuted, C13.toyH_size, fun _ => rfl, fun c c' i i' _ => toy_hkey true c c' i i',
    fun h => absurd (h (false, true) () rfl) (by decide)⟩

/-- … with `Commit` only on success the failed run leaves nothing and the second run fails too -/
example : (history (toyWorld true false) emptyStore [toyRun false true, toyRun false true]).2
    = [⟨[], 1⟩, ⟨[], 1⟩] := by decide +kernel

/-- non-vacuity: the toy world with the complete payload and commit-on-success satisfies every
hypothesis of `transparent` except digest injectivity in general — `hkey` holds because the four
commands have four different data sums -/
example : Hyp (toyWorld true false) where
  hH := C13.toyH_size
  hcodec := fun _ => rfl
  hkey := fun c c' i i' _ => toy_hkey false c c' i i'
  hcommit := toy_hcommit true

/-- non-vacuity of `step_other_key_stays_missing` / `history_other_key_stays_missing` / `changed_key_misses`: in the
toy world, after the base run and a failing run, the run with the CHANGED OPTION (`invert`) has a data sum that differs
from both, goes past `TryCache`, and is a miss that shows its own output `[2]` (the inputs of this world do not vary:
for a changed INPUT see `sortWorld` in `Props/C14Gen.lean`) -/
example : verdict (toyWorld true false) (history (toyWorld true false) emptyStore [toyRun false false, toyRun false true]).1
      (toyRun true false) = .miss ∧
    (step (toyWorld true false) (history (toyWorld true false) emptyStore [toyRun false false, toyRun false true]).1
      (toyRun true false)).2 = ⟨[2], 0⟩ :=
  changed_key_misses (toyWorld true false) C13.toyH_size [toyRun false false, toyRun false true] (toyRun true false) rfl
    (by decide)

/-! ## (C) the encoding of the payload -/

section encoding
open Gts.KeyEnc

/-- **The quoted form is pure ASCII**: every byte of `strconv.QuoteToASCII(s)`, for an arbitrary
byte string `s` (valid UTF-8 or not), is below 128 — so encoding/json copies or escapes it byte by
byte and never replaces anything by U+FFFD. -/
theorem quoteToASCII_ascii (s : List UInt8) : ∀ c ∈ quoteToASCII s, c.toNat < 128 :=
  quoteToASCII_lt s

/-- … in fact printable: no control byte, no DEL -/
theorem quoteToASCII_printable (s : List UInt8) : ∀ c ∈ quoteToASCII s, 0x20 ≤ c.toNat ∧ c.toNat ≤ 0x7E :=
  quoteToASCII_print s

/-- **The quoted form determines the string**: two byte strings — arbitrary ones, valid UTF-8 or
not — with the same `strconv.QuoteToASCII` text are equal. -/
theorem quoteToASCII_injective {s₁ s₂ : List UInt8} (h : quoteToASCII s₁ = quoteToASCII s₂) : s₁ = s₂ :=
  quoteToASCII_inj h

/-- non-vacuity, and the F32 pair: `a\xffb` and `a\xfeb` are quoted differently, an invalid byte
and the well-formed U+FFFD are quoted differently (`\xff` / `\ufffd`) -/
example : quoteToASCII [0x61, 0xFF, 0x62] = ascii "\"a\\xffb\"" ∧
    quoteToASCII [0x61, 0xFE, 0x62] = ascii "\"a\\xfeb\"" ∧
    quoteToASCII [0xEF, 0xBF, 0xBD] = ascii "\"\\ufffd\"" ∧
    quoteToASCII [0xC3, 0xA9, 0x22, 0x0A, 0xF0, 0x9F, 0x98, 0x80] =
      ascii "\"\\u00e9\\\"\\n\\U0001f600\"" := by
  repeat rw [ascii_ofList]
  decide +kernel

/-- the shape of a payload: its keys and the kinds of its values — what the source text of a
command fixes (`Gts.Gen.Cli` `Tuple.key / form / prov`), whatever the arguments are -/
def shape (p : Payload) : List (List UInt8 × Kind) := p.map fun t => (t.1, t.2.kind)

/-- **The encoded payload determines the payload**: `encodePayload p₁ = encodePayload p₂ → p₁ = p₂`,
for ALL lists of tuples over the value kinds that occur (string, `[]string`, bool, integer,
`[]byte`) — in particular for two payloads of one command, which have the same keys and the same
value kinds (`encodePayload_injective_shape`); no shape hypothesis is needed, because the encoding
is self-delimiting and the first two bytes of a value tell its kind (a quoted string starts `"\"`,
base64 never contains a backslash).  Two runs with different option values, different list
elements, a different element ORDER, or strings that differ in any byte have different key bytes. -/
theorem encodePayload_injective {p₁ p₂ : Payload} (h : encodePayload p₁ = encodePayload p₂) : p₁ = p₂ :=
  encodePayload_code.inj h

/-- the statement for two payloads of the same shape (same keys, same value kinds, position by
position): what `hkey` needs within one command -/
theorem encodePayload_injective_shape {p₁ p₂ : Payload} (_ : shape p₁ = shape p₂)
    (h : encodePayload p₁ = encodePayload p₂) : p₁ = p₂ := encodePayload_injective h

theorem encodePayload_shape {p₁ p₂ : Payload} (h : encodePayload p₁ = encodePayload p₂) :
    shape p₁ = shape p₂ := by rw [encodePayload_injective h]

/-- the key of the F32 witness: `gts rotate` with the locator `a\xffb` … -/
def f32a : Payload :=
  [(ascii "command", .str (ascii "gts-rotate")), (ascii "locator", .str [0x61, 0xFF, 0x62]),
   (ascii "filetype", .int 0)]
/-- … and with `a\xfeb` -/
def f32b : Payload :=
  [(ascii "command", .str (ascii "gts-rotate")), (ascii "locator", .str [0x61, 0xFE, 0x62]),
   (ascii "filetype", .int 0)]

/-- non-vacuity of `encodePayload_injective_shape`: the two payloads have one shape, they differ,
and so do their encodings -/
example : shape f32a = shape f32b ∧ f32a ≠ f32b ∧ encodePayload f32a ≠ encodePayload f32b := by
  unfold f32a f32b
  repeat rw [ascii_ofList]
  decide +kernel

/-- what the encoder writes for a payload with every kind of value -/
example : encodePayload [(ascii "k", .strs [ascii "a\"", [0xFF]]), (ascii "b", .bool true),
      (ascii "i", .int (-12)), (ascii "d", .bytes [1, 2, 3, 4, 255])] =
    ascii "[[\"\\\"k\\\"\",[\"\\\"a\\\\\\\"\\\"\",\"\\\"\\\\xff\\\"\"]],[\"\\\"b\\\"\",true],[\"\\\"i\\\"\",-12],[\"\\\"d\\\"\",\"AQIDBP8=\"]]" := by
  repeat rw [ascii_ofList]
  decide +kernel

/-- **The encoder before 1c2c272 was NOT injective** (F32): `json.Marshal` applied to the raw
tuples writes every invalid UTF-8 byte as `\ufffd`, so the two payloads `f32a` / `f32b` — one
command, one shape, locators `a\xffb` and `a\xfeb` — had the same key bytes, and the second run
replayed the first run's output.  (Full statement that fails: `∀ p₁ p₂, jsonOfPayload p₁ =
jsonOfPayload p₂ → p₁ = p₂`.) -/
theorem old_encoding_not_injective :
    ¬ (∀ p₁ p₂ : Payload, shape p₁ = shape p₂ → jsonOfPayload p₁ = jsonOfPayload p₂ → p₁ = p₂) := by
  intro h
  have key : shape f32a = shape f32b ∧ jsonOfPayload f32a = jsonOfPayload f32b ∧ f32a ≠ f32b := by
    unfold f32a f32b
    repeat rw [ascii_ofList]
    decide +kernel
  exact key.2.2 (h _ _ key.1 key.2.1)

/-- the shared key text of the witness -/
example : jsonOfPayload f32a = jsonOfPayload f32b ∧
    jsonOfPayload f32a =
      ascii "[[\"command\",\"gts-rotate\"],[\"locator\",\"a\\ufffdb\"],[\"filetype\",0]]" := by
  unfold f32a f32b
  repeat rw [ascii_ofList]
  decide +kernel

end encoding

/-! ### `hkey` from its parts -/

/-- the parts of `hkey`, for a world whose payload bytes are `encodePayload` of a list of tuples
`pl c` (the tuples of the command's `encodePayload([]tuple{…})` call, values filled in) -/
structure KeyParts (pl : Cmd → KeyEnc.Payload) : Prop where
  /-- the payload handed to `TryCache` is io.go `encodePayload` of the tuples -/
  henc : ∀ c, W.payload c = KeyEnc.encodePayload (pl c)
  /-- **determinism**: the command body is a function of the BYTES of the primary input -/
  hdet : ∀ c i i', W.content i = W.content i' → W.exec c i = W.exec c i'
  /-- **sufficiency of the payload**: the command body depends on the command line and on the
  secondary inputs only through the values of the payload tuples (the syntactic half is
  `payload_complete` / `secondary_digest_raw` / `payload_value_forms` on the generated table) -/
  hsuff : ∀ c c' i, pl c = pl c' → W.exec c i = W.exec c' i
  /-- **no collision** of the digest on the payloads in play … -/
  hcollP : ∀ c c', W.H (W.payload c) = W.H (W.payload c') → W.payload c = W.payload c'
  /-- … and on the primary inputs in play -/
  hcollC : ∀ i i', W.H (W.content i) = W.H (W.content i') → W.content i = W.content i'

/-- **`hkey` is a consequence of determinism, sufficiency of the payload tuples, injectivity of the
encoding (a theorem: `encodePayload_injective`) and collision-freeness of the digest on the keys in
play.** -/
theorem hkey_of_parts {pl : Cmd → KeyEnc.Payload} (hp : KeyParts W pl) :
    ∀ c c' i i', W.rsum i = W.rsum i' → W.dsum c = W.dsum c' → W.exec c i = W.exec c' i' := by
  intro c c' i i' hr hd
  have hc : W.content i = W.content i' := hp.hcollC i i' hr
  have hb : W.payload c = W.payload c' := hp.hcollP c c' hd
  rw [hp.henc c, hp.henc c'] at hb
  rw [hp.hdet c i i' hc]
  exact hp.hsuff c c' i' (encodePayload_injective hb)

theorem hyp_of_parts {pl : Cmd → KeyEnc.Payload} (hH : ∀ x, (W.H x).length = W.d)
    (hcodec : ∀ w, W.inflate (W.deflate w) = some w) (hp : KeyParts W pl)
    (hcommit : ∀ c i, (W.exec c i).committed = true → (W.exec c i).status = 0) : Hyp W :=
  ⟨hH, hcodec, hkey_of_parts W hp, hcommit⟩

/-- **Transparency with `hkey` taken apart**: for all histories from a directory satisfying the
invariant, every run shows the bytes and the status of the command body — under the digest size,
the codec round trip, `Commit` only on success, and the three parts of `KeyParts` (determinism,
sufficiency of the payload tuples, no digest collision on the keys in play); that the key BYTES
determine the tuples is not assumed (`encodePayload_injective`). -/
theorem transparent_of_parts {pl : Cmd → KeyEnc.Payload} (hH : ∀ x, (W.H x).length = W.d)
    (hcodec : ∀ w, W.inflate (W.deflate w) = some w) (hp : KeyParts W pl)
    (hcommit : ∀ c i, (W.exec c i).committed = true → (W.exec c i).status = 0)
    (runs : List (Run Cmd Input)) {σ : Store} (hi : Inv W σ) :
    (history W σ runs).2 = runs.map fun r => (W.exec r.cmd r.input).observed :=
  transparent W (hyp_of_parts W hH hcodec hp hcommit) runs hi

def encTuples (c : Bool × Bool) : KeyEnc.Payload :=
  [(KeyEnc.ascii "invert", .bool c.1), (KeyEnc.ascii "fail", .int (if c.2 then 7 else 0))]

/-- the toy world with the real encoder: the payload bytes are `encodePayload` of the tuples -/
def encWorld : World (Bool × Bool) Unit :=
  { toyWorld true false with payload := fun c => KeyEnc.encodePayload (encTuples c) }

/-- non-vacuity of `hkey_of_parts` / `transparent_of_parts`: the toy world with the real encoder
meets every part (the four commands have four different data sums under the toy digest) -/
theorem encWorld_parts : KeyParts encWorld encTuples := by
  have inj : ∀ c c', encWorld.H (encWorld.payload c) = encWorld.H (encWorld.payload c') → c = c' := by
    have key : ∀ a b a' b', encWorld.H (encWorld.payload (a, b)) = encWorld.H (encWorld.payload (a', b')) →
        (a, b) = (a', b') := by
      unfold encWorld encTuples
      repeat rw [ascii_ofList]
      decide +kernel
    exact fun c c' => key c.1 c.2 c'.1 c'.2
  exact {
    henc := fun _ => rfl
    hdet := fun _ _ _ _ => rfl
    hsuff := fun c c' i h => by rw [inj c c' (congrArg (fun p => encWorld.H (KeyEnc.encodePayload p)) h)]
    hcollP := fun c c' h => by rw [inj c c' h]
    hcollC := fun _ _ _ => rfl }

/-- … and a three-run history over it (base, inverted, base) is transparent -/
example : (history encWorld emptyStore [toyRun false false, toyRun true false, toyRun false false]).2
    = [toyRun false false, toyRun true false, toyRun false false].map
        fun r => (encWorld.exec r.cmd r.input).observed :=
  transparent_of_parts encWorld C13.toyH_size (fun _ => rfl) encWorld_parts
    (toy_hcommit true) _ (inv_empty _)

/-! ## (D) Writer faults

`Gts/Model/CacheProtoFault.lean`: the protocol joined with the C13 fault model of the cache-file
writer.  A run carries a fault schedule `Faults` — `os.Create` or the placeholder write of
`CreateLevel`, the n-th `Write` of the tee, each of the five steps of `cache.File.Close`, and the three
`os.Remove` calls whose result io.go ignores.  What the code defines (io.go, bug for bug):

  * a failed `d.cache.Write` FAILS THE COMMAND'S OWN WRITE (`ioDelegate.Write` returns the error before
    it touches the output; flate's error is sticky, so nothing reaches the output afterwards): the
    user sees the chunks written before the failing call and the exit status of a body whose
    writer failed (1 for all nineteen commands) although `--no-cache` exits 0;
  * every other fault is SWALLOWED: `os.Create` failing (no tee), the placeholder write failing (the
    name is removed, the tee goes on into the unlinked file), every error of `cache.Close()` (the
    entry is removed) — output and status are those of the uncached run;
  * the entry is discarded by `os.Remove`, whose result is ignored: when that fails too, a
    finalised entry over a PREFIX of the stream stays (C13 `failed_close_entry_verifies`) and the
    next run serves wrong bytes (`no_bad_entry_under_faults_full_refuted`; replayed on the binary by
    the harness case `cli.faulthist … unremovable`).
-/

section faults

/-- **What io.go does with the errors of the cache writer** (generated, literally): the tee hands
`p` to the cache FIRST and returns its error without writing `p` to the output
(`stepF`: a failed `Write` of the tee fails the command's write); after a failed `cache.Open`,
`TryCache` removes the entry's NAME when `CreateLevel` returned a file and an error, arms the tee
with whatever `CreateLevel` returned — `nil` when `os.Create` failed — and reports a plain miss;
no result of `os.Remove` is looked at.  (With `close_removes_uncommitted`: the error of
`cache.Close()` only decides about the removal.) -/
theorem writer_errors_handling :
    teeBody = ["if d.cache != nil { n, err := d.cache.Write(p); if err != nil { return n, err } }",
      "n, err := d.outfile.Write(p)", "return n, err"] ∧
    missBlock = ["f, err := cache.CreateLevel(dir, h, rsum, dsum, flate.BestSpeed)",
      "if err != nil && f != nil { os.Remove(f.Name()) }", "d.cache = f", "return false, nil"] :=
  ⟨rfl, rfl⟩

variable (V : FWorld Cmd Input)

structure FHyp : Prop where
  base : Hyp V.toWorld
  /-- the arguments of the body's `Write` calls, concatenated, are the bytes it writes -/
  hchunks : ∀ c i, (V.chunks c i).flatten = (V.exec c i).out

/-- **Without faults the model is the protocol of `CacheProto.lean`** (`closeOk = true`). -/
theorem stepF_nofault (hc : ∀ c i, (V.chunks c i).flatten = (V.exec c i).out) (σ : Store)
    (r : FRun Cmd Input) (hf : r.faults = {}) :
    stepF V σ r = step V.toWorld σ (r.toRun true) := by
  unfold stepF step
  -- the empty schedule: `os.Create` works, no `os.Remove` fails, the miss is the fault-free one
  simp only [FRun.toRun, hf, missF_nofault V r hf, hc, Bool.and_true, Bool.not_false]
  split
  · rfl
  · cases openAt V.H V.d σ (V.rsum r.input) (V.dsum r.cmd) with
    | ok body => dsimp only; cases V.inflate body <;> rfl
    | error e => rfl

/-- what a run shows **as the code defines**: the uncached observation, except for a run that tees
into a cache file (`armed`) and whose schedule makes a `Write` of the tee fail — that run shows
the chunks before the failing call and the status of the body whose write failed -/
def expectF (σ : Store) (r : FRun Cmd Input) : Observed :=
  if armed V σ r then
    match surfaced V r with
    | some k => faultObserved V r k
    | none => (V.exec r.cmd r.input).observed
  else (V.exec r.cmd r.input).observed

def expectHistF : Store → List (FRun Cmd Input) → List Observed
  | _, [] => []
  | σ, r :: rs => expectF V σ r :: expectHistF (stepF V σ r).1 rs

/-- **One run under ANY fault schedule, in a directory satisfying the invariant**, shows exactly
what the code defines (`expectF`): no hypothesis on the schedule — `os.Remove` may fail, too; the
schedule of THIS run never makes it show anything but the uncached bytes or a surfaced write
failure. -/
theorem step_transparent_under_faults (hy : FHyp V) {σ : Store} (hi : Inv V.toWorld σ)
    (r : FRun Cmd Input) : (stepF V σ r).2 = expectF V σ r := by
  unfold stepF expectF armed
  simp only
  by_cases hb : (r.nocache || !r.usable || (V.exec r.cmd r.input).early) = true
  · simp [hb]
  · rw [if_neg hb]
    cases ho : openAt V.H V.d σ (V.rsum r.input) (V.dsum r.cmd) with
    | ok body =>
      obtain ⟨hst, hinf⟩ := hi.hit hy.base r.cmd r.input ho
      simp only [Bool.and_false, Bool.false_and, Bool.false_eq_true, if_false]
      rw [hinf]
      simp [Outcome.observed, hst]
    | error e =>
      cases hc : r.faults.create <;> simp [hb, missF_obs] <;> cases surfaced V r <;> rfl

/-- **The invariant survives every fault schedule in which no `os.Remove` fails**: whatever fails
in `CreateLevel`, in any `Write`, in any step of `Close`. -/
theorem step_inv_under_faults (hy : FHyp V) {σ : Store} (hi : Inv V.toWorld σ) (r : FRun Cmd Input)
    (hrm : r.faults.removeWorks = true) : Inv V.toWorld (stepF V σ r).1 := by
  rcases stepF_store V σ r with ⟨-, h | h⟩ | ⟨hearly, cf, h⟩ <;> rw [h]
  · exact hi
  · exact inv_remove V.toWorld hi _
  · cases hm : (missF V r cf).1 with
    | none => exact inv_remove V.toWorld hi _
    | some disk =>
      obtain ⟨hdisk, hcm, -⟩ := missF_kept V r cf hrm hm
      rw [hdisk, hy.hchunks]
      exact inv_set_finish V.toWorld hy.base hi _ _ (hy.base.hcommit _ _ hcm) hearly

/-- the guard of the `…_partial` theorems on a history: no `os.Remove` of an entry being written fails -/
def removesWork (runs : List (FRun Cmd Input)) : Bool := runs.all fun r => r.faults.removeWorks

/-- **`no_bad_entry_under_faults`, the part that holds**: for ALL histories with ANY fault schedules
in which no `os.Remove` fails (guard `removesWork`: `os.Create`, the placeholder write, every
`Write` of the tee, the final flush, both seeks, the hashing read and the header write may fail, in
any run, in any combination), the invariant "every valid entry is the complete output of a
successful run with that key" holds after the history.

Full statement (FALSE, `no_bad_entry_under_faults_full_refuted`): the same without `removesWork`.
Missing: io.go ignores the result of `os.Remove`; when the removal of a discarded entry fails, the
finalised prefix stays. -/
theorem no_bad_entry_under_faults_partial (hy : FHyp V) : ∀ (runs : List (FRun Cmd Input)) {σ : Store},
    Inv V.toWorld σ → removesWork runs = true → Inv V.toWorld (historyF V σ runs).1
  | [], _, hi, _ => hi
  | r :: rs, _, hi, hg => by
    simp only [removesWork, List.all_cons, Bool.and_eq_true] at hg
    exact no_bad_entry_under_faults_partial hy rs (step_inv_under_faults V hy hi r hg.1) hg.2

/-- **`transparent_under_faults`, the part that holds**: for ALL histories of runs over a shared
cache directory with ANY fault schedules in which no `os.Remove` fails, EVERY run shows the output
bytes and the exit status of the command body run without cache, EXCEPT as the code defines
(`expectF`): a run that tees into a cache file and whose `k`-th `Write` of the tee is the first
with a fault shows the chunks before that call and exits with the status of a body whose write
failed.  No other fault is visible in any run.

Full statement (FALSE, `transparent_under_faults_full_refuted`): the same without `removesWork`. -/
theorem transparent_under_faults_partial (hy : FHyp V) : ∀ (runs : List (FRun Cmd Input)) {σ : Store},
    Inv V.toWorld σ → removesWork runs = true → (historyF V σ runs).2 = expectHistF V σ runs
  | [], _, _, _ => rfl
  | r :: rs, σ, hi, hg => by
    simp only [removesWork, List.all_cons, Bool.and_eq_true] at hg
    simp only [historyF, expectHistF]
    rw [step_transparent_under_faults V hy hi r,
      transparent_under_faults_partial hy rs (step_inv_under_faults V hy hi r hg.1) hg.2]

theorem expectHistF_no_write_fault : ∀ (runs : List (FRun Cmd Input)) (σ : Store),
    (∀ r ∈ runs, surfaced V r = none) →
    expectHistF V σ runs = runs.map fun r => (V.exec r.cmd r.input).observed
  | [], _, _ => rfl
  | r :: rs, σ, h => by
    simp only [expectHistF, List.map_cons]
    rw [expectHistF_no_write_fault rs _ (fun x hx => h x (List.mem_cons_of_mem _ hx))]
    simp [expectF, h r (List.mem_cons_self ..)]

/-- **Only a failed `Write` of the tee shows**: in a history whose schedules make no `Write` call of
a body fail (and no `os.Remove`), every run shows the bytes and the status of the uncached run —
whatever fails in `CreateLevel` (`os.Create`, the placeholder write) and in `Close` (the final
flush, the seeks, the hashing read, the header write), in any run. -/
theorem transparent_unless_write_fault (hy : FHyp V) (runs : List (FRun Cmd Input)) {σ : Store}
    (hi : Inv V.toWorld σ) (hg : removesWork runs = true) (hw : ∀ r ∈ runs, surfaced V r = none) :
    (historyF V σ runs).2 = runs.map fun r => (V.exec r.cmd r.input).observed := by
  rw [transparent_under_faults_partial V hy runs hi hg, expectHistF_no_write_fault V runs σ hw]

/-- **Which faults surface as a non-zero exit**: exactly a fault of a `Write` call the body makes,
in a run that tees.  If the `k`-th `Write` is the first with a fault entry, the run shows the first
`k` chunks — a prefix of the uncached output that lacks at least the `k`-th chunk — and the status
of the body whose write failed; when the body heeds write errors (`hheed`: all nineteen commands
return the error) that status is not 0, although the uncached run may exit 0. -/
theorem write_fault_surfaces (hy : FHyp V) {σ : Store} (hi : Inv V.toWorld σ) (r : FRun Cmd Input)
    (ha : armed V σ r = true) {k : Nat} (hk : surfaced V r = some k)
    (hheed : ∀ c i j, j < (V.chunks c i).length → (V.onWriteError c i j).status ≠ 0) :
    (stepF V σ r).2 = faultObserved V r k ∧ (stepF V σ r).2.status ≠ 0 ∧
      k < (V.chunks r.cmd r.input).length ∧
      (stepF V σ r).2.out ++ ((V.chunks r.cmd r.input).drop k).flatten = (V.exec r.cmd r.input).out := by
  have h := step_transparent_under_faults V hy hi r
  simp only [expectF, ha, hk, if_true] at h
  have hlt : k < (V.chunks r.cmd r.input).length := firstFault_lt hk
  refine ⟨h, ?_, hlt, ?_⟩
  · rw [h]; exact hheed _ _ _ hlt
  · rw [h, ← hy.hchunks]
    simp only [faultObserved]
    rw [← List.flatten_append, List.take_append_drop]

/-- **A run whose write failed leaves no entry** (when `os.Remove` works): after it, `cache.Open`
for its key fails — the next identical run starts over. -/
theorem write_fault_leaves_no_entry (σ : Store) (r : FRun Cmd Input)
    (ha : armed V σ r = true) {k : Nat} (hk : surfaced V r = some k)
    (hrm : r.faults.removeWorks = true) :
    openAt V.H V.d (stepF V σ r).1 (V.rsum r.input) (V.dsum r.cmd) = .error .notFound := by
  rcases stepF_store V σ r with ⟨hna, -⟩ | ⟨-, cf, h⟩
  · rw [ha] at hna; cases hna
  · rw [h]
    cases hm : (missF V r cf).1 with
    | none => exact openAt_set_none σ _ _
    | some disk =>
      obtain ⟨-, -, hs⟩ := missF_kept V r cf hrm hm
      rw [hs] at hk; cases hk

/-! ### a toy world with chunks; the refutation

Digest `toyH` (one byte: the sum), root sum `[7]`, data sum `[9]`, entry name `"10"`.  The body
writes `[1, 2]` and `[3]` and exits 0; when a write fails it exits 1 without `Commit`.  Codec:
`marker = true` — the stream of `w` is `w ++ [255]` and a stream without the end marker does not
inflate (what a truncated deflate stream does: the reader delivers what it can decode, then fails);
`marker = false` — the identity codec of the C13 witnesses. -/

def markDeflate (w : Bytes) : Bytes := w ++ [255]

def markInflate (s : Bytes) : Option Bytes := if s.getLast? = some 255 then some s.dropLast else none

def faultWorld (marker : Bool) : FWorld Unit Unit where
  H := C13.toyH
  d := 1
  deflate := if marker then markDeflate else id
  inflate := if marker then markInflate else some
  inflatePrefix := fun s => if marker then s else []
  exec := fun _ _ => ⟨[1, 2, 3], 0, true, false⟩
  payload := fun _ => [9]
  content := fun _ => [7]
  chunks := fun _ _ => [[1, 2], [3]]
  onWriteError := fun _ _ _ => ⟨1, false⟩

def faultRun (f : Faults) : FRun Unit Unit := ⟨(), (), false, false, true, f⟩

/-- non-vacuity: both toy worlds meet every hypothesis of the fault theorems -/
theorem faultWorld_hyp (marker : Bool) : FHyp (faultWorld marker) where
  base := {
    hH := C13.toyH_size
    hcodec := by
      intro w
      cases marker
      · rfl
      · simp [faultWorld, markInflate, markDeflate]
    hkey := fun _ _ _ _ _ _ => rfl
    hcommit := fun _ _ _ => rfl }
  hchunks := fun _ _ => rfl

theorem faultWorld_heeds (marker : Bool) :
    ∀ c i j, j < ((faultWorld marker).chunks c i).length → ((faultWorld marker).onWriteError c i j).status ≠ 0 := by
  intro _ _ _ _; simp [faultWorld]

/-- the schedule of the refutation: the second `Write` fails with 2 bytes of the stream on disk,
and the `os.Remove` in `Close` fails -/
def badSchedule : Faults := { writes := [none, some 2], rmClose := true }

/-- what the faulty run leaves: `r ‖ q ‖ H [1,2] ‖ [1,2]` — a finalised entry over a prefix -/
example : (stepF (faultWorld true) emptyStore (faultRun badSchedule)).1 "10" = some [7, 9, 3, 1, 2] := by
  decide +kernel

/-- **`no_bad_entry_under_faults` is FALSE when `os.Remove` can fail** (full statement: for all
histories and ALL fault schedules the invariant holds afterwards).  One run: the second `Write` of
the tee fails (2 of the 4 stream bytes are on disk), `cache.Close()` reports it — and still writes a
header that verifies over the prefix (C13 `failed_close_entry_verifies`) —, `Close` calls `os.Remove`,
which fails.  The entry `cache.Open` accepts afterwards is not the output of any run. -/
theorem no_bad_entry_under_faults_full_refuted :
    ¬ (∀ runs : List (FRun Unit Unit),
        Inv (faultWorld true).toWorld (historyF (faultWorld true) emptyStore runs).1) := by
  intro h
  obtain ⟨c, i, -, -, -, -, hinf⟩ := h [faultRun badSchedule] [7] [9] [1, 2] rfl rfl (by decide)
  cases c; cases i
  revert hinf
  decide +kernel

/-- **`transparent_under_faults` is FALSE when `os.Remove` can fail**: the two-run history "fault in
run 1, wrong bytes served in run 2".  Run 1 (schedule `badSchedule`) shows `[1, 2]` and exits 1 — as
the code defines.  Run 2 has NO fault at all, so the code defines the uncached observation
`[1, 2, 3]`, status 0 — but `cache.Open` accepts the entry run 1 left, the copy delivers `[1, 2]` and
fails on the truncated stream, the body then runs uncached: `[1, 2, 1, 2, 3]`, status 0.
(Replayed on the binary: harness case `unremovable` of `cli.faulthist`.) -/
theorem transparent_under_faults_full_refuted :
    (historyF (faultWorld true) emptyStore [faultRun badSchedule, faultRun {}]).2
      = [⟨[1, 2], 1⟩, ⟨[1, 2, 1, 2, 3], 0⟩] ∧
    expectHistF (faultWorld true) emptyStore [faultRun badSchedule, faultRun {}]
      = [⟨[1, 2], 1⟩, ⟨[1, 2, 3], 0⟩] ∧
    ¬ (∀ runs : List (FRun Unit Unit),
        (historyF (faultWorld true) emptyStore runs).2 = expectHistF (faultWorld true) emptyStore runs) := by
  refine ⟨by decide +kernel, by decide +kernel, fun h => ?_⟩
  -- at that history the two sides are the two lists above
  have := h [faultRun badSchedule, faultRun {}]
  revert this
  decide +kernel

/-- with a codec whose prefixes inflate (identity) the second run is a plain HIT on the prefix:
`[1, 2]`, status 0 -/
example : (historyF (faultWorld false) emptyStore [faultRun badSchedule, faultRun {}]).2
    = [⟨[1, 2], 1⟩, ⟨[1, 2], 0⟩] := by decide +kernel

/-- a fault of the final flush instead of a `Write` (C13 `failed_close_may_verify`): run 1 is
transparent (`[1, 2, 3]`, status 0: the error of `cache.Close()` is swallowed), run 2 is not -/
example : (historyF (faultWorld true) emptyStore
      [faultRun { close := { flush := some 2 }, rmClose := true }, faultRun {}]).2
    = [⟨[1, 2, 3], 0⟩, ⟨[1, 2, 1, 2, 3], 0⟩] := by decide +kernel

/-- the other ignored `os.Remove` (C13 `create_error_must_be_heeded`): the placeholder write fails
after 1 byte and the `os.Remove` in `TryCache` fails; every `Write` and `Close` return nil, the run
commits, the entry stays — run 2 is a hit that shows `[3]` -/
example : (historyF (faultWorld true) emptyStore
      [faultRun { create := .placeholder 1, rmCreate := true }, faultRun {}]).2
    = [⟨[1, 2, 3], 0⟩, ⟨[3], 0⟩] := by decide +kernel

/-- the same schedules with a working `os.Remove`: both runs show the uncached bytes, except the
run whose write failed — `transparent_under_faults_partial` instantiated -/
example : (historyF (faultWorld true) emptyStore
      [faultRun { writes := [none, some 2] }, faultRun { close := { flush := some 2 } },
       faultRun { create := .placeholder 1 }, faultRun { create := .osCreate }, faultRun {}, faultRun {}]).2
    = [⟨[1, 2], 1⟩, ⟨[1, 2, 3], 0⟩, ⟨[1, 2, 3], 0⟩, ⟨[1, 2, 3], 0⟩, ⟨[1, 2, 3], 0⟩, ⟨[1, 2, 3], 0⟩] := by
  rw [transparent_under_faults_partial (faultWorld true) (faultWorld_hyp true) _ (inv_empty _) (by decide)]
  decide +kernel

/-- non-vacuity of `no_bad_entry_under_faults_partial`: after these six runs the directory holds the
entry of the fifth, the first with no fault at all (the sixth is a hit) -/
example : (historyF (faultWorld true) emptyStore
      [faultRun { writes := [none, some 2] }, faultRun { close := { flush := some 2 } },
       faultRun { create := .placeholder 1 }, faultRun { create := .osCreate }, faultRun {}, faultRun {}]).1 "10"
    = some [7, 9, 5, 1, 2, 3, 255] := by decide +kernel

/-- non-vacuity of `write_fault_surfaces` / `write_fault_leaves_no_entry`: the first run of that
history tees, its second `Write` is the first to fail -/
example : armed (faultWorld true) emptyStore (faultRun { writes := [none, some 2] }) = true ∧
    surfaced (faultWorld true) (faultRun { writes := [none, some 2] }) = some 1 ∧
    (faultRun { writes := [none, some 2] } : FRun Unit Unit).faults.removeWorks = true := by decide +kernel

/-- non-vacuity of `transparent_unless_write_fault`: faults in `CreateLevel` and `Close` only -/
example : (historyF (faultWorld true) emptyStore
      [faultRun { close := { header := some 1 } }, faultRun { create := .placeholder 0, close := { seekStart := some 0 } }]).2
    = [⟨[1, 2, 3], 0⟩, ⟨[1, 2, 3], 0⟩] :=
  transparent_unless_write_fault (faultWorld true) (faultWorld_hyp true) _ (inv_empty _) (by decide)
    (by decide)

/-- a write fault surfaces even when the entry has been given up already: the placeholder write
fails (the name is removed), the tee goes on into the unlinked file, its first `Write` fails — the
command fails with no output, and nothing is left (harness case "placeholder fails, then a write") -/
example : (stepF (faultWorld true) emptyStore (faultRun { create := .placeholder 1, writes := [some 0] })).2
    = ⟨[], 1⟩ := by decide +kernel

example : (stepF (faultWorld true) emptyStore (faultRun { create := .placeholder 1, writes := [some 0] })).1 "10"
    = none := by decide +kernel

/-- non-vacuity of `stepF_nofault` -/
example : stepF (faultWorld true) emptyStore (faultRun {})
    = step (faultWorld true).toWorld emptyStore ((faultRun {}).toRun true) :=
  stepF_nofault (faultWorld true) (fun _ _ => rfl) _ _ rfl

end faults

end Gts.C14
