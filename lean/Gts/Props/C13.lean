/-
  C13 — a cache entry is returned only if it is exactly what was written.
  Property theorems over `Gts/Model/CacheFile.lean`, for ALL byte lists, an arbitrary digest `H`
  of size `d` and an arbitrary `deflate/inflate` pair.  Collision freedom of `H` is never assumed:
  where two bodies must hash differently this is a hypothesis of the theorem.
-/
import Gts.Model.CacheFile
import Gts.Lemmas.CacheFault
namespace Gts.C13
open Gts.Cache

variable {H : Bytes → Bytes} {d : Nat}

private theorem length_zeros (n : Nat) : (zeros n).length = n := by simp [zeros]

theorem error_of_not_ok {ε α : Type} {x : Except ε α} (h : ∀ a, x ≠ .ok a) : ∃ e, x = .error e := by
  cases x with
  | error e => exact ⟨e, rfl⟩
  | ok a => exact absurd rfl (h a)

private theorem header_len (hH : ∀ x, (H x).length = d) {r q : Bytes} (hr : r.length = d) (hq : q.length = d)
    (b : Bytes) : (r ++ q ++ H b).length = 3 * d := by
  simp [hr, hq, hH]; omega

private theorem overwrite_placeholder (hH : ∀ x, (H x).length = d) {r q : Bytes} (hr : r.length = d) (hq : q.length = d)
    (body : Bytes) : overwrite (zeros (3 * d) ++ body) (r ++ q ++ H body) = finished H r q body := by
  rw [overwrite, header_len hH hr hq, List.drop_left' (length_zeros _)]
  rfl

private theorem readHeader_ok_iff (f : Bytes) (hd : Header) :
    readHeader d f = .ok hd ↔
      ((f.take (3 * d)).length = 3 * d ∧
        hd = ⟨(f.take (3 * d)).take d, ((f.take (3 * d)).drop d).take d,
              (f.take (3 * d)).drop (2 * d)⟩) := by
  unfold readHeader
  generalize f.take (3 * d) = p
  dsimp only
  by_cases h1 : p.length = 3 * d
  · rw [if_neg (by omega), if_neg (not_not_intro h1)]
    exact ⟨fun h' => ⟨h1, (Except.ok.inj h').symm⟩, fun h' => by rw [h'.2]⟩
  · split <;> exact ⟨nofun, fun h' => absurd h'.1 h1⟩

private theorem validate_ok_iff (hd : Header) (r q b : Bytes) :
    hd.validate r q b = .ok () ↔ (r = hd.root ∧ q = hd.data ∧ b = hd.body) := by
  unfold Header.validate
  by_cases h1 : r = hd.root <;> by_cases h2 : q = hd.data <;> by_cases h3 : b = hd.body <;> simp [h1, h2, h3]

private theorem openf_ok_iff (f r q x : Bytes) :
    openf H d f r q = .ok x ↔
      ((f.take (3 * d)).length = 3 * d ∧ r = (f.take (3 * d)).take d
        ∧ q = ((f.take (3 * d)).drop d).take d ∧ H (f.drop (3 * d)) = (f.take (3 * d)).drop (2 * d)
        ∧ x = f.drop (3 * d)) := by
  unfold openf
  cases hrh : readHeader d f with
  | error e =>
    refine ⟨nofun, fun h => ?_⟩
    rw [(readHeader_ok_iff f _).2 ⟨h.1, rfl⟩] at hrh; cases hrh
  | ok hd =>
    obtain ⟨h1, rfl⟩ := (readHeader_ok_iff f hd).1 hrh
    dsimp only
    cases hv : Header.validate _ r q (H (f.drop (3 * d))) with
    | error e =>
      refine ⟨nofun, fun h => ?_⟩
      rw [(validate_ok_iff _ r q _).2 ⟨h.2.1, h.2.2.1, h.2.2.2.1⟩] at hv; cases hv
    | ok u =>
      obtain ⟨h2, h3, h4⟩ := (validate_ok_iff _ r q _).1 hv
      exact ⟨fun h' => ⟨h1, h2, h3, h4, (Except.ok.inj h').symm⟩, fun h' => by rw [h'.2.2.2.2]⟩

/-- whatever `Open` accepts, it hands the bytes after the header to the reader -/
theorem open_ok_drop {f r q x : Bytes} (h : openf H d f r q = .ok x) : x = f.drop (3 * d) :=
  ((openf_ok_iff f r q x).1 h).2.2.2.2

/-- **Soundness of `Open`** (no hypothesis at all): if `Open` succeeds on file contents `f` for the
caller's sums `r, q`, then `f` is byte for byte `r ‖ q ‖ H body ‖ body`, where `body` is what
the reader is given. -/
theorem open_sound {f r q body : Bytes} (h : openf H d f r q = .ok body) :
    f = r ++ q ++ H body ++ body := by
  obtain ⟨_, hr, hq, hb, hx⟩ := (openf_ok_iff f r q body).1 h
  subst hx
  rw [hb, hr, hq]
  have e1 : (List.take (3 * d) f).drop (2 * d) = ((List.take (3 * d) f).drop d).drop d := by
    rw [List.drop_drop]; congr 1; omega
  rw [e1, List.append_assoc (List.take d _), List.take_append_drop, List.take_append_drop,
    List.take_append_drop]

/-- **Completeness of `Open`**: a file of the shape `r ‖ q ‖ H body ‖ body` with sums of the
digest's size is accepted, and the reader is given `body`. -/
theorem open_complete (hH : ∀ x, (H x).length = d) {r q : Bytes}
    (hr : r.length = d) (hq : q.length = d) (body : Bytes) :
    openf H d (finished H r q body) r q = .ok body := by
  have hlen := header_len hH hr hq body
  have htake : (finished H r q body).take (3 * d) = r ++ q ++ H body := List.take_left' hlen
  have hdrop : (finished H r q body).drop (3 * d) = body := List.drop_left' hlen
  rw [openf_ok_iff, htake, hdrop]
  refine ⟨hlen, ?_, ?_, ?_, rfl⟩
  · rw [List.append_assoc]; exact (List.take_left' hr).symm
  · rw [List.append_assoc, List.drop_left' hr]; exact (List.take_left' hq).symm
  · have : (r ++ q).length = 2 * d := by simp [hr, hq]; omega
    exact (List.drop_left' this).symm

/-- `Open f r q` succeeds **iff** `f = r ‖ q ‖ H body ‖ body` (for sums of the digest's size) -/
theorem open_ok_iff (hH : ∀ x, (H x).length = d) {r q : Bytes}
    (hr : r.length = d) (hq : q.length = d) (f body : Bytes) :
    openf H d f r q = .ok body ↔ f = finished H r q body :=
  ⟨open_sound, fun h => h ▸ open_complete hH hr hq body⟩

/-- `Create; Write…; Close` leaves exactly `r ‖ q ‖ H (deflate w) ‖ deflate w` on disk -/
theorem finish_eq (hH : ∀ x, (H x).length = d) (deflate : Bytes → Bytes) {r q : Bytes}
    (hr : r.length = d) (hq : q.length = d) (w : Bytes) :
    finish H d deflate r q w = finished H r q (deflate w) := by
  have hz : (zeros (3 * d) ++ deflate w).drop (3 * d) = deflate w :=
    List.drop_left' (length_zeros _)
  simp only [finish, close, write, create, List.nil_append, hz]
  exact overwrite_placeholder hH hr hq _

/-- the same for any sequence of `Write` calls: only the concatenation matters -/
theorem finish_chunks_eq (hH : ∀ x, (H x).length = d) (deflate : Bytes → Bytes) {r q : Bytes}
    (hr : r.length = d) (hq : q.length = d) (ws : List Bytes) :
    close H d deflate (ws.foldl write (create d r q)) = finished H r q (deflate ws.flatten) := by
  have hfold : ∀ (ws : List Bytes) (w : Writer), ws.foldl write w
      = { w with plain := w.plain ++ ws.flatten } := by
    intro ws
    induction ws with
    | nil => intro w; simp
    | cons a t ih => intro w; simp [ih, write, List.append_assoc]
  have := finish_eq hH deflate hr hq ws.flatten
  simp only [finish, write, create, List.nil_append] at this
  rw [hfold]; simpa [create] using this

/-- **What is written is what is read**: with a correct codec, `Create; Write w; Close` followed
by `Open` with the same sums and reading to EOF yields exactly `w`. -/
theorem open_close (hH : ∀ x, (H x).length = d)
    (deflate : Bytes → Bytes) (inflate : Bytes → Option Bytes) {r q : Bytes}
    (hr : r.length = d) (hq : q.length = d) (w : Bytes)
    (hcodec : inflate (deflate w) = some w) :
    openRead H d inflate (finish H d deflate r q w) r q = .ok w := by
  simp [openRead, finish_eq hH deflate hr hq, open_complete hH hr hq, readAll, hcodec]

/-- **Header corruption** (unconditional): replacing any single byte inside the header of a
finished file by a different value makes `Open` fail — for the root and data parts because they
are compared with the caller's sums, for the body-sum part because the body is unchanged. -/
theorem corrupt_header (hH : ∀ x, (H x).length = d) {r q : Bytes}
    (hr : r.length = d) (hq : q.length = d) (body : Bytes) (i : Nat) (v : UInt8)
    (hi : i < 3 * d) (hv : (finished H r q body)[i]? ≠ some v) :
    ∃ e, openf H d ((finished H r q body).set i v) r q = .error e := by
  refine error_of_not_ok fun x hres => ?_
  have hlen := header_len hH hr hq body
  have hx := open_ok_drop hres
  have hdrop : ((finished H r q body).set i v).drop (3 * d) = body := by
    rw [List.drop_set_of_lt hi]
    exact List.drop_left' hlen
  rw [hdrop] at hx; subst hx
  have hs := open_sound hres
  apply hv
  show (r ++ q ++ H x ++ x)[i]? = some v
  rw [← hs]
  have hil : i < (finished H r q x).length := by
    simp only [finished, List.length_append] at hlen ⊢; omega
  simp [hil]

/-- **Body corruption**: a finished file whose body is replaced by ANY other byte list `body'`
(a flipped byte, a shorter or a longer body) is rejected, provided the two bodies do not collide
under `H` (hypothesis; the header still carries `H body`). -/
theorem corrupt_body_general {r q : Bytes} (body body' : Bytes)
    (hne : H body' ≠ H body) (hH : ∀ x, (H x).length = d)
    (hr : r.length = d) (hq : q.length = d) :
    ∃ e, openf H d (r ++ q ++ H body ++ body') r q = .error e := by
  refine error_of_not_ok fun x hres => ?_
  have hlen := header_len hH hr hq body
  have hx := open_ok_drop hres
  have hdrop : (r ++ q ++ H body ++ body').drop (3 * d) = body' := List.drop_left' hlen
  rw [hdrop] at hx; subst hx
  have hs := open_sound hres
  exact hne (List.append_cancel_left (List.append_cancel_right hs)).symm

/-- **Single-byte body corruption**: changing the byte at body offset `i` to `v` is detected
under the hypothesis that the changed body does not collide with the original. -/
theorem corrupt_body (hH : ∀ x, (H x).length = d) {r q : Bytes}
    (hr : r.length = d) (hq : q.length = d) (body : Bytes) (i : Nat) (v : UInt8)
    (hne : H (body.set i v) ≠ H body) :
    ∃ e, openf H d ((finished H r q body).set (3 * d + i) v) r q = .error e := by
  have hlen := header_len hH hr hq body
  have : (finished H r q body).set (3 * d + i) v = r ++ q ++ H body ++ body.set i v := by
    unfold finished
    rw [List.set_append_right _ _ (by omega), hlen]
    congr 2; omega
  rw [this]
  exact corrupt_body_general body _ hne hH hr hq

/-- **Truncation**: every proper prefix of a finished file is rejected — unconditionally when the
cut is inside the header (short read / EOF), and under the no-collision hypothesis for the
truncated body otherwise. -/
theorem truncate (hH : ∀ x, (H x).length = d) {r q : Bytes}
    (hr : r.length = d) (hq : q.length = d) (body : Bytes) (n : Nat)
    (hn : n < (finished H r q body).length)
    (hne : 3 * d ≤ n → H (body.take (n - 3 * d)) ≠ H body) :
    ∃ e, openf H d ((finished H r q body).take n) r q = .error e := by
  have hlen := header_len hH hr hq body
  by_cases hcut : n < 3 * d
  · refine error_of_not_ok fun x hres => ?_
    have := ((openf_ok_iff _ r q x).1 hres).1
    simp only [List.length_take] at this
    omega
  · have hge : 3 * d ≤ n := by omega
    have : (finished H r q body).take n = r ++ q ++ H body ++ body.take (n - 3 * d) := by
      unfold finished
      rw [List.take_append, hlen, List.take_of_length_le (by omega)]
    rw [this]
    exact corrupt_body_general body _ (hne hge) hH hr hq

/-- **Extension**: a finished file with a non-empty tail appended is rejected under the hypothesis
that the extended body does not collide with the original (flate itself would ignore the tail). -/
theorem extend (hH : ∀ x, (H x).length = d) {r q : Bytes}
    (hr : r.length = d) (hq : q.length = d) (body tail : Bytes)
    (hne : H (body ++ tail) ≠ H body) :
    ∃ e, openf H d (finished H r q body ++ tail) r q = .error e := by
  have : finished H r q body ++ tail = r ++ q ++ H body ++ (body ++ tail) := by
    simp [finished, List.append_assoc]
  rw [this]
  exact corrupt_body_general body _ hne hH hr hq

/-- **Any single-byte corruption of a finished file** (header part unconditional, body part under
the no-collision hypothesis for that one changed body). -/
theorem corrupt_byte (hH : ∀ x, (H x).length = d) {r q : Bytes}
    (hr : r.length = d) (hq : q.length = d) (body : Bytes) (i : Nat) (v : UInt8)
    (hv : (finished H r q body)[i]? ≠ some v)
    (hne : 3 * d ≤ i → H (body.set (i - 3 * d) v) ≠ H body) :
    ∃ e, openf H d ((finished H r q body).set i v) r q = .error e := by
  by_cases hi : i < 3 * d
  · exact corrupt_header hH hr hq body i v hi hv
  · have : i = 3 * d + (i - 3 * d) := by omega
    rw [this]
    exact corrupt_body hH hr hq body _ v (hne (by omega))

/-- **Wrong key** (unconditional): a file finished for `(r, q)` presented to `Open` with different
sums `(r', q')` is rejected, whatever the digest. -/
theorem wrong_key {r q r' q' : Bytes}
    (hr : r.length = d) (hq : q.length = d) (hr' : r'.length = d) (hq' : q'.length = d)
    (body : Bytes) (hkey : (r', q') ≠ (r, q)) :
    ∃ e, openf H d (finished H r q body) r' q' = .error e := by
  refine error_of_not_ok fun x hres => ?_
  have hs := open_sound hres
  unfold finished at hs
  simp only [List.append_assoc] at hs
  have h1 := List.append_inj hs (hr.trans hr'.symm)
  have h2 := List.append_inj h1.2 (hq.trans hq'.symm)
  exact hkey (by rw [h1.1, h2.1])

/-- … and through the directory: the real `Open` derives the file NAME from the sums, so a file
finished for `(r, q)` can be reached with `(r', q')` only when it sits under the other name
(name collision `H (r ‖ q) = H (r' ‖ q')`, copy, rename).  Even then it is rejected. -/
theorem wrong_key_store {r q r' q' : Bytes}
    (hr : r.length = d) (hq : q.length = d) (hr' : r'.length = d) (hq' : q'.length = d)
    (body : Bytes) (hkey : (r', q') ≠ (r, q)) (s : Store)
    (hs : s (name H r' q') = some (finished H r q body)) :
    ∃ e, openAt H d s r' q' = .error e := by
  simp only [openAt, hs]
  exact wrong_key hr hq hr' hq' body hkey

theorem open_missing (s : Store) (r q : Bytes) (hs : s (name H r q) = none) :
    openAt H d s r q = .error .notFound := by
  simp [openAt, hs]

/-! ### interrupted writers -/

/-- **Torn header writes are harmless** (no hypothesis on `H`, `r`, `q`): once the whole body is
on disk, whatever part of the final header has been written over the placeholder, `Open` either
fails or returns the complete body. -/
theorem crash_header_safe (hH : ∀ x, (H x).length = d) {r q : Bytes}
    (hr : r.length = d) (hq : q.length = d) (body : Bytes) (k : Nat) (x : Bytes)
    (h : openf H d (overwrite (zeros (3 * d) ++ body) ((r ++ q ++ H body).take k)) r q = .ok x) :
    x = body := by
  have hlen := header_len hH hr hq body
  have hm : ((r ++ q ++ H body).take k).length ≤ 3 * d := by
    rw [List.length_take, hlen]; exact Nat.min_le_right _ _
  generalize (r ++ q ++ H body).take k = t at h hm
  rw [open_ok_drop h]
  unfold overwrite
  have e : (zeros (3 * d) ++ body).drop t.length = (zeros (3 * d)).drop t.length ++ body :=
    List.drop_append_of_le_length (by rw [length_zeros]; exact hm)
  rw [e, ← List.append_assoc]
  exact List.drop_left' (by rw [List.length_append, List.length_drop, length_zeros]; omega)

/-- the placeholder taken for a header: a file that is still the placeholder followed by `b` is accepted exactly when both
sums and the digest of `b` are all-zero (and then `b` is what the reader is given) -/
private theorem open_placeholder_iff (r q b x : Bytes) :
    openf H d (zeros (3 * d) ++ b) r q = .ok x ↔ r = zeros d ∧ q = zeros d ∧ H b = zeros d ∧ x = b := by
  rw [openf_ok_iff, List.take_left' (length_zeros _), List.drop_left' (length_zeros _)]
  simp only [zeros, List.take_replicate, List.drop_replicate, List.length_replicate, true_and]
  have : min d (3 * d) = d ∧ min d (3 * d - d) = d ∧ 3 * d - 2 * d = d := by omega
  rw [this.1, this.2.1, this.2.2]

/-- **Crash safety, exact form.**  For sums of the digest's size: *every* state an interrupted
writer can leave behind is either rejected by `Open` or yields the complete compressed body
**if and only if** it is not the case that `r` and `q` are all-zero AND some proper prefix of the
body hashes to all-zero.  (Only the states "placeholder + proper body prefix" can go wrong, and
only by the placeholder being mistaken for a real header.) -/
theorem crash_safe_iff (hH : ∀ x, (H x).length = d) {r q : Bytes}
    (hr : r.length = d) (hq : q.length = d) (body : Bytes) :
    (∀ s ∈ crashStates H d r q body, ∀ x, openf H d s r q = .ok x → x = body)
    ↔ ¬ (r = zeros d ∧ q = zeros d ∧ ∃ k, k < body.length ∧ H (body.take k) = zeros d) := by
  constructor
  · rintro hall ⟨hrz, hqz, k, hk, hHk⟩
    have hmem : zeros (3 * d) ++ body.take k ∈ crashStates H d r q body := by
      simp only [crashStates, List.mem_append, List.mem_map, List.mem_range]
      exact .inl (.inr ⟨k, by omega, rfl⟩)
    have hbad := congrArg List.length
      (hall _ hmem _ ((open_placeholder_iff r q _ _).2 ⟨hrz, hqz, hHk, rfl⟩))
    rw [List.length_take] at hbad
    omega
  · intro hno s hs x hx
    simp only [crashStates, List.mem_append, List.mem_map, List.mem_range] at hs
    rcases hs with (⟨k, hk, rfl⟩ | ⟨k, -, rfl⟩) | ⟨k, -, rfl⟩
    · exfalso
      have := ((openf_ok_iff _ r q x).1 hx).1
      rw [List.length_take, length_zeros] at this
      omega
    · obtain ⟨h1, h2, h3, rfl⟩ := (open_placeholder_iff r q _ _).1 hx
      by_cases hkl : k < body.length
      · exact absurd ⟨h1, h2, k, hkl, h3⟩ hno
      · exact List.take_of_length_le (by omega)
    · exact crash_header_safe hH hr hq body k x hx

/-- **Crash safety.**  If the caller's root sum or data sum is not all-zero — or no proper prefix of
the compressed body hashes to all-zero — then every state an interrupted writer can leave behind
(placeholder partly written; placeholder + any body prefix; whole body + any prefix of the final
header over the placeholder) is either rejected by `Open` or yields the complete body.
By `crash_safe_iff` this hypothesis is the weakest possible.  In `gts`, `r` is the SHA-1 of the
input file and `q` the SHA-1 of the arguments, so the hypothesis fails only for SHA-1 preimages
of `0²⁰`. -/
theorem crash_safe (hH : ∀ x, (H x).length = d) {r q : Bytes}
    (hr : r.length = d) (hq : q.length = d) (body : Bytes)
    (hkey : r ≠ zeros d ∨ q ≠ zeros d ∨ ∀ k, k < body.length → H (body.take k) ≠ zeros d)
    (s : Bytes) (hs : s ∈ crashStates H d r q body) (x : Bytes)
    (hx : openf H d s r q = .ok x) : x = body := by
  refine (crash_safe_iff hH hr hq body).2 ?_ s hs x hx
  rintro ⟨h1, h2, k, hk, h3⟩
  rcases hkey with h | h | h
  · exact h h1
  · exact h h2
  · exact h k hk h3

/-- … and such an accepted crash state IS the finished file, byte for byte. -/
theorem crash_safe_file (hH : ∀ x, (H x).length = d) {r q : Bytes}
    (hr : r.length = d) (hq : q.length = d) (body : Bytes)
    (hkey : r ≠ zeros d ∨ q ≠ zeros d ∨ ∀ k, k < body.length → H (body.take k) ≠ zeros d)
    (s : Bytes) (hs : s ∈ crashStates H d r q body) (x : Bytes)
    (hx : openf H d s r q = .ok x) : s = finished H r q body := by
  have := crash_safe hH hr hq body hkey s hs x hx
  subst this
  exact open_sound hx

/-- Crash safety stated on the writer: whatever is read back from an interrupted
`Create; Write w; Close` is exactly `w`. -/
theorem crash_safe_read (hH : ∀ x, (H x).length = d)
    (deflate : Bytes → Bytes) (inflate : Bytes → Option Bytes) {r q : Bytes}
    (hr : r.length = d) (hq : q.length = d) (w : Bytes)
    (hcodec : inflate (deflate w) = some w) (hkey : r ≠ zeros d ∨ q ≠ zeros d)
    (s : Bytes) (hs : s ∈ crashStatesOf H d deflate r q w) (y : Bytes)
    (hy : openRead H d inflate s r q = .ok y) : y = w := by
  unfold openRead at hy
  cases hx : openf H d s r q with
  | error e => rw [hx] at hy; cases hy
  | ok x =>
    rw [hx] at hy
    have := crash_safe hH hr hq (deflate w) (hkey.imp_right .inl) s hs x hx
    subst this
    simp only [readAll, hcodec] at hy
    injection hy with hy
    exact hy.symm

/-- the finished file is itself the last crash state (the enumeration is not empty and reaches the
end of the protocol) -/
theorem finished_mem_crashStates (hH : ∀ x, (H x).length = d) {r q : Bytes}
    (hr : r.length = d) (hq : q.length = d) (body : Bytes) :
    finished H r q body ∈ crashStates H d r q body := by
  simp only [crashStates, List.mem_append, List.mem_map, List.mem_range]
  exact .inr ⟨(r ++ q ++ H body).length, by omega, by rw [List.take_length, overwrite_placeholder hH hr hq]⟩

/-! ### I/O faults of a writer that lives on (`Gts/Model/CacheFault.lean`)

`crashStates` is a process that dies.  Here the process lives and individual I/O steps fail: the
placeholder write of `CreateLevel`, the file writes flate performs during `File.Write`, and in
`File.Close` the final flush, the seek behind the header, the read that hashes the body, the seek
to 0 and the header write (`Session` = one fault entry per step; a failed write has written a
prefix).  `runSession` follows file.go: every step of `Close` runs, `ret` keeps the FIRST error.
The regenerated `CreateLevel` / `Write` / `Close`, run on the model's machine, are proved equal to
`createF` / `writeF` / `closeF` in `Gts/Bridge/CacheFile.lean`. -/

/-- **`Close` returns the FIRST error, in statement order**: a flate writer that is broken (an
earlier `Write` failed) or whose final flush fails gives the flate error; else the seek behind the
header; else the read that hashes the body; else the seek to 0; else the header write; else `nil`
— for every writer state and every fault pattern. -/
theorem close_first_error (deflate : Bytes → Bytes) (w : FWriter) (cf : CloseFaults) :
    (closeF H d deflate w cf).2 = closeErrSpec w cf :=
  closeF_err H d deflate w cf

/-- **A failed final flush is reported**: whatever else happens in `Close` (the later steps still
run and may all succeed), if `f.wr.Close()` fails then `Close` returns an error — the flate
error, because nothing precedes it.  (The clause seeded change C13-g drops.) -/
theorem close_reports_flush_failure (deflate : Bytes → Bytes) (w : FWriter) (cf : CloseFaults)
    (k : Nat) (hflush : cf.flush = some k) :
    (closeF H d deflate w cf).2 = some .flate := by
  rw [closeF_err]
  simp [closeErrSpec, hflush]

/-- … stated on a whole session -/
theorem session_reports_flush_failure (deflate : Bytes → Bytes) (r q : Bytes) (s : Session)
    (k : Nat) (hflush : s.close.flush = some k) :
    (runSession H d deflate r q s).closeErr = some .flate := by
  simp only [runSession]
  exact close_reports_flush_failure deflate _ _ k hflush

/-- **A failed `Write` is reported again by `Close`** (flate's write error is sticky): if any
`Write` of the session returned an error, `Close` returns an error too. -/
theorem write_failure_reported_by_close (deflate : Bytes → Bytes) (r q : Bytes) (s : Session)
    (hw : ∃ e ∈ (runSession H d deflate r q s).writeErrs, e ≠ none) :
    (runSession H d deflate r q s).closeErr = some .flate := by
  simp only [runSession] at hw ⊢
  rw [closeF_err]
  have := writesF_err_broken deflate s.writes _ hw
  simp [closeErrSpec, this]

/-- **An error-free writer leaves a faithful entry.**  For EVERY fault pattern: if `CreateLevel`,
every `Write` and `Close` returned no error, then the file on disk is exactly
`finish r q w` for `w` = everything that was written — `r ‖ q ‖ H (deflate w) ‖ deflate w` by
`finish_eq`.  Arbitrary digest and codec; no hypothesis on them. -/
theorem close_ok_roundtrip (deflate : Bytes → Bytes) (r q : Bytes) (s : Session)
    (hclean : (runSession H d deflate r q s).clean = true) :
    (runSession H d deflate r q s).disk = finish H d deflate r q s.written := by
  simp only [runSession, SessionResult.clean, Bool.and_eq_true, Option.isNone_iff_eq_none,
    List.all_eq_true] at hclean ⊢
  obtain ⟨⟨hc, hw⟩, hcl⟩ := hclean
  -- CreateLevel returned nil: the placeholder is on disk
  have hcreate : s.create = none := by
    cases h : s.create with
    | none => rfl
    | some k => rw [h] at hc; simp [createF] at hc
  rw [hcreate] at hw hcl ⊢
  simp only [createF] at hw hcl ⊢
  -- every Write returned nil: the writer only collected the bytes
  have hws := writesF_clean deflate s.writes ⟨zeros (3 * d), 3 * d, r, q, [], false⟩ rfl hw
  rw [hws] at hcl ⊢
  -- Close returned nil: no step failed
  rw [closeF_err] at hcl
  obtain ⟨-, hcf⟩ := closeErrSpec_none hcl
  rw [hcf, closeF_nofault H d deflate _ (by simp [zeros]) rfl]
  simp [finish, write, create, Session.written]

/-- … so it opens and reads back exactly what was written (`open_close`) -/
theorem close_ok_reads_back (hH : ∀ x, (H x).length = d)
    (deflate : Bytes → Bytes) (inflate : Bytes → Option Bytes) {r q : Bytes}
    (hr : r.length = d) (hq : q.length = d) (s : Session)
    (hcodec : inflate (deflate s.written) = some s.written)
    (hclean : (runSession H d deflate r q s).clean = true) :
    openRead H d inflate (runSession H d deflate r q s).disk r q = .ok s.written := by
  rw [close_ok_roundtrip deflate r q s hclean]
  exact open_close hH deflate inflate hr hq _ hcodec

/-- **What is on disk after a reported failure.**  If `CreateLevel` worked and, in `Close`, the two
seeks, the hashing read and the header write work, then — WHATEVER happened to the body writes and
the final flush — `Close` leaves a well-formed entry `r ‖ q ‖ H body' ‖ body'` over whatever part
`body'` of the compressed stream reached the disk: `Open` ACCEPTS it.  So a failure reported by
`Write` or `Close` must be acted upon by the caller (cmd/gts/io.go `ioDelegate.Close` removes the
entry when `d.cache.Close()` returns an error: `Gts.Bridge.CacheFile.ioClose_discards_on_error`);
the file itself does not show it (`failed_close_may_verify`). -/
theorem failed_close_entry_verifies (hH : ∀ x, (H x).length = d)
    (deflate : Bytes → Bytes) {r q : Bytes} (hr : r.length = d) (hq : q.length = d) (s : Session)
    (hcreate : s.create = none)
    (htail : s.close.seekBody = none ∧ s.close.copy = none ∧ s.close.seekStart = none
      ∧ s.close.header = none) :
    ∃ body', (runSession H d deflate r q s).disk = finished H r q body'
      ∧ openf H d (runSession H d deflate r q s).disk r q = .ok body' := by
  obtain ⟨h2, h3, h4, h5⟩ := htail
  simp only [runSession, hcreate, createF]
  obtain ⟨hend, hr1, hq1, t, hdata⟩ := writesF_grows deflate s.writes ⟨zeros (3 * d), 3 * d, r, q, [], false⟩
    (by simp [FWriter.atEnd, zeros])
  generalize (writesF deflate ⟨zeros (3 * d), 3 * d, r, q, [], false⟩ s.writes).1 = w1 at hend hdata hr1 hq1
  simp only [FWriter.atEnd] at hend hdata hr1 hq1
  refine ⟨t ++ flushed deflate w1 s.close, ?_⟩
  -- what the flush step leaves on disk is the placeholder followed by some bytes; the header is computed over them
  have hdisk : (closeF H d deflate w1 s.close).1 = finished H r q (t ++ flushed deflate w1 s.close) := by
    rw [closeF_tail_ok H d deflate w1 s.close hend h2 h3 h4 h5, writeAt_zero, hdata, hr1, hq1, List.append_assoc,
      List.drop_left' (length_zeros _)]
    exact overwrite_placeholder hH hr hq _
  rw [hdisk]
  exact ⟨rfl, open_complete hH hr hq _⟩

/-! ### non-vacuity, and the hypotheses cannot be dropped

A toy digest of size 1 (sum of the bytes mod 256) and the identity codec instantiate every
hypothesis; the same toy digest has collisions and zero values, which gives concrete accepted
corruptions as soon as the corresponding hypothesis is dropped. -/

def toyH (x : Bytes) : Bytes := [x.foldl (· + ·) 0]

theorem toyH_size : ∀ x, (toyH x).length = 1 := fun _ => rfl

example : finish toyH 1 id [7] [9] [1, 2, 3] = [7, 9, 6, 1, 2, 3] := by decide +kernel

example : openRead toyH 1 some (finish toyH 1 id [7] [9] [1, 2, 3]) [7] [9] = .ok [1, 2, 3] :=
  open_close toyH_size id some rfl rfl [1, 2, 3] rfl

/-- `corrupt_body` instantiated: `[1, 2, 4]` does not collide with `[1, 2, 3]` -/
example : ∃ e, openf toyH 1 ((finished toyH [7] [9] [1, 2, 3]).set (3 * 1 + 2) 4) [7] [9] = .error e :=
  corrupt_body toyH_size rfl rfl [1, 2, 3] 2 4 (by decide)

/-- the no-collision hypothesis of `corrupt_body` cannot be dropped: with the toy digest the
bodies `[1, 2]` and `[2, 1]` collide and the corrupted file is accepted. -/
example : openf toyH 1 ([7] ++ [9] ++ toyH [1, 2] ++ [2, 1]) [7] [9] = .ok [2, 1] := by decide +kernel

/-- the hypothesis of `truncate` cannot be dropped either (`[5, 0]` cut to `[5]`) … -/
example : openf toyH 1 ((finished toyH [7] [9] [5, 0]).take 4) [7] [9] = .ok [5] := by decide +kernel

/-- … nor the one of `extend` -/
example : openf toyH 1 (finished toyH [7] [9] [5] ++ [0]) [7] [9] = .ok [5, 0] := by decide +kernel

/-- `crash_safe` instantiated (non-zero root sum): all 12 crash states of body `[1, 255, 7]` -/
example : ∀ s ∈ crashStates toyH 1 [7] [0] [1, 255, 7], ∀ x,
    openf toyH 1 s [7] [0] = .ok x → x = [1, 255, 7] :=
  crash_safe toyH_size rfl rfl _ (.inl (by decide))

/-- a torn header that happens to equal the final header is accepted and is the finished file:
root sum `[7]` written, data sum `[0]` and body sum `[0]` (of body `[3, 253]`) still placeholder -/
example : openf toyH 1 (overwrite (zeros 3 ++ [3, 253]) (([7] ++ [0] ++ toyH [3, 253]).take 1))
    [7] [0] = .ok [3, 253] := by decide +kernel

/-- **The hypothesis of `crash_safe` cannot be dropped**: with all-zero sums and a body whose
proper prefix `[1, 255]` hashes to zero, the crash state "placeholder + first two body bytes"
is accepted and a truncated body is returned. -/
theorem crash_unsafe_without_hypothesis :
    ¬ (∀ s ∈ crashStates toyH 1 [0] [0] [1, 255, 7], ∀ x,
        openf toyH 1 s [0] [0] = .ok x → x = [1, 255, 7]) := by
  intro h
  have := h [0, 0, 0, 1, 255] (by decide) [1, 255] (by decide)
  revert this
  decide +kernel

/-! ### I/O faults: non-vacuity and witnesses (toy digest, identity codec) -/

/-- `close_ok_roundtrip` instantiated: two `Write` calls, no fault — the caller sees no error and
the entry is the finished file -/
example : (runSession toyH 1 id [7] [9] ⟨none, [([1, 2], none), ([3], none)], {}⟩).clean = true
    ∧ (runSession toyH 1 id [7] [9] ⟨none, [([1, 2], none), ([3], none)], {}⟩).disk = [7, 9, 6, 1, 2, 3] := by
  decide +kernel

example : openRead toyH 1 some (runSession toyH 1 id [7] [9] ⟨none, [([1, 2], none), ([3], none)], {}⟩).disk
    [7] [9] = .ok [1, 2, 3] :=
  close_ok_reads_back toyH_size id some rfl rfl _ rfl (by decide)

/-- `close_reports_flush_failure` instantiated: the flush fails after 2 of 3 bytes, every later step
of `Close` works -/
example : (closeF toyH 1 id ⟨zeros 3, 3, [7], [9], [1, 2, 3], false⟩ { flush := some 2 }).2 = some .flate :=
  close_reports_flush_failure id _ _ 2 rfl

example : (runSession toyH 1 id [7] [9] ⟨none, [([1, 2, 3], none)], { flush := some 2 }⟩).closeErr = some .flate :=
  session_reports_flush_failure id [7] [9] _ 2 rfl

/-- `write_failure_reported_by_close` instantiated: the second `Write` fails -/
example : (runSession toyH 1 id [7] [9] ⟨none, [([1], none), ([2, 3], some 1)], {}⟩).closeErr = some .flate :=
  write_failure_reported_by_close id [7] [9] _ ⟨some .flate, by decide, by decide⟩

/-- `close_first_error`: a failed seek to 0 makes `Close` report the seek error, and the header is
APPENDED behind the body (the offset stayed at the end of the file) -/
example : closeF toyH 1 id ⟨zeros 3, 3, [7], [9], [1, 2, 3], false⟩ { seekStart := some 0 }
    = ([0, 0, 0, 1, 2, 3, 7, 9, 6], some .seek) := by decide +kernel

/-- **A reported failure can leave an entry that verifies and holds a prefix.**  The final flush
fails after 2 of the 3 body bytes; `Write` returned `nil`, `Close` returns the flate error — and the
file on disk is a well-formed entry which `Open` accepts and from which exactly the PREFIX
`[1, 2]` is read back.  Nothing in the file shows the failure: the caller has to discard the entry
when `Close` fails (cmd/gts/io.go `ioDelegate.Close` does; seeded change C13-g makes `Close`
return `nil` here). -/
theorem failed_close_may_verify :
    (runSession toyH 1 id [7] [9] ⟨none, [([1, 2, 3], none)], { flush := some 2 }⟩).writeErrs = [none]
    ∧ (runSession toyH 1 id [7] [9] ⟨none, [([1, 2, 3], none)], { flush := some 2 }⟩).closeErr = some .flate
    ∧ openRead toyH 1 some
        (runSession toyH 1 id [7] [9] ⟨none, [([1, 2, 3], none)], { flush := some 2 }⟩).disk [7] [9]
        = .ok [1, 2] := by
  decide +kernel

example : ∃ body', (runSession toyH 1 id [7] [9] ⟨none, [([1, 2, 3], none)], { flush := some 2 }⟩).disk
      = finished toyH [7] [9] body'
    ∧ openf toyH 1 (runSession toyH 1 id [7] [9] ⟨none, [([1, 2, 3], none)], { flush := some 2 }⟩).disk
      [7] [9] = .ok body' :=
  failed_close_entry_verifies toyH_size id rfl rfl _ rfl ⟨rfl, rfl, rfl, rfl⟩

/-- **The error of `CreateLevel` has to be heeded too** (why `clean` includes it): the placeholder
write fails after 1 of 3 bytes, every `Write` and `Close` then return `nil` — and the entry verifies
and yields `[3]` instead of `[1, 2, 3]`.  (`TryCache` removes the entry's name when `CreateLevel`
returns an error.) -/
theorem create_error_must_be_heeded :
    (runSession toyH 1 id [7] [9] ⟨some 1, [([1, 2, 3], none)], {}⟩).createErr = some .write
    ∧ (runSession toyH 1 id [7] [9] ⟨some 1, [([1, 2, 3], none)], {}⟩).writeErrs = [none]
    ∧ (runSession toyH 1 id [7] [9] ⟨some 1, [([1, 2, 3], none)], {}⟩).closeErr = none
    ∧ openRead toyH 1 some (runSession toyH 1 id [7] [9] ⟨some 1, [([1, 2, 3], none)], {}⟩).disk [7] [9]
        = .ok [3] := by
  decide +kernel

end Gts.C13
