/-
  C06 — location text round-trips; join reduction never changes the denoted bases.
  Property theorems only (helper lemmas live in Gts/Lemmas).
-/
import Gts.Lemmas.Push
import Gts.Lemmas.LocRoundTrip
import Gts.Lemmas.CanonKeys
import Gts.Lemmas.CanonRead
import Gts.Lemmas.ParseInv
import Gts.Lemmas.ParseSim
import Gts.Lemmas.ParseK3Guard
import Gts.Lemmas.ParseGuardEx
import Gts.Lemmas.ParseCoords
import Gts.Lemmas.BsLit
namespace Gts.C06
open Gts Loc Pars

/-- FULL STATEMENT (false today, known finding K2):
      `∀ xs, wfList xs → den (join xs) ≼ denList xs`.
    Refuted by the pinned reduction `Join(Range(3,6), Point(6)) = Range(3,6)`: -/
theorem join_den_full_refuted :
    ¬ (∀ xs, wfList xs = true → den (join xs) ≼ denList xs) := by
  intro h
  have := (h [ranged 3 6 false false, point 6] (by decide)).2 (6, false) (by decide)
  revert this
  decide

/-- The reductions applied by `Join` (dropping duplicates, merging abutting ranges, absorbing
zero-length sites, re-joining complemented pairs in reverse order) never change the set or the
order of the residues the location denotes — for every argument list of well-formed locations,
every arity and nesting, provided the pinned rule K2 (`Ranged` then `Point` at its `End`) does
not fire (`joinAbs xs = false`). -/
theorem join_den_partial (xs : List Loc) (hw : wfList xs = true) (hk2 : joinAbs xs = false) :
    den (join xs) ≼ denList xs := join_den xs hw hk2

/-- … and for duplicate-free arguments (every real feature) the denotation is *equal*. -/
theorem join_den_eq_partial (xs : List Loc) (hw : wfList xs = true) (hk2 : joinAbs xs = false)
    (hnd : (denList xs).Nodup) : den (join xs) = denList xs :=
  (join_den xs hw hk2).eq_of_nodup hnd

/-- the same for a single `Push` step at any nesting fuel, with or without `force` -/
theorem push_den_partial (d : Nat) (racc : List Loc) (x : Loc) (force : Bool)
    (hr : wfList racc = true) (hx : wf x = true) (hk2 : absD d racc x force = false) :
    denR (pushD d racc x force) ≼ (denR racc ++ den x) := (pushD_ok d).den racc x force hr hx hk2

/-- `Join` keeps well-formedness (every range non-empty) -/
theorem join_wf (xs : List Loc) (hw : wfList xs = true) : wf (join xs) = true := Loc.join_wf xs hw

/-- non-vacuity: a concrete multi-rule argument list satisfies the hypotheses -/
example : wfList [compl (ranged 6 9 false false), compl (ranged 3 6 false false), point 1, point 1] = true
    ∧ joinAbs [compl (ranged 6 9 false false), compl (ranged 3 6 false false), point 1, point 1] = false := by
  decide

/-- The induction statement behind the round trip: `ParseLocation` (the recursive parser
`LocParse.loc` with `f` units of recursion fuel), started on the printed form of a canonical
location `l` followed by a delimiter-led continuation `rest` (end of input, `,` or `)`), with
any backtracking stack `stk`, returns exactly `l`, consumes exactly the printed form and leaves
the stack as it found it — for every nesting depth and arity, provided `f ≥ need l`. -/
theorem parse_print_fuel (l : Loc) (h : canonP l = true) (f : Nat) (rest : Bytes) (stk : List Bytes)
    (hf : need l ≤ f) (hd : Delim rest) :
    LocParse.loc f ⟨printB l ++ rest, stk⟩ = (.ok l, ⟨rest, stk⟩) :=
  loc_printB l h f rest hf hd stk

/-- the fuel `AsLocation` starts with (`input.length + 2`) is always enough: every nesting level
prints more bytes than it needs fuel -/
theorem need_le_printed (l : Loc) : need l ≤ (printB l).length := need_le_length l

/-- `AsLocation` on a printed canonical location followed by a delimiter-led rest: the location
comes back and exactly `rest` is left unconsumed. -/
theorem parse_print_rest (l : Loc) (h : canonP l = true) (rest : Bytes) (hd : Delim rest) :
    parseLocation (printB l ++ rest) = .ok (l, rest) := by
  have hf : need l ≤ (printB l ++ rest).length + 2 := by
    have := need_le_length l
    simp only [List.length_append]
    omega
  exact parseLocation_of_run _ _ _ (loc_printB l h _ rest hf hd [])

/-- **C06, first clause**: for every canonical location value — any nesting depth, any arity,
every partial-marker combination — parsing its printed form gives back *the same value* with
nothing left over. -/
theorem parse_print (l : Loc) (h : canonP l = true) : parseLocation (printB l) = .ok (l, []) := by
  have := parse_print_rest l h [] trivial
  rwa [List.append_nil] at this

/-- … in the property's wording: whatever `AsLocation` returns on the printed form prints
identically, denotes the same ordered, stranded residues, and is the same value (so it carries
the same partial markers); nothing is left unconsumed. -/
theorem print_parse_print (l : Loc) (h : canonP l = true) (l' : Loc) (rest : Bytes)
    (hp : parseLocation (printB l) = .ok (l', rest)) :
    printB l' = printB l ∧ den l' = den l ∧ l' = l ∧ rest = [] := by
  rw [parse_print l h] at hp
  cases hp
  exact ⟨rfl, rfl, rfl, rfl⟩

/-- `AsLocation ∘ String` is idempotent on the printed form (print is a fixed point of
parse-then-print for printed canonical values). -/
theorem print_fixed_point (l : Loc) (h : canonP l = true) :
    (parseLocation (printB l)).map (fun r => printB r.1) = .ok (printB l) := by
  rw [parse_print l h]; rfl

/-- The legacy spelling of the 3' partial marker, `a..b>` (marker *after* the end coordinate),
reads as the same `Ranged` value as the printed spelling `a..>b`. -/
theorem parse_legacy_marker (s e : Int) (p5 : Bool) (hs : coordOk s = true) (he : coordOk e = true) :
    parseLocation (printB (ranged s e p5 false) ++ [62]) = .ok (ranged s e p5 true, []) ∧
    parseLocation (printB (ranged s e p5 true)) = .ok (ranged s e p5 true, []) := by
  refine ⟨parseLocation_of_run _ _ _ (by rw [LocParse.loc]; exact Runs.anyOf_ok (range_legacy s e p5 false [] hs he) _ []),
    parse_print _ (by simp [canonP, hs, he])⟩

/-- non-vacuity: a nested complement-strand join with partial markers, inside a join next to a
range and an order of an ambiguous span and a between-site, is canonical … -/
example : canonP (joined [compl (joined [ranged 0 3 true false, point 7]), ranged 10 20 false true,
    ordered [ambiguous 30 40, between 50]]) = true := by decide

/-- … its printed form is the expected INSDC text … -/
example : printB (joined [compl (joined [ranged 0 3 true false, point 7]), ranged 10 20 false true,
    ordered [ambiguous 30 40, between 50]]) =
    str "join(complement(join(<1..3,8)),11..>20,order(31.40,50^51))" := by rw [str_ofList]; decide +kernel

/-- … and a canonical value need not be reduced any further: `canonP` holds for what `Join`
builds (here the merge of two abutting ranges and a duplicate point). -/
example : canonP (join [ranged 0 3 true false, ranged 3 6 false false, point 9, point 9]) = true := by
  decide

/-- decidable check "the parse result is exactly `(l, [])`" (the nested type has no
`DecidableEq`; `Loc.beq` is sound by `Loc.beq_eq`) -/
def parsesTo (s : Pars.Bytes) (l : Loc) : Bool :=
  match parseLocation s with
  | .ok (l', r) => l'.beq l && r.isEmpty
  | _ => false

theorem parsesTo_sound (s : Pars.Bytes) (l : Loc) (h : parsesTo s l = true) :
    parseLocation s = .ok (l, []) := by
  unfold parsesTo at h
  split at h
  · rename_i l' r heq
    simp only [Bool.and_eq_true, List.isEmpty_iff] at h
    rw [heq, Loc.beq_eq l' l h.1, h.2]
  · cases h

/-- SECOND CLAUSE, FULL STATEMENT (false today, known finding K3): "for every string the parser
accepts, printing the result is a fixed point of parse-then-print".  The parser builds joins
with `Join`, and `Join` is not idempotent: the parts of `join(4,3^4,4)` reduce to
`join(4,4)` (the between-site is replaced by the following point without re-checking the
predecessor), whose parts reduce to `4`.  The string-level witness `join(4,3^4,4)` is replayed
on the real parser and on the parser model on every run (known_findings.json, K3). -/
theorem join_not_idempotent_refuted :
    ¬ (∀ xs : List Loc, ∀ ys, join xs = joined ys → join ys = joined ys) := by
  intro h
  have h1 : join [point 3, between 3, point 3] = joined [point 3, point 3] :=
    Loc.beq_eq _ _ (by decide)
  have h2 := h _ _ h1
  have h3 : join [point 3, point 3] = point 3 := Loc.beq_eq _ _ (by decide)
  rw [h3] at h2
  cases h2

/-- second clause, what IS proved — a COROLLARY OF THE ROUND TRIP `parse_print`, not a theorem about
strings (audit finding S7): IF the value an accepted string parses to is canonical (`canonP`), printing
it is a fixed point of parse-then-print.  The string hypothesis `_hp` is not used, and NO theorem says
that the parser's results are canonical: they are not, in general — `-5` is accepted with the
non-canonical value `point (-6)` (evaluation only, see the note below) and `accepted_fixed_point_full_refuted` (K3 at string
level).  For a `Joined` result the guard contains the conclusion (`canonP (joined ls)` includes
`join ls = joined ls`).  The clause "for EVERY accepted string" is covered by the correspondence run and
the Go oracle only. -/
theorem accepted_fixed_point_partial (s : Pars.Bytes) (l : Loc) (r : Pars.Bytes)
    (_hp : parseLocation s = .ok (l, r)) (hc : canonP l = true) :
    parseLocation (printB l) = .ok (l, []) := parse_print l hc

/- NOT PROVED (audit S7, `accepted_negative_not_canon`): "the text `-5` is accepted by `ParseLocation` — `pars.Int`
reads a sign — as the point `-6` (0-based), whose `canonP` is false".  `canonP (point (-6)) = false` is `by decide`;
`parseLocation [45, 53] = .ok (point (-6), [])` is what the model EVALUATES to (`#eval`) and what the real parser
answers (`loc.parse x2d35` in the correspondence run), but the fuelled parser does not reduce in the kernel
(`decide` / `decide +kernel` / `rfl` are stuck) and no lemma covers a signed coordinate, so it is not a theorem. -/
example : canonP (point (-6)) = false := by decide

/-! ### canonical locations are closed under the edit operations (as far as that is true)

`Loc.canonP` is the domain of the round trip above.  The locations of an edited record are built by
`Location.Shift / Expand / Reverse / Normalize / Complement`; each of them maps the parts of a `Joined`
and re-applies `Join`.  `Join` is not idempotent (K3 above): a REPLACING push (`Between{p}` replaced by
a following `Point{p}` / `Ranged{p, …}`) does not look at the element in front of the replaced one,
so parts `… p+1, p^p+1, p+1 …` reduce to `… p+1, p+1`, which a second `Join` — the one `ParseLocation`
applies to the printed text — reduces again.  `Loc.k3One` is exactly that shape at one push;
`joinK3` / `expandK3` / `shiftK3` / `reverseK3` / `normalizeK3` (`Gts/Spec/CanonGuard.lean`) say
whether it arises anywhere in the evaluation.  Results:

  operation                      closed?   theorem
  `Join` (the reduction itself)  no        `join_canon_full_refuted`, `join_canon_adj_refuted`, `join_canon_partial`
  `Shift(i, n)`, `0 ≤ n`         YES       `shift_canon` (no guard: an insertion moves the keys of
                                           neighbouring parts by jointly injective maps, no rule fires)
  `Expand(i, n)`, `0 ≤ n`        no        `expand_insert_canon_full_refuted` (an EMPTY ambiguous span `1.0`,
                                           which the parser accepts, turns into a between-site and the K3
                                           shape arises); yes for well-formed locations:
                                           `expand_insert_canon_partial`; an empty `Ranged{s,s}` (`5..4`,
                                           parser only): rules do fire (`expand_insert_empty_ranged_drops`),
                                           no counterexample in the decided scope
  `Expand(i, n)`, `n < 0`        no        `expand_canon_full_refuted` (a deleted part becomes a
                                           between-site between two equal sites), `expand_canon_partial`
  `Reverse(L)`                   no        `reverse_canon_coords_refuted` (K1: `Between{L}` gets the
                                           coordinate −1), `reverse_canon_full_refuted` (K1 + K3),
                                           `reverse_canon_partial`
  `Normalize(L)`                 no        `normalize_canon_full_refuted`, `normalize_canon_partial`,
                                           `rotate_canon_partial` (= `Normalize ∘ Expand(0, n)`)
  `Complement()`                 YES       `complement_canon`
-/

/-- **What the reader makes of a written join that is not canonical**: for ANY `Joined` whose parts
are canonical — a fixed point of `Join` or not — `ParseLocation` reads the printed text back as `Join`
of the parts.  So a location gts writes is read back as itself exactly when it is canonical
(`parse_print`), and as the RE-REDUCED location otherwise: the edited locations of the refuted
statements below are written as one location and read back as another. -/
theorem written_join_read_back (l : Loc) (ls : List Loc) (hc : canonPList (l :: ls) = true) :
    parseLocation (printB (joined (l :: ls))) = .ok (join (l :: ls), []) :=
  parseLocation_join_parts l ls hc

theorem written_join_read_back_as (l : Loc) (ls : List Loc) (x : Loc) (hc : canonPList (l :: ls) = true)
    (hx : (join (l :: ls)).beq x = true) : parseLocation (printB (joined (l :: ls))) = .ok (x, []) := by
  rw [written_join_read_back l ls hc, Loc.beq_eq _ _ hx]

example : canonPList [point 3, point 3] = true ∧ (join [point 3, point 3]).beq (point 3) = true := by decide

/-- SECOND CLAUSE, FULL STATEMENT AT STRING LEVEL (false today, known finding K3): "for every string the
parser accepts, printing the result is a fixed point of parse-then-print".  Witness: the text
`join(4,3^4,4)` (= `printB (joined [point 3, between 3, point 3])`) is accepted and parses to `join(4,4)`,
whose text parses to `4`, which prints `4` ≠ `join(4,4)`. -/
theorem accepted_fixed_point_full_refuted :
    ¬ (∀ (s : Pars.Bytes) (l : Loc) (r : Pars.Bytes), parseLocation s = .ok (l, r) →
        ∃ l', parseLocation (printB l) = .ok (l', []) ∧ printB l' = printB l) := by
  intro h
  have h1 : parseLocation (printB (joined [point 3, between 3, point 3])) = .ok (joined [point 3, point 3], []) :=
    written_join_read_back_as _ _ _ (by decide) (by decide)
  have h2 : parseLocation (printB (joined [point 3, point 3])) = .ok (point 3, []) :=
    written_join_read_back_as _ _ _ (by decide) (by decide)
  obtain ⟨l', h3, h4⟩ := h _ _ _ h1
  rw [h2] at h3
  have : l' = point 3 := by injection h3 with h3; exact (congrArg Prod.fst h3).symm
  subst this
  revert h4
  decide +kernel

/-- the witness text of `accepted_fixed_point_full_refuted` is the string `join(4,3^4,4)`; it prints
`join(4,4)`, which prints back as `4` -/
example : printB (joined [point 3, between 3, point 3]) = [106, 111, 105, 110, 40, 52, 44, 51, 94, 52, 44, 52, 41] ∧
    printB (joined [point 3, point 3]) = [106, 111, 105, 110, 40, 52, 44, 52, 41] ∧ printB (point 3) = [52] := by decide +kernel

/-! ### parser results are canonical (audit S7, item 1(b)) — PROVED up to the coordinate clause

FULL STATEMENT as it was recorded OPEN (not proved in this form):

    theorem parse_result_canon (s : Pars.Bytes) (l : Loc) (r : Pars.Bytes)
        (hp : parseLocationK3 s = .ok (l, false, r))      -- accepted, parse-level K3 guard false (Spec/ParseK3.lean)
        (hc : coordsOkText s)                              -- every number of the text in [1, 2^62] (no `-5`, no `0`)
        (hadj : no `join(` of the text has two neighbouring `complement(` parts after flattening)
        : canonP l = true

What IS proved (`parse_result_canon_partial` below), and what differs from the statement above:
  * the two guards are ONE evaluation-level flag, `parseGuard s` (Gts/Spec/ParseGuard.lean): the flagged parser
    `LocParseG.loc g` is the model's parser clause by clause with one more result component — "`g` was true on the
    argument list of some `Join` the evaluation made" —, taken at `g = Loc.canonGuard` = `joinK3 ls || !noAdjCompl
    (flatJList ls)`.  So `hadj` is the evaluation-level `noAdjCompl` flag on the PARSED PARTS of every `join(`, not a
    predicate on the text.  (`LocParseK3` of Spec/ParseK3.lean, which the driver op `k3.parse` runs, is the same copy
    at `g = joinK3`; the identity `LocParseK3.loc = LocParseG.loc joinK3` is `Gts.k3_eq_g`, see `parse_k3_is_guard_instance`.)
  * the hypothesis is on the MODEL's parser (`parseLocation s = .ok (l, r)`), not on the copy: that the copy and
    the model agree on outcome, location, rest and stack for EVERY guard is a theorem (`parse_flag_ghost`, from
    `LocParseG.sim_all`: the lock-step induction `LocParseG.rel_all` over the five mutual fuelled parsers and the `more`
    loop, read at the relation "same location");
  * the coordinate hypothesis is on the RESULT (`coordsC coordOk l`), not on the text (`-5` is accepted as the point
    `-6`); it IS derived from a text-level hypothesis in `parse_result_coords_partial` below (section "the coordinate
    clause from the TEXT": `Pars.IntsIn s`, stronger than "every number of the text is in 1 .. 2^62").
The structural clauses need no coordinate hypothesis at all: `parse_result_struct`.  The guard cannot be dropped
(`parse_result_guard_needed`: `join(4,3^4,4)` is accepted, flagged, and its result `join(4,4)` is not canonical).
NOT proved: an unconditional shape theorem (`parse_result_shape`: "every accepted text yields a `joined` with at least
two parts, none of them `joined`, and no `compl (compl _)`", without the guard) — the invariant goes through
`join_struct`, which needs the guard; and the text-level forms of `hc` / `hadj`.  Note that `canonP` does NOT exclude
empty or inverted spans (`canonP (ranged 4 4 false false) = true`): `join(5,5..4)` is accepted with the guard false, is
canonical, and still loses a residue (`join_den_nonwf_refuted`, K6A). -/

/-- **The flag of the flagged parser is ghost information**: for EVERY guard `g` on `Join` argument lists, the
model's `AsLocation` is the flagged copy `parseLocationG g` (Gts/Spec/ParseGuard.lean) with the flag dropped —
same acceptance, same error (failure or panic), same location, same unconsumed rest. -/
theorem parse_flag_ghost (g : List Loc → Bool) (s : Pars.Bytes) :
    parseLocation s = (parseLocationG g s).map (fun x => (x.1, x.2.2)) := parseLocation_eq_G g s

/-- **The flagged parser behind the op `k3.parse` is the generic one**: `parseLocationK3` (Spec/ParseK3.lean — answered by
the Lean driver AND restated in Go on the real parser, harness/props_c06_parsek3.go, compared on every line sent) is
`parseLocationG` at the guard `Loc.joinK3`; with `parse_flag_ghost` its location and rest are the model parser's. -/
theorem parse_k3_is_guard_instance (s : Pars.Bytes) :
    parseLocationK3 s = parseLocationG Loc.joinK3 s ∧
    parseLocation s = (parseLocationK3 s).map (fun x => (x.1, x.2.2)) := by
  refine ⟨parseLocationK3_eq_G s, ?_⟩
  rw [parseLocationK3_eq_G s]
  exact parse_flag_ghost Loc.joinK3 s

/-- **Parser results are structurally canonical**: for every byte string `s`, if the model parser accepts `s`
with result `l` and the evaluation-level guard of `s` is false (no `Join` the parser evaluated met the K3 shape or
two neighbouring `Complemented` parts among its parsed arguments), then `l` satisfies every structural clause of
`canonP` at every depth: a `joined` has at least two parts, none of them `joined`, and is a fixed point of `Join`; an
`ordered` has at least two parts, none `ordered`; no `compl (compl _)`.  No hypothesis on the coordinates. -/
theorem parse_result_struct (s : Pars.Bytes) (l : Loc) (r : Pars.Bytes)
    (hp : parseLocation s = .ok (l, r)) (hg : parseGuard s = false) : structP l = true := by
  obtain ⟨b, hb⟩ := parseLocationG_of_parseLocation canonGuard s l r hp
  have hbf : b = false := by simpa [parseGuard, hb] using hg
  subst hbf
  exact parseLocationG_struct s l r hb

/-- **Parser results are canonical** (partial: the coordinate clause is a hypothesis on the result, see the
section comment): for every byte string `s`, if the model parser accepts `s` with result `l`, the evaluation-level
guard of `s` is false and every coordinate of `l` lies in `0 .. 2^62`, then `canonP l = true` — so `l` is in the
domain of the round trip `parse_print`, and printing it is a fixed point of parse-then-print. -/
theorem parse_result_canon_partial (s : Pars.Bytes) (l : Loc) (r : Pars.Bytes)
    (hp : parseLocation s = .ok (l, r)) (hg : parseGuard s = false) (hc : coordsC coordOk l = true) :
    canonP l = true :=
  (canonP_iff l).mpr ⟨hc, parse_result_struct s l r hp hg⟩

/-- second clause of C06 for an accepted string, USING the string hypothesis (compare `accepted_fixed_point_partial`):
an accepted, unflagged text whose result has coordinates in range prints to a fixed point of parse-then-print. -/
theorem accepted_unflagged_fixed_point (s : Pars.Bytes) (l : Loc) (r : Pars.Bytes)
    (hp : parseLocation s = .ok (l, r)) (hg : parseGuard s = false) (hc : coordsC coordOk l = true) :
    parseLocation (printB l) = .ok (l, []) :=
  parse_print l (parse_result_canon_partial s l r hp hg hc)

/-- non-vacuity: the text `join(4,5)` is accepted, its guard is false, the coordinates of its result are in range
(and the result is the two-part join).  The fuelled parsers are compiled by well-founded recursion and do not
reduce in the kernel; the run of the flagged parser (`geval_join2`, Gts/Lemmas/ParseGuardEx.lean) is put together
from the run lemmas of the round trip.  Longer texts are evaluated only (`join(complement(4),5,7)`: `#eval` answers
guard `false`, result `join(complement(4),5,7)`). -/
example : parseLocation (str "join(4,5)") = .ok (joined [point 3, point 4], []) ∧
    parseGuard (str "join(4,5)") = false ∧ coordsC coordOk (joined [point 3, point 4]) = true := by
  have ht : str "join(4,5)" = [106, 111, 105, 110, 40, 52, 44, 53, 41] := by rw [str_ofList]; decide +kernel
  have hj : join [point 3, point 4] = joined [point 3, point 4] := Loc.beq_eq _ _ (by decide)
  have hgd : canonGuard [point 3, point 4] = false := by decide
  have hG : parseLocationG canonGuard [106, 111, 105, 110, 40, 52, 44, 53, 41] =
      .ok (joined [point 3, point 4], false, []) := by
    simp only [parseLocationG, P.run', ExceptT.run, StateT.run, List.length_cons, List.length_nil]
    rw [geval_join2, hj, hgd]
  refine ⟨?_, ?_, by decide⟩
  · rw [parse_flag_ghost canonGuard, ht, hG]; rfl
  · rw [parseGuard, ht, hG]

/-! ### the coordinate clause from the TEXT

FULL STATEMENT (not proved in this form):

    theorem parse_result_coords (s : Pars.Bytes) (l : Loc) (r : Pars.Bytes) (hp : parseLocation s = .ok (l, r))
        (hi : intsOk s = true)   -- Bool: every maximal digit run of s has no leading `0`, is, read as a number, in
                                 -- 1 .. 2^62 and is not preceded by `-`  (so `join(10,20)` meets it; `05` must not:
                                 -- `pars.Int` answers `0` on the first digit and the text is accepted as `Point{-1}`)
        : coordsC coordOk l = true

What IS proved (`parse_result_coords_partial`): the same conclusion from the text-level hypothesis `Pars.IntsIn s`
(Gts/Lemmas/ParseCoords.lean) = "at EVERY byte position of `s`, a successful run of `pars.Int` from that position
yields a value in `1 .. 2^62`".  It is a predicate on the text only (no parser state, no result), but
  * it is a `Prop` quantified over positions and saved-position stacks, not a `Bool` (decidable in principle: the
    result of `Pars.int` does not depend on the stack — not proved);
  * it is STRONGER than `intsOk`: it also constrains positions INSIDE a digit run, where the parser never starts an
    integer, and `pars.Int` answers `0` on a `0` — so a text that contains the digit `0` anywhere (`10`, `join(4,20)`)
    does not meet it (`Gts.intsIn_zero_false`).  Restricting the hypothesis to the positions where the parser does
    start an integer needs a postcondition logic with preconditions on the state ("the byte just consumed is not a
    digit"); `PostI` only carries an invariant that every primitive keeps from every state.
How: `Pars.PostI p Q` — `Post` with the state invariant "the position and every saved position are texts that meet
`IntsIn`", kept on success and on failure (`attempt` goes on from the failed state); every primitive of the model keeps
it (`IntsIn` is closed under `drop`), `pars.Int` returns a value in range from such a state, the leaf parsers build
`v`, `v - 1` from these values, and `Join` / `Order` / `Complement()` only re-use coordinates (`join_leaves`,
`order_leaves`); the fuel induction is the one of `LocParseG.post_all` and `LocParseG.sim_all` (`LocParseG.rel_all`,
Gts/Lemmas/ParsRel.lean), read on the MODEL's parser (`LocParse.posti_all`). -/

/-- **The coordinates of a parser result are in range, from the text** (partial, see the section comment): for every
byte string `s`, if the model parser accepts `s` with result `l`, and at every byte position of `s` a successful run of
`pars.Int` from that position yields a value between 1 and 2^62, then every coordinate of `l` (every `between`,
`point`, `ranged` and `ambiguous` leaf at any depth) lies in `0 .. 2^62`. -/
theorem parse_result_coords_partial (s : Pars.Bytes) (l : Loc) (r : Pars.Bytes)
    (hp : parseLocation s = .ok (l, r)) (hi : Pars.IntsIn s) : coordsC coordOk l = true :=
  parseLocation_coords s l r hp hi

/-- **Parser results are canonical, hypotheses on the text and the evaluation-level guard only**: an accepted text
that meets `IntsIn` and whose guard is false has a canonical result, and printing the result is a fixed point of
parse-then-print.  (`parse_result_canon_partial` with its coordinate hypothesis discharged from the text.) -/
theorem parse_result_canon_text_partial (s : Pars.Bytes) (l : Loc) (r : Pars.Bytes)
    (hp : parseLocation s = .ok (l, r)) (hg : parseGuard s = false) (hi : Pars.IntsIn s) :
    canonP l = true ∧ parseLocation (printB l) = .ok (l, []) := by
  have hc := parse_result_coords_partial s l r hp hi
  exact ⟨parse_result_canon_partial s l r hp hg hc, accepted_unflagged_fixed_point s l r hp hg hc⟩

/-- non-vacuity: the text `4..7` is accepted (result `4..7` = `Ranged{3, 7}`), its guard is false and it meets the
text-level hypothesis; the hypothesis is not trivially true (the text `0` does not meet it) -/
example : parseLocation (str "4..7") = .ok (ranged 3 7 false false, []) ∧ parseGuard (str "4..7") = false ∧
    Pars.IntsIn (str "4..7") ∧ ¬ Pars.IntsIn (str "0") := by
  have ht : str "4..7" = [52, 46, 46, 55] := by decide +kernel
  have h0 : str "0" = [48] := by decide +kernel
  have hG : parseLocationG canonGuard [52, 46, 46, 55] = .ok (ranged 3 7 false false, false, []) := by
    simp only [parseLocationG, P.run', ExceptT.run, StateT.run, List.length_cons, List.length_nil]
    rw [geval_range47]
  refine ⟨?_, ?_, ?_, ?_⟩
  · rw [parse_flag_ghost canonGuard, ht, hG]; rfl
  · rw [parseGuard, ht, hG]
  · rw [ht]; exact intsIn_range47
  · rw [h0]; exact Gts.intsIn_zero_false

/-- **the guard is needed, and it is raised where it has to be**: the text `join(4,3^4,4)` is accepted with the
result `join(4,4)`, whose coordinates are in range and which is NOT canonical — so `parse_result_canon_partial`
without `hg` is false —, and its guard is TRUE (by `parse_result_struct` itself: were it false, the result would be
structurally canonical). -/
theorem parse_result_guard_needed :
    ¬ (∀ (s : Pars.Bytes) (l : Loc) (r : Pars.Bytes), parseLocation s = .ok (l, r) → coordsC coordOk l = true →
        canonP l = true) ∧
    parseLocation (printB (joined [point 3, between 3, point 3])) = .ok (joined [point 3, point 3], []) ∧
    parseGuard (printB (joined [point 3, between 3, point 3])) = true := by
  have h1 : parseLocation (printB (joined [point 3, between 3, point 3])) = .ok (joined [point 3, point 3], []) :=
    written_join_read_back_as _ _ _ (by decide) (by decide)
  refine ⟨?_, h1, ?_⟩
  · intro h
    exact absurd (h _ _ _ h1 (by decide)) (by decide)
  · cases hq : parseGuard (printB (joined [point 3, between 3, point 3])) with
    | true => rfl
    | false =>
      have := parse_result_struct _ _ _ h1 hq
      revert this
      decide

/-- FULL STATEMENT WITHOUT `wfList` (false, known finding K6A): "the reductions of `Join` keep the denoted
residues for ALL argument lists as long as the K2 rule does not fire".  `join_den_partial` needs every range
of the arguments non-empty (`wfList`), and the parser does NOT guarantee that: the text `join(5,5..4)`
(= `printB (joined [point 4, ranged 4 4 false false])`) is ACCEPTED — `5..4` is read as the empty range
`Ranged{4, 4}` —, `Join` absorbs the point in front of it into that range (the rule `Point{p}` then
`Ranged{p, …}`), and the result `5..4` denotes nothing: residue 5 is lost although the K2 guard is false.
The conjuncts record the witness: what the parser returns, that the list is not `wfList`, that K2 does not
fire, and the two denotations. -/
theorem join_den_nonwf_refuted :
    ¬ (∀ xs : List Loc, joinAbs xs = false → den (join xs) ≼ denList xs) ∧
    parseLocation (printB (joined [point 4, ranged 4 4 false false])) = .ok (ranged 4 4 false false, []) ∧
    wfList [point 4, ranged 4 4 false false] = false ∧
    joinAbs [point 4, ranged 4 4 false false] = false ∧
    denList [point 4, ranged 4 4 false false] = [(4, false)] ∧ den (ranged 4 4 false false) = [] := by
  refine ⟨?_, written_join_read_back_as _ _ _ (by decide) (by decide), by decide, by decide, by decide, by decide⟩
  · intro h
    have := (h [point 4, ranged 4 4 false false] (by decide)).2 (4, false) (by decide)
    revert this
    decide

/-- the witness text of `join_den_nonwf_refuted` is the string `join(5,5..4)` -/
example : printB (joined [point 4, ranged 4 4 false false]) =
    [106, 111, 105, 110, 40, 53, 44, 53, 46, 46, 52, 41] := by decide +kernel

/-- FULL STATEMENT (false, known finding K3): "`Join` of canonical arguments is canonical".  The
arguments `4, 3^4, 4` (each canonical) reduce to `join(4,4)`, which is not a fixed point of `Join`. -/
theorem join_canon_full_refuted :
    ¬ (∀ xs : List Loc, xs ≠ [] → canonPList xs = true → canonP (join xs) = true) := by
  intro h
  exact absurd (h [point 3, between 3, point 3] (by simp) (by decide)) (by decide)

/-- **`Join` of canonical arguments is canonical** — every arity and nesting — unless the K3 shape
arises while the parts are pushed (`joinK3 xs = false`), provided no two `Complemented` parts become
neighbours (`noAdjCompl` of the flattened argument list: the complemented / complemented rule
re-joins the two insides, where K3 can arise out of sight of `joinK3`; the edit operations never
bring two complemented parts together). -/
theorem join_canon_partial (xs : List Loc) (hne : xs ≠ []) (hc : canonPList xs = true)
    (hadj : noAdjCompl (flatJList xs) = true) (hk3 : joinK3 xs = false) : canonP (join xs) = true := by
  rw [canonPList_iff] at hc
  rw [canonP_iff]
  exact ⟨join_leaves (mergeOK_leafCoord coordOk) xs hc.1,
    join_struct_guard xs hc.2 hne (by simp [canonGuard, hadj, hk3])⟩

/-- the guard `noAdjCompl` of `join_canon_partial` cannot be dropped: two neighbouring `Complemented`
arguments are merged by re-joining their insides, and K3 arises INSIDE that merge, out of sight of
`joinK3`: `Join(complement(4), complement(join(4,3^4)))` is `complement(join(4,4))`. -/
theorem join_canon_adj_refuted :
    ¬ (∀ xs : List Loc, xs ≠ [] → canonPList xs = true → joinK3 xs = false → canonP (join xs) = true) := by
  intro h
  exact absurd (h [compl (point 3), compl (joined [point 3, between 3])] (by simp) (by decide) (by decide))
    (by decide)

/-- non-vacuity: a merge, a dropped duplicate, a replacing push and a complemented part -/
example : ([ranged 0 3 true false, ranged 3 6 false false, between 9, point 9, point 9,
      compl (joined [point 20, point 12])] : List Loc) ≠ [] ∧
    canonPList [ranged 0 3 true false, ranged 3 6 false false, between 9, point 9, point 9,
      compl (joined [point 20, point 12])] = true ∧
    noAdjCompl (flatJList [ranged 0 3 true false, ranged 3 6 false false, between 9, point 9, point 9,
      compl (joined [point 20, point 12])]) = true ∧
    joinK3 [ranged 0 3 true false, ranged 3 6 false false, between 9, point 9, point 9,
      compl (joined [point 20, point 12])] = false := by
  refine ⟨by simp, by decide, by decide, by decide⟩

/-- **`Shift(i, n)` (gts.Insert), `0 ≤ n`: canonical stays canonical.**  FULL statement, every
nesting depth and arity, split ranges included (`Ranged.Shift` of a range around the insertion point
is a two-part join): no coordinate above `M` and `M + n ≤ 2^62` (the coordinate clause), nothing else.
An insertion never meets K3: it keeps the kind of every part and moves the coordinates that `Push`
compares by two monotone, jointly injective maps, so no reduction rule fires at all. -/
theorem shift_canon (l : Loc) (i n M : Int) (hc : canonP l = true) (hn : 0 ≤ n)
    (hle : coordsLe M l = true) (hM : M + n ≤ 4611686018427387904) : canonP (shift l i n) = true :=
  shift_canon_guarded l i n M hc hn hle hM (shiftK3_false i n hn l ((canonP_iff l).mp hc).2)

/-- non-vacuity: the insertion point lies inside the first range (it splits) and in front of the
complemented join -/
example : canonP (joined [ranged 0 10 true false, compl (joined [ranged 30 40 false false, point 20]),
      ordered [ambiguous 50 60, between 70]]) = true ∧
    coordsLe 100 (joined [ranged 0 10 true false, compl (joined [ranged 30 40 false false, point 20]),
      ordered [ambiguous 50 60, between 70]]) = true ∧
    (shift (joined [ranged 0 10 true false, compl (joined [ranged 30 40 false false, point 20]),
      ordered [ambiguous 50 60, between 70]]) 5 7).beq
      (joined [ranged 0 5 true false, ranged 12 17 false false,
        compl (joined [ranged 37 47 false false, point 27]), ordered [ambiguous 57 67, between 77]]) = true := by
  refine ⟨by decide, by decide, by decide⟩

/-- FULL STATEMENT for `Expand` (false: the K3 shape is reachable by a deletion): "canonical stays
canonical under `Expand(i, n)` with `0 ≤ i`".  Witness `join(7,4..5,7..9)` and the deletion of the three
residues 4..6 (`Expand(3, -3)`): the middle part lies inside the deletion and becomes the between-site
`3^4`, the two others both move to residue 4; `Push` replaces the between-site by the range without
looking at the point in front of it.  The result `join(4,4..6)` is what gts writes; `ParseLocation`
reads it back as `4..6` (replayed on the real code: `loc.expand`, `loc.print`, `loc.parse`). -/
theorem expand_canon_full_refuted :
    ¬ (∀ (l : Loc) (i n : Int), canonP l = true → 0 ≤ i → coordsLe 4611686018427387904 l = true → n ≤ 0 →
        canonP (expand l i n) = true) := by
  intro h
  exact absurd (h (joined [point 6, ranged 3 5 false false, ranged 6 9 false false]) 3 (-3) (by decide) (by decide)
    (by decide) (by decide)) (by decide)

/-- … what the witness turns into, its text, and what the reader makes of that text -/
theorem expand_canon_witness_read_back :
    (expand (joined [point 6, ranged 3 5 false false, ranged 6 9 false false]) 3 (-3)).beq
      (joined [point 3, ranged 3 6 false false]) = true ∧
    printB (joined [point 3, ranged 3 6 false false]) = str "join(4,4..6)" ∧
    parseLocation (printB (joined [point 3, ranged 3 6 false false])) = .ok (ranged 3 6 false false, []) := by
  exact ⟨by decide, by rw [str_ofList]; decide +kernel, written_join_read_back_as _ _ _ (by decide) (by decide)⟩

/-- **`Expand(i, n)` (Delete with `n < 0`, Embed / Concat / guest features with `n ≥ 0`):
canonical stays canonical unless the K3 shape arises** in one of its `Join`s (`expandK3 l i n = false`):
`0 ≤ i` or `0 ≤ n`, no coordinate above `M`, `M + n ≤ 2^62` (for a deletion take `M = 2^62`). -/
theorem expand_canon_partial (l : Loc) (i n M : Int) (hc : canonP l = true) (hi : 0 ≤ i ∨ 0 ≤ n)
    (hle : coordsLe M l = true) (hM : M + n ≤ 4611686018427387904) (hk3 : expandK3 l i n = false) :
    canonP (expand l i n) = true := expand_canon l i n M hc hi hle hM hk3

/-- non-vacuity: a deletion that swallows the middle part of a join (it becomes a between-site, which
the following range absorbs) and clips a complemented range -/
example : canonP (joined [ranged 0 4 false false, ranged 5 7 false false, ranged 9 12 false false,
      compl (ranged 6 20 false true)]) = true ∧
    coordsLe 4611686018427387904 (joined [ranged 0 4 false false, ranged 5 7 false false,
      ranged 9 12 false false, compl (ranged 6 20 false true)]) = true ∧
    expandK3 (joined [ranged 0 4 false false, ranged 5 7 false false, ranged 9 12 false false,
      compl (ranged 6 20 false true)]) 5 (-4) = false ∧
    (expand (joined [ranged 0 4 false false, ranged 5 7 false false, ranged 9 12 false false,
      compl (ranged 6 20 false true)]) 5 (-4)).beq
      (joined [ranged 0 4 false false, ranged 5 8 false false, compl (ranged 5 16 true true)]) = true := by
  refine ⟨by decide, by decide, by decide, by decide⟩

/-- **`Expand(i, n)` with `0 ≤ n` on a well-formed location** (every `Ranged` / `Ambiguous` non-empty,
`Loc.wf`: what `PartialRange` and the parser build): canonical stays canonical, NO K3 guard.
(FULL statement = the same without `wf`: REFUTED, `expand_insert_canon_full_refuted` below.) -/
theorem expand_insert_canon_partial (l : Loc) (i n M : Int) (hc : canonP l = true) (hw : wf l = true)
    (hn : 0 ≤ n) (hle : coordsLe M l = true) (hM : M + n ≤ 4611686018427387904) :
    canonP (expand l i n) = true :=
  expand_canon l i n M hc (Or.inr hn) hle hM (expandK3_false i n hn l ((canonP_iff l).mp hc).2 hw)

example : canonP (joined [ranged 0 10 true false, compl (joined [ranged 30 40 false false, point 20])]) = true ∧
    wf (joined [ranged 0 10 true false, compl (joined [ranged 30 40 false false, point 20])]) = true ∧
    coordsLe 40 (joined [ranged 0 10 true false, compl (joined [ranged 30 40 false false, point 20])]) = true ∧
    (expand (joined [ranged 0 10 true false, compl (joined [ranged 30 40 false false, point 20])]) 5 7).beq
      (joined [ranged 0 17 true false, compl (joined [ranged 37 47 false false, point 27])]) = true := by
  refine ⟨by decide, by decide, by decide, by decide⟩

/-- FULL STATEMENT for an insertion (false on the model, and on the code — replayed: `loc.expand
(J (P 0) (A 0 0) (P 0)) 1 1` answers `(J (P 0) (P 0))` on both sides): "`Expand(i, n)` with `0 ≤ n` keeps
every canonical location canonical", i.e. `expand_insert_canon_partial` without `wf`.  Witness
`join(1,1.0,1)`: the middle part is the EMPTY ambiguous span `Ambiguous{0, 0}`, which no rule of `Push`
looks at, so the join is a fixed point of `Join` (canonical, and `ParseLocation` reads exactly it from that
text: `expand_insert_witness_parsed`).  `Ambiguous.Expand(1, 1)` computes `start == end` and answers
`Between(0)`; the parts `1, 0^1, 1` are the K3 shape (`join(4,3^4,4)`): the point replaces the between-site
and `join(1,1)` is left, which is written as such and read back as `1`.  The amount does not matter (any
`n ≥ 1`), the insertion point only in that it is not the start of the span: an empty span `{s, s}` becomes a
between-site under every `Expand` with `n ≠ 0`, except that an insertion exactly at `s` makes it the inverted
`{s + n, s}` (`Expand(0, 1)` of the witness is `join(2,2.0,2)`, canonical). -/
theorem expand_insert_canon_full_refuted :
    ¬ (∀ (l : Loc) (i n M : Int), canonP l = true → 0 ≤ n → coordsLe M l = true →
        M + n ≤ 4611686018427387904 → canonP (expand l i n) = true) := by
  intro h
  exact absurd (h (joined [point 0, ambiguous 0 0, point 0]) 1 1 0 (by decide) (by decide) (by decide) (by decide))
    (by decide)

/-- the witness spelled out: canonical, not well formed, the K3 guard is raised, `join(1,1)` comes out; and
it is what `ParseLocation` makes of the text `join(1,1.0,1)` -/
theorem expand_insert_witness_parsed :
    canonP (joined [point 0, ambiguous 0 0, point 0]) = true ∧
    wf (joined [point 0, ambiguous 0 0, point 0]) = false ∧
    expandK3 (joined [point 0, ambiguous 0 0, point 0]) 1 1 = true ∧
    (expand (joined [point 0, ambiguous 0 0, point 0]) 1 1).beq (joined [point 0, point 0]) = true ∧
    printB (joined [point 0, ambiguous 0 0, point 0]) = str "join(1,1.0,1)" ∧
    parseLocation (str "join(1,1.0,1)") = .ok (joined [point 0, ambiguous 0 0, point 0], []) := by
  have hp : printB (joined [point 0, ambiguous 0 0, point 0]) = str "join(1,1.0,1)" := by rw [str_ofList]; decide +kernel
  refine ⟨by decide, by decide, by decide, by decide, hp, ?_⟩
  rw [← hp]
  exact parse_print _ (by decide)

/-- **Can an empty `Ranged{s, s}` be built at all?**  `PartialRange` / `Range` panic on `end <= start`, and
every edit operation goes through them or keeps a non-empty span non-empty (`Loc.wf` is closed under the
edits: `expand_ins`, `normalize_mod`, …).  The one constructor that does NOT check is the PARSER:
`parseRange` (and `parseAmbiguous`) fill the struct literal from the two numbers they read, so the text
`5..4` is `Ranged{4, 4}` — empty — and `5..3` is `Ranged{4, 3}`; both are canonical, so they are written
and read back as themselves.  A record READ from a file can hold one; a record built through the
constructors cannot (the struct types are exported, so a literal `gts.Ranged{4, 4, …}` can).  What the
edits then do with it is outside the domain of every check ("ranges with Start >= End are outside the
domain"): `Ranged.Reverse` goes through `PartialRange` and PANICS (`loc.reverse (R 4 4 0 0) 10` on the
code; the model, total there, answers `(R 6 6 0 0)`); the split branch of `Ranged.Normalize` goes through
`Range` and panics only if `End ≤ 0` (`Ranged{0, 0}`, the text `1..0`: `Range(0, 0)`), while
`Normalize(Ranged{4, 4}, 10)` is `join(5..10,1..4)` on both sides — the empty range becomes the whole
circle. -/
theorem empty_ranged_from_parser :
    parseLocation (str "5..4") = .ok (ranged 4 4 false false, []) ∧
    parseLocation (str "5..3") = .ok (ranged 4 3 false false, []) ∧
    parseLocation (str "1.0") = .ok (ambiguous 0 0, []) ∧
    canonP (ranged 4 4 false false) = true ∧ wf (ranged 4 4 false false) = false := by
  have h1 : printB (ranged 4 4 false false) = str "5..4" := by decide +kernel
  have h2 : printB (ranged 4 3 false false) = str "5..3" := by decide +kernel
  have h3 : printB (ambiguous 0 0) = str "1.0" := by decide +kernel
  refine ⟨?_, ?_, ?_, by decide, by decide⟩
  · rw [← h1]; exact parse_print _ (by decide)
  · rw [← h2]; exact parse_print _ (by decide)
  · rw [← h3]; exact parse_print _ (by decide)

/-- **What an empty `Ranged{s, s}` does under an insertion.**  It turns into the between-site `Between(s')`
under every `Expand` with `n ≠ 0` that does not insert exactly at `s` (there it becomes the inverted
`Ranged{s + n, s}`), and
then rules of `Push` DO fire — so the argument of `expand_insert_canon_partial` ("an insertion moves the keys
of neighbouring parts by jointly injective maps, no rule fires") does not extend to it: `join(1,2..1)` is
canonical, `Expand(2, 1)` makes the parts `1, 1^2`, and the between-site behind the point is DROPPED.  What
fires is a dropping rule, and the result `1` is canonical.  For a K3 shape the between-site would have to
stand in front of a point / range start with its own coordinate, and the canonical original excludes that
(`Point{p}` / `Between{p}` / `…End = p` in front of `Ranged{p, p}` is reduced, and so is `Point{p}` / `Between{p}` /
`Ranged{p, …}` behind it).  Decided scope, `#eval`: every canonical join of up to four parts over points,
between-sites, ALL `Ranged{s, e}` (empty and inverted included) and non-empty ambiguous spans with
coordinates 0..3 that holds an empty or inverted `Ranged` (388960 joins), `i` in 0..4, `n` in 1..2: the
result is canonical every time.  Not proved beyond that scope. -/
theorem expand_insert_empty_ranged_drops :
    canonP (joined [point 0, ranged 1 1 false false]) = true ∧
    (expandList [point 0, ranged 1 1 false false] 2 1).length = 2 ∧
    (expand (ranged 1 1 false false) 2 1).beq (between 1) = true ∧
    (expand (ranged 1 1 false false) 0 1).beq (between 2) = true ∧
    (expand (ranged 1 1 false false) 1 1).beq (ranged 2 1 false false) = true ∧
    (expand (joined [point 0, ranged 1 1 false false]) 2 1).beq (point 0) = true ∧
    canonP (expand (joined [point 0, ranged 1 1 false false]) 2 1) = true := by
  decide

/-- FULL STATEMENT for `Reverse`, coordinate clause (false, known finding K1): "a canonical location
inside a sequence of `L` residues (`coordsWithin`) stays canonical under `Reverse(L)`".
`Between.Reverse` is `L - 1 - p` where the mirror image of the site `p` is `L - p`: the site behind
the last residue, `10^11` in a sequence of ten residues, gets the coordinate −1 and is written `-1^0`. -/
theorem reverse_canon_coords_refuted :
    ¬ (∀ (l : Loc) (L : Int), canonP l = true → 0 ≤ L → L ≤ 4611686018427387904 → coordsWithin l L = true →
        canonP (reverse l L) = true) := by
  intro h
  exact absurd (h (between 10) 10 (by decide) (by decide) (by decide) (by decide)) (by decide)

/-- FULL STATEMENT for `Reverse`, structural clauses (false: K1 and K3 together): "a canonical
location whose mirror image has non-negative coordinates (`revIn`) stays canonical under `Reverse(L)`".
Witness `join(3,2^3,1^2,3)` in a sequence of five residues: the parts are mirrored to `3, 3^4, 2^3, 3`
— with the correct mirror image `5 - p` of a between-site they would be `3, 4^5, 3^4, 3` and nothing
would reduce —, `3^4` is dropped behind the point 3, `2^3` is replaced by the last point, and
`join(3,3)` is what gts writes (read back as `3`). -/
theorem reverse_canon_full_refuted :
    ¬ (∀ (l : Loc) (L : Int), canonP l = true → L ≤ 4611686018427387904 → revIn L l = true →
        canonP (reverse l L) = true) := by
  intro h
  exact absurd (h (joined [point 2, between 2, between 1, point 2]) 5 (by decide) (by decide) (by decide)) (by decide)

theorem reverse_canon_witness_read_back :
    (reverse (joined [point 2, between 2, between 1, point 2]) 5).beq (joined [point 2, point 2]) = true ∧
    printB (joined [point 2, point 2]) = str "join(3,3)" ∧
    parseLocation (printB (joined [point 2, point 2])) = .ok (point 2, []) := by
  exact ⟨by decide, by rw [str_ofList]; decide +kernel, written_join_read_back_as _ _ _ (by decide) (by decide)⟩

/-- **`Reverse(L)`: canonical stays canonical unless the K3 shape arises** (`reverseK3 l L = false`),
for `L ≤ 2^62` and a location whose mirror image has non-negative coordinates (`revIn L l`: spans end
at or before `L`, points AND between-sites lie before `L` — K1). -/
theorem reverse_canon_partial (l : Loc) (L : Int) (hc : canonP l = true) (hL : L ≤ 4611686018427387904)
    (hin : revIn L l = true) (hk3 : reverseK3 l L = false) : canonP (reverse l L) = true :=
  reverse_canon l L hc hL hin hk3

example : canonP (joined [ranged 0 3 true false, compl (joined [point 7, between 5]), ranged 10 20 false true]) = true ∧
    revIn 20 (joined [ranged 0 3 true false, compl (joined [point 7, between 5]), ranged 10 20 false true]) = true ∧
    reverseK3 (joined [ranged 0 3 true false, compl (joined [point 7, between 5]), ranged 10 20 false true]) 20 = false ∧
    (reverse (joined [ranged 0 3 true false, compl (joined [point 7, between 5]), ranged 10 20 false true]) 20).beq
      (joined [ranged 0 10 true false, compl (joined [between 14, point 12]), ranged 17 20 false true]) = true := by
  refine ⟨by decide, by decide, by decide, by decide⟩

/-- FULL STATEMENT for `Normalize` (false: K3 reached across the origin): "canonical stays canonical
under `Normalize(L)`, `0 < L`".  Witness `join(1,4^5,1)` in a circular sequence of four residues: the
site behind the last residue is the site in front of the first one, `Normalize` maps it to `0^1`, and
the parts `1, 0^1, 1` reduce to `join(1,1)`. -/
theorem normalize_canon_full_refuted :
    ¬ (∀ (l : Loc) (L : Int), canonP l = true → 0 < L → L ≤ 4611686018427387904 → coordsWithin l L = true →
        canonP (normalize l L) = true) := by
  intro h
  exact absurd (h (joined [point 0, between 4, point 0]) 4 (by decide) (by decide) (by decide) (by decide)) (by decide)

/-- **`Normalize(L)`, `0 < L ≤ 2^62`: canonical stays canonical unless the K3 shape arises**
(`normalizeK3 l L = false`); a range across the origin becomes a two-part join. -/
theorem normalize_canon_partial (l : Loc) (L : Int) (hc : canonP l = true) (hL0 : 0 < L)
    (hL : L ≤ 4611686018427387904) (hk3 : normalizeK3 l L = false) : canonP (normalize l L) = true :=
  normalize_canon l L hc hL0 hL hk3

example : canonP (joined [ranged 8 13 true false, compl (point 15), between 20]) = true ∧
    normalizeK3 (joined [ranged 8 13 true false, compl (point 15), between 20]) 10 = false ∧
    (normalize (joined [ranged 8 13 true false, compl (point 15), between 20]) 10).beq
      (joined [ranged 8 10 true false, ranged 0 3 false false, compl (point 5), between 0]) = true := by
  refine ⟨by decide, by decide, by decide⟩

/-- **Rotate = `Normalize(L) ∘ Expand(0, n)`** on a well-formed canonical location: canonical unless the
K3 shape arises in the `Normalize` step (the `Expand` step is an insertion and needs no guard). -/
theorem rotate_canon_partial (l : Loc) (n L M : Int) (hc : canonP l = true) (hw : wf l = true) (hn : 0 ≤ n)
    (hle : coordsLe M l = true) (hM : M + n ≤ 4611686018427387904) (hL0 : 0 < L)
    (hL : L ≤ 4611686018427387904) (hk3 : normalizeK3 (expand l 0 n) L = false) :
    canonP (normalize (expand l 0 n) L) = true :=
  normalize_canon _ L (expand_insert_canon_partial l 0 n M hc hw hn hle hM) hL0 hL hk3

example : canonP (joined [ranged 1 4 false false, compl (ranged 6 9 true false)]) = true ∧
    wf (joined [ranged 1 4 false false, compl (ranged 6 9 true false)]) = true ∧
    coordsLe 10 (joined [ranged 1 4 false false, compl (ranged 6 9 true false)]) = true ∧
    normalizeK3 (expand (joined [ranged 1 4 false false, compl (ranged 6 9 true false)]) 0 3) 10 = false ∧
    (normalize (expand (joined [ranged 1 4 false false, compl (ranged 6 9 true false)]) 0 3) 10).beq
      (joined [ranged 4 7 false false, compl (joined [ranged 9 10 true false, ranged 0 2 false false])]) = true := by
  refine ⟨by decide, by decide, by decide, by decide, by decide⟩

/-- **`Complement()`: canonical stays canonical** (it wraps, or unwraps a wrapped location). -/
theorem complement_canon (l : Loc) (hc : canonP l = true) : canonP l.complement = true :=
  have h := (canonP_iff l).mp hc
  (canonP_iff _).mpr ⟨LocParse.complement_coords l h.1, complement_struct l h.2⟩

example : canonP (compl (joined [point 1, point 5])) = true ∧
    (compl (joined [point 1, point 5])).complement.beq (joined [point 1, point 5]) = true := by decide

/-- the coordinate guards are implied by the oracle's in-bounds predicate: a location inside a
sequence of `L` residues has no coordinate above `L` … -/
theorem coordsLe_of_coordsWithin (l : Loc) (L : Int) (h : coordsWithin l L = true) : coordsLe L l = true :=
  coordsLe_of_within l L h

/-- … and its mirror image has non-negative coordinates if no between-site sits at `L` itself (K1) -/
theorem revIn_of_coordsWithin (l : Loc) (L : Int) (h : coordsWithin l L = true)
    (hb : (leaves l).all (fun u => !u.beq (between L)) = true) : revIn L l = true :=
  revIn_of_within l L h hb

end Gts.C06
