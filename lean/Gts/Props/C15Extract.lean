/-
  C15 (continued) — the FEATURE clause ("features in every output denote the residues they
  denoted in the input") for the two commands `Gts/Props/C15.lean` left to the oracle /
  correspondence: circular `gts split` and `gts extract`.  Property theorems only; helper lemmas
  and the folded K2 guards are in `Gts/Lemmas/CliSplitCirc.lean`, `Gts/Lemmas/CliExtract*.lean`.
-/
import Gts.Props.C15
import Gts.Lemmas.CliSplitCirc
import Gts.Lemmas.CliExtractFeat
import Gts.Lemmas.CliExtractWrap
namespace Gts.C15
open Gts Loc Reg

/-- **circular `gts split`, one piece** (one located region, or several regions sharing one
distinct cut): the record is re-origined at `c = Cli.splitOrigin` (the head of the only region /
the only cut) and — C04 `rotate_feature_partial` lifted to the scan loop — every feature of a
non-empty record is present in that piece with unchanged key and qualifiers and denotes the same
residues at `(x - c) mod L` (domain of the `Normalize` law and K2 guards as in C04). -/
theorem split_features_circular_one_partial (loc : Seq → List Reg) (s : Seq) (hne : loc s ≠ [])
    (h1 : (loc s).length = 1 ∨ (Cli.sortAscU ((loc s).map Cli.cutOf)).length = 1)
    (hL : 0 < s.len) (f : Feature) (hf : f ∈ s.feats)
    (hw : f.loc.wf = true) (hnn : f.loc.nonneg = true)
    (hok : Loc.normOk s.len (f.loc.expand 0 (C04.rotN (-(Cli.splitOrigin loc s)) s.len)) = true)
    (g1 : Loc.expandAbs f.loc 0 (C04.rotN (-(Cli.splitOrigin loc s)) s.len) = false)
    (g2 : Loc.normalizeAbs (f.loc.expand 0 (C04.rotN (-(Cli.splitOrigin loc s)) s.len)) s.len = false) :
    Cli.split loc true s = [s.rotate (-(Cli.splitOrigin loc s))] ∧
    ∃ f' ∈ (s.rotate (-(Cli.splitOrigin loc s))).feats, f'.key = f.key ∧ f'.props = f.props ∧
      f'.loc.den ≼ mapPos (rotMap (-(Cli.splitOrigin loc s)) s.len) f.loc.den :=
  ⟨Cli.split_circular_one loc s hne h1,
   C04.rotate_feature_partial s (-(Cli.splitOrigin loc s)) hL f hf hw hnn hok g1 g2⟩

theorem split_circular_windows_bounds (loc : Seq → List Reg) (s : Seq)
    (hw : ∀ r ∈ loc s, 0 ≤ Cli.cutOf r ∧ Cli.cutOf r ≤ s.len)
    (h2 : 2 ≤ (Cli.sortAscU ((loc s).map Cli.cutOf)).length) (c : Int)
    (hc : (Cli.sortAscU ((loc s).map Cli.cutOf)).getLast? = some c)
    (w : Int × Int) (hwm : w ∈ Cli.windows (c :: Cli.sortAscU ((loc s).map Cli.cutOf))) :
    0 ≤ w.1 ∧ w.1 ≤ s.len ∧ 0 ≤ w.2 ∧ w.2 ≤ s.len ∧ (w.2 < w.1 → w.1 = c) := by
  have hmem := Cli.sortAscU_map_bounds _ _ _ _ hw
  have hcb := hmem c (List.mem_of_getLast? hc)
  have hsorted := Cli.sortAscU_sorted_le ((loc s).map Cli.cutOf)
  revert hmem hsorted h2 hc hwm
  generalize Cli.sortAscU ((loc s).map Cli.cutOf) = heads
  intro h2 hc hwm hmem hsorted
  match heads, h2 with
  | a :: b :: t, _ =>
    rw [Cli.windows_cons_cons] at hwm
    have ha := hmem a (List.mem_cons_self ..)
    rcases List.mem_cons.mp hwm with rfl | hwm
    · exact ⟨hcb.1, hcb.2, ha.1, ha.2, fun _ => rfl⟩
    · have := Cli.window_mem a (b :: t) c hsorted hc w hwm
      exact ⟨by omega, by omega, by omega, by omega, fun h => by omega⟩

/-- **circular `gts split`, a feature in a piece** (at least two distinct cuts, all inside
`[0, len]`): for every window `w` of the cut list `c, cuts…` (`c` = the last cut; the first window
`(c, first cut)` runs across the origin, the others are forward windows) the piece `s.slice w.1 w.2`
IS one of the written pieces, and a feature overlapping the window is present in it with unchanged
key and qualifiers and denotes exactly its former residues inside the window, at their offset in
the piece (`Cli.cwinMap`: from `w.1` on first, across the origin the positions before `w.2` after
them).  The forward windows are C03 `slice_fwd_feature_partial`; the window across the origin is
`gts.Rotate(seq, -c)` (C04 `rotate_feature_partial`, the re-origin) followed by the forward slice
`[0, L - c + w.2)` — there the Go code tests the overlap on the ROTATED location `Cli.rotLoc`.
Guards: K2 in no `Expand` / `Normalize` of the piece (`Cli.cwinAbs`), and for the window across
the origin the domain of the `Normalize` law. -/
theorem split_circular_piece_feature_partial (loc : Seq → List Reg) (s : Seq)
    (hw : ∀ r ∈ loc s, 0 ≤ Cli.cutOf r ∧ Cli.cutOf r ≤ s.len)
    (h2 : 2 ≤ (Cli.sortAscU ((loc s).map Cli.cutOf)).length) (c : Int)
    (hc : (Cli.sortAscU ((loc s).map Cli.cutOf)).getLast? = some c)
    (w : Int × Int) (hwm : w ∈ Cli.windows (c :: Cli.sortAscU ((loc s).map Cli.cutOf)))
    (f : Feature) (hf : f ∈ s.feats) (hwf : f.loc.wf = true) (hnn : f.loc.nonneg = true)
    (hpos : ∀ p ∈ f.loc.den, 0 ≤ p.1 ∧ p.1 < s.len)
    (hok : w.2 < w.1 → Loc.normOk s.len (f.loc.expand 0 (C04.rotN (-w.1) s.len)) = true)
    (hov : if w.1 ≤ w.2 then f.loc.overlap w.1 w.2 = true
      else (Cli.rotLoc f.loc w.1 s.len).overlap 0 (s.len - w.1 + w.2) = true)
    (hg : Cli.cwinAbs s.len f.loc w = false) :
    s.slice w.1 w.2 ∈ Cli.split loc true s ∧
    ∃ f' ∈ (s.slice w.1 w.2).feats, f'.key = f.key ∧ f'.props = f.props ∧
      f'.loc.den ≼ filterMapPos (Cli.cwinMap s.len w.1 w.2) f.loc.den := by
  obtain ⟨b1, b2, b3, b4, _⟩ := split_circular_windows_bounds loc s hw h2 c hc w hwm
  constructor
  · rw [Cli.split_circular_windows loc s h2 c hc]
    exact List.mem_map.mpr ⟨w, hwm, rfl⟩
  · by_cases hfw : w.1 ≤ w.2
    · rw [if_pos hfw] at hov
      simp only [Cli.cwinAbs, if_pos hfw, Bool.or_eq_false_iff] at hg
      rw [Cli.cwinMap_fwd s.len hfw]
      exact C03.slice_fwd_feature_partial s w.1 w.2 b1 hfw b4 f hf hov hwf hpos hg.1 hg.2
    · rw [if_neg hfw] at hov
      simp only [Cli.cwinAbs, if_neg hfw, Bool.or_eq_false_iff] at hg
      obtain ⟨⟨⟨g1, g2⟩, g3⟩, g4⟩ := hg
      have key := C03.slice_wrap_feature_partial s w.1 w.2 b3 (by omega) b2 f hf hwf hnn
        (hok (by omega)) g1 g2 hov g3 g4
      rw [Cli.wrap_remap_eq s.len w.1 w.2 b3 (by omega) b2 _ hpos] at key
      exact key

/-- every feature of a piece comes from a feature of the record (forward windows: one
overlapping the window) -/
theorem split_circular_piece_feature_origin (loc : Seq → List Reg) (s : Seq)
    (hw : ∀ r ∈ loc s, 0 ≤ Cli.cutOf r ∧ Cli.cutOf r ≤ s.len)
    (h2 : 2 ≤ (Cli.sortAscU ((loc s).map Cli.cutOf)).length) (c : Int)
    (hc : (Cli.sortAscU ((loc s).map Cli.cutOf)).getLast? = some c)
    (w : Int × Int) (hwm : w ∈ Cli.windows (c :: Cli.sortAscU ((loc s).map Cli.cutOf)))
    (f' : Feature) (hf' : f' ∈ (s.slice w.1 w.2).feats) :
    ∃ f ∈ s.feats, f'.key = f.key ∧ f'.props = f.props ∧
      (w.1 ≤ w.2 → f.loc.overlap w.1 w.2 = true) := by
  obtain ⟨b1, b2, b3, b4, _⟩ := split_circular_windows_bounds loc s hw h2 c hc w hwm
  by_cases hfw : w.1 ≤ w.2
  · obtain ⟨f, h1, h2', h3, h4⟩ := C03.slice_fwd_feature_origin s w.1 w.2 b1 hfw f' hf'
    exact ⟨f, h1, h3, h4, fun _ => h2'⟩
  · obtain ⟨f, hfm, _, h3, h4, _⟩ := C03.slice_wrap_feature_origin s w.1 w.2 b3 (by omega) f' hf'
    exact ⟨f, hfm, h3, h4, fun h => absurd h hfw⟩

/-- **circular `gts split`: the pieces of a feature together denote its residues** (at least two
distinct cuts, all inside `[0, len]`) — every residue `p` a feature denotes (location well-formed,
non-negative coordinates, positions inside the record) lies in exactly one window `w` of the cut
list `c, cuts…`; the piece written for `w` contains the feature (same key and qualifiers), its
location there denotes only former residues of the feature inside `w`, at their offset in that
piece (`Cli.cwinMap`), and among them `p`, on the same strand.  Guards: K2 in no step of any
piece (`Cli.cwinAbs`); for the piece across the origin the domain of the `Normalize` law after
the re-origin at the last cut `c`. -/
theorem split_features_circular_partial (loc : Seq → List Reg) (s : Seq)
    (hw : ∀ r ∈ loc s, 0 ≤ Cli.cutOf r ∧ Cli.cutOf r ≤ s.len)
    (h2 : 2 ≤ (Cli.sortAscU ((loc s).map Cli.cutOf)).length) (c : Int)
    (hc : (Cli.sortAscU ((loc s).map Cli.cutOf)).getLast? = some c)
    (f : Feature) (hf : f ∈ s.feats) (hwf : f.loc.wf = true) (hnn : f.loc.nonneg = true)
    (hpos : ∀ p ∈ f.loc.den, 0 ≤ p.1 ∧ p.1 < s.len)
    (hok : Loc.normOk s.len (f.loc.expand 0 (C04.rotN (-c) s.len)) = true)
    (hg : ∀ w ∈ Cli.windows (c :: Cli.sortAscU ((loc s).map Cli.cutOf)),
      Cli.cwinAbs s.len f.loc w = false)
    (p : Pos) (hp : p ∈ f.loc.den) :
    ∃ w ∈ Cli.windows (c :: Cli.sortAscU ((loc s).map Cli.cutOf)),
      Cli.cwinHas w.1 w.2 p.1 ∧
      (∀ w' ∈ Cli.windows (c :: Cli.sortAscU ((loc s).map Cli.cutOf)),
        Cli.cwinHas w'.1 w'.2 p.1 → w' = w) ∧
      s.slice w.1 w.2 ∈ Cli.split loc true s ∧
      ∃ f' ∈ (s.slice w.1 w.2).feats, f'.key = f.key ∧ f'.props = f.props ∧
        f'.loc.den ≼ filterMapPos (Cli.cwinMap s.len w.1 w.2) f.loc.den ∧
        ∃ y, Cli.cwinMap s.len w.1 w.2 p.1 = some y ∧ (y, p.2) ∈ f'.loc.den := by
  obtain ⟨w, hwm, hwx, huniq⟩ := Cli.cwindow_partition _ (Cli.sortAscU_sorted ((loc s).map Cli.cutOf))
    h2 c hc p.1
  obtain ⟨b1, b2, b3, b4, b5⟩ := split_circular_windows_bounds loc s hw h2 c hc w hwm
  have hpp := hpos p hp
  have hgw := hg w hwm
  -- the overlap test of the Go code holds because the location denotes a residue in the window
  have hov : if w.1 ≤ w.2 then f.loc.overlap w.1 w.2 = true
      else (Cli.rotLoc f.loc w.1 s.len).overlap 0 (s.len - w.1 + w.2) = true := by
    unfold Cli.cwinHas at hwx
    by_cases hfw : w.1 ≤ w.2
    · rw [if_pos hfw] at hwx ⊢
      exact Loc.overlap_of_mem_den f.loc w.1 w.2 hwf p hp hwx.1 hwx.2
    · rw [if_neg hfw] at hwx ⊢
      have hwc : w.1 = c := b5 (by omega)
      simp only [Cli.cwinAbs, if_neg hfw, Bool.or_eq_false_iff] at hgw
      exact C03.slice_wrap_survives_partial s w.1 w.2 b3 (by omega) b2 f hwf hnn hpos (hwc ▸ hok)
        hgw.1.1.1 hgw.1.1.2 p hp (by omega)
  obtain ⟨hmem, f', hf', hk, hpr, hden⟩ := split_circular_piece_feature_partial loc s hw h2 c hc w hwm
    f hf hwf hnn hpos (fun h => by rw [b5 h]; exact hok) hov hgw
  obtain ⟨y, hy⟩ := Option.isSome_iff_exists.mp ((Cli.cwinMap_isSome_iff s.len w.1 w.2 p.1).mpr hwx)
  exact ⟨w, hwm, hwx, huniq, hmem, f', hf', hk, hpr, hden, y, hy, hden.2 _ (Cli.mem_filterMapPos hp hy)⟩

/-! ### non-vacuity (circular split) -/

/-- hypotheses of `split_features_circular_one_partial`: the 12-residue record `s1` of
`Gts/Props/C15.lean` (a `source`, the complement-strand join `gene1`, a `misc_feature`), one
located region with head 5 — and two regions sharing the cut 5 -/
example : (fun _ : Seq => [seg 5 2]) s1 ≠ [] ∧ ((fun _ : Seq => [seg 5 2]) s1).length = 1 ∧
    Cli.splitOrigin (fun _ => [seg 5 2]) s1 = 5 ∧ Cli.splitOrigin (fun _ => [seg 5 9, seg 5 7]) s1 = 5 ∧
    (Cli.sortAscU (((fun _ : Seq => [seg 5 9, seg 5 7]) s1).map Cli.cutOf)).length = 1 ∧
    0 < s1.len ∧ gene1.loc.wf = true ∧ gene1.loc.nonneg = true ∧
    Loc.normOk s1.len (gene1.loc.expand 0 (C04.rotN (-5) s1.len)) = true ∧
    Loc.expandAbs gene1.loc 0 (C04.rotN (-5) s1.len) = false ∧
    Loc.normalizeAbs (gene1.loc.expand 0 (C04.rotN (-5) s1.len)) s1.len = false := by decide +kernel

/-- hypotheses of `split_features_circular_partial` / `split_circular_piece_feature_partial` for
`gene1` under the three regions `loc2` (cuts 2, 3, 5; the circle is opened at the last cut 5:
windows `(5,2)` across the origin, `(2,3)`, `(3,5)`) -/
example : (∀ r ∈ loc2 s1, 0 ≤ Cli.cutOf r ∧ Cli.cutOf r ≤ s1.len) ∧
    Cli.sortAscU ((loc2 s1).map Cli.cutOf) = [2, 3, 5] ∧
    (Cli.sortAscU ((loc2 s1).map Cli.cutOf)).getLast? = some 5 ∧
    Cli.windows (5 :: Cli.sortAscU ((loc2 s1).map Cli.cutOf)) = [(5, 2), (2, 3), (3, 5)] ∧
    gene1.loc.wf = true ∧ gene1.loc.nonneg = true ∧
    (∀ p ∈ gene1.loc.den, 0 ≤ p.1 ∧ p.1 < s1.len) ∧
    Loc.normOk s1.len (gene1.loc.expand 0 (C04.rotN (-5) s1.len)) = true ∧
    (∀ w ∈ Cli.windows (5 :: Cli.sortAscU ((loc2 s1).map Cli.cutOf)), Cli.cwinAbs s1.len gene1.loc w = false) ∧
    (Cli.rotLoc gene1.loc 5 s1.len).overlap 0 (s1.len - 5 + 2) = true := by decide +kernel
/-- … and what they give: the join `complement(join(<2..4,7,9..>11))` (0-based residues 10,9,8 | 6 |
3,2,1; `gene1 ∈ s1.feats` is an `example` of `Gts/Props/C15.lean`) in the three pieces: across the
origin 10,9,8,6 and 1 (re-based to 5,4,3,1 and 8), then 2, then 3 -/
example : (Cli.split loc2 true s1).map (fun pc => (pc.feats.filter (·.key = "gene")).map (·.loc.den)) =
      [[[(5, true), (4, true), (3, true), (1, true), (8, true)]], [[(0, true)]], [[(0, true)]]] ∧
    filterMapPos (Cli.cwinMap s1.len 5 2) gene1.loc.den =
      [(5, true), (4, true), (3, true), (1, true), (8, true)] := by decide +kernel

/-! ## extract: features

`Cli.extract` writes `r.Locate(seq)` (`Reg.locate`) for every region `r` of `Cli.extractRegs` (the
de-duplicated located regions, with `-v` their linear complement; `extract_regs_filter`).
`Region.Locate` slices the record once per LEAF segment of the region tree (`gts.Slice`, for a
backward segment followed by `gts.Complement` and `gts.Reverse`) and concatenates the results
(`gts.Concat`); a feature of the input is therefore present once per leaf whose window it overlaps:
its PIECES `Cli.locPieces` (`Gts/Lemmas/CliExtractFeat.lean`), each with its leaf, the offset of the
leaf in the emitted record, its location and the K2 guard of the steps that made it. -/

/-- the guard of the extract theorems below, from the harness's guard on the LOCATED regions: when
every located region lies inside the record, so does every region extract emits — with and without
`-v` (`extract_invert_cover`: the inverted regions are forward segments inside `[0, len]`) -/
theorem extract_regs_within (locs : List (Seq → List Reg)) (invert : Bool) (s : Seq)
    (hw : within s.len (many (locs.flatMap fun l => l s)))
    (r : Reg) (hr : r ∈ Cli.extractRegs locs invert s) : within s.len r := by
  -- the emitted regions are among the de-duplicated located regions resp. their linear inversion
  have hm := (extract_regs_filter locs invert s).2.1.subset hr
  cases invert with
  | false => exact (Cli.within_many_iff _ _).mp hw r (((extract_dedup _).2.1 r).mp hm)
  | true =>
    obtain ⟨_, hb, _⟩ := extract_invert_cover locs s hw
    exact (Cli.within_many_iff _ _).mp (fun g hg => by have := hb g hg; omega) r hm

/-- **`gts extract`, the feature table of every emitted record** (region inside the record): up to
the order `FeatureSlice.Insert` gives it, it consists of exactly the pieces of the input's
features — one feature per input feature and overlapped leaf segment, nothing else. -/
theorem extract_feats_perm (locs : List (Seq → List Reg)) (invert : Bool) (s : Seq)
    (r : Reg) (hr : r ∈ Cli.extractRegs locs invert s) (hwr : within s.len r) :
    r.locate s ∈ Cli.extract locs invert s ∧
    (r.locate s).feats.Perm
      (s.feats.flatMap fun f => (Cli.locPieces s.len f r).map (Cli.pieceFeat f)) :=
  ⟨List.mem_map_of_mem (f := fun r => r.locate s) hr, Cli.locate_feats_perm s r hwr⟩

/-- … in particular every feature of an emitted record is a piece of a feature of the input, with
that feature's key and qualifiers -/
theorem extract_feature_origin (s : Seq) (r : Reg) (hwr : within s.len r)
    (f' : Feature) (hf' : f' ∈ (r.locate s).feats) :
    ∃ f ∈ s.feats, ∃ p ∈ Cli.locPieces s.len f r,
      f'.key = f.key ∧ f'.props = f.props ∧ f'.loc = p.loc := by
  have h := (Cli.locate_feats_perm s r hwr).subset hf'
  obtain ⟨f, hf, hm⟩ := List.mem_flatMap.mp h
  obtain ⟨p, hp, rfl⟩ := List.mem_map.mp hm
  exact ⟨f, hf, p, hp, rfl, rfl, rfl⟩

/-- **which pieces**: a feature has one piece per leaf segment of the region tree (left to right)
that passes the `Overlap` filter of `gts.Slice`, and the offset of a piece is the total length of
the leaves in front of its leaf (`Cli.leafOffs`) — which is where the residues of that leaf lie in
`Reg.den r`, i.e. (C05 `region_locate_bytes`) in the emitted record. -/
theorem extract_pieces_leaves (L : Int) (f : Feature) (r : Reg) :
    (Cli.locPieces L f r).map Cli.Piece.key =
      (Cli.leafOffs r 0).filter (fun lo => Cli.segOverlap f lo.1.1 lo.1.2) ∧
    ∀ lo ∈ Cli.leafOffs r 0, ∃ pre post,
      Reg.den r = pre ++ Reg.den (seg lo.1.1 lo.1.2) ++ post ∧ (pre.length : Int) = lo.2 :=
  ⟨Cli.locPieces_keys L f r, by simpa only [Int.sub_zero] using Cli.leafOffs_den r 0⟩

/-- FULL STATEMENT of the feature clause for `gts extract` (no K2 guard): false today through known
finding K2 inside `Join` — the well-formed, duplicate-free `join(4..6,7)` (0-based residues 3,4,5,6)
on a 10-residue record, extracted with the region `1..8`, comes out as `4..6`: residue 6 is lost
(`Expand` re-`Join`s the parts and `Push` drops a point pushed after a range ending at it). -/
theorem extract_features_full_refuted :
    ¬ (∀ (s : Seq) (r : Reg) (f : Feature), within s.len r → f ∈ s.feats → f.loc.wf = true →
        Loc.coordsWithin f.loc s.len = true →
        ∀ p ∈ Cli.locPieces s.len f r,
          p.loc.den ≼ mapPos (· + p.off) (Cli.segPull p.leaf.1 p.leaf.2 f.loc.den)) := by
  intro h
  have hov : Cli.segOverlap ⟨"gene", .joined [.ranged 3 6 false false, .point 6], []⟩ 0 8 = true := by decide
  have := (h ⟨[⟨"gene", .joined [.ranged 3 6 false false, .point 6], []⟩], [97, 99, 103, 116, 97, 99, 103, 116, 97, 99]⟩
    (seg 0 8) ⟨"gene", .joined [.ranged 3 6 false false, .point 6], []⟩ (by decide)
    (List.mem_singleton.mpr rfl) (by decide) (by decide)
    ⟨(0, 8), 0, Cli.segFeatLoc ⟨"gene", .joined [.ranged 3 6 false false, .point 6], []⟩ 0 8 10,
      Cli.segAbs ⟨"gene", .joined [.ranged 3 6 false false, .point 6], []⟩ 0 8 10⟩
    (by simp only [Cli.locPieces, hov, if_true]; exact List.mem_singleton.mpr rfl)).2
    (6, false) (by decide)
  revert this
  decide

/-- **`gts extract`, every feature, every emitted record** (the last sentence of the property for
extract): let `r` be one of the regions extract emits — a forward segment, a backward segment or
a composite region of any nesting, with `-v` an inverted one — with every end of every leaf
inside the record, and `f` a feature of the input (location well-formed, coordinates inside the
record).  For every piece `p` of `f` (one per leaf segment `(h, t) = p.leaf` of `r` the feature
overlaps, `extract_pieces_leaves`) the emitted record `r.Locate(seq)` — which IS one of the written
records — has a feature with `f`'s key and qualifiers and the location `p.loc`, and that location
denotes EXACTLY the residues of `f` that lie inside the leaf, at their position in the emitted
record and on the strand relative to the leaf (`Cli.segPull`, then the offset `p.off` of the leaf):
input residue `x` of a forward leaf is at `p.off + x - h` on the same strand, of a backward leaf
(reverse-complemented) at `p.off + h - 1 - x` on the opposite strand; order kept.  Composition of
C03 (`Slice`: `sliceLoc_den`), C05 (`Complement`, `Reverse`: `reverse_mirror`) and C10 (`Concat`:
`Expand(0, offset)` translates).  Guard: K2 in none of these steps (`p.abs`, folded along the
region tree like `Cli.delAbs` along the delete loop); without it the statement is
`extract_features_full_refuted`. -/
theorem extract_features_partial (locs : List (Seq → List Reg)) (invert : Bool) (s : Seq)
    (r : Reg) (hr : r ∈ Cli.extractRegs locs invert s) (hwr : within s.len r)
    (f : Feature) (hf : f ∈ s.feats) (hw : f.loc.wf = true)
    (hcw : Loc.coordsWithin f.loc s.len = true)
    (p : Cli.Piece) (hp : p ∈ Cli.locPieces s.len f r) (hg : p.abs = false) :
    r.locate s ∈ Cli.extract locs invert s ∧
    p.key ∈ Cli.leafOffs r 0 ∧ Cli.segOverlap f p.leaf.1 p.leaf.2 = true ∧
    ∃ f' ∈ (r.locate s).feats, f'.key = f.key ∧ f'.props = f.props ∧ f'.loc = p.loc ∧
      f'.loc.den ≼ mapPos (· + p.off) (Cli.segPull p.leaf.1 p.leaf.2 f.loc.den) := by
  rw [Loc.coordsWithin_eq] at hcw
  obtain ⟨hk1, hk2⟩ := Cli.locPieces_key_mem hp
  refine ⟨List.mem_map_of_mem (f := fun r => r.locate s) hr, hk1, hk2, Cli.pieceFeat f p, ?_, rfl, rfl, rfl, ?_⟩
  · apply (Cli.locate_feats_perm s r hwr).symm.subset
    exact List.mem_flatMap.mpr ⟨f, hf, List.mem_map_of_mem hp⟩
  · exact (Cli.locPieces_ok s.len f hw hcw r hwr p hp).2.2 hg

/-- … with EQUALITY for duplicate-free locations (every real feature). -/
theorem extract_features_eq_partial (locs : List (Seq → List Reg)) (invert : Bool) (s : Seq)
    (r : Reg) (hr : r ∈ Cli.extractRegs locs invert s) (hwr : within s.len r)
    (f : Feature) (hf : f ∈ s.feats) (hw : f.loc.wf = true)
    (hcw : Loc.coordsWithin f.loc s.len = true) (hnd : f.loc.den.Nodup)
    (p : Cli.Piece) (hp : p ∈ Cli.locPieces s.len f r) (hg : p.abs = false) :
    ∃ f' ∈ (r.locate s).feats, f'.key = f.key ∧ f'.props = f.props ∧ f'.loc = p.loc ∧
      f'.loc.den = mapPos (· + p.off) (Cli.segPull p.leaf.1 p.leaf.2 f.loc.den) := by
  obtain ⟨_, _, _, f', h1, h2, h3, h4, h5⟩ := extract_features_partial locs invert s r hr hwr f hf hw hcw p hp hg
  exact ⟨f', h1, h2, h3, h4, h5.eq_of_nodup
    (Loc.nodup_mapPos_of_inj _ _ (fun a _ b _ h => by omega) (Cli.segPull_nodup _ _ _ hnd))⟩

/-- **`gts extract`: the pieces of a feature denote every one of its residues inside the region** —
for every leaf segment `lo.1 = (h, t)` of an emitted region (at offset `lo.2`) and every residue `q`
of a feature that lies inside that leaf (`Cli.segMap h t q.1 = some y`), the feature has a piece for
that leaf, the emitted record contains it (same key and qualifiers), and — K2 guard of the piece —
its location denotes the residue at position `lo.2 + y` of the emitted record, on the strand relative
to the leaf. -/
theorem extract_features_cover_partial (s : Seq) (r : Reg) (hwr : within s.len r)
    (f : Feature) (hf : f ∈ s.feats) (hw : f.loc.wf = true)
    (hcw : Loc.coordsWithin f.loc s.len = true)
    (lo : Seg × Int) (hlo : lo ∈ Cli.leafOffs r 0) (q : Pos) (hq : q ∈ f.loc.den) (y : Int)
    (hm : Cli.segMap lo.1.1 lo.1.2 q.1 = some y) :
    ∃ p ∈ Cli.locPieces s.len f r, p.key = lo ∧
      ∃ f' ∈ (r.locate s).feats, f'.key = f.key ∧ f'.props = f.props ∧ f'.loc = p.loc ∧
        (p.abs = false → (lo.2 + y, if lo.1.2 < lo.1.1 then !q.2 else q.2) ∈ f'.loc.den) := by
  have hov : Cli.segOverlap f lo.1.1 lo.1.2 = true := by
    unfold Cli.segOverlap
    rcases Cli.segMap_eq_some hm with ⟨c, h1, h2, _⟩ | ⟨c, h1, h2, _⟩
    · rw [if_pos c]; exact Loc.overlap_of_mem_den f.loc _ _ hw q hq h1 h2
    · rw [if_neg c]; exact Loc.overlap_of_mem_den f.loc _ _ hw q hq h1 h2
  have hk : lo ∈ (Cli.locPieces s.len f r).map Cli.Piece.key := by
    rw [Cli.locPieces_keys]
    exact List.mem_filter.mpr ⟨hlo, hov⟩
  obtain ⟨p, hp, rfl⟩ := List.mem_map.mp hk
  refine ⟨p, hp, rfl, Cli.pieceFeat f p, ?_, rfl, rfl, rfl, ?_⟩
  · apply (Cli.locate_feats_perm s r hwr).symm.subset
    exact List.mem_flatMap.mpr ⟨f, hf, List.mem_map_of_mem hp⟩
  · intro hg
    rw [Loc.coordsWithin_eq] at hcw
    apply ((Cli.locPieces_ok s.len f hw hcw r hwr p hp).2.2 hg).2
    exact List.mem_map.mpr ⟨(y, _), List.mem_filterMap.mpr ⟨q, hq, congrArg (Option.map _) hm⟩,
      Prod.ext (Int.add_comm ..) rfl⟩

/-- **`gts extract`, in INPUT coordinates** (what the oracle of the harness decides): position `k` of
the emitted record is input residue `(Reg.den r)[k]` (C05 `region_locate_bytes`), so an emitted
feature residue `(k, strand)` stands for input position `(Reg.den r)[k].1` on the strand
`(Reg.den r)[k].2` flipped by `strand` (`Cli.backPos`).  Read back like this, the emitted feature
denotes exactly the residues of the input feature that lie inside the leaf — same positions, same
strands, same order (`≼`: up to dropped repetitions; `=` for duplicate-free locations). -/
theorem extract_features_back_partial (s : Seq) (r : Reg) (hwr : within s.len r)
    (f : Feature) (hf : f ∈ s.feats) (hw : f.loc.wf = true)
    (hcw : Loc.coordsWithin f.loc s.len = true)
    (p : Cli.Piece) (hp : p ∈ Cli.locPieces s.len f r) (hg : p.abs = false) :
    ∃ f' ∈ (r.locate s).feats, f'.key = f.key ∧ f'.props = f.props ∧ f'.loc = p.loc ∧
      f'.loc.den.filterMap (Cli.backPos (Reg.den r)) ≼
        (f.loc.den.filter fun q => (Cli.segMap p.leaf.1 p.leaf.2 q.1).isSome) ∧
      (f.loc.den.Nodup → f'.loc.den.filterMap (Cli.backPos (Reg.den r)) =
        f.loc.den.filter fun q => (Cli.segMap p.leaf.1 p.leaf.2 q.1).isSome) := by
  rw [Loc.coordsWithin_eq] at hcw
  have hb := Cli.piece_back s.len f hw hcw r hwr p hp hg
  refine ⟨Cli.pieceFeat f p, ?_, rfl, rfl, rfl, hb, fun hnd => hb.eq_of_nodup (hnd.filter _)⟩
  apply (Cli.locate_feats_perm s r hwr).symm.subset
  exact List.mem_flatMap.mpr ⟨f, hf, List.mem_map_of_mem hp⟩

/-- **`gts extract`: every emitted feature reads, in the emitted record, the residues the input
feature read in the input** (residue-level corollary; `Gts.readAt`: the byte at the position,
complemented on the complement strand) — for a duplicate-free feature location, the residues the
piece reads from `r.Locate(seq)`, in order, are the residues the feature reads from the input at
its positions inside the leaf, in order; up to U → T, because a residue of a complement-strand
feature extracted through a backward segment is complemented twice. -/
theorem extract_features_residues_partial (s : Seq) (r : Reg) (hwr : within s.len r)
    (f : Feature) (hf : f ∈ s.feats) (hw : f.loc.wf = true)
    (hcw : Loc.coordsWithin f.loc s.len = true) (hnd : f.loc.den.Nodup)
    (p : Cli.Piece) (hp : p ∈ Cli.locPieces s.len f r) (hg : p.abs = false) :
    ∃ f' ∈ (r.locate s).feats, f'.key = f.key ∧ f'.props = f.props ∧ f'.loc = p.loc ∧
      f'.loc.den.map (fun q => uToT (Gts.readAt (r.locate s).bytes q)) =
        (f.loc.den.filter fun q => (Cli.segMap p.leaf.1 p.leaf.2 q.1).isSome).map
          (fun q => uToT (Gts.readAt s.bytes q)) := by
  obtain ⟨f', h1, h2, h3, h4, _, h6⟩ := extract_features_back_partial s r hwr f hf hw hcw p hp hg
  refine ⟨f', h1, h2, h3, h4, ?_⟩
  rw [← h6 hnd]
  apply Cli.map_eq_of_filterMap
  intro q hq
  rw [Loc.coordsWithin_eq] at hcw
  have hden := (Cli.locPieces_ok s.len f hw hcw r hwr p hp).2.2 hg
  have hk := (Cli.locPieces_key_mem hp).1
  rw [h4] at hq
  obtain ⟨p0, _, hb⟩ := Cli.segPull_back_some r p.key hk f.loc.den q (hden.1.subset hq)
  exact ⟨p0, hb, Cli.readAt_back r s hwr q p0 hb⟩

/-- **`gts extract`, a forward segment that wraps around the origin of a circular record** (a head
before position 0, e.g. from a modifier that extends a region to the left of the origin:
`-L ≤ h < 0 ≤ t < h + L`): `Segment{h, t}.Locate` is `gts.Slice(seq, h + L, t)` in its wrap-around
branch — `gts.Rotate(seq, -(h + L))` (C04, the re-origin), then the forward slice `[0, t - h)` —
so, exactly as for the first piece of circular split, a feature whose ROTATED location overlaps the
window is present with unchanged key and qualifiers and denotes exactly its former residues inside
the window `h + L … L, 0 … t`, at their offset in the emitted record (`Cli.cwinMap`).  Guards: the
domain of the `Normalize` law and K2 in no step (`Cli.cwinAbs`).  (A BACKWARD wrap-around segment and a
wrap-around part of a composite region: `extract_wrap_segment_piece_partial`,
`extract_wrap_part_feature_partial` below; the harness sends such locators on circular records.) -/
theorem extract_wrap_segment_feature_partial (s : Seq) (h t : Int) (hh : h < 0) (hL : -s.len ≤ h)
    (ht0 : 0 ≤ t) (htw : t < h + s.len)
    (f : Feature) (hf : f ∈ s.feats) (hwf : f.loc.wf = true) (hnn : f.loc.nonneg = true)
    (hpos : ∀ p ∈ f.loc.den, 0 ≤ p.1 ∧ p.1 < s.len)
    (hok : Loc.normOk s.len (f.loc.expand 0 (C04.rotN (-(h + s.len)) s.len)) = true)
    (hov : (Cli.rotLoc f.loc (h + s.len) s.len).overlap 0 (s.len - (h + s.len) + t) = true)
    (hg : Cli.cwinAbs s.len f.loc (h + s.len, t) = false) :
    (seg h t).locate s = s.slice (h + s.len) t ∧
    ∃ f' ∈ ((seg h t).locate s).feats, f'.key = f.key ∧ f'.props = f.props ∧
      f'.loc.den ≼ filterMapPos (Cli.cwinMap s.len (h + s.len) t) f.loc.den := by
  have e : (seg h t).locate s = s.slice (h + s.len) t := by
    simp only [Reg.locate, show ¬ t < h by omega, if_false]
    exact Cli.slice_neg_start s h t hh (by omega) ht0
  refine ⟨e, ?_⟩
  rw [e]
  obtain ⟨m, _, _, d⟩ := Cli.wrapFeatLoc_facts s h t hL hh ht0 htw f hf hwf hnn hpos hok
    (by rwa [show t - h = s.len - (h + s.len) + t by omega])
  exact ⟨_, m, rfl, rfl, d hg⟩

/-- non-vacuity: `gene1` on the 12-residue record `s1`, the segment `(-3, 2)` (residues 9, 10, 11,
0, 1): the gene's residues 10, 9 and 1 come out at 1, 0 and 4 -/
example : gene1.loc.wf = true ∧ gene1.loc.nonneg = true ∧
    (∀ p ∈ gene1.loc.den, 0 ≤ p.1 ∧ p.1 < s1.len) ∧
    Loc.normOk s1.len (gene1.loc.expand 0 (C04.rotN (-(-3 + s1.len)) s1.len)) = true ∧
    (Cli.rotLoc gene1.loc (-3 + s1.len) s1.len).overlap 0 (s1.len - (-3 + s1.len) + 2) = true ∧
    Cli.cwinAbs s1.len gene1.loc (-3 + s1.len, 2) = false ∧
    filterMapPos (Cli.cwinMap s1.len (-3 + s1.len) 2) gene1.loc.den = [(1, true), (0, true), (4, true)] ∧
    (((seg (-3) 2).locate s1).feats.filter (·.key = "gene")).map (·.loc.den) =
      [[(1, true), (0, true), (4, true)]] ∧
    ((seg (-3) 2).locate s1).bytes = [67, 71, 84, 65, 67] := by decide +kernel

/-! ### regions that reach across the origin of a circular record

What `Region.Locate` accepts there (found on the code, `Segment.Locate` → `gts.Slice`; `lo = min h t`,
`hi = max h t`, `L` the length): a negative end has `L` added ONCE, then `end < start` means "rotate by
`-start`, cut `[0, L - start + end)`".  So a leaf reads the window `lo + L … L, 0 … hi` of the circle exactly
for `-L ≤ lo < 0 ≤ hi < lo + L` (`Cli.wrapSeg`); with both ends in `[-L, 0)` it reads the forward window
shifted by `L` (`locate_neg_segment_shift`); `hi ≥ lo + L` is read as the FORWARD window `[lo + L, hi)` — a
segment as long as the circle comes out empty, `locate_long_wrap_differs`; and an end above `L` is outside
what `gts.Slice` accepts (`seq.Bytes()[start:end]` beyond the length: a panic, or bytes of the spare
capacity).  The topology is not consulted: a linear record is read the same way. -/

/-- **`gts extract`, a segment across the origin, forward OR backward** (`Cli.wrapSeg`: `-L ≤ lo < 0 ≤ hi <
lo + L`).  `Segment{h, t}.Locate` is the wrap-around `gts.Slice` of the window `lo + L … L, 0 … hi` —
`gts.Rotate(seq, -(lo + L))`, then the forward slice `[0, hi - lo)` — and for a backward segment
`gts.Complement` and `gts.Reverse` of that.  A feature whose ROTATED location overlaps the window
(`Cli.wsegOverlap`, the test the Go code makes) is in the emitted record with unchanged key and qualifiers at
the location `Cli.wsegFeatLoc`, and that location denotes exactly the feature's residues inside the window, at
their position in the emitted record, on the strand relative to the segment (`Cli.wsegPull`): input residue
`x` of a forward segment is at `x - (h + L)` (from `h + L` on) resp. `x + L - (h + L)` (before `t`) on the
same strand; of a backward segment — the reverse complement of the window `t + L … L, 0 … h` — at `h - t - 1`
minus that offset, on the opposite strand; order kept.  Guards: the domain of the `Normalize` law for the
re-origin, K2 in none of the steps (`Cli.wsegAbs`: `Expand`, `Normalize`, two `Expand`s, backward also
`Reverse`).  The emitted record IS one of the written ones when the segment is among `Cli.extractRegs`. -/
theorem extract_wrap_segment_piece_partial (locs : List (Seq → List Reg)) (invert : Bool) (s : Seq)
    (h t : Int) (hr : seg h t ∈ Cli.extractRegs locs invert s) (hws : Cli.wrapSeg s.len h t = true)
    (f : Feature) (hf : f ∈ s.feats) (hwf : f.loc.wf = true) (hnn : f.loc.nonneg = true)
    (hpos : ∀ p ∈ f.loc.den, 0 ≤ p.1 ∧ p.1 < s.len)
    (hok : Loc.normOk s.len (f.loc.expand 0 (C04.rotN (-((if t < h then t else h) + s.len)) s.len)) = true)
    (hov : Cli.wsegOverlap f h t s.len = true) (hg : Cli.wsegAbs f h t s.len = false) :
    (seg h t).locate s ∈ Cli.extract locs invert s ∧
    ((seg h t).locate s).len = Reg.len (seg h t) ∧
    ∃ f' ∈ ((seg h t).locate s).feats, f'.key = f.key ∧ f'.props = f.props ∧
      f'.loc = Cli.wsegFeatLoc f h t s.len ∧
      f'.loc.den ≼ Cli.wsegPull s.len h t f.loc.den := by
  obtain ⟨m, _, _, d⟩ := Cli.locate_wseg_feature s h t hws f hf hwf hnn hpos hok hov
  exact ⟨List.mem_map_of_mem (f := fun r => r.locate s) hr, Cli.locate_wseg_len s h t hws,
    _, m, rfl, rfl, rfl, d hg⟩

/-- … its residues: the window of the circle, reverse-complemented for a backward segment -/
theorem extract_wrap_segment_bytes (s : Seq) (h t : Int) (hws : Cli.wrapSeg s.len h t = true) :
    ((seg h t).locate s).bytes =
      if t < h then
        ((s.bytes.drop (t + s.len).toNat ++ s.bytes.take h.toNat).map Nuc.complementByte).reverse
      else s.bytes.drop (h + s.len).toNat ++ s.bytes.take t.toNat := by
  rw [Cli.locate_wseg s h t hws]
  unfold Cli.wrapSeg at hws
  by_cases hth : t < h
  · simp only [hth, if_true, Bool.and_eq_true, decide_eq_true_eq] at hws ⊢
    simp only [Seq.reverse, Seq.complement]
    rw [C03.slice_bytes_wrap s (t + s.len) h hws.1.2 (by omega) (by omega)]
  · simp only [hth, if_false, Bool.and_eq_true, decide_eq_true_eq] at hws ⊢
    rw [C03.slice_bytes_wrap s (h + s.len) t hws.1.2 (by omega) (by omega)]

/-- **`gts extract`, a wrap-around part inside a composite region**: `Regions.Locate` is `gts.Concat` of the
located parts, so for `r = Regions{pre…, Segment{h, t}, post…}` with `Segment{h, t}` across the origin
(`Cli.wrapSeg`, forward or backward) the feature of `extract_wrap_segment_piece_partial` is in `r.Locate(seq)`
— re-located by `Expand(0, off)` unless the part is the first — and denotes the feature's residues inside the
window at `off +` their position in the part, `off` = the number of residues emitted for the parts in front
(`= Reg.lenList pre` when those lie inside the record or wrap themselves).  The other parts are arbitrary
regions (nested, wrapping or not).  Additional guard: K2 not in that `Expand(0, off)`.  For a part nested more
deeply the step is repeated (`Cli.concat_part_feature` is about any element of any `Concat`). -/
theorem extract_wrap_part_feature_partial (s : Seq) (pre post : List Reg) (h t : Int)
    (hws : Cli.wrapSeg s.len h t = true)
    (f : Feature) (hf : f ∈ s.feats) (hwf : f.loc.wf = true) (hnn : f.loc.nonneg = true)
    (hpos : ∀ p ∈ f.loc.den, 0 ≤ p.1 ∧ p.1 < s.len)
    (hok : Loc.normOk s.len (f.loc.expand 0 (C04.rotN (-((if t < h then t else h) + s.len)) s.len)) = true)
    (hov : Cli.wsegOverlap f h t s.len = true) (hg : Cli.wsegAbs f h t s.len = false)
    (hgc : pre ≠ [] → Loc.expandAbs (Cli.wsegFeatLoc f h t s.len) 0
      (Seq.concat (Reg.locateList pre s)).len = false) :
    ∃ f' ∈ ((many (pre ++ seg h t :: post)).locate s).feats, f'.key = f.key ∧ f'.props = f.props ∧
      f'.loc.den ≼ mapPos (· + (Seq.concat (Reg.locateList pre s)).len) (Cli.wsegPull s.len h t f.loc.den) := by
  obtain ⟨m, w1, w2, d⟩ := Cli.locate_wseg_feature s h t hws f hf hwf hnn hpos hok hov
  have e : Reg.locateList (pre ++ seg h t :: post) s =
      Reg.locateList pre s ++ (seg h t).locate s :: Reg.locateList post s := by
    simp only [Cli.locateList_eq_map, List.map_append, List.map_cons]
  obtain ⟨g', hm, hk, hp, hd⟩ := Cli.concat_part_feature (Reg.locateList pre s) (Reg.locateList post s)
    ((seg h t).locate s) _ m w1 w2 (fun hne => hgc fun hp => hne (hp ▸ rfl))
  refine ⟨g', ?_, hk, hp, hd.trans (mapPos_refines _ (d hg))⟩
  simp only [Reg.locate, e]
  exact hm

/-- the offset of a part is the total length of the parts in front when those lie inside the record -/
theorem extract_part_offset (s : Seq) (pre : List Reg) (hw : ∀ r ∈ pre, within s.len r) :
    (Seq.concat (Reg.locateList pre s)).len = Reg.lenList pre := by
  have := Cli.locate_len (many pre) s ((Cli.within_many_iff _ _).mpr hw)
  simpa [Reg.locate, Reg.len] using this

/-- **both ends before the origin** (`-L ≤ h, t < 0`): `gts.Slice` adds `L` to both, the segment is read as
the segment `(h + L, t + L)` inside the record — to which `extract_features_partial` and the other theorems
for regions inside the record apply -/
theorem locate_neg_segment_shift (s : Seq) (h t : Int) (hh : h < 0) (hhL : -s.len ≤ h) (ht : t < 0)
    (htL : -s.len ≤ t) : (seg h t).locate s = (seg (h + s.len) (t + s.len)).locate s := by
  simp only [Reg.locate]
  by_cases hth : t < h
  · rw [if_pos hth, if_pos (by omega), Cli.slice_neg_both s t h ht (by omega) hh (by omega)]
  · rw [if_neg hth, if_neg (by omega), Cli.slice_neg_both s h t hh (by omega) ht (by omega)]

/-- **a segment across the origin that is as long as the circle, or longer, is NOT read as such** (model and
code; `seq.slice … -3 9` answers the empty record on both sides): `Segment{-3, 9}` on twelve residues is the
whole circle read from residue 9, twelve residues long (`Reg.len`); `gts.Slice` turns it into `Slice(9, 9)` and
emits NOTHING — `gts extract` writes an empty record for it (a single region is written whatever its length).
`Segment{-3, 10}`, thirteen residues, comes out as the one residue `[9, 10)`.  Outside `Cli.wrapSeg`, outside
every theorem above, and kept out of the harness domain. -/
theorem locate_long_wrap_differs :
    Reg.len (seg (-3) 9) = s1.len ∧ ((seg (-3) 9).locate s1).bytes = [] ∧
    (Cli.extract [fun _ => [seg (-3) 9]] false s1).map (·.bytes) = [[]] ∧
    Reg.len (seg (-3) 10) = 13 ∧ ((seg (-3) 10).locate s1).bytes = [67] ∧
    Cli.wrapSeg s1.len (-3) 9 = false ∧ Cli.wrapSeg s1.len (-3) 10 = false := by
  decide

/-- **`gts extract -v` with a located region that reaches before the origin** (model and code; `reg.invlin
(S -3 2) 12` answers `((S 0 -3) (S 2 12))` on both sides): `gts.InvertLinear` — "linear inversion only" — sorts
the flattened segments and emits the gaps from position 0 on; the located region `Segment{-3, 2}` on twelve
residues (the window 9, 10, 11, 0, 1) makes it emit `Segment{0, -3}`, a BACKWARD segment across the origin — the
reverse complement of residues 9..11, which ARE located — and `Segment{2, 12}`, which contains them once more; the
only unlocated stretch is `[2, 9)`.  Outside the theorems (`extract_regs_within` asks for located regions inside
the record) and kept out of the harness domain (`-v` cases stay inside `[0, L]`). -/
theorem extract_invert_before_origin_differs :
    (Cli.extractRegs [fun _ => [seg (-3) 2]] true s1).map Reg.leaves = [[(0, -3)], [(2, 12)]] ∧
    (Cli.extract [fun _ => [seg (-3) 2]] true s1).map (·.bytes) =
      [[65, 67, 71], [71, 84, 65, 67, 71, 84, 65, 67, 71, 84]] := by
  refine ⟨by simp only [Cli.extractRegs, invertLinear_eq, minimize_eq]; decide, ?_⟩
  simp only [Cli.extract, Cli.extractRegs, invertLinear_eq, minimize_eq]
  decide

/-- non-vacuity, backward: `gene1` (complement strand, residues 10,9,8 | 6 | 3,2,1) on the 12-residue record
`s1`, the BACKWARD segment `(2, -3)` — the reverse complement of the window 9, 10, 11, 0, 1: the gene's
residues 10, 9 and 1 (window offsets 1, 0, 4) come out at 3, 4 and 0, on the forward strand -/
example : Cli.wrapSeg s1.len 2 (-3) = true ∧ gene1.loc.wf = true ∧ gene1.loc.nonneg = true ∧
    (∀ p ∈ gene1.loc.den, 0 ≤ p.1 ∧ p.1 < s1.len) ∧
    Loc.normOk s1.len (gene1.loc.expand 0 (C04.rotN (-((if (-3 : Int) < 2 then (-3 : Int) else 2) + s1.len)) s1.len)) = true ∧
    Cli.wsegOverlap gene1 2 (-3) s1.len = true ∧ Cli.wsegAbs gene1 2 (-3) s1.len = false ∧
    Cli.wsegPull s1.len 2 (-3) gene1.loc.den = [(3, false), (4, false), (0, false)] ∧
    (((seg 2 (-3)).locate s1).feats.filter (·.key = "gene")).map (·.loc.den) =
      [[(3, false), (4, false), (0, false)]] ∧
    ((seg 2 (-3)).locate s1).bytes = [71, 84, 65, 67, 71] := by decide +kernel

/-- non-vacuity, composite: the region `Regions{Segment{9, 5}, Segment{-3, 2}}` — a backward segment inside
the record (four residues), then the forward segment across the origin: the gene's residues 10, 9, 1 come out
at offset 4 + 1, 4 + 0, 4 + 4 of the emitted record `TACGCGTAC` -/
example : Cli.wrapSeg s1.len (-3) 2 = true ∧
    Cli.wsegOverlap gene1 (-3) 2 s1.len = true ∧ Cli.wsegAbs gene1 (-3) 2 s1.len = false ∧
    (Seq.concat (Reg.locateList [seg 9 5] s1)).len = 4 ∧
    Loc.expandAbs (Cli.wsegFeatLoc gene1 (-3) 2 s1.len) 0 (Seq.concat (Reg.locateList [seg 9 5] s1)).len = false ∧
    mapPos (· + 4) (Cli.wsegPull s1.len (-3) 2 gene1.loc.den) = [(5, true), (4, true), (8, true)] ∧
    (((many ([seg 9 5] ++ seg (-3) 2 :: [])).locate s1).feats.filter (·.key = "gene")).map (·.loc.den) =
      [[(0, false), (2, false)], [(5, true), (4, true), (8, true)]] ∧
    ((many ([seg 9 5] ++ seg (-3) 2 :: [])).locate s1).bytes = [84, 65, 67, 71, 67, 71, 84, 65, 67] := by decide +kernel

/-! ### non-vacuity (extract) -/

/-- a composite region: a backward segment, then a nested composite of two forward segments -/
def rE : Reg := many [seg 9 5, many [seg 0 3, seg 10 12]]

/-- two locators; the second repeats a region of the first -/
def locsE : List (Seq → List Reg) := [fun _ => [rE, seg 2 7], fun _ => [seg 2 7]]

/-- hypotheses of `extract_features_partial` / `…_eq_partial` / `…_cover_partial` / `…_back_partial` /
`…_residues_partial` for the complement-strand join `gene1` of the 12-residue record `s1`
(`Gts/Props/C15.lean`; 0-based residues 10,9,8 | 6 | 3,2,1) and the region `rE`, which extract emits
(first of the two de-duplicated regions) -/
example : Cli.extractRegs locsE false s1 = [rE, seg 2 7] := by rfl
/-- hypothesis of `extract_regs_within`: every located region inside the record -/
example : within s1.len (many (locsE.flatMap fun l => l s1)) := by decide +kernel
example : rE ∈ Cli.extractRegs locsE false s1 := by
  rw [show Cli.extractRegs locsE false s1 = [rE, seg 2 7] from rfl]; exact List.mem_cons_self ..
example : within s1.len rE ∧ gene1.loc.wf = true ∧ Loc.coordsWithin gene1.loc s1.len = true ∧
    gene1.loc.den.Nodup ∧
    Cli.leafOffs rE 0 = [((9, 5), 0), ((0, 3), 4), ((10, 12), 7)] ∧
    (Cli.locPieces s1.len gene1 rE).map (fun p => (p.leaf, p.off, p.abs)) =
      [((9, 5), 0, false), ((0, 3), 4, false), ((10, 12), 7, false)] := by decide +kernel
/-- … and what they give: residues 8 and 6 lie in the backward leaf `(9, 5)` (emitted positions 0
and 2, now on the forward strand), 2 and 1 in the leaf `(0, 3)` (offset 4: positions 6, 5), 10 in
the leaf `(10, 12)` (offset 7) — and these are the locations of the three `gene` features of the
emitted record `TACGACGGT` -/
example : (Cli.locPieces s1.len gene1 rE).map
      (fun p => mapPos (· + p.off) (Cli.segPull p.leaf.1 p.leaf.2 gene1.loc.den)) =
      [[(0, false), (2, false)], [(6, true), (5, true)], [(7, true)]] ∧
    (Cli.locPieces s1.len gene1 rE).map (·.loc.den) =
      [[(0, false), (2, false)], [(6, true), (5, true)], [(7, true)]] ∧
    ((rE.locate s1).feats.filter (·.key = "gene")).map (·.loc.den) =
      [[(0, false), (2, false)], [(6, true), (5, true)], [(7, true)]] ∧
    (rE.locate s1).bytes = [84, 65, 67, 71, 65, 67, 71, 71, 84] := by decide +kernel
/-- read back through the region (`Cli.backPos (Reg.den rE)`), the three pieces denote the residues
of `gene1` inside the three leaves, on their original (complement) strand -/
example : Reg.den rE = [(8, true), (7, true), (6, true), (5, true), (0, false), (1, false), (2, false),
      (10, false), (11, false)] ∧
    (Cli.locPieces s1.len gene1 rE).map (fun p => p.loc.den.filterMap (Cli.backPos (Reg.den rE))) =
      [[(8, true), (6, true)], [(2, true), (1, true)], [(10, true)]] ∧
    (Cli.locPieces s1.len gene1 rE).map
        (fun p => gene1.loc.den.filter fun q => (Cli.segMap p.leaf.1 p.leaf.2 q.1).isSome) =
      [[(8, true), (6, true)], [(2, true), (1, true)], [(10, true)]] := by decide +kernel
/-- `-v`: the only stretch no located region covers is `[9, 10)`; it is emitted with its piece of
`gene1` -/
example : (Cli.extractRegs locsE true s1).map Reg.leaves = [[(9, 10)]] ∧
    (Cli.locPieces s1.len gene1 (seg 9 10)).map (fun p => (p.leaf, p.off, p.abs, p.loc.den)) =
      [((9, 10), 0, false, [(0, true)])] :=
  ⟨by simp only [Cli.extractRegs, invertLinear_eq, minimize_eq]; decide +kernel, by decide +kernel⟩

end Gts.C15
