/-
  C05 — Reverse and Complement mirror coordinates; reverse-complement preserves meaning.
  Property theorems only.
-/
import Gts.Lemmas.Reverse
import Gts.Lemmas.Table
import Gts.Model.SeqNuc
import Gts.Props.C18
import Gts.Lemmas.Locate
import Gts.Lemmas.MarksOps
import Gts.Lemmas.MarkGuardOps
import Gts.Lemmas.Record
import Gts.Bridge.SeqReverse
import Gts.Bridge.SeqComplement
import Gts.Lemmas.ReverseInvol
import Gts.Lemmas.MarksDelAll
import Gts.Lemmas.ReverseStable
import Gts.Bridge.CmdReverse
namespace Gts.C05
open Gts Loc

/-- residues are flipped -/
theorem reverse_bytes (s : Seq) : s.reverse.bytes = s.bytes.reverse := rfl

/-- no feature is lost or duplicated by `gts.Reverse`; each is re-located by `Reverse(len)` -/
theorem reverse_table_perm (s : Seq) :
    s.reverse.feats.Perm (s.feats.map fun f => { f with loc := f.loc.reverse s.len }) :=
  Seq.reverse_feats_perm s

/-- FULL STATEMENT, between-sites (false today, known finding K1, pinned by TestLocationReverse):
the site between residues g-1 and g must map to the site between L-g-1 and L-g, i.e.
`reverse (between g) L = between (L - g)`; the code yields `between (L - 1 - g)`. -/
theorem between_reverse_full_refuted : ¬ (∀ g L : Int, reverse (between g) L = between (L - g)) := by
  intro h
  have := h 0 10
  simp [reverse] at this

/-- what the code does on a between-site (bug-for-bug) -/
theorem between_reverse_model (g L : Int) : reverse (between g) L = between (L - 1 - g) := rfl

/-- FULL STATEMENT for residues (false today through known finding K2 in `Join`) -/
theorem reverse_den_full_refuted :
    ¬ (∀ (l : Loc) (L : Int), wf l = true → den (reverse l L) ≼ mirrorDen L (den l)) := by
  intro h
  have := (h (joined [point 0, ranged 1 2 false false]) 5 (by decide +kernel)).2 (4, false) (by decide +kernel)
  revert this
  decide +kernel

/-- **Reverse, every kind and arity**: for every well-formed location (joins and orders of any
number of parts, odd or even, nested under complement), the reversed location denotes the
mirrored residues `L-1-x` in mirrored order on the same strand — no part is lost — provided
rule K2 does not fire.  (A between-site denotes no residue; its own law is K1 above.) -/
theorem reverse_den_partial (l : Loc) (L : Int) (hw : wf l = true) (hk2 : reverseAbs l L = false) :
    den (reverse l L) ≼ mirrorDen L (den l) := (reverse_mirror l L hw).1 hk2

/-- set form: residue `x` is denoted before iff `L-1-x` is denoted after (same strand) -/
theorem reverse_mem_partial (l : Loc) (L : Int) (hw : wf l = true) (hk2 : reverseAbs l L = false)
    (x : Int) (r : Bool) :
    (x, r) ∈ den l ↔ (L - 1 - x, r) ∈ den (reverse l L) := by
  have h := reverse_den_partial l L hw hk2
  constructor
  · intro hx
    apply h.2
    simp only [mirrorDen, mapPos, List.mem_reverse, List.mem_map]
    exact ⟨(x, r), hx, rfl⟩
  · intro hx
    have := h.1.subset hx
    simp only [mirrorDen, mapPos, List.mem_reverse, List.mem_map] at this
    obtain ⟨p, hp, he⟩ := this
    have h1 : p.1 = x := by
      have := (Prod.mk.inj he).1
      simp only [mirrorMap] at this; omega
    have h2 : p.2 = r := (Prod.mk.inj he).2
    rw [← h1, ← h2]; exact hp

/-- 5'/3' partial markers swap ends on a range -/
theorem ranged_reverse_flags (s e : Int) (p5 p3 : Bool) (L : Int) :
    reverse (ranged s e p5 p3) L = ranged (L - e) (L - s) p3 p5 := rfl

/-- Reverse is an involution on every contiguous kind (also on between-sites, K1 notwithstanding) -/
theorem reverse_involutive_contig (L : Int) :
    (∀ p, reverse (reverse (point p) L) L = point p) ∧
    (∀ p, reverse (reverse (between p) L) L = between p) ∧
    (∀ s e a b, reverse (reverse (ranged s e a b) L) L = ranged s e a b) ∧
    (∀ s e, reverse (reverse (ambiguous s e) L) L = ambiguous s e) := by
  refine ⟨?_, ?_, ?_, ?_⟩ <;> intros <;> simp [reverse, rangedReverse] <;> omega

/-- `Complement` is an involution on every location that is not a double complement literal -/
theorem complement_involutive (l : Loc) (h : ∀ x, l ≠ compl (compl x)) :
    complement (complement l) = l := by
  cases l with
  | compl x =>
    cases x with
    | compl y => exact absurd rfl (h y)
    | _ => simp [complement]
  | _ => simp [complement]

/-- mirroring and flipping the strand is the reverse-complement map of positions, in the same order -/
theorem flipDen_mirrorDen (L : Int) (d : List Pos) :
    flipDen (mirrorDen L d) = d.map (fun p => (L - 1 - p.1, !p.2)) := by
  simp [flipDen, mirrorDen, mapPos, mirrorMap, Function.comp_def]

/-- **Reverse-complement preserves meaning** (coordinate part): the location
`complement(reverse l)` reads position `L-1-x` on the opposite strand wherever `l` read `x`, in
the same order — which is residue `x` of the original read through the reverse-complemented
record. -/
theorem revcomp_den_partial (l : Loc) (L : Int) (hw : wf l = true) (hk2 : reverseAbs l L = false) :
    den (compl (reverse l L)) ≼ (den l).map (fun p => (L - 1 - p.1, !p.2)) := by
  have h := (reverse_den_partial l L hw hk2).flip
  rwa [flipDen_mirrorDen] at h

/-- non-vacuity: an odd-arity complement-strand join satisfies the hypotheses -/
example : wf (compl (joined [ranged 0 2 true false, ranged 4 6 false false, ranged 8 10 false true])) = true ∧
    reverseAbs (compl (joined [ranged 0 2 true false, ranged 4 6 false false, ranged 8 10 false true])) 12 = false := by
  decide +kernel

/-! ### partial markers swap ends — every kind and arity

`outerMarks` (`Gts/Spec/Marks.lean`) is the Lean restatement of the Go oracle
`harness/spec.go outerMarks`: `(m5, m3)` = is the end before the first residue read / behind the
last residue read marked partial (under a complement the reading direction flips). -/

/-- FULL STATEMENT (false on the model, and on the code): "for every well-formed location the
outer 5'/3' markers of `Reverse(l)` are those of `l`, swapped".  Witness `join(1..>4,4)` on a
sequence of length 10: the parts reverse to `7` and `<7..10`; `Join` pushes the point first and
then replaces it by the range that starts at it (`LocationList.Push`, case `Point`/`Ranged`), so
the result `<7..10` carries a 5' marker in front of what was the unmarked point. -/
theorem reverse_marks_full_refuted :
    ¬ (∀ (l : Loc) (L : Int), wf l = true →
        outerMarks (reverse l L) = ((outerMarks l).2, (outerMarks l).1)) :=
  fun h => absurd (h (joined [ranged 0 4 false true, point 3]) 10) (by decide +kernel)

/-- **5'/3' partial markers swap ends** under `Reverse`, for every well-formed location of any
kind, arity, nesting and strand and every length `L` (the off-by-one of K1 on between-sites is
irrelevant: a between-site carries no marker), provided no marker-moving rule of `Push` fires in
a `Join` of the evaluation (`reverseMarkAbs`, `Gts/Spec/MarkGuard.lean`: a point absorbed into a
5'-partial range starting at it, or K2 on a 3'-partial range). -/
theorem reverse_marks_partial (l : Loc) (L : Int) (hw : wf l = true)
    (hg : reverseMarkAbs l L = false) :
    outerMarks (reverse l L) = ((outerMarks l).2, (outerMarks l).1) :=
  outerMarks_of_marks_swap (reverse_marks_aux l L hw hg)

/-- … in particular under the hypotheses of `reverse_den_partial` plus duplicate-freeness — the
conditions under which the Go oracle evaluates the marker clause (`nodup(d)`, guard line
`k2.reverse`): when K2 does not fire and no residue is denoted twice, no marker-moving rule can
fire (`Gts/Lemmas/MarkGuardNodup.lean`). -/
theorem reverse_marks_nodup_partial (l : Loc) (L : Int) (hw : wf l = true)
    (hk2 : reverseAbs l L = false) (hnd : (den l).Nodup) :
    outerMarks (reverse l L) = ((outerMarks l).2, (outerMarks l).1) :=
  reverse_marks_partial l L hw (reverseMarkAbs_of_nodup l L hw hk2 hnd)

/-- non-vacuity: an odd-arity complement-strand join with both outer markers set, and a
forward join with a between-site and a point inside -/
example :
    wf (compl (joined [ranged 0 2 true false, ranged 4 6 false false, ranged 8 10 false true])) = true ∧
    reverseMarkAbs (compl (joined [ranged 0 2 true false, ranged 4 6 false false, ranged 8 10 false true])) 12 = false ∧
    outerMarks (compl (joined [ranged 0 2 true false, ranged 4 6 false false, ranged 8 10 false true])) = (true, true) ∧
    reverseAbs (compl (joined [ranged 0 2 true false, ranged 4 6 false false, ranged 8 10 false true])) 12 = false ∧
    (den (compl (joined [ranged 0 2 true false, ranged 4 6 false false, ranged 8 10 false true]))).Nodup ∧
    wf (joined [ranged 1 3 true false, between 4, point 6]) = true ∧
    reverseMarkAbs (joined [ranged 1 3 true false, between 4, point 6]) 9 = false ∧
    outerMarks (joined [ranged 1 3 true false, between 4, point 6]) = (true, false) ∧
    outerMarks (reverse (joined [ranged 1 3 true false, between 4, point 6]) 9) = (false, true) := by
  decide +kernel

/-- **Reverse, record level**: every feature of a record is present in `gts.Reverse(seq)` with
unchanged key and qualifiers and its outer partial markers on the opposite ends. -/
theorem reverse_feature_marks_partial (s : Seq) (f : Feature) (hf : f ∈ s.feats)
    (hw : wf f.loc = true) (hg : reverseMarkAbs f.loc s.len = false) :
    ∃ f' ∈ s.reverse.feats, f'.key = f.key ∧ f'.props = f.props ∧
      outerMarks f'.loc = ((outerMarks f.loc).2, (outerMarks f.loc).1) :=
  ⟨{ f with loc := f.loc.reverse s.len }, mem_of_perm_map (reverse_table_perm s) hf, rfl, rfl,
   reverse_marks_partial f.loc s.len hw hg⟩

/-! ### `Reverse` twice — joins, orders, complements

`Joined.Reverse` reverses the parts and re-`Join`s them in mirrored order (`Ordered.Reverse`:
`Order`, `Complemented.Reverse`: the inner location).  `Join` pushes its arguments through the
reduction rules of `LocationList.Push`, and those are not mirror symmetric
(`Gts/Spec/ReverseGuard.lean`): a point is absorbed into a range that STARTS at it but not into one
that ends on it; K2 drops the point one base behind a range; the `Between` rules meet K1.  So the
structural involution needs "no `Join` of the first reversal reduces" (`reverseStable`), the
denotation-level one only that K2 fires in neither reversal.  The three witnesses below are
replayed on the real code by the C05 harness (`loc.reverse`, twice) on every run. -/

/-- FULL STATEMENT (false on the model, and on the code): "`Reverse` twice is the identity on every
canonical, well-formed, duplicate-free location inside `[0, L]`".  Witness `join(4,5..8)` on ten
residues: the parts reverse to `3..6` and `7`, `Join` drops the point behind the range (K2), the
result `3..6` reverses to `5..8`. -/
theorem reverse_involutive_full_refuted :
    ¬ (∀ (l : Loc) (L : Int), canonP l = true → wf l = true → coordsWithin l L = true →
        (den l).Nodup → reverse (reverse l L) L = l) := by
  intro h
  have := h (joined [point 3, ranged 4 8 false false]) 10 (by decide +kernel) (by decide +kernel) (by decide +kernel) (by decide +kernel)
  have := congrArg (fun x => Loc.beq x (joined [point 3, ranged 4 8 false false])) this
  revert this
  decide +kernel

/-- … and K2 is not the only rule in the way: with K2 firing in NEITHER reversal the structural law
is still false.  Witness `join(5,4^5)` — a point and the site in front of it, duplicate-free — on
ten residues: `Between.Reverse` (K1) puts the site `5^6` in front of the point `6`, `Join` replaces
a site by the point that follows it, `6` reverses to `5`. -/
theorem reverse_involutive_k2_refuted :
    ¬ (∀ (l : Loc) (L : Int), canonP l = true → wf l = true → coordsWithin l L = true →
        (den l).Nodup → reverseAbs l L = false → reverseAbs (reverse l L) L = false →
        reverse (reverse l L) L = l) := by
  intro h
  have := h (joined [point 4, between 4]) 10 (by decide +kernel) (by decide +kernel) (by decide +kernel) (by decide +kernel)
    (by decide +kernel) (by decide +kernel)
  have := congrArg (fun x => Loc.beq x (joined [point 4, between 4])) this
  revert this
  decide +kernel

/-- … nor are K1 and K2 together: without any between-site and without K2, `join(3..5,5)` (the
point ON the last base of the range — `Push` keeps it) reverses to `join(6,6..8)`, where `Push`
absorbs the point into the range that starts at it; `6..8` reverses to `3..5`. -/
theorem reverse_involutive_absorb_refuted :
    ¬ (∀ (l : Loc) (L : Int), canonP l = true → wf l = true → coordsWithin l L = true →
        (leaves l).all (fun u => !isBetween u) = true →
        reverseAbs l L = false → reverseAbs (reverse l L) L = false →
        reverse (reverse l L) L = l) := by
  intro h
  have := h (joined [ranged 2 5 false false, point 4]) 10 (by decide +kernel) (by decide +kernel) (by decide +kernel)
    (by decide +kernel) (by decide +kernel) (by decide +kernel)
  have := congrArg (fun x => Loc.beq x (joined [ranged 2 5 false false, point 4])) this
  revert this
  decide +kernel

/-- **`Reverse` is an involution on composite locations**: for every canonical location (`canonP`:
what `Join` / `Order` / `Complement()` build — any kind, arity, nesting, strand, partial markers)
and EVERY length `L` (in particular every `L` with the coordinates inside `[0, L]`), if no `Join`
in the evaluation of the first reversal reduces its arguments (`reverseStable`, decidable), then
`reverse (reverse l L) L = l`.  Orders and complements need nothing of their own: the guard only
looks at `Joined` nodes.  (On the canonical locations of the exhaustive scope the guard is also
necessary: there `reverseStable` fails exactly where the law fails.) -/
theorem reverse_involutive_partial (l : Loc) (L : Int) (hc : canonP l = true)
    (hs : reverseStable l L = true) : reverse (reverse l L) L = l :=
  reverse_reverse l L hc hs

/-- non-vacuity: a complement-strand join of five parts with markers, an order with a join
inside, and a join with a between-site, all inside `[0, 20]` -/
example :
    let a := compl (joined [ranged 0 2 true false, point 4, ranged 6 9 false false, ambiguous 11 13,
      ranged 15 20 false true])
    let b := ordered [joined [ranged 1 3 false false, compl (ranged 5 8 false false)], point 10, between 12]
    let c := joined [ranged 1 3 true false, between 7, point 9]
    (canonP a = true ∧ reverseStable a 20 = true ∧ coordsWithin a 20 = true) ∧
    (canonP b = true ∧ reverseStable b 20 = true ∧ coordsWithin b 20 = true) ∧
    (canonP c = true ∧ reverseStable c 20 = true ∧ coordsWithin c 20 = true) := by
  decide +kernel

/-- **the guard in terms of the location itself**: a canonical, well-formed location that reads no
residue twice and contains no between-site, and in whose reversal K2 does not fire, meets
`reverseStable` — the three refuted statements above each drop exactly one of these conditions
(K2: `reverse_involutive_full_refuted`; a between-site, K1: `reverse_involutive_k2_refuted`; a
residue read twice: `reverse_involutive_absorb_refuted`).  Proof: `Join` leaves parts alone iff no
adjacent pair meets a rule of `Push`; the mirror image of such a pair meets one only through a
between-site, a point on the last base of the range in front of it, or K2
(`Gts/Lemmas/ReverseStable.lean`). -/
theorem reverse_stable_of_nodup (l : Loc) (L : Int) (hc : canonP l = true) (hw : wf l = true)
    (hnd : (den l).Nodup) (hnb : (leaves l).all (fun u => !isBetween u) = true)
    (hk2 : reverseAbs l L = false) : reverseStable l L = true :=
  reverseStable_of_guards l L hc hw hnd (by rw [allLeaves_eq_all]; exact hnb) hk2

/-- **`Reverse` is an involution on every canonical location that reads no residue twice, has no
between-site and does not meet K2** — any kind, arity, nesting, strand and partial markers, every
`L`: exactly the conditions under which the harness evaluates its oracle "reverse: involution on
canonical locations" (`isCanonical`, `nodup`, `!hasBetween`, guard line `k2.reverse`). -/
theorem reverse_involutive_nodup_partial (l : Loc) (L : Int) (hc : canonP l = true) (hw : wf l = true)
    (hnd : (den l).Nodup) (hnb : (leaves l).all (fun u => !isBetween u) = true)
    (hk2 : reverseAbs l L = false) : reverse (reverse l L) L = l :=
  reverse_involutive_partial l L hc (reverse_stable_of_nodup l L hc hw hnd hnb hk2)

/-- non-vacuity: a complement-strand join of five parts with markers, and an order with a join and
a complement inside -/
example :
    let a := compl (joined [ranged 0 2 true false, point 4, ranged 6 9 false false, ambiguous 11 13,
      ranged 15 20 false true])
    let b := ordered [joined [ranged 1 3 false false, compl (ranged 5 8 false false)], point 10]
    (canonP a = true ∧ wf a = true ∧ (den a).Nodup ∧ (leaves a).all (fun u => !isBetween u) = true ∧
      reverseAbs a 20 = false) ∧
    (canonP b = true ∧ wf b = true ∧ (den b).Nodup ∧ (leaves b).all (fun u => !isBetween u) = true ∧
      reverseAbs b 20 = false) := by
  decide +kernel

/-- FULL STATEMENT of the denotation-level law with the K2 guard on the FIRST reversal alone (false
on the model, and on the code).  Witness `join(3..6,5^6,7)` on ten residues: canonical — the site
separates the range from the point behind it — and K2 does not fire in `join(4,5^6,5..8)`, but
`Push` drops the site after the point, so the second reversal joins `3..6` and `7` and K2 drops
residue 7. -/
theorem reverse_twice_den_full_refuted :
    ¬ (∀ (l : Loc) (L : Int), canonP l = true → wf l = true → coordsWithin l L = true →
        (den l).Nodup → reverseAbs l L = false → den (reverse (reverse l L) L) = den l) :=
  fun h => absurd (h (joined [ranged 2 6 false false, between 5, point 6]) 10) (by decide +kernel)

/-- … and with K2 firing in neither reversal, EQUALITY of the denotations still needs
duplicate-freeness: `join(3..5,5)` reads residue 5 twice, its double reverse `3..5` once. -/
theorem reverse_twice_den_eq_refuted :
    ¬ (∀ (l : Loc) (L : Int), canonP l = true → wf l = true → coordsWithin l L = true →
        reverseAbs l L = false → reverseAbs (reverse l L) L = false →
        den (reverse (reverse l L) L) = den l) := by
  intro h
  have := h (joined [ranged 2 5 false false, point 4]) 10 (by decide +kernel) (by decide +kernel) (by decide +kernel)
    (by decide +kernel) (by decide +kernel)
  revert this
  decide +kernel

/-- **`Reverse` twice preserves meaning**: for every well-formed location (canonical or not, any
kind and arity) and every `L`, when K2 fires in neither reversal, the twice reversed location reads
the residues of `l` in the same order on the same strands — a residue `l` reads more than once
possibly fewer times (`≼`). -/
theorem reverse_twice_den_partial (l : Loc) (L : Int) (hw : wf l = true)
    (h1 : reverseAbs l L = false) (h2 : reverseAbs (reverse l L) L = false) :
    den (reverse (reverse l L) L) ≼ den l := reverse_reverse_den l L hw h1 h2

/-- … exactly the same residues when `l` reads none twice (every real feature) -/
theorem reverse_twice_den_nodup_partial (l : Loc) (L : Int) (hw : wf l = true)
    (h1 : reverseAbs l L = false) (h2 : reverseAbs (reverse l L) L = false) (hnd : (den l).Nodup) :
    den (reverse (reverse l L) L) = den l :=
  (reverse_twice_den_partial l L hw h1 h2).eq_of_nodup hnd

/-- non-vacuity: the second witness above — structurally NOT restored, its meaning is — and an
odd-arity complement-strand join -/
example :
    wf (joined [point 4, between 4]) = true ∧ reverseAbs (joined [point 4, between 4]) 10 = false ∧
    reverseAbs (reverse (joined [point 4, between 4]) 10) 10 = false ∧
    (den (joined [point 4, between 4])).Nodup ∧
    (reverse (reverse (joined [point 4, between 4]) 10) 10).beq (point 4) = true ∧
    wf (compl (joined [ranged 0 2 true false, ranged 4 6 false false, ranged 8 10 false true])) = true ∧
    reverseAbs (compl (joined [ranged 0 2 true false, ranged 4 6 false false, ranged 8 10 false true])) 12 = false ∧
    reverseAbs (reverse (compl (joined [ranged 0 2 true false, ranged 4 6 false false, ranged 8 10 false true])) 12) 12 = false ∧
    (den (compl (joined [ranged 0 2 true false, ranged 4 6 false false, ranged 8 10 false true]))).Nodup := by
  decide +kernel

/-! ### record level: `gts.Reverse(gts.Reverse(seq))` -/

/-- the residues come back -/
theorem seq_reverse_reverse_bytes (s : Seq) : s.reverse.reverse.bytes = s.bytes := by
  simp [Seq.reverse]

/-- no feature is lost or duplicated; each is re-located by `Reverse(len)` twice (the reversed
record has the same length) -/
theorem seq_reverse_reverse_table_perm (s : Seq) :
    s.reverse.reverse.feats.Perm
      (s.feats.map fun f => { f with loc := (f.loc.reverse s.len).reverse s.len }) :=
  Seq.reverse_reverse_feats_perm s

/-- **per feature, structurally**: a feature with a canonical location none of whose joins reduces
under `Reverse(len)` is a feature of the twice reversed record, unchanged -/
theorem seq_reverse_reverse_feature_partial (s : Seq) (f : Feature) (hf : f ∈ s.feats)
    (hc : canonP f.loc = true) (hs : reverseStable f.loc s.len = true) :
    f ∈ s.reverse.reverse.feats := by
  have := mem_of_perm_map (seq_reverse_reverse_table_perm s) hf
  rwa [reverse_involutive_partial f.loc s.len hc hs] at this

/-- **per feature, in the terms of the feature**: a feature whose location is canonical,
well-formed, duplicate-free, without between-site and K2-free under `Reverse(len)` is a feature of
the twice reversed record, unchanged -/
theorem seq_reverse_reverse_feature_nodup_partial (s : Seq) (f : Feature) (hf : f ∈ s.feats)
    (hc : canonP f.loc = true) (hw : wf f.loc = true) (hnd : (den f.loc).Nodup)
    (hnb : (leaves f.loc).all (fun u => !isBetween u) = true)
    (hk2 : reverseAbs f.loc s.len = false) : f ∈ s.reverse.reverse.feats :=
  seq_reverse_reverse_feature_partial s f hf hc (reverse_stable_of_nodup f.loc s.len hc hw hnd hnb hk2)

/-- **the whole table**: when every feature meets the guard, the twice reversed record carries
the same features (`FeatureSlice.Insert` may order equal-ranking features differently) and the
same residues -/
theorem seq_reverse_reverse_perm_partial (s : Seq)
    (h : ∀ f ∈ s.feats, canonP f.loc = true ∧ reverseStable f.loc s.len = true) :
    s.reverse.reverse.feats.Perm s.feats ∧ s.reverse.reverse.bytes = s.bytes := by
  refine ⟨?_, seq_reverse_reverse_bytes s⟩
  have e : (s.feats.map fun f => ({ f with loc := (f.loc.reverse s.len).reverse s.len } : Feature)) = s.feats :=
    (List.map_congr_left fun f hf => by
      rw [reverse_involutive_partial f.loc s.len (h f hf).1 (h f hf).2]).trans (List.map_id' _)
  have := seq_reverse_reverse_table_perm s
  rwa [e] at this

/-- **per feature, on denotations**: every well-formed feature comes back with its key and
qualifiers and a location that reads the same residues in the same order on the same strands
(fewer copies of a residue read twice), when K2 fires in neither reversal; the very same residues
when none is read twice. -/
theorem seq_reverse_reverse_feature_den_partial (s : Seq) (f : Feature) (hf : f ∈ s.feats)
    (hw : wf f.loc = true) (h1 : reverseAbs f.loc s.len = false)
    (h2 : reverseAbs (reverse f.loc s.len) s.len = false) :
    ∃ f' ∈ s.reverse.reverse.feats, f'.key = f.key ∧ f'.props = f.props ∧
      den f'.loc ≼ den f.loc ∧ ((den f.loc).Nodup → den f'.loc = den f.loc) :=
  ⟨{ f with loc := (f.loc.reverse s.len).reverse s.len },
   mem_of_perm_map (seq_reverse_reverse_table_perm s) hf, rfl, rfl,
   reverse_twice_den_partial f.loc s.len hw h1 h2,
   reverse_twice_den_nodup_partial f.loc s.len hw h1 h2⟩

/-- non-vacuity: a record with a forward gene, a complement-strand join and a site; every feature
meets the structural guard and the K2 guards -/
example :
    let s : Seq := ⟨[⟨"gene", ranged 1 7 true false, []⟩,
      ⟨"CDS", compl (joined [ranged 0 2 true false, point 4, ranged 8 10 false false]), []⟩,
      ⟨"misc_feature", between 6, []⟩],
      [65,67,71,85,65,67,71,84,65,67,71,84]⟩
    ∀ f ∈ s.feats, canonP f.loc = true ∧ reverseStable f.loc s.len = true ∧ wf f.loc = true ∧
      reverseAbs f.loc s.len = false ∧ reverseAbs (reverse f.loc s.len) s.len = false ∧
      (den f.loc).Nodup := by
  decide +kernel

/-! ### sequence level: `gts.Complement` and `gts.Reverse(gts.Complement(·))` -/

/-- `Location.Complement` flips the strand of everything a location denotes — for EVERY
location, a wrapped one (`complement(x)` ↦ `x`) as well as an unwrapped one of any kind
(ranges, points, `a.b` ambiguous spans, joins, orders) -/
theorem den_complement (l : Loc) : den (complement l) = flipDen (den l) :=
  Loc.den_complement l

/-- **`gts.Complement` on a record** never panics, complements every residue through the table,
and passes EVERY feature location (whatever its kind) through `Location.Complement`, keeping
keys, qualifiers and table order. -/
theorem seq_complement_total (s : Seq) :
    s.complementRec = some ⟨s.feats.map fun f => { f with loc := f.loc.complement },
                         s.bytes.map Nuc.complementByte⟩ := by
  simp [Seq.complementRec, C18.complement_bytewise]

/-- the reverse-complemented record: residues complemented and flipped, no feature lost or
duplicated, every feature re-located by `Complement` then `Reverse(len)` -/
theorem seq_revcomp (s : Seq) :
    ∃ r, s.revcompRec = some r ∧ r.bytes = (s.bytes.map Nuc.complementByte).reverse ∧
      r.feats.Perm (s.feats.map fun f => { f with loc := (f.loc.complement).reverse s.len }) := by
  refine ⟨(⟨s.feats.map fun f => { f with loc := f.loc.complement },
      s.bytes.map Nuc.complementByte⟩ : Seq).reverse, by simp [Seq.revcompRec, seq_complement_total], rfl, ?_⟩
  have h := reverse_table_perm
    ⟨s.feats.map fun f => { f with loc := f.loc.complement }, s.bytes.map Nuc.complementByte⟩
  simpa [Seq.len, Function.comp_def] using h

theorem revcompRec_bytes {s r : Seq} (hr : s.revcompRec = some r) :
    r.bytes = (s.bytes.map Nuc.complementByte).reverse ∧ r.len = s.len := by
  obtain ⟨r', hr', hbytes, _⟩ := seq_revcomp s
  obtain rfl : r' = r := Option.some.inj (hr'.symm.trans hr)
  exact ⟨hbytes, by simp [Seq.len, hbytes]⟩

/-- **every feature of the reverse-complemented record denotes what it denoted before**: the
location `reverse (complement l) L` reads position `L-1-x` on the opposite strand wherever `l`
read `x`, in the same order (K2 guard on the complemented location). -/
theorem seq_revcomp_den_partial (l : Loc) (L : Int) (hw : wf (complement l) = true)
    (hk2 : reverseAbs (complement l) L = false) :
    den (reverse (complement l) L) ≼ (den l).map (fun p => (L - 1 - p.1, !p.2)) := by
  have h := reverse_den_partial (complement l) L hw hk2
  rwa [den_complement, mirrorDen_flipDen, flipDen_mirrorDen] at h

/-- non-vacuity: a top-level ambiguous span and a complemented join meet the hypotheses -/
example : wf (complement (ambiguous 5 9)) = true ∧ reverseAbs (complement (ambiguous 5 9)) 16 = false ∧
    wf (complement (compl (joined [ranged 0 2 true false, ranged 4 6 false false]))) = true ∧
    reverseAbs (complement (compl (joined [ranged 0 2 true false, ranged 4 6 false false]))) 12 = false := by
  decide +kernel

/-! ### byte level: what `Location.Region().Locate(seq)` extracts

`Reg.locate` (Gts/Model/Cli.lean) is the model of `Segment.Locate` / `Regions.Locate`,
`Loc.region` (Gts/Model/Region.lean) the model of every `Region()` method, `readAt` / `denIn` /
`uToT` (Gts/Spec/Read.lean) are pure spec-side definitions.

OUTSIDE the in-bounds hypothesis: `Segment.Locate` calls `gts.Slice(seq, head, tail)`, which adds
`len` to a negative coordinate (wraps around), rotates when `end < start` after that, and then
slices `seq.Bytes()[start:end]` — a PANIC for a coordinate beyond `len` (or below `-len`).  The
model's `Seq.sliceFwd` is total (`drop`/`take` truncate), so nothing is claimed there.

WHAT THE IN-BOUNDS HYPOTHESIS BOUNDS (audit session 4): `denIn s.len (den l)` bounds the RESIDUES `l`
denotes.  A between-site denotes no residue, so `denIn` says nothing about where it lies: `between 100` on a
4-residue record meets every hypothesis of the `denIn` theorems below (`denIn_ignores_sites`), the model's
`Locate` extracts nothing from it, and the real `Slice(seq, 100, 100)` PANICS (replayed: `reg.locate
(S 100 100) x61636774`).  The `denIn` theorems are therefore statements about the extracted RESIDUES of the
MODEL; they transfer to the real code only where, in addition, every zero-length segment lies inside the
record.  The hypothesis that bounds sites too is `Reg.within s.len (region l)` (both ends of every segment,
zero-length ones included, in `[0, len]` — exactly where no `Slice` of `Locate` on the original record wraps,
rotates or leaves the byte array): `locate_bytes_within` and the `…_within_partial` corollaries are stated
under it.  For the RE-LOCATED location on the reverse-complemented record no such bound is proved: known
finding K1 moves the site `between len` to `between (-1)`. -/

/-- **locate_bytes** (DESIGN §3): for a well-formed location whose denoted positions are all
indices of the record, the residues extracted by `l.Region().Locate(seq)` are exactly the
denotation of `l` read off the record — `seq[x]` for a residue `(x, forward)`,
`complementByte seq[x]` for `(x, complement strand)`, in denotation order — and every one of
these reads is a real index (the default of `readAt` is never used). -/
theorem locate_bytes (l : Loc) (s : Seq) (hw : wf l = true) (hb : denIn s.len (den l)) :
    (Reg.locate (region l) s).bytes = (den l).map (readAt s.bytes) ∧
    ∀ p ∈ den l, readAt? s.bytes p = some (readAt s.bytes p) :=
  ⟨locate_region_bytes l s hw hb, fun p hp => readAt?_eq_some (hb p hp).1 (hb p hp).2⟩

/-- the same under the REGION guard of C09/C15 (`Reg.within`: both ends of every segment of
`l.Region()` lie in `[0, len]`) — exactly the condition under which no `Slice` inside `Locate`
wraps, rotates or leaves the byte array; it also bounds zero-length segments (between-sites). -/
theorem locate_bytes_within (l : Loc) (s : Seq) (hw : wf l = true)
    (hb : Reg.within s.len (region l)) :
    (Reg.locate (region l) s).bytes = (den l).map (readAt s.bytes) :=
  locate_region_bytes l s hw (den_region l hw ▸ Reg.denIn_of_within hb)

/-- region level (C08 / C15 `Locate` on any region tree, e.g. a resized one): the extracted
residues are `Reg.den` read off the record. -/
theorem region_locate_bytes (r : Reg) (s : Seq) (hb : denIn s.len (Reg.den r)) :
    (Reg.locate r s).bytes = (Reg.den r).map (readAt s.bytes) := Reg.locate_bytes_den r s hb

/-- `Location.Region()` denotes what the location denotes, and `Region.Complement()` denotes the
same residues on the other strand in opposite order. -/
theorem region_den (l : Loc) (hw : wf l = true) :
    Reg.den (region l) = den l ∧ ∀ r : Reg, Reg.den r.complement = flipDen (Reg.den r) :=
  ⟨den_region l hw, Reg.den_complement⟩

/-- non-vacuity: a complement-strand join inside a 12-residue record, and its region guard -/
example : wf (compl (joined [ranged 0 2 true false, point 5, ranged 8 10 false true])) = true ∧
    denIn (Seq.len ⟨[], [65,67,71,84,65,67,71,84,65,67,71,84]⟩)
      (den (compl (joined [ranged 0 2 true false, point 5, ranged 8 10 false true]))) ∧
    Reg.within (Seq.len ⟨[], [65,67,71,84,65,67,71,84,65,67,71,84]⟩)
      (region (compl (joined [ranged 0 2 true false, point 5, ranged 8 10 false true]))) ∧
    denIn 12 (Reg.den (.many [.seg 10 8, .seg 0 3])) := by
  decide +kernel

/-- the located residues of `complement(l)` are the reverse complement of those of `l` (up to
U → T on the residues complemented twice, i.e. where `l` itself is on the complement strand) -/
theorem extract_compl (l : Loc) (s : Seq) (hw : wf l = true) (hb : denIn s.len (den l)) :
    (Reg.locate (region (compl l)) s).bytes.map uToT =
      ((Reg.locate (region l) s).bytes.map Nuc.complementByte).reverse := by
  have hbc : denIn s.len (den (compl l)) := by simpa [den] using denIn_flipDen.mpr hb
  rw [locate_region_bytes (compl l) s (by simpa [wf] using hw) hbc, locate_region_bytes l s hw hb]
  simpa [den] using map_readAt_flipDen s.bytes (den l) hb

/-- complementing a location twice (`Complemented{Complemented{l}}`) extracts what `l` extracts -/
theorem extract_compl_compl (l : Loc) (s : Seq) (hw : wf l = true) (hb : denIn s.len (den l)) :
    (Reg.locate (region (compl (compl l))) s).bytes = (Reg.locate (region l) s).bytes := by
  have e : den (compl (compl l)) = den l := by simp [den, flipDen_flipDen]
  rw [locate_region_bytes (compl (compl l)) s (by simpa [wf] using hw) (e ▸ hb),
    locate_region_bytes l s hw hb, e]

/-- non-vacuity for the two corollaries above -/
example : wf (compl (ranged 2 6 false false)) = true ∧
    denIn (Seq.len ⟨[], [65,67,71,84,65,67,71,85]⟩) (den (compl (ranged 2 6 false false))) := by
  decide +kernel

/-! ### reverse-complement preserves the extracted residues -/

/-- FULL STATEMENT of the extraction clause (no duplicate-read guard): false on the model, because
`Reverse` re-joins the parts and `Join` drops a part it has already covered —
`join(3,3)` reads residue 3 twice, its reverse `Point` reads it once. -/
theorem revcomp_extract_full_refuted :
    ¬ (∀ (l : Loc) (s r : Seq), s.revcompRec = some r → wf l = true → reverseAbs l s.len = false →
        denIn s.len (den l) →
        (Reg.locate (region (compl (reverse l s.len))) r).bytes =
          (Reg.locate (region l) s).bytes.map uToT) := by
  intro h
  have := h (joined [point 2, point 2]) ⟨[], [65,67,71,84,65,67]⟩ ⟨[], [71,84,65,67,71,84]⟩
    (by rfl) (by decide +kernel) (by decide +kernel) (by decide +kernel)
  revert this
  decide +kernel

/-- a location on the reverse-complemented record that denotes the mirror image of `d` on the other
strand extracts the reads of `d` from the original record (U comes back as T) -/
theorem locate_revcomp_of_den (l' : Loc) (d : List Pos) (s r : Seq) (hr : s.revcompRec = some r)
    (hw : wf l' = true) (hd : den l' = d.map (fun p => (s.len - 1 - p.1, !p.2))) (hb : denIn s.len d) :
    (Reg.locate (region l') r).bytes = (d.map (readAt s.bytes)).map uToT := by
  obtain ⟨hbytes, hlen⟩ := revcompRec_bytes hr
  rw [locate_region_bytes _ r hw (by rw [hlen, hd]; exact denIn_map_revcompPos hb), hd, hbytes]
  exact map_readAt_revcomp s.bytes d hb

/-- **reverse-complement extraction, any well-formed location**: what
`complement(reverse l)` extracts from the reverse-complemented record are the residues `l`
extracts from the original one — the same reads in the same order, each on its strand — except
that a residue `l` reads more than once may be read fewer times (`d ≼ den l`: `Join` inside
`Reverse` drops repeated parts), and U comes back as T.  Guards as in `revcomp_den_partial`
(K2; a between-site, K1, denotes no residue) plus the in-bounds hypothesis. -/
theorem revcomp_extract_refines_partial (l : Loc) (s r : Seq) (hr : s.revcompRec = some r)
    (hw : wf l = true) (hk2 : reverseAbs l s.len = false) (hb : denIn s.len (den l)) :
    ∃ d, d ≼ den l ∧
      (Reg.locate (region (compl (reverse l s.len))) r).bytes = (d.map (readAt s.bytes)).map uToT := by
  have href := revcomp_den_partial l s.len hw hk2
  refine ⟨(den (compl (reverse l s.len))).map (fun p => (s.len - 1 - p.1, !p.2)), ?_,
    locate_revcomp_of_den _ _ s r hr (by simpa [wf] using (reverse_mirror l s.len hw).2)
      (map_revcompPos_involutive _ _).symm
      (denIn_map_revcompPos (denIn_of_subset (fun p hp => href.1.subset hp) (denIn_map_revcompPos hb)))⟩
  have := href.map (fun p => (s.len - 1 - p.1, !p.2))
  rwa [map_revcompPos_involutive] at this

/-- **reverse-complement preserves the extracted sequence** (the last clause of C05): for a
well-formed location inside the record that reads no residue twice (every real feature),
`complement(reverse l)` — what `gts.Reverse` then `gts.Complement` make of a feature location —
extracts from the reverse-complemented record exactly the residues `l` extracts from the
original record, up to U → T.  Guards: K2 (`reverseAbs`), in bounds, duplicate-free; K1
(between-sites) costs nothing here because a between-site denotes no residue. -/
theorem revcomp_extract_partial (l : Loc) (s r : Seq) (hr : s.revcompRec = some r)
    (hw : wf l = true) (hk2 : reverseAbs l s.len = false) (hb : denIn s.len (den l))
    (hnd : (den l).Nodup) :
    (Reg.locate (region (compl (reverse l s.len))) r).bytes =
      (Reg.locate (region l) s).bytes.map uToT := by
  obtain ⟨d, hd, he⟩ := revcomp_extract_refines_partial l s r hr hw hk2 hb
  rw [he, hd.eq_of_nodup hnd, locate_region_bytes l s hw hb]

/-- `denIn` does not bound between-sites (audit session 4): the site `between 100` on a 4-residue record
meets EVERY hypothesis of `revcomp_extract_partial` / `revcomp_extract_refines_partial` — it denotes no
residue — although its region `Segment{100, 100}` lies outside the record (`Reg.within` false), where the real
`Slice` panics and the model's extracts nothing. -/
theorem denIn_ignores_sites :
    let l := between 100
    let s : Seq := ⟨[], [97, 99, 103, 116]⟩
    s.revcompRec.isSome = true ∧ wf l = true ∧ reverseAbs l s.len = false ∧ denIn s.len (den l) ∧
    (den l).Nodup ∧ ¬ Reg.within s.len (region l) ∧ (Reg.locate (region l) s).bytes = [] := by
  decide

/-- **reverse-complement extraction under the full in-bounds guard** (`Reg.within`: every segment of
`l.Region()`, zero-length ones — between-sites — included, lies inside the record, so that `Locate` on the
ORIGINAL record stays clear of every panicking or wrapping `Slice`): the conclusion of
`revcomp_extract_partial`.  Nothing is claimed about `Slice` on the reverse-complemented record for the
re-located sites (K1). -/
theorem revcomp_extract_within_partial (l : Loc) (s r : Seq) (hr : s.revcompRec = some r)
    (hw : wf l = true) (hk2 : reverseAbs l s.len = false) (hb : Reg.within s.len (region l))
    (hnd : (den l).Nodup) :
    (Reg.locate (region (compl (reverse l s.len))) r).bytes =
      (Reg.locate (region l) s).bytes.map uToT :=
  revcomp_extract_partial l s r hr hw hk2 (den_region l hw ▸ Reg.denIn_of_within hb) hnd

/-- the same for `Location.Complement` proper (which unwraps a `Complemented` instead of wrapping
it twice): `gts.Complement(gts.Reverse(seq))` re-locates `l` to `(l.Reverse(len)).Complement()` -/
theorem revcomp_extract_unwrap_partial (l : Loc) (s r : Seq) (hr : s.revcompRec = some r)
    (hw : wf l = true) (hk2 : reverseAbs l s.len = false) (hb : denIn s.len (den l))
    (hnd : (den l).Nodup) :
    (Reg.locate (region (complement (reverse l s.len))) r).bytes =
      (Reg.locate (region l) s).bytes.map uToT := by
  rw [locate_region_bytes l s hw hb]
  exact locate_revcomp_of_den _ _ s r hr (by rw [wf_complement]; exact (reverse_mirror l s.len hw).2)
    ((den_complement _).trans
      ((revcomp_den_partial l s.len hw hk2).eq_of_nodup (nodup_map_revcompPos _ _ hnd))) hb

/-- … and on a record without U / u the extracted residues are literally equal. -/
theorem revcomp_extract_noU_partial (l : Loc) (s r : Seq) (hr : s.revcompRec = some r)
    (hw : wf l = true) (hk2 : reverseAbs l s.len = false) (hb : denIn s.len (den l))
    (hnd : (den l).Nodup) (hu : ∀ b ∈ s.bytes, b ≠ 85 ∧ b ≠ 117) :
    (Reg.locate (region (compl (reverse l s.len))) r).bytes = (Reg.locate (region l) s).bytes := by
  rw [revcomp_extract_partial l s r hr hw hk2 hb hnd, locate_region_bytes l s hw hb]
  exact map_uToT_map_readAt_of_noU s.bytes (den l) hb hu

/-- non-vacuity: an odd-arity complement-strand join with partial ends on a 12-residue record
(with and without U) meets every hypothesis -/
example :
    let l := compl (joined [ranged 0 2 true false, ranged 4 6 false false, ranged 8 10 false true])
    let s : Seq := ⟨[], [65,67,71,85,65,67,71,84,65,67,71,84]⟩
    s.revcompRec.map (·.bytes) = some [65,67,71,84,65,67,71,84,65,67,71,84] ∧
    wf l = true ∧ reverseAbs l s.len = false ∧ denIn s.len (den l) ∧ (den l).Nodup ∧
    (∀ b ∈ ([65,67,71,84,65,67,71,84,65,67,71,84] : List UInt8), b ≠ 85 ∧ b ≠ 117) := by
  decide +kernel

/-! ### record level: every feature of `gts.Reverse(gts.Complement(seq))` -/

/-- **one feature of the reverse-complemented record**: `gts.Complement` then `gts.Reverse` turn
the location `l` into `reverse (complement l) len`; from the reverse-complemented record it
extracts the residues `l` extracts from the original (up to U → T).  Guards on the complemented
location as in `seq_revcomp_den_partial`, in bounds, duplicate-free. -/
theorem seq_revcomp_extract_partial (l : Loc) (s r : Seq) (hr : s.revcompRec = some r)
    (hw : wf (complement l) = true) (hk2 : reverseAbs (complement l) s.len = false)
    (hb : denIn s.len (den l)) (hnd : (den l).Nodup) :
    (Reg.locate (region (reverse (complement l) s.len)) r).bytes =
      (Reg.locate (region l) s).bytes.map uToT := by
  rw [locate_region_bytes l s (by rw [← wf_complement]; exact hw) hb]
  exact locate_revcomp_of_den _ _ s r hr (reverse_mirror _ s.len hw).2
    ((seq_revcomp_den_partial l s.len hw hk2).eq_of_nodup (nodup_map_revcompPos _ _ hnd)) hb

/-- the record-level form (`gts.Reverse(gts.Complement(seq))`, location re-located by `Complement` then
`Reverse(len)`) under the full in-bounds guard -/
theorem seq_revcomp_extract_within_partial (l : Loc) (s r : Seq) (hr : s.revcompRec = some r)
    (hw : wf (complement l) = true) (hk2 : reverseAbs (complement l) s.len = false)
    (hb : Reg.within s.len (region l)) (hnd : (den l).Nodup) :
    (Reg.locate (region (reverse (complement l) s.len)) r).bytes =
      (Reg.locate (region l) s).bytes.map uToT :=
  seq_revcomp_extract_partial l s r hr hw hk2
    (den_region l (by rw [← wf_complement]; exact hw) ▸ Reg.denIn_of_within hb) hnd

/-- non-vacuity: a join with a between-site INSIDE the record meets the `within` guard (and every other
hypothesis of the two theorems above) -/
example :
    let l := joined [ranged 0 2 true false, between 3, ranged 4 6 false false]
    let s : Seq := ⟨[], [65,67,71,84,65,67,71,84]⟩
    s.revcompRec.isSome = true ∧ wf l = true ∧ reverseAbs l s.len = false ∧ Reg.within s.len (region l) ∧
    (den l).Nodup ∧ wf (complement l) = true ∧ reverseAbs (complement l) s.len = false := by
  decide +kernel

/-- **the whole record**: `gts.Reverse(gts.Complement(seq))` never panics, keeps every feature
(none lost or duplicated) re-located by `Complement` then `Reverse(len)`, and EVERY feature that
meets the guards extracts from the new record what it extracted from the old one (up to U → T). -/
theorem seq_revcomp_extract_all_partial (s : Seq) :
    ∃ r, s.revcompRec = some r ∧
      r.feats.Perm (s.feats.map fun f => { f with loc := (f.loc.complement).reverse s.len }) ∧
      ∀ f ∈ s.feats, wf (complement f.loc) = true → reverseAbs (complement f.loc) s.len = false →
        denIn s.len (den f.loc) → (den f.loc).Nodup →
        (Reg.locate (region (reverse (complement f.loc) s.len)) r).bytes =
          (Reg.locate (region f.loc) s).bytes.map uToT := by
  obtain ⟨r, hr, _, hperm⟩ := seq_revcomp s
  exact ⟨r, hr, hperm, fun f _ hw hk2 hb hnd => seq_revcomp_extract_partial f.loc s r hr hw hk2 hb hnd⟩

/-- non-vacuity: a record with a forward gene and a complement-strand join; both features meet
the guards -/
example :
    let s : Seq := ⟨[⟨"gene", ranged 1 7 false false, []⟩,
      ⟨"CDS", compl (joined [ranged 0 2 true false, ranged 4 6 false false]), []⟩],
      [65,67,71,85,65,67,71,84,65,67,71,84]⟩
    ∀ f ∈ s.feats, wf (complement f.loc) = true ∧ reverseAbs (complement f.loc) s.len = false ∧
      denIn s.len (den f.loc) ∧ (den f.loc).Nodup := by
  decide +kernel

/-! ### the statements above, for the code AS IT IS WRITTEN NOW

`Gts.Gen.seqReverse` / `seqComplement` are regenerated from sequence.go / nucleotide.go on every run
(go2lean/gseq.go); `Gts/Bridge/SeqReverse.lean` / `SeqComplement.lean` prove them equal to the model for every input. -/

/-- **`gts.Reverse` as written** never panics, flips the residues and re-locates every feature by `Reverse(len)`
(no feature lost or duplicated); the metadata is untouched -/
theorem gen_reverse_spec {ι : Type} (info : ι) (s : Seq) :
    ∃ ff, Gen.seqReverse info s.feats s.bytes = .ok (info, ff, s.bytes.reverse) ∧
      ff.Perm (s.feats.map fun f => { f with loc := f.loc.reverse s.len }) :=
  ⟨_, Bridge.seqReverse_eq info s, reverse_table_perm s⟩

/-- **`gts.Reverse` as written, twice**: neither call panics, the residues and the metadata come
back, and the table is that of `Seq.reverse (Seq.reverse s)` — the subject of the
`seq_reverse_reverse_*` theorems above -/
theorem gen_reverse_reverse_spec {ι : Type} (info : ι) (s : Seq) :
    ∃ ff ff', Gen.seqReverse info s.feats s.bytes = .ok (info, ff, s.bytes.reverse) ∧
      Gen.seqReverse info ff s.bytes.reverse = .ok (info, ff', s.bytes) ∧
      ff' = s.reverse.reverse.feats ∧
      ff'.Perm (s.feats.map fun f => { f with loc := (f.loc.reverse s.len).reverse s.len }) := by
  refine ⟨s.reverse.feats, s.reverse.reverse.feats, Bridge.seqReverse_eq info s, ?_, rfl,
    seq_reverse_reverse_table_perm s⟩
  have := Bridge.seqReverse_eq info s.reverse
  rwa [seq_reverse_reverse_bytes] at this

/-- **`gts.Complement` as written** never panics (the `new[j]` of `replaceBytes` is always in range for the two
alphabets of nucleotide.go), complements byte by byte and passes EVERY feature location through
`Location.Complement`, table order kept -/
theorem gen_complement_spec {ι : Type} (info : ι) (s : Seq) :
    Gen.seqComplement info s.feats s.bytes =
      .ok (info, s.feats.map (fun f => { f with loc := f.loc.complement }), s.bytes.map Nuc.complementByte) := by
  rw [Bridge.seqComplement_eq, seq_complement_total]
  rfl

/-- **`gts.Transcribe` as written** never panics and transcribes byte by byte; features and metadata as they are -/
theorem gen_transcribe_spec {ι : Type} (info : ι) (s : Seq) :
    Gen.seqTranscribe info s.feats s.bytes = .ok (info, s.feats, s.bytes.map Nuc.transcribeByte) := by
  rw [Bridge.seqTranscribe_eq, C18.transcribe_bytewise]
  rfl

-- non-vacuity: the theorems have no hypotheses; a concrete record
example : Gen.seqComplement (ι := Unit) () [⟨"gene", .point 1, []⟩] [65, 67] =
    .ok ((), [⟨"gene", .compl (.point 1), []⟩], [84, 71]) := gen_complement_spec () ⟨[⟨"gene", .point 1, []⟩], [65, 67]⟩

/-! ### the CLI glue: `gts reverse`, `gts complement`

What the COMMANDS apply to every record: `Gts.Gen.reverseStep` / `complementStep` are the scan-loop bodies of
cmd/gts/reverse.go / complement.go, regenerated on every run (go2lean/cmdsteps.go); `Gts/Bridge/CmdReverse.lean` proves
them equal to `Seq.reverse` / `Seq.complement`. -/

/-- **`gts reverse`, the command as written**: one record is written per record read — residues flipped, no feature
lost or duplicated, each re-located by `Reverse(len)`; nothing is complemented -/
theorem reverse_cli_step (s : Seq) :
    ∃ r, Gen.reverseStep s = some [r] ∧ r.bytes = s.bytes.reverse ∧
      r.feats.Perm (s.feats.map fun f => { f with loc := f.loc.reverse s.len }) :=
  ⟨s.reverse, Bridge.reverseStep_eq s, rfl, reverse_table_perm s⟩

/-- **`gts complement`, the command as written**: one record per record — every residue through the complement
alphabet, EVERY feature location through `Location.Complement`, table order kept; nothing is reversed -/
theorem complement_cli_step (s : Seq) :
    Gen.complementStep s = some [⟨s.feats.map fun f => { f with loc := f.loc.complement },
      s.bytes.map Nuc.complementByte⟩] :=
  Bridge.complementStep_eq s

/-- **`gts complement | gts reverse`** is the reverse complement of the record — the record `seq_revcomp`,
`seq_revcomp_den_partial`, `seq_revcomp_extract_all_partial` above are about -/
theorem complement_then_reverse_cli_steps (s : Seq) :
    ∃ c r, Gen.complementStep s = some [c] ∧ Gen.reverseStep c = some [r] ∧ s.revcompRec = some r := by
  refine ⟨_, _, complement_cli_step s, Bridge.reverseStep_eq _, ?_⟩
  simp [Seq.revcompRec, seq_complement_total, Cli.reverseStep]

/-- **`gts reverse | gts reverse`**: the two runs give `Seq.reverse (Seq.reverse s)` — the residues come back, the
table is the one the `seq_reverse_reverse_*` theorems above are about -/
theorem reverse_reverse_cli_steps (s : Seq) :
    ∃ r, Gen.reverseStep s = some [r] ∧ Gen.reverseStep r = some [s.reverse.reverse] ∧
      s.reverse.reverse.bytes = s.bytes :=
  ⟨s.reverse, Bridge.reverseStep_eq s, Bridge.reverseStep_eq _, seq_reverse_reverse_bytes s⟩

-- non-vacuity: the theorems have no hypotheses; a concrete record
example : Gen.complementStep ⟨[⟨"gene", .point 1, []⟩], [65, 67]⟩ =
    some [⟨[⟨"gene", .compl (.point 1), []⟩], [84, 71]⟩] := complement_cli_step ⟨[⟨"gene", .point 1, []⟩], [65, 67]⟩

example : ∃ r, Gen.reverseStep ⟨[⟨"gene", .ranged 0 2 false false, []⟩], [65, 67, 71]⟩ = some [r] ∧
    r.bytes = [71, 67, 65] ∧ r.feats.Perm [⟨"gene", .ranged 1 3 false false, []⟩] :=
  reverse_cli_step ⟨[⟨"gene", .ranged 0 2 false false, []⟩], [65, 67, 71]⟩

end Gts.C05
