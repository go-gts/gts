/-
  C01 — closure of the WHOLE round-trip domain (`WritableRecord` = `Writable` AND canonical locations,
  the decidable domain of `read_write_canon`) under the edit operations, next to
  `writable_record_complement` of `Gts/Props/C01.lean`.  Property theorems only (helper lemmas:
  `Gts/Lemmas/Canon*.lean`; the location-level statements are C06's: `Gts.C06.shift_canon`,
  `expand_canon_partial`, `reverse_canon_partial`, `normalize_canon_partial`).

  `Writable` is closed under every edit (`writable_insert` … in `Props/C01.lean`).  The canonical
  locations are not: `Location.Expand / Reverse / Normalize` re-apply `Join` to the mapped parts of
  a `Joined`, and `Join` is not idempotent (known finding K3 of C06).  The guards `Seq.deleteK3`,
  `Seq.reverseK3`, `Seq.rotateK3` (`Gts/Lemmas/CanonRecord.lean`, folded from `Loc.expandK3` …,
  `Gts/Spec/CanonGuard.lean`) say that the K3 shape `… p, p^p+1, p …` arises in one of those `Join`s;
  outside them the edited record is again in the domain, so `read_write_canon` and
  `write_read_write_partial` apply to it: gts reads back what it wrote.
-/
import Gts.Props.C01
import Gts.Lemmas.CanonRecord
import Gts.Lemmas.BsLit
namespace Gts.C01
open Gts Gts.Pars Gts.GenBank

theorem writableRecord_iff (reg : Registry) (F : Fields) (s : Seq) :
    WritableRecord reg (ofSeq F s) s.bytes = true ↔
      Writable reg (ofSeq F s) s.bytes = true ∧ s.locsCanon = true := by
  simp only [WritableRecord, Bool.and_eq_true, ofSeq_locs]

/-- **`gts.Delete`, the whole round-trip domain**: a record of `WritableRecord` (writable, canonical
locations) stays in it under `gts.Delete(seq, offset, length)` — `0 ≤ offset`, `0 ≤ length`, residues
remain or no CONTIG — unless the K3 shape arises in the `Join` of one of its locations
(`s.deleteK3 offset length = false`). -/
theorem writable_record_delete_partial (reg : Registry) (F : Fields) (s : Seq) (offset length : Int)
    (ho : 0 ≤ offset) (hlen0 : 0 ≤ length) (hw : WritableRecord reg (ofSeq F s) s.bytes = true)
    (hne : 0 < (s.delete offset length).bytes.length ∨ F.contigAcc.isEmpty = true)
    (hk3 : s.deleteK3 offset length = false) :
    WritableRecord reg (ofSeq F (s.delete offset length)) (s.delete offset length).bytes = true := by
  rw [writableRecord_iff] at hw ⊢
  exact ⟨GenBank.writable_delete reg F s offset length hlen0 hw.1 hne,
    locsCanon_delete s offset length hw.2 ho hlen0 hk3⟩

/-- the witness of the refuted full statement: twelve residues, a feature `join(7,4..5,7..9)` -/
def deleteK3Witness : Seq :=
  ⟨[⟨"source", .ranged 0 12 false false, [["organism", "Homo sapiens"]]⟩,
    ⟨"misc_feature", .joined [.point 6, .ranged 3 5 false false, .ranged 6 9 false false], [["note", "k3"]]⟩],
   bs "acgtacgtacgt"⟩

theorem deleteK3Witness_writable :
    WritableRecord Registry.default (ofSeq locusWitness deleteK3Witness) deleteK3Witness.bytes = true := by
  rw [WritableRecord_on (default_vecReg.sub (by decide +kernel))]
  decide +kernel

/-- FULL STATEMENT (false; root cause = known finding K3, reached through an edit): "`WritableRecord` is
closed under `gts.Delete`".  `gts delete 4..6` on the witness writes the feature as `join(4,4..6)`
(`Gts.C06.expand_canon_witness_read_back`); the next gts command reads that text as `4..6` and writes
`4..6`: the record gts wrote is not read back identically, and write → read → write is not a fixed
point (checked on the `gts` binary and replayed through the harness ops `loc.expand` / `loc.print` /
`loc.parse`). -/
theorem writable_record_delete_full_refuted :
    ¬ (∀ (reg : Registry) (F : Fields) (s : Seq) (offset length : Int), 0 ≤ offset → 0 ≤ length →
        WritableRecord reg (ofSeq F s) s.bytes = true →
        0 < (s.delete offset length).bytes.length →
        WritableRecord reg (ofSeq F (s.delete offset length)) (s.delete offset length).bytes = true) := by
  intro h
  have := h Registry.default locusWitness deleteK3Witness 3 3 (by decide) (by decide) deleteK3Witness_writable
    (by decide +kernel)
  rw [writableRecord_iff] at this
  have h2 := this.2
  revert h2
  decide +kernel

/-- non-vacuity of `writable_record_delete_partial`: the same record, another deletion (the middle part
of the join vanishes, no K3 shape) -/
example : WritableRecord Registry.default (ofSeq locusWitness deleteK3Witness) deleteK3Witness.bytes = true ∧
    0 < (deleteK3Witness.delete 3 2).bytes.length ∧ deleteK3Witness.deleteK3 3 2 = false ∧
    deleteK3Witness.deleteK3 3 3 = true := by
  exact ⟨deleteK3Witness_writable, by decide +kernel⟩

/-- **`gts.Insert`, the whole round-trip domain**: host and guest in `WritableRecord`, features inside
their sequences (`featsWithin`), `0 ≤ index ≤ Len(host)`, fewer than 10^9 residues together: the
result is in `WritableRecord`.  NO K3 guard: `Shift(index, n)` of the host's locations never fires a
reduction rule (`Gts.C06.shift_canon`).  The guest's locations go through `Expand(0, index)`, for
which the same is proved for well-formed features (`featsWf`: every span non-empty — the missing
part of the full statement: an empty `Ranged` of the guest turns into a between-site). -/
theorem writable_record_insert_partial (reg : Registry) (F G : Fields) (host guest : Seq) (index : Int)
    (hi0 : 0 ≤ index) (hi : index ≤ host.len)
    (hw : WritableRecord reg (ofSeq F host) host.bytes = true)
    (hg : WritableRecord reg (ofSeq G guest) guest.bytes = true)
    (hin : host.featsWithin = true) (hgin : guest.featsWithin = true) (hgw : guest.featsWf = true)
    (hsum : host.bytes.length + guest.bytes.length < 10 ^ 9) :
    WritableRecord reg (ofSeq F (host.insert index guest)) (host.insert index guest).bytes = true := by
  rw [writableRecord_iff] at hw hg ⊢
  refine ⟨GenBank.writable_insert reg F G host guest index hw.1 hg.1 hsum,
    locsCanon_insert host guest index hw.2 hg.2 hgw hin hgin hi0 hi ?_⟩
  simp only [Seq.len]
  omega

/-- **`gts.Reverse`, the whole round-trip domain**: unless the K3 shape arises (`s.reverseK3 = false`),
for features whose mirror images have non-negative coordinates (`s.reverseIn`: no between-site at the
very end of the sequence — `Between.Reverse` is off by one, known finding K1). -/
theorem writable_record_reverse_partial (reg : Registry) (F : Fields) (s : Seq)
    (hw : WritableRecord reg (ofSeq F s) s.bytes = true) (hin : s.reverseIn = true)
    (hk3 : s.reverseK3 = false) :
    WritableRecord reg (ofSeq F s.reverse) s.reverse.bytes = true := by
  rw [writableRecord_iff] at hw ⊢
  have hl := (writable_parts reg (ofSeq F s) s.bytes hw.1).2.2.2.2.2.2.2
  refine ⟨GenBank.writable_reverse reg F s hw.1, locsCanon_reverse s hw.2 ?_ hin hk3⟩
  simp only [Seq.len]
  omega

/-- **`gts.Rotate`, the whole round-trip domain**: a non-empty sequence with well-formed features
inside it, unless the K3 shape arises in the `Normalize` step (`s.rotateK3 n = false`; the
`Expand(0, n)` step is an insertion and needs no guard). -/
theorem writable_record_rotate_partial (reg : Registry) (F : Fields) (s : Seq) (n : Int)
    (hw : WritableRecord reg (ofSeq F s) s.bytes = true) (hL0 : 0 < s.len) (hin : s.featsWithin = true)
    (hwf : s.featsWf = true) (hk3 : s.rotateK3 n = false) :
    WritableRecord reg (ofSeq F (s.rotate n)) (s.rotate n).bytes = true := by
  rw [writableRecord_iff] at hw ⊢
  have hl := (writable_parts reg (ofSeq F s) s.bytes hw.1).2.2.2.2.2.2.2
  refine ⟨GenBank.writable_rotate reg F s n hw.1, locsCanon_rotate s n hw.2 hwf hin hL0 ?_ hk3⟩
  simp only [Seq.len]
  omega

/-- **`gts.Embed`, the whole round-trip domain**: like Insert, but the host's locations go through
`Expand(index, n)` as well (a feature around the insertion point is extended over the guest): host
and guest features well-formed and inside their sequences; no K3 guard. -/
theorem writable_record_embed_partial (reg : Registry) (F G : Fields) (host guest : Seq) (index : Int)
    (hi0 : 0 ≤ index) (hi : index ≤ host.len)
    (hw : WritableRecord reg (ofSeq F host) host.bytes = true)
    (hg : WritableRecord reg (ofSeq G guest) guest.bytes = true)
    (hin : host.featsWithin = true) (hgin : guest.featsWithin = true) (hhw : host.featsWf = true)
    (hgw : guest.featsWf = true) (hsum : host.bytes.length + guest.bytes.length < 10 ^ 9) :
    WritableRecord reg (ofSeq F (host.embed index guest)) (host.embed index guest).bytes = true := by
  rw [writableRecord_iff] at hw hg ⊢
  refine ⟨GenBank.writable_embed reg F G host guest index hw.1 hg.1 hsum,
    locsCanon_embed host guest index hw.2 hg.2 hhw hgw hin hgin hi0 hi ?_⟩
  simp only [Seq.len]
  omega

/-- **`gts.Concat`** of two records: the second record's features well-formed and inside it; no K3 guard. -/
theorem writable_record_concat_partial (reg : Registry) (F G : Fields) (a b : Seq)
    (hw : WritableRecord reg (ofSeq F a) a.bytes = true) (hg : WritableRecord reg (ofSeq G b) b.bytes = true)
    (hgin : b.featsWithin = true) (hgw : b.featsWf = true)
    (hsum : a.bytes.length + b.bytes.length < 10 ^ 9) :
    WritableRecord reg (ofSeq F (Seq.concat2 a b)) (Seq.concat2 a b).bytes = true := by
  rw [writableRecord_iff] at hw hg ⊢
  refine ⟨GenBank.writable_concat2 reg F G a b hw.1 hg.1 hsum, locsCanon_concat2 a b hw.2 hg.2 hgw hgin ?_⟩
  simp only [Seq.len]
  omega

/-- **`gts.Erase`** = `gts.Delete` on the features it keeps (`eraseKept`): guard `deleteK3` of those. -/
theorem writable_record_erase_partial (reg : Registry) (F : Fields) (s : Seq) (offset length : Int)
    (ho : 0 ≤ offset) (hlen0 : 0 ≤ length) (hw : WritableRecord reg (ofSeq F s) s.bytes = true)
    (hne : 0 < (s.erase offset length).bytes.length ∨ F.contigAcc.isEmpty = true)
    (hk3 : (eraseKept s offset length).deleteK3 offset length = false) :
    WritableRecord reg (ofSeq F (s.erase offset length)) (s.erase offset length).bytes = true := by
  rw [writableRecord_iff] at hw ⊢
  exact ⟨GenBank.writable_erase reg F s offset length hlen0 hw.1 hne,
    locsCanon_erase s offset length hw.2 ho hlen0 hk3⟩

/-- non-vacuity: the edit host / guest of `Props/C01.lean` meet every guard; the edits change the table -/
example : WritableRecord Registry.default (ofSeq locusWitness editHost) editHost.bytes = true ∧
    WritableRecord Registry.default (ofSeq sampleRecord.fields editGuest) editGuest.bytes = true ∧
    editHost.featsWithin = true ∧ editGuest.featsWithin = true ∧ editGuest.featsWf = true ∧
    editHost.featsWf = true ∧ editHost.reverseIn = true ∧ editHost.reverseK3 = false ∧
    editHost.rotateK3 5 = false ∧ editHost.deleteK3 2 5 = false ∧ 0 < editHost.len ∧
    (editHost.rotate 5).locsCanon = true ∧ (editHost.insert 3 editGuest).feats.length = 3 ∧
    (eraseKept editHost 0 10).deleteK3 0 10 = false ∧ (editHost.erase 0 10).feats.length = 1 := by
  rw [WritableRecord_on (default_vecReg.sub (by decide +kernel)), WritableRecord_on (default_vecReg.sub (by decide +kernel))]
  unfold sampleRecord locusWitness
  repeat rw [bs_ofList]
  decide +kernel

/-- **`gts.Delete`, then write, then read.**  Under the guards of `writable_record_delete_partial` the
record `gts.Delete` returns is written, and `GenBankParser` reads that text (followed by any `rest'`)
back as `readBack` of the edited record: in particular every feature comes back with the key and the
LOCATION the deletion gave it (`expand offset (-length)` of the old one), and the registry only
learns.  (`readBack` is the record itself up to K1A; the qualifiers come back as themselves under
`tableFaithful`: `read_write_faithful_partial`.) -/
theorem delete_read_back_partial (reg : Registry) (F : Fields) (s : Seq) (offset length : Int)
    (ho : 0 ≤ offset) (hlen0 : 0 ≤ length) (hw : WritableRecord reg (ofSeq F s) s.bytes = true)
    (hne : 0 < (s.delete offset length).bytes.length ∨ F.contigAcc.isEmpty = true)
    (hk3 : s.deleteK3 offset length = false) (rest' : Bytes) :
    ∃ t, write reg (ofSeq F (s.delete offset length)) = .ok t ∧
      genbankParser reg ⟨t ++ rest', []⟩ =
        (.ok (readBack reg (ofSeq F (s.delete offset length)) (s.delete offset length).bytes,
          learnTable reg (ofSeq F (s.delete offset length)).table), ⟨rest', []⟩) ∧
      (readBack reg (ofSeq F (s.delete offset length)) (s.delete offset length).bytes).table.map
          (fun f => (f.key, f.loc)) =
        s.feats.map (fun f => (bs f.key, f.loc.expand offset (-length))) := by
  obtain ⟨t, h1, h2⟩ := read_write_canon reg (ofSeq F (s.delete offset length)) (s.delete offset length).bytes rfl
    (writable_record_delete_partial reg F s offset length ho hlen0 hw hne hk3) rest'
  refine ⟨t, h1, h2, ?_⟩
  simp [readBack, ofSeq, Seq.delete, readFeature, qfeature, List.map_map, Function.comp_def]

/-- **`gts.Insert`, then write, then read.**  Under the guards of `writable_record_insert_partial` the
record `gts.Insert` returns is written and read back as `readBack` of itself: the same features in
the same order, each with the key and the location the insertion gave it. -/
theorem insert_read_back_partial (reg : Registry) (F G : Fields) (host guest : Seq) (index : Int)
    (hi0 : 0 ≤ index) (hi : index ≤ host.len)
    (hw : WritableRecord reg (ofSeq F host) host.bytes = true)
    (hg : WritableRecord reg (ofSeq G guest) guest.bytes = true)
    (hin : host.featsWithin = true) (hgin : guest.featsWithin = true) (hgw : guest.featsWf = true)
    (hsum : host.bytes.length + guest.bytes.length < 10 ^ 9) (rest' : Bytes) :
    ∃ t, write reg (ofSeq F (host.insert index guest)) = .ok t ∧
      genbankParser reg ⟨t ++ rest', []⟩ =
        (.ok (readBack reg (ofSeq F (host.insert index guest)) (host.insert index guest).bytes,
          learnTable reg (ofSeq F (host.insert index guest)).table), ⟨rest', []⟩) ∧
      (readBack reg (ofSeq F (host.insert index guest)) (host.insert index guest).bytes).table.map
          (fun f => (f.key, f.loc)) =
        (host.insert index guest).feats.map (fun f => (bs f.key, f.loc)) := by
  obtain ⟨t, h1, h2⟩ := read_write_canon reg (ofSeq F (host.insert index guest)) (host.insert index guest).bytes rfl
    (writable_record_insert_partial reg F G host guest index hi0 hi hw hg hin hgin hgw hsum) rest'
  refine ⟨t, h1, h2, ?_⟩
  simp [readBack, ofSeq, readFeature, qfeature, List.map_map, Function.comp_def]

/-- non-vacuity of the two corollaries: `editHost` with five residues deleted, `editGuest` inserted -/
example : (0 : Int) ≤ 2 ∧ (0 : Int) ≤ 5 ∧ 0 < (editHost.delete 2 5).bytes.length ∧ editHost.deleteK3 2 5 = false ∧
    (0 : Int) ≤ 3 ∧ 3 ≤ editHost.len ∧ editHost.bytes.length + editGuest.bytes.length < 10 ^ 9 := by
  refine ⟨by decide, by decide, by decide +kernel, by decide +kernel, by decide, by decide +kernel, by decide +kernel⟩

end Gts.C01
