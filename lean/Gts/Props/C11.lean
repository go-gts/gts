/-
  C11 — library operations are pure: arguments are never modified.

  Property theorems over the memory model `Gts/Model/Mem.lean` (a heap of arrays, Go slice
  headers, every operation written as the heap program the Go code is), for ALL heaps, offsets,
  lengths, capacities (spare capacity, sub-slices of larger buffers, shared tables) and ALL
  capacity policies `g` of `append`.

  For every operation `op`:
    * FRAME       `op_frame`    — no hypothesis at all: every array that existed before the call
                                  exists unchanged after it (`Frame w w'`, whole backing arrays);
    * REFINEMENT  `op_refines`  — for well-formed slice headers and in-range indices: the result
                                  read out of the new heap is the value the pure model
                                  (`Gts/Model/Seq.lean`) computes, and it is well formed;
    * PROGRAMS    `prog_*`      — any sequence of operations applied to the same original value:
                                  each sees the same arguments and returns the pure result.
  The pre-repair statements (`…Old`) violate FRAME on concrete heaps (`*_old_breaks_frame`).
  Helper lemmas live in Gts/Lemmas/Mem.lean.
-/
import Gts.Lemmas.Mem
namespace Gts.C11
open Gts Gts.Mem Gts.Mem.Heap

/-- FRAME is about whole backing arrays: every cell of every array that existed — visible part,
spare capacity, the enclosing buffer a slice was cut from — holds the same element afterwards. -/
theorem frame_arrays {φ : Type} {w w' : World φ} (hf : Frame w w') :
    (∀ a, a < w.B.length → w'.B.get a = w.B.get a) ∧ (∀ a, a < w.T.length → w'.T.get a = w.T.get a) :=
  ⟨fun _ ha => get_prefix hf.1 ha, fun _ ha => get_prefix hf.2 ha⟩

/-- … hence every sequence that was readable before (host, guest, or any other value sharing
their tables or buffers) reads the same and is still well formed -/
theorem frame_reads {w w' : World Feature} (hf : Frame w w') {s : MSeq} (hs : WFSeq w s) :
    readSeq w' s = readSeq w s ∧ WFSeq w' s := ⟨readSeq_mono hf hs, hs.mono hf⟩

variable (g : Grow)

theorem spliceSeq_frame (Th Tg : Loc → Loc) (w : World Feature) (host : MSeq) (index : Int) (guest : MSeq) :
    Frame w (spliceSeq g Th Tg w host index guest).2 :=
  ⟨spliceMem_frame g (List.prefix_refl _) _ _ _,
   insertLoop_frame _ _ _ _ _ _ _ (insertLoop_frame _ _ _ _ _ _ _ (List.prefix_refl _))⟩

theorem insert_frame (w : World Feature) (host : MSeq) (index : Int) (guest : MSeq) :
    Frame w (insertSeq g w host index guest).2 := spliceSeq_frame g _ _ w host index guest

theorem embed_frame (w : World Feature) (host : MSeq) (index : Int) (guest : MSeq) :
    Frame w (embedSeq g w host index guest).2 := spliceSeq_frame g _ _ w host index guest

theorem delete_frame (w : World Feature) (s : MSeq) (offset length : Int) :
    Frame w (deleteSeq w s offset length).2 :=
  ⟨cutMem_frame (List.prefix_refl _) _ _ _,
   mapLoop_frame _ (tabCopy_frame (List.prefix_refl _) s.tab).2 _ _ _
     (tabCopy_frame (List.prefix_refl _) s.tab).1⟩

theorem erase_frame (w : World Feature) (s : MSeq) (offset length : Int) :
    Frame w (eraseSeq w s offset length).2 := by
  unfold eraseSeq
  simp only []
  refine Frame.trans (b := ⟨w.B, (tabFilter _ w.T s.tab).2⟩) ?_ (delete_frame _ _ _ _)
  exact ⟨List.prefix_refl _, (tabFilter_frame _ (List.prefix_refl _) s.tab).1⟩

theorem rotate_frame (w : World Feature) (s : MSeq) (n : Int) : Frame w (rotateSeq g w s n).2 :=
  ⟨rotMem_frame g (List.prefix_refl _) _ _, insertLoop_frame _ _ _ _ _ _ _ (List.prefix_refl _)⟩

theorem sliceFwd_frame (w : World Feature) (s : MSeq) (start end_ : Int) :
    Frame w (sliceFwdSeq w s start end_).2 :=
  ⟨subMem_frame (List.prefix_refl _) _ _ _,
   mapLoop_frame _ (tabFilter_frame _ (List.prefix_refl _) s.tab).2 _ _ _
     (tabFilter_frame _ (List.prefix_refl _) s.tab).1⟩

theorem slice_frame (w : World Feature) (s : MSeq) (start end_ : Int) :
    Frame w (sliceSeq g w s start end_).2 := by
  unfold sliceSeq
  simp only []
  generalize (if start < 0 then start + s.len else start) = st
  generalize (if end_ < 0 then end_ + s.len else end_) = en
  by_cases h : en < st
  · rw [if_pos h]; exact (rotate_frame g w s _).trans (sliceFwd_frame _ _ _ _)
  · rw [if_neg h]; exact sliceFwd_frame _ _ _ _

theorem concatFold_frame (tail : List MSeq) (st : MSeq × World Feature) {w : World Feature}
    (hf : Frame w st.2) (hfr : Fresh w.B.length st.1.dat) :
    Frame w (tail.foldl (concatStep g ins) st).2 := by
  induction tail generalizing st with
  | nil => exact hf
  | cons q tail ih =>
    have a := frame_append g hf.1 hfr (read st.2.B q.dat)
    exact ih _ ⟨a.1, insertLoop_frame _ _ _ _ _ _ _ hf.2⟩ a.2

theorem concat_frame (w : World Feature) (ss : List MSeq) : Frame w (concatSeq g w ss).2 := by
  match ss with
  | [] | [_] => exact Frame.refl w
  | head :: q :: tail =>
    have a := frame_append g (List.prefix_refl w.B) (Or.inr rfl : Fresh w.B.length Slice.nil)
      (read w.B head.dat)
    exact concatFold_frame g (q :: tail) _ ⟨a.1, List.prefix_refl _⟩ a.2

theorem reverse_frame (w : World Feature) (s : MSeq) : Frame w (reverseSeq w s).2 :=
  ⟨revMem_frame (List.prefix_refl _) _, insertLoop_frame _ _ _ _ _ _ _ (List.prefix_refl _)⟩

theorem complement_frame (w : World Feature) (s : MSeq) : Frame w (complementSeq w s).2 :=
  ⟨replMem_frame _ (List.prefix_refl _) _, tabMapFresh_frame _ (List.prefix_refl _) _⟩

theorem transcribe_frame (w : World Feature) (s : MSeq) : Frame w (transcribeSeq w s).2 :=
  ⟨replMem_frame _ (List.prefix_refl _) _, List.prefix_refl _⟩

theorem tabInsert_frame (w : World Feature) (s : MSeq) (f : Feature) : Frame w (tabInsertSeq w s f).2 :=
  ⟨List.prefix_refl _, (Mem.tabInsert_frame _ (List.prefix_refl _) _ _).1⟩

theorem filter_frame (p : Feature → Bool) (w : World Feature) (s : MSeq) : Frame w (filterSeq p w s).2 :=
  ⟨List.prefix_refl _, (tabFilter_frame _ (List.prefix_refl _) _).1⟩

/-- `WithFeatures` / `WithBytes` / `Copy`: the world is literally the same (`WithInfo` replaces a
field that `MSeq` does not carry) -/
theorem with_frame (w : World Feature) (s : MSeq) (x : Slice) :
    (withFeaturesSeq w s x).2 = w ∧ (withBytesSeq w s x).2 = w ∧ (copySeq w s).2 = w := ⟨rfl, rfl, rfl⟩

/-- `Repair` works on a copy of the table: whatever it stores where, the argument's table array
(and every other array) is unchanged -/
theorem repair_frame {φ : Type} [Inhabited φ] (h : Heap φ) (ff : Slice) (stores : List (Nat × φ)) (keep : Nat) :
    h <+: (repairMem h ff stores keep).2 := by
  have c := tabCopy_frame (List.prefix_refl h) ff
  unfold repairMem
  simp only []
  generalize (tabCopy h ff).2 = h1 at c
  induction stores generalizing h1 with
  | nil => exact c.1
  | cons st stores ih => exact ih _ ⟨frame_store c.1 c.2 _ _, c.2⟩

/-- **FRAME for every operation**, no hypothesis: whatever the heap, the slice headers (spare
capacity, sub-slices, shared tables, even ill-formed ones), the indices and the capacity policy,
no array that existed before the call is changed by it -/
theorem runOp_frame (w : World Feature) (s : MSeq) (op : Op) : Frame w (runOp g w s op).2 := by
  cases op with
  | insert i guest => exact insert_frame g w s i guest
  | embed i guest => exact embed_frame g w s i guest
  | delete i n => exact delete_frame w s i n
  | erase i n => exact erase_frame w s i n
  | slice a b => exact slice_frame g w s a b
  | rotate n => exact rotate_frame g w s n
  | reverse => exact reverse_frame w s
  | complement => exact complement_frame w s
  | transcribe => exact transcribe_frame w s
  | concat before after => exact concat_frame g w _
  | tabInsert f => exact tabInsert_frame w s f
  | filterOverlap lo hi => exact filter_frame _ w s


/-! ### REFINEMENT — the result read out of the new heap is the pure model's result

`Spec w r v` = `Frame w r.2` ∧ the result `r.1` is well formed in `r.2` ∧ `readSeq r.2 r.1 = v`.
Hypotheses: the slice headers are well formed (true of every Go slice value) and the indices are
in the range in which the Go code does not panic. -/

theorem spliceSeq_refines (Th Tg : Loc → Loc) {w : World Feature} {host guest : MSeq} {index : Int}
    (hh : WFSeq w host) (hg : WFSeq w guest) (h0 : 0 ≤ index) (h1 : index ≤ host.len) :
    Spec w (spliceSeq g Th Tg w host index guest)
      ⟨Table.insertAll (Table.insertAll [] ((readSeq w host).feats.map (withLoc Th)))
          ((readSeq w guest).feats.map (withLoc Tg)),
        Seq.spliceBytes (readSeq w host).bytes index.toNat (readSeq w guest).bytes⟩ := by
  have p1 := insertLoop_all insertPos insertPos_le (withLoc Th) hh.1 (List.prefix_refl _) (wf_nil _)
  have p2 := insertLoop_all insertPos insertPos_le (withLoc Tg) hg.1 p1.pre p1.wf
  have pb := (spliceMem_owned g hh.2 hg.2 (pos := index.toNat) (by unfold MSeq.len at h1; omega)).part
  refine (Spec.ofParts p2 pb).cast ?_
  rw [p1.rd, read_nil, insPure_insertPos]
  rfl

theorem insert_refines {w : World Feature} {host guest : MSeq} {index : Int} (hh : WFSeq w host)
    (hg : WFSeq w guest) (h0 : 0 ≤ index) (h1 : index ≤ host.len) :
    Spec w (insertSeq g w host index guest) (Seq.insert (readSeq w host) index (readSeq w guest)) := by
  refine (spliceSeq_refines g _ _ hh hg h0 h1).cast ?_
  simp only [Seq.insert, len_readSeq hg]
  rfl

theorem embed_refines {w : World Feature} {host guest : MSeq} {index : Int} (hh : WFSeq w host)
    (hg : WFSeq w guest) (h0 : 0 ≤ index) (h1 : index ≤ host.len) :
    Spec w (embedSeq g w host index guest) (Seq.embed (readSeq w host) index (readSeq w guest)) := by
  refine (spliceSeq_refines g _ _ hh hg h0 h1).cast ?_
  simp only [Seq.embed, len_readSeq hg]
  rfl

theorem delete_refines {w : World Feature} {s : MSeq} {offset length : Int} (hs : WFSeq w s)
    (h0 : 0 ≤ offset) (h1 : 0 ≤ length) (h2 : offset + length ≤ s.len) :
    Spec w (deleteSeq w s offset length) (Seq.delete (readSeq w s) offset length) := by
  have pt := (mapLoop_all (withLoc fun l => l.expand offset (-length)) (tabCopy_owned hs.1)).part
    (r := ((tabCopy w.T s.tab).1, _))
  have pb := (cutMem_owned hs.2 (offset := offset.toNat) (length := length.toNat)
    (by unfold MSeq.len at h2; omega)).part
  refine (Spec.ofParts pt pb).cast ?_
  simp only [Seq.delete, readSeq, World.readTab, World.readDat, Int.toNat_add h0 h1]
  rfl

theorem erase_refines {w : World Feature} {s : MSeq} {offset length : Int} (hs : WFSeq w s)
    (h0 : 0 ≤ offset) (h1 : 0 ≤ length) (h2 : offset + length ≤ s.len) :
    Spec w (eraseSeq w s offset length) (Seq.erase (readSeq w s) offset length) := by
  have o := tabFilter_owned (fun f => f.key = "source" || !(f.loc.within offset (offset + length)))
    (h := w.T) (ff := s.tab)
  have d := delete_refines (w := ⟨w.B, _⟩) (s := ⟨_, s.dat⟩) ⟨o.wf, hs.2⟩ h0 h1 h2
  refine ⟨erase_frame w s offset length, d.wf, d.rd.trans ?_⟩
  simp only [Seq.erase, readSeq, World.readTab, World.readDat, o.rd]

theorem rotate_refines {w : World Feature} {s : MSeq} (n : Int) (hs : WFSeq w s) (hL : 0 < s.len) :
    Spec w (rotateSeq g w s n) (Seq.rotate (readSeq w s) n) := by
  have hn := rotAmount_nonneg s.len n hL
  have pt := insertLoop_all insertPos insertPos_le
    (withLoc fun l => (l.expand 0 (rotAmount s.len n)).normalize s.len) hs.1 (List.prefix_refl _) (wf_nil _)
  have pb := (rotMem_owned g hs.2 (m := (s.len - rotAmount s.len n).toNat)
    (by unfold MSeq.len at hn ⊢; omega)).part
  refine (Spec.ofParts pt pb).cast ?_
  rw [read_nil, insPure_insertPos]
  simp only [Seq.rotate, len_readSeq hs]
  rfl

theorem sliceFwd_refines {w : World Feature} {s : MSeq} {start end_ : Int} (hs : WFSeq w s)
    (h0 : 0 ≤ start) (h1 : start ≤ end_) (h2 : end_ ≤ s.len) :
    Spec w (sliceFwdSeq w s start end_) (Seq.sliceFwd (readSeq w s) start end_) := by
  have pt := (mapLoop_all (sliceLoc s.len start end_)
    (tabFilter_owned (fun f => f.loc.overlap start end_) (h := w.T) (ff := s.tab))).part
    (r := ((tabFilter (fun f => f.loc.overlap start end_) w.T s.tab).1, _))
  have pb := (subMem_owned hs.2 (start := start.toNat) (end_ := end_.toNat) (by omega)
    (by unfold MSeq.len at h2; omega)).part
  refine (Spec.ofParts pt pb).cast ?_
  have e : end_.toNat - start.toNat = (end_ - start).toNat := by omega
  simp only [Seq.sliceFwd, len_readSeq hs, e]
  rfl

/-- `Slice`, forward (`start ≤ end`) and origin-crossing (`end < start`), negative indices
counted from the end: the result is `Seq.slice` of the value -/
theorem slice_refines {w : World Feature} {s : MSeq} {start end_ : Int} (hs : WFSeq w s)
    (hs0 : 0 ≤ (if start < 0 then start + s.len else start))
    (hs1 : (if start < 0 then start + s.len else start) ≤ s.len)
    (he0 : 0 ≤ (if end_ < 0 then end_ + s.len else end_))
    (he1 : (if end_ < 0 then end_ + s.len else end_) ≤ s.len) (hL : 0 < s.len) :
    Spec w (sliceSeq g w s start end_) (Seq.slice (readSeq w s) start end_) := by
  unfold sliceSeq Seq.slice
  simp only [len_readSeq hs]
  generalize (if start < 0 then start + s.len else start) = st at hs0 hs1
  generalize (if end_ < 0 then end_ + s.len else end_) = en at he0 he1
  by_cases h : en < st
  · rw [if_pos h, if_pos h]
    have r := rotate_refines g (-st) hs hL
    have hlen : (rotateSeq g w s (-st)).1.len = s.len := by
      rw [← len_readSeq r.wf, r.rd, Seq.rotate_len, len_readSeq hs]
    have f := sliceFwd_refines (start := 0) (end_ := s.len - st + en) r.wf (Int.le_refl 0) (by omega)
      (by rw [hlen]; omega)
    exact ⟨r.frame.trans f.frame, f.wf, by rw [f.rd, r.rd]⟩
  · rw [if_neg h, if_neg h]
    exact sliceFwd_refines hs hs0 (by omega) he1

theorem concatFold_refines (tail : List MSeq) {w : World Feature} (htail : ∀ q ∈ tail, WFSeq w q) :
    ∀ (st : MSeq × World Feature) (v : Seq), Frame w st.2 → WFSeq st.2 st.1 →
      Fresh w.B.length st.1.dat → readSeq st.2 st.1 = v →
      Spec w (tail.foldl (concatStep g ins) st) ((tail.map (readSeq w)).foldl Seq.concat2 v) := by
  induction tail with
  | nil => intro st v hf hw _ hr; exact ⟨hf, hw, hr⟩
  | cons q tail ih =>
    intro st v hf hw hfr hr
    have hq := htail q (List.mem_cons_self ..)
    have o : Owned w.B st.2.B st.1.dat v.bytes :=
      ⟨hf.1, hfr, hw.2, by rw [← hr]; rfl⟩
    have ob := append_old g o hq.2
    have pt := insertLoop_all insertPos insertPos_le (withLoc fun l => l.expand 0 st.1.dat.len)
      hq.1 hf.2 hw.1
    have hlen : ((st.1.dat.len : Nat) : Int) = v.len := by
      rw [← hr]; exact (len_readSeq hw).symm
    refine ih (fun q' hq' => htail q' (List.mem_cons_of_mem _ hq')) _ _ ⟨ob.pre, pt.pre⟩
      ⟨pt.wf, ob.wf⟩ ob.fresh ?_
    simp only [concatStep, readSeq, World.readTab, World.readDat]
    rw [pt.rd, ob.rd, insPure_insertPos, hlen]
    simp only [Seq.concat2, Table.insertAll]
    congr 1
    rw [← hr]; rfl

theorem concat_refines {w : World Feature} (ss : List MSeq) (hss : ∀ q ∈ ss, WFSeq w q) :
    Spec w (concatSeq g w ss) (Seq.concat (ss.map (readSeq w))) := by
  match ss, hss with
  | [], _ =>
    show Spec w (⟨Slice.nil, Slice.nil⟩, w) ⟨[], []⟩
    exact ⟨Frame.refl w, ⟨wf_nil _, wf_nil _⟩, by simp [readSeq, World.readTab, World.readDat, read_nil]⟩
  | [s], hss =>
    show Spec w (s, w) (readSeq w s)
    exact ⟨Frame.refl w, hss s (List.mem_cons_self ..), rfl⟩
  | head :: q :: tail, hss =>
    have hh := hss head (List.mem_cons_self ..)
    have o := append_old g (nil_owned (List.prefix_refl w.B)) hh.2
    rw [List.nil_append] at o
    exact concatFold_refines g (q :: tail) (fun q' hq' => hss q' (List.mem_cons_of_mem _ hq'))
      _ _ ⟨o.pre, List.prefix_refl _⟩ ⟨hh.1, o.wf⟩ o.fresh
      (by simp only [readSeq, World.readTab, World.readDat, o.rd])

theorem reverse_refines {w : World Feature} {s : MSeq} (hs : WFSeq w s) :
    Spec w (reverseSeq w s) (Seq.reverse (readSeq w s)) := by
  have pt := insertLoop_all insertPos insertPos_le (withLoc fun l => l.reverse s.len) hs.1
    (List.prefix_refl _) (wf_nil _)
  have pb := (revMem_owned hs.2).part
  refine (Spec.ofParts pt pb).cast ?_
  rw [read_nil, insPure_insertPos]
  simp only [Seq.reverse, len_readSeq hs]
  rfl

theorem complement_refines {w : World Feature} {s : MSeq} (hs : WFSeq w s) :
    Spec w (complementSeq w s)
      ⟨(readSeq w s).feats.map (withLoc Loc.complement), (readSeq w s).bytes.map Nuc.complementByte⟩ :=
  Spec.ofParts (tabMapFresh_owned _ hs.1).part (replMem_owned _ hs.2).part

/-- `Transcribe`: the same table (shared with the argument), byte-wise transcribed residues -/
theorem transcribe_refines {w : World Feature} {s : MSeq} (hs : WFSeq w s) :
    Spec w (transcribeSeq w s) ⟨(readSeq w s).feats, (readSeq w s).bytes.map Nuc.transcribeByte⟩ :=
  Spec.ofParts (t := (s.tab, w.T)) ⟨List.prefix_refl _, hs.1, rfl⟩ (replMem_owned _ hs.2).part

theorem tabInsert_refines {w : World Feature} {s : MSeq} (f : Feature) (hs : WFSeq w s) :
    Spec w (tabInsertSeq w s f) ⟨Table.insert (readSeq w s).feats f, (readSeq w s).bytes⟩ := by
  have pt := (tabInsert_owned insertPos insertPos_le f hs.1).part
  rw [insPure_insertPos] at pt
  exact Spec.ofParts (b := (s.dat, w.B)) pt ⟨List.prefix_refl _, hs.2, rfl⟩

theorem filter_refines (p : Feature → Bool) {w : World Feature} {s : MSeq} (hs : WFSeq w s) :
    Spec w (filterSeq p w s) ⟨(readSeq w s).feats.filter p, (readSeq w s).bytes⟩ :=
  Spec.ofParts (b := (s.dat, w.B)) (tabFilter_owned p).part ⟨List.prefix_refl _, hs.2, rfl⟩


/-- **REFINEMENT for every operation**: well-formed arguments, in-range indices ⟹ FRAME, a
well-formed result, and the result reads as the pure model's value -/
theorem runOp_refines {w : World Feature} {s : MSeq} (hs : WFSeq w s) (op : Op) (hop : OpOK w s op) :
    Spec w (runOp g w s op) (pureOp w (readSeq w s) op) := by
  cases op with
  | insert i guest => exact insert_refines g hs hop.1 hop.2.1 hop.2.2
  | embed i guest => exact embed_refines g hs hop.1 hop.2.1 hop.2.2
  | delete i n => exact delete_refines hs hop.1 hop.2.1 hop.2.2
  | erase i n => exact erase_refines hs hop.1 hop.2.1 hop.2.2
  | slice a b => exact slice_refines g hs hop.1.1 hop.1.2 hop.2.1.1 hop.2.1.2 hop.2.2
  | rotate n => exact rotate_refines g n hs hop
  | reverse => exact reverse_refines hs
  | complement => exact complement_refines hs
  | transcribe => exact transcribe_refines hs
  | concat before after =>
    have := concat_refines g (w := w) (before ++ s :: after) (by
      intro q hq
      rcases List.mem_append.1 hq with h | h
      · exact hop.1 q h
      · rcases List.mem_cons.1 h with h | h
        · exact h ▸ hs
        · exact hop.2 q h)
    simpa [runOp, pureOp] using this
  | tabInsert f => exact tabInsert_refines f hs
  | filterOverlap lo hi => exact filter_refines _ hs

theorem OpOK.mono {w w' : World Feature} (hf : Frame w w') {s : MSeq} {op : Op} (h : OpOK w s op) :
    OpOK w' s op := by
  cases op with
  | insert i guest | embed i guest => exact ⟨h.1.mono hf, h.2⟩
  | concat before after => exact ⟨fun q hq => (h.1 q hq).mono hf, fun q hq => (h.2 q hq).mono hf⟩
  | _ => exact h

theorem pureOp_mono {w w' : World Feature} (hf : Frame w w') {s : MSeq} (v : Seq) {op : Op}
    (h : OpOK w s op) : pureOp w' v op = pureOp w v op := by
  cases op with
  | insert i guest | embed i guest => simp only [pureOp, readSeq_mono hf h.1]
  | concat before after =>
    simp only [pureOp]
    congr 2
    · exact List.map_congr_left fun q hq => readSeq_mono hf (h.1 q hq)
    · congr 1
      exact List.map_congr_left fun q hq => readSeq_mono hf (h.2 q hq)
  | _ => rfl

/-- FRAME for programs, no hypothesis: a whole program leaves every existing array unchanged -/
theorem prog_frame (s : MSeq) (ops : List Op) : ∀ w : World Feature, Frame w (runProg g w s ops).2 := by
  induction ops with
  | nil => intro w; exact Frame.refl w
  | cons op ops ih => intro w; exact (runOp_frame g w s op).trans (ih _)

/-- … so after any program every argument (the original value, the guests, any sequence sharing
their arrays) reads as before: each further operation sees the same arguments -/
theorem prog_args_same {w : World Feature} (s : MSeq) (ops : List Op) {a : MSeq} (ha : WFSeq w a) :
    readSeq (runProg g w s ops).2 a = readSeq w a := readSeq_mono (prog_frame g s ops w) ha

/-- **PROGRAMS**: for any sequence of operations applied to the same original value `s` (each
with acceptable arguments in the ORIGINAL world `w0`), the k-th result — read in the final
world, after all later operations have run — is the pure k-th operation applied to the ORIGINAL
value of `s` (and of the guests); all results are well formed. -/
theorem prog_results {w0 : World Feature} {s : MSeq} (hs : WFSeq w0 s) (ops : List Op)
    (hops : ∀ op ∈ ops, OpOK w0 s op) :
    ∀ w, Frame w0 w →
      (runProg g w s ops).1.map (readSeq (runProg g w s ops).2) = ops.map (pureOp w0 (readSeq w0 s)) ∧
      ∀ r ∈ (runProg g w s ops).1, WFSeq (runProg g w s ops).2 r := by
  induction ops with
  | nil => intro w _; exact ⟨rfl, fun r hr => by cases hr⟩
  | cons op ops ih =>
    intro w hf
    have hop : OpOK w0 s op := hops op (List.mem_cons_self ..)
    have sp := runOp_refines g (hs.mono hf) op (OpOK.mono hf hop)
    have hf' : Frame w0 (runOp g w s op).2 := hf.trans sp.frame
    have rest := ih (fun o ho => hops o (List.mem_cons_of_mem _ ho)) _ hf'
    have fr := prog_frame g s ops (runOp g w s op).2
    constructor
    · simp only [runProg, List.map_cons]
      rw [rest.1, readSeq_mono fr sp.wf, sp.rd, pureOp_mono hf _ hop, readSeq_mono hf hs]
    · intro r hr
      simp only [runProg] at hr ⊢
      rcases List.mem_cons.1 hr with h | h
      · exact h ▸ sp.wf.mono fr
      · exact rest.2 r h


/-! ### `Origin.Bytes` — replace-and-flag on the `*Origin`

`(*Origin).Bytes()` rewrites the cell it is called on (`o.Buffer = q; o.Parsed = true`), and every
operation calls it through `GenBank.Bytes()`.  What is observable through the accessors: -/

/-- what `Bytes()` does to an `Origin` `c` that still holds text: the residues go into a new array,
the cell is replaced and flagged -/
def converted (de : List UInt8 → List UInt8) (w : OWorld) (o : Nat) (c : OriginCell) : Slice × OWorld :=
  let v := de (read w.B c.buffer)
  let q := mk w.B v.length v.length
  (q.1, ⟨write q.2 q.1.arr q.1.off v, w.O.set o ⟨q.1, true⟩⟩)

theorem originBytes_cases (de : List UInt8 → List UInt8) (w : OWorld) (o : Nat) :
    (w.O[o]? = none ∧ originBytes de w o = (Slice.nil, w)) ∨
    ∃ c, w.O[o]? = some c ∧
      ((c.parsed = true ∧ originBytes de w o = (c.buffer, w)) ∨
       (c.parsed = false ∧ c.buffer.len < 12 ∧ originBytes de w o = (Slice.nil, w)) ∨
       (c.parsed = false ∧ ¬ c.buffer.len < 12 ∧ o < w.O.length ∧
          originBytes de w o = converted de w o c)) := by
  unfold originBytes
  cases hc : w.O[o]? with
  | none => exact Or.inl ⟨rfl, rfl⟩
  | some c =>
    refine Or.inr ⟨c, rfl, ?_⟩
    cases hp : c.parsed with
    | true => exact Or.inl ⟨rfl, by simp [hp]⟩
    | false =>
      by_cases hl : c.buffer.len < 12
      · exact Or.inr (Or.inl ⟨rfl, hl, by simp [hp, hl]⟩)
      · refine Or.inr (Or.inr ⟨rfl, hl, ?_, by simp [hp, hl, converted]⟩)
        exact (List.getElem?_eq_some_iff.1 hc).1

theorem read_converted (de : List UInt8 → List UInt8) (w : OWorld) (o : Nat) (c : OriginCell) :
    read (converted de w o c).2.B (converted de w o c).1 = de (read w.B c.buffer) :=
  (mkWrite_owned (List.prefix_refl w.B) _ rfl).rd

/-- the text buffer the `Origin` was built over — and every other byte array — is never written
(the residues go into a fresh array) -/
theorem originBytes_frame (de : List UInt8 → List UInt8) (w : OWorld) (o : Nat) :
    w.B <+: (originBytes de w o).2.B := by
  rcases originBytes_cases de w o with ⟨_, e⟩ | ⟨c, _, ⟨_, e⟩ | ⟨_, _, e⟩ | ⟨_, _, _, e⟩⟩ <;> rw [e]
  · exact List.prefix_refl _
  · exact List.prefix_refl _
  · exact List.prefix_refl _
  · exact prefix_write (prefix_snoc (List.prefix_refl _) _) (Nat.le_refl _) _ _

/-- no other `*Origin` is touched -/
theorem originBytes_others (de : List UInt8 → List UInt8) (w : OWorld) {o o' : Nat} (h : o ≠ o') :
    (originBytes de w o).2.O[o']? = w.O[o']? := by
  rcases originBytes_cases de w o with ⟨_, e⟩ | ⟨c, _, ⟨_, e⟩ | ⟨_, _, e⟩ | ⟨_, _, _, e⟩⟩ <;> rw [e]
  exact List.getElem?_set_ne h

/-- `Bytes()` returns the value `Bytes()` would have returned before, and keeps returning it:
the conversion is not observable through `Bytes()` -/
theorem originBytes_obs (de : List UInt8 → List UInt8) (w : OWorld) (o : Nat) :
    read (originBytes de w o).2.B (originBytes de w o).1 = obsBytes de w o ∧
    obsBytes de (originBytes de w o).2 o = obsBytes de w o := by
  rcases originBytes_cases de w o with ⟨hc, e⟩ | ⟨c, hc, ⟨hp, e⟩ | ⟨hp, hl, e⟩ | ⟨hp, hl, ho, e⟩⟩ <;>
    rw [e]
  · simp [obsBytes, hc, read_nil]
  · simp [obsBytes, hc, hp]
  · simp [obsBytes, hc, hp, hl, read_nil]
  · have hrd := read_converted de w o c
    simp only [obsBytes, hc, hp, hl, if_false, Bool.false_eq_true]
    refine ⟨hrd, ?_⟩
    simp only [converted, List.getElem?_set_self ho, if_true]
    exact hrd

/-- a second call returns the same slice and changes nothing -/
theorem originBytes_idem (de : List UInt8 → List UInt8) (w : OWorld) (o : Nat) :
    originBytes de (originBytes de w o).2 o = ((originBytes de w o).1, (originBytes de w o).2) := by
  rcases originBytes_cases de w o with ⟨hc, e⟩ | ⟨c, hc, ⟨hp, e⟩ | ⟨hp, hl, e⟩ | ⟨hp, hl, ho, e⟩⟩
  · rw [e, e]
  · rw [e, e]
  · rw [e, e]
  · rw [e]
    simp [originBytes, converted, List.getElem?_set_self ho]

/-- `Len()` reads the same before and after, given that the decoder produces
`fromOriginLength(len(text))` residues (it fills `make([]byte, length)`) -/
theorem originBytes_len (de : List UInt8 → List UInt8)
    (hde : ∀ t, (de t).length = fromOriginLength t.length) (w : OWorld) (o : Nat)
    (hwf : ∀ c, w.O[o]? = some c → WF w.B c.buffer) :
    obsLen (originBytes de w o).2 o = obsLen w o := by
  rcases originBytes_cases de w o with ⟨hc, e⟩ | ⟨c, hc, ⟨hp, e⟩ | ⟨hp, hl, e⟩ | ⟨hp, hl, ho, e⟩⟩ <;>
    rw [e]
  have hlen := length_read (hwf c hc)
  have : c.buffer.len ≠ 0 := by omega
  simp only [converted, obsLen, hc, hp, List.getElem?_set_self ho, mk, hde, hlen, this, if_false,
    if_true, Bool.false_eq_true]
  split <;> simp_all

/-- `String()` reads the same before and after when the text is what `NewOrigin` prints
for the residues it decodes to (always the case for an `Origin` made by `NewOrigin` or accepted
by the GenBank parser — the layout property C16) -/
theorem originBytes_string (en de : List UInt8 → List UInt8) (w : OWorld) (o : Nat)
    (hcanon : ∀ c, w.O[o]? = some c → c.parsed = false → en (de (read w.B c.buffer)) = read w.B c.buffer) :
    obsString en (originBytes de w o).2 o = obsString en w o := by
  rcases originBytes_cases de w o with ⟨hc, e⟩ | ⟨c, hc, ⟨hp, e⟩ | ⟨hp, hl, e⟩ | ⟨hp, hl, ho, e⟩⟩ <;>
    rw [e]
  have hrd := read_converted de w o c
  simp only [converted] at hrd
  simp only [converted, obsString, hc, hp, List.getElem?_set_self ho, if_true, if_false,
    Bool.false_eq_true, hrd]
  exact hcanon c hc hp

/-! ### `asComplete` — impure, but only ever applied to a location nobody else holds -/

/-- `join(<2..3,order(8..>9,6))` laid out in an otherwise empty heap -/
private def acArg : MLoc × Heap MLoc :=
  allocLoc (.joined [.ranged 1 3 true false, .ordered [.ranged 7 9 false true, .point 5]]) []

/-- `asComplete` IS impure: the location its caller passed in reads differently afterwards (the
`Joined`/`Ordered` slices are rewritten in place) -/
theorem asComplete_impure :
    (readLoc 8 acArg.2 acArg.1).beq
      (.joined [.ranged 1 3 true false, .ordered [.ranged 7 9 false true, .point 5]]) = true ∧
    (readLoc 8 (asCompleteMem 8 acArg.2 acArg.1).2 acArg.1).beq
      (.joined [.ranged 1 3 false false, .ordered [.ranged 7 9 false false, .point 5]]) = true := by
  decide

/-- … and what it returns is the pure `Loc.asComplete` of what was passed in (here, and on every
location of the correspondence run, op `mem.ascomplete`) -/
example : (readLoc 8 (asCompleteMem 8 acArg.2 acArg.1).2 (asCompleteMem 8 acArg.2 acArg.1).1).beq
    (Loc.asComplete (.joined [.ranged 1 3 true false, .ordered [.ranged 7 9 false true, .point 5]])) = true := by
  decide

/-- **FRAME at the only call site of `asComplete`** (`gts.Slice`, sequence.go:278): the argument
is the result of `Expand(…).Expand(…)`, a location built in fresh arrays (`allocLoc` is the
stand-in here; that the real `Expand` never returns a slice of its receiver is the theorem
`expand_fresh` of Gts/Props/C11Fresh.lean, and `sliceLoc_frame` there is this statement for the
heap programs of `Expand` themselves).  For every location `l`, every heap `h` — the feature's own location, other
features sharing its slices — and every nesting depth: nothing that existed is written. -/
theorem asComplete_fresh_frame (l : Loc) (h : Heap MLoc) (fuel : Nat) :
    h <+: (asCompleteMem fuel (allocLoc l h).2 (allocLoc l h).1).2 := by
  have a := allocLoc_closed l h h.length (Nat.le_refl _) (closed_self h)
  exact (asCompleteMem_closed (h0 := h) fuel _ _ a.1 a.2.1 a.2.2).1

/-! ### `Props` — which results share qualifier storage with their argument

`Set`/`Add`/`Del` are mutators (pointer receiver) and no sequence operation calls them, so no
operation changes a qualifier; FRAME above is not affected.  But Insert, Embed, Delete, Erase,
Slice, Rotate, Concat, Transcribe, Filter, FeatureSlice.Insert and Repair build their result
features as `Feature{f.Key, loc, f.Props}`: the result's qualifiers ARE the argument's (same
outer array, same rows), so a caller who later mutates a qualifier of the RESULT changes what the
ARGUMENT reads.  Only Reverse and Complement hand out `f.Props.Clone()`.  (Recorded as an
observation, not as a violation of C11: the write is a later action of the caller, not of the
operation — see checks/C11.json.) -/

/-- two rows `a=1`, `b=2`, the first with one spare cell, the outer array with one spare cell -/
private def propsWorld : PWorld :=
  ⟨[["a", "1", ""], ["b", "2"]], [[⟨0, 0, 2, 3⟩, ⟨1, 0, 2, 2⟩, Slice.nil]]⟩
private def propsArg : Slice := ⟨0, 0, 2, 3⟩

/-- through a SHARED header (what `Feature{f.Key, loc, f.Props}` gives the result), `Add`, `Set`
and `Del` on the result change the value the argument reads -/
theorem shared_props_reached :
    readProps (propsAdd (fun _ _ => 0) propsWorld propsArg "a" ["z"]).2 propsArg = [["a", "1", "z"], ["b", "2"]] ∧
    readProps (propsSet (fun _ _ => 0) propsWorld propsArg "a" ["z"]).2 propsArg = [["a", "z"], ["b", "2"]] ∧
    readProps (propsDel (fun _ _ => 0) propsWorld propsArg "a").2 propsArg = [["b", "2"], ["b", "2"]] := by
  decide

/-- `Clone()` writes nothing that existed … -/
theorem clone_frame (w : PWorld) (p : Slice) :
    w.R <+: (propsClone w p).2.R ∧ w.P <+: (propsClone w p).2.P :=
  ⟨(propsClone_fresh w p).1, (propsClone_fresh w p).2.1⟩

/-- … and isolates: whatever mutator is applied to a clone, with whatever arguments and capacity
policy, every array that existed before the `Clone()` is unchanged (rows are cloned with
`len = cap`, so even `Add`'s in-place `append` cannot reach the original) -/
theorem clone_isolates (g : Grow) (w : PWorld) (p : Slice) (key : String) (values : List String) :
    (w.R <+: (propsSet g (propsClone w p).2 (propsClone w p).1 key values).2.R ∧
     w.P <+: (propsSet g (propsClone w p).2 (propsClone w p).1 key values).2.P) ∧
    (w.R <+: (propsAdd g (propsClone w p).2 (propsClone w p).1 key values).2.R ∧
     w.P <+: (propsAdd g (propsClone w p).2 (propsClone w p).1 key values).2.P) ∧
    (w.R <+: (propsDel g (propsClone w p).2 (propsClone w p).1 key).2.R ∧
     w.P <+: (propsDel g (propsClone w p).2 (propsClone w p).1 key).2.P) := by
  have c := propsClone_fresh w p
  exact ⟨propsSet_frame g c.1 c.2.1 c.2.2 key values, propsAdd_frame g c.1 c.2.1 c.2.2 key values,
    propsDel_frame g c.1 c.2.1 c.2.2 key⟩

/-- non-vacuity: the clone of the example reads the same, and `Add` on it leaves the original -/
example :
    readProps (propsClone propsWorld propsArg).2 (propsClone propsWorld propsArg).1 = [["a", "1"], ["b", "2"]] ∧
    readProps (propsAdd (fun _ _ => 0) (propsClone propsWorld propsArg).2 (propsClone propsWorld propsArg).1 "a" ["z"]).2
      propsArg = [["a", "1"], ["b", "2"]] := by decide

/-! ### the PRE-REPAIR statements violate FRAME (the model can express the defect)

Concrete heaps; the host/table has spare capacity 1, 2 and 3 (`0xEE` = 238 is the sentinel the
harness fills buffers with).  Each refutation also holds for a doubling capacity policy. -/

/-- a host buffer `[1,2,3]` with `k` spare cells, and a guest `[9]` -/
def hostHeap (k : Nat) : Heap Nat := [[1, 2, 3] ++ List.replicate k 238, [9]]

/-- what the pre-repair `insert` did to a host with one spare cell: the guest and the host's
tail are written INTO THE HOST'S ARRAY (`[1,2,3,EE]` becomes `[1,9,2,3]`) -/
example : (spliceOld (fun _ _ => 0) (hostHeap 1) ⟨0, 0, 3, 4⟩ 1 ⟨1, 0, 1, 1⟩).2
    = [[1, 9, 2, 3], [9], [9, 2, 3]] := by decide

/-- pre-repair `insert` (4effce8 reverted): FRAME fails for spare capacity 1, 2, 3 -/
theorem splice_old_breaks_frame : ∀ k ∈ [1, 2, 3],
    ¬ (hostHeap k <+: (spliceOld (fun _ _ => 0) (hostHeap k) ⟨0, 0, 3, 3 + k⟩ 1 ⟨1, 0, 1, 1⟩).2) ∧
    ¬ (hostHeap k <+: (spliceOld (fun _ n => n) (hostHeap k) ⟨0, 0, 3, 3 + k⟩ 1 ⟨1, 0, 1, 1⟩).2) := by
  decide

/-- … and it also wrote into the GUEST's array when the guest had spare capacity -/
example : (spliceOld (fun _ _ => 0) ([[1, 2, 3], [9, 238, 238]] : Heap Nat) ⟨0, 0, 3, 3⟩ 1 ⟨1, 0, 1, 3⟩).2
    = [[1, 2, 3], [9, 2, 3], [1, 9, 2, 3]] := by decide

/-- the current `insert` on the same heaps: nothing changes, the result is the spliced value -/
example : ∀ k ∈ [0, 1, 2, 3],
    (hostHeap k <+: (spliceMem (fun _ _ => 0) (hostHeap k) ⟨0, 0, 3, 3 + k⟩ 1 ⟨1, 0, 1, 1⟩).2) ∧
    read (spliceMem (fun _ _ => 0) (hostHeap k) ⟨0, 0, 3, 3 + k⟩ 1 ⟨1, 0, 1, 1⟩).2
      (spliceMem (fun _ _ => 0) (hostHeap k) ⟨0, 0, 3, 3 + k⟩ 1 ⟨1, 0, 1, 1⟩).1 = [1, 9, 2, 3] := by
  decide

/-- pre-repair `Rotate` (e795ac6 reverted): `append(p[m:], p[:m]...)` overwrites the cells behind
the argument (spare capacity, or the rest of an enclosing buffer) -/
theorem rot_old_breaks_frame : ∀ k ∈ [1, 2, 3],
    ¬ (hostHeap k <+: (rotOld (fun _ _ => 0) (hostHeap k) ⟨0, 0, 3, 3 + k⟩ 1).2) := by decide

example : (rotOld (fun _ _ => 0) (hostHeap 2) ⟨0, 0, 3, 5⟩ 1).2 = [[1, 2, 3, 1, 238], [9]] := by decide

/-- pre-repair `Concat` (e795ac6 reverted): `append(head.Bytes(), …)` writes behind the head -/
theorem cat_old_breaks_frame : ∀ k ∈ [1, 2, 3],
    ¬ (hostHeap k <+: (catOld (fun _ _ => 0) (hostHeap k) ⟨0, 0, 3, 3 + k⟩ [⟨1, 0, 1, 1⟩]).2) := by decide

/-- pre-repair `FeatureSlice.Insert` (d065452 reverted) on a table `[10,20,30]` with `k` spare
cells, inserting at index 1: the receiver's array is shifted in place -/
theorem tabInsert_old_breaks_frame : ∀ k ∈ [1, 2, 3],
    ¬ (([[10, 20, 30] ++ List.replicate k 0] : Heap Nat) <+:
      (tabInsertOld (fun _ _ => 0) (fun _ _ => 1) [[10, 20, 30] ++ List.replicate k 0] ⟨0, 0, 3, 3 + k⟩ 15).2) := by
  decide

example : (tabInsertOld (fun _ _ => 0) (fun _ _ => 1) ([[10, 20, 30, 0]] : Heap Nat) ⟨0, 0, 3, 4⟩ 15).2
    = [[10, 15, 20, 30]] := by decide

/-- the "flip in place" mutant of `Reverse` (validation only) violates FRAME -/
theorem rev_old_breaks_frame :
    ¬ (hostHeap 0 <+: (revOld (hostHeap 0) ⟨0, 0, 3, 3⟩).2) := by decide

/-- two features on a 10-base sequence -/
def fA : Feature := ⟨"gene", .point 5, []⟩
def fB : Feature := ⟨"gene", .ranged 2 8 false false, []⟩

/-- a world whose only table `[fA, fB]` has `k` spare cells and whose only buffer (10 residues)
has `k` spare cells -/
def world (k : Nat) : World Feature :=
  ⟨[[65, 67, 71, 84, 65, 67, 71, 84, 65, 67] ++ List.replicate k 238, [78, 78]],
   [[fA, fB] ++ List.replicate k default]⟩

/-- the sequence in `world k` -/
def theSeq (k : Nat) : MSeq := ⟨⟨0, 0, 2, 2 + k⟩, ⟨0, 0, 10, 10 + k⟩⟩
/-- a guest `NN` without features -/
def theGuest : MSeq := ⟨Slice.nil, ⟨1, 0, 2, 2⟩⟩
/-- a guest `N` (the first residue of the same buffer) -/
def theGuest1 : MSeq := ⟨Slice.nil, ⟨1, 0, 1, 2⟩⟩

/-- a decidable observation of a table cell (`Loc` has no `DecidableEq`): which of the three
locations present in `world k` it holds, or none of them -/
private def obsLoc (f : Feature) : Nat :=
  if f.loc.beq (.point 5) then 1 else if f.loc.beq (.ranged 2 8 false false) then 2
  else if f.loc.beq (default : Feature).loc then 0 else 3

/-- FRAME fails for each `k` of a list as soon as, for each of them, the first table array (first buffer) reads
differently afterwards -/
private theorem not_frame_of_tab {ks : List Nat} {W W' : Nat → World Feature}
    (h : ∀ k ∈ ks, 0 < (W k).T.length ∧ ((W' k).T.get 0).map obsLoc ≠ ((W k).T.get 0).map obsLoc) :
    ∀ k ∈ ks, ¬ Frame (W k) (W' k) :=
  fun k hk hf => (h k hk).2 (by rw [(frame_arrays hf).2 0 (h k hk).1])

private theorem not_frame_of_buf {ks : List Nat} {W W' : Nat → World Feature}
    (h : ∀ k ∈ ks, 0 < (W k).B.length ∧ (W' k).B.get 0 ≠ (W k).B.get 0) :
    ∀ k ∈ ks, ¬ Frame (W k) (W' k) :=
  fun k hk hf => (h k hk).2 ((frame_arrays hf).1 0 (h k hk).1)

/-- pre-repair `Delete` (787a48e reverted): the caller's table holds the shortened locations
afterwards — for every spare capacity, including none -/
theorem delete_old_breaks_frame : ∀ k ∈ [0, 1, 2, 3],
    ¬ Frame (world k) (deleteSeqOld (world k) (theSeq k) 0 2).2 :=
  not_frame_of_tab (by decide)

/-- pre-repair `Insert` (4effce8 reverted), sequence level: the host's buffer is overwritten as
soon as the spare capacity holds the guest (spare 1, 2, 3 with a one-residue guest) -/
theorem insert_old_breaks_frame : ∀ k ∈ [1, 2, 3],
    ¬ Frame (world k) (spliceSeqOld (fun _ _ => 0) (fun l => l.shift 4 1) (fun l => l.expand 0 4)
      (world k) (theSeq k) 4 theGuest1).2 :=
  not_frame_of_buf (by decide)

/-- pre-repair `Rotate` (e795ac6 reverted), sequence level -/
theorem rotate_old_breaks_frame : ∀ k ∈ [1, 2, 3],
    ¬ Frame (world k) (rotateSeqOld (fun _ _ => 0) (world k) (theSeq k) 9).2 :=
  not_frame_of_buf (by decide)

/-- pre-repair `Concat` (e795ac6 reverted), sequence level: the cells behind the head's residues
are overwritten -/
theorem concat_old_breaks_frame : ∀ k ∈ [1, 2, 3],
    ¬ Frame (world k) (concatSeqOld (fun _ _ => 0) (world k) [theSeq k, theGuest1]).2 :=
  not_frame_of_buf (by decide)

/-- pre-repair `Concat` with the pre-repair `ff.Insert` (d065452 reverted): concatenating a
sequence with itself shifts the head's table in place when it has spare capacity -/
theorem concat_old_breaks_table : ∀ k ∈ [1, 2, 3],
    ¬ Frame (world k) (concatSeqOld (fun _ _ => 0) (world k) [theSeq k, theSeq k]).2 :=
  not_frame_of_tab (by decide)

/-- the "assign into `seq.Features()`" mutant of `Slice` (validation only) violates FRAME -/
theorem slice_old_breaks_frame :
    ¬ Frame (world 0) (sliceFwdSeqOld (world 0) (theSeq 0) 3 7).2 :=
  not_frame_of_tab (ks := [0]) (W := world) (W' := fun k => (sliceFwdSeqOld (world k) (theSeq k) 3 7).2)
    (by decide) 0 (List.mem_singleton.mpr rfl)

/-! ### non-vacuity: the hypotheses of REFINEMENT / PROGRAMS are satisfiable on heaps with spare
capacity, and the conclusions compute -/

/-- the arguments in `world k` are well formed and a four-operation program is acceptable -/
example : ∀ k ∈ [0, 1, 2, 3], WFSeq (world k) (theSeq k) ∧ WFSeq (world k) theGuest ∧
    ∀ op ∈ [Op.insert 4 theGuest, Op.delete 0 2, Op.rotate 9, Op.concat [] [theGuest]],
      OpOK (world k) (theSeq k) op := by
  decide

/-- on `world 2` the current `Insert` returns the spliced residues and does not touch the host
buffer (compare `insert_old_breaks_frame`) -/
example :
    (readSeq (insertSeq (fun _ _ => 0) (world 2) (theSeq 2) 4 theGuest).2
      (insertSeq (fun _ _ => 0) (world 2) (theSeq 2) 4 theGuest).1).bytes
      = [65, 67, 71, 84, 78, 78, 65, 67, 71, 84, 65, 67] ∧
    (insertSeq (fun _ _ => 0) (world 2) (theSeq 2) 4 theGuest).2.B.get 0 = (world 2).B.get 0 := by
  decide

end Gts.C11
