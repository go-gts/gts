/-
  C10 — Edits are invertible: delete undoes insert/embed, concat undoes split.
  Property theorems only.
-/
import Gts.Lemmas.Embed
import Gts.Lemmas.Delete
import Gts.Model.Seq
import Gts.Lemmas.Window
import Gts.Lemmas.ConcatPieces
import Gts.Lemmas.Cli
import Gts.Lemmas.Guest
import Gts.Lemmas.Record
import Gts.Props.C02
import Gts.Lemmas.MarksInv
import Gts.Lemmas.MarkGuardOps
import Gts.Lemmas.MarkGuardEmbed
import Gts.Bridge.SeqInsert
import Gts.Bridge.SeqDelete
import Gts.Bridge.SeqConcat
namespace Gts.C10
open Gts Loc

/-- deleting the inserted residues restores the host's residues (for an index inside the host) -/
theorem delete_insert_bytes (host guest : Gts.Seq) (i : Int) (h0 : 0 ≤ i) (h1 : i ≤ host.len) :
    ((host.insert i guest).delete i guest.len).bytes = host.bytes := by
  have hl : (host.bytes.take i.toNat).length = i.toNat := by
    rw [List.length_take]; unfold Seq.len at h1; omega
  simp only [Seq.delete, Seq.insert, Seq.spliceBytes, Seq.len]
  rw [show (i + (guest.bytes.length : Int)).toNat = (host.bytes.take i.toNat ++ guest.bytes).length by
      rw [List.length_append, hl]; omega,
    List.drop_left, List.append_assoc, List.take_left' hl, List.take_append_drop]

theorem delMap_insMap (i n x : Int) (hn : 0 ≤ n) : delMap i n (insMap i n x) = some x := by
  unfold delMap insMap
  by_cases h : x < i
  · simp [h]
  · have h1 : ¬ x + n < i := by omega
    have h2 : ¬ x + n < i + n := by omega
    simp [h, h1, h2]

theorem filterMapPos_mapPos_inv (i n : Int) (hn : 0 ≤ n) (d : List Pos) :
    filterMapPos (delMap i n) (mapPos (insMap i n) d) = d := by
  rw [filterMapPos_mapPos, filterMapPos_congr (g := fun x => some x) fun p _ => delMap_insMap i n p.1 hn,
    filterMapPos_some_id]

/-- **insert;delete** on every location: the result denotes exactly the original residues (same
order, strand), for every well-formed location, index and guest length, unless K2 fires in one
of the two steps. -/
theorem shift_then_delete_den_partial (l : Loc) (i n : Int) (hw : wf l = true) (hn : 0 < n)
    (h1 : shiftAbs l i n = false) (h2 : expandAbs (shift l i n) i (-n) = false) :
    den (expand (shift l i n) i (-n)) ≼ den l := by
  have a := shift_ins l i n hw (by omega)
  have b := (expand_del (shift l i n) i n a.2 hn).1 h2
  have c := filterMapPos_refines (delMap i n) (a.1 h1)
  rw [filterMapPos_mapPos_inv i n (by omega)] at c
  exact b.trans c

/-- **embed;delete** on every location -/
theorem embed_then_delete_den_partial (l : Loc) (i n : Int) (hw : wf l = true) (hn : 0 < n)
    (h1 : expandAbs l i n = false) (h2 : expandAbs (expand l i n) i (-n) = false) :
    den (expand (expand l i n) i (-n)) ≼ den l := by
  have a := expand_ins l i n hw (by omega)
  have b := (expand_del (expand l i n) i n a.2 hn).1 h2
  -- deleting [i,i+n) removes exactly the guest residues that a spanning part covered
  have key : ∀ d : List Pos, filterMapPos (delMap i n) d = filterMapPos (delMap i n) (stripGuest i n d) := by
    intro d
    unfold filterMapPos stripGuest
    rw [List.filterMap_filter]
    apply filterMap_congr'
    intro p _
    by_cases hp : p.1 < i ∨ i + n ≤ p.1
    · simp [hp]
    · simp [hp, delMap_eq_none.mpr (show i ≤ p.1 ∧ p.1 < i + n by omega)]
  have c := filterMapPos_refines (delMap i n) (a.1 h1)
  rw [filterMapPos_mapPos_inv i n (by omega), ← key] at c
  exact b.trans c

/-- contiguous kinds: insert;delete is the *syntactic* identity, partial markers included (the
join created by the split re-merges through the forced merge of abutting ranges) -/
theorem ranged_shift_then_delete (s e : Int) (p5 p3 : Bool) (i n : Int) (h : s < e) (hn : 0 < n) :
    expand (shift (ranged s e p5 p3) i n) i (-n) = ranged s e p5 p3 := by
  rw [shift, rangedShift_ins s e p5 p3 i n (by omega)]
  by_cases hs : s < i ∧ i < e
  · rw [if_pos ⟨by omega, hs⟩]
    simp only [expand, expandList]
    rw [rangedExpand_del_below s i p5 false i n hn hs.1 (Int.le_refl i),
      rangedExpand_del_above (i + n) (e + n) false p3 i n hn (by omega) (Int.le_refl _),
      Int.add_sub_cancel, Int.add_sub_cancel]
    exact join_two_ranged_abut s i e p5 false false p3
  · rw [if_neg (fun h => hs h.2)]
    by_cases h1 : i ≤ s
    · rw [if_pos h1, if_pos (by omega), expand,
        rangedExpand_del_above (s + n) (e + n) p5 p3 i n hn (by omega) (by omega),
        Int.add_sub_cancel, Int.add_sub_cancel]
    · rw [if_neg h1, if_neg (by omega), expand, rangedExpand_del_below s e p5 p3 i n hn h (by omega)]

theorem ranged_embed_then_delete (s e : Int) (p5 p3 : Bool) (i n : Int) (h : s < e) (hn : 0 < n) :
    expand (expand (ranged s e p5 p3) i n) i (-n) = ranged s e p5 p3 := by
  simp only [expand, rangedExpand_ins_eq s e p5 p3 i n h hn]
  by_cases h1 : i ≤ s
  · rw [if_pos h1, if_pos (by omega), rangedExpand_del_above (s + n) (e + n) p5 p3 i n hn (by omega) (by omega),
      Int.add_sub_cancel, Int.add_sub_cancel]
  · rw [if_neg h1]
    by_cases h2 : i < e
    · rw [if_pos h2, rangedExpand_del_around s (e + n) p5 p3 i n hn (by omega) (by omega), Int.add_sub_cancel]
    · rw [if_neg h2, rangedExpand_del_below s e p5 p3 i n hn h (by omega)]

theorem point_shift_then_delete (p i n : Int) (hn : 0 < n) :
    expand (shift (point p) i n) i (-n) = point p := by
  rw [shift, pointExpand_ins p i n (by omega), expand, pointExpand_del _ i n hn,
    if_neg (by unfold insMap; omega)]
  congr 1; unfold delStart insMap; omega

theorem between_shift_then_delete (p i n : Int) (hn : 0 < n) :
    expand (shift (between p) i n) i (-n) = between p := by
  rw [shift, betweenExpand, expand, betweenExpand_del]
  congr 1; unfold delStart gmax; omega

/-- an ambiguous span split by an insertion comes back as `order(a.b, c.d)` — the identity holds
on the denotation only (stated in the property: "denotes the same residues") -/
theorem ambiguous_split_not_syntactic :
    (expand (shift (ambiguous 2 8) 5 3) 5 (-3)).beq (ordered [ambiguous 2 5, ambiguous 5 8]) = true := by
  decide

/-- a LIST identity (neither `Seq.slice` nor `Seq.concat` occurs): dropping / taking the residues at sorted
positions and appending the pieces restores them; the statement about the program is
`concat_pieces_restore_bytes` -/
theorem concat_pieces_bytes (bs : List UInt8) :
    ∀ (cuts : List Nat) (a : Nat), (a :: cuts).Pairwise (· ≤ ·) → (a :: cuts).getLast? = some bs.length →
      (((a :: cuts).zip cuts).flatMap fun ab => (bs.drop ab.1).take (ab.2 - ab.1)) = bs.drop a
  | [], a, _, hl => by
      simp at hl
      simp [hl]
  | b :: cuts, a, hs, hl => by
      have hab : a ≤ b := (List.pairwise_cons.mp hs).1 b (List.mem_cons_self ..)
      have ih := concat_pieces_bytes bs cuts b (List.Pairwise.of_cons hs) (by simpa using hl)
      simp only [List.zip_cons_cons, List.flatMap_cons]
      rw [ih]
      have : bs.drop b = (bs.drop a).drop (b - a) := by rw [List.drop_drop]; congr 1; omega
      rw [this, List.take_append_drop]

/-- **a piece of a feature, put back by Concat**: the part of a feature that falls into the piece
`[a, b)`, offset back by `a` as `Concat` does, denotes exactly the feature's residues inside
`[a, b)` — at their original positions and on their original strand. -/
theorem piece_den_partial (l : Loc) (a b L : Int) (h0 : 0 ≤ a) (hab : a ≤ b) (hbL : b ≤ L)
    (hw : wf l = true) (hpos : ∀ p ∈ den l, 0 ≤ p.1 ∧ p.1 < L)
    (g1 : expandAbs l b (b - L) = false) (g2 : expandAbs (l.expand b (b - L)) 0 (-a) = false)
    (hnn : nonneg (sliceLoc l a b L) = true) (g3 : expandAbs (sliceLoc l a b L) 0 a = false) :
    den (expand (sliceLoc l a b L) 0 a) ≼ (den l).filter (fun p => decide (a ≤ p.1 ∧ p.1 < b)) := by
  have s := sliceLoc_den l a b L h0 hab hbL hw hpos g1 g2
  have t := guest_translate (sliceLoc l a b L) a s.2 hnn h0 g3
  have u := mapPos_refines (· + a) s.1
  rw [window_back] at u
  exact t.trans u

/-- integer arithmetic only (no `Seq.slice`, no `Seq.concat`): for STRICTLY increasing cuts every position
of `[a, L)` lies in SOME window between consecutive cuts (existence; uniqueness is not stated here, and
strict sortedness excludes a cut at 0 / at L / a repeated cut — for those see `windows_cover` and the
program-level theorems `concat_pieces_restore_bytes` / `concat_pieces_feature_partial` below) -/
theorem windows_partition (cuts : List Int) (a L x : Int)
    (hs : (a :: cuts).Pairwise (· < ·)) (hl : (a :: cuts).getLast? = some L) (h0 : a ≤ x) (h1 : x < L) :
    ∃ w ∈ (a :: cuts).zip cuts, w.1 ≤ x ∧ x < w.2 :=
  Seq.windows_cover cuts a L x (hs.imp Int.le_of_lt) hl h0 h1

/-! ### slice*;concat as a program (audit finding S8)

`Seq.pieces s cuts` = the records `Seq.slice s c_j c_{j+1}` over the consecutive cut points of
`0 :: cuts ++ [s.len]` (as the harness cuts); `Seq.CutsOk` = that list is sorted (`≤`: a cut at 0, a cut at
the length and repeated cuts — empty pieces — are included). -/

/-- every position of `[0, L)` lies in a window, for sorted cuts with repeats / 0 / L allowed -/
theorem windows_cover (L : Int) (cuts : List Int) (h : Seq.CutsOk L cuts) (x : Int) (h0 : 0 ≤ x) (h1 : x < L) :
    ∃ w ∈ Seq.windows L cuts, w.1 ≤ x ∧ x < w.2 :=
  Seq.windows_cover (cuts ++ [L]) 0 L x h (Cli.getLast?_cuts cuts L) h0 h1

/-- **slice*;concat restores the residues** — about the program: cutting the record with `Seq.slice` at
any sorted list of positions in `[0, len]` (0, len and repeats included) and `Seq.concat` of the pieces
in order gives back exactly the residues. -/
theorem concat_pieces_restore_bytes (s : Seq) (cuts : List Int) (h : Seq.CutsOk s.len cuts) :
    (Seq.concat (Seq.pieces s cuts)).bytes = s.bytes := by
  -- the pieces are those of `gts split` over the cut list `0, cuts…, len`
  rw [Seq.concat_bytes_flatten, show Seq.pieces s cuts = Cli.pieces s (0 :: (cuts ++ [s.len])) from
      (Cli.pieces_eq_map s _).symm,
    Cli.pieces_bytes s 0 (cuts ++ [s.len]) h (Int.le_refl 0), Cli.lastFrom_append]
  exact List.take_of_length_le (by simp [Seq.len])

/-- **the feature table of slice*;concat**: a permutation of — for the first window — the features `Slice`
keeps (overlap filter, `sliceLoc`, `asComplete` on `source`), NOT offset, and — for every later window
`[a, b)` — the same re-located by `Concat` with `Expand(0, a)`: the running length of the pieces so far IS the
window start.  Nothing else is in the table. -/
theorem concat_pieces_table_perm (s : Seq) (cuts : List Int) (h : Seq.CutsOk s.len cuts) :
    ∃ w0 ws, Seq.windows s.len cuts = w0 :: ws ∧ w0.1 = 0 ∧
      (Seq.concat (Seq.pieces s cuts)).feats.Perm
        (Seq.pieceFeats s w0 ++ ws.flatMap (Seq.pieceFeatsBack s)) :=
  Seq.concat_pieces_feats_perm s cuts h

/-- FULL STATEMENT of the feature half for one piece (false today through known finding K2): without the
guards a piece may lose a residue — already for one cut-free "piece" (the whole record, one feature
`join(3..6, 6)` written as a literal: `Slice` rebuilds the join and K2 drops the point). -/
theorem concat_pieces_feature_full_refuted :
    ¬ (∀ (s : Seq) (cuts : List Int) (f : Feature) (w : Int × Int), Seq.CutsOk s.len cuts → f ∈ s.feats →
        w ∈ Seq.windows s.len cuts → wf f.loc = true → (∀ p ∈ den f.loc, 0 ≤ p.1 ∧ p.1 < s.len) →
        f.loc.overlap w.1 w.2 = true →
        ∃ f' ∈ (Seq.concat (Seq.pieces s cuts)).feats, f'.key = f.key ∧ f'.props = f.props ∧
          den f'.loc ≼ (den f.loc).filter (fun p => decide (w.1 ≤ p.1 ∧ p.1 < w.2))) := by
  intro h
  obtain ⟨f', hf', _, _, hd⟩ := h ⟨[⟨"x", joined [ranged 3 6 false false, point 6], []⟩], [65, 65, 65, 65, 65, 65, 65, 65]⟩ []
    ⟨"x", joined [ranged 3 6 false false, point 6], []⟩ (0, 8) (by unfold Seq.CutsOk; decide +kernel) (List.mem_cons_self ..)
    (by decide +kernel) (by decide +kernel) (by decide +kernel) (by decide +kernel)
  have hm := hd.2 (6, false) (by decide +kernel)
  have hall : ∀ g ∈ (Seq.concat (Seq.pieces ⟨[⟨"x", joined [ranged 3 6 false false, point 6], []⟩],
      [65, 65, 65, 65, 65, 65, 65, 65]⟩ [])).feats, ((6, false) : Pos) ∉ den g.loc := by decide +kernel
  exact hall f' hf' hm

/-- **a feature's part in one piece, as the program produces it**: for every feature `f` of `s` and every
window `w = [a, b)` of the cut that `f` overlaps (Slice's own filter), the result of
`Seq.concat (Seq.pieces s cuts)` contains a feature with `f`'s key and qualifiers whose location — `sliceLoc`
(`asComplete` of it for `source`), offset by `Concat` — denotes exactly `den f ∩ [a, b)` at the ORIGINAL
positions and strands (duplicates possibly merged).  Guards (K2, as in `piece_den_partial`, on the location
actually re-located): `g1`, `g2` for the two `Expand`s of Slice, `hnn` / `g3` for Concat's `Expand(0, a)` — for
the first, un-offset piece `hnn` / `g3` are not used. -/
theorem concat_pieces_feature_partial (s : Seq) (cuts : List Int) (h : Seq.CutsOk s.len cuts)
    (f : Feature) (hf : f ∈ s.feats) (w : Int × Int) (hw : w ∈ Seq.windows s.len cuts)
    (hwf : wf f.loc = true) (hpos : ∀ p ∈ den f.loc, 0 ≤ p.1 ∧ p.1 < s.len)
    (hov : f.loc.overlap w.1 w.2 = true)
    (g1 : expandAbs f.loc w.2 (w.2 - s.len) = false)
    (g2 : expandAbs (f.loc.expand w.2 (w.2 - s.len)) 0 (-w.1) = false)
    (hnn : nonneg (Seq.pieceLoc f w.1 w.2 s.len) = true)
    (g3 : expandAbs (Seq.pieceLoc f w.1 w.2 s.len) 0 w.1 = false) :
    ∃ f' ∈ (Seq.concat (Seq.pieces s cuts)).feats, f'.key = f.key ∧ f'.props = f.props ∧
      den f'.loc ≼ (den f.loc).filter (fun p => decide (w.1 ≤ p.1 ∧ p.1 < w.2)) := by
  obtain ⟨h0, hab, hbL⟩ := Seq.mem_windows h w hw
  obtain ⟨w0, ws, hws, hw0, hperm⟩ := Seq.concat_pieces_feats_perm s cuts h
  have sl := sliceLoc_den f.loc w.1 w.2 s.len h0 hab hbL hwf hpos g1 g2
  obtain ⟨hden, hwfp⟩ : den (Seq.pieceLoc f w.1 w.2 s.len) = den (sliceLoc f.loc w.1 w.2 s.len) ∧
      wf (Seq.pieceLoc f w.1 w.2 s.len) = true := by
    unfold Seq.pieceLoc; split
    · exact ⟨den_asComplete _, (wf_asComplete _).trans sl.2⟩
    · exact ⟨rfl, sl.2⟩
  have hin : ({ f with loc := Seq.pieceLoc f w.1 w.2 s.len } : Feature) ∈ Seq.pieceFeats s w :=
    List.mem_map_of_mem (List.mem_filter.mpr ⟨hf, hov⟩)
  rw [hws] at hw
  rcases List.mem_cons.mp hw with hw | hw
  · -- the first piece: not offset
    subst hw
    refine ⟨_, hperm.symm.subset (List.mem_append_left _ hin), rfl, rfl, ?_⟩
    show den (Seq.pieceLoc f w.1 w.2 s.len) ≼ _
    rw [hden]
    have := sl.1
    rw [hw0] at this ⊢
    rwa [window_zero] at this
  · -- a later piece: offset by its window start
    refine ⟨{ f with loc := (Seq.pieceLoc f w.1 w.2 s.len).expand 0 w.1 },
      hperm.symm.subset (List.mem_append_right _ (List.mem_flatMap.mpr ⟨w, hw, List.mem_map_of_mem hin⟩)),
      rfl, rfl, ?_⟩
    · show den ((Seq.pieceLoc f w.1 w.2 s.len).expand 0 w.1) ≼ _
      have t := guest_translate (Seq.pieceLoc f w.1 w.2 s.len) w.1 hwfp hnn h0 g3
      rw [hden] at t
      have u := mapPos_refines (· + w.1) sl.1
      rw [window_back] at u
      exact t.trans u

/-- **the pieces together cover the feature**: every residue `f` denotes is denoted, at the same position and
strand, by a feature of `Seq.concat (Seq.pieces s cuts)` with `f`'s key and qualifiers (the guards for every
window of the cut). -/
theorem concat_pieces_feature_cover_partial (s : Seq) (cuts : List Int) (h : Seq.CutsOk s.len cuts)
    (f : Feature) (hf : f ∈ s.feats) (hwf : wf f.loc = true) (hpos : ∀ p ∈ den f.loc, 0 ≤ p.1 ∧ p.1 < s.len)
    (hg : ∀ w ∈ Seq.windows s.len cuts,
      expandAbs f.loc w.2 (w.2 - s.len) = false ∧
      expandAbs (f.loc.expand w.2 (w.2 - s.len)) 0 (-w.1) = false ∧
      nonneg (Seq.pieceLoc f w.1 w.2 s.len) = true ∧
      expandAbs (Seq.pieceLoc f w.1 w.2 s.len) 0 w.1 = false)
    (p : Pos) (hp : p ∈ den f.loc) :
    ∃ f' ∈ (Seq.concat (Seq.pieces s cuts)).feats, f'.key = f.key ∧ f'.props = f.props ∧ p ∈ den f'.loc := by
  obtain ⟨w, hw, hw1, hw2⟩ := windows_cover s.len cuts h p.1 (hpos p hp).1 (hpos p hp).2
  have hov := overlap_of_mem_den f.loc w.1 w.2 hwf p hp hw1 hw2
  obtain ⟨g1, g2, hnn, g3⟩ := hg w hw
  obtain ⟨f', hf', hk, hpr, hd⟩ := concat_pieces_feature_partial s cuts h f hf w hw hwf hpos hov g1 g2 hnn g3
  exact ⟨f', hf', hk, hpr, hd.2 p (List.mem_filter.mpr ⟨hp, by simpa using ⟨hw1, hw2⟩⟩)⟩

/-- **nothing else**: every feature of `Seq.concat (Seq.pieces s cuts)` is the piece of some feature `f` of `s` in
some window `w` that `f` overlaps — with `f`'s key and qualifiers and the location `pieceLoc` (first window) or
`Expand(0, w.1)` of it — so by `concat_pieces_feature_partial` it denotes residues of `den f ∩ w` only. -/
theorem concat_pieces_feature_origin (s : Seq) (cuts : List Int) (h : Seq.CutsOk s.len cuts)
    (f' : Feature) (hf' : f' ∈ (Seq.concat (Seq.pieces s cuts)).feats) :
    ∃ f ∈ s.feats, ∃ w ∈ Seq.windows s.len cuts, f.loc.overlap w.1 w.2 = true ∧
      f'.key = f.key ∧ f'.props = f.props ∧
      (f'.loc = Seq.pieceLoc f w.1 w.2 s.len ∨ f'.loc = (Seq.pieceLoc f w.1 w.2 s.len).expand 0 w.1) := by
  obtain ⟨w0, ws, hws, _, hperm⟩ := Seq.concat_pieces_feats_perm s cuts h
  rcases List.mem_append.mp (hperm.subset hf') with hm | hm
  · simp only [Seq.pieceFeats, List.mem_map, List.mem_filter] at hm
    obtain ⟨f, ⟨hf, hov⟩, rfl⟩ := hm
    exact ⟨f, hf, w0, by rw [hws]; exact List.mem_cons_self .., hov, rfl, rfl, Or.inl rfl⟩
  · obtain ⟨w, hw, hm⟩ := List.mem_flatMap.mp hm
    simp only [Seq.pieceFeatsBack, Seq.pieceFeats, List.mem_map, List.mem_filter] at hm
    obtain ⟨_, ⟨f, ⟨hf, hov⟩, rfl⟩, rfl⟩ := hm
    exact ⟨f, hf, w, by rw [hws]; exact List.mem_cons_of_mem _ hw, hov, rfl, rfl, Or.inr rfl⟩

/-- non-vacuity: a record of 10 residues with a `source` feature and a complement-strand join, cut at
`0, 4, 4, 10` (a cut at 0, a repeated cut, a cut at the length): the cut list is admissible, the join
overlaps the window `[4, 10)` and meets every guard there, and the program restores the table's denotations
(the empty window `[4, 4)` lies inside `source` and passes Slice's overlap filter: an empty piece) -/
example :
    (0 :: [0, 4, 4, 10] ++ [((⟨[⟨"source", ranged 0 10 false false, []⟩, ⟨"CDS", compl (joined [ranged 1 3 true false, ranged 5 8 false true]), []⟩], [65, 67, 71, 84, 65, 67, 71, 84, 65, 67]⟩ : Seq)).len]).Pairwise (· ≤ ·) ∧ ((4, 10) : Int × Int) ∈ Seq.windows ((⟨[⟨"source", ranged 0 10 false false, []⟩, ⟨"CDS", compl (joined [ranged 1 3 true false, ranged 5 8 false true]), []⟩], [65, 67, 71, 84, 65, 67, 71, 84, 65, 67]⟩ : Seq)).len [0, 4, 4, 10] ∧
    wf ((⟨"CDS", compl (joined [ranged 1 3 true false, ranged 5 8 false true]), []⟩ : Feature)).loc = true ∧ ((⟨"CDS", compl (joined [ranged 1 3 true false, ranged 5 8 false true]), []⟩ : Feature)).loc.overlap 4 10 = true ∧
    expandAbs ((⟨"CDS", compl (joined [ranged 1 3 true false, ranged 5 8 false true]), []⟩ : Feature)).loc 10 (10 - ((⟨[⟨"source", ranged 0 10 false false, []⟩, ⟨"CDS", compl (joined [ranged 1 3 true false, ranged 5 8 false true]), []⟩], [65, 67, 71, 84, 65, 67, 71, 84, 65, 67]⟩ : Seq)).len) = false ∧ expandAbs (((⟨"CDS", compl (joined [ranged 1 3 true false, ranged 5 8 false true]), []⟩ : Feature)).loc.expand 10 (10 - ((⟨[⟨"source", ranged 0 10 false false, []⟩, ⟨"CDS", compl (joined [ranged 1 3 true false, ranged 5 8 false true]), []⟩], [65, 67, 71, 84, 65, 67, 71, 84, 65, 67]⟩ : Seq)).len)) 0 (-4) = false ∧
    nonneg (Seq.pieceLoc (⟨"CDS", compl (joined [ranged 1 3 true false, ranged 5 8 false true]), []⟩ : Feature) 4 10 ((⟨[⟨"source", ranged 0 10 false false, []⟩, ⟨"CDS", compl (joined [ranged 1 3 true false, ranged 5 8 false true]), []⟩], [65, 67, 71, 84, 65, 67, 71, 84, 65, 67]⟩ : Seq)).len) = true ∧ expandAbs (Seq.pieceLoc (⟨"CDS", compl (joined [ranged 1 3 true false, ranged 5 8 false true]), []⟩ : Feature) 4 10 ((⟨[⟨"source", ranged 0 10 false false, []⟩, ⟨"CDS", compl (joined [ranged 1 3 true false, ranged 5 8 false true]), []⟩], [65, 67, 71, 84, 65, 67, 71, 84, 65, 67]⟩ : Seq)).len) 0 4 = false ∧
    ((Seq.concat (Seq.pieces (⟨[⟨"source", ranged 0 10 false false, []⟩, ⟨"CDS", compl (joined [ranged 1 3 true false, ranged 5 8 false true]), []⟩], [65, 67, 71, 84, 65, 67, 71, 84, 65, 67]⟩ : Seq) [0, 4, 4, 10])).feats.map fun g => (g.key, den g.loc)) =
      [("source", fwd [0, 1, 2, 3]), ("source", []), ("source", fwd [4, 5, 6, 7, 8, 9]),
       ("CDS", flipDen (fwd [5, 6, 7])), ("CDS", flipDen (fwd [1, 2]))] := by
  decide +kernel

/-- non-vacuity -/
example : wf (joined [ranged 2 5 true false, ranged 7 9 false true]) = true ∧
    shiftAbs (joined [ranged 2 5 true false, ranged 7 9 false true]) 3 4 = false ∧
    expandAbs (shift (joined [ranged 2 5 true false, ranged 7 9 false true]) 3 4) 3 (-4) = false := by
  decide +kernel

/-! ### the same partial markers as originally

`outerMarks` (`Gts/Spec/Marks.lean`) is the Lean restatement of the Go oracle
`harness/spec.go outerMarks`. -/

/-- FULL STATEMENT (false on the model, and on the code): "insert;delete gives every well-formed
location its original outer markers back".  Witness `join(4,<4..6)` (a literal that `Join` would
reduce): the insertion already rebuilds the join, `Push` replaces the point by the range that
starts at it, and `<4..6` comes back with a 5' marker where the unmarked point was. -/
theorem shift_then_delete_marks_full_refuted :
    ¬ (∀ (l : Loc) (i n : Int), wf l = true → 0 < n →
        outerMarks (expand (shift l i n) i (-n)) = outerMarks l) := by
  intro h
  have := h (joined [point 3, ranged 3 6 true false]) 0 1 (by decide +kernel) (by decide +kernel)
  revert this
  decide +kernel

/-- **insert;delete restores the partial markers**: for every well-formed location of any kind,
arity, nesting and strand, every index `i` and guest length `n > 0`, deleting the `n` residues
just inserted at `i` yields a location with the same 5' and 3' outer markers as originally —
also when a range was split around the guest and re-merged, and when an ambiguous span comes back
as `order(a.b, c.d)`.  Guards: no marker-moving rule of `Push` fires in either step. -/
theorem shift_then_delete_marks_partial (l : Loc) (i n : Int) (hw : wf l = true) (hn : 0 < n)
    (g1 : shiftMarkAbs l i n = false) (g2 : expandMarkAbs (shift l i n) i (-n) = false) :
    outerMarks (expand (shift l i n) i (-n)) = outerMarks l :=
  outerMarks_of_marks (shift_then_delete_marks_aux l i n hw hn g1 g2)

/-- … in particular under the hypotheses of `shift_then_delete_den_partial` (K2 guards of both
steps) plus duplicate-freeness — the conditions under which the Go oracle evaluates the clause -/
theorem shift_then_delete_marks_nodup_partial (l : Loc) (i n : Int) (hw : wf l = true) (hn : 0 < n)
    (h1 : shiftAbs l i n = false) (h2 : expandAbs (shift l i n) i (-n) = false)
    (hnd : (den l).Nodup) :
    outerMarks (expand (shift l i n) i (-n)) = outerMarks l := by
  have a := shift_ins l i n hw (by omega)
  have hnd2 : (den (shift l i n)).Nodup :=
    Refines.nodup (a.1 h1) (nodup_mapPos_insMap i n (by omega) _ hnd)
  exact shift_then_delete_marks_partial l i n hw hn
    (shiftMarkAbs_of_nodup l i n hw (by omega) h1 hnd)
    (expandDelMarkAbs_of_nodup (shift l i n) i n a.2 hn h2 hnd2)

/-- **embed;delete restores the partial markers** -/
theorem embed_then_delete_marks_partial (l : Loc) (i n : Int) (hw : wf l = true) (hn : 0 < n)
    (g1 : expandMarkAbs l i n = false) (g2 : expandMarkAbs (expand l i n) i (-n) = false) :
    outerMarks (expand (expand l i n) i (-n)) = outerMarks l :=
  outerMarks_of_marks (embed_then_delete_marks_aux l i n hw hn g1 g2)

/-- … under the hypotheses of `embed_then_delete_den_partial` plus duplicate-freeness -/
theorem embed_then_delete_marks_nodup_partial (l : Loc) (i n : Int) (hw : wf l = true) (hn : 0 < n)
    (h1 : expandAbs l i n = false) (h2 : expandAbs (expand l i n) i (-n) = false)
    (hnd : (den l).Nodup) :
    outerMarks (expand (expand l i n) i (-n)) = outerMarks l :=
  embed_then_delete_marks_partial l i n hw hn
    (expandInsMarkAbs_of_nodup l i n hw (by omega) h1 hnd)
    (expandDelMarkAbs_of_nodup (expand l i n) i n (expand_ins l i n hw (by omega)).2 hn h2
      (expand_ins_nodup l i n hw (by omega) h1 hnd))

/-- non-vacuity: a complement-strand join with both outer markers whose first part is split by
the insertion -/
example : wf (compl (joined [ranged 2 5 true false, point 7, ranged 9 12 false true])) = true ∧
    shiftMarkAbs (compl (joined [ranged 2 5 true false, point 7, ranged 9 12 false true])) 4 3 = false ∧
    expandMarkAbs (shift (compl (joined [ranged 2 5 true false, point 7, ranged 9 12 false true])) 4 3) 4 (-3) = false ∧
    expandMarkAbs (compl (joined [ranged 2 5 true false, point 7, ranged 9 12 false true])) 4 3 = false ∧
    expandMarkAbs (expand (compl (joined [ranged 2 5 true false, point 7, ranged 9 12 false true])) 4 3) 4 (-3) = false ∧
    outerMarks (compl (joined [ranged 2 5 true false, point 7, ranged 9 12 false true])) = (true, true) ∧
    shiftAbs (compl (joined [ranged 2 5 true false, point 7, ranged 9 12 false true])) 4 3 = false ∧
    expandAbs (shift (compl (joined [ranged 2 5 true false, point 7, ranged 9 12 false true])) 4 3) 4 (-3) = false ∧
    expandAbs (compl (joined [ranged 2 5 true false, point 7, ranged 9 12 false true])) 4 3 = false ∧
    expandAbs (expand (compl (joined [ranged 2 5 true false, point 7, ranged 9 12 false true])) 4 3) 4 (-3) = false ∧
    (den (compl (joined [ranged 2 5 true false, point 7, ranged 9 12 false true]))).Nodup := by
  decide +kernel

/-! ### record level: the two-step programs on whole records -/

/-- **insert;delete, record level**: after deleting the `|guest|` residues just inserted at `i`,
every host feature is present with unchanged key and qualifiers and a location denoting exactly
its original residues (order and strand). -/
theorem insert_delete_feature_partial (host guest : Gts.Seq) (i : Int) (hg : 0 < guest.len)
    (f : Feature) (hf : f ∈ host.feats) (hw : wf f.loc = true)
    (h1 : shiftAbs f.loc i guest.len = false)
    (h2 : expandAbs (shift f.loc i guest.len) i (-guest.len) = false) :
    ∃ f' ∈ ((host.insert i guest).delete i guest.len).feats, f'.key = f.key ∧ f'.props = f.props ∧
      den f'.loc ≼ den f.loc :=
  ⟨_, Seq.mem_delete_feats i guest.len (mem_of_perm_map_append_left (C02.insert_table_perm host guest i) hf),
    rfl, rfl, shift_then_delete_den_partial f.loc i guest.len hw hg h1 h2⟩

/-- **embed;delete, record level** -/
theorem embed_delete_feature_partial (host guest : Gts.Seq) (i : Int) (hg : 0 < guest.len)
    (f : Feature) (hf : f ∈ host.feats) (hw : wf f.loc = true)
    (h1 : expandAbs f.loc i guest.len = false)
    (h2 : expandAbs (expand f.loc i guest.len) i (-guest.len) = false) :
    ∃ f' ∈ ((host.embed i guest).delete i guest.len).feats, f'.key = f.key ∧ f'.props = f.props ∧
      den f'.loc ≼ den f.loc :=
  ⟨_, Seq.mem_delete_feats i guest.len (mem_of_perm_map_append_left (C02.embed_table_perm host guest i) hf),
    rfl, rfl, embed_then_delete_den_partial f.loc i guest.len hw hg h1 h2⟩

/-- a host feature that is a plain range comes back *syntactically* (markers included) from both
programs, at every index — in particular a `source` feature ending at `i = Len(host)` -/
theorem ranged_feature_round_trip (host guest : Gts.Seq) (i : Int) (hg : 0 < guest.len)
    (k : String) (ps : List (List String)) (s e : Int) (p5 p3 : Bool) (hse : s < e)
    (hf : (⟨k, ranged s e p5 p3, ps⟩ : Feature) ∈ host.feats) :
    (⟨k, ranged s e p5 p3, ps⟩ : Feature) ∈ ((host.insert i guest).delete i guest.len).feats ∧
    (⟨k, ranged s e p5 p3, ps⟩ : Feature) ∈ ((host.embed i guest).delete i guest.len).feats := by
  constructor
  · have hm := Seq.mem_delete_feats i guest.len (mem_of_perm_map_append_left (C02.insert_table_perm host guest i) hf)
    simpa only [ranged_shift_then_delete s e p5 p3 i guest.len hse hg] using hm
  · have hm := Seq.mem_delete_feats i guest.len (mem_of_perm_map_append_left (C02.embed_table_perm host guest i) hf)
    simpa only [ranged_embed_then_delete s e p5 p3 i guest.len hse hg] using hm

/-- **insert;delete / embed;delete, record level (markers)**: every host feature comes back
with unchanged key and qualifiers and the same outer partial markers as originally. -/
theorem insert_delete_feature_marks_partial (host guest : Gts.Seq) (i : Int) (hg : 0 < guest.len)
    (f : Feature) (hf : f ∈ host.feats) (hw : wf f.loc = true)
    (g1 : shiftMarkAbs f.loc i guest.len = false)
    (g2 : expandMarkAbs (shift f.loc i guest.len) i (-guest.len) = false) :
    ∃ f' ∈ ((host.insert i guest).delete i guest.len).feats, f'.key = f.key ∧ f'.props = f.props ∧
      outerMarks f'.loc = outerMarks f.loc :=
  ⟨_, Seq.mem_delete_feats i guest.len (mem_of_perm_map_append_left (C02.insert_table_perm host guest i) hf),
    rfl, rfl, shift_then_delete_marks_partial f.loc i guest.len hw hg g1 g2⟩

theorem embed_delete_feature_marks_partial (host guest : Gts.Seq) (i : Int) (hg : 0 < guest.len)
    (f : Feature) (hf : f ∈ host.feats) (hw : wf f.loc = true)
    (g1 : expandMarkAbs f.loc i guest.len = false)
    (g2 : expandMarkAbs (expand f.loc i guest.len) i (-guest.len) = false) :
    ∃ f' ∈ ((host.embed i guest).delete i guest.len).feats, f'.key = f.key ∧ f'.props = f.props ∧
      outerMarks f'.loc = outerMarks f.loc :=
  ⟨_, Seq.mem_delete_feats i guest.len (mem_of_perm_map_append_left (C02.embed_table_perm host guest i) hf),
    rfl, rfl, embed_then_delete_marks_partial f.loc i guest.len hw hg g1 g2⟩

/-! ### inverse laws for the code AS IT IS WRITTEN NOW

`Gts.Gen.seqInsert` / `seqDelete` / `seqConcat` are regenerated from sequence.go on every run (go2lean/gseq.go) and
proved equal to the model by `Gts/Bridge/SeqInsert.lean`, `SeqDelete.lean`, `SeqConcat.lean`. -/

/-- **`gts.Delete(gts.Insert(host, i, guest), i, Len(guest))` as written**: for an index inside the host neither
call panics and the residues of the host come back -/
theorem gen_delete_insert_bytes {ι : Type} (ops : Gen.InfoOps ι) (hi gi : ι) (host guest : Gts.Seq) (i : Int)
    (h0 : 0 ≤ i) (h1 : i ≤ host.len) :
    ∃ mi mf mb, Gen.seqInsert ops hi host.feats host.bytes i gi guest.feats guest.bytes = .ok (mi, mf, mb) ∧
      ∃ ri rf, Gen.seqDelete ops mi mf mb i guest.len = .ok (ri, rf, host.bytes) := by
  refine ⟨_, _, _, Bridge.seqInsert_eq ops hi gi host guest i ⟨h0, h1⟩, ?_⟩
  have hlen : (host.insert i guest).len = host.len + guest.len := by
    simp only [Seq.insert, Seq.spliceBytes, Seq.len, List.length_append, List.length_take, List.length_drop]
    simp only [Seq.len] at h1
    omega
  have hok : Bridge.deleteOk (host.insert i guest).len i guest.len := by
    have hg : 0 ≤ guest.len := by simp only [Seq.len]; omega
    simp only [Bridge.deleteOk, hlen]
    omega
  have := Bridge.seqDelete_eq ops (ops.tryShift hi i guest.len) (host.insert i guest) i guest.len hok
  exact ⟨_, _, by rw [this, delete_insert_bytes host guest i h0 h1]⟩

/-- **`gts.Concat` as written** never panics; its residues are the residues of the pieces in order -/
theorem gen_concat_bytes {ι : Type} (ops : Gen.InfoOps ι) (ss : List (Gen.SeqV ι)) :
    ∃ i ff, Gen.seqConcat ops ss = .ok (i, ff, (ss.map fun v => v.2.2).flatten) := by
  have hb : (Seq.concat (ss.map Bridge.toSeq)).bytes = (ss.map fun v => v.2.2).flatten := by
    rw [Seq.concat_bytes_flatten, List.map_map]; rfl
  exact ⟨_, _, by rw [Bridge.seqConcat_eq, hb]⟩

-- non-vacuity
example : (0 : Int) ≤ 2 ∧ (2 : Int) ≤ (⟨[], [65, 67, 71, 84]⟩ : Gts.Seq).len := by decide +kernel

end Gts.C10
