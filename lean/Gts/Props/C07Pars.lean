/-
  C07 (further target): the never-panic statements about the go-pars primitives restated for the REGENERATED code.

  `Gts/Lemmas/ParsSafe*.lean` prove, for the hand-written model `Gts/Model/Pars.lean`, that from a state whose saved
  positions are SORTED (no saved position lies behind a younger one or behind the current one) no primitive panics
  (`Safe`: the one panic of the model is `Trail` behind a saved position).  `Gts/Bridge/ParsState|ParsPrim|ParsComb.lean`
  prove that stack.go, state.go and the primitive parsers of github.com/go-pars/pars v1.1.6, translated statement by
  statement on every run (`Gts/Gen/Pars.lean`), are those primitives read through the abstraction `absState`, Go panics
  included (`none`: index or slice out of range, the explicit `panic` of `Advance`).  Put together: the Go code itself
  — as it is in the module cache NOW — does not panic from any state that meets the representation invariant and
  whose abstraction is sorted; a fresh state (`pars.FromString`), which every string parser of gts starts from, is one.
  Hypotheses: `FillOk` (the read loop of `Request`), `EnvOk` (`ascii.IsDigit / IsSpace`, `strconv.Atoi`), more loop
  fuel than bytes left.
-/
import Gts.Bridge.ParsComb
import Gts.Bridge.ParsSeq
import Gts.Lemmas.GbSafe
namespace Gts.C07
open Gts.Gen.GoPars Gts.Bridge
open Gts.Pars (PS Bytes Err Safe Sorted Fr)

variable {ρ ε : Type}

theorem gen_agree_nopanic {α : Type} {pend : ρ → Option ε → Bytes} {val : α → ResultV → Prop}
    {r : Option (State ρ ε × ResultV × Option ε)} {m : Except Err α × PS}
    (h : Agree pend val r m) (hm : m.1 ≠ .error .panic) : r ≠ none := by
  obtain ⟨o, s'⟩ := m
  cases o with
  | ok a => obtain ⟨g', res, h1, _⟩ := h; simp [h1]
  | error e =>
    cases e with
    | fail => obtain ⟨g', res, e', h1, _⟩ := h; simp [h1]
    | panic => exact absurd rfl hm

theorem safe_run_nopanic {α : Type} {p : Pars.P α} (hp : Safe p) (s : PS) (hs : Sorted s.rest.length s.stk) :
    (p.run' s).1 ≠ .error .panic :=
  (hp s.rest.length s.stk 0 s (Fr.init hs)).1

/-- **`Push`, `Pop`, `Drop`, `Clear` of the module cache never panic**, from any Go state that meets the representation
invariant — in particular `Pop` and `Drop` on an EMPTY stack (they test `Empty()` before they call `stack.Pop`, which
alone would index `v[-1]`) -/
theorem gen_stack_ops_nopanic (g : State ρ ε) (h : Inv g) :
    statePush g ≠ none ∧ statePop g ≠ none ∧ stateDrop g ≠ none ∧ stateClear g ≠ none := by
  let pend : ρ → Option ε → Bytes := fun _ _ => []
  obtain ⟨_, h1, _⟩ := push_sim pend g h
  obtain ⟨_, h2, _⟩ := pop_sim pend g h
  obtain ⟨_, h3, _⟩ := drop_sim pend g h
  obtain ⟨_, h4, _⟩ := clear_sim pend g h
  simp [h1, h2, h3, h4]

/-- **`pars.Trail` of the module cache never panics from a sorted state** (the slice `buf[off:end]` with `end < off` is
unreachable): for every Go state that meets the representation invariant and whose saved positions, read through the
abstraction, are sorted -/
theorem gen_trail_nopanic (env : Env ρ ε) (pend : ρ → Option ε → Bytes) (hf : FillOk env pend) (g : State ρ ε) (h : Inv g)
    (hs : Sorted (absState pend g).rest.length (absState pend g).stk) : parsTrail env g ≠ none := by
  have ht := trail_sim env pend hf g h
  rw [Pars.run_trail] at ht
  cases hst : (absState pend g).stk with
  | nil =>
    rw [hst] at ht
    obtain ⟨g', e, h1, _⟩ := ht
    simp [h1]
  | cons saved st =>
    rw [hst] at ht hs
    have : ¬ (saved.length < (absState pend g).rest.length) := by have := hs.1; omega
    simp only [this, if_false] at ht
    obtain ⟨g', e, h1, _⟩ := ht
    simp [h1]

/-- **`pars.Int` of the module cache never panics from a sorted state** -/
theorem gen_int_nopanic (env : Env ρ ε) (pend : ρ → Option ε → Bytes) (hf : FillOk env pend) (he : EnvOk env)
    (g : State ρ ε) (h : Inv g) (hs : Sorted (absState pend g).rest.length (absState pend g).stk)
    (fuel : Nat) (hfu : (absState pend g).rest.length < fuel) (res : ResultV) : parsInt env fuel g res ≠ none :=
  gen_agree_nopanic (int_sim env pend hf he g h fuel hfu res) (safe_run_nopanic Pars.int_safe _ hs)

/-- **`pars.Spaces`, `pars.Word(f)`, `pars.Line`, `pars.EOL`, `pars.Until(filter)`, `pars.Until(byte)` of the module cache never
panic from a sorted state** -/
theorem gen_tokens_nopanic (env : Env ρ ε) (pend : ρ → Option ε → Bytes) (hf : FillOk env pend) (he : EnvOk env)
    (g : State ρ ε) (h : Inv g) (hs : Sorted (absState pend g).rest.length (absState pend g).stk)
    (fuel : Nat) (hfu : (absState pend g).rest.length < fuel) (res : ResultV) (f : UInt8 → Bool) (e : UInt8) :
    parsSpaces env fuel g res ≠ none ∧ parsWord env fuel f g res ≠ none ∧ parsLine env fuel g res ≠ none ∧
    parsEOL env g res ≠ none ∧ parsUntilFilter env fuel f g res ≠ none ∧ parsUntilByte env fuel e g res ≠ none :=
  ⟨gen_agree_nopanic (spaces_sim env pend hf he g h fuel hfu res) (safe_run_nopanic Pars.spaces_safe _ hs),
   gen_agree_nopanic (word_sim env pend hf f g h fuel hfu res) (safe_run_nopanic (Pars.word_safe f) _ hs),
   gen_agree_nopanic (line_sim env pend hf g h fuel hfu res) (safe_run_nopanic Pars.line_safe _ hs),
   gen_agree_nopanic (eol_sim env pend hf g h res) (safe_run_nopanic Pars.eol_safe _ hs),
   gen_agree_nopanic (untilFilter_sim env pend hf f g h fuel hfu res) (safe_run_nopanic (GenBank.untilFilter_safe f) _ hs),
   gen_agree_nopanic (untilByte_sim env pend hf e g h fuel hfu res) (safe_run_nopanic (GenBank.untilFilter_safe _) _ hs)⟩

/-- **`pars.Byte(c)`, `pars.Bytes(p)`, `pars.String(s)` of the module cache never panic from a sorted state**
(they push nothing and never call `Trail`) -/
theorem gen_literals_nopanic (env : Env ρ ε) (pend : ρ → Option ε → Bytes) (hf : FillOk env pend)
    (g : State ρ ε) (h : Inv g) (hs : Sorted (absState pend g).rest.length (absState pend g).stk)
    (res : ResultV) (c : UInt8) (p : Bytes) :
    parsByte env c g res ≠ none ∧ parsBytes env p g res ≠ none ∧ parsString env p g res ≠ none :=
  ⟨gen_agree_nopanic (byte_sim env pend hf c g h res) (safe_run_nopanic (Pars.byte_safe c) _ hs),
   gen_agree_nopanic (bytes_sim env pend hf p g h res) (safe_run_nopanic (Pars.lit_safe p) _ hs),
   gen_agree_nopanic (string_sim env pend hf p g h res) (safe_run_nopanic (Pars.lit_safe p) _ hs)⟩

/-- **`pars.Any(q…)` of the module cache never panics from a sorted state** when its alternatives simulate model parsers that
are `Safe` (never panic from sorted states, never pop a caller's frame, never move before their entry point).
SCOPE (audit S5): the hypothesis `SimP` asks for agreement from EVERY state and is false for every alternative that contains a
fuelled primitive (`pars.Int`, `Spaces`, `Word`, `Line`, `Until`: `Gts.Bridge.int_not_simP`); as stated this theorem covers
loop-free alternatives only.  The form that covers `ParseLocation`-like calls is `gen_any_nopanic_upTo`. -/
theorem gen_any_nopanic {α : Type} (env : Env ρ ε) (pend : ρ → Option ε → Bytes) (val : α → ResultV → Prop)
    (ps : List (GoParser ρ ε)) (ms : List (Pars.P α)) (h2 : Pars.All2 (fun p m => SimP pend val p m) ps ms)
    (hsafe : ∀ m ∈ ms, Safe m) (g : State ρ ε) (h : Inv g)
    (hs : Sorted (absState pend g).rest.length (absState pend g).stk) (res : ResultV) : parsAny env ps g res ≠ none :=
  gen_agree_nopanic (any_sim env pend val ps ms h2 g res h) (safe_run_nopanic (Pars.anyOf_safe ms hsafe) _ hs)

/-- **`Parser.Map(f)` of the module cache never panics from a sorted state** when its parser simulates a `Safe` model parser
and the mapping cannot fail.  SCOPE (audit S5): `SimP` is false for parsers that contain a fuelled primitive; see
`gen_map_nopanic_upTo` for those. -/
theorem gen_map_nopanic {α β : Type} (pend : ρ → Option ε → Bytes) (val : α → ResultV → Prop) (val' : β → ResultV → Prop)
    (p : GoParser ρ ε) (m : Pars.P α) (hp : SimP pend val p m) (hsafe : Safe m)
    (f : ResultV → ResultV × Option ε) (fn : α → β) (hfn : ∀ a r, val a r → (f r).2 = none ∧ val' (fn a) (f r).1)
    (g : State ρ ε) (h : Inv g) (hs : Sorted (absState pend g).rest.length (absState pend g).stk) (res : ResultV) :
    parsMap p f g res ≠ none :=
  gen_agree_nopanic (map_sim pend val val' p m hp f fn hfn g res h) (safe_run_nopanic (Pars.mapP_safe m fn hsafe) _ hs)

/-- **`pars.Any(q…)` of the module cache never panics, BOUNDED form** (audit S5; what changed against `gen_any_nopanic`: the
alternatives simulate their model parsers UP TO `L` — `SimPUpTo L`, which parsers built on `pars.Int`, `Spaces`, `Word`, `Line`,
`Until` have for `L` below their loop fuel — and the state has at most `L` bytes left at the position and at every saved
position, saved positions sorted: `Fr L [] 0`, what `Sorted` was before plus the bound). -/
theorem gen_any_nopanic_upTo {α : Type} (L : Nat) (env : Env ρ ε) (pend : ρ → Option ε → Bytes) (val : α → ResultV → Prop)
    (ps : List (GoParser ρ ε)) (ms : List (Pars.P α))
    (h2 : Pars.All2 (fun p m => SimPUpTo L pend val p m ∧ Safe m) ps ms) (g : State ρ ε) (h : Inv g)
    (hb : Fr L [] 0 (absState pend g)) (res : ResultV) : parsAny env ps g res ≠ none := by
  have hsafe : ∀ m ∈ ms, Safe m := by
    clear hb h
    induction h2 with
    | nil => intro m hm; cases hm
    | cons hpm _ ih =>
      intro m hm
      cases hm with
      | head => exact hpm.2
      | tail _ hm => exact ih m hm
  exact gen_agree_nopanic (any_simUpTo L env pend val ps ms h2 g res h hb)
    (safe_run_nopanic (Pars.anyOf_safe ms hsafe) _ hb.srt)

/-- **`Parser.Map(f)` of the module cache never panics, BOUNDED form** (what changed against `gen_map_nopanic`: `SimPUpTo L` and
`Fr L [] 0` for `SimP` and `Sorted`) -/
theorem gen_map_nopanic_upTo {α β : Type} (L : Nat) (pend : ρ → Option ε → Bytes) (val : α → ResultV → Prop)
    (val' : β → ResultV → Prop) (p : GoParser ρ ε) (m : Pars.P α) (hp : SimPUpTo L pend val p m) (hsafe : Safe m)
    (f : ResultV → ResultV × Option ε) (fn : α → β) (hfn : ∀ a r, val a r → (f r).2 = none ∧ val' (fn a) (f r).1)
    (g : State ρ ε) (h : Inv g) (hb : Fr L [] 0 (absState pend g)) (res : ResultV) :
    parsMap p f g res ≠ none :=
  gen_agree_nopanic (map_simUpTo L pend val val' p m hp f fn hfn g res h hb)
    (safe_run_nopanic (Pars.mapP_safe m fn hsafe) _ hb.srt)

/-- **`pars.Any(pars.Parser(pars.Int).Map(f), pars.Byte('^').Map(id))` of the module cache never panics** — the shape of
`ParseLocation` (location.go: `pars.Any(…, parsePoint, …)`, `parsePoint = pars.Parser(pars.Int).Map(…)`) with an `Int`-based
alternative: for every reader meeting `FillOk` / `EnvOk`, every loop fuel, every state meeting `Inv` whose abstraction is sorted
with fewer bytes than the fuel at the position and at every saved position, and every mapping that cannot fail on an integer. -/
theorem gen_any_int_nopanic (env : Env ρ ε) (pend : ρ → Option ε → Bytes) (hf : FillOk env pend) (he : EnvOk env)
    (fuel L : Nat) (hfu : L < fuel) (f : ResultV → ResultV × Option ε) (hmap : ∀ n, (f (ResultV.int n)).2 = none)
    (g : State ρ ε) (h : Inv g) (hb : Fr L [] 0 (absState pend g)) (res : ResultV) :
    parsAny env [parsMap (parsInt env fuel) f, parsMap (parsByte env 94) (fun r => (r, none))] g res ≠ none :=
  gen_agree_nopanic
    (any_int_point_simUpTo L env pend hf he fuel hfu (fun _ _ => True) f (fun n => ⟨hmap n, trivial⟩)
      (.point 0) (fun _ _ => trivial) g res h hb)
    (safe_run_nopanic (Pars.anyOf_safe _ (List.forall_mem_cons.mpr ⟨Pars.mapP_safe _ _ Pars.int_safe,
      List.forall_mem_cons.mpr ⟨Pars.mapP_safe _ _ (Pars.byte_safe 94), fun _ h => absurd h List.not_mem_nil⟩⟩)) _ hb.srt)

/-- non-vacuity of `gen_any_int_nopanic` (and through it of `gen_any_nopanic_upTo`, `any_simUpTo`, `map_simUpTo`, `int_simUpTo`): the
demo reader, loop fuel 10, bound 9, the fresh state over `12^` -/
example : parsAny demoEnv [parsMap (parsInt demoEnv 10) (fun r => (r, none)), parsMap (parsByte demoEnv 94) (fun r => (r, none))]
    (freshState [] [49, 50, 94]) .unset ≠ none :=
  gen_any_int_nopanic demoEnv demoPend demo_fillOk demo_envOk 10 9 (by decide) _ (fun _ => rfl) _ (fresh_inv _ _)
    (by rw [fresh_abs]; exact ⟨⟨[], rfl, Nat.le_refl _, fun _ hf => nomatch hf⟩, by decide, trivial⟩) _

/-- **`pars.Seq(p, q)` of the module cache never panics, BOUNDED form**: the loop over the parsers reads and writes the cells
`v[0]`, `v[1]` of the slice `make([]Result, len(ps))` built (never out of range), and neither member panics — when the members
simulate, up to `L`, model parsers that are `Safe`, from every state that meets `Inv` and whose abstraction has at most `L` bytes
left at the position and at every saved position, saved positions sorted (`Fr L [] 0`). -/
theorem gen_seq_nopanic_upTo {α β : Type} (L : Nat) (env : Env ρ ε) (pend : ρ → Option ε → Bytes)
    (va : α → ResultV → Prop) (vb : β → ResultV → Prop) (p q : GoParser ρ ε) (m : Pars.P α) (n : Pars.P β)
    (hp : SimPUpTo L pend va p m) (hm : Safe m) (hq : SimPUpTo L pend vb q n) (hn : Safe n)
    (g : State ρ ε) (h : Inv g) (hb : Fr L [] 0 (absState pend g)) (res : ResultV) :
    parsSeq env [p, q] g res ≠ none :=
  gen_agree_nopanic (seq_simUpTo L env pend va vb p q m n hp hm hq g res h hb)
    (safe_run_nopanic (Pars.seq2_safe m n hm hn) _ hb.srt)

/-- **`pars.Seq(p, q, r)` of the module cache never panics, BOUNDED form** (three members, as `gen_seq_nopanic_upTo`) -/
theorem gen_seq3_nopanic_upTo {α β γ : Type} (L : Nat) (env : Env ρ ε) (pend : ρ → Option ε → Bytes)
    (va : α → ResultV → Prop) (vb : β → ResultV → Prop) (vc : γ → ResultV → Prop) (p q r : GoParser ρ ε)
    (m : Pars.P α) (n : Pars.P β) (o : Pars.P γ)
    (hp : SimPUpTo L pend va p m) (hm : Safe m) (hq : SimPUpTo L pend vb q n) (hn : Safe n)
    (hr : SimPUpTo L pend vc r o) (ho : Safe o)
    (g : State ρ ε) (h : Inv g) (hb : Fr L [] 0 (absState pend g)) (res : ResultV) :
    parsSeq env [p, q, r] g res ≠ none :=
  gen_agree_nopanic (seq3_simUpTo L env pend va vb vc p q r m n o hp hm hq hn hr g res h hb)
    (safe_run_nopanic (Pars.seq3_safe m n o hm hn ho) _ hb.srt)

/-- **`pars.Seq(c, pars.Int).Child(1)` of the module cache never panics** — the first alternative of `parseHead` / `parseTail`
(modifier.go): `Child(1)` indexes the two children `Seq` answered, never outside; for every reader meeting `FillOk` / `EnvOk`, every
loop fuel above the bound, every state meeting `Inv` and `Fr L [] 0`. -/
theorem gen_seq_int_child_nopanic (env : Env ρ ε) (pend : ρ → Option ε → Bytes) (hf : FillOk env pend) (he : EnvOk env)
    (fuel L : Nat) (hfu : L < fuel) (c : UInt8) (g : State ρ ε) (h : Inv g) (hb : Fr L [] 0 (absState pend g))
    (res : ResultV) : parsParserChild env (parsSeq env [parsByte env c, parsInt env fuel]) 1 g res ≠ none :=
  gen_agree_nopanic
    (child_simUpTo L env pend _ (fun n r => r = ResultV.int n) _ _
      (seq_simUpTo L env pend _ _ _ _ _ _ (byte_simUpTo L env pend hf c) (Pars.byte_safe c)
        (int_simUpTo L env pend hf he fuel hfu)) 1 (·.2)
      (fun ab r ⟨ra, rb, hr, _, hb⟩ => ⟨[ra, rb], hr, by simp, by simpa using hb⟩) g res h hb)
    (safe_run_nopanic (Pars.mapP_safe _ _ (Pars.seq2_safe _ _ (Pars.byte_safe c) Pars.int_safe)) _ hb.srt)

/-- **`pars.Exact(p)` of the module cache never panics, BOUNDED form**, from a state at the head of the input (what
`pars.FromString` builds): `Child(1)` finds the three children of `Seq(Head, p, End)`. -/
theorem gen_exact_nopanic_upTo {α : Type} (L : Nat) (env : Env ρ ε) (pend : ρ → Option ε → Bytes) (hf : FillOk env pend)
    (val : α → ResultV → Prop) (p : GoParser ρ ε) (m : Pars.P α) (hp : SimPUpTo L pend val p m) (hm : Safe m)
    (g : State ρ ε) (h : Inv g) (hb : Fr L [] 0 (absState pend g)) (hhead : positionHead (statePosition g) = true)
    (res : ResultV) : parsExact env p g res ≠ none :=
  gen_agree_nopanic (exact_simUpTo L env pend hf val p m hp hm g res h hb hhead)
    (safe_run_nopanic (Pars.exact_safe m hm) _ hb.srt)

/-- non-vacuity of `gen_seq_int_child_nopanic` (and through it of `seq_simUpTo`, `child_simUpTo`), of `gen_seq_nopanic_upTo` and of
`gen_exact_nopanic_upTo`: the demo reader, loop fuel 10, bound 9, the fresh state over `^+12` -/
example : parsParserChild demoEnv (parsSeq demoEnv [parsByte demoEnv 94, parsInt demoEnv 10]) 1
    (freshState [] [94, 43, 49, 50]) .unset ≠ none :=
  gen_seq_int_child_nopanic demoEnv demoPend demo_fillOk demo_envOk 10 9 (by decide) 94 _ (fresh_inv _ _)
    (by rw [fresh_abs]; exact ⟨⟨[], rfl, Nat.le_refl _, fun _ hf => nomatch hf⟩, by decide, trivial⟩) _

example : parsSeq demoEnv [parsByte demoEnv 94, parsInt demoEnv 10] (freshState [] [94, 43, 49, 50]) .unset ≠ none :=
  gen_seq_nopanic_upTo 9 demoEnv demoPend _ _ _ _ _ _ (byte_simUpTo 9 demoEnv demoPend demo_fillOk 94) (Pars.byte_safe 94)
    (int_simUpTo 9 demoEnv demoPend demo_fillOk demo_envOk 10 (by decide)) Pars.int_safe _ (fresh_inv _ _)
    (by rw [fresh_abs]; exact ⟨⟨[], rfl, Nat.le_refl _, fun _ hf => nomatch hf⟩, by decide, trivial⟩) _

example : parsExact demoEnv (parsInt demoEnv 10) (freshState [] [43, 49, 50]) .unset ≠ none :=
  gen_exact_nopanic_upTo 9 demoEnv demoPend demo_fillOk _ _ _
    (int_simUpTo 9 demoEnv demoPend demo_fillOk demo_envOk 10 (by decide)) Pars.int_safe _ (fresh_inv _ _)
    (by rw [fresh_abs]; exact ⟨⟨[], rfl, Nat.le_refl _, fun _ hf => nomatch hf⟩, by decide, trivial⟩) (by decide) _

/-- the state `pars.FromString(s)` / `pars.FromBytes(p)` builds meets the invariant and is sorted (nothing is saved yet): every
theorem above applies to the state the string parsers of gts start from -/
theorem gen_fresh_ok (pend : ρ → Option ε → Bytes) (rd : ρ) (p : Bytes) :
    Inv (freshState (ε := ε) rd p) ∧
    Sorted (absState pend (freshState rd p)).rest.length (absState pend (freshState rd p)).stk := by
  refine ⟨fresh_inv rd p, ?_⟩
  rw [fresh_abs]; trivial

/-- `gen_int_nopanic` at the fresh state over `-12x` held by the demo reader (empty buffer, everything pending) -/
example : parsInt demoEnv 10 (freshState [45, 49, 50, 120] []) .unset ≠ none :=
  gen_int_nopanic demoEnv demoPend demo_fillOk demo_envOk _ (fresh_inv _ _) (gen_fresh_ok demoPend _ _).2 10
    (by rw [fresh_abs]; decide) _

/-- … and what it answers there: −12, the `x` is next, nothing stays pushed -/
example : (parsInt demoEnv 10 (freshState [45, 49, 50, 120] []) .unset).map
    (fun t => (t.2.1, t.2.2, (absState demoPend t.1).rest, (absState demoPend t.1).stk)) =
    some (.int (-12), none, [120], []) := by decide

/-- `gen_tokens_nopanic` at the fresh state over a buffered line -/
example : parsLine demoEnv 10 (freshState (ρ := Bytes) (ε := Unit) [] [97, 98, 10, 99]) .unset ≠ none :=
  (gen_tokens_nopanic demoEnv demoPend demo_fillOk demo_envOk _ (fresh_inv _ _) (gen_fresh_ok demoPend _ _).2 10
    (by rw [fresh_abs]; decide) _ (fun _ => true) 0).2.2.1

/-- the hypothesis "sorted" is needed: `Trail` DOES panic when the youngest saved position lies behind the current one -/
example : parsTrail demoEnv (⟨[], [1, 2, 3], 1, -1, none, ⟨0, 0⟩, ⟨[⟨0, ⟨0, 0⟩⟩, ⟨2, ⟨0, 2⟩⟩], 2⟩⟩ : State Bytes Unit) = none := by
  decide

/-- `gen_stack_ops_nopanic` on the fresh state: `Pop` and `Drop` with nothing pushed do nothing -/
example : (statePop (freshState (ρ := Bytes) (ε := Unit) [] [1, 2])).map (fun g => (g.off, g.stk.i)) = some (0, 0) ∧
    (stateDrop (freshState (ρ := Bytes) (ε := Unit) [] [1, 2])).map (fun g => (g.off, g.stk.i)) = some (0, 0) := by decide
end Gts.C07
