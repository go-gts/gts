/-
  C18 — Alphabet operations follow IUPAC semantics; search is sound and complete.
  Property theorems only (helper lemmas live in Gts/Lemmas/Nuc.lean).

  Model: Gts/Model/Nuc.lean over the tables regenerated from nucleotide.go (Gts/Gen/Nucleotide.lean).
  Meaning: Gts/Spec/Iupac.lean (base sets as 4-bit masks).
  The two tables are compared with the specification once (`Gts.Nuc.complementByte_eq`,
  `transcribeByte_eq`: evaluated on the entries of the regenerated tables, a byte outside the
  alphabets being fixed); the statements about all 256 byte values follow from that and from the
  specification on its 32 letters; those about pairs of letters are evaluated on all 32 × 32 pairs.  The statements about Search and Match hold
  for all sequences and queries (induction).
-/
import Gts.Lemmas.Nuc
namespace Gts.C18
open Gts Gts.Reg Gts.Nuc Gts.Iupac

/-- `Complement` never panics in `replaceBytes` (the two alphabets have matching positions) and
acts byte by byte. -/
theorem complement_bytewise (p : List UInt8) : complementBytes p = some (p.map complementByte) :=
  complementBytes_eq_map p

/-- the same for `Transcribe` -/
theorem transcribe_bytewise (p : List UInt8) : transcribeBytes p = some (p.map transcribeByte) :=
  transcribeBytes_eq_map p

theorem spec_letters : ∀ c : UInt8, isLetter c = true ↔ c ∈ letters := mem_letters

/-- Complementing maps every IUPAC letter, of either case, to the letter of the same case that
denotes the complementary base set (T, not U, for the complement of A). -/
theorem complement_letter : ∀ c : UInt8, isLetter c = true →
    complementByte c = letterOf (complementSet (baseSet c)) (isUpper c) false :=
  fun c h => by rw [complementByte_eq, iupacComplement, if_pos h]

/-- … said with sets only: the image is a letter, its base set is the complementary set, its case
is the case of the argument.  (W, S, N are absent from the code's alphabets; they denote
self-complementary sets, so leaving them alone is correct — this theorem covers them.) -/
theorem complement_baseSet : ∀ c : UInt8, isLetter c = true →
    isLetter (complementByte c) = true ∧
    baseSet (complementByte c) = complementSet (baseSet c) ∧
    isUpper (complementByte c) = isUpper c := by
  intro c hl
  have := iupacComplement_letters c ((mem_letters c).1 hl)
  rw [complementByte_eq]
  exact ⟨this.1, this.2.1, this.2.2.1⟩

/-- Complementing leaves every byte that is not an IUPAC letter unchanged. -/
theorem complement_other : ∀ c : UInt8, isLetter c = false → complementByte c = c :=
  fun _ h => complementByte_of_not_letter h

theorem complement_length (p q : List UInt8) (h : complementBytes p = some q) : q.length = p.length :=
  replaceBytes_length p _ _ q h

theorem transcribe_length (p q : List UInt8) (h : transcribeBytes p = some q) : q.length = p.length :=
  replaceBytes_length p _ _ q h

/-- Complementing twice gives the byte back, except that U comes back as T (U → A → T). -/
theorem complement_involution_upto_U : ∀ c : UInt8,
    complementByte (complementByte c) = if c = 85 then 84 else if c = 117 then 116 else c :=
  complementByte_complementByte

/-- … for whole sequences: complementing twice is the identity up to writing T for U; in
particular it is the identity on sequences without U, and always on the denoted base sets. -/
theorem complement_involution (p : List UInt8) :
    (complementBytes p).bind complementBytes =
      some (p.map fun c => if c = 85 then 84 else if c = 117 then 116 else c) := by
  rw [complement_bytewise, Option.bind_some, complement_bytewise, List.map_map]
  congr 1
  apply List.map_congr_left
  intro c _
  exact complement_involution_upto_U c

/-- complementing twice never changes the denoted base set of any byte -/
theorem complement_involution_baseSet : ∀ c : UInt8,
    baseSet (complementByte (complementByte c)) = baseSet c := by
  intro c
  rw [complementByte_complementByte]
  split
  · subst c; rfl
  · split
    · subst c; rfl
    · rfl

/-- Transcribing differs from complementing only in writing U (u) for the complement of A (a). -/
theorem transcribe_differs_only_at_A : ∀ c : UInt8,
    transcribeByte c = if c = 65 then 85 else if c = 97 then 117 else complementByte c := by
  intro c
  by_cases h65 : c = 65
  · subst h65; decide
  by_cases h97 : c = 97
  · subst h97; decide
  rw [if_neg h65, if_neg h97, transcribeByte_eq, complementByte_eq, decide_eq_false (not_or.2 ⟨h65, h97⟩)]

/-- … hence transcription too maps letters to the letter of the complementary set (U for {T}),
and fixes every other byte. -/
theorem transcribe_letter : ∀ c : UInt8,
    transcribeByte c =
      if isLetter c then letterOf (complementSet (baseSet c)) (isUpper c) (c = 65 ∨ c = 97) else c :=
  transcribeByte_eq

/-! ### the specification is not vacuous -/

/-- `letterOf` really names the set it is given (all 15 non-empty sets, both cases, DNA and RNA),
and the letters are exactly the 32 listed bytes (`spec_letters`). -/
theorem spec_letterOf : ∀ m, m < 16 → m ≠ 0 → ∀ up rna : Bool,
    baseSet (letterOf m up rna) = m ∧ isUpper (letterOf m up rna) = up := by decide +kernel

/-- the complementary set: an involution on masks that swaps A↔T and C↔G -/
theorem spec_complementSet : (∀ m, m < 16 → complementSet (complementSet m) = m) ∧
    complementSet bA = bT ∧ complementSet bC = bG ∧ complementSet bG = bC ∧ complementSet bT = bA ∧
    (∀ a, a < 16 → ∀ b, b < 16 → complementSet (a ||| b) = complementSet a ||| complementSet b) := by
  decide +kernel

example : complementBytes [65, 99, 78, 45, 85, 107] = some [84, 103, 78, 45, 65, 109] := by decide  -- "AcN-Uk" ↦ "TgN-Am"
example : transcribeBytes [65, 99, 78, 45, 85, 107] = some [85, 103, 78, 45, 65, 109] := by decide  -- ↦ "UgN-Am"

/-- FULL STATEMENT (false today, known finding K4): for all query letters `q` and sequence
letters `s` of either case, the pattern position built for `q` accepts `s` exactly when the base
set of `s` is contained in the base set of `q`:
      `∀ q ∈ letters, ∀ s ∈ letters, posMatch q s = subset (baseSet s) (baseSet q)`.
Refuted by the row of K, which is `[gtuy]` in nucleotide.go (pinned by TestMatch): the query `k`
does not accept the sequence letter `k`, and accepts `y` = {C,T} ⊄ {G,T}. -/
theorem match_table_full_refuted :
    ¬ (∀ q ∈ letters, ∀ s ∈ letters, posMatch q s = subset (baseSet s) (baseSet q)) := by
  intro h
  have := h 107 (by decide) 107 (by decide)
  revert this
  decide

/-- the two wrong entries of row K, concretely (both are replayed on the real code as K4) -/
theorem match_row_k_witnesses :
    posMatch 107 107 = false ∧ subset (baseSet 107) (baseSet 107) = true ∧
    posMatch 107 121 = true ∧ subset (baseSet 121) (baseSet 107) = false := by decide

/-- Match table, every row but K (guard `lowerByte q ≠ 'k'` excludes exactly the case clause
`case 'k'` of the switch): the pattern position built for the query letter accepts a sequence
letter iff the sequence letter's base set is contained in the query letter's — all 30 × 32
remaining pairs of letters of either case. -/
theorem match_table_partial :
    ∀ q ∈ letters, ∀ s ∈ letters, lowerByte q ≠ 107 →
      posMatch q s = subset (baseSet s) (baseSet q) := by decide +kernel

/-- inside the excluded row exactly the entries for the sequence letters K and Y are wrong -/
theorem match_table_row_k :
    ∀ q ∈ letters, ∀ s ∈ letters, lowerByte q = 107 →
      (posMatch q s = subset (baseSet s) (baseSet q) ↔ (lowerByte s ≠ 107 ∧ lowerByte s ≠ 121)) := by
  decide +kernel

theorem isLetter_lowerByte : ∀ c : UInt8, isLetter (lowerByte c) = isLetter c :=
  forall_uint8 (by decide +kernel)

/-- A query byte outside the alphabet contributes a literal: the (lower-cased) byte itself,
never pattern syntax … -/
theorem match_literal : ∀ q : UInt8, isLetter q = false → patOf (lowerByte q) = .lit (lowerByte q) := by
  intro q hq
  unfold patOf
  cases h : lookupCase Gen.matchCases (lowerByte q) with
  | none => rfl
  | some t =>
    -- every key of the switch is a letter, so no clause is chosen
    obtain ⟨ks, hm, hk⟩ := lookupCase_eq_some h
    have := (by decide +kernel : ∀ kt ∈ Gen.matchCases, ∀ k ∈ kt.1, isLetter k = true) _ hm _ hk
    rw [isLetter_lowerByte, hq] at this
    cases this

/-- … so it matches only itself (up to case, as both sides are lower-cased first). -/
theorem match_literal_only_itself (q s : UInt8) (h : isLetter q = false) :
    posMatch q s = true ↔ lowerByte s = lowerByte q := by
  simp [posMatch, match_literal q h, Pat.accepts]

/-- No query makes the model leave the modelled pattern language (no position is raw pattern
syntax; in the code: `regexp.MustCompile` cannot panic and no byte acts as an operator). -/
theorem match_never_raw (query : List UInt8) : matchModelled query = true := by
  simp only [matchModelled, pattern, List.all_map, List.all_eq_true]
  intro c _
  show (patOf c != Pat.bad) = true
  unfold patOf
  -- a position is the text of one of the clauses, each a class or `.`, or the quoted default
  cases h : lookupCase Gen.matchCases c with
  | none => rfl
  | some t =>
    obtain ⟨ks, hm, _⟩ := lookupCase_eq_some h
    exact (by decide +kernel : ∀ kt ∈ Gen.matchCases, (parseClass kt.2 != Pat.bad) = true) _ hm

/-- `query` occurs in `seq` at offset `i`, ignoring ASCII case -/
def Occurs (seq query : List UInt8) (i : Nat) : Prop :=
  i + query.length ≤ seq.length ∧ toLower (window seq i query.length) = toLower query

instance (seq query : List UInt8) (i : Nat) : Decidable (Occurs seq query i) := by
  unfold Occurs; infer_instance

/-- "ignoring case" means what it should: two bytes have the same lower-case form iff they are
equal or the two cases of one ASCII letter. -/
theorem lower_eq_iff_foldEq (a b : UInt8) : lowerByte a = lowerByte b ↔ foldEq a b = true := by
  rw [← UInt8.toNat_inj, toNat_lowerByte, toNat_lowerByte]
  simp only [foldEq, isUpper, Bool.or_eq_true, Bool.and_eq_true, beq_iff_eq, decide_eq_true_eq,
    ← UInt8.toNat_inj]
  split <;> split <;> omega

/-- `Search` returns nothing for an empty sequence or an empty query (the early `return nil`). -/
theorem search_empty (seq query : List UInt8) (h : seq = [] ∨ query = []) : search seq query = [] := by
  rcases h with rfl | rfl <;> simp [search]

/-- Soundness of `Search`: every reported segment is `[i, i+|query|)` for an offset `i` at which
the query occurs case-insensitively. -/
theorem search_sound (seq query : List UInt8) :
    ∀ seg ∈ search seq query, ∃ i, seg = toSeg query.length i ∧ Occurs seq query i := by
  intro seg hseg
  by_cases hs : seq = []
  · rw [search_empty _ _ (Or.inl hs)] at hseg; cases hseg
  by_cases hq : query = []
  · rw [search_empty _ _ (Or.inr hq)] at hseg; cases hseg
  rw [search_eq seq query hs hq] at hseg
  obtain ⟨i, hi, rfl⟩ := List.mem_map.1 hseg
  obtain ⟨j, rfl, hj, hpre⟩ := (mem_occ _ _ _ _).1 hi
  refine ⟨0 + j, rfl, ?_⟩
  obtain ⟨hlen, hwin⟩ := (isPrefixOf_drop_iff _ _ _).1 hpre
  have hq' : toLower query ≠ [] := by simpa [toLower] using hq
  rw [toLower_length] at hlen hwin
  rw [toLower_length] at hlen
  refine ⟨?_, ?_⟩
  · rcases hlen with h | h
    · omega
    · exact absurd h hq'
  · rw [toLower_window]; simpa using hwin

/-- Completeness of `Search`: every case-insensitive occurrence of a non-empty query —
overlapping ones included — is reported. -/
theorem search_complete (seq query : List UInt8) (hq : query ≠ []) (i : Nat)
    (h : Occurs seq query i) : toSeg query.length i ∈ search seq query := by
  obtain ⟨hlen, hwin⟩ := h
  have hqpos : 0 < query.length := List.length_pos_iff.2 hq
  have hs : seq ≠ [] := by intro h; subst h; rw [List.length_nil] at hlen; omega
  rw [search_eq seq query hs hq]
  refine List.mem_map.2 ⟨i, ?_, rfl⟩
  refine (mem_occ _ _ _ _).2 ⟨i, by omega, by rw [toLower_length]; omega, ?_⟩
  refine (isPrefixOf_drop_iff _ _ _).2 ⟨Or.inl (by simp only [toLower_length]; omega), ?_⟩
  rw [toLower_length, ← toLower_window]; exact hwin

/-- `Search` reports in strictly ascending order of the start offset (hence no duplicates). -/
theorem search_ascending (seq query : List UInt8) :
    (search seq query).Pairwise (fun x y => x.1 < y.1) := by
  by_cases hs : seq = []
  · rw [search_empty _ _ (Or.inl hs)]; exact List.Pairwise.nil
  by_cases hq : query = []
  · rw [search_empty _ _ (Or.inr hq)]; exact List.Pairwise.nil
  rw [search_eq seq query hs hq, List.pairwise_map]
  exact (occ_pairwise _ _ _).imp (fun {a b} hab => by simp only [toSeg]; omega)

/-- the window of `seq` at offset `i` is matched by `query`, position by position -/
def MatchesAt (seq query : List UInt8) (i : Nat) : Prop :=
  i + query.length ≤ seq.length ∧ pointwise posMatch query (window seq i query.length) = true

instance (seq query : List UInt8) (i : Nat) : Decidable (MatchesAt seq query i) := by
  unfold MatchesAt; infer_instance

private theorem matchAt_drop (seq query : List UInt8) (j : Nat) (hj : j < seq.length) :
    matchAt (pattern query) ((toLower seq).drop j) = true ↔ MatchesAt seq query j := by
  have : (toLower seq).drop j = toLower (seq.drop j) := by simp [toLower, List.map_drop]
  rw [this, matchAt_pattern]
  simp only [MatchesAt, window, List.length_drop]
  constructor
  · rintro ⟨h1, h2⟩; exact ⟨by omega, h2⟩
  · rintro ⟨h1, h2⟩; exact ⟨by omega, h2⟩

theorem match_empty (seq query : List UInt8) (h : seq = [] ∨ query = []) : matchSegs seq query = [] := by
  rcases h with rfl | rfl <;> simp [matchSegs]

/-- Soundness of `Match`: every reported segment is a window `[i, i+|query|)` inside the sequence
in which every sequence byte is accepted by the pattern position of its query byte. -/
theorem match_sound (seq query : List UInt8) :
    ∀ seg ∈ matchSegs seq query, ∃ i, seg = toSeg query.length i ∧ MatchesAt seq query i := by
  intro seg hseg
  by_cases hs : seq = []
  · rw [match_empty _ _ (Or.inl hs)] at hseg; cases hseg
  by_cases hq : query = []
  · rw [match_empty _ _ (Or.inr hq)] at hseg; cases hseg
  rw [matchSegs_eq seq query hs hq] at hseg
  obtain ⟨i, hi, rfl⟩ := List.mem_map.1 hseg
  obtain ⟨j, rfl, _, hj, hm⟩ := scan_sound _ _ _ _ i hi
  rw [toLower_length] at hj
  exact ⟨0 + j, rfl, by simpa using (matchAt_drop seq query j hj).1 hm⟩

/-- Completeness of `Match` up to overlap: every matching window of a non-empty query is
reported, or starts inside a reported window that begins before it. -/
theorem match_complete_nonoverlapping (seq query : List UInt8) (hq : query ≠ []) (i : Nat)
    (h : MatchesAt seq query i) :
    ∃ a, toSeg query.length a ∈ matchSegs seq query ∧ a ≤ i ∧ i < a + query.length := by
  have hqpos : 0 < query.length := List.length_pos_iff.2 hq
  have hi : i < seq.length := by have := h.1; omega
  have hs : seq ≠ [] := by intro h; subst h; simp at hi
  have hp : 0 < (pattern query).length := by rw [pattern_length]; exact hqpos
  obtain ⟨a, ha, h1, h2⟩ := scan_complete (pattern query) hp (toLower seq) 0 0 i (Nat.zero_le _)
    (by rw [toLower_length]; exact hi) ((matchAt_drop seq query i hi).2 h)
  rw [pattern_length] at h2
  refine ⟨a, ?_, by omega, by omega⟩
  rw [matchSegs_eq seq query hs hq]
  exact List.mem_map.2 ⟨a, ha, rfl⟩

/-- … in the wording of the property: a matching window that does not overlap an earlier
reported one is itself reported. -/
theorem match_complete_leftmost (seq query : List UInt8) (hq : query ≠ []) (i : Nat)
    (h : MatchesAt seq query i)
    (hfree : ∀ a, toSeg query.length a ∈ matchSegs seq query → ¬ (a < i ∧ i < a + query.length)) :
    toSeg query.length i ∈ matchSegs seq query := by
  obtain ⟨a, ha, h1, h2⟩ := match_complete_nonoverlapping seq query hq i h
  by_cases hai : a = i
  · subst hai; exact ha
  · exact absurd ⟨by omega, h2⟩ (hfree a ha)

/-- Reported windows are ascending and pairwise disjoint. -/
theorem match_ascending_disjoint (seq query : List UInt8) :
    (matchSegs seq query).Pairwise (fun x y => x.2 ≤ y.1) := by
  by_cases hs : seq = []
  · rw [match_empty _ _ (Or.inl hs)]; exact List.Pairwise.nil
  by_cases hq : query = []
  · rw [match_empty _ _ (Or.inr hq)]; exact List.Pairwise.nil
  have hp : 0 < (pattern query).length := by rw [pattern_length]; exact List.length_pos_iff.2 hq
  rw [matchSegs_eq seq query hs hq, List.pairwise_map]
  refine (scan_pairwise _ hp _ _ _).imp (fun {a b} hab => ?_)
  rw [pattern_length] at hab
  simp only [toSeg]; omega

/-- the meaning-level relation of the property: the sequence letter's base set is contained in
the query letter's base set -/
def contained (q s : UInt8) : Bool := subset (baseSet s) (baseSet q)

/-- `Match` in terms of base sets (guard: the query has no K/k — known finding K4): on IUPAC
sequences and queries a window matches exactly when every sequence letter's base set is
contained in the query letter's. -/
theorem matchesAt_iff_contained_partial (seq query : List UInt8)
    (hseq : ∀ c ∈ seq, isLetter c = true) (hquery : ∀ c ∈ query, isLetter c = true)
    (hk : ∀ c ∈ query, lowerByte c ≠ 107) (i : Nat) :
    MatchesAt seq query i ↔
      (i + query.length ≤ seq.length ∧ pointwise contained query (window seq i query.length) = true) := by
  unfold MatchesAt
  rw [pointwise_congr posMatch contained query (window seq i query.length)]
  intro q hqm s hsm
  exact match_table_partial q ((spec_letters q).1 (hquery q hqm)) s
    ((spec_letters s).1 (hseq s (mem_window hsm))) (hk q hqm)

/-- Soundness in terms of base sets (guard: no K/k in the query). -/
theorem match_sound_iupac_partial (seq query : List UInt8)
    (hseq : ∀ c ∈ seq, isLetter c = true) (hquery : ∀ c ∈ query, isLetter c = true)
    (hk : ∀ c ∈ query, lowerByte c ≠ 107) :
    ∀ seg ∈ matchSegs seq query, ∃ i, seg = toSeg query.length i ∧ i + query.length ≤ seq.length ∧
      pointwise contained query (window seq i query.length) = true := by
  intro seg hseg
  obtain ⟨i, rfl, h⟩ := match_sound seq query seg hseg
  exact ⟨i, rfl, (matchesAt_iff_contained_partial seq query hseq hquery hk i).1 h⟩

/-- Completeness up to overlap in terms of base sets (guard: no K/k in the query). -/
theorem match_complete_iupac_partial (seq query : List UInt8) (hq : query ≠ [])
    (hseq : ∀ c ∈ seq, isLetter c = true) (hquery : ∀ c ∈ query, isLetter c = true)
    (hk : ∀ c ∈ query, lowerByte c ≠ 107) (i : Nat) (hi : i + query.length ≤ seq.length)
    (h : pointwise contained query (window seq i query.length) = true) :
    ∃ a, toSeg query.length a ∈ matchSegs seq query ∧ a ≤ i ∧ i < a + query.length :=
  match_complete_nonoverlapping seq query hq i
    ((matchesAt_iff_contained_partial seq query hseq hquery hk i).2 ⟨hi, h⟩)

/-! ### non-vacuity -/

-- "aAaa" contains "aa" three times, overlapping; Search reports all, Match the leftmost disjoint two
example : search [97, 65, 97, 97] [97, 97] = [(0, 2), (1, 3), (2, 4)] := by decide
example : matchSegs [97, 65, 97, 97] [97, 97] = [(0, 2), (2, 4)] := by decide
example : Occurs [97, 65, 97, 97] [97, 97] 1 := by decide
-- query "rn" on "cgtAC": windows "gt" and "AC"
example : matchSegs [99, 103, 116, 65, 67] [114, 110] = [(1, 3), (3, 5)] := by decide
example : MatchesAt [99, 103, 116, 65, 67] [114, 110] 3 := by decide
-- the hypotheses of the `_iupac_partial` theorems are satisfiable
example : (∀ c ∈ [99, 103, 116, 65, 67], isLetter c = true) ∧ (∀ c ∈ [114, 110], isLetter c = true)
    ∧ (∀ c ∈ [114, 110], lowerByte c ≠ 107) := by decide
-- a regexp metacharacter in the query is a literal: "[" finds "[" and nothing else, "." finds nothing in "a[c"
example : matchSegs [97, 91, 99] [91] = [(1, 2)] := by decide
example : matchSegs [97, 91, 99] [46] = [] := by decide

end Gts.C18
