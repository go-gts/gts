/-
  C18 at the CLI step — `gts search` (second lean target of C18; a module of its own so that a change of
  cmd/gts/search.go does not stop the checks that import Props/C18.lean — C05 — from building).
  Property theorems and the membership lemma they share (`mem_searchStep`), namespace `Gts.C18`; helper lemmas:
  Gts/Lemmas/CmdSearch.lean.
-/
import Gts.Props.C18
import Gts.Bridge.CmdSearch
namespace Gts.C18
open Gts Gts.Reg Gts.Nuc Gts.Iupac

/-! ## the CLI glue: `gts search`

`Gts.Gen.searchStep` is the scan-loop body of cmd/gts/search.go, regenerated on every run (go2lean/cmdsteps.go): per query
the hits of `Match` (`-e`: `Search`) on the record and — unless `--no-complement` — on its reverse complement, one
feature each; `Gts/Bridge/CmdSearch.lean` proves it equal to `Cli.searchStep` for every input.  The theorems below say
what the COMMAND reports, in the terms of `search_sound` / `search_complete` / `match_sound`. -/

/-- **`gts search`, the command as written, adds exactly the hits**: one record is written, its residues are those of
the input, and its table is a permutation of the input table followed by — per query, in order — one feature per
segment the matcher reports on the record and (unless `--no-complement`) one per segment it reports on the reverse
complement.  No feature of the record is lost or altered; `gts.Range` and the `.(gts.Ranged)` assertion never panic. -/
theorem search_cli_step (key : String) (exact nocomplement : Bool) (queries : List Seq) (props : Props) (s : Seq) :
    ∃ out, Gen.searchStep key exact nocomplement queries props s = some [out] ∧ out.bytes = s.bytes ∧
      out.feats.Perm (s.feats ++ queries.flatMap (Cli.searchHits exact nocomplement key props s)) :=
  ⟨_, Bridge.searchStep_eq key exact nocomplement queries props s, rfl, Cli.searchStep_perm _ _ _ _ _ _⟩

/-- the features of the written record: those of the input, a forward feature per segment the matcher reports on
the record, and (unless `--no-complement`) a complement-strand feature per segment it reports on the reverse
complement — the one membership analysis behind soundness and completeness, for either matcher -/
theorem mem_searchStep {key : String} {exact nocomplement : Bool} {queries : List Seq} {props : Props} {s out : Seq}
    (h : Gen.searchStep key exact nocomplement queries props s = some [out]) (f : Feature) :
    f ∈ out.feats ↔ f ∈ s.feats ∨ ∃ q ∈ queries,
      (∃ sg ∈ Cli.matcher exact s q, f = Cli.fwdFeature key props sg) ∨
      (nocomplement = false ∧ ∃ sg ∈ Cli.matcher exact (Cli.revcompOf s) q, f = Cli.bwdFeature key props s.len sg) := by
  obtain ⟨out', h', _, hperm⟩ := search_cli_step key exact nocomplement queries props s
  rw [h] at h'
  obtain rfl : out = out' := by simpa using h'
  rw [hperm.mem_iff, List.mem_append, List.mem_flatMap]
  refine or_congr Iff.rfl (exists_congr fun q => and_congr Iff.rfl ?_)
  cases nocomplement <;> simp [Cli.searchHits, eq_comm]

/-- **Soundness of `gts search -e`**: every feature of the written record is a feature of the input record, or a
forward range `[i, i+|q|)` at which a query `q` OCCURS (case folded), or — unless `--no-complement` —
`complement([L−i−|q|, L−i))` for an offset `i` at which `q` occurs in the reverse complement of the residues; the
added features carry the `-k` key and the `-q` qualifiers. -/
theorem search_cli_step_sound (key : String) (nocomplement : Bool) (queries : List Seq) (props : Props) (s out : Seq)
    (h : Gen.searchStep key true nocomplement queries props s = some [out]) :
    ∀ f ∈ out.feats, f ∈ s.feats ∨
      (∃ q ∈ queries, ∃ i : Nat, Occurs s.bytes q.bytes i ∧
        f = ⟨key, .ranged (i : Int) ((i + q.bytes.length : Nat) : Int) false false, props⟩) ∨
      (nocomplement = false ∧ ∃ q ∈ queries, ∃ i : Nat,
        Occurs ((s.bytes.map complementByte).reverse) q.bytes i ∧
        f = ⟨key, .compl (.ranged (s.len - ((i + q.bytes.length : Nat) : Int)) (s.len - (i : Int)) false false), props⟩) := by
  intro f hf
  rcases (mem_searchStep h f).1 hf with hf | ⟨q, hq, ⟨sg, hsg, rfl⟩ | ⟨hn, sg, hsg, rfl⟩⟩
  · exact Or.inl hf
  · obtain ⟨i, rfl, hocc⟩ := search_sound s.bytes q.bytes sg hsg
    exact Or.inr (Or.inl ⟨q, hq, i, hocc, rfl⟩)
  · obtain ⟨i, rfl, hocc⟩ := search_sound (Cli.revcompOf s).bytes q.bytes sg hsg
    exact Or.inr (Or.inr ⟨hn, q, hq, i, hocc, rfl⟩)

/-- **Completeness of `gts search -e`**: for every non-empty query, EVERY occurrence in the record — overlapping ones
included — is reported as a forward feature, and unless `--no-complement` every occurrence in the reverse complement
as a complement-strand feature. -/
theorem search_cli_step_complete (key : String) (nocomplement : Bool) (queries : List Seq) (props : Props) (s out : Seq)
    (h : Gen.searchStep key true nocomplement queries props s = some [out])
    (q : Seq) (hq : q ∈ queries) (hne : q.bytes ≠ []) (i : Nat) :
    (Occurs s.bytes q.bytes i →
      (⟨key, .ranged (i : Int) ((i + q.bytes.length : Nat) : Int) false false, props⟩ : Feature) ∈ out.feats) ∧
    (nocomplement = false → Occurs ((s.bytes.map complementByte).reverse) q.bytes i →
      (⟨key, .compl (.ranged (s.len - ((i + q.bytes.length : Nat) : Int)) (s.len - (i : Int)) false false), props⟩ : Feature)
        ∈ out.feats) :=
  ⟨fun hocc => (mem_searchStep h _).2 (Or.inr ⟨q, hq, Or.inl ⟨_, search_complete s.bytes q.bytes hne i hocc, rfl⟩⟩),
   fun hn hocc => (mem_searchStep h _).2 (Or.inr ⟨q, hq, Or.inr ⟨hn, _,
     search_complete (Cli.revcompOf s).bytes q.bytes hne i hocc, rfl⟩⟩)⟩

/-- **Soundness of `gts search` (IUPAC matching, no `-e`)**: every added feature sits on a window that the query
MATCHES position by position (`MatchesAt`), on the record or on its reverse complement. -/
theorem match_cli_step_sound (key : String) (nocomplement : Bool) (queries : List Seq) (props : Props) (s out : Seq)
    (h : Gen.searchStep key false nocomplement queries props s = some [out]) :
    ∀ f ∈ out.feats, f ∈ s.feats ∨
      (∃ q ∈ queries, ∃ i : Nat, MatchesAt s.bytes q.bytes i ∧
        f = ⟨key, .ranged (i : Int) ((i + q.bytes.length : Nat) : Int) false false, props⟩) ∨
      (nocomplement = false ∧ ∃ q ∈ queries, ∃ i : Nat,
        MatchesAt ((s.bytes.map complementByte).reverse) q.bytes i ∧
        f = ⟨key, .compl (.ranged (s.len - ((i + q.bytes.length : Nat) : Int)) (s.len - (i : Int)) false false), props⟩) := by
  intro f hf
  rcases (mem_searchStep h f).1 hf with hf | ⟨q, hq, ⟨sg, hsg, rfl⟩ | ⟨hn, sg, hsg, rfl⟩⟩
  · exact Or.inl hf
  · obtain ⟨i, rfl, hocc⟩ := match_sound s.bytes q.bytes sg hsg
    exact Or.inr (Or.inl ⟨q, hq, i, hocc, rfl⟩)
  · obtain ⟨i, rfl, hocc⟩ := match_sound (Cli.revcompOf s).bytes q.bytes sg hsg
    exact Or.inr (Or.inr ⟨hn, q, hq, i, hocc, rfl⟩)

/-- non-vacuity: `gts search -e @ac` on `ACGT`: one forward hit at 0 and one hit `ac` at offset 0 of the reverse
complement `ACGT` (the sequence is its own reverse complement), reported as `complement(3..4)` -/
example : ∃ out, Gen.searchStep "misc_feature" true false [⟨[], [97, 99]⟩] [] ⟨[], [65, 67, 71, 84]⟩ = some [out] ∧
    (⟨"misc_feature", .ranged ((0 : Nat) : Int) ((0 + 2 : Nat) : Int) false false, []⟩ : Feature) ∈ out.feats ∧
    (⟨"misc_feature", .compl (.ranged (4 - ((0 + 2 : Nat) : Int)) (4 - ((0 : Nat) : Int)) false false), []⟩ : Feature) ∈ out.feats := by
  refine ⟨_, Bridge.searchStep_eq _ _ _ _ _ _, ?_⟩
  have := search_cli_step_complete "misc_feature" false [⟨[], [97, 99]⟩] [] ⟨[], [65, 67, 71, 84]⟩ _
    (Bridge.searchStep_eq _ _ _ _ _ _) ⟨[], [97, 99]⟩ (by simp) (by simp) 0
  exact ⟨this.1 (by decide +kernel), this.2 rfl (by decide +kernel)⟩

/-- non-vacuity of `match_cli_step_sound`: `gts search @rn` on `cgtAC` (IUPAC matching): the hypothesis holds for the
record the command writes, and the window `AC` at 3 is one the query matches -/
example : Gen.searchStep "misc_feature" false true [⟨[], [114, 110]⟩] [] ⟨[], [99, 103, 116, 65, 67]⟩ =
      some [Cli.searchStep false true "misc_feature" [] [⟨[], [114, 110]⟩] ⟨[], [99, 103, 116, 65, 67]⟩] ∧
    MatchesAt [99, 103, 116, 65, 67] [114, 110] 3 :=
  ⟨Bridge.searchStep_eq _ _ _ _ _ _, by decide⟩

example : Occurs [65, 67, 71, 84] [97, 99] 0 ∧ Occurs (([65, 67, 71, 84] : List UInt8).map complementByte).reverse [97, 99] 0 := by
  decide +kernel

end Gts.C18
