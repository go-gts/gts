/-
  C04 — the composition laws of `gts.Rotate` at the RECORD level (residues and feature table).
  Property theorems only.  (`Props/C04.lean` has the laws for the position maps, `rotMap_add / _mul / _neg`,
  and for one location through the two steps of one rotation.)
-/
import Gts.Props.C04
import Gts.Lemmas.RotateCompose
namespace Gts.C04
open Gts Loc

/-! ### residues: no guard -/

/-- **Rotations compose additively on the residues**: for every record with at least one residue and
all integers `a`, `b` (any sign and magnitude) rotating by `a` and then by `b` yields the same residue
string as rotating once by `a + b`.  No guard. -/
theorem rotate_rotate_bytes (s : Gts.Seq) (a b : Int) (hL : 0 < s.len) :
    ((s.rotate a).rotate b).bytes = (s.rotate (a + b)).bytes := by
  have hlen : s.len = s.bytes.length := rfl
  apply List.ext_getElem?
  intro j
  by_cases hj : j < s.bytes.length
  · -- position `j` holds residue `((j - b) mod L - a) mod L = (j - (a + b)) mod L` on both sides
    have h0 := Int.emod_nonneg ((j : Int) - b) (Int.ne_of_gt hL)
    have h1 := Int.emod_lt_of_pos ((j : Int) - b) hL
    rw [rotate_bytes_at _ b j (by rw [Seq.rotate_bytes_length]; exact hj), Seq.rotate_len,
      rotate_bytes_at s a _ (by omega), rotate_bytes_at s (a + b) j hj,
      Int.toNat_of_nonneg h0, Int.emod_sub_emod, Int.sub_sub, Int.add_comm b a]
  · have l1 : ((s.rotate a).rotate b).bytes.length = s.bytes.length := by
      rw [Seq.rotate_bytes_length, Seq.rotate_bytes_length]
    have l2 : (s.rotate (a + b)).bytes.length = s.bytes.length := Seq.rotate_bytes_length _ _
    rw [List.getElem?_eq_none (by omega), List.getElem?_eq_none (by omega)]

/-- rotating by any multiple of the length returns the residue string itself -/
theorem rotate_mul_bytes (s : Gts.Seq) (k : Int) (hL : 0 < s.len) :
    (s.rotate (k * s.len)).bytes = s.bytes := by
  have hlen : s.len = s.bytes.length := rfl
  rw [rotate_bytes_eq, rotN_eq_emod _ _ hL, Int.mul_emod_left]
  have : (s.len - 0).toNat = s.bytes.length := by omega
  rw [this]
  simp

/-- rotating by `n` and then by `-n` returns the residue string itself -/
theorem rotate_neg_bytes (s : Gts.Seq) (n : Int) (hL : 0 < s.len) :
    ((s.rotate n).rotate (-n)).bytes = s.bytes := by
  rw [rotate_rotate_bytes s n (-n) hL]
  have : n + -n = 0 * s.len := by omega
  rw [this, rotate_mul_bytes s 0 hL]

-- non-vacuity: five residues, `a = 7`, `b = -13`
example : 0 < (⟨[], [65, 67, 71, 84, 78]⟩ : Gts.Seq).len ∧
    (((⟨[], [65, 67, 71, 84, 78]⟩ : Gts.Seq).rotate 7).rotate (-13)).bytes = [67, 71, 84, 78, 65] := by decide +kernel

/-! ### feature table

`l₁ := Normalize(Expand(l, 0, a mod L), L)` is the location a feature has after the first rotation.
The guards are those of `rotate_feature_partial`, once per rotation that is performed:

* on the feature as it stands in `s`: `wf`, `nonneg`;
* FIRST rotation, on `l` with the amount `rotN a L = a mod L`: `normOk` (no full-length part, no
  ambiguous span across the new origin), `expandAbs = false`, `normalizeAbs = false` (rule K2 fires
  in neither step);
* SECOND rotation, on `l₁` with the amount `rotN b L = b mod L`: the same three.  (`wf l₁` and
  `nonneg l₁` need no hypothesis: they are consequences of the guards of the first rotation.) -/

/-- **Rotations compose additively on every feature (meaning side)**: for a record with at least one
residue and all integers `a`, `b`, every feature of `s` is present in `rotate (rotate s a) b` with
unchanged key and qualifiers, at the location `Normalize(Expand(l₁, 0, b mod L), L)`, and that location
denotes the residues of the original feature at `(x + a + b) mod L`, in the same order and strand —
exactly what ONE rotation by `a + b` is specified to do (`rotate_feature_partial`).  Guards: those of
`rotate_feature_partial` for the first rotation (on the feature's location) and for the second one (on the
location the first rotation produced); none for the single rotation, which is not performed here. -/
theorem rotate_rotate_feature_spec_partial (s : Gts.Seq) (a b : Int) (hL : 0 < s.len) (f : Feature)
    (hf : f ∈ s.feats) (hw : wf f.loc = true) (hnn : nonneg f.loc = true)
    (hok1 : normOk s.len (expand f.loc 0 (rotN a s.len)) = true)
    (h11 : expandAbs f.loc 0 (rotN a s.len) = false)
    (h12 : normalizeAbs (expand f.loc 0 (rotN a s.len)) s.len = false)
    (hok2 : normOk s.len (expand (normalize (expand f.loc 0 (rotN a s.len)) s.len) 0 (rotN b s.len)) = true)
    (h21 : expandAbs (normalize (expand f.loc 0 (rotN a s.len)) s.len) 0 (rotN b s.len) = false)
    (h22 : normalizeAbs (expand (normalize (expand f.loc 0 (rotN a s.len)) s.len) 0 (rotN b s.len)) s.len = false) :
    ∃ f2 ∈ ((s.rotate a).rotate b).feats, f2.key = f.key ∧ f2.props = f.props ∧
      f2.loc = normalize (expand (normalize (expand f.loc 0 (rotN a s.len)) s.len) 0 (rotN b s.len)) s.len ∧
      den f2.loc ≼ mapPos (rotMap (a + b) s.len) (den f.loc) := by
  have hnn1 : nonneg (normalize (expand f.loc 0 (rotN a s.len)) s.len) = true :=
    coordsWithin_nonneg _ s.len (rotate_coords f.loc _ s.len hL (rotN_nonneg a s.len hL) hw hnn
      (ambOk_of_normOk s.len _ hok1))
  have hf1 : ({ f with loc := (f.loc.expand 0 (rotN a s.len)).normalize s.len } : Feature) ∈ (s.rotate a).feats :=
    mem_of_perm_map (rotate_table_perm s a) hf
  obtain ⟨d1, wf1⟩ := rotN_den_partial f.loc a s.len hL hw hnn hok1 h11 h12
  refine ⟨{ f with loc := normalize (expand (normalize (expand f.loc 0 (rotN a s.len)) s.len) 0 (rotN b s.len)) s.len }, ?_,
    rfl, rfl, rfl, ?_⟩
  · have := mem_of_perm_map (rotate_table_perm (s.rotate a) b) hf1
    rwa [Seq.rotate_len] at this
  · -- one rotation after the other, each at the amount the code uses
    exact mapPos_rotMap_add a b s.len (den f.loc) ▸
      (rotN_den_partial _ b s.len hL wf1 hnn1 hok2 h21 h22).1.trans (mapPos_refines (rotMap b s.len) d1)

/-- **Rotations compose additively on every feature**: the denotation a feature has after rotating by `a`
and then by `b` EQUALS the denotation it has after one rotation by `a + b` (same key and qualifiers on both
sides).  Guards: `wf`, `nonneg` on the feature; `normOk`, `expandAbs = false`, `normalizeAbs = false` for each
of the THREE rotations that occur in the statement — the first (on `l`, amount `a mod L`), the second (on `l₁`,
amount `b mod L`), the single one (on `l`, amount `(a + b) mod L`) —; and the feature denotes positions inside
the record, each once (`denIn`, `Nodup`: every real feature), which turns "same residues, same order, no
duplicate dropped" into equality of the two lists.

FULL STATEMENT (without the K2 / `normOk` guards): false, see `rotate_rotate_feature_den_full_refuted`.
The SYNTACTIC locations may differ although the denotations agree: `rotate_rotate_loc_full_refuted`. -/
theorem rotate_rotate_feature_den_partial (s : Gts.Seq) (a b : Int) (hL : 0 < s.len) (f : Feature)
    (hf : f ∈ s.feats) (hw : wf f.loc = true) (hnn : nonneg f.loc = true)
    (hok1 : normOk s.len (expand f.loc 0 (rotN a s.len)) = true)
    (h11 : expandAbs f.loc 0 (rotN a s.len) = false)
    (h12 : normalizeAbs (expand f.loc 0 (rotN a s.len)) s.len = false)
    (hok2 : normOk s.len (expand (normalize (expand f.loc 0 (rotN a s.len)) s.len) 0 (rotN b s.len)) = true)
    (h21 : expandAbs (normalize (expand f.loc 0 (rotN a s.len)) s.len) 0 (rotN b s.len) = false)
    (h22 : normalizeAbs (expand (normalize (expand f.loc 0 (rotN a s.len)) s.len) 0 (rotN b s.len)) s.len = false)
    (hok3 : normOk s.len (expand f.loc 0 (rotN (a + b) s.len)) = true)
    (h31 : expandAbs f.loc 0 (rotN (a + b) s.len) = false)
    (h32 : normalizeAbs (expand f.loc 0 (rotN (a + b) s.len)) s.len = false)
    (hin : denIn s.len (den f.loc)) (hnd : (den f.loc).Nodup) :
    ∃ f2 ∈ ((s.rotate a).rotate b).feats, ∃ f1 ∈ (s.rotate (a + b)).feats,
      f2.key = f.key ∧ f2.props = f.props ∧ f1.key = f.key ∧ f1.props = f.props ∧
      den f2.loc = den f1.loc := by
  obtain ⟨f2, m2, k2, p2, _, d2⟩ :=
    rotate_rotate_feature_spec_partial s a b hL f hf hw hnn hok1 h11 h12 hok2 h21 h22
  obtain ⟨f1, m1, k1, p1, d1⟩ := rotate_feature_partial s (a + b) hL f hf hw hnn hok3 h31 h32
  have nd := nodup_mapPos_rotMap (a + b) s.len hL _ hin hnd
  exact ⟨f2, m2, f1, m1, k2, p2, k1, p1, (d2.eq_of_nodup nd).trans (d1.eq_of_nodup nd).symm⟩

/-- **A rotation by a multiple of the length gives every feature its own denotation back**: for every
integer `k` every feature of `s` is present in `rotate s (k·L)` with unchanged key and qualifiers and a
location that denotes the same residues in the same order (`≼`: `Join` may drop a residue that is denoted
twice; equality as soon as the feature denotes every position once).  The rotation amount the code computes
is `0`, so the guards are those of `rotate_feature_partial` at `n = 0` — the code still rebuilds every
composite location through `Expand(0, 0)` and `Normalize(L)`, hence through `Join` — plus `denIn`. -/
theorem rotate_mul_feature_partial (s : Gts.Seq) (k : Int) (hL : 0 < s.len) (f : Feature)
    (hf : f ∈ s.feats) (hw : wf f.loc = true) (hnn : nonneg f.loc = true)
    (hok : normOk s.len (expand f.loc 0 0) = true)
    (h1 : expandAbs f.loc 0 0 = false) (h2 : normalizeAbs (expand f.loc 0 0) s.len = false)
    (hin : denIn s.len (den f.loc)) :
    ∃ f' ∈ (s.rotate (k * s.len)).feats, f'.key = f.key ∧ f'.props = f.props ∧
      den f'.loc ≼ den f.loc ∧ ((den f.loc).Nodup → den f'.loc = den f.loc) := by
  have hr : rotN (k * s.len) s.len = 0 := by rw [rotN_eq_emod _ _ hL, Int.mul_emod_left]
  obtain ⟨f', m, hk, hp, d⟩ := rotate_feature_partial s (k * s.len) hL f hf hw hnn
    (by rw [hr]; exact hok) (by rw [hr]; exact h1) (by rw [hr]; exact h2)
  rw [mapPos_rotMap_mul k s.len hL _ hin] at d
  exact ⟨f', m, hk, hp, d, fun nd => d.eq_of_nodup nd⟩

/-- **Rotating by `n` and then by `-n` gives every feature its own denotation back** (same key and
qualifiers; `≼`, equality for a duplicate-free denotation).  Guards: those of `rotate_feature_partial` for
the first rotation (on `l`, amount `n mod L`) and for the second (on `l₁`, amount `(-n) mod L`), plus
`denIn`. -/
theorem rotate_neg_feature_partial (s : Gts.Seq) (n : Int) (hL : 0 < s.len) (f : Feature)
    (hf : f ∈ s.feats) (hw : wf f.loc = true) (hnn : nonneg f.loc = true)
    (hok1 : normOk s.len (expand f.loc 0 (rotN n s.len)) = true)
    (h11 : expandAbs f.loc 0 (rotN n s.len) = false)
    (h12 : normalizeAbs (expand f.loc 0 (rotN n s.len)) s.len = false)
    (hok2 : normOk s.len (expand (normalize (expand f.loc 0 (rotN n s.len)) s.len) 0 (rotN (-n) s.len)) = true)
    (h21 : expandAbs (normalize (expand f.loc 0 (rotN n s.len)) s.len) 0 (rotN (-n) s.len) = false)
    (h22 : normalizeAbs (expand (normalize (expand f.loc 0 (rotN n s.len)) s.len) 0 (rotN (-n) s.len)) s.len = false)
    (hin : denIn s.len (den f.loc)) :
    ∃ f2 ∈ ((s.rotate n).rotate (-n)).feats, f2.key = f.key ∧ f2.props = f.props ∧
      den f2.loc ≼ den f.loc ∧ ((den f.loc).Nodup → den f2.loc = den f.loc) := by
  obtain ⟨f2, m, hk, hp, _, d⟩ :=
    rotate_rotate_feature_spec_partial s n (-n) hL f hf hw hnn hok1 h11 h12 hok2 h21 h22
  have e : n + -n = 0 * s.len := by omega
  rw [e, mapPos_rotMap_mul 0 s.len hL _ hin] at d
  exact ⟨f2, m, hk, hp, d, fun nd => d.eq_of_nodup nd⟩

/-! ### the same laws for the full-length feature (`source 1..L`), which `normOk` excludes above -/

/-- **composition laws for the full-length feature**: a feature whose location is the whole-sequence
range (either strand, any markers; `C04.fullLength`) is, UNCHANGED, a feature of `rotate (rotate s a) b`
and of `rotate s (a + b)` (additivity), of `rotate s (k·L)` (identity) and of `rotate (rotate s n) (-n)`
(inverse), for all integers `a`, `b`, `k`, `n`.  No guard.  (Immediate from `rotate_full_length_feature`:
the feature is a fixed point of every rotation.) -/
theorem rotate_full_length_feature_laws (s : Gts.Seq) (a b k n : Int) (hL : 0 < s.len) (f : Feature)
    (hf : f ∈ s.feats) (hfl : fullLength s.len f.loc = true) :
    f ∈ ((s.rotate a).rotate b).feats ∧ f ∈ (s.rotate (a + b)).feats ∧
    f ∈ (s.rotate (k * s.len)).feats ∧ f ∈ ((s.rotate n).rotate (-n)).feats := by
  have two : ∀ x y : Int, f ∈ ((s.rotate x).rotate y).feats := fun x y =>
    rotate_full_length_feature (s.rotate x) y (by rw [Seq.rotate_len]; exact hL) f
      (rotate_full_length_feature s x hL f hf hfl) (by rw [Seq.rotate_len]; exact hfl)
  exact ⟨two a b, rotate_full_length_feature s (a + b) hL f hf hfl,
    rotate_full_length_feature s (k * s.len) hL f hf hfl, two n (-n)⟩

/-- non-vacuity: the `source` feature of a ten-residue record -/
example :
    let s : Gts.Seq := ⟨[⟨"source", ranged 0 10 false false, []⟩], [65, 67, 71, 84, 65, 67, 71, 84, 65, 67]⟩
    0 < s.len ∧ fullLength s.len (ranged 0 10 false false) = true ∧
    normOk s.len (expand (ranged 0 10 false false) 0 (rotN 3 s.len)) = false := by decide +kernel

/-! ### non-vacuity, and where the laws stop -/

/-- non-vacuity of the four feature theorems: a ten-residue record with a complement-strand join carrying
both outer markers, `a = 3` (the join then crosses the origin: `complement(join(<5..6,10,1..>2))`), `b = -5`
(`rotN = 5`), the single rotation by `a + b = -2` (`rotN = 8`); and `n = 3`, `-n` (`rotN = 7`); and `n = 0`. -/
example :
    let l := compl (joined [ranged 1 3 true false, ranged 6 9 false true])
    let s : Gts.Seq := ⟨[⟨"gene", l, []⟩], [65, 67, 71, 84, 65, 67, 71, 84, 65, 67]⟩
    0 < s.len ∧ wf l = true ∧ nonneg l = true ∧
    normOk s.len (expand l 0 (rotN 3 s.len)) = true ∧ expandAbs l 0 (rotN 3 s.len) = false ∧
    normalizeAbs (expand l 0 (rotN 3 s.len)) s.len = false ∧
    normOk s.len (expand (normalize (expand l 0 (rotN 3 s.len)) s.len) 0 (rotN (-5) s.len)) = true ∧
    expandAbs (normalize (expand l 0 (rotN 3 s.len)) s.len) 0 (rotN (-5) s.len) = false ∧
    normalizeAbs (expand (normalize (expand l 0 (rotN 3 s.len)) s.len) 0 (rotN (-5) s.len)) s.len = false ∧
    normOk s.len (expand l 0 (rotN (3 + -5) s.len)) = true ∧ expandAbs l 0 (rotN (3 + -5) s.len) = false ∧
    normalizeAbs (expand l 0 (rotN (3 + -5) s.len)) s.len = false ∧
    normOk s.len (expand (normalize (expand l 0 (rotN 3 s.len)) s.len) 0 (rotN (-3) s.len)) = true ∧
    expandAbs (normalize (expand l 0 (rotN 3 s.len)) s.len) 0 (rotN (-3) s.len) = false ∧
    normalizeAbs (expand (normalize (expand l 0 (rotN 3 s.len)) s.len) 0 (rotN (-3) s.len)) s.len = false ∧
    normOk s.len (expand l 0 0) = true ∧ expandAbs l 0 0 = false ∧ normalizeAbs (expand l 0 0) s.len = false ∧
    denIn s.len (den l) ∧ (den l).Nodup ∧
    (normalize (expand l 0 (rotN 3 s.len)) s.len).beq
      (compl (joined [ranged 4 6 true false, ranged 9 10 false false, ranged 0 2 false true])) = true ∧
    -- the feature after `rotate 3` then `rotate (-5)` and after `rotate (-2)`: the same location here
    (((s.rotate 3).rotate (-5)).feats.map (·.loc)).length = 1 ∧
    (∀ l2 ∈ ((s.rotate 3).rotate (-5)).feats.map (·.loc), ∀ l1 ∈ (s.rotate (3 + -5)).feats.map (·.loc),
      l2.beq (compl (joined [ranged 9 10 true false, ranged 0 1 false false, ranged 4 7 false true])) = true ∧
      l1.beq l2 = true) := by
  decide +kernel

/-- FULL STATEMENT of the additive law on denotations — without the `normOk` / K2 guards — is false on the
model, and on the code: `join(2..3,1)` on a circle of three residues (a feature that covers the whole circle,
read from residue 2).  Rotating by 2 makes the parts `1..2`, `3` abut, `Join` merges them into the full-length
range `1..3` (still the right residues in the right order: 2,3,1 → 1,2,3); the next rotation by 1 sees a
full-length range, which `Ranged.Normalize` re-bases to `1..3` — the reading start is gone — while ONE
rotation by `2 + 1 = 3 ≡ 0` leaves `join(2..3,1)`.  The guard that fails is `normOk` of the SECOND rotation
(a full-length part).  This is the case the property words as "a full-length feature stays full-length" and
the harness oracle allows as "either the rotated residues in order or the whole range 1..L" (C04-d). -/
theorem rotate_rotate_feature_den_full_refuted :
    ¬ (∀ (l : Loc) (a b L : Int), 0 < L → 0 ≤ a → 0 ≤ b → wf l = true → nonneg l = true →
        denIn L (den l) → (den l).Nodup →
        den (normalize (expand (normalize (expand l 0 (rotN a L)) L) 0 (rotN b L)) L)
          = den (normalize (expand l 0 (rotN (a + b) L)) L)) :=
  fun h => absurd (h (joined [ranged 1 3 false false, ranged 0 1 false false]) 2 1 3) (by decide +kernel)

/-- … the first rotation of that witness is still inside every guard and correct; it is the second one that
meets a full-length part -/
example :
    let l := joined [ranged 1 3 false false, ranged 0 1 false false]
    normOk 3 (expand l 0 (rotN 2 3)) = true ∧ expandAbs l 0 (rotN 2 3) = false ∧
    normalizeAbs (expand l 0 (rotN 2 3)) 3 = false ∧
    (normalize (expand l 0 (rotN 2 3)) 3).beq (ranged 0 3 false false) = true ∧
    normOk 3 (expand (normalize (expand l 0 (rotN 2 3)) 3) 0 (rotN 1 3)) = false := by
  decide +kernel

/-- the guards of `rotate_rotate_feature_den_partial` on a bare location -/
def rotateRotateGuards (l : Loc) (a b L : Int) : Bool :=
  wf l && nonneg l &&
  normOk L (expand l 0 (rotN a L)) && !expandAbs l 0 (rotN a L) && !normalizeAbs (expand l 0 (rotN a L)) L &&
  normOk L (expand (normalize (expand l 0 (rotN a L)) L) 0 (rotN b L)) &&
  !expandAbs (normalize (expand l 0 (rotN a L)) L) 0 (rotN b L) &&
  !normalizeAbs (expand (normalize (expand l 0 (rotN a L)) L) 0 (rotN b L)) L &&
  normOk L (expand l 0 (rotN (a + b) L)) && !expandAbs l 0 (rotN (a + b) L) &&
  !normalizeAbs (expand l 0 (rotN (a + b) L)) L

/-- The SYNTACTIC location after two rotations may differ from the one after the single rotation although
every guard of `rotate_rotate_feature_den_partial` holds and the denotations are equal.  What was looked for
first — a range the first rotation splits at the origin and the second does not merge again — does not occur:
`Join` pushes with `force`, so the two halves `[s, L)`, `[0, e)` abut again after any further rotation and are
merged (searched with `#eval`: no syntactic difference for any unmarked point / range / ambiguous span / join of
up to three parts / order / complement on circles of length 4 and 5 inside the guards).  The difference lives
one step further: the half that was split off merges with the NEIGHBOURING part when that abuts, and the merge
keeps the outer markers of the pair only.  Witness, circle of four: `join(2..4,<1..>1)`, rotated by 1 it is
`join(3..4,1,<2..>2)` pushed with `force` = `join(3..4,1..>2)` — the inner 5' marker of the second part is
dropped; rotated on by 3 it is `join(2..4,1..>1)`, where one rotation by 4 ≡ 0 keeps `join(2..4,<1..>1)`.
Same residues, same outer markers, different text. -/
theorem rotate_rotate_loc_full_refuted :
    ¬ (∀ (l : Loc) (a b L : Int), 0 < L → rotateRotateGuards l a b L = true →
        denIn L (den l) → (den l).Nodup →
        (normalize (expand (normalize (expand l 0 (rotN a L)) L) 0 (rotN b L)) L).beq
          (normalize (expand l 0 (rotN (a + b) L)) L) = true) :=
  fun h => absurd (h (joined [ranged 1 4 false false, ranged 0 1 true true]) 1 3 4) (by decide +kernel)

/-- the witness spelled out: both sides, equal denotations, equal outer markers -/
example :
    let l := joined [ranged 1 4 false false, ranged 0 1 true true]
    let two := normalize (expand (normalize (expand l 0 (rotN 1 4)) 4) 0 (rotN 3 4)) 4
    let one := normalize (expand l 0 (rotN (1 + 3) 4)) 4
    (normalize (expand l 0 (rotN 1 4)) 4).beq (joined [ranged 2 4 false false, ranged 0 2 false true]) = true ∧
    two.beq (joined [ranged 1 4 false false, ranged 0 1 false true]) = true ∧
    one.beq (joined [ranged 1 4 false false, ranged 0 1 true true]) = true ∧
    den two = den one ∧ outerMarks two = outerMarks one := by
  decide +kernel

/-- A second syntactic difference, on a feature WITHOUT residues (so no statement about denotations sees it):
a between-site that a rotation has brought to the origin stays there.  `Between.Expand(0, n)` moves `p` only
when `0 < p`, and `Between{L}` is normalised to `Between{0}`: on a circle of four `2^3` (the site between
residues 1 and 2) rotated by 3 is `0^1` — the origin, correct —, rotated on by 1 it is still `0^1`, where one
rotation by 4 ≡ 0 keeps `2^3`.  All guards hold (the denotation is empty on both sides). -/
theorem rotate_rotate_between_origin_stuck :
    rotateRotateGuards (between 1) 3 1 4 = true ∧
    (normalize (expand (between 1) 0 (rotN 3 4)) 4).beq (between 0) = true ∧
    (normalize (expand (normalize (expand (between 1) 0 (rotN 3 4)) 4) 0 (rotN 1 4)) 4).beq (between 0) = true ∧
    (normalize (expand (between 1) 0 (rotN (3 + 1) 4)) 4).beq (between 1) = true ∧
    (∀ n : Int, 0 ≤ n → expand (between 0) 0 n = between 0) := by
  refine ⟨by decide, by decide, by decide, by decide, ?_⟩
  intro n _
  simp [expand, betweenExpand]

end Gts.C04
