/-
  C12 — `Repair` and the sorting algorithm.  Property theorems only (model:
  Gts/Model/RepairSort.lean `repairWith sort`; `SortedPerm`, `CorrectSort`, `PermSort`,
  `KeepsSorted` and the guards: Gts/Spec/RepairSortGuard.lean; helper lemmas:
  the `…W` statements of Gts/Lemmas/Repair*.lean, and Gts/Lemmas/RepairSort*.lean).

  `Repair` calls `sort.Sort(Locations(locs))` on the members of every class.  Go's `sort.Sort` is
  pdqsort: not stable, and the insertion sort that the model's `repair` copies (`sortLocs`) only
  for at most 12 elements.  `LocationLess` is a strict weak order, not a total one (`Gts.C19.less_*`):
  a `Point` and the one-base `Ranged` at the same place, two ranges with the same span and one
  partial marker each (`<3..5`, `3..>5`), a location and its complement … are incomparable, so a
  class can have several sorted permutations and `sort.Sort` may return any of them.

  What is settled here:
  * `repair_sort_indep_full_refuted`, `repair_sort_indep_plain_refuted`: the result of `Repair`
    DOES depend on which sorted permutation the sort returns — even on plain tables.
    `pdqsort_witness`: a 13-member class on which Go's pdqsort (permutation recorded from the real
    `sort.Sort`, go1.23) and the insertion sort lead to different tables.
  * `repair_sort_indep_partial`: it does not when every class is tie-free or inert
    (`Table.sortIndep`, decidable).
  * the clauses of C12 hold for EVERY sort that permutes / is correct (`…_with…` theorems): order of
    the classes, never a panic, unchanged, chains, key and qualifiers, covered residues,
    restoration; the refuted full statements stay refuted for every correct sort.
  * idempotence needs more than a correct sort: `idempotent_with_full_refuted` (a correct sort
    that re-orders ties of an already sorted list un-does it), `idempotent_with_partial` (correct
    sorts that leave a sorted list alone: insertion sort, pdqsort).
  The real code is tied to `repairWith`: for classes of more than 12 members the harness records
  the permutation `sort.Sort` returns, the model checks that it is a sorted permutation and
  answers `repairWith (assocSort …)` (op `feat.repair.sorted`).
-/
import Gts.Lemmas.RepairSortClass
import Gts.Props.C12
namespace Gts.C12
open Gts Loc

/-! ### correct sorts -/

/-- The model's `repair` is `repairWith` at the model's insertion sort, and that sort is a
correct sort (returns a permutation of its argument in which no later element is `LocationLess`
than an earlier one) which leaves sorted lists alone. -/
theorem repair_is_repairWith :
    (∀ t, repairWith sortLocs t = repair t) ∧ CorrectSort sortLocs ∧ KeepsSorted sortLocs :=
  ⟨repairWith_sortLocs, sortLocs_correct, sortLocs_keepsSorted⟩

example : sortLocs [ranged 3 5 false true, point 1, ranged 3 5 true false, ranged 0 2 false false] =
    [ranged 0 2 false false, point 1, ranged 3 5 false true, ranged 3 5 true false] := by rfl

/-- The sort that the op `feat.repair.sorted` builds from the permutations recorded on the real
code (`assocSort tbl`: the recorded answer where it is a sorted permutation of the argument, the
insertion sort elsewhere) is a correct sort, whatever was recorded; so is the insertion sort of
the reversed list (which returns ties in the opposite order). -/
theorem recorded_sort_correct (tbl : List (List Loc × List Loc)) :
    CorrectSort (assocSort tbl) ∧ CorrectSort (fun xs => sortLocs xs.reverse) :=
  ⟨assocSort_correct tbl, sortLocs_reverse_correct⟩

/-- non-vacuity: a recorded answer that differs from the insertion sort is used -/
example : assocSort [([point 3, ranged 3 4 false false], [ranged 3 4 false false, point 3])]
      [point 3, ranged 3 4 false false] = [ranged 3 4 false false, point 3] ∧
    sortLocs [point 3, ranged 3 4 false false] = [point 3, ranged 3 4 false false] := ⟨by rfl, by rfl⟩

/-- **A tie-free list has exactly one sorted permutation**: when every two members of `xs` are
comparable under `LocationLess` or equal, any two sorted permutations of `xs` are the same list. -/
theorem sorted_perm_unique (xs ys zs : List Loc) (ht : tieFree xs = true)
    (h1 : SortedPerm less xs ys) (h2 : SortedPerm less xs zs) : ys = zs :=
  sortedPerm_unique h1 h2 ht

example : tieFree [ranged 3 6 true false, point 1, ranged 0 3 false true, point 1, compl (ranged 7 9 false false)] = true := by
  decide +kernel

/-! ### does `Repair` depend on the sorting algorithm?  Yes. -/

/-- FULL STATEMENT (false): for every correct sort, `repairWith sort t = repair t`.  A `Point` and
the one-base range at the same position are incomparable.  Sorted `[3, 3..4]` (what the stable
insertion sort makes of this table) `Push` lets the range absorb the point and the table loses
a feature; sorted `[3..4, 3]` (what the insertion sort of the reversed list returns — an equally
correct answer) nothing is absorbed and the table is unchanged. -/
theorem repair_sort_indep_full_refuted :
    ¬ (∀ sort : List Loc → List Loc, CorrectSort sort → ∀ t : Table, repairWith sort t = repair t) := by
  intro h
  have h1 := h (fun xs => sortLocs xs.reverse) sortLocs_reverse_correct
    [gene (point 3), gene (ranged 3 4 false false)]
  exact RepairOutcome.ne_of_decide (by decide +kernel) h1

/-- the two results, spelled out -/
example : repair [gene (point 3), gene (ranged 3 4 false false)] = .ok [gene (ranged 3 4 false false)] ∧
    repairWith (fun xs => sortLocs xs.reverse) [gene (point 3), gene (ranged 3 4 false false)] =
      .ok [gene (point 3), gene (ranged 3 4 false false)] := ⟨RepairOutcome.eq_of_decide (by decide +kernel), RepairOutcome.eq_of_decide (by decide +kernel)⟩

/-- FULL STATEMENT restricted to plain tables of well-formed forward ranges (still false): `<3..5`
and `3..>5` are incomparable (same span, one partial marker each); only the one with the 3'
marker fuses with `<5..8`, and only when it is sorted last. -/
theorem repair_sort_indep_plain_refuted :
    ¬ (∀ sort : List Loc → List Loc, CorrectSort sort → ∀ t : Table, Table.plain t = true → Table.wfT t = true →
        repairWith sort t = repair t) := by
  intro h
  have h1 := h (fun xs => sortLocs xs.reverse) sortLocs_reverse_correct
    [gene (ranged 3 5 false true), gene (ranged 3 5 true false), gene (ranged 5 8 true false)] (by decide +kernel) (by decide +kernel)
  exact RepairOutcome.ne_of_decide (by decide +kernel) h1

/-- **A class beyond the insertion-sort threshold, sorted as Go's pdqsort sorts it.**  13 members
of one class, among them the incomparable pair `3` / `3..4`, in the table order below; `tbl`
records what the real `sort.Sort(Locations(…))` (go1.23.5) returns for them: `3..4` BEFORE `3`,
where the stable insertion sort keeps `3` first.  The recorded list is a sorted permutation;
with it `Repair` returns the table unchanged (that is what the real code does, op
`feat.repair.sorted` in the check), while the insertion-sort model drops the `Point` feature.
So for classes of more than 12 members with ties the model's `repair` is NOT the real `Repair`;
`repairWith (assocSort recorded)` is. -/
theorem pdqsort_witness :
    let locs := [point 3, ranged 14 15 false false, ranged 10 11 false false, ranged 3 4 false false,
      ranged 32 33 false false, ranged 12 13 false false, ranged 16 17 false false, ranged 20 21 false false,
      ranged 18 19 false false, ranged 22 23 false false, ranged 26 27 false false, ranged 30 31 false false,
      ranged 34 35 false false]
    let goSorted := [ranged 3 4 false false, point 3, ranged 10 11 false false, ranged 12 13 false false,
      ranged 14 15 false false, ranged 16 17 false false, ranged 18 19 false false, ranged 20 21 false false,
      ranged 22 23 false false, ranged 26 27 false false, ranged 30 31 false false, ranged 32 33 false false,
      ranged 34 35 false false]
    sortedPermB locs goSorted = true ∧
    repairWith (assocSort [(locs, goSorted)]) (locs.map gene) = .ok (locs.map gene) ∧
    repair (locs.map gene) ≠ .ok (locs.map gene) := by
  refine ⟨by decide +kernel, RepairOutcome.eq_of_decide (by decide +kernel), ?_⟩
  intro h
  exact RepairOutcome.ne_of_decide (by decide +kernel) h

/-- **`Repair` does not depend on the sorting algorithm** on tables in which every class either
is tie-free (any two members comparable under `LocationLess`, or equal) or is inert under `Push`
(no `Joined` member, and no two members — in either order — match a rule of `Push`'s type
switch): for every correct sort the result is the result of the model's insertion sort. -/
theorem repair_sort_indep_partial (sort : List Loc → List Loc) (hs : CorrectSort sort) (t : Table)
    (hg : Table.sortIndep t = true) : repairWith sort t = repair t := by
  rw [← repairWith_sortLocs]
  exact repairWith_eq_of_sortIndep sort sortLocs hs sortLocs_correct t hg

/-- non-vacuity: a tie-free class in which two fragments are fused, and an inert class with ties
(a range and its complement; `<3..5` and `3..>5`) -/
example : Table.sortIndep [gene (ranged 0 3 false true), ⟨"CDS", compl (ranged 3 5 false false), []⟩,
      gene (ranged 3 6 true false), ⟨"CDS", ranged 3 5 false false, []⟩, gene (point 9),
      ⟨"CDS", ranged 3 5 true false, []⟩, ⟨"CDS", ranged 3 5 false true, []⟩] = true ∧
    tieFree [compl (ranged 3 5 false false), ranged 3 5 false false, ranged 3 5 true false, ranged 3 5 false true] = false := by
  decide +kernel

/-! ### the clauses of C12 for every sort -/

/-- **The map iteration order does not matter, whatever the sort**: for any function `sort` at all,
visiting the classes in any order `cs` gives the result of `repairWith sort`. -/
theorem repairWith_order_indep (sort : List Loc → List Loc) (t : Table) (cs : List (List Nat))
    (h : cs.Perm (Table.groups t)) : repairOrdWith sort t cs = repairWith sort t :=
  (repairOrd_permW sort t _ _ h.symm (Table.groups_flatten_nodup t)).symm

example : repairOrdWith (fun xs => sortLocs xs.reverse)
    [gene (ranged 0 2 false true), ⟨"CDS", point 1, []⟩, gene (ranged 2 4 true false)]
    [[1], [0, 2]] = .ok [gene (ranged 0 4 false false), ⟨"CDS", point 1, []⟩] := RepairOutcome.eq_of_decide (by decide +kernel)

/-- **`Repair` never panics, whatever `sort.Sort` returns** (any function `sort`, correct or not):
the result is the explicit table `specRepairW sort t`, or the `nil`-Location outcome. -/
theorem no_panic_with (sort : List Loc → List Loc) (t : Table) :
    repairWith sort t ≠ .panic ∧
    repairWith sort t = if (Table.groups t).any (classNilW sort t) then .nilLoc else .ok (specRepairW sort t) := by
  refine ⟨?_, repair_eqW sort t⟩
  rw [repair_eqW]
  split <;> simp

/-- … and a table is returned whenever no `nil` Location is written; for a sort that permutes,
on every plain table. -/
theorem no_panic_ok_with (sort : List Loc → List Loc) (t : Table) :
    (Table.noNilWith sort t = true → repairWith sort t = .ok (specRepairW sort t)) ∧
    (PermSort sort → Table.plain t = true → repairWith sort t = .ok (specRepairW sort t)) :=
  ⟨fun h => repair_eq_specW sort t ((noNil_iffW sort t).mp h),
   fun hp hpl => repairWith_of_plain sort hp t hpl⟩

example : Table.noNilWith (fun xs => sortLocs xs.reverse) [gene (compl (ranged 0 3 false true)),
    gene (ordered [point 1, point 5]), gene (between 3), gene (joined [ranged 3 6 true false, point 9])] = true := by decide +kernel

/-- **Unchanged, every sort**: whenever no class is reduced by the push loop, `Repair` returns its
argument. -/
theorem unchanged_of_no_reduction_with (sort : List Loc → List Loc) (t : Table)
    (h : ∀ idx ∈ Table.groups t, idx.length ≤ classNW sort t idx) : repairWith sort t = .ok t :=
  repair_unchangedW' sort t h

/-- **Unchanged, every sort that permutes**: a plain table without a mergeable pair is returned as
it is. -/
theorem unchanged_with_partial (sort : List Loc → List Loc) (hp : PermSort sort) (t : Table)
    (hpl : Table.plain t = true) (hm : Table.noMergeablePair t = true) : repairWith sort t = .ok t :=
  repairWith_unchanged_of_unmerged sort hp t hpl hm

/-- non-vacuity: ties (`<1..2` / `1..>2`, duplicates), abutting but complete ranges -/
example : Table.plain [gene (ranged 0 3 false false), gene (ranged 3 6 false false), gene (ranged 1 2 true false),
      gene (ranged 1 2 false true), gene (ranged 1 2 true false)] = true ∧
    Table.noMergeablePair [gene (ranged 0 3 false false), gene (ranged 3 6 false false), gene (ranged 1 2 true false),
      gene (ranged 1 2 false true), gene (ranged 1 2 true false)] = true := by decide +kernel

/-- FULL STATEMENT (false for every correct sort, K12B): `noMergeablePair t → Repair returns t`.
The witness of `unchanged_full_refuted` is tie-free, so every correct sort fuses the two
complement-strand features. -/
theorem unchanged_with_full_refuted (sort : List Loc → List Loc) (hs : CorrectSort sort) :
    ¬ (∀ t : Table, Table.noMergeablePair t = true → repairWith sort t = .ok t) := by
  intro h
  have h1 := h [gene (compl (ranged 0 3 false false)), gene (compl (ranged 5 8 false false))] (by decide +kernel)
  rw [repair_sort_indep_partial sort hs _ (by decide +kernel)] at h1
  exact RepairOutcome.ne_of_decide (by decide +kernel) h1

/-- **Merges are chains, every sort that permutes**: on a plain table the locations of every class
after `Repair` are obtained from a partition of the class's locations into chains (a single
location, or consecutive forward ranges each ending where the next starts with the meeting ends
marked partial — any abutting ranges in a `source` class), each chain replaced by its span.
Which chains are formed may depend on the sort (`repair_sort_indep_plain_refuted`); that they
are chains does not. -/
theorem merge_chains_with_partial (sort : List Loc → List Loc) (hp : PermSort sort) (t t' : Table)
    (hpl : Table.plain t = true) (h : repairWith sort t = .ok t') (k : String) :
    ∃ gs, gs.flatten.Perm (Table.locsOf t k) ∧ ChainsOf (Table.forceOf t k) gs (Table.locsOf t' k) := by
  exact repairWith_chains sort hp t t' hpl h k

/-- non-vacuity: the plain table of `repair_sort_indep_plain_refuted`, on which two correct sorts
form different chains -/
example : Table.plain [gene (ranged 3 5 false true), gene (ranged 3 5 true false), gene (ranged 5 8 true false)] = true ∧
    repair [gene (ranged 3 5 false true), gene (ranged 3 5 true false), gene (ranged 5 8 true false)] =
      .ok [gene (ranged 3 5 false true), gene (ranged 3 5 true false), gene (ranged 5 8 true false)] ∧
    repairWith (fun xs => sortLocs xs.reverse)
      [gene (ranged 3 5 false true), gene (ranged 3 5 true false), gene (ranged 5 8 true false)] =
      .ok [gene (ranged 3 5 true false), gene (ranged 3 8 false false)] := ⟨by decide +kernel, RepairOutcome.eq_of_decide (by decide +kernel), RepairOutcome.eq_of_decide (by decide +kernel)⟩

/-- FULL STATEMENT (false for every correct sort, K12B): chains on all tables. -/
theorem merge_chains_with_full_refuted (sort : List Loc → List Loc) (hs : CorrectSort sort) :
    ¬ (∀ (t t' : Table) (k : String), repairWith sort t = .ok t' →
        ∃ gs, gs.flatten.Perm (Table.locsOf t k) ∧ ChainsOf (Table.forceOf t k) gs (Table.locsOf t' k)) := by
  intro h
  exact not_chains_fused _ (h [gene (compl (ranged 0 3 false false)), gene (compl (ranged 5 8 false false))]
    [gene (compl (joined [ranged 5 8 false false, ranged 0 3 false false]))] "\"gene\":[]"
    (by rw [repair_sort_indep_partial sort hs _ (by decide +kernel)]; exact RepairOutcome.eq_of_decide (by decide +kernel)))

/-- **Key and qualifiers are never invented or mixed, whatever the sort** (any function). -/
theorem result_keys_with (sort : List Loc → List Loc) (t t' : Table) (h : repairWith sort t = .ok t')
    (f' : Feature) (hf : f' ∈ t') : ∃ f ∈ t, f.key = f'.key ∧ f.props = f'.props := by
  obtain ⟨_, rfl⟩ := repair_okW sort t t' h
  exact specRepairW_keys sort t f' hf

/-- **Cover preserved, every sort that permutes**: on well-formed tables, unless rule K2 fires in
the push loop of some class *for the order this sort returns* (`Table.k2With sort`), the set of
(stranded) residues covered by the features of each (key, qualifiers) class is the same before
and after.  (Whether K2 fires can depend on the sort: `k2_depends_on_sort`.) -/
theorem cover_with_partial (sort : List Loc → List Loc) (hp : PermSort sort) (t t' : Table)
    (hw : Table.wfT t = true) (hk2 : Table.k2With sort t = false) (h : repairWith sort t = .ok t')
    (k : String) (x : Pos) : x ∈ Table.classDen t' k ↔ x ∈ Table.classDen t k := by
  exact classDen_repairWith sort hp t t' hw hk2 h k x

/-- non-vacuity, and: the K2 guard depends on the sort.  `0..3`, the base `3` and the one-base
range `3..4` (incomparable with the base): sorted `[0..3, 3, 3..4]` K2 fires (the base is
dropped after the range that ends there — here harmlessly, `3..4` covers it), sorted
`[0..3, 3..4, 3]` it does not. -/
theorem k2_depends_on_sort :
    Table.k2With sortLocs [gene (ranged 0 3 false false), gene (point 3), gene (ranged 3 4 false false)] = true ∧
    Table.k2With (fun xs => sortLocs xs.reverse)
      [gene (ranged 0 3 false false), gene (point 3), gene (ranged 3 4 false false)] = false ∧
    Table.wfT [gene (ranged 0 3 false false), gene (point 3), gene (ranged 3 4 false false)] = true := by
  decide +kernel

/-- FULL STATEMENT (false for every correct sort, K2): the covered residues of a class are
unchanged.  The witness of `cover_full_refuted` is tie-free. -/
theorem cover_with_full_refuted (sort : List Loc → List Loc) (hs : CorrectSort sort) :
    ¬ (∀ (t t' : Table) (k : String) (x : Pos), repairWith sort t = .ok t' →
        (x ∈ Table.classDen t' k ↔ x ∈ Table.classDen t k)) := by
  intro h
  have h1 := h [gene (ranged 0 3 false false), gene (point 3)] [gene (ranged 0 3 false false)] "\"gene\":[]" (3, false)
    (by rw [repair_sort_indep_partial sort hs _ (by decide +kernel)]; exact RepairOutcome.eq_of_decide (by decide +kernel))
  revert h1
  decide +kernel

/-! ### idempotence needs more than a correct sort -/

/-- FULL STATEMENT (false): for every correct sort, `Repair` is idempotent on plain tables of
well-formed locations.  `sort xs := insertion sort of the reversed list` is a correct sort.  On
the table below it sorts the class to `[3..>5, <3..5, <5..8, 10..>12, <12..15]`: the last two
are fused, the first three are not (`<3..5` has no 3' marker), and the four locations are
written back in that order.  Sorting THEM it returns the tie `3..>5` / `<3..5` in the
opposite order, `3..>5` now stands next to `<5..8`, and the second `Repair` fuses them. -/
theorem idempotent_with_full_refuted :
    ¬ (∀ sort : List Loc → List Loc, CorrectSort sort → ∀ t t' : Table, Table.plain t = true → Table.wfT t = true →
        repairWith sort t = .ok t' → repairWith sort t' = .ok t') := by
  intro h
  have h1 := h (fun xs => sortLocs xs.reverse) sortLocs_reverse_correct
    [gene (ranged 3 5 true false), gene (ranged 3 5 false true), gene (ranged 5 8 true false),
      gene (ranged 10 12 false true), gene (ranged 12 15 true false)]
    [gene (ranged 3 5 false true), gene (ranged 3 5 true false), gene (ranged 5 8 true false),
      gene (ranged 10 15 false false)] (by decide +kernel) (by decide +kernel) (RepairOutcome.eq_of_decide (by decide +kernel))
  exact RepairOutcome.ne_of_decide (by decide +kernel) h1

/-- **Idempotent for correct sorts that leave a sorted list alone** (`KeepsSorted`: insertion sort;
Go's pdqsort), on plain tables of well-formed locations. -/
theorem idempotent_with_partial (sort : List Loc → List Loc) (hs : CorrectSort sort) (hk : KeepsSorted sort)
    (t t' : Table) (hp : Table.plain t = true) (hw : Table.wfT t = true)
    (h : repairWith sort t = .ok t') : repairWith sort t' = .ok t' := by
  exact repairWith_idem sort hs hk t t' hp hw h

/-- A recorded sort keeps sorted lists whenever no recorded argument that is already sorted has a
different recorded answer (in particular: when what was recorded comes from a sort that keeps
sorted lists, as pdqsort does). -/
theorem keepsSorted_assocSort (tbl : List (List Loc × List Loc))
    (h : ∀ p ∈ tbl, (p.1.Pairwise fun a b => less b a = false) → p.2 = p.1) : KeepsSorted (assocSort tbl) := by
  intro p hp
  simp only [assocSort]
  split
  · rename_i q hq
    have hmem := List.mem_of_find?_eq_some hq
    have hkey := List.find?_some hq
    have e : q.1 = p := (Loc.beqList_iff _ _).mp hkey
    split
    · rw [← e]; exact h q hmem (e ▸ hp)
    · exact sortLocs_of_sorted p hp
  · exact sortLocs_of_sorted p hp

/-- non-vacuity of `idempotent_with_partial`: a correct sort that keeps sorted lists and is not the
insertion sort (it returns the tie `3` / `3..4` in the other order) … -/
example : KeepsSorted (assocSort [([ranged 5 8 false false, point 3, ranged 3 4 false false],
      [ranged 3 4 false false, point 3, ranged 5 8 false false])]) ∧
    assocSort [([ranged 5 8 false false, point 3, ranged 3 4 false false],
      [ranged 3 4 false false, point 3, ranged 5 8 false false])]
      [ranged 5 8 false false, point 3, ranged 3 4 false false] ≠
    sortLocs [ranged 5 8 false false, point 3, ranged 3 4 false false] := by
  refine ⟨keepsSorted_assocSort _ ?_, ?_⟩
  · intro p hp hs
    simp only [List.mem_singleton] at hp
    subst hp
    have hlt : less (point 3) (ranged 5 8 false false) = false := (List.pairwise_cons.mp hs).1 (point 3) (by simp)
    exact absurd hlt (by decide +kernel)
  · intro h
    have h2 := congrArg (fun l : List Loc => l.head?.map Loc.isRanged) h
    revert h2
    decide +kernel

/-- … and the plain well-formed table of `idempotent_with_full_refuted`. -/
example : Table.plain [gene (ranged 3 5 true false), gene (ranged 3 5 false true), gene (ranged 5 8 true false),
      gene (ranged 10 12 false true), gene (ranged 12 15 true false)] = true ∧
    Table.wfT [gene (ranged 3 5 true false), gene (ranged 3 5 false true), gene (ranged 5 8 true false),
      gene (ranged 10 12 false true), gene (ranged 12 15 true false)] = true := by decide +kernel

/-! ### restoration does not depend on the sort -/

/-- **Restoration, one class, every correct sort**: the fragments of a forward range, standing in
the table in any order, are fused back into the one original range (they are strictly ordered
by their starts: no ties). -/
theorem restore_class_with_partial (sort : List Loc → List Loc) (hs : CorrectSort sort) (force m : Bool)
    (hm : (m || force) = true) (s e : Int) (p5 p3 : Bool)
    (cs : List Int) (hc : cutsOk s e cs) (q : List Loc) (hq : q.Perm (frags m s e p5 p3 cs)) :
    pushedOfWith sort force q = [ranged s e p5 p3] :=
  pushedOfWith_frags sort hs force m hm s e p5 p3 cs hc q hq

/-- **Restoration, every correct sort**: under `Restorable` (forward ranges inside the sequence,
table-unique classes, no `source`, increasing cuts) `slice;…;slice;concat;repair` is the same
for every correct sort — every class of the concatenated table consists of the fragments of one
range, which are strictly ordered — and returns, class by class, the original features. -/
theorem restore_with_partial (sort : List Loc → List Loc) (hs : CorrectSort sort) (s : Seq) (cuts : List Int)
    (h : Restorable s cuts) :
    roundTripWith sort s cuts = roundTrip s cuts ∧
    ∃ t', roundTripWith sort s cuts = .ok t' ∧ ∀ k, Table.featsOf t' k = Table.featsOf s.feats k := by
  exact ⟨roundTripWith_sortLocs s cuts ▸ roundTripWith_eq sort sortLocs hs sortLocs_correct s cuts h,
    roundTripWith_restores sort hs s cuts h⟩

/-- non-vacuity: see `restore_partial`; the concatenated table of that example is tie-free -/
example : Table.tieFreeT (Seq.concat (cutPieces
    ⟨[⟨"gene", ranged 0 7 false true, [["id", "a"]]⟩, ⟨"CDS", ranged 2 5 true false, [["id", "b"]]⟩,
      ⟨"gene", ranged 4 8 false false, [["id", "c"]]⟩], [97, 99, 103, 116, 97, 99, 103, 116]⟩
    [0, 3, 4, 6, 8])).feats = true := by decide +kernel

end Gts.C12
