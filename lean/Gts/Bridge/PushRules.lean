/-
  Bridge: the reduction rules of `(*LocationList).Push`, regenerated from location.go by go2lean
  (Gts/Gen/PushRules.lean), are the rules of the hand-written model `Gts.Loc.pushOne` that the
  join theorems of C06 (and through joins C02–C05, C10, C12) are about — for every pair of
  locations, every `force`, every accumulator.

  What is tied here: all 49 (kind of last element, kind of pushed element) pairs: the nine clauses
  that can return (their conditions, what the last element becomes) and the fall-through to
  "append" for every other pair.  The Complemented/Complemented clause calls `Push` and `Join`
  recursively; its statements are recognised one by one by the extractor (`pushComplClause`), and
  the statements around the switch likewise (`pushFrame`); their recursion structure
  (`pushW` / `pushListW` / `pushD`) stays tied by the correspondence run.
-/
import Gts.Gen.PushRules
import Gts.Model.Loc
namespace Gts.Bridge
open Gts

/-- the frame of `Push` around the rule table is the one the model's `pushW` / `pushOne` follow:
walk to the last cell, flatten a pushed `Joined` (recursively), first element, rules, append -/
theorem pushFrame_eq :
    Gen.pushFrame = ["walk-to-last", "flatten-pushed-joined", "first-element", "rules", "append"] := rfl

/-- the Complemented/Complemented clause has the statements the model's `pushOne` mirrors -/
theorem pushComplClause_eq : Gen.pushComplClause = "as-modelled" := rfl

def isCompl : Loc → Bool
  | .compl _ => true
  | _ => false

/-- **the rule table**: on a non-empty accumulator whose last element is `v`, pushing a
non-`Joined` element `u` (not the Complemented/Complemented pair) does what the nested type switch
of the current location.go says: replace the last element (possibly by itself: `u` is dropped), or
append. -/
theorem pushOne_rule (low : List Loc → Loc → Bool → List Loc) (v : Loc) (rest : List Loc) (u : Loc)
    (force : Bool) (h : (isCompl v && isCompl u) = false) :
    Loc.pushOne low (v :: rest) u force =
      match Gen.pushRule v u force with
      | some d => d :: rest
      | none => u :: v :: rest := by
  -- 40 pairs fall through to "append" on both sides; the nine clauses have the same condition, the
  -- ranged/ranged one spelled with `&&`, `||`, `==` in the model
  cases v <;> cases u <;>
    first
      | rfl
      | exact Bool.noConfusion h
      | (simp only [Loc.pushOne, Gen.pushRule, Bool.and_eq_true, Bool.or_eq_true, beq_iff_eq]; split <;> rfl)

/-- on the empty accumulator the pushed element is the list (`first-element`) -/
theorem pushOne_nil (low : List Loc → Loc → Bool → List Loc) (u : Loc) (force : Bool) :
    Loc.pushOne low [] u force = [u] := rfl

/-- the Complemented/Complemented pair is not a rule of the table -/
theorem pushRule_compl (a b : Loc) (force : Bool) : Gen.pushRule (.compl a) (.compl b) force = none := rfl

end Gts.Bridge
