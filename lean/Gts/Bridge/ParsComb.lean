/-
  C07 / C06 bridge (DESIGN.md 4.1a): four COMBINATORS of go-pars v1.1.6 — `Parser.Map`, `pars.Dry`, `pars.Maybe`, `pars.Any` —
  regenerated statement by statement on every run (`Gts/Gen/Pars.lean`, generator go2lean/gparsfn.go), with the parsers
  they are built from as parameters (`GoParser`: a function on the regenerated state that may panic), are
  `ModParse.mapP` and `LocParse.anyOf` of the model — the two combinators every location / modifier / locator parser
  of C06 / C07 is built from — and the readings `dryP` / `maybeP` the GenBank model inlines.

  `SimP pend val p m`: the Go parser `p` simulates the model parser `m` from every state that meets `Inv` (`Agree`,
  Gts/Bridge/ParsPrim.lean).  `map_sim`, `dry_sim`, `maybe_sim`, `any_sim`: the combinator applied to parsers that
  simulate model parsers simulates the model's combinator applied to those — so `Push` / `Pop` / `Drop` / `Pushed` stand
  where the model has them: `Any` tries each alternative from wherever the previous one left the state and gives up at
  once when a failing alternative left nothing pushed (the HARD failure the GenBank reader relies on); `Map` pops on a
  failure and drops BEFORE the mapping runs.  `map_sim_at` is the pointwise form (a fuelled parser simulates only where
  the fuel suffices); `point_sim`: `pars.Parser(pars.Int).Map(…)` of location.go is `LocParse.point`.
  `Many`, `Quoted` stay with the facts (`pars_<Function>`); `pars.Seq` / `Child` / `Exact` are bridged in
  `Bridge/ParsSeq.lean`, `Until(parser)` in `Bridge/ParsUntil.lean`.

  SCOPE (audit S5).  `SimP` asks for agreement from EVERY `Inv` state; every fuelled primitive (`parsInt env fuel`, `parsSpaces`,
  `parsWord`, `parsLine`, `parsUntil*`) simulates its model parser only where fewer bytes than the fuel are left, so `SimP` is FALSE
  for every parser that contains one (`int_not_simP`) and `map_sim`, `dry_sim`, `maybe_sim`, `any_sim` — true as stated — reach
  loop-free inner parsers only, NOT "every location / modifier / locator parser".  The section "bounded simulation" has the forms
  that do: `SimPUpTo L` (every `Inv` state whose abstraction meets `Pars.Fr L [] 0`: position and every saved position within `L`,
  sorted), `map_simUpTo`, `dry_simUpTo`, `maybe_simUpTo`, `any_simUpTo`, the primitives' `int_simUpTo` / `tokens_simUpTo` /
  `byte_simUpTo` for `L < fuel`, and `any_int_point_simUpTo`: the shape of `ParseLocation` with an `Int`-based alternative.
-/
import Gts.Bridge.ParsPrim
import Gts.Lemmas.Fuel
namespace Gts.Bridge
open Gts.Gen.GoPars
open Gts.Pars (PS Bytes Err)

section Comb
variable {ρ ε : Type}

/-- a Go parser held in a variable simulates a model parser: from every state that meets the invariant -/
def SimP {α : Type} (pend : ρ → Option ε → Bytes) (val : α → ResultV → Prop) (p : GoParser ρ ε) (m : Pars.P α) : Prop :=
  ∀ (g : State ρ ε) (res : ResultV), Inv g → Agree pend val (p g res) (m.run' (absState pend g))

/-- a Go parser whose answer `r` agrees with the model run of `m`, then `K` on what it answered (state, result, error), against
the model's `attempt m >>= k`: the continuations agree after a success and after a failure (each is told how the model's run
ended); a panic is a panic.  Every combinator of go-pars that looks at the error of an inner parser has this shape. -/
theorem Agree.attempt_bind {α β : Type} {pend : ρ → Option ε → Bytes} {val : α → ResultV → Prop}
    {val' : β → ResultV → Prop} {r : Option (State ρ ε × ResultV × Option ε)} {m : Pars.P α} {s : PS}
    (h : Agree pend val r (m.run' s))
    {K : State ρ ε × ResultV × Option ε → Option (State ρ ε × ResultV × Option ε)} {k : Option α → Pars.P β}
    (hok : ∀ a g' res, val a res → Inv g' → m.run' s = (.ok a, absState pend g') →
      Agree pend val' (K (g', res, none)) ((k (some a)).run' (absState pend g')))
    (hfail : ∀ g' res e, Inv g' → m.run' s = (.error .fail, absState pend g') →
      Agree pend val' (K (g', res, some e)) ((k none).run' (absState pend g'))) :
    Agree pend val' (r.bind K) ((Pars.attempt m >>= k).run' s) := by
  rw [Pars.run_bind, Pars.run_attempt]
  generalize m.run' s = mr at h hok hfail
  obtain ⟨o, s'⟩ := mr
  rcases o with e | a
  · cases e with
    | fail =>
      obtain ⟨g', res, e, rfl, hi, rfl⟩ := h
      exact hfail g' res e hi rfl
    | panic => cases (show r = none from h); rfl
  · obtain ⟨g', res, rfl, hv, hi, rfl⟩ := h
    exact hok a g' res hv hi rfl

/-- what a loop does with the answer of one round -/
def flowCont {σ R : Type} (next exit : σ → Option R) : Flow σ R → Option R
  | .next s => next s
  | .done s => exit s
  | .ret r => some r

/-- one round of a generated loop is a `bind`: the round, then the rest of the loop on what it answered — so that the rules
for straight-line code (`Agree.step`, `Agree.attempt_bind`) apply to loop bodies -/
theorem loop_succ {σ R : Type} (body : σ → Option (Flow σ R)) (exit : σ → Option R) (fuel : Nat) (s : σ) :
    loop body exit (fuel + 1) s = (body s).bind (flowCont (loop body exit fuel) exit) := by
  rw [loop]
  cases body s with
  | none => rfl
  | some f => cases f <;> rfl

theorem rangeLoop_cons {α σ R : Type} (body : α → σ → Option (Flow σ R)) (exit : σ → Option R) (x : α) (xs : List α)
    (s : σ) : rangeLoop body exit (x :: xs) s = (body x s).bind (flowCont (rangeLoop body exit xs) exit) := by
  rw [rangeLoop]
  cases body x s with
  | none => rfl
  | some f => cases f <;> rfl

theorem rangeLoopIdx_cons {α σ R : Type} (body : Int → α → σ → Option (Flow σ R)) (exit : σ → Option R) (i : Int) (x : α)
    (xs : List α) (s : σ) :
    rangeLoopIdx body exit i (x :: xs) s = (body i x s).bind (flowCont (rangeLoopIdx body exit (i + 1) xs) exit) := by
  rw [rangeLoopIdx]
  cases body i x s with
  | none => rfl
  | some f => cases f <;> rfl

theorem Agree.weaken_val {α : Type} {pend : ρ → Option ε → Bytes} {val val' : α → ResultV → Prop}
    {r : Option (State ρ ε × ResultV × Option ε)} {m : Except Err α × PS} (h : Agree pend val r m)
    (hv : ∀ a x, val a x → val' a x) : Agree pend val' r m := by
  obtain ⟨o, s⟩ := m
  cases o with
  | ok a => exact h.imp fun _ => Exists.imp fun x h' => ⟨h'.1, hv a x h'.2.1, h'.2.2⟩
  | error e => cases e <;> exact h

/-- `Push` keeps the bound -/
theorem fr_push {L : Nat} {s : PS} (h : Pars.Fr L [] 0 s) : Pars.Fr L [] 0 ⟨s.rest, s.rest :: s.stk⟩ := by
  have : Pars.WP Pars.push (fun _ s' => Pars.Fr L [] 0 s') s := Pars.wp_push h (fun _ h' => h'.weaken)
  exact this

/-- a `Safe` model parser keeps the bound -/
theorem fr_keeps {α : Type} {m : Pars.P α} (hm : Pars.Safe m) {L : Nat} {s : PS} (h : Pars.Fr L [] 0 s) :
    Pars.Fr L [] 0 (m.run' s).2 := (hm L [] 0 s h).2

/-- `Parser.Map(f)` with a mapping that MAY PANIC (`parsMapP`: the same Go statements as `parsMap`, read at the more general type)
= `ModParse.mapP` at one state, for a parser that simulates from the state `Push` leaves and a mapping that neither fails nor
panics on what that parser answers -/
theorem mapP_sim_pushed {α β : Type} (pend : ρ → Option ε → Bytes) (val : α → ResultV → Prop) (val' : β → ResultV → Prop)
    (p : GoParser ρ ε) (m : Pars.P α) (g : State ρ ε) (res : ResultV) (h : Inv g)
    (hp : ∀ g1, statePush g = some g1 → Inv g1 →
      absState pend g1 = ⟨(absState pend g).rest, (absState pend g).rest :: (absState pend g).stk⟩ →
      Agree pend val (p g1 res) (m.run' (absState pend g1)))
    (f : ResultV → Option (ResultV × Option ε)) (fn : α → β)
    (hf : ∀ a r, val a r → ∃ r', f r = some (r', none) ∧ val' (fn a) r') :
    Agree pend val' (parsMapP p f g res) ((ModParse.mapP m fn).run' (absState pend g)) := by
  refine Agree.step (push_sim pend g h) fun g1 hpu hinv1 habs1 => ?_
  refine (hp g1 hpu hinv1 habs1).attempt_bind ?_ ?_
  · intro a g2 res2 hv hinv2 _
    obtain ⟨r', hf1, hf2⟩ := hf a res2 hv
    refine Agree.step (drop_sim pend g2 hinv2) fun g3 _ hinv3 _ => ?_
    dsimp only
    rw [hf1]
    exact ⟨g3, r', rfl, hf2, hinv3, rfl⟩
  · intro g2 res2 e2 hinv2 _
    refine Agree.step (pop_sim pend g2 hinv2) fun g3 _ hinv3 _ => ?_
    exact ⟨g3, res2, e2, rfl, hinv3, rfl⟩

/-- `Parser.Map(f)` = `ModParse.mapP` at one state, for a mapping that cannot fail on what the parser answers: `parsMap p f` is
`parsMapP p (some ∘ f)` by definition -/
theorem map_sim_pushed {α β : Type} (pend : ρ → Option ε → Bytes) (val : α → ResultV → Prop) (val' : β → ResultV → Prop)
    (p : GoParser ρ ε) (m : Pars.P α) (g : State ρ ε) (res : ResultV) (h : Inv g)
    (hp : ∀ g1, Inv g1 →
      absState pend g1 = ⟨(absState pend g).rest, (absState pend g).rest :: (absState pend g).stk⟩ →
      Agree pend val (p g1 res) (m.run' (absState pend g1)))
    (f : ResultV → ResultV × Option ε) (fn : α → β) (hf : ∀ a r, val a r → (f r).2 = none ∧ val' (fn a) (f r).1) :
    Agree pend val' (parsMap p f g res) ((ModParse.mapP m fn).run' (absState pend g)) :=
  mapP_sim_pushed pend val val' p m g res h (fun g1 _ => hp g1) (fun r => some (f r)) fn
    fun a r hv => ⟨(f r).1, congrArg some (Prod.ext rfl (hf a r hv).1), (hf a r hv).2⟩

/-- … for a parser that simulates from every state with the same position -/
theorem map_sim_at {α β : Type} (pend : ρ → Option ε → Bytes) (val : α → ResultV → Prop) (val' : β → ResultV → Prop)
    (p : GoParser ρ ε) (m : Pars.P α) (g : State ρ ε) (res : ResultV) (h : Inv g)
    (hp : ∀ g1, Inv g1 → (absState pend g1).rest = (absState pend g).rest →
      Agree pend val (p g1 res) (m.run' (absState pend g1)))
    (f : ResultV → ResultV × Option ε) (fn : α → β) (hf : ∀ a r, val a r → (f r).2 = none ∧ val' (fn a) (f r).1) :
    Agree pend val' (parsMap p f g res) ((ModParse.mapP m fn).run' (absState pend g)) :=
  map_sim_pushed pend val val' p m g res h (fun g1 h1 ha => hp g1 h1 (by rw [ha])) f fn hf

/-- `Parser.Map(f)` = `ModParse.mapP`, for every parser that simulates a model parser from every state -/
theorem map_sim {α β : Type} (pend : ρ → Option ε → Bytes) (val : α → ResultV → Prop) (val' : β → ResultV → Prop)
    (p : GoParser ρ ε) (m : Pars.P α) (hp : SimP pend val p m)
    (f : ResultV → ResultV × Option ε) (fn : α → β) (hf : ∀ a r, val a r → (f r).2 = none ∧ val' (fn a) (f r).1) :
    SimP pend val' (parsMap p f) (ModParse.mapP m fn) :=
  fun g res h => map_sim_pushed pend val val' p m g res h (fun g1 h1 _ => hp g1 res h1) f fn hf

/-- how the model reads `pars.Dry(q)` (inlined in `GenBank.fieldPadding`): run `q`, go back, keep its verdict -/
def dryP {α : Type} (m : Pars.P α) : Pars.P α := do
  Pars.push
  match ← Pars.attempt m with
  | some a => do Pars.pop; pure a
  | none => do Pars.pop; Pars.fail

/-- how the model reads `pars.Maybe(q)` (inlined in `GenBank.divisionParser`): a failure of `q` is "nothing", with the position
restored — unless `q` cleared the saved positions -/
def maybeP {α : Type} (m : Pars.P α) : Pars.P (Option α) := do
  Pars.push
  match ← Pars.attempt m with
  | some a => do Pars.drop; pure (some a)
  | none => do
    if !(← Pars.pushed) then Pars.fail
    Pars.pop
    pure none

theorem dry_sim_pushed {α : Type} (pend : ρ → Option ε → Bytes) (val : α → ResultV → Prop)
    (p : GoParser ρ ε) (m : Pars.P α) (g : State ρ ε) (res : ResultV) (h : Inv g)
    (hp : ∀ g1, Inv g1 →
      absState pend g1 = ⟨(absState pend g).rest, (absState pend g).rest :: (absState pend g).stk⟩ →
      Agree pend val (p g1 res) (m.run' (absState pend g1))) :
    Agree pend val (parsDry p g res) ((dryP m).run' (absState pend g)) := by
  refine Agree.step (push_sim pend g h) fun g1 _ hinv1 habs1 => ?_
  refine (hp g1 hinv1 habs1).attempt_bind ?_ ?_
  · intro a g2 res2 hv hinv2 _
    refine Agree.step (pop_sim pend g2 hinv2) fun g3 _ hinv3 _ => ?_
    exact ⟨g3, res2, rfl, hv, hinv3, rfl⟩
  · intro g2 res2 e2 hinv2 _
    refine Agree.step (pop_sim pend g2 hinv2) fun g3 _ hinv3 _ => ?_
    exact ⟨g3, res2, e2, rfl, hinv3, rfl⟩

/-- `pars.Dry(q)` = `dryP`: `Pop` on both outcomes -/
theorem dry_sim {α : Type} (pend : ρ → Option ε → Bytes) (val : α → ResultV → Prop)
    (p : GoParser ρ ε) (m : Pars.P α) (hp : SimP pend val p m) : SimP pend val (parsDry p) (dryP m) :=
  fun g res h => dry_sim_pushed pend val p m g res h fun g1 h1 _ => hp g1 res h1

theorem maybe_sim_pushed {α : Type} (env : Env ρ ε) (pend : ρ → Option ε → Bytes) (val : α → ResultV → Prop)
    (p : GoParser ρ ε) (m : Pars.P α) (g : State ρ ε) (res : ResultV) (h : Inv g)
    (hp : ∀ g1, Inv g1 →
      absState pend g1 = ⟨(absState pend g).rest, (absState pend g).rest :: (absState pend g).stk⟩ →
      Agree pend val (p g1 res) (m.run' (absState pend g1))) :
    Agree pend (fun o r => ∀ a, o = some a → val a r) (parsMaybe env p g res) ((maybeP m).run' (absState pend g)) := by
  refine Agree.step (push_sim pend g h) fun g1 _ hinv1 habs1 => ?_
  refine (hp g1 hinv1 habs1).attempt_bind ?_ ?_
  · intro a g2 res2 hv hinv2 _
    refine Agree.step (drop_sim pend g2 hinv2) fun g3 _ hinv3 _ => ?_
    exact ⟨g3, res2, rfl, fun b hb => Option.some.inj hb ▸ hv, hinv3, rfl⟩
  · intro g2 res2 e2 hinv2 _
    rw [Pars.run_bind, Pars.run_pushed]
    simp only [Option.isSome_some, if_true, statePushed_eq pend g2 hinv2]
    cases (absState pend g2).stk.isEmpty with
    | true => exact ⟨g2, res2, env.mkErr, rfl, hinv2, rfl⟩
    | false =>
      refine Agree.step (k := fun _ => pure none) (pop_sim pend g2 hinv2) fun g3 _ hinv3 _ => ?_
      exact ⟨g3, res2, rfl, (by intro b hb; cases hb), hinv3, rfl⟩

/-- `pars.Maybe(q)` = `maybeP`: success `Drop`s; a failure `Pop`s and is no error — unless nothing is pushed any more -/
theorem maybe_sim {α : Type} (env : Env ρ ε) (pend : ρ → Option ε → Bytes) (val : α → ResultV → Prop)
    (p : GoParser ρ ε) (m : Pars.P α) (hp : SimP pend val p m) :
    SimP pend (fun o r => ∀ a, o = some a → val a r) (parsMaybe env p) (maybeP m) :=
  fun g res h => maybe_sim_pushed env pend val p m g res h fun g1 h1 _ => hp g1 res h1

/-- the loop of `pars.Any` = `anyOf.go`: every alternative from wherever the previous one left the state; the first success
drops the frame; a failure with nothing pushed any more is final; all failed: `Pop`.  `R p m` says that `p` simulates `m` from the
states whose abstraction meets `Q`, and that `m` keeps `Q` -/
theorem any_loop_on {α : Type} (env : Env ρ ε) (pend : ρ → Option ε → Bytes) (val : α → ResultV → Prop)
    (Q : PS → Prop) (R : GoParser ρ ε → Pars.P α → Prop)
    (hR : ∀ p m, R p m → (∀ g res, Inv g → Q (absState pend g) → Agree pend val (p g res) (m.run' (absState pend g))) ∧
      ∀ s, Q s → Q (m.run' s).2)
    (all : List (GoParser ρ ε)) :
    ∀ (ps : List (GoParser ρ ε)) (ms : List (Pars.P α)), Pars.All2 R ps ms →
      ∀ (g : State ρ ε) (res : ResultV) (err : Option ε), Inv g → Q (absState pend g) →
        Agree pend val (rangeLoop (parsAny_body1 env all) (parsAny_exit1 env all) ps (g, res, err))
          ((LocParse.anyOf.go ms).run' (absState pend g)) := by
  intro ps ms h2
  induction h2 with
  | nil =>
    intro g res err h _
    exact Agree.step (k := fun _ => Pars.fail) (pop_sim pend g h) fun g1 _ hinv1 _ => ⟨g1, res, env.mkErr, rfl, hinv1, rfl⟩
  | @cons p m ps ms hpm _ ih =>
    intro g res err h hq
    have hk := (hR p m hpm).2 _ hq
    rw [LocParse.anyOf.go, rangeLoop_cons]
    unfold parsAny_body1
    dsimp only
    rw [Option.bind_assoc]
    refine ((hR p m hpm).1 g res h hq).attempt_bind ?_ ?_
    · intro a g2 res2 hv hinv2 _
      dsimp only
      rw [if_pos (show (none : Option ε).isNone = true from rfl), Option.bind_assoc]
      exact Agree.step (drop_sim pend g2 hinv2) fun g3 _ hinv3 _ => ⟨g3, res2, rfl, hv, hinv3, rfl⟩
    · intro g2 res2 e2 hinv2 hrun
      rw [hrun] at hk
      dsimp only
      rw [if_neg (show ¬ ((some e2).isNone = true) from Bool.false_ne_true), statePushed_eq pend g2 hinv2, Pars.run_bind,
        Pars.run_pushed]
      cases (absState pend g2).stk.isEmpty with
      | true => exact ⟨g2, res2, env.mkErr, rfl, hinv2, rfl⟩
      | false => exact ih g2 res2 (some e2) hinv2 hk

theorem any_loop {α : Type} (env : Env ρ ε) (pend : ρ → Option ε → Bytes) (val : α → ResultV → Prop)
    (all : List (GoParser ρ ε)) :
    ∀ (ps : List (GoParser ρ ε)) (ms : List (Pars.P α)), Pars.All2 (fun p m => SimP pend val p m) ps ms →
      ∀ (g : State ρ ε) (res : ResultV) (err : Option ε), Inv g →
        Agree pend val (rangeLoop (parsAny_body1 env all) (parsAny_exit1 env all) ps (g, res, err))
          ((LocParse.anyOf.go ms).run' (absState pend g)) :=
  fun ps ms h2 g res err h =>
    any_loop_on env pend val (fun _ => True) _ (fun _ _ hpm => ⟨fun g res h _ => hpm g res h, fun _ _ => trivial⟩) all ps ms h2
      g res err h trivial

/-- `pars.Any(q…)` = `LocParse.anyOf`: for every list of parsers that simulate model parsers one by one -/
theorem any_sim {α : Type} (env : Env ρ ε) (pend : ρ → Option ε → Bytes) (val : α → ResultV → Prop)
    (ps : List (GoParser ρ ε)) (ms : List (Pars.P α)) (h2 : Pars.All2 (fun p m => SimP pend val p m) ps ms) :
    SimP pend val (parsAny env ps) (LocParse.anyOf ms) :=
  fun g res h => Agree.step (push_sim pend g h) fun g1 _ hinv1 _ => any_loop env pend val ps ps ms h2 g1 res none hinv1

/-! ### bounded simulation (audit S5)

`SimP` asks for agreement from EVERY state that meets `Inv`.  No parser that contains a fuelled primitive (`parsInt env fuel`,
`parsSpaces`, `parsWord`, `parsLine`, `parsUntil*`) has it: for every fuel there is a longer input, on which the generated loop is
left "as if its condition were false" (`int_not_simP` below).  So `map_sim`, `dry_sim`, `maybe_sim`, `any_sim` above — true as
stated — apply to loop-free inner parsers only (`pars.Any(" bp", " aa")`, `pars.Dry(pars.EOL)`).  `SimPUpTo L` is the form the
fuelled primitives DO have for `L < fuel`: agreement from every `Inv` state whose abstraction meets `Fr L [] 0` — the position
and EVERY saved position have at most `L` bytes left (an inner parser may `Pop` back to a saved position), and the saved
positions are sorted: the invariant of the never-panic proofs (Gts/Lemmas/ParsSafe.lean).  The combinators keep it: `Map`, `Dry`,
`Maybe` run their parser once, behind a `Push` (which keeps `Fr L [] 0`); `Any` runs each alternative from where the previous
one left the state, so its alternatives are asked to be `Safe` on the model side (every model parser of gts is:
`Pars.int_safe`, `byte_safe`, `anyOf_safe`, `mapP_safe`, …), which carries `Fr L [] 0` from one alternative to the next. -/

/-- the Go parser `p` simulates the model parser `m` from every state that meets `Inv` and whose abstraction has at most `L`
bytes left at the position and at every saved position, saved positions sorted (`Pars.Fr L [] 0`) -/
def SimPUpTo {α : Type} (L : Nat) (pend : ρ → Option ε → Bytes) (val : α → ResultV → Prop) (p : GoParser ρ ε)
    (m : Pars.P α) : Prop :=
  ∀ (g : State ρ ε) (res : ResultV), Inv g → Pars.Fr L [] 0 (absState pend g) →
    Agree pend val (p g res) (m.run' (absState pend g))

/-- the unbounded form gives every bounded one -/
theorem SimP.upTo {α : Type} {pend : ρ → Option ε → Bytes} {val : α → ResultV → Prop} {p : GoParser ρ ε} {m : Pars.P α}
    (h : SimP pend val p m) (L : Nat) : SimPUpTo L pend val p m := fun g res hi _ => h g res hi

/-- `Parser.Map(f)` = `ModParse.mapP`, BOUNDED: for a parser that simulates a model parser up to `L` (e.g. `parsInt env fuel`,
`L < fuel`).  Against `map_sim`: the hypothesis and the conclusion are `SimPUpTo L` instead of `SimP` — `SimP` is
false for every fuelled primitive, `SimPUpTo L` is what `int_sim` … give. -/
theorem map_simUpTo {α β : Type} (L : Nat) (pend : ρ → Option ε → Bytes) (val : α → ResultV → Prop)
    (val' : β → ResultV → Prop) (p : GoParser ρ ε) (m : Pars.P α) (hp : SimPUpTo L pend val p m)
    (f : ResultV → ResultV × Option ε) (fn : α → β) (hf : ∀ a r, val a r → (f r).2 = none ∧ val' (fn a) (f r).1) :
    SimPUpTo L pend val' (parsMap p f) (ModParse.mapP m fn) :=
  fun g res h hb => map_sim_pushed pend val val' p m g res h
    (fun g1 h1 ha => hp g1 res h1 (by rw [ha]; exact fr_push hb)) f fn hf

/-- `pars.Dry(q)` = `dryP`, BOUNDED (against `dry_sim`: `SimPUpTo L` for `SimP`, on both sides) -/
theorem dry_simUpTo {α : Type} (L : Nat) (pend : ρ → Option ε → Bytes) (val : α → ResultV → Prop)
    (p : GoParser ρ ε) (m : Pars.P α) (hp : SimPUpTo L pend val p m) : SimPUpTo L pend val (parsDry p) (dryP m) :=
  fun g res h hb => dry_sim_pushed pend val p m g res h fun g1 h1 ha => hp g1 res h1 (by rw [ha]; exact fr_push hb)

/-- `pars.Maybe(q)` = `maybeP`, BOUNDED (against `maybe_sim`: `SimPUpTo L` for `SimP`, on both sides) -/
theorem maybe_simUpTo {α : Type} (L : Nat) (env : Env ρ ε) (pend : ρ → Option ε → Bytes) (val : α → ResultV → Prop)
    (p : GoParser ρ ε) (m : Pars.P α) (hp : SimPUpTo L pend val p m) :
    SimPUpTo L pend (fun o r => ∀ a, o = some a → val a r) (parsMaybe env p) (maybeP m) :=
  fun g res h hb => maybe_sim_pushed env pend val p m g res h fun g1 h1 ha => hp g1 res h1 (by rw [ha]; exact fr_push hb)

/-- the loop of `pars.Any`, BOUNDED: every alternative simulates up to `L` and its model parser is `Safe`, which carries the
bound to the state the next alternative starts from -/
theorem any_loopUpTo {α : Type} (L : Nat) (env : Env ρ ε) (pend : ρ → Option ε → Bytes) (val : α → ResultV → Prop)
    (all : List (GoParser ρ ε)) :
    ∀ (ps : List (GoParser ρ ε)) (ms : List (Pars.P α)),
      Pars.All2 (fun p m => SimPUpTo L pend val p m ∧ Pars.Safe m) ps ms →
      ∀ (g : State ρ ε) (res : ResultV) (err : Option ε), Inv g → Pars.Fr L [] 0 (absState pend g) →
        Agree pend val (rangeLoop (parsAny_body1 env all) (parsAny_exit1 env all) ps (g, res, err))
          ((LocParse.anyOf.go ms).run' (absState pend g)) :=
  any_loop_on env pend val (Pars.Fr L [] 0) _ (fun _ _ hpm => ⟨hpm.1, fun _ hb => fr_keeps hpm.2 hb⟩) all

/-- `pars.Any(q…)` = `LocParse.anyOf`, BOUNDED: for every list of parsers that simulate model parsers up to `L`, one by one, the
model parsers `Safe`.  Against `any_sim`: `SimPUpTo L` for `SimP` on both sides (so alternatives built on `pars.Int`,
`Spaces`, `Word`, `Line`, `Until` qualify for `L < fuel`), and the added hypothesis `Safe` on the model alternatives — needed because
alternative `k+1` starts where alternative `k` left the state, and the bound must still hold there. -/
theorem any_simUpTo {α : Type} (L : Nat) (env : Env ρ ε) (pend : ρ → Option ε → Bytes) (val : α → ResultV → Prop)
    (ps : List (GoParser ρ ε)) (ms : List (Pars.P α))
    (h2 : Pars.All2 (fun p m => SimPUpTo L pend val p m ∧ Pars.Safe m) ps ms) :
    SimPUpTo L pend val (parsAny env ps) (LocParse.anyOf ms) :=
  fun g res h hb => Agree.step (push_sim pend g h) fun g1 _ hinv1 habs1 =>
    any_loopUpTo L env pend val ps ps ms h2 g1 res none hinv1 (by rw [habs1]; exact fr_push hb)

/-- THE PRIMITIVES GIVE `SimPUpTo`: `pars.Int` with more loop fuel than the bound -/
theorem int_simUpTo (L : Nat) (env : Env ρ ε) (pend : ρ → Option ε → Bytes) (hf : FillOk env pend) (he : EnvOk env)
    (fuel : Nat) (hfu : L < fuel) : SimPUpTo L pend (fun n r => r = ResultV.int n) (parsInt env fuel) Pars.int :=
  fun g res h hb => int_sim env pend hf he g h fuel (Nat.lt_of_le_of_lt hb.le hfu) res

/-- … `pars.Spaces`, `pars.Word(f)`, `pars.Line`, `pars.Until(filter)`, `pars.Until(byte)` likewise -/
theorem tokens_simUpTo (L : Nat) (env : Env ρ ε) (pend : ρ → Option ε → Bytes) (hf : FillOk env pend) (he : EnvOk env)
    (fuel : Nat) (hfu : L < fuel) (f : UInt8 → Bool) (e : UInt8) :
    SimPUpTo L pend (fun p r => r = ResultV.token p) (parsSpaces env fuel) Pars.spaces ∧
    SimPUpTo L pend (fun p r => r = ResultV.token p) (parsWord env fuel f) (Pars.word f) ∧
    SimPUpTo L pend (fun p r => r = ResultV.token p) (parsLine env fuel) Pars.line ∧
    SimPUpTo L pend (fun p r => r = ResultV.token p) (parsUntilFilter env fuel f) (Pars.untilFilter f) ∧
    SimPUpTo L pend (fun p r => r = ResultV.token p) (parsUntilByte env fuel e) (Pars.untilFilter (· == e)) :=
  ⟨fun g res h hb => spaces_sim env pend hf he g h fuel (Nat.lt_of_le_of_lt hb.le hfu) res,
   fun g res h hb => word_sim env pend hf f g h fuel (Nat.lt_of_le_of_lt hb.le hfu) res,
   fun g res h hb => line_sim env pend hf g h fuel (Nat.lt_of_le_of_lt hb.le hfu) res,
   fun g res h hb => untilFilter_sim env pend hf f g h fuel (Nat.lt_of_le_of_lt hb.le hfu) res,
   fun g res h hb => untilByte_sim env pend hf e g h fuel (Nat.lt_of_le_of_lt hb.le hfu) res⟩

/-- … and the loop-free ones (`pars.Byte`) at every bound -/
theorem byte_simUpTo (L : Nat) (env : Env ρ ε) (pend : ρ → Option ε → Bytes) (hf : FillOk env pend) (c : UInt8) :
    SimPUpTo L pend (fun _ r => r = ResultV.token [c]) (parsByte env c) (ModParse.byte c) :=
  fun g res h _ => byte_sim env pend hf c g h res

theorem SimPUpTo.mono {α : Type} {L : Nat} {pend : ρ → Option ε → Bytes} {val val' : α → ResultV → Prop}
    {p : GoParser ρ ε} {m : Pars.P α} (h : SimPUpTo L pend val p m) (hv : ∀ a r, val a r → val' a r) :
    SimPUpTo L pend val' p m :=
  fun g res hi hb => (h g res hi hb).weaken_val hv

/-- `parsePoint = pars.Parser(pars.Int).Map(…)` (location.go) = `LocParse.point`: `Int` under `Map`, for every mapping that
turns the integer `n` into the value standing for `Point(n - 1)` and cannot fail -/
theorem point_sim (env : Env ρ ε) (pend : ρ → Option ε → Bytes) (hf : FillOk env pend) (he : EnvOk env)
    (val' : Loc → ResultV → Prop) (f : ResultV → ResultV × Option ε)
    (hmap : ∀ n, (f (ResultV.int n)).2 = none ∧ val' (.point (n - 1)) (f (ResultV.int n)).1)
    (g : State ρ ε) (h : Inv g) (fuel : Nat) (hfu : (absState pend g).rest.length < fuel) (res : ResultV) :
    Agree pend val' (parsMap (parsInt env fuel) f g res) (LocParse.point.run' (absState pend g)) := by
  have : LocParse.point.run' (absState pend g) = (ModParse.mapP Pars.int (fun v => Loc.point (v - 1))).run' (absState pend g) := by
    unfold LocParse.point ModParse.mapP
    simp only [Pars.run_bind, Pars.run_push]
    rcases (Pars.attempt Pars.int).run' _ with ⟨_ | v, s2⟩
    · rfl
    · cases v <;> rfl
  rw [this]
  refine map_sim_at pend (fun n r => r = ResultV.int n) val' (parsInt env fuel) Pars.int g res h ?_ f _ ?_
  · intro g1 h1 hr
    exact int_sim env pend hf he g1 h1 fuel (by rw [hr]; exact hfu) res
  · intro a r hr; subst hr; exact hmap a
end Comb

/-- `SimP` IS FALSE OF A FUELLED PRIMITIVE (audit S5): `parsInt demoEnv 2` on `12345` leaves its loop after two rounds and answers
`12`, the model's `Pars.int` answers `12345` — so no parser that contains `pars.Int` meets the hypotheses of `map_sim`, `dry_sim`,
`maybe_sim`, `any_sim`; `SimPUpTo L` with `L < fuel` is the form that holds (`int_simUpTo`). -/
theorem int_not_simP : ¬ SimP demoPend (fun n r => r = ResultV.int n) (parsInt demoEnv 2) Pars.int := by
  intro h
  have h1 := h (freshState [] [49, 50, 51, 52, 53]) .unset (fresh_inv _ _)
  rw [fresh_abs, show Pars.int.run' ⟨[49, 50, 51, 52, 53] ++ demoPend [] none, []⟩ = (.ok 12345, ⟨[], []⟩) from rfl] at h1
  obtain ⟨g', res, hr, hv, _, _⟩ := h1
  have hg : (parsInt demoEnv 2 (freshState [] [49, 50, 51, 52, 53]) .unset).map (fun t => t.2.1) = some (.int 12) := by decide +kernel
  rw [hr] at hg
  dsimp only [Option.map] at hg
  rw [hv] at hg
  exact absurd hg (by decide)

/-- THE REAL SHAPE (location.go: `ParseLocation = pars.Any(…, parsePoint, …)`, `parsePoint = pars.Parser(pars.Int).Map(…)`):
`pars.Any(pars.Parser(pars.Int).Map(f), pars.Byte('^'))` — an `Int`-based point parser among the alternatives — simulates the
model's `LocParse.anyOf [LocParse.point-as-mapP, byte]` up to every bound `L` below the loop fuel of `Int`, for every reader that
meets `FillOk` / `EnvOk` and every mapping `f` that turns `n` into a value standing for `Point(n − 1)` and cannot fail.  (The other
alternatives of `ParseLocation` — `parseRange`, `parseComplement`, `parseJoin`, `parseOrder`, `parseAmbiguous`, `parseBetween` — are
built with `pars.Seq`, whose bridge — `seq_simUpTo`, `Bridge/ParsSeq.lean` — is not instantiated on them.) -/
theorem any_int_point_simUpTo (L : Nat) (env : Env ρ ε) (pend : ρ → Option ε → Bytes) (hf : FillOk env pend) (he : EnvOk env)
    (fuel : Nat) (hfu : L < fuel) (val' : Loc → ResultV → Prop) (f : ResultV → ResultV × Option ε)
    (hmap : ∀ n, (f (ResultV.int n)).2 = none ∧ val' (.point (n - 1)) (f (ResultV.int n)).1)
    (tok : Loc) (htok : ∀ r, r = ResultV.token [94] → val' tok r) :
    SimPUpTo L pend val' (parsAny env [parsMap (parsInt env fuel) f, parsMap (parsByte env 94) (fun r => (r, none))])
      (LocParse.anyOf [ModParse.mapP Pars.int (fun v => Loc.point (v - 1)), ModParse.mapP (ModParse.byte 94) (fun _ => tok)]) :=
  any_simUpTo L env pend val' _ _
    (.cons ⟨map_simUpTo L pend _ val' _ _ (int_simUpTo L env pend hf he fuel hfu) f _
        (fun a r hr => by subst hr; exact hmap a), Pars.mapP_safe _ _ Pars.int_safe⟩
      (.cons ⟨map_simUpTo L pend _ val' _ _ (byte_simUpTo L env pend hf 94) _ _
          (fun _ r hr => ⟨rfl, htok r hr⟩), Pars.mapP_safe _ _ (Pars.byte_safe 94)⟩ .nil))

/-- non-vacuity of `any_int_point_simUpTo` / `any_simUpTo`: the demo reader, loop fuel 10, bound 9; the fresh state over `12^`
meets `Inv` and `Fr 9 [] 0`; the generated `Any` answers the integer 12 mapped (here: kept), `^` is next, nothing stays pushed;
over `^12` the `Int` alternative fails, leaks nothing that stays, and the second alternative takes the `^` -/
example : Inv (freshState (ρ := Bytes) (ε := Unit) [] [49, 50, 94]) ∧
    Pars.Fr 9 [] 0 (absState demoPend (freshState (ρ := Bytes) (ε := Unit) [] [49, 50, 94])) ∧
    (parsAny demoEnv [parsMap (parsInt demoEnv 10) (fun r => (r, none)), parsMap (parsByte demoEnv 94) (fun r => (r, none))]
        (freshState [] [49, 50, 94]) .unset).map
      (fun t => (t.2.1, t.2.2, (absState demoPend t.1).rest, (absState demoPend t.1).stk)) =
      some (.int 12, none, [94], []) ∧
    (parsAny demoEnv [parsMap (parsInt demoEnv 10) (fun r => (r, none)), parsMap (parsByte demoEnv 94) (fun r => (r, none))]
        (freshState [] [94, 49, 50]) .unset).map
      (fun t => (t.2.1, t.2.2, (absState demoPend t.1).rest, (absState demoPend t.1).stk)) =
      some (.token [94], none, [49, 50], []) := by
  refine ⟨fresh_inv _ _, ?_, by decide +kernel, by decide +kernel⟩
  rw [fresh_abs]
  exact ⟨⟨[], rfl, Nat.le_refl _, fun _ hf => nomatch hf⟩, by decide, trivial⟩

/-- `pars.Any('^', '$')` on the demo reader: the alternatives are `Byte` parsers, each simulates `ModParse.byte` -/
example : SimP demoPend (fun _ _ => True) (parsAny demoEnv [parsByte demoEnv 94, parsByte demoEnv 36])
    (LocParse.anyOf [ModParse.byte 94, ModParse.byte 36]) :=
  have hb : ∀ c, SimP demoPend (fun _ _ => True) (parsByte demoEnv c) (ModParse.byte c) := fun c g res h =>
    (byte_sim demoEnv demoPend demo_fillOk c g h res).weaken_val fun _ _ _ => trivial
  any_sim demoEnv demoPend _ _ _ (.cons (hb 94) (.cons (hb 36) .nil))

/-- … and run: on `$x` the first alternative fails, the second one takes the `$`; nothing stays pushed -/
example : (parsAny demoEnv [parsByte demoEnv 94, parsByte demoEnv 36] (freshState [36, 120] []) .unset).map
    (fun t => (t.2.1, t.2.2, (absState demoPend t.1).rest, (absState demoPend t.1).stk)) =
    some (.token [36], none, [120], []) := by decide +kernel
end Gts.Bridge
