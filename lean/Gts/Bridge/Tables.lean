/-
  C07 bridge (DESIGN.md 4.1b): the tables go2lean extracts from seqio/date.go, molecule.go and
  topology.go on every run equal the tables of the hand-written models, and say what a calendar
  says.  A changed map entry, `case` label or leap-year clause breaks these theorems.
-/
import Gts.Gen.Date
import Gts.Gen.MolTop
import Gts.Model.Date
import Gts.Model.MolTop
namespace Gts.Bridge

/-- `monthMap` in the source is the model's table -/
theorem monthMap_eq : Gen.monthMap = Date.monthTable := by decide +kernel

/-- `dayMap` in the source is the model's table -/
theorem dayMap_eq : Gen.dayMap = Date.dayTable := by decide +kernel

/-- the expected calendar: month `m` (1-based) has `days[m-1]` days in a common year -/
def calendarDays : List Nat := [31, 28, 31, 30, 31, 30, 31, 31, 30, 31, 30, 31]

/-- `dayMap` has exactly the twelve months with the calendar's lengths -/
theorem dayMap_calendar : Gen.dayMap = (List.range 12).map fun i => (i + 1, calendarDays.getD i 0) := by
  decide +kernel

/-- `monthMap` has, for every month `m`, exactly the three spellings `JAN`, `Jan`, `01` … and
nothing else (36 keys) -/
theorem monthMap_calendar :
    Gen.monthMap = (List.range 12).flatMap fun i =>
      [(Date.monthNames.getD i [], i + 1),
       ((Date.monthNames.getD i []).take 1 ++ ((Date.monthNames.getD i []).drop 1).map (· + 32), i + 1),
       ([48 + UInt8.ofNat ((i + 1) / 10), 48 + UInt8.ofNat ((i + 1) % 10)], i + 1)] := by
  decide +kernel

/-- the clauses of `isLeapYear` in the source are those of the model -/
theorem leap_clauses : Gen.leapCases = [(400, true), (100, false)] ∧ Gen.leapDefault = 4 := by decide

/-- `isLeapYear` as extracted is the model's `isLeapYear` -/
theorem isLeapYear_eq : Gen.isLeapYear = Date.isLeapYear := by
  funext y
  unfold Gen.isLeapYear Date.isLeapYear
  simp only [Gen.leapCases, Gen.leapDefault, List.find?_cons, List.find?_nil, Bool.beq_eq_decide_eq]
  by_cases h400 : y.tmod 400 = 0
  · simp [h400]
  · by_cases h100 : y.tmod 100 = 0 <;> simp [h400, h100]

/-- the `case` labels of `AsMolecule` are the model's, and every case returns the constant whose
value is the label itself -/
theorem molecule_cases :
    Gen.moleculeCases.map (·.1) = MolTop.moleculeCases ∧ ∀ c ∈ Gen.moleculeCases, c.1 = c.2 := by
  decide

/-- the `case` labels and values of `AsTopology` are the model's -/
theorem topology_cases : Gen.topologyCases = MolTop.topologyCases := by decide

end Gts.Bridge
