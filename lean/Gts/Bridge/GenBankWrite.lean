/-
  Bridge: the regenerated `GenBank.String` of seqio/genbank.go (`Gts/Gen/GenBankWrite.lean`, go2lean
  gwriter*.go) IS the model's record writer `Gts.GenBank.write` (property C01) — the LOCUS line with its
  format string and arguments, DEFINITION, ACCESSION + REGION suffix, VERSION, DBLINK, KEYWORDS,
  SOURCE / ORGANISM / taxonomy, the REFERENCE blocks, COMMENTs, extra fields, FEATURES header and table,
  CONTIG, ORIGIN, `//`: their ORDER, their GUARDS, their format strings and indents — for EVERY record, every
  registry, panic for panic (`genBankString_eq`).

  The generated function works on the Go structs (`Gts/Gen/GbFields.lean`); `goRecord` says how a record of
  the model is one: `Reference.Xref` is the map with (at most) the key `PUBMED`, every extra field carries
  the default formatter `genbankFieldFormatter` (regenerated too), `Region` is `some` iff it is a
  `gts.Segment`, an `Origin` is `(Buffer, Parsed)`.

  Parameters of the generated text and their instances: `%d` / strconv.Itoa = `itoaB`; the width of `%-Ns` / `%Ns`
  pads to N BYTES (`wsPadRight` / `wsPadLeft`, an assumed reading of `Gts/Gen/GoStrings.lean`: fmt counts runes — the same on
  ASCII; behind a multi-byte character Go writes more blanks); `wrap.Space(s, n)` =
  `wrapAt 32 n` (go-wrap v1.0.3, hand-modelled); `Location.String()` = `Loc.printB`; `(*Origin).Len / String`
  = `OriginV.len / text` (regenerated and bridged on their own: `Gts/Bridge/OriginBuf.lean`, C16);
  `gts.Segment.Len` = `|tail − head|`; the registry look-ups = membership; `strings.ToUpper(date.ToTime().
  Format("02-Jan-2006"))` = ANY pair of functions that prints the record's date as the model's `Date.text`
  (hypothesis `hdate`; `dateCalls_valid`: an ASCII upper-casing of `dd-Mon-yyyy` does, for every valid date).
-/
import Gts.Gen.GenBankWrite
import Gts.Bridge.InsdcWrite
import Gts.Model.GenBank
namespace Gts.Bridge
open Gts.Pars Gts.GenBank Gts.Gen.GoStrings
open Gts.Gen.InsdcWrite (Feature INSDCFormatter insdcFormatterString)
open Gts.Gen.GbFields (GenBankFields Pair Organism ExtraField Contig gtsUnpack)
open Gts.Gen.GenBankWrite (genBankString genBankStringLoop genBankStringLoop2 genBankStringLoop3 genBankStringLoop4
  topologyString contigString extraFieldString genbankFieldFormatter genBankExtraField)

/-- `Reference.Xref`: the nil map, or the map with the one key the writer reads -/
def goXref : Option Bytes → Option (List (Bytes × Bytes))
  | none => none
  | some v => some [(bs "PUBMED", v)]

def goReference (r : GenBank.Reference) : Gen.GbFields.Reference :=
  { Number := r.number, Info := r.info, Authors := r.authors, Group := r.group, Title := r.title,
    Journal := r.journal, Xref := goXref r.pubmed, Comment := r.comment }

def goFields (f : Fields) : GenBankFields :=
  { LocusName := f.locusName, Molecule := f.molecule, Topology := f.topology, Division := f.division,
    Date := { Year := f.date.year, Month := f.date.month, Day := f.date.day },
    Definition := f.definition, Accession := f.accession, Version := f.version,
    DBLink := f.dblink.map fun kv => { Key := kv.1, Value := kv.2 },
    Keywords := f.keywords,
    Source := { Species := f.species, Name := f.organism, Taxon := f.taxon },
    References := f.references.map goReference,
    Comments := f.comments,
    Extra := f.extra.map fun e => genBankExtraField e.1 e.2,
    Contig := { Accession := f.contigAcc, Region := (f.contigHead, f.contigTail) },
    Region := f.region }

def goOrigin : OriginV → Gen.GenBankWrite.Origin
  | .residues p => { Buffer := p, Parsed := true }
  | .buffer b => { Buffer := b, Parsed := false }

/-- an `Origin` value as the model reads it -/
def originV (o : Gen.GenBankWrite.Origin) : OriginV :=
  if o.Parsed then .residues o.Buffer else .buffer o.Buffer

def goRecord (r : Record) : Gen.GenBankWrite.GenBank :=
  { Fields := goFields r.fields, Table := r.table.map goFeature, Origin := goOrigin r.origin }

/-- `(*Origin).Len()` -/
def originLenModel (o : Gen.GenBankWrite.Origin) : Int := (originV o).len
/-- `(*Origin).String()` -/
def originStringModel (o : Gen.GenBankWrite.Origin) : Option Bytes :=
  match (originV o).text with
  | .ok t => some t
  | .error _ => none
/-- `gts.Segment.Len()` -/
def segmentLenModel (s : Int × Int) : Int := Int.ofNat (s.2 - s.1).natAbs
/-- `wrap.Space(s, n)` -/
def wrapSpaceModel (s : Bytes) (n : Int) : Bytes := wrapAt 32 n.toNat s

theorem originV_goOrigin (o : OriginV) : originV (goOrigin o) = o := by
  cases o <;> rfl

theorem bs_nl : bs "\n" = [10] := rfl
theorem bs_blank : bs " " = [32] := rfl
theorem bs_dot : bs "." = [46] := rfl
theorem bs_sp5 : bs "     " = sp 5 := by decide +kernel
theorem bs_indent : bs "            " = indent := by decide +kernel

theorem wsPadRight_eq (w : Nat) (s : Bytes) : wsPadRight w s = padRight w s := rfl
theorem wsPadLeft_eq (w : Nat) (s : Bytes) : wsPadLeft w s = padLeft w s := rfl

/-- strings.go `AddPrefix` is the model's `addPrefix` -/
theorem genAddPrefix_eq (s pre : Bytes) : Gen.GenBankWrite.addPrefix s pre = GenBank.addPrefix pre s := by
  unfold Gen.GenBankWrite.addPrefix
  exact wsReplaceByte_addPrefix pre s

/-- topology.go `Topology.String` is `topologyText` -/
theorem topologyString_eq (t : Int) : topologyString t = topologyText t := by
  unfold topologyString topologyText
  by_cases h0 : t = 0
  · simp [h0, wsLit_eq_bs]
  · by_cases h1 : t = 1
    · simp [h1, wsLit_eq_bs]
    · simp [h0, h1]

/-- contig.go `Contig.String` is `contigText` -/
theorem contigString_eq (f : Fields) :
    contigString itoaB { Accession := f.contigAcc, Region := (f.contigHead, f.contigTail) } = contigText f := by
  unfold contigString contigText gtsUnpack
  cases h : f.contigAcc with
  | nil => simp
  | cons c cs => simp [wsLit_eq_bs, List.append_assoc, bs]

/-- genbank.go `genbankFieldFormatter` (through `ExtraField.String` on a `GenBankExtraField`) is `extraText` -/
theorem extraFieldString_eq (name value : Bytes) :
    extraFieldString (genBankExtraField name value) = extraText name value := by
  unfold extraFieldString genBankExtraField genbankFieldFormatter extraText
  simp only [genAddPrefix_eq, wsPadRight_eq, wsLit_eq_bs, bs_indent]

theorem dec_eq_itoaB (n : Int) : dec n = itoaB n := by
  unfold dec itoaB
  by_cases h : n < 0
  · simp [h]
  · simp only [h, if_false]
    congr 1
    omega

/-- the REGION suffix: `gts.Range(head, tail).String()` -/
theorem printB_range (h t : Int) : Loc.printB (.ranged h t false false) = itoaB (h + 1) ++ bs ".." ++ itoaB t := by
  unfold Loc.printB
  simp [dec_eq_itoaB, bs]

/-- the DBLINK loop: `DBLINK      ` in front of the first pair, the indent in front of the others -/
theorem genBankDblinkLoop_eq (l : List (Bytes × Bytes)) (i : Int) (hi : 0 ≤ i) (b : Bytes) :
    genBankStringLoop (wsLit "            ") (l.map fun kv => ({ Key := kv.1, Value := kv.2 } : Pair)) i b =
      b ++ dblinkText l (decide (i = 0)) := by
  induction l generalizing i b with
  | nil => simp [genBankStringLoop, dblinkText]
  | cons kv l ih =>
    obtain ⟨k, v⟩ := kv
    simp only [List.map_cons, genBankStringLoop]
    rw [ih (i + 1) (by omega), decide_eq_false (by omega : ¬ i + 1 = 0)]
    by_cases h0 : i = 0 <;> simp [h0, dblinkText, wsLit_eq_bs, bs_nl, bs_indent, List.append_assoc]

/-- one REFERENCE block as plain text (`referenceText` never fails) -/
def refText (r : GenBank.Reference) : Bytes :=
  let num := itoaB r.number
  let head :=
    if r.info.isEmpty then bs "REFERENCE   " ++ num
    else bs "REFERENCE   " ++ num ++ sp (3 - num.length) ++ r.info
  let sub (name : String) (v : Bytes) : Bytes :=
    if v.isEmpty then [] else bs name ++ GenBank.addPrefix indent v ++ [10]
  head ++ [10] ++ sub "  AUTHORS   " r.authors ++ sub "  CONSRTM   " r.group ++
    sub "  TITLE     " r.title ++ sub "  JOURNAL   " r.journal ++
    (match r.pubmed with | some v => bs "   PUBMED   " ++ v ++ [10] | none => []) ++
    sub "  REMARK    " r.comment

theorem referenceText_ok (r : GenBank.Reference) : referenceText r = .ok (refText r) := rfl

theorem referencesText_ok (rs : List GenBank.Reference) : referencesText rs = pure (rs.flatMap refText) := by
  induction rs with
  | nil => rfl
  | cons r rs ih => simp [referencesText, referenceText_ok, ih, bind, Except.bind, pure, Except.pure]

theorem isEmpty_iff_ne_nil (v : Bytes) : (v ≠ ([] : List UInt8)) ↔ v.isEmpty = false := by
  cases v <;> simp

/-- a block written under the guard `v != ""` -/
theorem append_if_ne_nil (b v x : Bytes) :
    (if v ≠ ([] : List UInt8) then b ++ x else b) = b ++ (if v.isEmpty then [] else x) := by
  cases v <;> simp

/-- a sub-field of a REFERENCE: written iff it is not empty -/
theorem refSub_eq (b v : Bytes) (name : String) :
    (if v ≠ ([] : List UInt8) then b ++ ((wsLit name ++ Gen.GenBankWrite.addPrefix v (wsLit "            ")) ++ wsLit "\n") else b) =
      b ++ (if v.isEmpty then [] else bs name ++ GenBank.addPrefix indent v ++ [10]) := by
  rw [append_if_ne_nil, genAddPrefix_eq, wsLit_eq_bs, wsLit_eq_bs, wsLit_eq_bs, bs_indent, bs_nl]

/-- the PUBMED line: written iff the map has the key -/
theorem refXref_eq (b : Bytes) (p : Option Bytes) :
    (if goXref p ≠ none then
        if (wsMapGet (goXref p) (wsLit "PUBMED")).isSome = true then
          b ++ (wsLit "   PUBMED   " ++ (wsMapGet (goXref p) (wsLit "PUBMED")).getD [] ++ wsLit "\n")
        else b
      else b) = b ++ (match p with | some v => bs "   PUBMED   " ++ v ++ [10] | none => []) := by
  cases p with
  | none => exact (List.append_nil b).symm
  | some v => simp [goXref, wsMapGet, wsLit_eq_bs, bs_nl]

/-- the pad between the number and the info of a REFERENCE line (761240c: never negative) -/
theorem refPad_eq (n : Nat) :
    wsRepeat (wsLit " ") (if (3 : Int) - (n : Int) < 0 then 0 else (3 : Int) - (n : Int)) = some (sp (3 - n)) := by
  have e : (if (3 : Int) - (n : Int) < 0 then 0 else (3 : Int) - (n : Int)) = ((3 - n : Nat) : Int) := by omega
  rw [e, wsRepeat_blank _ (Int.natCast_nonneg _), Int.toNat_natCast]

/-- the first line of a REFERENCE block; `k` is what the loop does next with the text -/
theorem refHead_eq (b num info : Bytes) (k : Bytes → Option Bytes) :
    ((if info ≠ ([] : List UInt8) then
        (wsRepeat (wsLit " ") (if (3 : Int) - (num.length : Int) < 0 then 0 else (3 : Int) - (num.length : Int))).bind
          fun x => some (b ++ (wsLit "REFERENCE   " ++ num) ++ (x ++ info))
      else some (b ++ (wsLit "REFERENCE   " ++ num))).bind k) =
      k (b ++ (if info.isEmpty then bs "REFERENCE   " ++ num else bs "REFERENCE   " ++ num ++ sp (3 - num.length) ++ info)) := by
  rw [refPad_eq]
  cases info with
  | nil => rfl
  | cons c cs =>
    simp only [ne_eq, reduceCtorEq, not_false_eq_true, if_true, Option.bind_some, List.isEmpty_cons, Bool.false_eq_true,
      if_false, wsLit_eq_bs, List.append_assoc]

/-- the REFERENCE loop appends the blocks in order and never panics -/
theorem genBankRefLoop_eq (rs : List GenBank.Reference) (b : Bytes) :
    genBankStringLoop2 itoaB (wsLit "            ") (rs.map goReference) b = some (b ++ rs.flatMap refText) := by
  induction rs generalizing b with
  | nil => exact congrArg some (List.append_nil b).symm
  | cons r rs ih =>
    rw [List.map_cons, genBankStringLoop2, refHead_eq]
    have hx : (goReference r).Xref = goXref r.pubmed := rfl
    -- the guarded blocks are brought into the form `b ++ …` from the inside, before `b` is substituted
    simp only [refSub_eq, hx, refXref_eq, ih]
    exact congrArg some (by simp only [List.flatMap_cons, refText, goReference, ← List.append_assoc]; rfl)

theorem genBankCommentLoop_eq (cs : List Bytes) (b : Bytes) :
    genBankStringLoop3 (wsLit "            ") cs b =
      b ++ cs.flatMap fun c => bs "COMMENT     " ++ GenBank.addPrefix indent c ++ [10] := by
  induction cs generalizing b with
  | nil => simp [genBankStringLoop3]
  | cons c cs ih =>
    simp only [genBankStringLoop3, ih, genAddPrefix_eq]
    simp [wsLit_eq_bs, bs_nl, bs_indent, List.append_assoc]

theorem genBankExtraLoop_eq (es : List (Bytes × Bytes)) (b : Bytes) :
    genBankStringLoop4 (es.map fun e => genBankExtraField e.1 e.2) b =
      b ++ es.flatMap fun e => extraText e.1 e.2 ++ [10] := by
  induction es generalizing b with
  | nil => simp [genBankStringLoop4]
  | cons e es ih =>
    simp only [List.map_cons, genBankStringLoop4, ih, extraFieldString_eq]
    simp [wsLit_eq_bs, bs_nl, List.append_assoc]

theorem wsJoin_eq (sep : Bytes) (l : List Bytes) : wsJoin sep l = joinWith sep l := by
  induction l with
  | nil => rfl
  | cons x l ih =>
    cases l with
    | nil => rfl
    | cons y r => rw [wsJoin, joinWith, ih]; intro h; cases h

theorem wrapSpaceModel_67 (s : Bytes) : wrapSpaceModel s 67 = wrapSpace s := rfl

/-- the text of the REGION suffix (0f056fc: for a proper segment only) -/
def regionText (reg : Option (Int × Int)) : Bytes :=
  match reg with
  | none => []
  | some (h, t) => if t ≤ h then [] else bs " REGION: " ++ itoaB (h + 1) ++ bs ".." ++ itoaB t

/-- the REGION block: the guard `ok && seg[0] < seg[1]` keeps `gts.Range` from panicking -/
theorem regionBlock_eq (reg : Option (Int × Int)) (P : Bytes) :
    (if reg.isSome = true ∧ (reg.getD (0, 0)).fst < (reg.getD (0, 0)).snd then
        (some (gtsUnpack (reg.getD (0, 0)))).bind fun x =>
          (wsRange x.fst x.snd).bind fun x3_ => some (P ++ (wsLit " REGION: " ++ x3_.printB))
      else some P) = some (P ++ regionText reg) := by
  cases reg with
  | none => simp [regionText]
  | some seg =>
    obtain ⟨h, t⟩ := seg
    by_cases hlt : h < t
    · have hnot : ¬ t ≤ h := by omega
      have hr : wsRange h t = some (Loc.ranged h t false false) := by
        unfold wsRange; rw [if_neg hnot]
      simp [regionText, hlt, hnot, gtsUnpack, hr, printB_range, wsLit_eq_bs, List.append_assoc]
    · have hle : t ≤ h := by omega
      simp [regionText, hlt, hle]

/-- the error of `Origin.String()` is the panic -/
theorem originText_eq (o : OriginV) : o.text = wOut (originStringModel (goOrigin o)) := by
  unfold originStringModel
  rw [originV_goOrigin]
  cases o with
  | buffer b => rfl
  | residues p =>
    simp only [OriginV.text, Origin.newOrigin]
    split <;> rfl

/-- what `write` does behind the header, as a function of the header, of the table text `T` and of the
ORIGIN text `O` (`none` = panic) -/
def tailM (f : Fields) (table : List QFeature) (T O : Option Bytes) (olen : Int) (header : Bytes) : Out Bytes := do
  let table ←
    if table.isEmpty then pure []
    else do
      let t ← wOut T
      pure (bs "FEATURES             Location/Qualifiers\n" ++ t ++ [10])
  let contig := contigText f
  let contig := if contig.isEmpty then [] else bs "CONTIG      " ++ contig ++ [10]
  let origin ←
    if olen > 0 then do
      let o ← wOut O
      pure (bs "ORIGIN      \n" ++ o)
    else pure []
  pure (header ++ table ++ contig ++ origin ++ bs "//\n")

/-- the blocks behind the header — FEATURES (for a non-empty table), CONTIG (when `Contig.String()` is not
empty), ORIGIN (when there are residues), `//` — for ANY header text `H` -/
theorem genTail_eq (f : Fields) (table : List QFeature) (T O : Option Bytes) (olen : Int) (H : Bytes) :
    wOut ((if ((table.map goFeature).length : Int) > 0 then
            T.bind fun x6_ => some (H ++ wsLit "FEATURES             Location/Qualifiers\n" ++ x6_ ++ [10])
          else some H).bind fun b =>
        (if olen > 0 then
            O.bind fun x7_ =>
              some ((if contigText f ≠ [] then b ++ (wsLit "CONTIG      " ++ contigText f ++ wsLit "\n") else b) ++
                  wsLit "ORIGIN      \n" ++ x7_)
          else some (if contigText f ≠ [] then b ++ (wsLit "CONTIG      " ++ contigText f ++ wsLit "\n") else b)).bind
          fun b => some (b ++ wsLit "//\n")) =
      tailM f table T O olen H := by
  unfold tailM
  have ht : (((table.map goFeature).length : Int) > 0) = ¬ (table.isEmpty = true) := by
    cases table <;> simp <;> omega
  simp only [ht, append_if_ne_nil, wOut_bind, apply_ite wOut, wOut_pure, wsLit_eq_bs, bs_nl]
  simp only [out_ite_bind, ite_not, bind_assoc, pure_bind, List.append_assoc, List.nil_append]

theorem write_eq_tail (reg : Registry) (f : Fields) (table : List QFeature) (origin : OriginV) :
    write reg { fields := f, table := table, origin := origin } =
      headerText f (if origin.len = 0 then contigLen f else origin.len) >>=
        tailM f table
          (insdcFormatterString Loc.printB (isQuotedIn reg) (isLiteralIn reg) (isToggleIn reg)
            { Table := table.map goFeature, Prefix := sp 5, Depth := 21 })
          (originStringModel (goOrigin origin)) origin.len := by
  unfold write tailM
  rw [insdcFormatterString_eq]
  simp only [originText_eq]

/-- **genbank.go `GenBank.String` is the model's `write`** — for EVERY record and registry: the same bytes (the
LOCUS line with its format string, every field block in its place under its guard, the table, CONTIG, ORIGIN,
`//`), and a Go panic exactly where the model answers `.error .panic` (a `Props` row without a name; an
ORIGIN block whose index column overflows).  `hdate`: the two library calls that print the date print THIS record's date
as the model's `Date.text` (the model prints valid calendar dates only; `dateCalls_valid` below). -/
theorem genBankString_eq (reg : Registry) (toUpper : Bytes → Bytes) (timeFormat : String → Int → Int → Int → Bytes)
    (r : Record)
    (hdate : toUpper (timeFormat "02-Jan-2006" r.fields.date.year r.fields.date.month r.fields.date.day) =
      r.fields.date.text) :
    wOut (genBankString itoaB toUpper timeFormat wrapSpaceModel Loc.printB originLenModel originStringModel
      segmentLenModel (isQuotedIn reg) (isLiteralIn reg) (isToggleIn reg) (goRecord r)) = write reg r := by
  obtain ⟨f, table, origin⟩ := r
  rw [write_eq_tail]
  unfold genBankString
  dsimp only [goRecord, goFields]
  rw [regionBlock_eq]
  simp only [Option.bind_some, genBankDblinkLoop_eq _ 0 (Int.le_refl 0), genBankRefLoop_eq, genBankCommentLoop_eq,
    genBankExtraLoop_eq, contigString_eq]
  have holen : originLenModel (goOrigin origin) = origin.len := by
    unfold originLenModel; rw [originV_goOrigin]
  have hseg : segmentLenModel (f.contigHead, f.contigTail) = contigLen f := rfl
  rw [holen, hseg]
  rw [show (wsLit "     " : Bytes) = sp 5 from bs_sp5]
  generalize insdcFormatterString Loc.printB (isQuotedIn reg) (isLiteralIn reg) (isToggleIn reg)
    { Table := table.map goFeature, Prefix := sp 5, Depth := 21 } = T
  generalize originStringModel (goOrigin origin) = O
  rw [genTail_eq]
  -- what is left is the header: the text built block by block against the model's one concatenation
  unfold headerText
  rw [referencesText_ok]
  refine (congrArg (tailM f table T O origin.len) ?_).trans (pure_bind _ _).symm
  have hd : toUpper (timeFormat "02-Jan-2006" f.date.year f.date.month f.date.day) = f.date.text := hdate
  simp only [wsLit_eq_bs, wsPadRight_eq, wsPadLeft_eq, genAddPrefix_eq, topologyString_eq,
    wrapSpaceModel_67, wsJoin_eq, hd, decide_true]
  simp only [bs_indent, bs_nl, bs_dot, bs_blank]
  unfold locusLine regionText
  -- both sides are nearly left-nested: re-associating to the left is linear, to the right quadratic
  simp only [← List.append_assoc, List.nil_append]
  rfl

/-! ### the date calls: an instance of `hdate` -/

/-- `strings.ToUpper` on ASCII -/
def upperASCII (s : Bytes) : Bytes := s.map fun c => if 97 ≤ c ∧ c ≤ 122 then c - 32 else c

/-- the month names of the layout `Jan` -/
def monthMixed : List Bytes := namesOf
  ["Jan", "Feb", "Mar", "Apr", "May", "Jun", "Jul", "Aug", "Sep", "Oct", "Nov", "Dec"]

/-- `time.Date(y, m, d, …).Format("02-Jan-2006")` on a valid calendar date (no normalisation happens) -/
def timeFormatValid (_layout : String) (y m d : Int) : Bytes :=
  zpad 2 d.toNat ++ [45] ++ monthMixed.getD (m.toNat - 1) [] ++ [45] ++ zpad 4 y.toNat

theorem digitByte_upper : ∀ d, d < 10 → upperASCII [digitByte d] = [digitByte d] := by decide

theorem upperASCII_append (a b : Bytes) : upperASCII (a ++ b) = upperASCII a ++ upperASCII b := List.map_append

theorem natDigitsF_upper (fuel n : Nat) : upperASCII (natDigitsF fuel n) = natDigitsF fuel n := by
  induction fuel generalizing n with
  | zero => rfl
  | succ k ih =>
    unfold natDigitsF
    split
    · exact digitByte_upper n (by omega)
    · rw [upperASCII_append, ih, digitByte_upper _ (by omega)]

theorem zpad_upper (w n : Nat) : upperASCII (zpad w n) = zpad w n := by
  unfold zpad natDigits
  rw [upperASCII_append, natDigitsF_upper]
  exact congrArg (· ++ _) List.map_replicate

theorem month_upper : ∀ k, k < 12 → upperASCII (monthMixed.getD k []) = monthAbbr.getD k [] := by decide +kernel

/-- for every valid calendar date, upper-casing `dd-Mon-yyyy` prints the model's `Date.text`: the
hypothesis `hdate` of `genBankString_eq` holds for these two functions on the whole modelled domain -/
theorem dateCalls_valid (d : GenBank.Date) (h : d.valid = true) :
    upperASCII (timeFormatValid "02-Jan-2006" d.year d.month d.day) = d.text := by
  unfold Date.text timeFormatValid
  rw [if_pos h]
  have hv := h
  unfold Date.valid at hv
  simp only [decide_eq_true_eq] at hv
  have hm : d.month.toNat - 1 < 12 := by omega
  simp only [upperASCII_append, zpad_upper, month_upper _ hm]
  rfl

/-- the REGENERATED `GenBank.String` under the registry `reg`, with its library parameters instantiated as
described at the top of this file (dates through `upperASCII ∘ timeFormatValid`) -/
def genWrite (reg : Registry) (r : Record) : Out Bytes :=
  wOut (genBankString itoaB upperASCII timeFormatValid wrapSpaceModel Loc.printB originLenModel originStringModel
    segmentLenModel (isQuotedIn reg) (isLiteralIn reg) (isToggleIn reg) (goRecord r))

/-- on every record with a valid calendar date the regenerated writer is the model's `write` -/
theorem genWrite_eq (reg : Registry) (r : Record) (hv : r.fields.date.valid = true) : genWrite reg r = write reg r :=
  genBankString_eq reg upperASCII timeFormatValid r (dateCalls_valid _ hv)

/-- non-vacuity: a record with a region, a DBLINK, a reference with PUBMED, an extra field, one feature and
residues, dated 29-FEB-2020, under the initial registry -/
example :
    let r : Record :=
      { fields :=
          { Fields.empty with
            locusName := bs "X"
            molecule := bs "DNA"
            date := ⟨2020, 2, 29⟩
            region := some (2, 9)
            dblink := [(bs "BioProject", bs "P1")]
            references := [⟨1, bs "(bases 1 to 7)", bs "A", [], bs "T", bs "J", some (bs "1"), []⟩]
            extra := [(bs "PRIMARY", bs "x")] },
        table := [⟨bs "source", .ranged 0 7 false false, [[bs "mol_type", bs "genomic DNA"]]⟩],
        origin := .residues (bs "acgtacg") }
    wOut (genBankString itoaB upperASCII timeFormatValid wrapSpaceModel Loc.printB originLenModel originStringModel
      segmentLenModel (isQuotedIn Registry.default) (isLiteralIn Registry.default) (isToggleIn Registry.default)
      (goRecord r)) = write Registry.default r := by
  intro r
  exact genBankString_eq Registry.default upperASCII timeFormatValid r (dateCalls_valid _ (by decide))

end Gts.Bridge
