/-
  Bridge (DESIGN.md 4.1b): the GLUE between the library and the CLI as facts — C05: reverse, complement.
  The command functions of `/repo/cmd/gts/*.go` that have no regenerated tie of their own, as go2lean extracts them from
  the Go source on every run (`Gts/Gen/CmdFacts.lean`, generator go2lean/cmdfacts.go: normal form, one line per statement,
  locals `v0, v1, …`, parameters by type), are what the hand-written expectation `Gts/Spec/CmdTable.lean` says, line by
  line with what each line does in terms of the library function the model has.

  Per command FILE `cmd_<file>` — every function, method and function literal of the file in normal form, its top-level
  declarations, its types (`rfl`: the kernel compares the two literal tables) — and `cmd_<file>_pipeline` — the library
  calls of the command function in source order with the kinds of the headers above them (no variable name, no line
  number: renaming, re-ordered option declarations, another error text keep it; a library call added, dropped, replaced
  or moved under / out of a condition or loop changes it).  One bridge module per property, so that a change of a
  command file stops the check of ITS property only.
-/
import Gts.Gen.CmdFacts
import Gts.Spec.CmdTable
namespace Gts.Bridge.Cmd

/-- `gts reverse`: `gts.Reverse` per record and nothing else -/
theorem cmd_reverse : Gts.Gen.Cmd.file_reverse = Gts.Spec.Cmd.file_reverse ∧ Gts.Gen.Cmd.decls_reverse = Gts.Spec.Cmd.decls_reverse ∧
    Gts.Gen.Cmd.types_reverse = Gts.Spec.Cmd.types_reverse := ⟨rfl, rfl, rfl⟩

theorem cmd_reverse_pipeline : Gts.Gen.Cmd.pipeline_reverse = Gts.Spec.Cmd.pipeline_reverse := rfl

/-- `gts complement`: `gts.Complement` per record and nothing else -/
theorem cmd_complement : Gts.Gen.Cmd.file_complement = Gts.Spec.Cmd.file_complement ∧ Gts.Gen.Cmd.decls_complement = Gts.Spec.Cmd.decls_complement ∧
    Gts.Gen.Cmd.types_complement = Gts.Spec.Cmd.types_complement := ⟨rfl, rfl, rfl⟩

theorem cmd_complement_pipeline : Gts.Gen.Cmd.pipeline_complement = Gts.Spec.Cmd.pipeline_complement := rfl

end Gts.Bridge.Cmd
