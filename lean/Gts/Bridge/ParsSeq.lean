/-
  C07 / C08 bridge (DESIGN.md 4.1a): `pars.Seq`, `pars.Child` / `Parser.Child` and `pars.Exact` of go-pars v1.1.6 — regenerated
  statement by statement on every run (`Gts/Gen/Pars.lean`: `parsSeq`, `parsChild`, `parsMapP`, `parsParserChild`, `parsExact`;
  generator go2lean/gparsseq.go) — are the model's sequencing `ModParse.seq2` / `seq3`, `ModParse.mapP` with a selection and
  `ModParse.exact`, in the BOUNDED form of `Gts/Bridge/ParsComb.lean` (`SimPUpTo L`: from every state that meets `Inv` and whose
  abstraction has at most `L` bytes left at the position and at every saved position).

  `Seq` is a loop over a LIST of parsers that fills a slice of results; the model has it at the arities gts uses (two and three
  members, each of its own type).  The loop is therefore proved ROUND BY ROUND in continuation form: `seq_cons` — one round
  (`&v[i]` read, the member run, the cell written back; a failing member `Pop`s whatever frame is then on top and the error is
  final; a panic is a panic) is the model's `member m >>= k` when the rounds that follow are `k` — and `seq_nil` — behind the
  last round: `Drop`, the result holds the cells as its children.  `seq_simUpTo` (two members), `seq3_simUpTo` (three) put them
  together; every member but the last one is asked to be `Safe` on the model side (it carries the bound to the state the next
  member starts from).  `child_simUpTo`: `p.Child(i)` = `mapP m (selection)`, the index inside the children `p` answers (outside:
  the Go code panics — `child_out_of_range_panics`).  `exact_simUpTo`: `Exact(p)` = `Seq(Head, p, End).Map(Child(1))` is
  `ModParse.exact m` from a state whose position is the head of the input (what `pars.FromString` builds).
  `head_simUpTo`: the composed rule `pars.Any(pars.Seq('^', pars.Int).Child(1), pars.Byte('^').Bind(0)).Map(…)` of modifier.go.
-/
import Gts.Bridge.ParsComb
namespace Gts.Bridge
open Gts.Gen.GoPars
open Gts.Pars (PS Bytes Err)

section Seq
variable {ρ ε : Type}

/-- `v[i] = x` inside the slice does not panic -/
theorem goSet_nat {α : Type} (v : List α) (i : Nat) (hi : i < v.length) (x : α) : goSet v (i : Int) x = some (v.set i x) :=
  clPut_nat v i x hi

/-- one member of a `pars.Seq` as the model has it (`ModParse.seq2` / `seq3`): run it; a failure `Pop`s (whatever frame is then on
top) and is the failure of the sequence -/
def member {α : Type} (m : Pars.P α) : Pars.P α := do
  match ← Pars.attempt m with
  | some v => pure v
  | none => do Pars.pop; Pars.fail

/-- the sequences of the model are `Push`, the members, `Drop` -/
theorem seq2_eq {α β : Type} (p : Pars.P α) (q : Pars.P β) :
    ModParse.seq2 p q = (Pars.push >>= fun _ => member p >>= fun a => member q >>= fun b => (do Pars.drop; pure (a, b))) := rfl

theorem seq3_eq {α β γ : Type} (p : Pars.P α) (q : Pars.P β) (r : Pars.P γ) :
    ModParse.seq3 p q r = (Pars.push >>= fun _ => member p >>= fun a => member q >>= fun b => member r >>= fun c =>
      (do Pars.drop; pure (a, b, c))) := rfl

/-- `Pop` of the model always succeeds -/
theorem run_pop_bind {β : Type} (k : Unit → Pars.P β) (s : PS) : (Pars.pop >>= k).run' s = (k ()).run' (Pars.pop.run' s).2 := by
  rw [Pars.run_bind, Pars.run_pop]; cases s.stk <;> rfl

/-- BEHIND THE LAST ROUND of `Seq`'s loop: `Drop`; the result holds the cells as its children; no error -/
theorem seq_nil {γ : Type} (env : Env ρ ε) (pend : ρ → Option ε → Bytes) (valk : γ → ResultV → Prop)
    (all : List (GoParser ρ ε)) (result : ResultV) (i : Int) (v : List ResultV) (g : State ρ ε) (h : Inv g)
    (c : γ) (hv : valk c (.children v)) :
    Agree pend valk (rangeLoopIdx (parsSeq_body1 env all result) (parsSeq_exit1 env all result) i [] (g, v))
      ((do Pars.drop; pure c : Pars.P γ).run' (absState pend g)) := by
  obtain ⟨g3, hd, hinv3, habs3⟩ := drop_sim pend g h
  rw [Pars.run_bind, habs3]
  exact ⟨g3, .children v, by simp [rangeLoopIdx, parsSeq_exit1, hd], hv, hinv3, rfl⟩

/-- one round of `Seq`'s loop at a cell inside the slice: the member runs on the cell; its error `Pop`s and ends the loop, else the
cell is written back -/
theorem parsSeq_body1_at (env : Env ρ ε) (all : List (GoParser ρ ε)) (result : ResultV) (p : GoParser ρ ε) (i : Nat)
    (v : List ResultV) (hi : i < v.length) (g : State ρ ε) :
    parsSeq_body1 env all result (i : Int) p (g, v) = (p g v[i]).bind fun t =>
      if t.2.2.isSome = true then (statePop t.1).bind fun s => some (Flow.ret (s, result, some env.mkErr))
      else some (Flow.next (t.1, v.set i t.2.1)) := by
  unfold parsSeq_body1
  dsimp only
  rw [parsIdx_eq, clAt_lt v i hi, Option.bind_some]
  simp only [goSet_nat v i hi, Option.bind_some]

/-- ONE ROUND of `Seq`'s loop, in continuation form: the cell `v[i]` (inside the slice) is handed to the member `p`, which
simulates `m` up to `L`; on success the cell holds what `p` answered and the rounds that follow run from the state `p` left
(`hrest`: they are `k a` there — `Q` is what is known of that state, e.g. the bound when `m` is `Safe`); on a failure `Pop` and
the error of the sequence, the result untouched; a panic of `p` is a panic -/
theorem seq_cons {α γ : Type} (L : Nat) (env : Env ρ ε) (pend : ρ → Option ε → Bytes) (val : α → ResultV → Prop)
    (valk : γ → ResultV → Prop) (all : List (GoParser ρ ε)) (result : ResultV) (p : GoParser ρ ε) (m : Pars.P α)
    (hp : SimPUpTo L pend val p m) (ps : List (GoParser ρ ε)) (k : α → Pars.P γ)
    (i : Nat) (v : List ResultV) (hi : i < v.length) (g : State ρ ε) (h : Inv g) (hb : Pars.Fr L [] 0 (absState pend g))
    (Q : PS → Prop) (hQ : Q (m.run' (absState pend g)).2)
    (hrest : ∀ a g2 r2, val a r2 → Inv g2 → Q (absState pend g2) →
      Agree pend valk
        (rangeLoopIdx (parsSeq_body1 env all result) (parsSeq_exit1 env all result) ((i : Int) + 1) ps (g2, v.set i r2))
        ((k a).run' (absState pend g2))) :
    Agree pend valk (rangeLoopIdx (parsSeq_body1 env all result) (parsSeq_exit1 env all result) (i : Int) (p :: ps) (g, v))
      ((member m >>= k).run' (absState pend g)) := by
  rw [rangeLoopIdx_cons, parsSeq_body1_at env all result p i v hi g, Option.bind_assoc, member, bind_assoc]
  refine (hp g v[i] h hb).attempt_bind ?_ ?_
  · intro a g2 r2 hv hinv2 hrun
    rw [hrun] at hQ
    rw [pure_bind]
    exact hrest a g2 r2 hv hinv2 hQ
  · intro g2 r2 e2 hinv2 _
    dsimp only
    rw [if_pos (show (some e2).isSome = true from rfl), Option.bind_assoc, bind_assoc]
    exact Agree.step (pop_sim pend g2 hinv2) fun g3 _ hinv3 _ => ⟨g3, result, env.mkErr, rfl, hinv3, rfl⟩

/-- `pars.Seq(p, q)` = `ModParse.seq2`, BOUNDED: `Push`; `p` from there, `q` from where `p` left the state; the first failing member
`Pop`s and its failure is the failure of the sequence (the frames it leaked stay, exactly as in the model); both succeeded:
`Drop`, and the result holds the two answers as its children, in the order of the parsers.  `p`'s model parser is `Safe`: the
bound must still hold where `q` starts. -/
theorem seq_simUpTo {α β : Type} (L : Nat) (env : Env ρ ε) (pend : ρ → Option ε → Bytes)
    (va : α → ResultV → Prop) (vb : β → ResultV → Prop) (p q : GoParser ρ ε) (m : Pars.P α) (n : Pars.P β)
    (hp : SimPUpTo L pend va p m) (hm : Pars.Safe m) (hq : SimPUpTo L pend vb q n) :
    SimPUpTo L pend (fun ab r => ∃ ra rb, r = .children [ra, rb] ∧ va ab.1 ra ∧ vb ab.2 rb)
      (parsSeq env [p, q]) (ModParse.seq2 m n) := by
  intro g res h hb
  rw [seq2_eq]
  refine Agree.step (push_sim pend g h) fun g1 _ hinv1 habs1 => ?_
  have hb1 : Pars.Fr L [] 0 (absState pend g1) := by rw [habs1]; exact fr_push hb
  refine seq_cons L env pend va _ _ res p m hp [q] _ 0 _ (by simp) g1 hinv1 hb1 (Pars.Fr L [] 0) (fr_keeps hm hb1) ?_
  intro a g2 ra hva hinv2 hb2
  refine seq_cons L env pend vb _ _ res q n hq [] _ 1 _ (by simp) g2 hinv2 hb2 (fun _ => True) trivial ?_
  intro b g3 rb hvb hinv3 _
  exact seq_nil env pend _ _ res _ _ g3 hinv3 (a, b) ⟨ra, rb, rfl, hva, hvb⟩

/-- `pars.Seq(p, q, r)` = `ModParse.seq3`, BOUNDED (as `seq_simUpTo`, three members; the first two `Safe`) -/
theorem seq3_simUpTo {α β γ : Type} (L : Nat) (env : Env ρ ε) (pend : ρ → Option ε → Bytes)
    (va : α → ResultV → Prop) (vb : β → ResultV → Prop) (vc : γ → ResultV → Prop) (p q r : GoParser ρ ε)
    (m : Pars.P α) (n : Pars.P β) (o : Pars.P γ)
    (hp : SimPUpTo L pend va p m) (hm : Pars.Safe m) (hq : SimPUpTo L pend vb q n) (hn : Pars.Safe n)
    (hr : SimPUpTo L pend vc r o) :
    SimPUpTo L pend (fun abc x => ∃ ra rb rc, x = .children [ra, rb, rc] ∧ va abc.1 ra ∧ vb abc.2.1 rb ∧ vc abc.2.2 rc)
      (parsSeq env [p, q, r]) (ModParse.seq3 m n o) := by
  intro g res h hb
  rw [seq3_eq]
  refine Agree.step (push_sim pend g h) fun g1 _ hinv1 habs1 => ?_
  have hb1 : Pars.Fr L [] 0 (absState pend g1) := by rw [habs1]; exact fr_push hb
  refine seq_cons L env pend va _ _ res p m hp [q, r] _ 0 _ (by simp) g1 hinv1 hb1 (Pars.Fr L [] 0) (fr_keeps hm hb1) ?_
  intro a g2 ra hva hinv2 hb2
  refine seq_cons L env pend vb _ _ res q n hq [r] _ 1 _ (Nat.succ_lt_succ (by simp)) g2 hinv2 hb2 (Pars.Fr L [] 0)
    (fr_keeps hn hb2) ?_
  intro b g3 rb hvb hinv3 hb3
  refine seq_cons L env pend vc _ _ res r o hr [] _ 2 _ (by simp) g3 hinv3 hb3 (fun _ => True) trivial ?_
  intro c g4 rc hvc hinv4 _
  exact seq_nil env pend _ _ res _ _ g4 hinv4 (a, b, c) ⟨ra, rb, rc, rfl, hva, hvb, hvc⟩

/-- `Child(i)` on a result that holds children, the index inside: the `i`-th child, no error -/
theorem parsChild_in (env : Env ρ ε) (i : Nat) (cs : List ResultV) (hi : i < cs.length) :
    parsChild env (i : Int) (.children cs) = some (cs[i], none) := by
  simp [parsChild, resultChildren, parsIdx_eq, clAt_nat, hi]

/-- … the index outside: the Go code PANICS (index out of range) -/
theorem child_out_of_range_panics (env : Env ρ ε) (i : Nat) (cs : List ResultV) (hi : cs.length ≤ i) :
    parsChild env (i : Int) (.children cs) = none := by
  simp [parsChild, resultChildren, parsIdx_eq, clAt_nat, hi]

/-- … on a result without children: `errNoChildren`, the result untouched -/
theorem parsChild_no_children (env : Env ρ ε) (i : Int) (r : ResultV) (h : resultChildren r = none) :
    parsChild env i r = some (r, some env.mkErr) := by
  simp [parsChild, h]

/-- `parsMapP` = `ModParse.mapP`, BOUNDED -/
theorem mapP_simUpTo {α β : Type} (L : Nat) (pend : ρ → Option ε → Bytes) (val : α → ResultV → Prop)
    (val' : β → ResultV → Prop) (p : GoParser ρ ε) (m : Pars.P α) (hp : SimPUpTo L pend val p m)
    (f : ResultV → Option (ResultV × Option ε)) (fn : α → β)
    (hf : ∀ a r, val a r → ∃ r', f r = some (r', none) ∧ val' (fn a) r') :
    SimPUpTo L pend val' (parsMapP p f) (ModParse.mapP m fn) :=
  fun g res h hb => mapP_sim_pushed pend val val' p m g res h
    (fun g1 _ h1 ha => hp g1 res h1 (by rw [ha]; exact fr_push hb)) f fn hf

/-- `p.Child(i)` = `ModParse.mapP m fn`, BOUNDED: `Push`, `p`, `Pop` and its error on a failure; on success `Drop` and the `i`-th
child of what `p` answered — for a parser whose answers hold more than `i` children, the `i`-th standing for `fn` of the model's
value (`hc`; with fewer children the Go code panics: `child_out_of_range_panics`) -/
theorem child_simUpTo {α β : Type} (L : Nat) (env : Env ρ ε) (pend : ρ → Option ε → Bytes) (val : α → ResultV → Prop)
    (val' : β → ResultV → Prop) (p : GoParser ρ ε) (m : Pars.P α) (hp : SimPUpTo L pend val p m) (i : Nat) (fn : α → β)
    (hc : ∀ a r, val a r → ∃ cs, r = .children cs ∧ ∃ hi : i < cs.length, val' (fn a) cs[i]) :
    SimPUpTo L pend val' (parsParserChild env p (i : Int)) (ModParse.mapP m fn) :=
  mapP_simUpTo L pend val val' p m hp (parsChild env (i : Int)) fn (fun a r hv => by
    obtain ⟨cs, rfl, hi, hv'⟩ := hc a r hv
    exact ⟨cs[i], parsChild_in env i cs hi, hv'⟩)

/-- `Push` keeps the line / byte position -/
theorem statePush_pos {g g' : State ρ ε} (h : statePush g = some g') : statePosition g' = statePosition g := by
  unfold statePush at h
  cases hs : stackPush g.stk g.off g.pos with
  | none => simp [hs] at h
  | some k =>
    simp only [hs, Option.bind_some, Option.some.injEq] at h
    subst h; rfl

/-- `pars.End` simulates `ModParse.atEnd` at every bound (whatever the result held) -/
theorem end_simUpTo (L : Nat) (env : Env ρ ε) (pend : ρ → Option ε → Bytes) (hf : FillOk env pend) :
    SimPUpTo L pend (fun (_ : Unit) _ => True) (fun s_ r_ => some (parsEnd env s_ r_)) ModParse.atEnd :=
  fun g res h _ => (end_sim env pend hf g h res).weaken_val fun _ _ _ => trivial

/-- `Seq(Head, p, End)` from a state at the HEAD of the input = `ModParse.seq2 m atEnd` (the model leaves `Head` out: it holds):
three cells, the answer of `p` in the second one -/
theorem seq_head_end_sim {α : Type} (L : Nat) (env : Env ρ ε) (pend : ρ → Option ε → Bytes) (hf : FillOk env pend)
    (val : α → ResultV → Prop) (p : GoParser ρ ε) (m : Pars.P α) (hp : SimPUpTo L pend val p m) (hm : Pars.Safe m)
    (g : State ρ ε) (res : ResultV) (h : Inv g) (hb : Pars.Fr L [] 0 (absState pend g))
    (hhead : positionHead (statePosition g) = true) :
    Agree pend (fun (ab : α × Unit) r => ∃ r0 ra rb, r = .children [r0, ra, rb] ∧ val ab.1 ra)
      (parsSeq env [(fun s_ r_ => some (parsHead env s_ r_)), p, (fun s_ r_ => some (parsEnd env s_ r_))] g res)
      ((ModParse.seq2 m ModParse.atEnd).run' (absState pend g)) := by
  rw [seq2_eq]
  refine Agree.step (push_sim pend g h) fun g1 hpu hinv1 habs1 => ?_
  have hb1 : Pars.Fr L [] 0 (absState pend g1) := by rw [habs1]; exact fr_push hb
  have hpos : positionHead (statePosition g1) = true := by rw [statePush_pos hpu]; exact hhead
  -- the first round: `Head` holds and leaves state and cell as they are
  show Agree _ _ (rangeLoopIdx _ _ ((0 : Nat) : Int) _ (g1, [ResultV.unset, ResultV.unset, ResultV.unset])) _
  rw [rangeLoopIdx, parsSeq_body1_at env _ res _ 0 [ResultV.unset, ResultV.unset, ResultV.unset] (Nat.zero_lt_succ _) g1,
    List.getElem_cons_zero, parsHead, if_neg (not_not_intro hpos)]
  show Agree _ _ (rangeLoopIdx _ _ ((1 : Nat) : Int) _ (g1, [ResultV.unset, ResultV.unset, ResultV.unset])) _
  refine seq_cons L env pend val _ _ res p m hp _ _ 1 _ (by simp) g1 hinv1 hb1 (Pars.Fr L [] 0) (fr_keeps hm hb1) ?_
  intro a g2 ra hva hinv2 hb2
  refine seq_cons L env pend _ _ _ res _ ModParse.atEnd (end_simUpTo L env pend hf) [] _ 2 _ (by simp) g2 hinv2 hb2
    (fun _ => True) trivial ?_
  intro b g3 rb _ hinv3 _
  exact seq_nil env pend _ _ res _ _ g3 hinv3 (a, b) ⟨.unset, ra, rb, rfl, hva⟩

/-- **`pars.Exact(p)` = `ModParse.exact m`**, BOUNDED, from a state at the HEAD of the input (position line 0, byte 0 — what
`pars.FromString` builds; the model's `exact` is stated for such a state): `Exact(p)` = `Seq(Head, p, End).Map(Child(1))` runs `p`
behind two `Push`es and then asks for the END of the input; a failure of `p` or bytes left over `Pop` twice (the frames they leaked
stay, as in the model); the answer is `p`'s.  `p` simulates `m` up to `L`, `m` is `Safe`. -/
theorem exact_simUpTo {α : Type} (L : Nat) (env : Env ρ ε) (pend : ρ → Option ε → Bytes) (hf : FillOk env pend)
    (val : α → ResultV → Prop) (p : GoParser ρ ε) (m : Pars.P α) (hp : SimPUpTo L pend val p m) (hm : Pars.Safe m)
    (g : State ρ ε) (res : ResultV) (h : Inv g) (hb : Pars.Fr L [] 0 (absState pend g))
    (hhead : positionHead (statePosition g) = true) :
    Agree pend val (parsExact env p g res) ((ModParse.exact m).run' (absState pend g)) := by
  unfold parsExact ModParse.exact
  refine mapP_sim_pushed pend (fun (ab : α × Unit) r => ∃ r0 ra rb, r = .children [r0, ra, rb] ∧ val ab.1 ra) val _ _ g res h
    ?_ (parsChild env 1) (·.1) ?_
  · intro g1 hpu hinv1 habs1
    exact seq_head_end_sim L env pend hf val p m hp hm g1 res hinv1 (by rw [habs1]; exact fr_push hb)
      (by rw [statePush_pos hpu]; exact hhead)
  · rintro ⟨a, b⟩ r ⟨r0, ra, rb, rfl, hv⟩
    exact ⟨ra, parsChild_in env 1 [r0, ra, rb] (by simp), hv⟩

/-- **`parseHead` / `parseTail` of modifier.go** — `pars.Any(pars.Seq(c, pars.Int).Child(1), pars.Byte(c).Bind(0)).Map(…)`, `c` = `^` /
`$` — **is the model's `ModParse.parseMark c`** (`parseHead = parseMark 94`, `parseTail = parseMark 36`) up to every bound `L` below
the loop fuel of `Int`: the regenerated `Any`, `Seq`, `Parser.Child`, `Byte`, `Int`, `Parser.Map` composed as the Go declaration
composes them.  NOT regenerated, hypotheses: `AsParser(c)` is `pars.Byte(c)`; the second alternative `q` (`Parser.Bind` stores an
`interface{}`, outside the translator's subset) simulates "the byte, then 0"; the final mapping `f` turns the integer `n` into the
value standing for the offset `n` and does not fail. -/
theorem head_simUpTo (L : Nat) (env : Env ρ ε) (pend : ρ → Option ε → Bytes) (hf : FillOk env pend) (he : EnvOk env)
    (fuel : Nat) (hfu : L < fuel) (c : UInt8) (q : GoParser ρ ε)
    (hq : SimPUpTo L pend (fun n r => r = ResultV.int n) q (do ModParse.byte c; pure 0))
    (val' : Int → ResultV → Prop) (f : ResultV → ResultV × Option ε)
    (hmap : ∀ n, (f (ResultV.int n)).2 = none ∧ val' n (f (ResultV.int n)).1) :
    SimPUpTo L pend val'
      (parsMap (parsAny env [parsParserChild env (parsSeq env [parsByte env c, parsInt env fuel]) 1, q]) f)
      (ModParse.parseMark c) := by
  unfold ModParse.parseMark
  refine map_simUpTo L pend (fun n r => r = ResultV.int n) val' _ _ ?_ f id ?_
  case refine_2 => intro a r hr; subst hr; exact hmap a
  refine any_simUpTo L env pend _ _ _ (.cons ⟨?_, ?_⟩ (.cons ⟨hq, ?_⟩ .nil))
  · exact child_simUpTo L env pend _ _ _ _
      (seq_simUpTo L env pend _ _ _ _ _ _ (byte_simUpTo L env pend hf c) (Pars.byte_safe c)
        (int_simUpTo L env pend hf he fuel hfu)) 1 (·.2)
      (fun ab r ⟨ra, rb, hr, _, hb⟩ => ⟨[ra, rb], hr, by simp, by simpa using hb⟩)
  · exact Pars.mapP_safe _ _ (Pars.seq2_safe _ _ (Pars.byte_safe c) Pars.int_safe)
  · intro L base n s h
    rw [Pars.wp_bind]
    exact Pars.wp_safe (Pars.byte_safe c) h (fun _ _ h' => Pars.std_ok h') (fun _ h' => Pars.std_fail h')

/-- `parseHead` of the model is the rule at `^` -/
theorem parseHead_eq : ModParse.parseHead = ModParse.parseMark 94 := rfl

end Seq

/-- the generated `Seq('^', Int).Child(1)` run on the demo reader: on `^+12,` the integer 12, the comma next, nothing pushed; on `^`
alone `Int` fails at the end of the input and LEAKS its frame (F34), `Seq` `Pop`s that one (not its own), `Child`'s `Map` pops `Seq`'s:
the frame of `Map` stays, the position is restored — as the model says -/
example :
    (parsParserChild demoEnv (parsSeq demoEnv [parsByte demoEnv 94, parsInt demoEnv 10]) 1
        (freshState [] [94, 43, 49, 50, 44]) .unset).map
      (fun t => (t.2.1, t.2.2, (absState demoPend t.1).rest, (absState demoPend t.1).stk)) =
      some (.int 12, none, [44], []) ∧
    (parsParserChild demoEnv (parsSeq demoEnv [parsByte demoEnv 94, parsInt demoEnv 10]) 1
        (freshState [] [94]) .unset).map
      (fun t => (t.2.2.isSome, (absState demoPend t.1).rest, (absState demoPend t.1).stk)) =
      some (true, [94], [[94]]) := by
  refine ⟨by decide +kernel, by decide +kernel⟩

/-- `Exact(Seq('^', Int).Child(1))` on the demo reader: `^7` is taken whole; on `^7x` the end check fails -/
example :
    (parsExact demoEnv (parsParserChild demoEnv (parsSeq demoEnv [parsByte demoEnv 94, parsInt demoEnv 10]) 1)
        (freshState [] [94, 55]) .unset).map (fun t => (t.2.1, t.2.2)) = some (.int 7, none) ∧
    (parsExact demoEnv (parsParserChild demoEnv (parsSeq demoEnv [parsByte demoEnv 94, parsInt demoEnv 10]) 1)
        (freshState [] [94, 55, 120]) .unset).map (fun t => t.2.2.isSome) = some true := by
  refine ⟨by decide +kernel, by decide +kernel⟩

/-- the hypotheses of `exact_simUpTo` are met by the fresh state over `^7` on the demo reader -/
example : Inv (freshState (ρ := Bytes) (ε := Unit) [] [94, 55]) ∧
    Pars.Fr 9 [] 0 (absState demoPend (freshState (ρ := Bytes) (ε := Unit) [] [94, 55])) ∧
    positionHead (statePosition (freshState (ρ := Bytes) (ε := Unit) [] [94, 55])) = true := by
  refine ⟨fresh_inv _ _, ?_, by decide⟩
  rw [fresh_abs]
  exact ⟨⟨[], rfl, Nat.le_refl _, fun _ hf => nomatch hf⟩, by decide, trivial⟩
end Gts.Bridge
