/-
  Bridge: `LocationLess`, regenerated from location.go by go2lean (Gts/Gen/LocLess.lean: statement by
  statement in the order of the Go source — complement of `a`, complement of `b`, ANY over the parts
  of `a`, ALL over the parts of `b`, two contiguous leaves compared by `rangeCompare` and the number of
  partial ends; the recursive calls through the parameter `self_`, the knot tied with explicit fuel),
  is the hand-written model's `Loc.less` — for EVERY pair of locations and every fuel above the sum of
  their sizes.

  The model takes `a` apart completely before it looks at `b`; the Go code interleaves.  That the two
  orders agree is `Loc.less_compl_right` (Gts/Lemmas/LessGoOrder.lean).  The order theorems of C19
  (`less_irrefl`, `less_trans`, `less_incomp_trans`, `insert_sorted`, …) and the class order of
  `Repair` (C12) are about `Loc.less`; this file re-checks them against what location.go says now.
-/
import Gts.Gen.LocLess
import Gts.Bridge.Arith
import Gts.Lemmas.LessGoOrder
namespace Gts.Bridge
open Gts

/-- the first loop of `LocationLess` (over the parts of `a`) falls through iff no part is less than `b` -/
theorem locationLessLoop_eq (self_ : Loc → Loc → Bool) (b : Loc) : ∀ ls : List Loc,
    Gen.locationLessLoop self_ b ls = if ls.any (fun l => self_ l b) = true then some true else none
  | [] => rfl
  | l :: ls => by
    rw [Gen.locationLessLoop, locationLessLoop_eq self_ b ls, List.any_cons]
    cases self_ l b <;> rfl

/-- the second loop of `LocationLess` (over the parts of `b`) falls through iff `a` is less than every part -/
theorem locationLessLoop2_eq (self_ : Loc → Loc → Bool) (a : Loc) : ∀ ls : List Loc,
    Gen.locationLessLoop2 self_ a ls = if ls.all (fun l => self_ a l) = true then none else some false
  | [] => rfl
  | l :: ls => by
    rw [Gen.locationLessLoop2, locationLessLoop2_eq self_ a ls, List.all_cons]
    cases self_ a l <;> rfl

theorem asLocationSlice_leaf {a : Loc} (h : Loc.isContig a = true) : Gen.asLocationSlice a = none := by
  cases a <;> simp [Loc.isContig] at h <;> rfl

theorem asContiguous_leaf {a : Loc} (h : Loc.isContig a = true) :
    Gen.asContiguous a = ((Loc.span? a).getD (0, 0), true) := by
  cases a <;> simp [Loc.isContig] at h <;>
    simp [Gen.asContiguous, Loc.span?, Gen.betweenSpan, Gen.pointSpan, Gen.rangedSpan, Gen.ambiguousSpan]

theorem span?_leaf {a : Loc} (h : Loc.isContig a = true) : ∃ s e, Loc.span? a = some (s, e) := by
  cases a <;> first | exact ⟨_, _, rfl⟩ | exact Bool.noConfusion h

/-- the two blocks `if x.Partial.Partial5 { n++ }; if x.Partial.Partial3 { n++ }` under `x, ok := v.(Ranged)`
count the partial ends -/
theorem asRanged_tally (a : Loc) :
    (if (Gen.asRanged a).2.2.2.2 = true then
      (if (Gen.asRanged a).2.2.2.1 = true then (if (Gen.asRanged a).2.2.1 = true then (0 : Int) + 1 else 0) + 1
        else (if (Gen.asRanged a).2.2.1 = true then (0 : Int) + 1 else 0))
      else 0) = (Loc.partialCount a : Int) := by
  cases a with
  | ranged s e p5 p3 => cases p5 <;> cases p3 <;> rfl
  | _ => rfl

/-- two contiguous leaves: the `switch` at the end of `LocationLess` is `contigLess` (`lok && rok` —
or `lok || rok`: both hold here) -/
theorem locationLessBody_leaf (self_ : Loc → Loc → Bool) {a b : Loc}
    (ha : Loc.isContig a = true) (hb : Loc.isContig b = true) :
    Gen.locationLessBody self_ a b = Loc.contigLess a b := by
  obtain ⟨s1, e1, hsa⟩ := span?_leaf ha
  obtain ⟨s2, e2, hsb⟩ := span?_leaf hb
  unfold Gen.locationLessBody
  split
  · exact Bool.noConfusion ha
  split
  · exact Bool.noConfusion hb
  -- neither is a complement nor has parts: what is left is the comparison of the spans, then of the tallies
  simp only [asLocationSlice_leaf ha, asLocationSlice_leaf hb, asContiguous_leaf ha, asContiguous_leaf hb,
    and_self, if_true, asRanged_tally, rangeCompare_eq, Loc.contigLess, hsa, hsb, Option.getD_some, Int.ofNat_lt]

theorem locationLessBody_compl_right (self_ : Loc → Loc → Bool) {a : Loc} (ha : ∀ x, a ≠ .compl x)
    (c : Loc) : Gen.locationLessBody self_ a (.compl c) = self_ a c := by
  cases a <;> first | exact absurd rfl (ha _) | simp only [Gen.locationLessBody]

theorem locationLessBody_slice_left (self_ : Loc → Loc → Bool) {a : Loc} {ls : List Loc}
    (ha : a = .joined ls ∨ a = .ordered ls) {b : Loc} (hb : ∀ x, b ≠ .compl x) :
    Gen.locationLessBody self_ a b = ls.any (fun l => self_ l b) := by
  have hs : Gen.asLocationSlice a = some ls := by rcases ha with rfl | rfl <;> rfl
  unfold Gen.locationLessBody
  split
  · rcases ha with h | h <;> cases h
  split
  · exact absurd rfl (hb _)
  rw [hs]
  simp only [locationLessLoop_eq]
  cases List.any ls _ <;> rfl

theorem locationLessBody_slice_right (self_ : Loc → Loc → Bool) {a : Loc} (ha : Loc.isContig a = true)
    {b : Loc} {ls : List Loc} (hb : b = .joined ls ∨ b = .ordered ls) :
    Gen.locationLessBody self_ a b = ls.all (fun l => self_ a l) := by
  have hs : Gen.asLocationSlice b = some ls := by rcases hb with rfl | rfl <;> rfl
  unfold Gen.locationLessBody
  split
  · exact Bool.noConfusion ha
  split
  · rcases hb with h | h <;> cases h
  rw [asLocationSlice_leaf ha, hs]
  simp only [locationLessLoop2_eq]
  cases List.all ls _ <;> rfl

/-- `any` and `all` only look at the values of the test on the members: they are `any id` / `all id` of the mapped list -/
theorem any_congr_mem {p q : Loc → Bool} {ls : List Loc} (h : ∀ l ∈ ls, p l = q l) : ls.any p = ls.any q := by
  simpa only [List.any_map, Function.id_comp] using congrArg (List.any · id) (List.map_congr_left h)

theorem all_congr_mem {p q : Loc → Bool} {ls : List Loc} (h : ∀ l ∈ ls, p l = q l) : ls.all p = ls.all q := by
  simpa only [List.all_map, Function.id_comp] using congrArg (List.all · id) (List.map_congr_left h)

theorem isContig_of_not {a : Loc} (hc : ∀ x, a ≠ .compl x) (hs : ¬ ∃ ls, a = .joined ls ∨ a = .ordered ls) :
    Loc.isContig a = true := by
  cases a <;>
    first
    | rfl
    | exact absurd rfl (hc _)
    | exact absurd ⟨_, Or.inl rfl⟩ hs
    | exact absurd ⟨_, Or.inr rfl⟩ hs

/-- ONE STEP: if `self_` is `Loc.less` on every pair of smaller total size, the body of
`LocationLess` computes `Loc.less a b` -/
theorem locationLessBody_eq (self_ : Loc → Loc → Bool) (a b : Loc)
    (h : ∀ a' b', Loc.size a' + Loc.size b' < Loc.size a + Loc.size b → self_ a' b' = Loc.less a' b') :
    Gen.locationLessBody self_ a b = Loc.less a b := by
  -- (1) complement of `a`, (2) complement of `b` (whichever the source strips first when both are
  -- complements: `Loc.less` does not see either)
  by_cases hca : ∃ c, a = .compl c
  · obtain ⟨c, rfl⟩ := hca
    cases b <;> simp only [Gen.locationLessBody] <;>
      rw [h _ _ (by simp only [Loc.size]; omega)] <;>
      simp only [Loc.less_compl_left, Loc.less_compl_right]
  have hca' : ∀ x, a ≠ .compl x := fun x hx => hca ⟨x, hx⟩
  by_cases hcb : ∃ c, b = .compl c
  · obtain ⟨c, rfl⟩ := hcb
    rw [locationLessBody_compl_right self_ hca', h a c (by simp only [Loc.size]; omega),
      Loc.less_compl_right]
  have hcb' : ∀ x, b ≠ .compl x := fun x hx => hcb ⟨x, hx⟩
  -- (3) parts of `a`
  by_cases hsa : ∃ ls, a = .joined ls ∨ a = .ordered ls
  · obtain ⟨ls, hls⟩ := hsa
    have hsz : Loc.size a = 1 + Loc.sizeList ls := by rcases hls with rfl | rfl <;> rfl
    rw [locationLessBody_slice_left self_ hls hcb',
      any_congr_mem fun l hl => h l b (by have := Loc.size_le_sizeList hl; omega)]
    rcases hls with rfl | rfl
    · rw [Loc.less_joined_left]
    · rw [Loc.less_ordered_left]
  have hla := isContig_of_not hca' hsa
  -- (4) parts of `b`
  by_cases hsb : ∃ ls, b = .joined ls ∨ b = .ordered ls
  · obtain ⟨ls, hls⟩ := hsb
    have hsz : Loc.size b = 1 + Loc.sizeList ls := by rcases hls with rfl | rfl <;> rfl
    rw [locationLessBody_slice_right self_ hla hls,
      all_congr_mem fun l hl => h a l (by have := Loc.size_le_sizeList hl; omega)]
    rcases hls with rfl | rfl
    · rw [Loc.less_leaf_joined hla]
    · rw [Loc.less_leaf_ordered hla]
  -- (5) two contiguous leaves
  have hlb := isContig_of_not hcb' hsb
  rw [locationLessBody_leaf self_ hla hlb, Loc.less_leaf_leaf hla hlb]

/-- `LocationLess` as location.go defines it now is the model's `Loc.less`: for every pair of
locations and every fuel of at least the sum of their sizes (the Go recursion terminates — each call
is on a pair of smaller total size — and returns `Loc.less a b`) -/
theorem locationLess_eq : ∀ (fuel : Nat) (a b : Loc), Loc.size a + Loc.size b ≤ fuel →
    Gen.locationLess fuel a b = Loc.less a b
  | 0, a, _, h => by have := Loc.size_pos a; omega
  | fuel + 1, a, b, h => by
    simp only [Gen.locationLess]
    exact locationLessBody_eq _ a b (fun a' b' hlt => locationLess_eq fuel a' b' (by omega))

theorem locationLess_size (a b : Loc) :
    Gen.locationLess (Loc.size a + Loc.size b) a b = Loc.less a b :=
  locationLess_eq _ a b (Nat.le_refl _)

-- non-vacuity: a pair on which the two recursion orders take different paths (the complement of `b`
-- is stripped before the parts of `a` are looked at), evaluated on the generated function
example : Gen.locationLess 9 (.joined [.ranged 5 9 false false, .point 1]) (.compl (.ordered [.point 3, .between 4]))
    = true := by decide
example : Loc.size (.joined [.ranged 5 9 false false, .point 1]) +
    Loc.size (.compl (.ordered [.point 3, .between 4])) = 7 := by decide

end Gts.Bridge
