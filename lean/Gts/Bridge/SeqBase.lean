/-
  Bridge, common part: the loop SHAPES go2lean/gseq.go emits for the record-level code of sequence.go /
  nucleotide.go / feature.go (Gts/Gen/Seq*.lean), each with its invariant, and the checked slice
  primitives of Gts/Gen/SeqPrelude.lean and Gts/Gen/GoBytes.lean.

  A generated loop is shown to HAVE one of these shapes by unfolding it once (`rfl`, or a case split
  on a generated conditional); the names of the Go locals do not occur in the proofs, so renaming them
  keeps every bridge, while a changed step function, a changed bound or an extra statement does not fit
  the shape any more.
-/
import Gts.Gen.SeqPrelude
import Gts.Lemmas.GoSlice
import Gts.Bridge.LocComplete
import Gts.Bridge.Loops
namespace Gts.Bridge
open Gts

abbrev GErr := Gts.Pars.Err

/-! ### `for _, x := range L { s = step x s }` -/

/-- a range loop without index whose body is free of panics folds its step over the list -/
theorem foldLoop_shape {α σ : Type} (loop : List α → σ → Except GErr σ) (step : α → σ → σ)
    (h0 : ∀ s, loop [] s = .ok s)
    (hs : ∀ x xs s, loop (x :: xs) s = loop xs (step x s)) :
    ∀ (xs : List α) (s : σ), loop xs s = .ok (xs.foldl (fun s x => step x s) s) :=
  Go.foldLoop .ok loop (fun s x => step x s) h0 hs

/-- a range loop with index whose body is free of panics folds its step over the list, the index
counting from its start value -/
theorem foldIdxLoop_shape {α σ : Type} (loop : List α → Int → σ → Except GErr σ) (step : α → Int → σ → σ)
    (h0 : ∀ i s, loop [] i s = .ok s)
    (hs : ∀ x xs i s, loop (x :: xs) i s = loop xs (i + 1) (step x i s)) :
    ∀ (xs : List α) (i : Int) (s : σ),
      loop xs i s = .ok ((xs.foldl (fun (p : Int × σ) x => (p.1 + 1, step x p.1 p.2)) (i, s)).2)
  | [], i, s => by rw [h0]; rfl
  | x :: xs, i, s => by rw [hs, foldIdxLoop_shape loop step h0 hs xs]; rfl

/-- `for _, f := range fs { f.Loc = g f; ff = ff.Insert(f) }`: the re-located features are inserted one by one -/
theorem insertLocLoop_shape (loop : List Feature → Table → Except GErr Table) (g : Feature → Loc)
    (h0 : ∀ ff, loop [] ff = .ok ff)
    (hs : ∀ f fs ff, loop (f :: fs) ff = loop fs (Table.insert ff { f with loc := g f }))
    (fs : List Feature) (ff : Table) :
    loop fs ff = .ok (Table.insertAll ff (fs.map fun f => { f with loc := g f })) := by
  rw [foldLoop_shape loop _ h0 hs, Table.insertAll, List.foldl_map]

/-! `l[k]` and `l[k] = x` of the prelude `Gts/Gen/SeqPrelude.lean` are `clAt`, `clPut` of `Gts/Gen/CliList.lean`
(`Gts/Lemmas/GoSlice.lean` has their lemmas) -/

theorem goAt_eq : @Gen.goAt = @Gen.clAt := rfl

theorem goSet_nat {α : Type} (l : List α) (k : Nat) (x : α) (h : k < l.length) :
    Gen.goSet l (k : Int) x = some (l.set k x) := clPut_nat l k x h

theorem goSet_nat_none {α : Type} (l : List α) (k : Nat) (x : α) (h : l.length ≤ k) :
    Gen.goSet l (k : Int) x = none := clPut_nat_none l k x h

theorem goSetLoc_nat (ff : List Feature) (k : Nat) (l : Loc) (h : k < ff.length) :
    Gen.goSetLoc ff (k : Int) l = some (ff.set k { ff[k] with loc := l }) := by
  simp only [Gen.goSetLoc, goAt_eq, clAt_lt ff k h, goSet_nat _ _ _ h]

theorem goMakeFeats_nat (n : Nat) : Gen.goMakeFeats (n : Int) = some (List.replicate n default) := by
  simp only [Gen.goMakeFeats, Int.toNat_natCast]
  rw [if_neg (by omega)]

theorem goCopyFeats_full (src : List Feature) :
    Gen.goCopyFeats (List.replicate src.length default) src = src := by
  simp [Gen.goCopyFeats]

/-- `copy(p, src)` into a fresh buffer of the same length -/
theorem goCopyAt_fresh (src : List UInt8) :
    Gen.goCopyAt (List.replicate src.length 0) 0 src = some (src, (src.length : Int)) := by
  simp [Gen.goCopyAt]

/-! ### `for i, f := range ff { ff[i].Loc = g f }` (live reads, `len(ff)` iterations) -/

/-- the in-place loop over a feature slice: entered at index `k` with `k + todo = len(ff)` it rewrites the
location of every cell from `k` on -/
theorem mapLocLoop_shape (loop : Nat → Int → List Feature → Except GErr (List Feature)) (g : Feature → Loc)
    (h0 : ∀ i ff, loop 0 i ff = .ok ff)
    (hs : ∀ t i ff, loop (t + 1) i ff =
      match Gen.goAt ff i with
      | none => .error .panic
      | some f =>
        match Gen.goSetLoc ff i (g f) with
        | none => .error .panic
        | some ff' => loop t (i + 1) ff') :
    ∀ (t k : Nat) (ff : List Feature), k + t = ff.length →
      loop t (k : Int) ff = .ok (ff.take k ++ (ff.drop k).map fun f => { f with loc := g f })
  | 0, k, ff, h => by
    rw [h0]
    have : k = ff.length := by omega
    subst this
    simp
  | t + 1, k, ff, h => by
    have hk : k < ff.length := by omega
    have e : ((k : Int) + 1) = ((k + 1 : Nat) : Int) := by omega
    rw [hs, goAt_eq, clAt_lt ff k hk]
    simp only [goSetLoc_nat ff k _ hk]
    rw [e, mapLocLoop_shape loop g h0 hs t (k + 1) _ (by simp only [List.length_set]; omega),
      set_take_succ ff k _ hk, set_drop_succ, List.drop_eq_getElem_cons hk]
    simp only [List.map_cons, List.append_assoc, List.cons_append, List.nil_append]

theorem mapLocLoop_all (loop : Nat → Int → List Feature → Except GErr (List Feature)) (g : Feature → Loc)
    (h0 : ∀ i ff, loop 0 i ff = .ok ff)
    (hs : ∀ t i ff, loop (t + 1) i ff =
      match Gen.goAt ff i with
      | none => .error .panic
      | some f =>
        match Gen.goSetLoc ff i (g f) with
        | none => .error .panic
        | some ff' => loop t (i + 1) ff') (ff : List Feature) :
    loop ff.length 0 ff = .ok (ff.map fun f => { f with loc := g f }) := by
  have := mapLocLoop_shape loop g h0 hs ff.length 0 ff (by omega)
  simpa using this

/-- the fuel of the prelude is the size the bridge of `asComplete` asks for -/
theorem locFuel_eq : ∀ l : Loc, Gen.locFuel l = Loc.size l
  | .between _ | .point _ | .ranged _ _ _ _ | .ambiguous _ _ => rfl
  | .joined ls | .ordered ls => by simp only [Gen.locFuel, Loc.size, locFuelList_eq ls]
  | .compl l => by simp only [Gen.locFuel, Loc.size, locFuel_eq l]
where
  locFuelList_eq : ∀ ls : List Loc, Gen.locFuelList ls = Loc.sizeList ls
    | [] => rfl
    | l :: ls => by simp only [Gen.locFuelList, Loc.sizeList, locFuel_eq l, locFuelList_eq ls]

theorem asComplete_fuel (l : Loc) : Gen.asComplete (Gen.locFuel l) l = Loc.asComplete l :=
  asComplete_eq _ l (by rw [locFuel_eq]; exact Nat.le_refl _)

end Gts.Bridge
