/-
  Bridge: the per-record steps of `gts insert` and `gts infix`, regenerated from cmd/gts/insert.go and
  infix.go by go2lean (Gts/Gen/CliInsert.lean: `indices[i] = r.Head()` for every located region, the
  descending sort, one `insert(out, index, guest)` per index into a copy of the host, for every guest
  — infix: for every host —, the loops recursive helpers), write exactly the model's `Cli.insert` of
  every (host, guest) pair, in order — for EVERY record, locator, `-e` flag and list of guests / hosts.
-/
import Gts.Gen.CliInsert
import Gts.Bridge.CliLoops
namespace Gts.Bridge
open Gts

/-- `indices := make([]int, len(rr)); for i, r := range rr { indices[i] = r.Head() }` collects the heads -/
theorem insertStep_heads (locate : Seq → List Reg) (embed : Bool) (guests : List Seq) (rr : List Reg) :
    Gen.insertStepLoop locate embed guests rr 0 (List.replicate rr.length default) = some (rr.map Reg.head) :=
  fillLoop_fresh _ _ (fun _ _ => rfl)
    (fun r rest i ys => by rw [Int.add_zero, Gen.insertStepLoop]; cases Gen.clPut ys i (Reg.head r) <;> rfl) rr

/-- the generated loop `for _, index := range indices { out = insert(out, index, guest) }` -/
theorem insertStepLoop3_eq (locate : Seq → List Reg) (embed : Bool) (guests : List Seq) (guest : Seq)
    (indices : List Int) (out : Seq) :
    Gen.insertStepLoop3 locate embed guests guest indices out = some (Cli.insertAt embed indices out guest) :=
  Go.foldLoop some (Gen.insertStepLoop3 locate embed guests guest)
    (fun out i => if embed then out.embed i guest else out.insert i guest)
    (fun _ => rfl) (fun _ _ _ => rfl) indices out

/-- the generated loop over the guests: one copy of the host per guest -/
theorem insertStepLoop2_eq (locate : Seq → List Reg) (embed : Bool) (guests : List Seq) (host : Seq)
    (indices : List Int) (gs : List Seq) (written : List Seq) :
    Gen.insertStepLoop2 locate embed guests host indices gs written =
      some (written ++ gs.map fun g => Cli.insertAt embed indices host g) :=
  appendLoop_spec (Gen.insertStepLoop2 locate embed guests host indices)
    (fun g => Cli.insertAt embed indices host g) (fun _ => rfl)
    (fun g rest w => by simp only [Gen.insertStepLoop2, insertStepLoop3_eq]) gs written

/-- **`gts insert`, one host record**: the scan-loop body of insert.go, as written, hands to
`WriteSeq` the model's `Cli.insert` of the host and each guest, in the order of the guests, and no
index expression in it panics. -/
theorem insertStep_eq (locate : Seq → List Reg) (embed : Bool) (guests : List Seq) (host : Seq) :
    Gen.insertStep locate embed guests host = some (guests.map fun g => Cli.insert locate embed host g) := by
  simp only [Gen.insertStep, clMake_nat, insertStep_heads, insertStepLoop2_eq, Cli.insert, List.nil_append]

example : Gen.insertStep (fun _ => [.seg 1 3, .seg 4 2]) false [⟨[], [9]⟩, ⟨[], [8, 8]⟩] ⟨[], [1, 2, 3, 4, 5]⟩
    = some ([⟨[], [9]⟩, ⟨[], [8, 8]⟩].map fun g => Cli.insert (fun _ => [.seg 1 3, .seg 4 2]) false ⟨[], [1, 2, 3, 4, 5]⟩ g) :=
  insertStep_eq _ _ _ _

theorem insertStepFacts_eq : Gen.insertStepFacts = ["sortDesc", "copy", "write", "flush"] := rfl

theorem infixStep_heads (locate : Seq → List Reg) (embed : Bool) (hosts : List Seq) (rr : List Reg) :
    Gen.infixStepLoop2 locate embed hosts rr 0 (List.replicate rr.length default) = some (rr.map Reg.head) :=
  fillLoop_fresh _ _ (fun _ _ => rfl)
    (fun r rest i ys => by rw [Int.add_zero, Gen.infixStepLoop2]; cases Gen.clPut ys i (Reg.head r) <;> rfl) rr

theorem infixStepLoop3_eq (locate : Seq → List Reg) (embed : Bool) (hosts : List Seq) (seq : Seq)
    (indices : List Int) (out : Seq) :
    Gen.infixStepLoop3 locate embed hosts seq indices out = some (Cli.insertAt embed indices out seq) :=
  Go.foldLoop some (Gen.infixStepLoop3 locate embed hosts seq)
    (fun out i => if embed then out.embed i seq else out.insert i seq)
    (fun _ => rfl) (fun _ _ _ => rfl) indices out

/-- the generated loop over the hosts: locate, collect the heads, sort, insert the scanned record -/
theorem infixStepLoop_eq (locate : Seq → List Reg) (embed : Bool) (hosts : List Seq) (seq : Seq)
    (hs : List Seq) (written : List Seq) :
    Gen.infixStepLoop locate embed hosts seq hs written =
      some (written ++ hs.map fun h => Cli.insert locate embed h seq) :=
  appendLoop_spec (Gen.infixStepLoop locate embed hosts seq)
    (fun h => Cli.insert locate embed h seq) (fun _ => rfl)
    (fun h rest w => by
      simp only [Gen.infixStepLoop, clMake_nat, infixStep_heads, infixStepLoop3_eq, Cli.insert]) hs written

/-- **`gts infix`, one guest record**: the scan-loop body of infix.go, as written, hands to
`WriteSeq` the model's `Cli.insert` of each host and the scanned record, in the order of the hosts. -/
theorem infixStep_eq (locate : Seq → List Reg) (embed : Bool) (hosts : List Seq) (seq : Seq) :
    Gen.infixStep locate embed hosts seq = some (hosts.map fun h => Cli.insert locate embed h seq) := by
  simp only [Gen.infixStep, infixStepLoop_eq, List.nil_append]

example : Gen.infixStep (fun _ => [.seg 1 3, .seg 4 2]) true [⟨[], [1, 2, 3, 4, 5]⟩] ⟨[], [9]⟩
    = some ([⟨[], [1, 2, 3, 4, 5]⟩].map fun h => Cli.insert (fun _ => [.seg 1 3, .seg 4 2]) true h ⟨[], [9]⟩) :=
  infixStep_eq _ _ _ _

theorem infixStepFacts_eq : Gen.infixStepFacts = ["sortDesc", "copy", "write", "flush"] := rfl

end Gts.Bridge
