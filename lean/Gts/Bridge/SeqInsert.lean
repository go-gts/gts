/-
  Bridge: the byte helper `insert`, `gts.Insert` and `gts.Embed`, regenerated from sequence.go by go2lean
  (Gts/Gen/SeqInsert.lean: statement by statement, the two `range` loops as recursions over the feature
  lists, the three slice expressions of `insert` as checked operations), are the hand-written model's
  `Seq.spliceBytes`, `Seq.insert`, `Seq.embed` (Gts/Model/Seq.lean) — for EVERY host, guest and index.

  Where Go panics: `insert` evaluates `p[:pos]` and `p[pos:]`; outside `0 ≤ index ≤ len(host)` the second
  one (or, for a negative index, the first) is a slice bound out of range.  The model is total there
  (`List.take` / `List.drop` clamp), so the equality with the model is stated under the no-panic condition
  `0 ≤ index ≤ len(host)` and the panic is stated separately, for every other index (`…_panic`): together
  the two theorems say what the generated function does on every input.

  Metadata: `Insert` hands `tryShift(info, index, Len(guest))`, `Embed` `tryExpand(info, index, Len(guest))`
  to `WithInfo`; the guest's metadata is dropped.  Slices are values here: that the functions do not write
  into their arguments is C11's subject.
-/
import Gts.Gen.SeqInsert
import Gts.Bridge.SeqBase
import Gts.Bridge.LocRec
namespace Gts.Bridge
open Gts

/-- `insert(p, pos, q)` inside the bounds is the model's splice -/
theorem seqInsertBytes_eq (p q : List UInt8) (pos : Int) (h : 0 ≤ pos ∧ pos ≤ (p.length : Int)) :
    Gen.seqInsertBytes p pos q = .ok (Seq.spliceBytes p pos.toNat q) := by
  have hc : ¬ ((p.length : Int) + (q.length : Int) < 0) := by omega
  simp only [Gen.seqInsertBytes, Gen.goMakeCap, if_neg hc, Gen.goSliceTo, Gen.goSliceFrom, if_pos h,
    Seq.spliceBytes, List.nil_append]

/-- `insert(p, pos, q)` outside the bounds panics (slice bound out of range) -/
theorem seqInsertBytes_panic (p q : List UInt8) (pos : Int) (h : ¬ (0 ≤ pos ∧ pos ≤ (p.length : Int))) :
    Gen.seqInsertBytes p pos q = .error .panic := by
  have hc : ¬ ((p.length : Int) + (q.length : Int) < 0) := by omega
  simp only [Gen.seqInsertBytes, Gen.goMakeCap, if_neg hc, Gen.goSliceTo, if_neg h]

/-- the first loop of `Insert` inserts the shifted host features one by one -/
theorem seqInsertLoop_eq (index : Int) (gb : List UInt8) (fs ff : List Feature) :
    Gen.seqInsertLoop index gb fs ff =
      .ok (Table.insertAll ff (fs.map fun f => { f with loc := f.loc.shift index gb.length })) := by
  rw [insertLocLoop_shape (Gen.seqInsertLoop index gb) (fun f => Gen.shift f.loc index gb.length)
    (fun _ => rfl) (fun _ _ _ => rfl)]
  simp only [shift_eq]

/-- the second loop of `Insert` / `Embed` inserts the re-based guest features one by one -/
theorem seqInsertLoop2_eq (index : Int) (fs ff : List Feature) :
    Gen.seqInsertLoop2 index fs ff =
      .ok (Table.insertAll ff (fs.map fun f => { f with loc := f.loc.expand 0 index })) := by
  rw [insertLocLoop_shape (Gen.seqInsertLoop2 index) (fun f => Gen.expand f.loc 0 index)
    (fun _ => rfl) (fun _ _ _ => rfl)]
  simp only [expand_eq]

theorem seqEmbedLoop_eq (index : Int) (gb : List UInt8) (fs ff : List Feature) :
    Gen.seqEmbedLoop index gb fs ff =
      .ok (Table.insertAll ff (fs.map fun f => { f with loc := f.loc.expand index gb.length })) := by
  rw [insertLocLoop_shape (Gen.seqEmbedLoop index gb) (fun f => Gen.expand f.loc index gb.length)
    (fun _ => rfl) (fun _ _ _ => rfl)]
  simp only [expand_eq]

theorem seqEmbedLoop2_eq (index : Int) (fs ff : List Feature) :
    Gen.seqEmbedLoop2 index fs ff =
      .ok (Table.insertAll ff (fs.map fun f => { f with loc := f.loc.expand 0 index })) := by
  rw [insertLocLoop_shape (Gen.seqEmbedLoop2 index) (fun f => Gen.expand f.loc 0 index)
    (fun _ => rfl) (fun _ _ _ => rfl)]
  simp only [expand_eq]

/-- `gts.Insert` as sequence.go defines it now is the model's `Seq.insert` wherever Go does not panic
(`0 ≤ index ≤ len(host)`), and hands `tryShift(info, index, Len(guest))` to `WithInfo` -/
theorem seqInsert_eq {ι : Type} (ops : Gen.InfoOps ι) (hi gi : ι) (host guest : Seq) (index : Int)
    (h : 0 ≤ index ∧ index ≤ host.len) :
    Gen.seqInsert ops hi host.feats host.bytes index gi guest.feats guest.bytes =
      .ok (ops.tryShift hi index guest.len, (host.insert index guest).feats, (host.insert index guest).bytes) := by
  simp only [Gen.seqInsert, seqInsertLoop_eq, seqInsertLoop2_eq, seqInsertBytes_eq _ _ _ h, Seq.insert, Seq.len]

/-- … and panics for every other index -/
theorem seqInsert_panic {ι : Type} (ops : Gen.InfoOps ι) (hi gi : ι) (host guest : Seq) (index : Int)
    (h : ¬ (0 ≤ index ∧ index ≤ host.len)) :
    Gen.seqInsert ops hi host.feats host.bytes index gi guest.feats guest.bytes = .error .panic := by
  simp only [Gen.seqInsert, seqInsertLoop_eq, seqInsertLoop2_eq, seqInsertBytes_panic _ _ _ h]

/-- `gts.Embed` as sequence.go defines it now is the model's `Seq.embed` wherever Go does not panic
(`0 ≤ index ≤ len(host)`), and hands `tryExpand(info, index, Len(guest))` to `WithInfo` -/
theorem seqEmbed_eq {ι : Type} (ops : Gen.InfoOps ι) (hi gi : ι) (host guest : Seq) (index : Int)
    (h : 0 ≤ index ∧ index ≤ host.len) :
    Gen.seqEmbed ops hi host.feats host.bytes index gi guest.feats guest.bytes =
      .ok (ops.tryExpand hi index guest.len, (host.embed index guest).feats, (host.embed index guest).bytes) := by
  simp only [Gen.seqEmbed, seqEmbedLoop_eq, seqEmbedLoop2_eq, seqInsertBytes_eq _ _ _ h, Seq.embed, Seq.len]

/-- … and panics for every other index -/
theorem seqEmbed_panic {ι : Type} (ops : Gen.InfoOps ι) (hi gi : ι) (host guest : Seq) (index : Int)
    (h : ¬ (0 ≤ index ∧ index ≤ host.len)) :
    Gen.seqEmbed ops hi host.feats host.bytes index gi guest.feats guest.bytes = .error .panic := by
  simp only [Gen.seqEmbed, seqEmbedLoop_eq, seqEmbedLoop2_eq, seqInsertBytes_panic _ _ _ h]

-- non-vacuity: a guest of two residues with one feature into a host of four with a feature spanning the cut
example : Gen.seqInsert (ι := Unit) ⟨fun i _ _ => i, fun i _ _ => i, fun i _ _ => i, fun i _ => i, ()⟩ ()
      [⟨"gene", .ranged 1 3 false false, []⟩] [65, 67, 71, 84] 2 () [⟨"cds", .ranged 0 2 false false, []⟩] [78, 78] =
    .ok ((), [⟨"gene", .joined [.ranged 1 2 false false, .ranged 4 5 false false], []⟩,
      ⟨"cds", .ranged 2 4 false false, []⟩], [65, 67, 78, 78, 71, 84]) := by
  rfl
example : Gen.seqInsert (ι := Unit) ⟨fun i _ _ => i, fun i _ _ => i, fun i _ _ => i, fun i _ => i, ()⟩ ()
      [] [65, 67, 71, 84] 5 () [] [78, 78] = .error .panic := by
  rfl

end Gts.Bridge
