/-
  C14 bridge: the cache PROTOCOL code of cmd/gts/io.go, regenerated by go2lean as FUNCTIONS over an arbitrary record
  of I/O primitives (`Gts/Gen/IoDelegate.lean`, generator go2lean/iodelegatefn.go: `gtsCacheDir`, `newIODelegate`,
  `Commit`, `Write`, `Close`, `TryCache`).

  (1) What holds for EVERY behaviour of the primitives (`io` arbitrary): a hit is reported only behind a successful
  `cache.Open` and a successful copy (`tryCache_no_hit_when_copy_fails`, `tryCache_no_hit_when_open_fails`,
  `tryCache_no_hit_when_hashing_fails`), a failing hit copy falls back without an error
  (`tryCache_copy_error_falls_back`), a cache that cannot be set up is not an error (`tryCache_bypass_*`),
  `Commit` sets the flag and nothing else (`commit_eq`), `Close` removes the entry unless committed
  (`close_unarmed / close_kept / close_removed`), the tee writes the entry first and then the output
  (`write_unarmed / write_tee / write_entry_error`).  The statements about `TryCache` are read off its three outcomes
  (`Tried`: fallback, miss, hit; `tryCache_outcome`).
  (2) Run on the machine `protoIO` of `Gts/Model/CacheProtoIO.lean` (primitives = the world and the store of the
  protocol model) one cached command — `newIODelegate; defer Close; TryCache; body through Write; Commit` — IS
  `CacheProto.step` (`runCommand_eq_step`): bypass, hit, broken hit and miss, with and without `-o`, committed or
  not, whether `cache.Close()` works or not; no method is ever called on a nil `*cache.File`.  The machine keeps the
  read OFFSET of the input and of the temporary copy: the root sum is the digest of what is unread, and
  `body_reads_whole_input` says that the body of the command starts on an input that delivers exactly the bytes that
  were hashed (all of stdin spooled, every read rewound).
  The C14 theorems are about `CacheProto.step`; these theorems re-check them against what the code says NOW.
-/
import Gts.Gen.IoDelegate
namespace Gts.Bridge.IoDelegateFn
open Gts.Cache Gts.CacheProto
open Gts.Gen

section generic
variable {σ ε φ κ ν : Type} [DecidableEq φ] [DecidableEq κ] (io : DelegateIO σ ε φ κ ν)

/-- **`Commit` sets the flag and nothing else** — for every `io`: no primitive is called, the state is untouched -/
theorem commit_eq (d : Delegate φ κ) (s : σ) : IoDelegateFn.commit io d s = (s, { d with done := true }) := rfl

/-- the deferred calls of `Close`, last deferred first: `outfile.Close()`, `infile.Close()`, and the removal of the
temporary copy of stdin when there is one -/
def closeTail (d : Delegate φ κ) (s : σ) : σ :=
  let s := (io.fileClose d.outfile s).1
  let s := (io.fileClose d.infile s).1
  if d.tmpin = true then (io.osRemove (io.fileName d.infile) s).1 else s

/-- `Close` without an armed entry touches no entry -/
theorem close_unarmed (d : Delegate φ κ) (s : σ) (h : d.cache = io.nilCache) :
    IoDelegateFn.close io d s = (closeTail io d s, d, none) := by
  simp [IoDelegateFn.close, IoDelegateFn.close_k5, closeTail, h]

/-- **`Close` keeps the entry of a committed run whose `cache.Close()` returned nil** (it is finalised, not removed) -/
theorem close_kept (d : Delegate φ κ) (s : σ) (h : d.cache ≠ io.nilCache) (hd : d.done = true)
    (hc : (io.cacheClose d.cache s).2 = none) :
    IoDelegateFn.close io d s = (closeTail io d (io.cacheClose d.cache s).1, d, none) := by
  simp [IoDelegateFn.close, IoDelegateFn.close_k5, IoDelegateFn.close_k6, closeTail, h, hd, hc]

/-- **`Close` removes the entry unless committed**: not committed, or `cache.Close()` failed — the entry is
finalised first and then removed -/
theorem close_removed (d : Delegate φ κ) (s : σ) (h : d.cache ≠ io.nilCache)
    (hr : d.done = false ∨ (io.cacheClose d.cache s).2.isSome = true) :
    IoDelegateFn.close io d s =
      (closeTail io d (io.osRemove (io.cacheName d.cache) (io.cacheClose d.cache s).1).1, d, none) := by
  rcases hr with hr | hr <;>
    simp [IoDelegateFn.close, IoDelegateFn.close_k5, IoDelegateFn.close_k6, closeTail, h, hr]

/-- the tee without an armed entry: the output's write, and its result -/
theorem write_unarmed (d : Delegate φ κ) (p : Bytes) (s : σ) (h : d.cache = io.nilCache) :
    IoDelegateFn.write io d p s =
      ((io.fileWrite d.outfile p s).1, d, (io.fileWrite d.outfile p s).2.1, (io.fileWrite d.outfile p s).2.2) := by
  simp [IoDelegateFn.write, IoDelegateFn.write_k1, h]

/-- **The tee writes both**: with an armed entry the chunk goes into the entry FIRST and then, in the state the entry
write left, to the output; the result is the output's -/
theorem write_tee (d : Delegate φ κ) (p : Bytes) (s : σ) (h : d.cache ≠ io.nilCache)
    (hw : (io.cacheWrite d.cache p s).2.2 = none) :
    IoDelegateFn.write io d p s =
      ((io.fileWrite d.outfile p (io.cacheWrite d.cache p s).1).1, d,
       (io.fileWrite d.outfile p (io.cacheWrite d.cache p s).1).2.1,
       (io.fileWrite d.outfile p (io.cacheWrite d.cache p s).1).2.2) := by
  simp [IoDelegateFn.write, IoDelegateFn.write_k1, h, hw]

/-- what the code does on an entry write error: the error is returned at once, the output does NOT get the chunk -/
theorem write_entry_error (d : Delegate φ κ) (p : Bytes) (s : σ) (h : d.cache ≠ io.nilCache)
    (hw : (io.cacheWrite d.cache p s).2.2.isSome = true) :
    IoDelegateFn.write io d p s =
      ((io.cacheWrite d.cache p s).1, d, (io.cacheWrite d.cache p s).2.1, (io.cacheWrite d.cache p s).2.2) := by
  simp [IoDelegateFn.write, h, hw]

/-! ### `TryCache`, for every behaviour of the primitives -/

theorem close_delegate (d : Delegate φ κ) (s : σ) : (IoDelegateFn.close io d s).2.1 = d := by
  unfold IoDelegateFn.close
  dsimp only
  split
  · split <;> rfl
  · rfl

/-- **The outcomes of `TryCache`** on the delegate `d`: it FALLS BACK — no hit, `d` as it was, no error or the error of
spooling stdin (`io.Copy`) or of a rewind (`Seek`) —, it MISSES — no hit, no error, `d` armed with a new entry, behind a
failed `cache.Open` —, or it HITS — `d` as it was, no error, behind a successful hashing of the input, a successful
`cache.Open` and a successful copy of the entry to the output. -/
inductive Tried (d : Delegate φ κ) : σ × Delegate φ κ × Bool × Option ε → Prop
  | fallback (s' : σ) (e : Option ε) :
      (e = none ∨ (∃ a b t, e = (io.copyFile a b t).2.2) ∨ ∃ f o t, e = (io.fileSeek f o t).2.2) →
      Tried d (s', d, false, e)
  | miss (s' : σ) (f : κ) : (∃ dir r q t, (io.cacheOpen dir r q t).2.2.isSome = true) →
      Tried d (s', { d with cache := f }, false, none)
  | hit (s' : σ) : (∃ t, ¬ (io.hashCopy d.infile t).2.2.isSome = true) →
      (∃ dir r q t, ¬ (io.cacheOpen dir r q t).2.2.isSome = true) →
      (∃ f t, ¬ (io.copyOut d.outfile f t).2.2.isSome = true) → Tried d (s', d, true, none)

omit [DecidableEq φ] [DecidableEq κ] in
variable {io} in
theorem Tried.of_hit {d : Delegate φ κ} {R : σ × Delegate φ κ × Bool × Option ε} (h : Tried io d R)
    (hr : R.2.2.1 = true) : R.2.2.2 = none ∧ (∃ t, ¬ (io.hashCopy d.infile t).2.2.isSome = true) ∧
      (∃ dir r q t, ¬ (io.cacheOpen dir r q t).2.2.isSome = true) ∧
      ∃ f t, ¬ (io.copyOut d.outfile f t).2.2.isSome = true := by
  cases h with
  | fallback | miss => cases hr
  | hit _ hh ho hc => exact ⟨rfl, hh, ho, hc⟩

omit [DecidableEq φ] [DecidableEq κ] in
variable {io} in
theorem Tried.error {d : Delegate φ κ} {R : σ × Delegate φ κ × Bool × Option ε} (h : Tried io d R) :
    R.2.2.2 = none ∨ (∃ a b t, R.2.2.2 = (io.copyFile a b t).2.2) ∨ ∃ f o t, R.2.2.2 = (io.fileSeek f o t).2.2 := by
  cases h with
  | fallback _ _ he => exact he
  | miss | hit => exact .inl rfl

omit [DecidableEq φ] [DecidableEq κ] in
variable {io} in
theorem Tried.delegate {d : Delegate φ κ} {R : σ × Delegate φ κ × Bool × Option ε} (h : Tried io d R) :
    R.2.1 = d ∨ (∃ f, R.2.1 = { d with cache := f }) ∧ ∃ dir r q t, (io.cacheOpen dir r q t).2.2.isSome = true := by
  cases h with
  | fallback | hit => exact .inl rfl
  | miss _ f ho => exact .inr ⟨⟨f, rfl⟩, ho⟩

/-- `tryCache_k1` is the part of `TryCache` behind the spooling of stdin: hashing, key, `cache.Open`, hit or miss.
Each call is named (the `match`es) and each `if` decided in turn. -/
theorem k1_outcome (data : Bytes) (dir : String) (err : Option ε) (d : Delegate φ κ) (s : σ) :
    Tried io d (IoDelegateFn.tryCache_k1 io data dir err d s) := by
  unfold IoDelegateFn.tryCache_k1
  dsimp -iota only
  split
  rename_i s₁ _ e₁ h₁
  by_cases c₁ : e₁.isSome = true
  · rw [if_pos c₁]
    split
    rename_i s₂ _ e₂ h₂
    by_cases c₂ : e₂.isSome = true
    · rw [if_pos c₂]; exact .fallback _ _ (.inr (.inr ⟨_, _, _, by rw [h₂]⟩))
    · rw [if_neg c₂]; exact .fallback _ _ (.inl rfl)
  rw [if_neg c₁]
  split
  rename_i s₂ _ e₂ h₂
  by_cases c₂ : e₂.isSome = true
  · rw [if_pos c₂]; exact .fallback _ _ (.inr (.inr ⟨_, _, _, by rw [h₂]⟩))
  rw [if_neg c₂]
  split
  rename_i s₃ f e₃ h₃
  by_cases c₃ : e₃.isSome = true
  · rw [if_pos c₃]
    have ho : ∃ dir r q t, (io.cacheOpen dir r q t).2.2.isSome = true := ⟨_, _, _, _, by rw [h₃]; exact c₃⟩
    split
    split <;> exact .miss _ _ ho
  rw [if_neg c₃]
  split
  rename_i s₄ _ e₄ h₄
  by_cases c₄ : e₄.isSome = true
  · rw [if_pos c₄]; exact .fallback _ _ (.inl rfl)
  rw [if_neg c₄]
  split <;> exact .hit _ ⟨_, by rw [h₁]; exact c₁⟩ ⟨_, _, _, _, by rw [h₃]; exact c₃⟩ ⟨_, _, by rw [h₄]; exact c₄⟩

/-- `TryCache` has one of the three outcomes on `d` itself — never a hit when `d` reads stdin — or, when `d` reads stdin, on
`d` reading the temporary copy, behind a successful `TempFile`, `io.Copy` and rewind -/
theorem tryCache_outcome (d : Delegate φ κ) (data : Bytes) (s : σ) :
    ∃ d', Tried io d' (IoDelegateFn.tryCache io d data s) ∧
      (d' = d ∧ (d.infile = io.stdin → (IoDelegateFn.tryCache io d data s).2.2.1 = false) ∨
        d.infile = io.stdin ∧ (∃ f, d' = { d with infile := f, tmpin := true }) ∧
          (∃ a b t, ¬ (io.tempFile a b t).2.2.isSome = true) ∧ (∃ a b t, ¬ (io.copyFile a b t).2.2.isSome = true) ∧
          ∃ f o t, ¬ (io.fileSeek f o t).2.2.isSome = true) := by
  unfold IoDelegateFn.tryCache
  dsimp -iota only
  split
  rename_i s₀ dir e₀ _
  by_cases c₀ : e₀.isSome = true
  · rw [if_pos c₀]; exact ⟨d, .fallback _ _ (.inl rfl), .inl ⟨rfl, fun _ => rfl⟩⟩
  rw [if_neg c₀]
  by_cases hin : d.infile = io.stdin
  · rw [if_pos hin]
    split
    rename_i s₁ f e₁ h₁
    by_cases c₁ : e₁.isSome = true
    · rw [if_pos c₁]; exact ⟨d, .fallback _ _ (.inl rfl), .inl ⟨rfl, fun _ => rfl⟩⟩
    rw [if_neg c₁]
    split
    rename_i s₂ _ e₂ h₂
    by_cases c₂ : e₂.isSome = true
    · rw [if_pos c₂]
      split
      rename_i d' _ hcl
      rw [show d' = d by rw [← close_delegate io d s₂, hcl]]
      exact ⟨d, .fallback _ _ (.inr (.inl ⟨_, _, _, by rw [h₂]⟩)), .inl ⟨rfl, fun _ => rfl⟩⟩
    rw [if_neg c₂]
    split
    rename_i s₃ _ e₃ h₃
    by_cases c₃ : e₃.isSome = true
    · rw [if_pos c₃]
      split
      rename_i d' _ hcl
      rw [show d' = d by rw [← close_delegate io d s₃, hcl]]
      exact ⟨d, .fallback _ _ (.inr (.inr ⟨_, _, _, by rw [h₃]⟩)), .inl ⟨rfl, fun _ => rfl⟩⟩
    · rw [if_neg c₃]
      exact ⟨_, k1_outcome io .., .inr ⟨hin, ⟨_, rfl⟩, ⟨_, _, _, by rw [h₁]; exact c₁⟩, ⟨_, _, _, by rw [h₂]; exact c₂⟩,
        _, _, _, by rw [h₃]; exact c₃⟩⟩
  · rw [if_neg hin]; exact ⟨d, k1_outcome io .., .inl ⟨rfl, fun h => absurd h hin⟩⟩

theorem k1_no_hit_when_copy_fails (hc : ∀ o f s, (io.copyOut o f s).2.2.isSome = true) (data : Bytes)
    (dir : String) (err : Option ε) (d : Delegate φ κ) (s : σ) :
    (IoDelegateFn.tryCache_k1 io data dir err d s).2.2.1 = false := by
  exact Bool.eq_false_iff.mpr fun hr =>
    let ⟨_, _, _, f, t, h⟩ := (k1_outcome io data dir err d s).of_hit hr; h (hc _ f t)

/-- **The error of the hit copy is never reported as success**: if the copy of an entry to the output fails (whatever
it has written, whatever byte count it reports), `TryCache` does not report a hit — for every behaviour of every
other primitive -/
theorem tryCache_no_hit_when_copy_fails (hc : ∀ o f s, (io.copyOut o f s).2.2.isSome = true)
    (d : Delegate φ κ) (data : Bytes) (s : σ) : (IoDelegateFn.tryCache io d data s).2.2.1 = false := by
  obtain ⟨d', h, -⟩ := tryCache_outcome io d data s
  exact Bool.eq_false_iff.mpr fun hr => let ⟨_, _, _, f, t, hf⟩ := h.of_hit hr; hf (hc _ f t)

/-- **No shortcut around the key** (1): if `cache.Open` fails, `TryCache` does not report a hit — there is no `return
true` that does not stand behind a successful `cache.Open` (seeded W3-2: `true` on empty stdin) -/
theorem tryCache_no_hit_when_open_fails (ho : ∀ dir r q s, (io.cacheOpen dir r q s).2.2.isSome = true)
    (d : Delegate φ κ) (data : Bytes) (s : σ) : (IoDelegateFn.tryCache io d data s).2.2.1 = false := by
  obtain ⟨d', h, -⟩ := tryCache_outcome io d data s
  exact Bool.eq_false_iff.mpr fun hr => let ⟨_, _, ⟨dir, r, q, t, hf⟩, _⟩ := h.of_hit hr; hf (ho dir r q t)

/-- **No shortcut around the key** (2): if the primary input cannot be hashed, `TryCache` does not report a hit -/
theorem tryCache_no_hit_when_hashing_fails (hh : ∀ f s, (io.hashCopy f s).2.2.isSome = true)
    (d : Delegate φ κ) (data : Bytes) (s : σ) : (IoDelegateFn.tryCache io d data s).2.2.1 = false := by
  obtain ⟨d', h, -⟩ := tryCache_outcome io d data s
  exact Bool.eq_false_iff.mpr fun hr => let ⟨_, ⟨t, hf⟩, _, _⟩ := h.of_hit hr; hf (hh _ t)

/-- **No shortcut around the key** (3): if stdin cannot be spooled (the temporary file, the copy, the rewind), a
delegate that reads stdin gets no hit -/
theorem tryCache_no_hit_when_spooling_fails (d : Delegate φ κ) (data : Bytes) (s : σ) (hin : d.infile = io.stdin)
    (hs : (∀ a b s, (io.tempFile a b s).2.2.isSome = true) ∨ (∀ a b s, (io.copyFile a b s).2.2.isSome = true) ∨
      (∀ f o s, (io.fileSeek f o s).2.2.isSome = true)) :
    (IoDelegateFn.tryCache io d data s).2.2.1 = false := by
  obtain ⟨d', -, hd'⟩ := tryCache_outcome io d data s
  rcases hd' with ⟨-, h0⟩ | ⟨-, -, ⟨a, b, t, h1⟩, ⟨a', b', t', h2⟩, f, o, t'', h3⟩
  · exact h0 hin
  · rcases hs with hs | hs | hs
    · exact absurd (hs a b t) h1
    · exact absurd (hs a' b' t') h2
    · exact absurd (hs f o t'') h3

theorem tryCache_hit_no_error (d : Delegate φ κ) (data : Bytes) (s : σ)
    (h : (IoDelegateFn.tryCache io d data s).2.2.1 = true) : (IoDelegateFn.tryCache io d data s).2.2.2 = none := by
  obtain ⟨d', ho, -⟩ := tryCache_outcome io d data s
  exact (ho.of_hit h).1

/-- **On any error of the cache path `TryCache` falls back**: the only errors it ever returns are those of rewinding
(`Seek`) and of spooling stdin (`io.Copy` into the temporary file) — the failure of `gtsCacheDir`, of the temporary file,
of hashing, of `cache.Open`, of `cache.CreateLevel`, of the hit copy are all answered by `false, nil` -/
theorem tryCache_errors_are_seek_or_spool (hk : ∀ f o s, (io.fileSeek f o s).2.2 = none)
    (hp : ∀ a b s, (io.copyFile a b s).2.2 = none)
    (d : Delegate φ κ) (data : Bytes) (s : σ) : (IoDelegateFn.tryCache io d data s).2.2.2 = none := by
  obtain ⟨d', h, -⟩ := tryCache_outcome io d data s
  rcases h.error with h | ⟨a, b, t, h⟩ | ⟨f, o, t, h⟩
  · exact h
  · rw [h]; exact hp a b t
  · rw [h]; exact hk f o t

/-- **The error of the hit copy falls back**: with rewinding and spooling working, a failing hit copy makes `TryCache`
answer `false, nil` — the command then runs its body -/
theorem tryCache_copy_error_falls_back (hc : ∀ o f s, (io.copyOut o f s).2.2.isSome = true)
    (hk : ∀ f o s, (io.fileSeek f o s).2.2 = none) (hp : ∀ a b s, (io.copyFile a b s).2.2 = none)
    (d : Delegate φ κ) (data : Bytes) (s : σ) : (IoDelegateFn.tryCache io d data s).2.2 = (false, none) :=
  Prod.ext (tryCache_no_hit_when_copy_fails io hc d data s) (tryCache_errors_are_seek_or_spool io hk hp d data s)

/-- `gtsCacheDir` fails exactly when `os.UserCacheDir` or `os.MkdirAll` does -/
theorem gtsCacheDir_fails_iff (s : σ) :
    (IoDelegateFn.gtsCacheDir io s).2.2.isSome =
      ((io.userCacheDir s).2.2.isSome ||
        (io.mkdirAll (io.pathJoin (io.userCacheDir s).2.1 "gts-cache") 493 (io.userCacheDir s).1).2.isSome) := by
  simp only [IoDelegateFn.gtsCacheDir]
  split <;> simp_all

/-- **A cache directory that cannot be set up is not an error of the run**: `false, nil`, the delegate as it was, nothing
else attempted (seeded C14-h returns the error) -/
theorem tryCache_bypass_dir (d : Delegate φ κ) (data : Bytes) (s : σ)
    (hd : (IoDelegateFn.gtsCacheDir io s).2.2.isSome = true) :
    IoDelegateFn.tryCache io d data s = ((IoDelegateFn.gtsCacheDir io s).1, d, false, none) := by
  simp only [IoDelegateFn.tryCache, hd, if_true]

/-- the same for the temporary copy of stdin -/
theorem tryCache_bypass_tmp (d : Delegate φ κ) (data : Bytes) (s : σ)
    (hd : (IoDelegateFn.gtsCacheDir io s).2.2.isSome = false) (hin : d.infile = io.stdin)
    (ht : (io.tempFile "" "gts-tmp-*" (IoDelegateFn.gtsCacheDir io s).1).2.2.isSome = true) :
    IoDelegateFn.tryCache io d data s =
      ((io.tempFile "" "gts-tmp-*" (IoDelegateFn.gtsCacheDir io s).1).1, d, false, none) := by
  simp only [IoDelegateFn.tryCache, hd, hin, ht, if_true, Bool.false_eq_true, if_false]

theorem tryCache_named_input_not_spooled (d : Delegate φ κ) (data : Bytes) (s : σ) (hin : d.infile ≠ io.stdin) :
    (IoDelegateFn.tryCache io d data s).2.1.infile = d.infile ∧
      (IoDelegateFn.tryCache io d data s).2.1.tmpin = d.tmpin := by
  obtain ⟨d', h, ⟨rfl, -⟩ | ⟨h', -⟩⟩ := tryCache_outcome io d data s
  · rcases h.delegate with h | ⟨⟨f, h⟩, -⟩ <;> rw [h] <;> exact ⟨rfl, rfl⟩
  · exact absurd h' hin

/-- **The tee is armed by a miss only**: when `cache.Open` succeeds the delegate's `cache` stays what it was -/
theorem tryCache_no_arm_when_open_succeeds (ho : ∀ dir r q s, (io.cacheOpen dir r q s).2.2 = none)
    (d : Delegate φ κ) (data : Bytes) (s : σ) : (IoDelegateFn.tryCache io d data s).2.1.cache = d.cache := by
  obtain ⟨d', h, hd'⟩ := tryCache_outcome io d data s
  have hc : d'.cache = d.cache := by
    rcases hd' with ⟨rfl, -⟩ | ⟨-, ⟨f, rfl⟩, -⟩ <;> rfl
  rcases h.delegate with h | ⟨-, dir, r, q, t, h⟩
  · rw [h, hc]
  · rw [ho] at h; cases h

end generic

section command
variable {σ ε φ κ ν : Type} [DecidableEq φ] [DecidableEq κ] (io : DelegateIO σ ε φ κ ν)

/-- the body's writes through the delegate (`bufio.Writer.Flush` → `d.Write`), chunk by chunk, until one fails -/
def writeAll : Delegate φ κ → List Bytes → σ → σ × Delegate φ κ × Option ε
  | d, [], s => (s, d, none)
  | d, p :: ps, s =>
    match IoDelegateFn.write io d p s with
    | (s, d, _, err) => if err.isSome = true then (s, d, err) else writeAll d ps s

/-- the body of a cached command behind `TryCache`, as far as the protocol sees it: it writes `chunks` through the
delegate (a failing write ends the run with status 1), reaches `d.Commit()` or not, returns; the deferred `d.Close()` -/
def runBody (d : Delegate φ κ) (chunks : List Bytes) (committed : Bool) (status : Nat) (s : σ) : σ × Nat :=
  match writeAll io d chunks s with
  | (s, d, werr) =>
    if werr.isSome = true then ((IoDelegateFn.close io d s).1, 1)
    else
      match (if committed = true then IoDelegateFn.commit io d s else (s, d)) with
      | (s, d) => ((IoDelegateFn.close io d s).1, status)

/-- **One cached command** — the frame every cached `cmd/gts/*.go` has (its shape is decided on the regenerated CLI table:
`Gts.C14.commit_last`, `newIODelegate` arguments, `defer d.Close()`):

    d, err := newIODelegate(in, out); if err != nil { return ctx.Raise(err) }
    defer d.Close()
    if !*nocache { ok, err := d.TryCache(h, encodePayload(…)); if ok || err != nil { return ctx.Raise(err) } }
    … the body writes through d …; d.Commit(); return nil

over the regenerated `newIODelegate`, `TryCache`, `Write`, `Commit`, `Close`.  The result: the world afterwards and the
exit status. -/
def runCommand (inpath outpath : String) (nocache : Bool) (payload : Bytes) (chunks : List Bytes)
    (committed : Bool) (status : Nat) (s : σ) : σ × Nat :=
  match IoDelegateFn.newIODelegate io inpath outpath s with
  | (s, none, _) => (s, 1)
  | (s, some d, _) =>
    if nocache = true then runBody io d chunks committed status s
    else
      match IoDelegateFn.tryCache io d payload s with
      | (s, d, ok, err) =>
        if ok = true ∨ err.isSome = true then ((IoDelegateFn.close io d s).1, if err.isSome = true then 1 else 0)
        else runBody io d chunks committed status s

/-- the world and the delegate with which the BODY of the command starts to read its input — `none` when it does not
run (`newIODelegate` failed, a hit, an error of `TryCache`) -/
def bodyStart (inpath outpath : String) (nocache : Bool) (payload : Bytes) (s : σ) : Option (σ × Delegate φ κ) :=
  match IoDelegateFn.newIODelegate io inpath outpath s with
  | (_, none, _) => none
  | (s, some d, _) =>
    if nocache = true then some (s, d)
    else
      match IoDelegateFn.tryCache io d payload s with
      | (s, d, ok, err) => if ok = true ∨ err.isSome = true then none else some (s, d)

end command
/-! ### on the machine `protoIO`: one cached command is `CacheProto.step` -/

section machine
variable {Cmd Input : Type} (W : World Cmd Input) (r : Run Cmd Input) (dirOk tmpOk : Bool)

theorem set_set (σ : Store) (n : String) (a b : Option Bytes) : Store.set (Store.set σ n a) n b = Store.set σ n b := by
  funext m; simp only [Store.set]; split <;> rfl

section prims
variable (s : PMach) (p : Bytes) (f g : FH)
theorem io_stdin : (protoIO W r dirOk tmpOk).stdin = .stdin := rfl
theorem io_stdout : (protoIO W r dirOk tmpOk).stdout = .stdout := rfl
theorem io_nilCache : (protoIO W r dirOk tmpOk).nilCache = .nil := rfl
theorem io_fileWrite : (protoIO W r dirOk tmpOk).fileWrite f p s = ({ s with out := s.out ++ p }, (p.length : Int), none) := rfl
theorem io_fileClose : (protoIO W r dirOk tmpOk).fileClose f s = (s, none) := rfl
theorem io_fileName : (protoIO W r dirOk tmpOk).fileName f = (match f with | .tmp => .tmp | _ => .other) := rfl
theorem io_osRemove (n : PName) : (protoIO W r dirOk tmpOk).osRemove n s =
    (match n with
     | .entry e => ({ s with store := Store.set s.store e none }, none)
     | .tmp => ({ s with spooled := false }, none)
     | .other => (s, none)) := rfl
theorem io_cacheName (k : KH) : (protoIO W r dirOk tmpOk).cacheName k =
    (match k with | .rd n _ => .entry n | .wr n _ _ => .entry n | .nil => .other) := rfl
theorem io_cacheWrite_wr (n : String) (rs qs : Bytes) :
    (protoIO W r dirOk tmpOk).cacheWrite (.wr n rs qs) p s = ({ s with plain := s.plain ++ p }, (p.length : Int), none) := rfl
theorem io_cacheClose_wr (n : String) (rs qs : Bytes) : (protoIO W r dirOk tmpOk).cacheClose (.wr n rs qs) s =
    (if r.closeOk = true then
       ({ s with store := Store.set s.store n (some (finish W.H W.d W.deflate rs qs s.plain)) }, none)
     else (s, some .close)) := rfl
theorem io_cacheOpen (dir : String) (rs qs : Bytes) : (protoIO W r dirOk tmpOk).cacheOpen dir rs qs s =
    (match openAt W.H W.d s.store rs qs with
     | .ok body => (s, .rd (name W.H rs qs) body, none)
     | .error e => (s, .nil, some (.open e))) := rfl
theorem io_copyOut_rd (n : String) (body : Bytes) : (protoIO W r dirOk tmpOk).copyOut f (.rd n body) s =
    (match W.inflate body with
     | some w => ({ s with out := s.out ++ w }, (w.length : Int), none)
     | none => ({ s with out := s.out ++ W.inflatePrefix body }, ((W.inflatePrefix body).length : Int), some .inflate)) := rfl
/-- the two sums of `TryCache` -/
theorem io_rootSum : (protoIO W r dirOk tmpOk).hashSum
    ((protoIO W r dirOk tmpOk).hashCopy f ((protoIO W r dirOk tmpOk).hashReset s)).1 = W.H (s.unread W r f) := rfl
theorem io_dataSum : (protoIO W r dirOk tmpOk).hashSum
    ((protoIO W r dirOk tmpOk).hashWrite p ((protoIO W r dirOk tmpOk).hashReset s)) = W.H p := rfl
end prims

theorem gtsCacheDir_mach (s : PMach) :
    IoDelegateFn.gtsCacheDir (protoIO W r dirOk tmpOk) s =
      if dirOk = true then (s, "cache/gts-cache", none) else (s, "", some .dir) := by
  cases dirOk <;> rfl

/-- the delegate `newIODelegate` makes on the machine: `-` is stdin / stdout; no entry, not committed -/
def freshDelegate (inp outp : String) : Delegate FH KH :=
  ⟨if inp = "-" then .stdin else .input inp, if outp = "-" then .stdout else .output outp, .nil, false, false⟩

theorem freshDelegate_outfile (inp outp : String) :
    ((freshDelegate inp outp).outfile ≠ FH.stdout) = (outp ≠ "-") := by
  by_cases ho : outp = "-" <;> simp [freshDelegate, ho]

theorem freshDelegate_infile (inp outp : String) : ((freshDelegate inp outp).infile = FH.stdin) = (inp = "-") := by
  by_cases hin : inp = "-" <;> simp [freshDelegate, hin]

theorem newIODelegate_mach (inp outp : String) (s : PMach) :
    IoDelegateFn.newIODelegate (protoIO W r dirOk tmpOk) inp outp s = (s, some (freshDelegate inp outp), none) := by
  by_cases hi : inp = "-" <;> by_cases ho : outp = "-" <;>
    simp only [IoDelegateFn.newIODelegate, IoDelegateFn.newIODelegate_k1, IoDelegateFn.newIODelegate_k2, freshDelegate, hi,
      ho, ne_eq, not_true_eq_false, not_false_eq_true, if_true, if_false] <;> rfl

@[simp] theorem setPos_store (s : PMach) (f : FH) (n : Nat) : (s.setPos f n).store = s.store := by
  unfold PMach.setPos; split <;> rfl
@[simp] theorem setPos_out (s : PMach) (f : FH) (n : Nat) : (s.setPos f n).out = s.out := by
  unfold PMach.setPos; split <;> rfl
@[simp] theorem setPos_misuse (s : PMach) (f : FH) (n : Nat) : (s.setPos f n).misuse = s.misuse := by
  unfold PMach.setPos; split <;> rfl

/-- the state in which `cache.Open` is called: the input read to its end by the digest and rewound, the digest
holding the payload -/
def hashed (s : PMach) (f : FH) (data : Bytes) : PMach := { s.setPos f 0 with hash := data }

theorem hashed_unread (s : PMach) (f : FH) (data : Bytes) : (hashed s f data).unread W r f = s.dataOf W r f := by
  unfold hashed PMach.unread PMach.dataOf PMach.posOf PMach.setPos
  by_cases hf : f = .tmp <;> simp [hf]

/-- `TryCache` from `cache.Open` on, on the machine, for the root sum `rs`: hit (copy, remove when the output is a file),
broken hit (partial copy), miss (create, arm) -/
def k1Tail (rs : Bytes) (s : PMach) (d : Delegate FH KH) (data : Bytes) : PMach × Delegate FH KH × Bool × Option PErr :=
  match openAt W.H W.d s.store rs (W.H data) with
  | .ok body =>
    match W.inflate body with
    | some w =>
      ({ s with out := s.out ++ w,
                store := if d.outfile ≠ .stdout then Store.set s.store (name W.H rs (W.H data)) none else s.store },
        d, true, none)
    | none => ({ s with out := s.out ++ W.inflatePrefix body }, d, false, none)
  | .error _ =>
    ({ s with plain := [], store := Store.set s.store (name W.H rs (W.H data)) (some (zeros (3 * W.d))) },
      { d with cache := .wr (name W.H rs (W.H data)) rs (W.H data) }, false, none)

/-- what `TryCache` does behind the spooling on the machine: the root sum is the digest of what is UNREAD of the input
(all of it when the handle stands at offset 0), the data sum the digest of the payload; the input is rewound -/
def k1Result (s : PMach) (d : Delegate FH KH) (data : Bytes) : PMach × Delegate FH KH × Bool × Option PErr :=
  k1Tail W (W.H (s.unread W r d.infile)) (hashed s d.infile data) d data

/-- hashing and rewinding on the machine: `cache.Open` is called in the state `hashed s f data` -/
theorem hashed_mach (f : FH) (data : Bytes) (s : PMach) :
    ((protoIO W r dirOk tmpOk).fileSeek f 0 ((protoIO W r dirOk tmpOk).hashWrite data ((protoIO W r dirOk tmpOk).hashReset
      ((protoIO W r dirOk tmpOk).hashCopy f ((protoIO W r dirOk tmpOk).hashReset s)).1))).1 = hashed s f data := by
  by_cases hf : f = .tmp
  · subst hf; rfl
  · simp only [protoIO, hashed, PMach.setPos, hf, if_false]
    rfl

theorem k1_mach (data : Bytes) (dir : String) (err : Option PErr) (d : Delegate FH KH) (s : PMach) :
    IoDelegateFn.tryCache_k1 (protoIO W r dirOk tmpOk) data dir err d s = k1Result W r s d data := by
  unfold IoDelegateFn.tryCache_k1
  dsimp -iota only
  -- hashing and rewinding do not fail; what they leave is named, not computed
  split
  rename_i s₁ _ e₁ h₁
  obtain rfl : none = e₁ := congrArg (·.2.2) h₁
  rw [if_neg nofun]
  split
  rename_i s₂ _ e₂ h₂
  obtain rfl : none = e₂ := congrArg (·.2.2) h₂
  rw [if_neg nofun]
  obtain rfl : ((protoIO W r dirOk tmpOk).hashCopy d.infile ((protoIO W r dirOk tmpOk).hashReset s)).1 = s₁ :=
    congrArg (·.1) h₁
  obtain rfl : hashed s d.infile data = s₂ := (hashed_mach W r dirOk tmpOk d.infile data s).symm.trans (congrArg (·.1) h₂)
  unfold k1Result k1Tail
  -- from `cache.Open` on both sides compute, on any state
  generalize hashed s d.infile data = H
  rw [io_cacheOpen, io_rootSum, io_dataSum]
  cases openAt W.H W.d H.store (W.H (s.unread W r d.infile)) (W.H data) with
  | error e => rfl
  | ok body =>
    cases hi : W.inflate body with
    | none =>
      simp only [io_copyOut_rd, hi]
      rfl
    | some w =>
      simp only [io_copyOut_rd, hi, io_stdout, Option.isSome_none, Bool.false_eq_true, if_false]
      by_cases hout : d.outfile ≠ FH.stdout
      · rw [if_pos hout, if_pos hout]; rfl
      · rw [if_neg hout, if_neg hout]; rfl

/-- `TryCache` on the machine: bypass when the directory or the temporary file cannot be had; stdin is spooled — all
that is unread of it goes into the temporary file, which is rewound and becomes the delegate's input -/
theorem tryCache_mach (d : Delegate FH KH) (data : Bytes) (s : PMach) :
    IoDelegateFn.tryCache (protoIO W r dirOk tmpOk) d data s =
      if dirOk = false then (s, d, false, none)
      else if d.infile = .stdin then
        if tmpOk = false then (s, d, false, none)
        else k1Result W r
          { s with spooled := true, tmp := s.unread W r .stdin, tmppos := 0, inpos := (W.content r.input).length }
          { d with infile := .tmp, tmpin := true } data
      else k1Result W r s d data := by
  simp only [IoDelegateFn.tryCache, gtsCacheDir_mach, k1_mach]
  cases dirOk
  · simp
  · by_cases hin : d.infile = .stdin
    · cases tmpOk
      · simp [protoIO, hin]
      · simp [protoIO, hin, PMach.setPos, PMach.unread, PMach.dataOf, PMach.posOf]
    · have hin' : ¬ d.infile = (protoIO W r true tmpOk).stdin := hin
      simp [hin, hin']

theorem writeAll_unarmed (d : Delegate FH KH) (hd : d.cache = .nil) (chunks : List Bytes) (s : PMach) :
    writeAll (protoIO W r dirOk tmpOk) d chunks s = ({ s with out := s.out ++ chunks.flatten }, d, none) := by
  induction chunks generalizing s with
  | nil => simp [writeAll]
  | cons p ps ih =>
    have hn : d.cache = (protoIO W r dirOk tmpOk).nilCache := hd
    rw [writeAll, write_unarmed _ d p s hn]
    simp only [io_fileWrite, Option.isSome_none, Bool.false_eq_true, if_false]
    rw [ih]
    simp [List.append_assoc]

theorem writeAll_armed (d : Delegate FH KH) (n : String) (rs qs : Bytes) (hd : d.cache = .wr n rs qs)
    (chunks : List Bytes) (s : PMach) :
    writeAll (protoIO W r dirOk tmpOk) d chunks s =
      ({ s with out := s.out ++ chunks.flatten, plain := s.plain ++ chunks.flatten }, d, none) := by
  induction chunks generalizing s with
  | nil => simp [writeAll]
  | cons p ps ih =>
    have hn : d.cache ≠ (protoIO W r dirOk tmpOk).nilCache := by rw [hd, io_nilCache]; simp
    have hw : ((protoIO W r dirOk tmpOk).cacheWrite d.cache p s).2.2 = none := by rw [hd]; rfl
    rw [writeAll, write_tee _ d p s hn hw]
    simp only [hd, io_fileWrite, io_cacheWrite_wr, Option.isSome_none, Bool.false_eq_true, if_false]
    rw [ih]
    simp [List.append_assoc]

/-- what is observed of a run that ends on the machine `res.1` with status `res.2`: the directory and what the user sees
(as `step` gives them), and the misuse counter -/
def view (res : PMach × Nat) : (Store × Observed) × Nat := ((res.1.store, ⟨res.1.out, res.2⟩), res.1.misuse)

theorem closeTail_mach (d : Delegate FH KH) (s : PMach) (n : Nat) :
    view (closeTail (protoIO W r dirOk tmpOk) d s, n) = view (s, n) := by
  simp only [closeTail, io_fileClose, io_fileName, io_osRemove]
  cases d.tmpin <;> cases d.infile <;> rfl

theorem close_mach_unarmed (d : Delegate FH KH) (hd : d.cache = .nil) (s : PMach) (n : Nat) :
    view ((IoDelegateFn.close (protoIO W r dirOk tmpOk) d s).1, n) = view (s, n) := by
  rw [close_unarmed _ d s hd, closeTail_mach]

theorem close_mach_armed (d : Delegate FH KH) (nm : String) (rs qs : Bytes) (hd : d.cache = .wr nm rs qs) (s : PMach)
    (n : Nat) :
    view ((IoDelegateFn.close (protoIO W r dirOk tmpOk) d s).1, n) =
      ((Store.set s.store nm (if (d.done && r.closeOk) = true then some (finish W.H W.d W.deflate rs qs s.plain) else none),
        ⟨s.out, n⟩), s.misuse) := by
  have hn : d.cache ≠ (protoIO W r dirOk tmpOk).nilCache := by rw [hd]; nofun
  cases hdone : d.done <;> cases hok : r.closeOk
  case true.true =>
    rw [close_kept _ d s hn hdone (by rw [hd, io_cacheClose_wr, if_pos hok]), closeTail_mach, hd, io_cacheClose_wr,
      if_pos hok]
    rfl
  all_goals
    rw [close_removed _ d s hn (by first | exact .inl hdone | (rw [hd, io_cacheClose_wr, if_neg (by rw [hok]; nofun)]; exact .inr rfl)),
      closeTail_mach, hd, io_cacheClose_wr, hok]
    simp only [io_cacheName, io_osRemove, view, Bool.false_eq_true, if_false, if_true, set_set, Bool.and_false,
      Bool.false_and]

/-- the body on the machine without an armed entry (bypass, broken hit): the output grows, the directory stays -/
theorem runBody_unarmed (d : Delegate FH KH) (hd : d.cache = .nil) (chunks : List Bytes) (committed : Bool)
    (status : Nat) (s : PMach) :
    view (runBody (protoIO W r dirOk tmpOk) d chunks committed status s) =
      ((s.store, ⟨s.out ++ chunks.flatten, status⟩), s.misuse) := by
  simp only [runBody, writeAll_unarmed W r dirOk tmpOk d hd, Option.isSome_none, Bool.false_eq_true, if_false]
  cases committed
  · exact close_mach_unarmed W r dirOk tmpOk d hd _ _
  · exact close_mach_unarmed W r dirOk tmpOk { d with done := true } hd _ _

/-- the body on the machine with an armed entry (miss): teed; the entry is what `Close` makes of it -/
theorem runBody_armed (d : Delegate FH KH) (nm : String) (rs qs : Bytes)
    (hdone : d.done = false) (chunks : List Bytes) (committed : Bool) (status : Nat) (s : PMach) :
    view (runBody (protoIO W r dirOk tmpOk) { d with cache := .wr nm rs qs } chunks committed status s) =
      ((Store.set s.store nm (if (committed && r.closeOk) = true then
          some (finish W.H W.d W.deflate rs qs (s.plain ++ chunks.flatten)) else none),
        ⟨s.out ++ chunks.flatten, status⟩), s.misuse) := by
  simp only [runBody, writeAll_armed W r dirOk tmpOk { d with cache := .wr nm rs qs } nm rs qs rfl,
    Option.isSome_none, Bool.false_eq_true, if_false]
  cases committed
  · simp only [Bool.false_eq_true, if_false]
    rw [close_mach_armed W r dirOk tmpOk { d with cache := .wr nm rs qs } nm rs qs rfl, hdone]
  · exact close_mach_armed W r dirOk tmpOk { d with cache := .wr nm rs qs, done := true } nm rs qs rfl _ _

/-- what a command does behind `TryCache` (frame of `runCommand`) -/
def afterTry (io : DelegateIO PMach PErr FH KH PName) (t : PMach × Delegate FH KH × Bool × Option PErr)
    (chunks : List Bytes) (committed : Bool) (status : Nat) : PMach × Nat :=
  if t.2.2.1 = true ∨ t.2.2.2.isSome = true then
    ((IoDelegateFn.close io t.2.1 t.1).1, if t.2.2.2.isSome = true then 1 else 0)
  else runBody io t.2.1 chunks committed status t.1

/-- `runCommand` on the machine: `newIODelegate` does not fail -/
theorem runCommand_mach (inp outp : String) (nocache : Bool) (payload : Bytes) (chunks : List Bytes) (committed : Bool)
    (status : Nat) (s : PMach) :
    runCommand (protoIO W r dirOk tmpOk) inp outp nocache payload chunks committed status s =
      if nocache = true then runBody (protoIO W r dirOk tmpOk) (freshDelegate inp outp) chunks committed status s
      else afterTry (protoIO W r dirOk tmpOk)
        (IoDelegateFn.tryCache (protoIO W r dirOk tmpOk) (freshDelegate inp outp) payload s) chunks committed status := by
  simp only [runCommand, newIODelegate_mach, afterTry]

/-- the cached path on the machine from the hashing on, the delegate's input standing at its beginning and nothing
written yet, is the cached path of `step` -/
theorem afterTry_k1Result (s : PMach) (d : Delegate FH KH) (chunks : List Bytes) (hso : s.out = [])
    (hun : s.unread W r d.infile = W.content r.input) (hd : d.cache = .nil) (hdone : d.done = false)
    (hout : (d.outfile ≠ .stdout) = (r.toFile = true)) (hch : chunks.flatten = (W.exec r.cmd r.input).out)
    (hnc : r.nocache = false) (hus : r.usable = true) (hearly : (W.exec r.cmd r.input).early = false) :
    view (afterTry (protoIO W r dirOk tmpOk) (k1Result W r s d (W.payload r.cmd)) chunks
      (W.exec r.cmd r.input).committed (W.exec r.cmd r.input).status) = (step W s.store r, s.misuse) := by
  have h1 : (hashed s d.infile (W.payload r.cmd)).store = s.store := setPos_store ..
  have h2 : (hashed s d.infile (W.payload r.cmd)).out = [] := (setPos_out ..).trans hso
  have h3 : (hashed s d.infile (W.payload r.cmd)).misuse = s.misuse := setPos_misuse ..
  unfold k1Result k1Tail
  rw [hun, ← h1, ← h3]
  -- `step` is on its cached path, which splits on the same `cache.Open` and inflation as `k1Tail`
  simp only [step, World.rsum, World.dsum, hnc, hus, hearly, Bool.not_true, Bool.or_self, Bool.false_eq_true, if_false]
  generalize hashed s d.infile (W.payload r.cmd) = t at h2 ⊢
  cases openAt W.H W.d t.store (W.H (W.content r.input)) (W.H (W.payload r.cmd)) with
  | error e =>
    simp only [afterTry, Bool.false_eq_true, Option.isSome_none, or_self, if_false]
    rw [runBody_armed W r dirOk tmpOk d _ _ _ hdone, set_set, h2, hch]
    rfl
  | ok body =>
    dsimp only
    cases W.inflate body with
    | none =>
      simp only [afterTry, Bool.false_eq_true, Option.isSome_none, or_self, if_false]
      rw [runBody_unarmed W r dirOk tmpOk d hd, h2, hch]
      rfl
    | some w =>
      simp only [afterTry, true_or, if_true, Option.isSome_none, Bool.false_eq_true, if_false]
      rw [close_mach_unarmed W r dirOk tmpOk d hd]
      simp only [view, h2, hout]
      rfl

theorem init_unread (σ₀ : Store) (inp outp : String) :
    (PMach.init σ₀).unread W r (freshDelegate inp outp).infile = W.content r.input := by
  by_cases hin : inp = "-" <;> simp [PMach.unread, PMach.dataOf, PMach.posOf, PMach.init, freshDelegate, hin]

/-- the machine and the delegate with which a usable `TryCache` of a fresh command reaches the hashing: stdin spooled into
the temporary file, which is rewound and has become the delegate's input -/
def atHash (σ₀ : Store) (inp outp : String) : PMach × Delegate FH KH :=
  if inp = "-" then
    ({ PMach.init σ₀ with spooled := true, tmp := W.content r.input, tmppos := 0, inpos := (W.content r.input).length },
     { freshDelegate inp outp with infile := .tmp, tmpin := true })
  else (PMach.init σ₀, freshDelegate inp outp)

/-- `TryCache` of a fresh command on the fresh machine: from the hashing on when the cache is usable (the directory, and
the temporary file when stdin is read), else a bypass -/
theorem tryCache_fresh (σ₀ : Store) (inp outp : String) (data : Bytes) :
    IoDelegateFn.tryCache (protoIO W r dirOk tmpOk) (freshDelegate inp outp) data (PMach.init σ₀) =
      if (dirOk && (decide (inp ≠ "-") || tmpOk)) = true then
        k1Result W r (atHash W r σ₀ inp outp).1 (atHash W r σ₀ inp outp).2 data
      else (PMach.init σ₀, freshDelegate inp outp, false, none) := by
  rw [tryCache_mach]
  simp only [freshDelegate_infile]
  cases dirOk <;> cases tmpOk <;> by_cases hin : inp = "-" <;>
    simp [atHash, hin, PMach.unread, PMach.dataOf, PMach.posOf, PMach.init]

theorem atHash_facts (σ₀ : Store) (inp outp : String) :
    (atHash W r σ₀ inp outp).1.out = [] ∧ (atHash W r σ₀ inp outp).1.store = σ₀ ∧ (atHash W r σ₀ inp outp).1.misuse = 0 ∧
    (atHash W r σ₀ inp outp).1.unread W r (atHash W r σ₀ inp outp).2.infile = W.content r.input ∧
    (atHash W r σ₀ inp outp).1.dataOf W r (atHash W r σ₀ inp outp).2.infile = W.content r.input ∧
    (atHash W r σ₀ inp outp).2.cache = .nil ∧ (atHash W r σ₀ inp outp).2.done = false ∧
    (atHash W r σ₀ inp outp).2.outfile = (freshDelegate inp outp).outfile := by
  by_cases hin : inp = "-" <;> simp [atHash, hin, PMach.unread, PMach.dataOf, PMach.posOf, PMach.init, freshDelegate]

/-- **One cached command, run on the machine, is `CacheProto.step`.**  For every world `W`, directory `σ₀` and run `r` that
gets as far as `TryCache` (`early = false`): the regenerated `newIODelegate`, `TryCache`, `Write` (the body's output `o.out`
in ANY chunking), `Commit` (iff the body reaches it), `Close`, composed in the frame of the cached commands and run on
`protoIO W r dirOk tmpOk`, leave the directory and show the user exactly what `step W σ₀ r` says — bypass (`--no-cache`,
no cache directory, no temporary file for stdin), hit (entry removed when `-o` is a file), broken hit, miss (entry
created, teed, finalised, removed unless committed and `cache.Close()` worked) — and never call a method on a nil
`*cache.File`.  `inp = "-"` is stdin, `outp = "-"` stdout; `r.usable` is "the directory can be had, and the temporary file
when stdin is read". -/
theorem runCommand_eq_step (σ₀ : Store) (inp outp : String) (chunks : List Bytes)
    (hout : (outp ≠ "-") = (r.toFile = true))
    (hch : chunks.flatten = (W.exec r.cmd r.input).out)
    (hearly : (W.exec r.cmd r.input).early = false)
    (husable : r.usable = (dirOk && (decide (inp ≠ "-") || tmpOk))) :
    let res := runCommand (protoIO W r dirOk tmpOk) inp outp r.nocache (W.payload r.cmd) chunks
      (W.exec r.cmd r.input).committed (W.exec r.cmd r.input).status (PMach.init σ₀)
    (res.1.store, (⟨res.1.out, res.2⟩ : Observed)) = step W σ₀ r ∧ res.1.misuse = 0 := by
  intro res
  suffices h : view res = (step W σ₀ r, 0) from ⟨congrArg Prod.fst h, congrArg Prod.snd h⟩
  have hres : res = _ := runCommand_mach W r dirOk tmpOk ..
  -- a bypassed cache: the body runs without an armed entry on the fresh machine
  have hbypass : (r.nocache || !r.usable) = true →
      view (runBody (protoIO W r dirOk tmpOk) (freshDelegate inp outp) chunks (W.exec r.cmd r.input).committed
        (W.exec r.cmd r.input).status (PMach.init σ₀)) = (step W σ₀ r, 0) := by
    intro h
    rw [runBody_unarmed W r dirOk tmpOk _ rfl]
    simp only [step, hearly, Bool.or_false, h, if_true]
    rw [hch]; rfl
  cases hnc : r.nocache
  · rw [hres, hnc, if_neg nofun, tryCache_fresh, ← husable]
    obtain ⟨h1, h2, h3, h4, -, h6, h7, h8⟩ := atHash_facts W r σ₀ inp outp
    cases hus : r.usable
    · simp only [Bool.false_eq_true, if_false, afterTry, Option.isSome_none, or_self]
      exact hbypass (by rw [hus, hnc]; rfl)
    · rw [if_pos rfl, afterTry_k1Result W r dirOk tmpOk _ _ chunks h1 h4 h6 h7
        ((congrArg (· ≠ FH.stdout) h8).trans ((freshDelegate_outfile inp outp).trans hout)) hch hnc hus hearly, h2, h3]
  · rw [hres, hnc, if_pos rfl]
    exact hbypass (by rw [hnc]; rfl)

theorem k1Result_unread (s : PMach) (d : Delegate FH KH) (data : Bytes) :
    (k1Result W r s d data).1.unread W r (k1Result W r s d data).2.1.infile = s.dataOf W r d.infile := by
  rw [← hashed_unread W r s d.infile data]
  unfold k1Result k1Tail
  cases openAt W.H W.d (hashed s d.infile data).store (W.H (s.unread W r d.infile)) (W.H data) with
  | error e => rfl
  | ok body =>
    dsimp only
    cases W.inflate body <;> rfl

/-- **The body reads the bytes that were hashed**: whenever the body of a cached command starts on the machine — `--no-cache`,
a bypass, a broken hit or a miss — the delegate's input (stdin, the named file, or the temporary copy of stdin) delivers
exactly `W.content r.input` from where it stands: `TryCache` has spooled ALL of stdin and rewound whatever it read (a
missing `Seek` makes this false) -/
theorem body_reads_whole_input (σ₀ : Store) (inp outp : String) (nocache : Bool) (payload : Bytes)
    (s : PMach) (d : Delegate FH KH)
    (h : bodyStart (protoIO W r dirOk tmpOk) inp outp nocache payload (PMach.init σ₀) = some (s, d)) :
    s.unread W r d.infile = W.content r.input := by
  have hfresh := init_unread W r σ₀ inp outp
  simp only [bodyStart, newIODelegate_mach] at h
  cases nocache
  · simp only [Bool.false_eq_true, if_false, tryCache_fresh] at h
    split at h
    · split at h
      · cases h
      · cases h
        rw [k1Result_unread]; exact (atHash_facts W r σ₀ inp outp).2.2.2.2.1
    · simp only [Bool.false_eq_true, Option.isSome_none, or_self, if_false, Option.some.injEq, Prod.mk.injEq] at h
      rw [← h.1, ← h.2]; exact hfresh
  · simp only [if_true, Option.some.injEq, Prod.mk.injEq] at h
    rw [← h.1, ← h.2]; exact hfresh

end machine
end Gts.Bridge.IoDelegateFn
