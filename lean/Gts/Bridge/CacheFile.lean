/-
  Bridge: the cache-file code of cmd/cache (header.go, file.go), regenerated by go2lean
  (Gts/Gen/CacheFile.lean: `ReadHeader`, `Header.Validate`, `Header.WriteTo`, `Open`, `CreateLevel`,
  `File.Write`, `File.Close` as Lean functions over an arbitrary record of I/O primitives), run on
  the model's machine `machIO` (Gts/Model/CacheFault.lean), IS the hand-written model:
  `Header.validate`, `readHeader`, `openAt` / `openf`, `create`, `write`, `close` of
  Gts/Model/CacheFile.lean (no faults) and `createF`, `writeF`, `closeF` (I/O faults).
  The property theorems of C13 / C14 are about the hand-written model; these theorems re-check
  them against what the code says NOW.
-/
import Gts.Gen.CacheFile
import Gts.Lemmas.CacheFault
namespace Gts.Bridge.CacheFile
open Gts.Cache
open Gts.Gen
variable (H : Bytes → Bytes) (deflate : Bytes → Bytes) (store : Store)

section prims
variable (m : Mach) (b : Bytes)
theorem io_hashReset : (machIO H deflate store).hashReset m = { m with hash := [] } := rfl
theorem io_hashWrite : (machIO H deflate store).hashWrite b m = { m with hash := m.hash ++ b } := rfl
theorem io_hashSum : (machIO H deflate store).hashSum m = H m.hash := rfl
theorem io_hex : (machIO H deflate store).hex b = hex b := rfl
theorem io_mkErr (e : ErrSite) : (machIO H deflate store).mkErr e = .site e := rfl
theorem io_eof : (machIO H deflate store).eof = .eof := rfl
theorem io_osOpen (n : String) : (machIO H deflate store).osOpen n m =
    match store n with
    | none => (m, some .notFound)
    | some f => ({ m with fname := n, data := f, pos := 0 }, none) := rfl
theorem io_hashCopy : (machIO H deflate store).hashCopy m =
    match m.pop.1 with
    | none => ({ m.pop.2 with hash := m.pop.2.hash ++ m.pop.2.data.drop m.pop.2.pos,
                              pos := max m.pop.2.pos m.pop.2.data.length }, none)
    | some k => ({ m.pop.2 with hash := m.pop.2.hash ++ (m.pop.2.data.drop m.pop.2.pos).take k,
                                pos := m.pop.2.pos + ((m.pop.2.data.drop m.pop.2.pos).take k).length },
                  some .copy) := rfl
theorem io_seek (off : Int) : (machIO H deflate store).seek off m =
    match m.pop.1 with
    | none => ({ m.pop.2 with pos := off.toNat }, none)
    | some _ => (m.pop.2, some .seek) := rfl
theorem io_osCreate (n : String) : (machIO H deflate store).osCreate n m =
    match m.pop.1 with
    | none => ({ m.pop.2 with fname := n, data := [], pos := 0 }, none)
    | some _ => (m.pop.2, some .create) := rfl
theorem io_fileWrite : (machIO H deflate store).fileWrite b m =
    match m.pop.1 with
    | none => ({ m.pop.2 with data := writeAt m.pop.2.data m.pop.2.pos b, pos := m.pop.2.pos + b.length },
                (b.length : Int), none)
    | some k => ({ m.pop.2 with data := writeAt m.pop.2.data m.pop.2.pos (b.take k),
                                pos := m.pop.2.pos + (b.take k).length },
                  ((b.take k).length : Int), some .write) := rfl
theorem io_newWriter (level : Int) : (machIO H deflate store).newWriter level m =
    if level < -2 ∨ 9 < level then (m, some .level) else (m, none) := rfl
theorem io_wrWrite : (machIO H deflate store).wrWrite b m =
    if m.pop.2.broken then (m.pop.2, 0, some .flate)
    else match m.pop.1 with
      | none => ({ m.pop.2 with plain := m.pop.2.plain ++ b }, (b.length : Int), none)
      | some k =>
        ({ m.pop.2 with data := writeAt m.pop.2.data m.pop.2.pos ((deflate (m.pop.2.plain ++ b)).take k),
                        pos := m.pop.2.pos + ((deflate (m.pop.2.plain ++ b)).take k).length,
                        broken := true }, 0, some .flate) := rfl
theorem io_wrClose : (machIO H deflate store).wrClose m =
    if m.pop.2.broken then (m.pop.2, some .flate)
    else match m.pop.1 with
      | none => ({ m.pop.2 with data := writeAt m.pop.2.data m.pop.2.pos (deflate m.pop.2.plain),
                                pos := m.pop.2.pos + (deflate m.pop.2.plain).length }, none)
      | some k =>
        ({ m.pop.2 with data := writeAt m.pop.2.data m.pop.2.pos ((deflate m.pop.2.plain).take k),
                        pos := m.pop.2.pos + ((deflate m.pop.2.plain).take k).length,
                        broken := true }, some .flate) := rfl

/-! the primitives of `Close` on a machine with the fault entry `f` next, the entry INSIDE the fields of the state they leave
(the state stays a record while `f` is a variable): an entry `k` cuts what is written or read to `k` bytes and leaves the
offset of a seek -/
section next
variable (n : String) (dt : Bytes) (ps : Nat) (hs pl : Bytes) (br : Bool) (f : Option Nat) (fs : List (Option Nat))
theorem wrClose_next : (machIO H deflate store).wrClose ⟨n, dt, ps, hs, pl, br, f :: fs⟩ =
    if br then (⟨n, dt, ps, hs, pl, br, fs⟩, some .flate)
    else (⟨n, writeAt dt ps (f.elim (deflate pl) (deflate pl).take),
        ps + (f.elim (deflate pl) (deflate pl).take).length, hs, pl, f.isSome, fs⟩, f.map fun _ => .flate) := by
  cases br <;> cases f <;> rfl
theorem seek_next (off : Int) : (machIO H deflate store).seek off ⟨n, dt, ps, hs, pl, br, f :: fs⟩ =
    (⟨n, dt, f.elim off.toNat fun _ => ps, hs, pl, br, fs⟩, f.map fun _ => .seek) := by
  cases f <;> rfl
theorem hashCopy_next : (machIO H deflate store).hashCopy ⟨n, dt, ps, hs, pl, br, f :: fs⟩ =
    (⟨n, dt, f.elim (max ps dt.length) fun k => ps + ((dt.drop ps).take k).length,
        hs ++ f.elim (dt.drop ps) (dt.drop ps).take, pl, br, fs⟩, f.map fun _ => .copy) := by
  cases f <;> rfl
theorem fileWrite_next : (machIO H deflate store).fileWrite b ⟨n, dt, ps, hs, pl, br, f :: fs⟩ =
    (⟨n, writeAt dt ps (f.elim b b.take), ps + (f.elim b b.take).length, hs, pl, br, fs⟩,
      ((f.elim b b.take).length : Int), f.map fun _ => .write) := by
  cases f <;> rfl
end next
end prims

/-- **`Header.Validate`**: root, then data, then body — the first mismatch is the error -/
theorem validate_eq (hd : Header) (r q b : Bytes) :
    hd.validate r q b =
      match CacheFile.validate (machIO H deflate store) hd.root hd.data hd.body r q b with
      | none => .ok ()
      | some e => .error e.toErr := by
  unfold Header.validate CacheFile.validate
  by_cases h1 : r = hd.root
  · rw [if_neg (not_not_intro h1), if_neg (not_not_intro h1)]
    by_cases h2 : q = hd.data
    · rw [if_neg (not_not_intro h2), if_neg (not_not_intro h2)]
      by_cases h3 : b = hd.body
      · rw [if_neg (not_not_intro h3), if_neg (not_not_intro h3)]
      · rw [if_pos h3, if_pos h3]; rfl
    · rw [if_pos h2, if_pos h2]; rfl
  · rw [if_pos h1, if_pos h1]; rfl

theorem toNat_mul3 (d : Nat) : Int.toNat ((d : Int) * 3) = 3 * d := by omega
theorem toNat_mul2 (d : Nat) : Int.toNat ((d : Int) * 2) = 2 * d := by omega

/-- what the generated `ReadHeader` computes on the machine (no fault entry is consumed) -/
theorem readHeader_run (d : Nat) (m : Mach) :
    CacheFile.readHeader (machIO H deflate store) (d : Int) m =
      if ((m.data.drop m.pos).take (3 * d)).length = 0 ∧ 0 < 3 * d then
        (m, ([], [], []), some (.site (.readHeader 0)))
      else if ((m.data.drop m.pos).take (3 * d)).length ≠ 3 * d then
        ({ m with pos := m.pos + ((m.data.drop m.pos).take (3 * d)).length }, ([], [], []),
          some (.site (.readHeader 1)))
      else
        ({ m with pos := m.pos + 3 * d },
          (((m.data.drop m.pos).take (3 * d)).take d, (((m.data.drop m.pos).take (3 * d)).drop d).take d,
            ((m.data.drop m.pos).take (3 * d)).drop (2 * d)), none) := by
  unfold CacheFile.readHeader
  simp only [machIO, List.length_replicate, toNat_mul3]
  generalize hc : List.take (3 * d) (m.data.drop m.pos) = c
  have hle : c.length ≤ 3 * d := by rw [← hc, List.length_take]; exact Nat.min_le_left _ _
  by_cases h0 : c.length = 0 ∧ 0 < 3 * d
  · simp [h0]
  · simp only [h0, if_false]
    by_cases h1 : c.length = 3 * d
    · simp [h1, toNat_mul2]
      omega
    · have hne : ¬ ((c.length : Int) = (c.length : Int) + ((3 * d - c.length : Nat) : Int)) := by omega
      simp [h1, hne]

/-- the result of the generated `ReadHeader` as a result of the model -/
def hdrResult (r : Mach × (Bytes × Bytes × Bytes) × Option FErr) : Except Err Header :=
  match r.2.2 with
  | none => .ok ⟨r.2.1.1, r.2.1.2.1, r.2.1.2.2⟩
  | some e => .error e.toErr

/-- **`ReadHeader`**: one `Read` of `3*size` bytes; nothing read is `io.EOF`, fewer bytes are the
short-read error, otherwise the three sums in order — on a machine whose file offset is 0 -/
theorem readHeader_eq (d : Nat) (m : Mach) (hpos : m.pos = 0) :
    Cache.readHeader d m.data = hdrResult (CacheFile.readHeader (machIO H deflate store) (d : Int) m) := by
  rw [readHeader_run H deflate store d m, hpos, List.drop_zero]
  unfold Cache.readHeader hdrResult
  generalize List.take (3 * d) m.data = c
  dsimp only
  by_cases h0 : c.length = 0 ∧ 0 < 3 * d
  · rw [if_pos h0, if_pos h0]; rfl
  · rw [if_neg h0, if_neg h0]
    by_cases h1 : c.length = 3 * d
    · rw [if_neg (fun h => h h1), if_neg (fun h => h h1)]
    · rw [if_pos h1, if_pos h1]; rfl

/-- the result of the generated `Open` as a result of the model: the bytes the flate reader is
given (everything behind the file offset), or the error -/
def openResult (r : Mach × Option ((Bytes × Bytes × Bytes) × Bool) × Option FErr) : Except Err Bytes :=
  match r.2.2 with
  | none => .ok (r.1.data.drop r.1.pos)
  | some e => .error e.toErr

theorem pop_nil (m : Mach) (h : m.faults = []) : m.pop = (none, m) := by
  unfold Mach.pop; rw [h]

theorem open_eq (d : Nat) (r q : Bytes) (m : Mach) (hf : m.faults = []) :
    openAt H d store r q = openResult (CacheFile.open_ (machIO H deflate store) (d : Int) r q m) := by
  obtain ⟨mname, mdata, mpos, mhash, mplain, mbroken, mfaults⟩ := m
  simp only at hf
  subst hf
  have hn : name H r q = hex (H (r ++ q)) := rfl
  unfold openAt
  cases hs : store (name H r q) with
  | none =>
    rw [hn] at hs
    simp only [CacheFile.open_, io_hashReset, io_hashWrite, io_hashSum, io_hex, io_osOpen,
      List.nil_append, hs]
    rfl
  | some f =>
    rw [hn] at hs
    have hrun := readHeader_run H deflate store d
      { fname := hex (H (r ++ q)), data := f, pos := 0, hash := r ++ q, plain := mplain, broken := mbroken, faults := [] }
    simp only [List.drop_zero, Nat.zero_add] at hrun
    unfold openf Cache.readHeader
    by_cases h0 : (List.take (3 * d) f).length = 0 ∧ 0 < 3 * d
    · rw [if_pos h0] at hrun
      simp only [CacheFile.open_, io_hashReset, io_hashWrite, io_hashSum, io_hex, io_osOpen,
        List.nil_append, hs, hrun, if_pos h0]
      rfl
    · rw [if_neg h0] at hrun
      by_cases h1 : (List.take (3 * d) f).length = 3 * d
      · rw [if_neg (not_not_intro h1)] at hrun
        simp only [CacheFile.open_, io_hashReset, io_hashWrite, io_hashSum, io_hex, io_osOpen,
          io_hashCopy, io_seek, Mach.pop, List.nil_append, hs, hrun, if_neg h0, if_neg (not_not_intro h1)]
        rw [validate_eq H deflate store]
        dsimp only
        generalize CacheFile.validate (machIO H deflate store) _ _ _ r q _ = v
        cases v <;> simp [openResult, toNat_mul3]
      · rw [if_pos h1] at hrun
        simp only [CacheFile.open_, io_hashReset, io_hashWrite, io_hashSum, io_hex, io_osOpen,
          List.nil_append, hs, hrun, if_neg h0, if_pos h1]
        rfl

/-- the writer's view of the machine -/
def wOf (m : Mach) (r q : Bytes) : FWriter := ⟨m.data, m.pos, r, q, m.plain, m.broken⟩

theorem keepFirst_eq (ret e : Option FErr) : (if ret.isNone = true then e else ret) = keepFirst ret e := by
  cases ret <;> rfl

/-- **`CreateLevel`** on a fresh machine, `os.Create` working and the level valid: the file is
created under the name `Open` looks for, the placeholder write under its fault entry is `createF`;
the `*File` remembers `Header{rsum, dsum, nil}` and has a
writer; the returned error is the placeholder write's. -/
theorem createLevel_eq (d : Nat) (r q : Bytes) (level : Int) (hl : -2 ≤ level ∧ level ≤ 9)
    (m : Mach) (fault : Option Nat) (rest : List (Option Nat))
    (hf : m.faults = none :: fault :: rest) (hp : m.plain = []) (hb : m.broken = false) :
    let res := CacheFile.createLevel (machIO H deflate store) (d : Int) r q level m
    res.2.1 = some ((r, q, []), true) ∧ res.2.2 = (createF d r q fault).2
      ∧ wOf res.1 r q = (createF d r q fault).1 ∧ res.1.faults = rest
      ∧ res.1.fname = name H r q := by
  obtain ⟨mname, mdata, mpos, mhash, mplain, mbroken, mfaults⟩ := m
  simp only at hf hp hb
  subst hf hp hb
  have hlv : ¬ (level < -2 ∨ 9 < level) := by omega
  cases fault <;>
    simp only [CacheFile.createLevel, io_hashReset, io_hashWrite, io_hashSum, io_hex, io_osCreate,
      io_fileWrite, io_newWriter, Mach.pop, toNat_mul3, hlv, if_false, createF, wOf, writeAt_nil] <;>
    simp [zeros, name]

/-- `os.Create` failing: `CreateLevel` returns `nil, err` at once -/
theorem createLevel_osCreate_fails (d : Nat) (r q : Bytes) (level : Int) (m : Mach) (k : Nat)
    (rest : List (Option Nat)) (hf : m.faults = some k :: rest) :
    (CacheFile.createLevel (machIO H deflate store) (d : Int) r q level m).2 = (none, some .create) := by
  obtain ⟨mname, mdata, mpos, mhash, mplain, mbroken, mfaults⟩ := m
  simp only at hf
  subst hf
  simp [CacheFile.createLevel, io_hashReset, io_hashWrite, io_hashSum, io_hex, io_osCreate, Mach.pop]

/-- a level outside `[-2, 9]`: `CreateLevel` returns the error of `flate.NewWriter` (when the
placeholder write worked) -/
theorem createLevel_bad_level (d : Nat) (r q : Bytes) (level : Int) (hl : level < -2 ∨ 9 < level)
    (m : Mach) (hf : m.faults = []) :
    (CacheFile.createLevel (machIO H deflate store) (d : Int) r q level m).2.2 = some .level := by
  obtain ⟨mname, mdata, mpos, mhash, mplain, mbroken, mfaults⟩ := m
  simp only at hf
  subst hf
  simp [CacheFile.createLevel, io_hashReset, io_hashWrite, io_hashSum, io_hex, io_osCreate,
    io_fileWrite, io_newWriter, Mach.pop, hl]

/-- `Create` is `CreateLevel` with `flate.DefaultCompression` (= -1) — for EVERY semantics of the
primitives (on the machine every valid level behaves alike) -/
theorem create_eq {σ ε : Type} (io : FileIO σ ε) (d : Int) (r q : Bytes) (s : σ) :
    CacheFile.create io d r q s = CacheFile.createLevel io d r q (-1) s := rfl

/-- without a fault `createF` is the `create` of CacheFile.lean (offset behind the placeholder) -/
theorem createF_nofault (d : Nat) (r q : Bytes) :
    createF d r q none = (⟨(Cache.create d r q).disk, 3 * d, r, q, (Cache.create d r q).plain, false⟩, none) := rfl

/-- **`File.Write`** of a writer is `writeF`: the flate writer takes the bytes, or (sticky) fails -/
theorem write_eq (r q b p : Bytes) (m : Mach) (fault : Option Nat) (rest : List (Option Nat))
    (hf : m.faults = fault :: rest) :
    let res := CacheFile.write (machIO H deflate store) true r q b p m
    res.2.2 = (writeF deflate (wOf m r q) p fault).2
      ∧ wOf res.1 r q = (writeF deflate (wOf m r q) p fault).1 ∧ res.1.faults = rest := by
  obtain ⟨mname, mdata, mpos, mhash, mplain, mbroken, mfaults⟩ := m
  simp only at hf
  subst hf
  cases mbroken <;> cases fault <;>
    simp [CacheFile.write, io_wrWrite, Mach.pop, writeF, wOf]

/-- `File.Write` on a read-only `*File` (from `Open`): `0, io.EOF`, nothing happens -/
theorem write_readonly (r q b p : Bytes) (m : Mach) :
    CacheFile.write (machIO H deflate store) false r q b p m = (m, 0, some .eof) := rfl

/-- without a fault `writeF` is the `write` of CacheFile.lean -/
theorem writeF_nofault (w : FWriter) (p : Bytes) (hb : w.broken = false) :
    writeF deflate w p none = ({ w with plain := (Cache.write ⟨w.data, w.r, w.q, w.plain⟩ p).plain }, none) := by
  simp [writeF, hb, Cache.write]

/-- **`File.Close`** of a writer is `closeF`: flush the flate writer, seek behind the header, hash
to EOF, seek to 0, write the header — every step runs, the FIRST error is returned. -/
theorem close_eq (d : Nat) (r q b : Bytes) (m : Mach) (cf : CloseFaults) (rest : List (Option Nat))
    (hf : m.faults = cf.toList ++ rest) :
    let res := CacheFile.close (machIO H deflate store) (d : Int) true r q b m
    (res.1.data, res.2) = closeF H d deflate (wOf m r q) cf ∧ res.1.faults = rest := by
  obtain ⟨mname, mdata, mpos, mhash, mplain, mbroken, mfaults⟩ := m
  obtain ⟨f1, f2, f3, f4, f5⟩ := cf
  simp only [CloseFaults.toList, List.cons_append, List.nil_append] at hf
  subst hf
  -- each step once, the fault entries still variables; then the 64 combinations compute
  cases mbroken <;>
  simp only [CacheFile.close, CacheFile.writeTo, closeF, wOf, keepFirst_eq, toNat_mul3, Int.toNat_zero, wrClose_next,
    seek_next, io_hashReset, hashCopy_next, io_hashSum, fileWrite_next, List.nil_append, Bool.false_eq_true, ↓reduceIte,
    and_true] <;>
  cases f1 <;> cases f2 <;> cases f3 <;> cases f4 <;> cases f5 <;> rfl

/-- `File.Close` on a read-only `*File` (from `Open`): nothing is written, `nil` -/
theorem close_readonly (d : Int) (r q b : Bytes) (m : Mach) :
    CacheFile.close (machIO H deflate store) d false r q b m = (m, none) := rfl

/-- (`Gts.Cache.closeF_nofault`: without a fault, on a writer whose offset is the end of the file,
`closeF` is the `close` of CacheFile.lean and returns `nil`; together with `close_eq`: the generated
`Close`, run without faults, is the model's `close`.) -/
theorem close_nofault_eq (d : Nat) (r q b : Bytes) (m : Mach) (hf : m.faults = [])
    (hp : m.pos = m.data.length) (hb : m.broken = false) :
    let res := CacheFile.close (machIO H deflate store) (d : Int) true r q b m
    res.1.data = Cache.close H d deflate ⟨m.data, r, q, m.plain⟩ ∧ res.2 = none := by
  obtain ⟨mname, mdata, mpos, mhash, mplain, mbroken, mfaults⟩ := m
  simp only at hf hp hb
  subst hf hp hb
  simp [CacheFile.close, CacheFile.writeTo, io_wrClose, io_seek, io_hashReset, io_hashCopy,
    io_hashSum, io_fileWrite, Mach.pop, toNat_mul3, writeAt_end, writeAt_zero, Cache.close]

/-- `File.Close` defers closing the file and the flate reader (both run after everything above) -/
theorem closeDefers_eq :
    CacheFile.closeDefers = ["Close: defer file.Close()", "Close: defer reader.Close()"] := rfl

/-- `Validate` makes exactly three errors, `ReadHeader` two (sites `ErrSite.validate 0..2`,
`ErrSite.readHeader 0..1`; the texts are not compared) -/
theorem error_sites : CacheFile.validateMessages.length = 3 ∧ CacheFile.readHeaderMessages.length = 2 :=
  ⟨rfl, rfl⟩

/-- cmd/gts/io.go `(*ioDelegate).Close` removes the entry when `d.cache.Close()` returned an error
(or the run was not committed): the contract `closeF`'s error results rely on — a reported failure
may leave a verifying entry that holds a prefix (`Gts.C13.failed_close_may_verify`). -/
theorem ioClose_discards_on_error : CacheFile.ioCloseDiscard = ["close-error", "not-committed"] := rfl

/-- `TryCache` creates entries with a valid level (`flate.BestSpeed`): `flate.NewWriter` cannot fail -/
theorem tryCacheLevel_valid : -2 ≤ CacheFile.tryCacheLevel ∧ CacheFile.tryCacheLevel ≤ 9 := by decide

/-- `TryCache` (re)creates the entry on EVERY error of `cache.Open` — missing, truncated, damaged,
wrong sums — not only on a missing file (seeded change C13-f: `os.IsNotExist(err)`) -/
theorem tryCache_recreates_on_any_open_error : CacheFile.tryCacheMissCond = "open-error" := rfl

end Gts.Bridge.CacheFile
