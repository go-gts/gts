/-
  Bridge: locator.go, regenerated by go2lean (Gts/Gen/Locator.lean), against the model
  `Gts/Model/Locator.lean` the locator theorems of C08 are about.

  * the five locator constructors, applied to a sequence, are what `LocatorDesc.apply` says — for
    EVERY sequence, modifier, location, filter and inner locator; the index loops never panic
    (`resizeLocator` stores into the slice it ranges over: every cell is read before it is written);
  * `tryLocation` is the model's: the same three parsers in the same order under `pars.Any`, wrapped in
    `pars.Exact`;
  * `AsLocator`, as written — `strings.IndexByte(s, '@')`, the three clauses, the slices `s[1:]`,
    `s[:i]`, `s[i+1:]`, the recursive call on `s[:i]` — builds the locator the model's `asLocator`
    describes (`splitAt`: first `@`; the specifier in front of it contains no `@`, so the recursive call
    takes the bare clause), for EVERY string and every fuel ≥ 2, and no slice expression panics.
-/
import Gts.Gen.Locator
import Gts.Bridge.CliLoops
namespace Gts.Bridge
open Gts

/-- **`allLocator(seq)`**: the regions of all features, in table order -/
theorem allLocator_eq (seq : Seq) : Gen.allLocator seq = some (seq.feats.map fun f => f.loc.region) := by
  simp only [Gen.allLocator, clMake_nat, fillLoop_fresh Gen.allLocatorLoop (fun f : Feature => f.loc.region) (fun _ _ => rfl)
    (fun f rest i rr => by rw [Int.add_zero, Gen.allLocatorLoop]; cases Gen.clPut rr i f.loc.region <;> rfl)]

/-- **`filterLocator(f)(seq)`**: the regions of the features the filter accepts, in table order -/
theorem filterLocator_eq (f : Feature → Bool) (seq : Seq) :
    Gen.filterLocator f seq = some ((seq.feats.filter f).map fun g => g.loc.region) := by
  simp only [Gen.filterLocator, clMake_nat, fillLoop_fresh Gen.filterLocatorLoop (fun g : Feature => g.loc.region) (fun _ _ => rfl)
    (fun g rest i rr => by rw [Int.add_zero, Gen.filterLocatorLoop]; cases Gen.clPut rr i g.loc.region <;> rfl)]

theorem resizeLocatorLoop_shape (mod : Mod) (c : Reg) (rest : List Reg) (i : Int) (rr : List Reg) :
    Gen.resizeLocatorLoop mod (c :: rest) i rr =
      (Gen.clAt rr i).bind fun x => (Gen.clPut rr i ((fun r : Reg => r.resize mod) x)).bind fun ys =>
        Gen.resizeLocatorLoop mod rest (i + 1) ys := by
  cases h : Gen.clAt rr i with
  | none => simp [Gen.resizeLocatorLoop, h]
  | some x => cases h2 : Gen.clPut rr i (x.resize mod) <;> simp [Gen.resizeLocatorLoop, h, h2]

/-- **`resizeLocator(locate, mod)(seq)`**: every region the inner locator yields, resized — the loop
overwrites `rr[i]` with `r.Resize(mod)` while ranging over `rr`; each cell is read before it is written -/
theorem resizeLocator_eq (locate : Seq → List Reg) (mod : Mod) (seq : Seq) :
    Gen.resizeLocator locate mod seq = some ((locate seq).map fun r => r.resize mod) := by
  have h := mapInPlaceLoop_spec (Gen.resizeLocatorLoop mod) (fun r : Reg => r.resize mod) (fun _ _ => rfl)
    (resizeLocatorLoop_shape mod) (locate seq) [] (locate seq) rfl
  simp only [List.nil_append, List.length_nil, Int.natCast_zero] at h
  simp only [Gen.resizeLocator, h]

/-- **`relativeLocator(mod)(seq)`**: the whole record `Segment{0, Len(seq)}`, resized -/
theorem relativeLocator_eq (mod : Mod) (seq : Seq) :
    Gen.relativeLocator mod seq = some [(Reg.seg 0 seq.len).resize mod] := rfl

/-- **`locationLocator(loc)(seq)`**: the region of the location, whatever the sequence -/
theorem locationLocator_eq (loc : Loc) (seq : Seq) : Gen.locationLocator loc seq = some [loc.region] := rfl

/-- the locator a description stands for, put together from the GENERATED constructors the way
`AsLocator` nests them (`resizeLocator(allLocator, m)`, `resizeLocator(inner, m)`) -/
def genApply (filt : Pars.Bytes → Feature → Bool) (seq : Seq) : LocatorDesc → Option (List Reg)
  | .bareModifier m => Gen.relativeLocator m seq
  | .bareLocation l => Gen.locationLocator l seq
  | .selector s => Gen.filterLocator (filt s) seq
  | .atAll m => (Gen.allLocator seq).bind fun rr => Gen.resizeLocator (fun _ => rr) m seq
  | .at inner m => (genApply filt seq inner).bind fun rr => Gen.resizeLocator (fun _ => rr) m seq
  | .error => some []
  | .panic => some []

/-- **what the constructors do is `LocatorDesc.apply`**, for every description, sequence and filter
semantics, and none of their index expressions panics -/
theorem apply_gen (filt : Pars.Bytes → Feature → Bool) (seq : Seq) :
    ∀ d : LocatorDesc, genApply filt seq d = some (d.apply filt seq) := by
  intro d
  induction d with
  | bareModifier m => rfl
  | bareLocation l => rfl
  | selector s => simp only [genApply, filterLocator_eq, LocatorDesc.apply]
  | atAll m =>
    simp only [genApply, allLocator_eq, Option.bind_some, resizeLocator_eq, LocatorDesc.apply, List.map_map]
    rfl
  | «at» inner m ih => simp only [genApply, ih, Option.bind_some, resizeLocator_eq, LocatorDesc.apply]
  | error => rfl
  | panic => rfl

example : genApply (fun _ _ => true) ⟨[⟨"gene", .ranged 1 4 false false, []⟩], [1, 2, 3, 4, 5]⟩
      (.at (.selector [103]) (.headTail 1 0)) =
    some ((LocatorDesc.at (.selector [103]) (.headTail 1 0)).apply (fun _ _ => true)
      ⟨[⟨"gene", .ranged 1 4 false false, []⟩], [1, 2, 3, 4, 5]⟩) := apply_gen _ _ _

theorem tryLocationParser_eq : ∀ fuel, Gen.tryLocationParser fuel = LocParse.tryLoc fuel := by
  intro fuel
  induction fuel with
  | zero => rfl
  | succ n ih => simp only [Gen.tryLocationParser, LocParse.tryLoc, ih]

/-- **`tryLocation`, as written, is the model's**: `pars.Exact(pars.Any(parseComplement(&parser),
parseRange, parsePoint))` on the whole string -/
theorem tryLocation_eq : Gen.tryLocation = Gts.tryLocation := by
  funext s
  simp only [Gen.tryLocation, Gts.tryLocation, tryLocationParser_eq]

/-- `3..5` -/
example : Gen.tryLocation [51, 46, 46, 53] = .ok (.ranged 2 5 false false) := by
  rw [tryLocation_eq]; rfl

theorem clIndexByte_ge (c : UInt8) : ∀ s : List UInt8, -1 ≤ Gen.clIndexByte s c := by
  intro s
  induction s with
  | nil => simp [Gen.clIndexByte]
  | cons b rest ih =>
    simp only [Gen.clIndexByte]
    split
    · omega
    · split <;> omega

/-- `strings.IndexByte(s, '@')` and the model's `splitAt`: no `@` ↔ −1; otherwise the index is the
length of the part in front of the first `@`, which contains none -/
theorem splitAt_spec : ∀ s : List UInt8,
    match splitAt s with
    | (hd, none) => Gen.clIndexByte s 64 = -1 ∧ hd = s
    | (hd, some tl) => Gen.clIndexByte s 64 = (hd.length : Int) ∧ s = hd ++ 64 :: tl ∧ Gen.clIndexByte hd 64 = -1
  | [] => ⟨rfl, rfl⟩
  | c :: r => by
    have ih := splitAt_spec r
    rw [splitAt, Gen.clIndexByte]
    by_cases hc : c = 64
    · rw [if_pos hc, if_pos hc, hc]
      exact ⟨rfl, rfl, rfl⟩
    · rw [if_neg hc, if_neg hc]
      rcases hr : splitAt r with ⟨a, _ | tl⟩ <;> rw [hr] at ih
      · obtain ⟨h1, rfl⟩ := ih
        exact ⟨by rw [h1]; rfl, rfl⟩
      · obtain ⟨h1, h2, h3⟩ := ih
        refine ⟨?_, by rw [h2]; rfl, by rw [Gen.clIndexByte, if_neg hc, h3]; rfl⟩
        rw [h1, if_neg (by omega)]
        exact (Int.natCast_succ _).symm

/-- the clause `case -1` of `AsLocator`: modifier, then point / range / complement location, then selector -/
theorem asLocator_bare (selOk : Pars.Bytes → Bool) (fuel : Nat) (s : Pars.Bytes)
    (h : Gen.clIndexByte s 64 = -1) : Gen.asLocator selOk (fuel + 1) s = asLocatorBare selOk s := by
  simp only [Gen.asLocator, h, if_true, asLocatorBare, tryLocation_eq]
  cases h1 : asModifier s with
  | ok m => rfl
  | error e =>
    cases e with
    | panic => rfl
    | fail =>
      simp only
      cases h2 : Gts.tryLocation s with
      | ok l => rfl
      | error e2 =>
        cases e2 with
        | panic => rfl
        | fail => rfl

/-- **`AsLocator`, as written, builds the locator the model's `asLocator` describes** — for every string,
every verdict of `Selector` on its parts and every fuel ≥ 2 (one unit for the call, one for the
recursive call on the specifier, which contains no `@`); the slices `s[1:]`, `s[:i]`, `s[i+1:]` never panic -/
theorem asLocator_eq (selOk : Pars.Bytes → Bool) (fuel : Nat) (s : Pars.Bytes) :
    Gen.asLocator selOk (fuel + 2) s = Gts.asLocator selOk s := by
  have hs := splitAt_spec s
  unfold Gts.asLocator
  cases hsp : splitAt s with
  | mk hd o =>
    rw [hsp] at hs
    cases o with
    | none => exact asLocator_bare selOk (fuel + 1) s hs.1
    | some tl =>
      -- `s = hd ++ '@' :: tl`: the slices `s[:i]`, `s[i+1:]` at `i = len(hd)` are `hd` and `tl`
      obtain ⟨h1, rfl, h3⟩ := hs
      have ht := clTo_append_length hd (64 :: tl)
      have hf := clFrom_append_succ hd 64 tl
      cases hd with
      | nil =>
        change Gen.clFrom _ 1 = _ at hf   -- `s[1:]`: the index `len([]) + 1` as the source writes it
        simp only [Gen.asLocator, h1, List.length_nil, Int.natCast_zero, Int.reduceNeg, Int.reduceEq, if_false, if_true, hf]
        cases asModifier tl with
        | ok m => rfl
        | error e => cases e <;> rfl
      | cons c hd' =>
        have e1 : ¬ ((((c :: hd').length : Nat) : Int) = -1) := by omega
        have e2 : ¬ ((((c :: hd').length : Nat) : Int) = 0) := by simp only [List.length_cons]; omega
        have hb := asLocator_bare selOk fuel (c :: hd') h3
        rw [Gen.asLocator]
        simp only [h1, e1, e2, if_false, ht, hf, hb]
        -- `error` and `panic` end here; every other description goes on to the modifier behind the `@`
        cases asLocatorBare selOk (c :: hd') with
        | error | panic => rfl
        | _ =>
          cases asModifier tl with
          | ok m => rfl
          | error e => cases e <;> rfl

deriving instance DecidableEq for Except

/-- `3..5@^-1`: the part in front of the `@` is no modifier but a location, the part behind it is a modifier -/
example : Gen.asLocator (fun _ => true) 2 [51, 46, 46, 53, 64, 94, 45, 49]
    = .at (.bareLocation (.ranged 2 5 false false)) (.head (-1)) := by
  have hs : splitAt [51, 46, 46, 53, 64, 94, 45, 49] = ([51, 46, 46, 53], some [94, 45, 49]) := rfl
  have hm : asModifier [51, 46, 46, 53] = .error .fail := by decide +kernel
  have hl : Gts.tryLocation [51, 46, 46, 53] = .ok (.ranged 2 5 false false) := rfl
  have ht : asModifier [94, 45, 49] = .ok (.head (-1)) := by decide +kernel
  simp only [asLocator_eq, Gts.asLocator, hs, asLocatorBare, hm, hl, ht]

end Gts.Bridge
