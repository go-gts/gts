/-
  Bridge: `asComplete`, regenerated from location.go by go2lean (Gts/Gen/LocComplete.lean: the type
  switch clause by clause, `case Ranged` by the statement translator, the loops
  `for i, u := range v { v[i] = asComplete(u) }` of the `Joined` / `Ordered` clauses LITERALLY — a
  counter, `u` read from the slice as it is when iteration `i` starts —, the recursive call through
  `self_`, explicit fuel), is the hand-written model's `Loc.asComplete` — for EVERY location and every
  fuel of at least its size.  `asComplete` is what `gts.Slice` applies to the location of a `source`
  feature (C03 `slice_feats_fwd`, C10).

  Slices are values on both sides: that the Go function overwrites the array of its argument is
  C11's subject (`asComplete_impure`), not this bridge's.
-/
import Gts.Gen.LocComplete
import Gts.Lemmas.LessGoOrder
namespace Gts.Bridge
open Gts

theorem set_take_succ {α : Type} (v : List α) (k : Nat) (x : α) (h : k < v.length) :
    (v.set k x).take (k + 1) = v.take k ++ [x] := by
  rw [List.take_succ_eq_append_getElem (by rwa [List.length_set]), List.take_set_of_le (Nat.le_refl k),
    List.getElem_set_self]

theorem set_drop_succ {α : Type} (v : List α) (k : Nat) (x : α) :
    (v.set k x).drop (k + 1) = v.drop (k + 1) := by
  rw [List.drop_set_of_lt (by omega)]

/-- a loop of the shape `for i := range v { v[i] = f(v[i]) }` (exactly `todo` iterations, live reads)
entered at index `k` with `k + todo = len(v)` maps `f` over the cells from `k` on -/
theorem mapLoop_shape (loop : Nat → Int → List Loc → List Loc) (f : Loc → Loc)
    (h0 : ∀ i v, loop 0 i v = v)
    (hs : ∀ t i v, loop (t + 1) i v =
      loop t (i + 1) (v.set (Int.toNat i) (f (v.getD (Int.toNat i) default)))) :
    ∀ (t k : Nat) (v : List Loc), k + t = v.length →
      loop t (k : Int) v = v.take k ++ (v.drop k).map f
  | 0, k, v, h => by
    rw [h0]
    have : k = v.length := by omega
    subst this
    simp
  | t + 1, k, v, h => by
    have hk : k < v.length := by omega
    have e : ((k : Int) + 1) = ((k + 1 : Nat) : Int) := by omega
    rw [hs, e, Int.toNat_natCast,
      mapLoop_shape loop f h0 hs t (k + 1) _ (by simp only [List.length_set]; omega),
      set_take_succ v k _ hk, set_drop_succ, List.drop_eq_getElem_cons hk]
    simp only [List.getD_eq_getElem?_getD, List.getElem?_eq_getElem hk, Option.getD_some, List.map_cons,
      List.append_assoc, List.cons_append, List.nil_append]

theorem asCompleteList_eq_map : ∀ (ls : List Loc), Loc.asCompleteList ls = ls.map Loc.asComplete
  | [] => rfl
  | l :: ls => by simp only [Loc.asCompleteList, List.map_cons, asCompleteList_eq_map ls]

/-- the loop of the `Joined` clause maps `self_` over the parts -/
theorem asCompleteLoop_eq (self_ : Loc → Loc) (v : List Loc) :
    Gen.asCompleteLoop self_ v.length 0 v = v.map self_ := by
  have := mapLoop_shape (Gen.asCompleteLoop self_) self_ (fun _ _ => rfl) (fun _ _ _ => rfl)
    v.length 0 v (by omega)
  simpa using this

/-- the loop of the `Ordered` clause maps `self_` over the parts -/
theorem asCompleteLoop2_eq (self_ : Loc → Loc) (v : List Loc) :
    Gen.asCompleteLoop2 self_ v.length 0 v = v.map self_ := by
  have := mapLoop_shape (Gen.asCompleteLoop2 self_) self_ (fun _ _ => rfl) (fun _ _ _ => rfl)
    v.length 0 v (by omega)
  simpa using this

/-- ONE STEP: if `self_` is `Loc.asComplete` on every smaller location, the body of `asComplete`
computes `Loc.asComplete l` -/
theorem asCompleteBody_eq (self_ : Loc → Loc) (l : Loc)
    (h : ∀ l', Loc.size l' < Loc.size l → self_ l' = Loc.asComplete l') :
    Gen.asCompleteBody self_ l = Loc.asComplete l := by
  cases l with
  | joined ls | ordered ls =>
    simp only [Gen.asCompleteBody, Loc.asComplete, asCompleteLoop_eq, asCompleteLoop2_eq, asCompleteList_eq_map]
    rw [List.map_congr_left (fun u hu => h u (by
      have := Loc.size_le_sizeList hu
      simp only [Loc.size]; omega))]
  | compl l =>
    simp only [Gen.asCompleteBody, Loc.asComplete]
    rw [h l (by simp only [Loc.size]; omega)]
  | _ => simp only [Gen.asCompleteBody, Loc.asComplete]

/-- `asComplete` as location.go defines it now is the model's `Loc.asComplete`: for every location and
every fuel of at least its size (the Go recursion terminates and returns `Loc.asComplete l`) -/
theorem asComplete_eq : ∀ (fuel : Nat) (l : Loc), Loc.size l ≤ fuel →
    Gen.asComplete fuel l = Loc.asComplete l
  | 0, l, h => by have := Loc.size_pos l; omega
  | fuel + 1, l, h => by
    simp only [Gen.asComplete]
    exact asCompleteBody_eq _ l (fun l' hlt => asComplete_eq fuel l' (by omega))

-- non-vacuity: partial flags are cleared at every depth of join / order and (repair e43d5f2) under a complement
example : Gen.asComplete 6 (.joined [.ranged 3 9 true false, .ordered [.ranged 1 2 false true],
      .compl (.ranged 5 6 true true)]) =
    .joined [.ranged 3 9 false false, .ordered [.ranged 1 2 false false], .compl (.ranged 5 6 false false)] := by
  rfl
example : Loc.size (.joined [.ranged 3 9 true false, .ordered [.ranged 1 2 false true],
      .compl (.ranged 5 6 true true)]) = 6 := by decide

end Gts.Bridge
