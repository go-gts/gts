/-
  Bridge: the per-record step of `gts extract`, regenerated from cmd/gts/extract.go by go2lean
  (Gts/Gen/CliExtract.lean: `containsRegion` with its index loop, the two nested loops that collect
  the regions of every locator without duplicates, `-v` through `gts.InvertLinear`, the filter
  `len(rr) == 1 || region.Len() != gts.Len(seq)`, `region.Locate(seq)`), writes exactly the model's
  `Cli.extract` — for EVERY record, list of locators and `-v` flag.
-/
import Gts.Gen.CliExtract
import Gts.Bridge.CliLoops
import Gts.Lemmas.Cli
namespace Gts.Bridge
open Gts

/-- the index loop of `containsRegion`, entered at `i = len(pre)` on `rr = pre ++ suf`: it returns
`true` iff a region of `suf` is deeply equal to `r`, and `rr[i]` never panics -/
theorem containsRegionLoop_spec (r : Reg) : ∀ (suf pre : List Reg),
    Gen.containsRegionLoop (pre ++ suf) r suf (pre.length : Int) =
      some (if suf.any (· == r) then some true else none) := by
  intro suf
  induction suf with
  | nil => intro pre; simp [Gen.containsRegionLoop]
  | cons a rest ih =>
    intro pre
    have hb : (a == r) = Reg.beq a r := rfl
    simp only [Gen.containsRegionLoop, clAt_append_length, List.any_cons, hb]
    by_cases h : Reg.beq a r = true
    · simp [h]
    · have := ih (pre ++ [a])
      simp only [List.append_assoc, List.singleton_append, List.length_append, List.length_cons,
        List.length_nil, Nat.zero_add] at this
      rw [Int.natCast_add, Int.natCast_one] at this
      simp only [h, this, Bool.false_or]
      rfl

/-- **`containsRegion(rr, r)`, as written**: is some element of `rr` deeply equal to `r` -/
theorem containsRegion_eq (rr : List Reg) (r : Reg) : Gen.containsRegion rr r = some (rr.any (· == r)) := by
  have h := containsRegionLoop_spec r rr []
  simp only [List.nil_append, List.length_nil, Int.natCast_zero] at h
  simp only [Gen.containsRegion, h]
  cases rr.any (· == r) <;> rfl

/-- the generated inner loop `for _, r := range locate(seq) { if !containsRegion(rr, r) { rr = append(rr, r) } }` -/
theorem extractStepLoop2_eq (locators : List (Seq → List Reg)) (invert : Bool) : ∀ (rs rr : List Reg),
    Gen.extractStepLoop2 locators invert rs rr = some (Cli.dedupRegs rr rs) := by
  intro rs
  induction rs with
  | nil => intro rr; rfl
  | cons r rest ih =>
    intro rr
    simp only [Gen.extractStepLoop2, containsRegion_eq, Cli.dedupRegs]
    cases h : rr.any (· == r) <;> simp [ih]

theorem dedupRegs_append : ∀ (a b acc : List Reg),
    Cli.dedupRegs acc (a ++ b) = Cli.dedupRegs (Cli.dedupRegs acc a) b := by
  intro a
  induction a with
  | nil => intro b acc; rfl
  | cons x rest ih =>
    intro b acc
    simp only [List.cons_append, Cli.dedupRegs]
    split <;> exact ih _ _

theorem extractStepLoop_eq (locators : List (Seq → List Reg)) (invert : Bool) (seq : Seq) :
    ∀ (ls : List (Seq → List Reg)) (rr : List Reg),
    Gen.extractStepLoop locators invert seq ls rr = some (Cli.dedupRegs rr (ls.flatMap fun l => l seq)) := by
  intro ls
  induction ls with
  | nil => intro rr; rfl
  | cons l rest ih =>
    intro rr
    simp only [Gen.extractStepLoop, extractStepLoop2_eq, ih, List.flatMap_cons, dedupRegs_append]

/-- the generated loop `for _, region := range rr { if len(rr) == 1 || region.Len() != gts.Len(seq) { … WriteSeq(region.Locate(seq)) } }` -/
theorem extractStepLoop3_eq (locators : List (Seq → List Reg)) (invert : Bool) (seq : Seq) (rr : List Reg)
    (rs : List Reg) (written : List Seq) :
    Gen.extractStepLoop3 locators invert seq rr rs written =
      some (written ++ (rs.filter fun r => rr.length == 1 || r.len != seq.len).map fun r => r.locate seq) :=
  appendIfLoop_spec (Gen.extractStepLoop3 locators invert seq rr)
    (fun r => rr.length == 1 || r.len != seq.len) (fun r => r.locate seq) (fun _ => rfl)
    (fun r rest w => by
      simp only [Gen.extractStepLoop3]
      by_cases h1 : (rr.length : Int) = 1
      · have : rr.length = 1 := by omega
        simp [this]
      · have : ¬ rr.length = 1 := by omega
        by_cases h2 : r.len = seq.len <;> simp [h1, this, h2]) rs written

/-- **`gts extract`, one record**: the scan-loop body of extract.go, as written, hands to `WriteSeq`
exactly the model's `Cli.extract` (first occurrences of the located regions in order, inverted with
`-v`, the regions as long as the record dropped unless there is exactly one), and no index
expression in it panics. -/
theorem extractStep_eq (locators : List (Seq → List Reg)) (invert : Bool) (seq : Seq) :
    Gen.extractStep locators invert seq = some (Cli.extract locators invert seq) := by
  have hm : Gen.clMake Reg 0 = some [] := clMake_nat Reg 0
  simp only [Gen.extractStep, hm, extractStepLoop_eq, Cli.extract, Cli.extractRegs]
  cases invert <;> simp [extractStepLoop3_eq]

example : Gen.extractStep [fun _ => [.seg 1 3, .seg 4 2], fun _ => [.seg 1 3]] true ⟨[], [1, 2, 3, 4, 5]⟩
    = some (Cli.extract [fun _ => [.seg 1 3, .seg 4 2], fun _ => [.seg 1 3]] true ⟨[], [1, 2, 3, 4, 5]⟩) :=
  extractStep_eq _ _ _

theorem extractStepFacts_eq : Gen.extractStepFacts = ["write", "flush"] := rfl

end Gts.Bridge
