/-
  Bridge: `FeatureSlice.Insert`, regenerated from feature.go by go2lean (Gts/Gen/FeatInsert.lean: the loop
  over the leading `source` features literally with fuel, `sort.Search` — Gts/Gen/SortSearch.lean, translated
  from the toolchain's own sort/search.go: `i, j := 0, n; for i < j { h := int(uint(i+j) >> 1); if !f(h)
  { i = h + 1 } else { j = h } }; return i` — with the closure `LocationLess(f.Loc, ff[i+j].Loc)` as a
  predicate that can panic, then `make`, two `copy` and the store as checked list operations), never
  panics and returns the hand-written model's `Table.insert` (Gts/Model/Seq.lean) — for every table,
  every feature, every value of the zero `Feature` that `make` fills in (so: every cell of the result is
  overwritten) and every fuel of at least the length of the table.
-/
import Gts.Gen.FeatInsert
import Gts.Bridge.FeatLess
import Gts.Lemmas.GoList
import Gts.Lemmas.LessOrder
namespace Gts.Bridge
open Gts

theorem shiftRight_one (n : Nat) : Int.shiftRight (n : Int) 1 = ((n / 2 : Nat) : Int) := by
  have : Int.shiftRight (n : Int) 1 = (n : Int) >>> 1 := rfl
  rw [this, Int.shiftRight_eq_div_pow]
  omega

/-- the model's binary search needs no more fuel than the width of the interval -/
theorem sortSearchLoop_fuel (p : Nat → Bool) (a b i j : Nat) (ha : j ≤ i + a) (hb : j ≤ i + b) :
    sortSearchLoop p a i j = sortSearchLoop p b i j := by
  induction a generalizing b i j with
  | zero =>
    cases b with
    | zero => rfl
    | succ b => rw [sortSearchLoop, sortSearchLoop, if_neg (by omega)]
  | succ a ih =>
    cases b with
    | zero => rw [sortSearchLoop, sortSearchLoop, if_neg (by omega)]
    | succ b =>
      rw [sortSearchLoop, sortSearchLoop]
      by_cases hij : i < j
      · have hh : i ≤ (i + j) / 2 ∧ (i + j) / 2 < j := by omega
        simp only [if_pos hij]
        generalize (i + j) / 2 = h at hh ⊢
        cases p h <;> exact ih b _ _ (by omega) (by omega)
      · simp only [if_neg hij]

theorem sortSearchLoop_eq (f : Int → Option Bool) (p : Nat → Bool) (N : Nat)
    (hf : ∀ h, h < N → f (h : Int) = some (p h)) (fuel i j : Nat) (hj : j ≤ N) :
    (Gen.sortSearchLoop f fuel (i : Int) (j : Int)).map Prod.fst = some ((sortSearchLoop p fuel i j : Nat) : Int) := by
  induction fuel generalizing i j with
  | zero => rfl
  | succ fuel ih =>
    rw [Gen.sortSearchLoop, sortSearchLoop]
    by_cases hij : i < j
    · have hh : (i + j) / 2 < j := by omega
      rw [if_pos (Int.ofNat_lt.mpr hij), if_pos hij, ← Int.natCast_add, Gen.goUint_nat]
      simp only [Option.bind_some, shiftRight_one, hf _ (Nat.lt_of_lt_of_le hh hj)]
      cases p ((i + j) / 2)
      · exact ih ((i + j) / 2 + 1) j hj
      · exact ih i ((i + j) / 2) (Nat.le_trans (Nat.le_of_lt hh) hj)
    · rw [if_neg (mt Int.ofNat_lt.mp hij), if_neg hij]; rfl

/-- **`sort.Search(n, f)` as the toolchain's source defines it, on a predicate that answers `p j` (and
does not panic) for `0 ≤ j < n`, does not panic and returns the model's `sortSearch n p`** — for every
fuel of at least `n` -/
theorem sortSearch_eq (f : Int → Option Bool) (p : Nat → Bool) (n fuel : Nat)
    (hf : ∀ h, h < n → f (h : Int) = some (p h)) (hfuel : n ≤ fuel) :
    Gen.sortSearch fuel (n : Int) f = some ((sortSearch n p : Nat) : Int) := by
  have h := sortSearchLoop_eq f p n hf fuel 0 n (Nat.le_refl _)
  rw [sortSearchLoop_fuel p fuel (n + 1) 0 n (by omega) (by omega)] at h
  simp only [Gen.sortSearch, sortSearch]
  revert h
  cases Gen.sortSearchLoop f fuel 0 (n : Int) with
  | none => intro h; cases h
  | some st => intro h; exact h

theorem featureSliceInsertLoop_eq (ff : Table) (n k : Nat) (hn : ff.length ≤ k + n) (hk : k ≤ ff.length) :
    Gen.featureSliceInsertLoop ff n (k : Int) = some (((k + Table.sourceCount (ff.drop k) : Nat)) : Int) := by
  induction n generalizing k with
  | zero =>
    rw [List.drop_eq_nil_of_le (show ff.length ≤ k from hn)]
    rfl
  | succ n ih =>
    rw [Gen.featureSliceInsertLoop]
    by_cases hlt : k < ff.length
    · rw [if_pos (Int.ofNat_lt.mpr hlt), Gen.goIdx_eq, clAt_lt ff k hlt, List.drop_eq_getElem_cons hlt, Table.sourceCount]
      by_cases hsrc : ff[k].key = "source"
      · simp only [Option.bind_some, hsrc, decide_true, if_true]
        rw [← Nat.add_assoc, Nat.add_right_comm]
        exact ih (k + 1) (by omega) hlt
      · simp only [Option.bind_some, hsrc, decide_false, Bool.false_eq_true, if_false, Nat.add_zero]
    · rw [if_neg (mt Int.ofNat_lt.mp hlt), List.drop_eq_nil_of_le (Nat.le_of_not_lt hlt)]
      rfl

/-- the statements of `FeatureSlice.Insert` behind the computation of the index, in `Option.bind` form -/
def insertBuild (zero f : Feature) (ff : Table) (i : Int) : Option Table :=
  (Gen.goMake zero ((ff.length : Int) + 1)).bind (fun gg0 =>
    (Gen.goTo ff i).bind fun x =>
      (Gen.goSet (Gen.goCopy gg0 x) i f).bind fun gg1 =>
        (Gen.goFrom ff i).bind fun y => (Gen.goCopyAt gg1 (i + 1) y).bind fun z => some z)

theorem goCopy_append {α : Type} (q r src : List α) (h : q.length = src.length) :
    Gen.goCopy (q ++ r) src = src ++ r := by
  rw [Gen.goCopy_le _ _ (by rw [List.length_append]; omega), List.drop_left' h]

/-- `make` + `copy(gg, ff[:i])` + `gg[i] = f` + `copy(gg[i+1:], ff[i:])` build `ff[:i] ++ f :: ff[i:]` -/
theorem insertAt_build (zero f : Feature) (a b : Table) :
    insertBuild zero f (a ++ b) (a.length : Int) = some (a ++ f :: b) := by
  have hm : Gen.goMake zero (((a ++ b).length : Int) + 1) =
      some (List.replicate a.length zero ++ zero :: List.replicate b.length zero) := by
    rw [← Int.natCast_succ, Gen.goMake_nat, List.length_append, Nat.succ_eq_add_one, Nat.add_assoc,
      ← List.replicate_append_replicate, List.replicate_succ]
  have hb : Gen.goCopy (List.replicate b.length zero) b = b := by
    have := goCopy_append (List.replicate b.length zero) [] b (List.length_replicate ..)
    rwa [List.append_nil, List.append_nil] at this
  have hc := Gen.goCopyAt_nat ((a ++ [f]) ++ List.replicate b.length zero) (a ++ [f]).length b
    (by rw [List.length_append (as := a ++ [f])]; exact Nat.le_add_right _ _)
  rw [List.take_left' rfl, List.drop_left' rfl, hb, List.length_append, List.length_singleton, Int.natCast_succ,
    List.append_assoc, List.append_assoc] at hc
  rw [insertBuild, hm, Option.bind_some, Gen.goTo_eq, clTo_append_length, Option.bind_some,
    goCopy_append _ _ _ (List.length_replicate ..), Gen.goSet_eq, clPut_append_length,
    Option.bind_some, Gen.goFrom_eq, clFrom_append_length, Option.bind_some]
  exact congrArg (·.bind some) hc

theorem insertBuild_eq (zero f : Feature) (ff : Table) (i : Nat) (hi : i ≤ ff.length) :
    insertBuild zero f ff (i : Int) = some (ff.take i ++ f :: ff.drop i) := by
  have h := insertAt_build zero f (ff.take i) (ff.drop i)
  rwa [List.take_append_drop, List.length_take, Nat.min_eq_left hi] at h

/-- the generated function, statement by statement, in `Option.bind` form (the generated text is a nest
of `match`es on the checked operations) -/
theorem featureSliceInsert_shape (fuel : Nat) (zero f : Feature) (ff : Table) :
    Gen.featureSliceInsert fuel zero ff f =
      (Gen.featureSliceInsertLoop ff fuel 0).bind fun i0 =>
        (if f.key ≠ "source" then
          (Gen.goFrom ff i0).bind fun x =>
            (Gen.sortSearch fuel (x.length : Int) (fun j =>
              (Gen.goIdx ff (i0 + j)).bind fun g => some (Gen.locationLessF f.loc g.loc))).bind fun r =>
                some (i0 + r)
          else some i0).bind fun i => insertBuild zero f ff i := by
  rfl

/-- the model's `Table.insert` in terms of the index found: `p` is the predicate it hands to `sortSearch`, which
compares with the features behind the `source` block -/
theorem insert_eq_at (ff : Table) (f : Feature) :
    ∃ p : Nat → Bool, (∀ h (hlt : Table.sourceCount ff + h < ff.length),
        p h = Loc.less f.loc ff[Table.sourceCount ff + h].loc) ∧
      ∀ i, i = (if f.key ≠ "source" then Table.sourceCount ff + sortSearch (ff.length - Table.sourceCount ff) p
        else Table.sourceCount ff) → Table.insert ff f = ff.take i ++ f :: ff.drop i :=
  ⟨_, fun h hlt => by rw [List.getElem?_eq_getElem hlt], fun _ hi => hi ▸ rfl⟩

/-- **`FeatureSlice.Insert(f)` as feature.go defines it now never panics and returns the model's
`Table.insert ff f`**: the feature goes behind the leading `source` features and — unless it is a
`source` itself — at the index `sort.Search` finds among the rest; for every table, every feature, every
zero `Feature` and every fuel of at least the length of the table -/
theorem featureSliceInsert_eq (fuel : Nat) (zero f : Feature) (ff : Table) (hfuel : ff.length ≤ fuel) :
    Gen.featureSliceInsert fuel zero ff f = some (Table.insert ff f) := by
  obtain ⟨p, hp, he⟩ := insert_eq_at ff f
  have hsrc := featureSliceInsertLoop_eq ff fuel 0 (by omega) (Nat.zero_le _)
  rw [Nat.zero_add, List.drop_zero, Int.natCast_zero] at hsrc
  have hsc := Table.sourceCount_le ff
  rw [featureSliceInsert_shape, hsrc, Option.bind_some]
  by_cases hkey : f.key ≠ "source"
  · have hs := sortSearch_eq (fun j => (Gen.goIdx ff ((Table.sourceCount ff : Int) + j)).bind fun g =>
        some (Gen.locationLessF f.loc g.loc)) p (ff.length - Table.sourceCount ff) fuel
      (fun h hh => by
        have hlt : Table.sourceCount ff + h < ff.length := by omega
        rw [← Int.natCast_add, Gen.goIdx_eq, clAt_lt ff _ hlt, Option.bind_some, locationLessF_eq, hp h hlt]) (by omega)
    have hle := (sortSearch_general (ff.length - Table.sourceCount ff) p).1
    rw [if_pos hkey, Gen.goFrom_eq, clFrom_nat ff _ hsc, Option.bind_some, List.length_drop, hs, Option.bind_some, Option.bind_some,
      ← Int.natCast_add, insertBuild_eq zero f ff _ (by omega), he _ (if_pos hkey).symm]
  · rw [if_neg hkey, Option.bind_some, insertBuild_eq zero f ff _ hsc, he _ (if_neg hkey).symm]

-- non-vacuity: an insertion in the middle of a table with a leading `source`, on the generated function
example : Gen.featureSliceInsert 3 default
    [⟨"source", .ranged 0 9 false false, []⟩, ⟨"gene", .point 1, []⟩, ⟨"gene", .point 7, []⟩] ⟨"CDS", .point 4, []⟩ =
    some [⟨"source", .ranged 0 9 false false, []⟩, ⟨"gene", .point 1, []⟩, ⟨"CDS", .point 4, []⟩, ⟨"gene", .point 7, []⟩] := by
  rw [featureSliceInsert_eq _ _ _ _ (by decide)]; rfl

end Gts.Bridge
