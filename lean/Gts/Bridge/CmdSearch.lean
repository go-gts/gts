/-
  Bridge: the per-record step of `gts search`, regenerated from cmd/gts/search.go by go2lean (Gts/Gen/CmdSearch.lean,
  generator go2lean/cmdsteps.go), is the model's `Cli.searchStep` (Gts/Model/CliGlue.lean) for EVERY record, every list
  of queries, both matchers, with and without `--no-complement` — and none of its three checked operations fails:
  `gts.Range(head, tail)` gets proper segments only (`Cli.matcher_proper`), the assertion
  `loc.Reverse(len).(gts.Ranged)` holds (`Cli.asRanged_reverse`).

  The two `range` loops over the hits (forward; on the reverse complement) are shown to be left folds by ONE lemma
  about the loop shape with a guard (`guardedFoldLoop_spec`), the loop over the queries by `Go.foldLoop`
  (Gts/Bridge/Loops.lean).
-/
import Gts.Gen.CmdSearch
import Gts.Lemmas.CmdSearch
import Gts.Bridge.CliLoops
namespace Gts.Bridge
open Gts

/-- a loop `for _, x := range xs { st = f(st, x) }` whose step is the fold step on every element that meets a guard is
the left fold on a list of such elements -/
theorem guardedFoldLoop_spec {α σ : Type} (loop : List α → σ → Option σ) (f : σ → α → σ) (ok : α → Prop)
    (hnil : ∀ st, loop [] st = some st)
    (hcons : ∀ a rest st, ok a → loop (a :: rest) st = loop rest (f st a)) :
    ∀ xs st, (∀ a ∈ xs, ok a) → loop xs st = some (xs.foldl f st) := by
  intro xs
  induction xs with
  | nil => intro st _; simp [hnil]
  | cons a rest ih =>
    intro st h
    rw [hcons a rest st (h a (by simp)), ih _ (fun b hb => h b (by simp [hb]))]
    rfl

/-- the forward hits: one feature `key head+1..tail` per segment, `Insert`ed in order -/
theorem searchFwdLoop_eq (key : String) (exact nocomplement : Bool) (queries : List Seq) (props : Props) :
    ∀ (segs : List Seg) (ff : Table), (∀ sg ∈ segs, sg.1 < sg.2) →
    Gen.searchStepLoop2 key exact nocomplement queries props segs ff
      = some (segs.foldl (fun (ff : Table) sg => ff.insert (Cli.fwdFeature key props sg)) ff) :=
  guardedFoldLoop_spec (Gen.searchStepLoop2 key exact nocomplement queries props)
    (fun (ff : Table) sg => ff.insert (Cli.fwdFeature key props sg)) (fun sg : Seg => sg.1 < sg.2) (fun _ => rfl)
    (fun sg rest ff h => by
      simp only [Gen.searchStepLoop2, Cli.rangeOf_proper _ _ h]
      rfl)

/-- the hits on the reverse complement: one feature `key complement(len−tail+1..len−head)` per segment -/
theorem searchBwdLoop_eq (key : String) (exact nocomplement : Bool) (queries : List Seq) (props : Props) (seq : Seq) :
    ∀ (segs : List Seg) (ff : Table), (∀ sg ∈ segs, sg.1 < sg.2) →
    Gen.searchStepLoop3 key exact nocomplement queries props seq segs ff
      = some (segs.foldl (fun (ff : Table) sg => ff.insert (Cli.bwdFeature key props seq.len sg)) ff) :=
  guardedFoldLoop_spec (Gen.searchStepLoop3 key exact nocomplement queries props seq)
    (fun (ff : Table) sg => ff.insert (Cli.bwdFeature key props seq.len sg)) (fun sg : Seg => sg.1 < sg.2) (fun _ => rfl)
    (fun sg rest ff h => by
      simp only [Gen.searchStepLoop3, Cli.rangeOf_proper _ _ h, Cli.asRanged_reverse]
      rfl)

/-- the loop over the queries: `Cli.searchQuery` per query -/
theorem searchQueryLoop_eq (key : String) (exact nocomplement : Bool) (queries : List Seq) (props : Props) (seq : Seq) :
    ∀ (qs : List Seq) (ff : Table),
    Gen.searchStepLoop key exact nocomplement queries props seq (Cli.revcompOf seq) qs ff
      = some (qs.foldl (Cli.searchQuery exact nocomplement key props seq) ff) :=
  Go.foldLoop some _ _ (fun _ => rfl) (fun q rest ff => by
    have hf := Cli.matcher_proper exact seq q
    have hb := Cli.matcher_proper exact (Cli.revcompOf seq) q
    simp only [Cli.matcher] at hf hb
    simp only [Gen.searchStepLoop, Cli.searchQuery, Cli.matcher, searchFwdLoop_eq _ _ _ _ _ _ _ hf]
    cases nocomplement
    · simp only [searchBwdLoop_eq _ _ _ _ _ _ _ _ hb]
      simp
    · simp)

/-- **`gts search`, one record**: the scan-loop body of search.go, as written, hands exactly one record to `WriteSeq`
— the model's `Cli.searchStep`: per query, in order, one feature per forward hit of the matcher (`Match`, `-e`:
`Search`) on the record, then (unless `--no-complement`) one `complement(…)` feature per hit on the reverse complement,
mapped back to the record's coordinates, each `Insert`ed — and neither `gts.Range` nor the type assertion panics. -/
theorem searchStep_eq (key : String) (exact nocomplement : Bool) (queries : List Seq) (props : Props) (seq : Seq) :
    Gen.searchStep key exact nocomplement queries props seq
      = some [Cli.searchStep exact nocomplement key props queries seq] := by
  have := searchQueryLoop_eq key exact nocomplement queries props seq queries seq.feats
  simp only [Cli.revcompOf] at this
  simp only [Gen.searchStep, this]
  rfl

example : Gen.searchStep "misc_feature" true false [⟨[], [97, 99]⟩] [] ⟨[], [65, 67, 71, 84]⟩
    = some [Cli.searchStep true false "misc_feature" [] [⟨[], [97, 99]⟩] ⟨[], [65, 67, 71, 84]⟩] := searchStep_eq _ _ _ _ _ _

theorem searchStepFacts_eq : Gen.searchStepFacts = ["write", "flush"] := rfl

end Gts.Bridge
