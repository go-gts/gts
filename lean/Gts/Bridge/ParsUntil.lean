/-
  C17 bridge (DESIGN.md 4.1a): `pars.Until(q)` for a PARSER argument — the `default:` case of `Until` in convenience.go of
  go-pars v1.1.6, regenerated statement by statement on every run (`Gts/Gen/Pars.lean` `parsUntil`, generator go2lean/gparsfn.go
  key `Until/func0`) — is the model's reading `Fasta.untilP` (Gts/Model/Fasta.lean), in the bounded form of Gts/Bridge/ParsComb.lean:

    until_loopUpTo       the loop `for p(state, result) != nil { Drop; Skip(1) (end of input: Pop, error); Push }` followed by
                         `Pop`, `Trail`, `SetToken` = `untilLoop m` followed by `untilTail` (invariant: abstraction + the bound `Fr L [] 0`;
                         measure: the bytes left)
    until_simUpTo        `parsUntil env fuel q` simulates `untilP m` up to every `L < fuel`, for every `q` that simulates `m` up to `L`,
                         `m` `Safe` and not moving the position backwards when it fails (else the Go loop need not terminate; the
                         model's fuel `bytes left + 1` is then enough, so its `| 0 => fail` is never reached)
    fastaUntil_simUpTo   the instance of seqio/fasta.go: `pars.Until(pars.Any('>', pars.End))` over the regenerated `Any`, `Byte`, `End`
                         = `untilP (anyOf [gt, endP])` (`gt_eq_byte`, `endP_eq_atEnd`: the two primitives of Model/Fasta.lean are
                         the ones of the modifier model the primitives' bridges speak about)

    fastaSeq_simUpTo     the whole sequence of `FastaParser`, `pars.Seq('>', pars.Line, pars.Until(pars.Any('>', pars.End)))`, composed of
                         the regenerated `Seq`, `Byte`, `Line`, `Until`, `Any`, `End` = the model's `fastaSeq` (`fastaSeq_eq_seq3`: it is
                         the generic `seq3` of the modifier model); the children it leaves are the tokens the regenerated Map function
                         reads (Gts/Bridge/FastaRead.lean).  The `Parser.Map` frame around it is not instantiated (its mapping stores
                         an `interface{}`).

  A Go panic (a `Trail` whose saved position lies behind the current one, a panic of `q`) exactly when the model panics.
-/
import Gts.Bridge.ParsSeq
import Gts.Model.Fasta
import Gts.Lemmas.Fasta
import Gts.Lemmas.ParsSafe2
namespace Gts.Bridge
open Gts.Gen.GoPars
open Gts.Pars (PS Bytes Err)

section Until
variable {ρ ε : Type}

/-- what follows the scanning loop in `pars.Until(q)`: `Pop` back to where `q` matched, the `Trail` as token -/
def untilTail : Pars.P Bytes := do
  Pars.pop
  if !(← Pars.pushed) then Pars.fail
  Pars.trail

/-- the model's `untilP` is two `Push`es, the loop with as much fuel as bytes are left + 1, and `untilTail` -/
theorem untilP_run (m : Pars.P Unit) (s : PS) :
    (Fasta.untilP m).run' s =
      (Fasta.untilLoop m (s.rest.length + 1) >>= fun _ => untilTail).run' ⟨s.rest, s.rest :: s.rest :: s.stk⟩ := by
  rfl

theorem untilTail_run (s : PS) :
    untilTail.run' s =
      if (Pars.pop.run' s).2.stk.isEmpty then (.error .fail, (Pars.pop.run' s).2) else Pars.trail.run' (Pars.pop.run' s).2 := by
  unfold untilTail
  rw [run_pop_bind]
  generalize (Pars.pop.run' s).2 = s1
  rw [Pars.run_bind, Pars.run_pushed]
  dsimp only
  cases s1.stk.isEmpty <;> rfl

/-- one round of the model's scanning loop, as a function of what the inner parser does -/
theorem untilLoop_succ_run (m : Pars.P Unit) (fuel : Nat) (k : Unit → Pars.P Bytes) (s : PS) :
    (Fasta.untilLoop m (fuel + 1) >>= k).run' s = match m.run' s with
      | (.ok _, s') => (k ()).run' s'
      | (.error .fail, s') =>
        (match s'.rest with
         | [] => (.error .fail, (Pars.pop.run' ⟨s'.rest, s'.stk.drop 1⟩).2)
         | _ :: t => (Fasta.untilLoop m fuel >>= k).run' ⟨t, t :: s'.stk.drop 1⟩)
      | (.error .panic, s') => (.error .panic, s') := by
  rw [Pars.run_bind, Fasta.untilLoop, Pars.run_bind, Pars.run_attempt]
  generalize m.run' s = r
  obtain ⟨o, s'⟩ := r
  cases o with
  | ok a => rfl
  | error e =>
    cases e with
    | panic => rfl
    | fail =>
      simp only [Pars.run_bind, Pars.run_drop, Pars.run_getS]
      cases hr : s'.rest with
      | nil =>
        dsimp only
        rw [run_pop_bind]
        rfl
      | cons c t => simp only [Pars.run_bind, Pars.run_advance1, Pars.run_push, List.drop_one, List.tail_cons]

/-- behind the loop: `state.Pop()`, `Trail`, `result.SetToken` = `untilTail` (an empty stack: `Trail` answers an error, the
model fails; a saved position behind the current one: both panic) -/
theorem until_exit (env : Env ρ ε) (pend : ρ → Option ε → Bytes) (hf : FillOk env pend) (fuel0 : Nat) (p : GoParser ρ ε)
    (g : State ρ ε) (res : ResultV) (h : Inv g) :
    Agree pend (fun t r => r = ResultV.token t) (parsUntil_exit1 env fuel0 p (g, res))
      (untilTail.run' (absState pend g)) := by
  obtain ⟨g1, hpo, hinv1, habs1⟩ := pop_sim pend g h
  rw [untilTail_run, habs1]
  unfold parsUntil_exit1
  dsimp only
  rw [hpo, Option.bind_some]
  cases hemp : (absState pend g1).stk.isEmpty with
  | true =>
    have ht := trail_sim env pend hf g1 hinv1
    rw [Pars.run_trail, List.isEmpty_iff.mp hemp] at ht
    obtain ⟨g', e, h1, h2, h3, h4⟩ := ht
    obtain ⟨e', rfl⟩ := Option.isSome_iff_exists.mp h4
    rw [if_pos rfl, h1]
    exact ⟨g', res, env.mkErr, rfl, h2, h3⟩
  | false =>
    rw [if_neg Bool.false_ne_true, ← bind_pure Pars.trail]
    refine Agree.trail_bind env hf hinv1 fun g' t e hi' he => ?_
    rw [hemp] at he
    cases e with
    | some _ => cases he
    | none => exact ⟨g', _, rfl, rfl, hi', rfl⟩

/-- `Drop` keeps the bound -/
theorem fr_drop {L : Nat} {s : PS} (h : Pars.Fr L [] 0 s) : Pars.Fr L [] 0 ⟨s.rest, s.stk.drop 1⟩ := by
  obtain ⟨e, h1, _, h3⟩ := h.ex
  refine ⟨⟨s.stk.drop 1, by simp, Nat.zero_le _, ?_⟩, h.le, ?_⟩
  · intro f hf
    apply h3 f
    have : f ∈ s.stk := List.mem_of_mem_drop hf
    rw [h1] at this
    simpa using this
  · have hs := h.srt
    show Pars.Sorted s.rest.length (s.stk.drop 1)
    cases hst : s.stk with
    | nil => trivial
    | cons f st =>
      rw [hst] at hs
      exact hs.2.mono hs.1

/-- **The scanning loop of `pars.Until(q)`, BOUNDED.**  `q` simulates the model parser `m` up to `L`, `m` is `Safe` and does
not move the position backwards when it fails; with more fuel than bytes left on both sides, the regenerated loop
`for p(state, result) != nil { Drop; Skip 1 (end of input: Pop, error); Push }` followed by `Pop`, `Trail`, `SetToken` is the
model's `untilLoop m` followed by `untilTail`.  Invariant: the Go state abstracts to the model state, at most `L` bytes at the
position and at every saved position; measure: the bytes left (each round consumes one). -/
theorem until_loopUpTo (L : Nat) (env : Env ρ ε) (pend : ρ → Option ε → Bytes) (hf : FillOk env pend)
    (val : Unit → ResultV → Prop) (p : GoParser ρ ε) (m : Pars.P Unit) (hp : SimPUpTo L pend val p m) (hs : Pars.Safe m)
    (hle : ∀ s, (m.run' s).1 = .error .fail → (m.run' s).2.rest.length ≤ s.rest.length) (fuel0 : Nat) :
    ∀ (fuelM fuelG : Nat) (g : State ρ ε) (res : ResultV), Inv g → Pars.Fr L [] 0 (absState pend g) →
      (absState pend g).rest.length < fuelM → (absState pend g).rest.length < fuelG →
      Agree pend (fun t r => r = ResultV.token t)
        (loop (parsUntil_body1 env fuel0 p) (parsUntil_exit1 env fuel0 p) fuelG (g, res))
        ((Fasta.untilLoop m fuelM >>= fun _ => untilTail).run' (absState pend g)) := by
  intro fuelM
  induction fuelM with
  | zero => intro fuelG g res _ _ h0; exact absurd h0 (Nat.not_lt_zero _)
  | succ fm ih =>
    intro fuelG g res h hb hlm hlg
    cases fuelG with
    | zero => exact absurd hlg (Nat.not_lt_zero _)
    | succ fg =>
      have hk := fr_keeps hs hb
      have hl := hle (absState pend g)
      rw [loop_succ, Fasta.untilLoop, bind_assoc]
      unfold parsUntil_body1
      dsimp only
      rw [Option.bind_assoc]
      refine (hp g res h hb).attempt_bind ?_ ?_
      · intro a g2 res2 _ hinv2 _
        dsimp only
        rw [if_neg (show ¬ ((none : Option ε).isSome = true) from Bool.false_ne_true), pure_bind]
        exact until_exit env pend hf fuel0 p g2 res2 hinv2
      · intro g2 res2 e2 hinv2 hrun
        rw [hrun] at hk hl
        have hl := hl rfl
        dsimp only at hk hl ⊢
        rw [if_pos (show (some e2).isSome = true from rfl), Option.bind_assoc, bind_assoc]
        refine Agree.step (drop_sim pend g2 hinv2) fun g3 _ hinv3 habs3 => ?_
        rw [Pars.run_drop] at habs3
        have hsk := parsSkip_spec env pend hf g3 hinv3 1
        have hk3 : Pars.Fr L [] 0 (absState pend g3) := habs3 ▸ fr_drop hk
        rw [Option.bind_assoc, bind_assoc, Pars.run_bind, Pars.run_getS]
        dsimp only
        -- `Skip(1)`: at the end of the input its error, `Pop`; else one byte on, `Push`, the next round
        cases hr : (absState pend g3).rest with
        | nil =>
          rw [hr, if_neg (by decide)] at hsk
          obtain ⟨g4, e4, hs4, hinv4, habs4⟩ := hsk
          rw [show parsSkip env g3 1 = some (g4, some e4) from hs4, Option.bind_some, ← habs4]
          dsimp only
          rw [if_pos (show (some e4).isSome = true from rfl), Option.bind_assoc, bind_assoc]
          exact Agree.step (pop_sim pend g4 hinv4) fun g5 _ hinv5 _ => ⟨g5, res2, env.mkErr, rfl, hinv5, rfl⟩
        | cons c t =>
          rw [hr] at hsk
          simp only [List.length_cons, Nat.le_add_left, if_true, List.drop_succ_cons, List.drop_zero] at hsk
          obtain ⟨g4, hs4, hinv4, habs4⟩ := hsk
          rw [show parsSkip env g3 1 = some (g4, none) from hs4, Option.bind_some]
          dsimp only
          rw [if_neg (show ¬ ((none : Option ε).isSome = true) from Bool.false_ne_true), Option.bind_assoc, bind_assoc,
            Pars.run_bind, Pars.run_advance1, hr, show List.drop 1 (c :: t) = t from rfl, ← habs4, bind_assoc]
          refine Agree.step (push_sim pend g4 hinv4) fun g5 _ hinv5 habs5 => ?_
          rw [Pars.run_push, habs4] at habs5
          have hb5 : Pars.Fr L [] 0 (absState pend g5) := habs5 ▸ fr_push (Pars.Fr.advance hk3 t (by simp [hr]))
          have hlen : (absState pend g5).rest.length < (absState pend g3).rest.length := by rw [habs5, hr]; simp
          rw [habs3] at hlen
          exact ih fg g5 res2 hinv5 hb5 (by dsimp only at hlen; omega) (by dsimp only at hlen; omega)

/-- **`pars.Until(q)` for a parser argument = the model's `Fasta.untilP`, BOUNDED.**  The regenerated default case of `Until`
(`Push`, `Push`, the scanning loop, `Pop`, `Trail`, `SetToken`) with loop fuel above the bound `L` simulates `untilP m` from
every state with at most `L` bytes at the position and at every saved position — for every Go parser `q` that simulates the
model parser `m` up to `L`, `m` `Safe` and not moving backwards on a failure.  A Go panic exactly when the model panics. -/
theorem until_simUpTo (L fuel : Nat) (hfu : L < fuel) (env : Env ρ ε) (pend : ρ → Option ε → Bytes) (hf : FillOk env pend)
    (val : Unit → ResultV → Prop) (p : GoParser ρ ε) (m : Pars.P Unit) (hp : SimPUpTo L pend val p m) (hs : Pars.Safe m)
    (hle : ∀ s, (m.run' s).1 = .error .fail → (m.run' s).2.rest.length ≤ s.rest.length) :
    SimPUpTo L pend (fun t r => r = ResultV.token t) (parsUntil env fuel p) (Fasta.untilP m) := by
  intro g res h hb
  obtain ⟨g1, hpu1, hinv1, habs1, _⟩ := statePush_spec pend g h
  obtain ⟨g2, hpu2, hinv2, habs2, _⟩ := statePush_spec pend g1 hinv1
  rw [habs1] at habs2
  dsimp only at habs2
  have hb2 : Pars.Fr L [] 0 (absState pend g2) := by rw [habs2]; exact fr_push (fr_push hb)
  have hlen : (absState pend g).rest.length ≤ L := hb.le
  have := until_loopUpTo L env pend hf val p m hp hs hle fuel ((absState pend g).rest.length + 1) fuel g2 res hinv2 hb2
    (by rw [habs2]; exact Nat.lt_succ_self _) (by rw [habs2]; dsimp only; omega)
  rw [untilP_run, ← habs2]
  simpa [parsUntil, hpu1, hpu2] using this

/-- the model's `'>'` of Model/Fasta.lean is `pars.Byte('>')` of the modifier model -/
theorem gt_eq_byte : Fasta.gt = ModParse.byte 62 := by
  funext s
  obtain ⟨t, stk⟩ := s
  rw [Fasta.gt_run]
  show _ = (ModParse.byte 62).run' ⟨t, stk⟩
  unfold ModParse.byte
  rw [Pars.run_bind, Pars.run_next]
  cases t with
  | nil => rfl
  | cons c r =>
    dsimp only
    cases h : c == 62 <;> simp only [bne, h] <;> rfl

/-- the model's `pars.End` of Model/Fasta.lean is the one of the modifier model -/
theorem endP_eq_atEnd : Fasta.endP = ModParse.atEnd := by
  funext s
  obtain ⟨t, stk⟩ := s
  rw [Fasta.endP_run]
  cases t <;> rfl

/-- **`pars.Until(pars.Any('>', pars.End))` of `FastaParser`, BOUNDED.**  The regenerated `Until` over the regenerated `Any` over
the regenerated `Byte('>')` and `End` simulates the body parser of the model's `fastaSeq`, `untilP (anyOf [gt, endP])`, from
every state with at most `L < fuel` bytes at the position and at every saved position. -/
theorem fastaUntil_simUpTo (L fuel : Nat) (hfu : L < fuel) (env : Env ρ ε) (pend : ρ → Option ε → Bytes) (hf : FillOk env pend) :
    SimPUpTo L pend (fun t r => r = ResultV.token t)
      (parsUntil env fuel (parsAny env [parsByte env 62, fun g r => some (parsEnd env g r)]))
      (Fasta.untilP (LocParse.anyOf [Fasta.gt, Fasta.endP])) := by
  rw [gt_eq_byte, endP_eq_atEnd]
  have hb : SimPUpTo L pend (fun (_ : Unit) (_ : ResultV) => True) (parsByte env 62) (ModParse.byte 62) :=
    (byte_simUpTo L env pend hf 62).mono (fun _ _ _ => trivial)
  have hany := any_simUpTo L env pend (fun (_ : Unit) (_ : ResultV) => True)
    [parsByte env 62, fun g r => some (parsEnd env g r)] [ModParse.byte 62, ModParse.atEnd]
    (.cons ⟨hb, Pars.byte_safe 62⟩ (.cons ⟨end_simUpTo L env pend hf, Pars.atEnd_safe⟩ .nil))
  refine until_simUpTo L fuel hfu env pend hf _ _ _ hany
    (Pars.anyOf_safe _ (by intro p hp; simp at hp; rcases hp with rfl | rfl; exact Pars.byte_safe 62; exact Pars.atEnd_safe)) ?_
  intro s hfail
  rw [← gt_eq_byte, ← endP_eq_atEnd] at hfail ⊢
  obtain ⟨t, stk⟩ := s
  have hr : (LocParse.anyOf [Fasta.gt, Fasta.endP]).run' ⟨t, stk⟩ = _ := Fasta.any_run t stk
  rw [hr] at hfail ⊢
  cases t with
  | nil => simp at hfail
  | cons c r =>
    by_cases h : (c == 62) = true
    · simp [h] at hfail
    · simp [h]

theorem SimPUpTo.mapVal {α β : Type} {L : Nat} {pend : ρ → Option ε → Bytes} {val : α → ResultV → Prop}
    {p : GoParser ρ ε} {m : Pars.P α} (h : SimPUpTo L pend val p m) (f : α → β) :
    SimPUpTo L pend (fun b r => ∃ a, b = f a ∧ val a r) p (do let a ← m; pure (f a)) := by
  intro g res hi hb
  have := h g res hi hb
  rw [Pars.run_bind]
  revert this
  generalize m.run' (absState pend g) = x
  obtain ⟨o, s⟩ := x
  cases o with
  | ok a => exact fun ⟨g', r, h1, h2, h3, h4⟩ => ⟨g', r, h1, ⟨a, rfl, h2⟩, h3, h4⟩
  | error e => cases e <;> exact id

/-- the model's `fastaSeq` (Model/Fasta.lean, written out with its own `Push` / `Pop` / `Drop`) is the generic sequence of three of
the modifier model over `'>'`, `pars.Line`, `pars.Until(pars.Any('>', pars.End))`, without the answer of `'>'` (`pars.Line` never
fails, so its `Pop` branch is dead) -/
theorem fastaSeq_eq_seq3 :
    Fasta.fastaSeq = (do
      let abc ← ModParse.seq3 Fasta.gt Pars.line (Fasta.untilP (LocParse.anyOf [Fasta.gt, Fasta.endP]))
      pure (abc.2.1, abc.2.2)) := by
  funext s
  obtain ⟨t, stk⟩ := s
  rw [Fasta.fastaSeq_run]
  unfold ModParse.seq3
  cases t with
  | nil =>
    simp only [bind_pure_comp, bind_assoc, P.bind_run, Fasta.push_run, Fasta.attempt_run, Fasta.gt_run,
      Fasta.pop_cons_run, Fasta.fail_run]
  | cons c t' =>
    by_cases hc : c == 62
    · simp only [hc, if_true, bind_pure_comp, bind_assoc, P.bind_run, Fasta.push_run, Fasta.attempt_run,
        Fasta.gt_run, Fasta.pure_run, Fasta.line_run, Fasta.untilP_run, P.map_run, Fasta.drop_run, List.drop_succ_cons,
        List.drop_zero]
    · simp only [hc, Bool.false_eq_true, if_false, bind_pure_comp, bind_assoc, P.bind_run, Fasta.push_run,
        Fasta.attempt_run, Fasta.gt_run, Fasta.pop_cons_run, Fasta.fail_run]

/-- **The sequence of `FastaParser` at function level, BOUNDED.**  The regenerated `pars.Seq` over the regenerated `Byte('>')`, `Line`
and `Until(Any(Byte('>'), End))` — the composition `fastaParser_shape` reads off the declaration — simulates the model's `fastaSeq`
from every state with at most `L < fuel` bytes at the position and at every saved position: on success the result holds three
children, the second the token of the description line, the third the token of the body — the two tokens the regenerated Map
function `Gen.FastaRead.fastaMap` reads (`fastaMap_seq`: it stores `(description, fastaBody body)`). -/
theorem fastaSeq_simUpTo (L fuel : Nat) (hfu : L < fuel) (env : Env ρ ε) (pend : ρ → Option ε → Bytes) (hf : FillOk env pend)
    (he : EnvOk env) :
    SimPUpTo L pend (fun db r => ∃ ra, r = .children [ra, .token db.1, .token db.2])
      (parsSeq env [parsByte env 62, parsLine env fuel,
        parsUntil env fuel (parsAny env [parsByte env 62, fun g r => some (parsEnd env g r)])])
      Fasta.fastaSeq := by
  rw [fastaSeq_eq_seq3]
  have hgt : Pars.Safe Fasta.gt := by rw [gt_eq_byte]; exact Pars.byte_safe 62
  have hb : SimPUpTo L pend (fun (_ : Unit) (_ : ResultV) => True) (parsByte env 62) Fasta.gt := by
    rw [gt_eq_byte]; exact (byte_simUpTo L env pend hf 62).mono (fun _ _ _ => trivial)
  have hline := (tokens_simUpTo L env pend hf he fuel hfu (fun _ => true) 0).2.2.1
  have h3 := seq3_simUpTo L env pend _ _ _ _ _ _ _ _ _ hb hgt hline Pars.line_safe (fastaUntil_simUpTo L fuel hfu env pend hf)
  refine (h3.mapVal (fun abc => (abc.2.1, abc.2.2))).mono ?_
  rintro ⟨d, b⟩ r ⟨⟨a, d', b'⟩, hab, ra, rb, rc, hr, _, hrb, hrc⟩
  simp only [Prod.mk.injEq] at hab
  obtain ⟨rfl, rfl⟩ := hab
  subst hrb hrc
  exact ⟨ra, hr⟩

/-- the hypotheses are satisfiable: the demonstration environment (a reader that hands over its bytes at once) -/
example : SimPUpTo 100 demoPend (fun t r => r = ResultV.token t)
    (parsUntil demoEnv 101 (parsAny demoEnv [parsByte demoEnv 62, fun g r => some (parsEnd demoEnv g r)]))
    (Fasta.untilP (LocParse.anyOf [Fasta.gt, Fasta.endP])) :=
  fastaUntil_simUpTo 100 101 (by omega) demoEnv demoPend demo_fillOk

example : SimPUpTo 100 demoPend (fun db r => ∃ ra, r = .children [ra, .token db.1, .token db.2])
    (parsSeq demoEnv [parsByte demoEnv 62, parsLine demoEnv 101,
      parsUntil demoEnv 101 (parsAny demoEnv [parsByte demoEnv 62, fun g r => some (parsEnd demoEnv g r)])])
    Fasta.fastaSeq :=
  fastaSeq_simUpTo 100 101 (by omega) demoEnv demoPend demo_fillOk demo_envOk

end Until
end Gts.Bridge
