/-
  C07 / C01 bridge (DESIGN.md 4.1a): the PLAIN COMPUTATIONS of the seqio reader — the pieces of its
  closures that involve no go-pars combinator — regenerated from the Go source on every run
  (`Gts/Gen/GbReaderFns.lean`, generator go2lean/gbreaderfns.go; how a Go library call is read:
  `Gts/Gen/GbReaderPrelude.lean`, `Gts/Gen/GoBytes.lean`) equal what the hand-written model computes at
  the same place, for EVERY input (and every fuel, where a loop is translated literally):

    GenBankParser              depth = blanks + 5, the range check and the final comparison of the length
    genbankFieldNameParser     the indent behind a field name (natural subtraction = the clamp at 0)
    genbankReferenceParser     the padding behind the reference number
    genbankSubfieldNameParser  the widths add up to the depth
    genbankFieldBodyParser, genbankSourceParser, literalQualifierValueParser   joining of lines
    genbankDefinitionParser    the final period (never an index out of range)
    genbankDBLinkPairParser    `db: id` (never an index / slice out of range: f459ebc)
    genbankContigParser        the region `[head-1, tail)`
    quotedQualifierParser      the loop that takes the continuation indent out of a quoted value (one pass
                               since 2612fae): the store `token[w] = token[r]`, `bytes.HasSuffix(token[:w], p)`,
                               `w -= len(prefix)` — round for round `stripLoop`; never a panic at any fuel, ended
                               after `len(token)` rounds with the model's `stripCont`, for EVERY prefix (and, for a
                               non-empty one, with the value of the loop it replaced: `quotedStrip_model`)
    INSDCTableParser, featureKeylineParser   the column arithmetic of the feature table
    parseReferenceInfo         one `a to b` range (b95613d)
    FlatFileSplit, Dictionary.Set, searchString (binary search = membership on a sorted list)

  The model is total where the Go code can panic; a bridge states the outcome including `.error .panic`.
-/
import Gts.Gen.GbReaderFns
import Gts.Lemmas.GoBytes
import Gts.Lemmas.GbReaderPrelude
import Gts.Lemmas.Origin
import Gts.Bridge.Origin
import Gts.Model.GenBankParse
import Gts.Model.GbSlice
import Gts.Lemmas.GbStripOnePass
import Gts.Bridge.InsdcSearch
import Gts.Lemmas.BsLit
namespace Gts.Bridge
open Gts
open Gts.Pars (Bytes Err)
open Gts.GenBank

/-! ### GenBankParser -/

/-- `depth := len(result.Children[0].Token) + 5` is the model's `sp1.length + 5` (`locusParser`) -/
theorem gbDepth_eq (tok : Bytes) : Gen.gbDepth tok = .ok (((tok.length + 5 : Nat)) : Int) := by
  simp only [Gen.gbDepth, Int.natCast_add]
  rfl

/-- on unbounded integers the range check `length < 0 || toOriginLength(length) < 0` says `length < 0`:
the second disjunct can only hold through the wrap-around of Go's 64-bit `int` -/
theorem gbLengthOutOfRange_int (len : Int) : Gen.gbLengthOutOfRange len = .ok (decide (len < 0)) := by
  simp only [Gen.gbLengthOutOfRange]
  congr 1
  by_cases h : len < 0
  · simp [h]
  · obtain ⟨n, rfl⟩ := Int.eq_ofNat_of_zero_le (Int.not_lt.mp h)
    rw [toOriginLength_eq, Origin.toOriginLength_nat]
    simp only [h, false_or]
    have : ¬ ((Origin.tl n : Nat) : Int) < 0 := by omega
    simp [this]

/-- … so that, wherever the true value of `toOriginLength(length)` fits an `int` (no wrap-around), the
code refuses exactly the lengths the model refuses (`genbankParser`: `l.length < 0 ∨
Origin.toOriginLength l.length > 9223372036854775807`; the model writes the wrap-around out) -/
theorem gbLengthOutOfRange_eq (len : Int) (hfit : Origin.toOriginLength len ≤ 9223372036854775807) :
    Gen.gbLengthOutOfRange len =
      .ok (decide (len < 0 ∨ Origin.toOriginLength len > 9223372036854775807)) := by
  rw [gbLengthOutOfRange_int]
  congr 1
  have : ¬ Origin.toOriginLength len > 9223372036854775807 := by omega
  simp [this]

/-- the final comparison is the model's `m ≠ l.length ∧ (m ≠ 0 ∨ f.contigAcc.isEmpty)` (6813da5) -/
theorem gbLengthMismatch_eq (m len : Int) (contigAcc : Bytes) :
    Gen.gbLengthMismatch m len contigAcc.isEmpty =
      .ok (decide (m ≠ len ∧ (m ≠ 0 ∨ contigAcc.isEmpty))) := by
  simp only [Gen.gbLengthMismatch]

/-! ### genbankFieldNameParser, genbankReferenceParser, genbankSubfieldNameParser -/

/-- Go's clamp `if d < 0 { d = 0 }` of a difference of two lengths is the natural subtraction -/
theorem clampLength_eq (a b : Nat) :
    (if (a : Int) - (b : Int) < 0 then .ok 0 else .ok ((a : Int) - (b : Int)) : Except Err Int) =
      .ok ((a - b : Nat) : Int) := by
  by_cases h : (a : Int) - (b : Int) < 0
  · rw [if_pos h]; congr 1; omega
  · rw [if_neg h]; congr 1; omega

/-- the clamp `if indentLength < 0 { indentLength = 0 }` (2806af0) is the natural subtraction of
`fieldPadding`: `sp (depth - nameLen)` -/
theorem fieldIndentLength_eq (depth : Nat) (name : Bytes) :
    Gen.fieldIndentLength (depth : Int) name = .ok (((depth - name.length : Nat)) : Int) := by
  simp only [Gen.fieldIndentLength, clampLength_eq]

/-- `strings.Repeat(" ", n)` on a length (never negative) is `sp n` -/
theorem goRepeat_blank (n : Nat) : Gen.goRepeat 32 (n : Int) = some (sp n) := by
  rw [Gen.goRepeat, if_neg (by omega), Int.toNat_natCast, sp]

/-- … and `strings.Repeat(" ", indentLength)` never panics: it is `sp (depth - nameLen)` -/
theorem fieldIndent_blanks (depth : Nat) (name : Bytes) :
    (Gen.fieldIndentLength (depth : Int) name).toOption.bind (Gen.goRepeat 32) =
      some (sp (depth - name.length)) := by
  rw [fieldIndentLength_eq]
  exact goRepeat_blank _

/-- `len(name) > depth` is `fieldPadding`'s `nameLen > depth` -/
theorem fieldNameTooWide_eq (depth : Nat) (name : Bytes) :
    Gen.fieldNameTooWide (depth : Int) name = .ok (decide (name.length > depth)) := by
  simp only [Gen.fieldNameTooWide]
  congr 1
  by_cases h : name.length > depth <;> simp [h]

/-- `3 - len(strconv.Itoa(number))` clamped at 0 (761240c) is `referenceField`'s `sp (3 - w)` with
`w = (itoaB number).length` -/
theorem referencePaddingLength_eq (itoa : Int → Bytes) (number : Int) :
    Gen.referencePaddingLength itoa number = .ok (((3 - (itoa number).length : Nat)) : Int) := by
  simp only [Gen.referencePaddingLength, show (3 : Int) = ((3 : Nat) : Int) from rfl, clampLength_eq]

/-- … and `strings.Repeat(" ", paddingLength)` never panics -/
theorem referencePadding_blanks (number : Int) :
    (Gen.referencePaddingLength itoaB number).toOption.bind (Gen.goRepeat 32) =
      some (sp (3 - (itoaB number).length)) := by
  rw [referencePaddingLength_eq]
  exact goRepeat_blank _

/-- `prefixLength+len(name)+suffixLength != depth` is `subfieldName`'s test on natural numbers -/
theorem subfieldUneven_eq (prefixLen suffixLen depth : Nat) (name : Bytes) :
    Gen.subfieldUneven (prefixLen : Int) name (suffixLen : Int) (depth : Int) =
      .ok (decide (prefixLen + name.length + suffixLen ≠ depth)) := by
  simp only [Gen.subfieldUneven]
  congr 1
  by_cases h : prefixLen + name.length + suffixLen = depth <;> simp [h] <;> omega

/-! ### joining lines -/

/-- `w.WriteByte(sep); w.Write(result.Token)` is `bodyMore`'s `acc ++ sep :: l` -/
theorem fieldBodyJoin_eq (acc l : Bytes) (sep : UInt8) : Gen.fieldBodyJoin acc sep l = .ok (acc ++ sep :: l) := by
  simp only [Gen.fieldBodyJoin, List.append_assoc, List.singleton_append]

/-- the taxonomy lines: `taxonMore`'s `if acc.isEmpty then l else acc ++ 32 :: l` -/
theorem taxonJoin_eq (acc l : Bytes) :
    Gen.taxonJoin acc l = .ok (if acc.isEmpty then l else acc ++ 32 :: l) := by
  simp only [Gen.taxonJoin, Gen.spaceByte]
  cases acc with
  | nil => simp
  | cons a t =>
    have : ((((a :: t).length : Nat) : Int) > 0) := by simp only [List.length_cons]; omega
    rw [if_pos this]
    simp

/-- `p = append(p, '\n'); p = append(p, result.Token...)` is `literalMore`'s `p ++ 10 :: l` -/
theorem literalJoin_eq (p l : Bytes) : Gen.literalJoin p l = .ok (p ++ 10 :: l) := by
  simp only [Gen.literalJoin, List.append_assoc, List.singleton_append]

/-! ### genbankDefinitionParser -/

/-- the Map function of DEFINITION: `definitionField`'s test for the final period and `trimDot`; the
index `p[len(p)-1]` stands behind `len(p) != 0` and never fails -/
theorem definitionValue_eq (p : Bytes) :
    Gen.definitionValue p =
      if (!p.isEmpty && decide (p.getLast? ≠ some 46)) = true then .error .fail else .ok (trimDot p) := by
  simp only [Gen.definitionValue, Gen.bytesTrimSuffix_dot]
  cases p with
  | nil => simp
  | cons a t =>
    have hlen : ((((a :: t).length : Nat)) : Int) ≠ 0 := by simp only [List.length_cons]; omega
    rw [if_pos hlen]
    have hidx : Gen.goIndex (a :: t) ((((a :: t).length : Nat) : Int) - 1) = (a :: t).getLast? := by
      have : (((a :: t).length : Nat) : Int) - 1 = ((t.length : Nat) : Int) := by
        simp only [List.length_cons]; omega
      rw [this, Gen.goIndex_eq, clAt_nat, List.getLast?_eq_getElem?]; simp
    rw [hidx]
    cases hl : (a :: t).getLast? with
    | none => simp at hl
    | some x => by_cases hx : x = 46 <;> simp [hx]

/-! ### genbankDBLinkPairParser -/

/-- `db: id` (f459ebc): the statements behind `pars.Line` are the model's `dblinkPair`; the index
`s[i+1]` and the slices `s[:i]`, `s[i+2:]` stand behind `len(s) <= i+2` and never fail -/
theorem dblinkPair_eq (l : Bytes) :
    Gen.dblinkPair l = match GenBank.dblinkPair l with | some r => .ok r | none => .error .fail := by
  simp only [Gen.dblinkPair, GenBank.dblinkPair, Gen.bytesIndexByte_indexOf, Gen.spaceByte]
  cases hi : indexOf 58 l with
  | none => simp only [Int.reduceNeg, ↓reduceIte]
  | some i =>
    have hb := indexOf_bound 58 l i hi
    have hne : ¬ ((i : Int) = -1) := by omega
    simp only [hne, if_false]
    by_cases hlen : l.length ≤ i + 2
    · have : ((l.length : Nat) : Int) ≤ (i : Int) + 2 := by omega
      simp only [this, ↓reduceIte, hlen, List.getD_eq_getElem?_getD, ne_eq, true_or]
    · have h1 : ¬ ((l.length : Nat) : Int) ≤ (i : Int) + 2 := by omega
      have hlt : i + 1 < l.length := by omega
      rw [if_neg h1, show (i : Int) + 1 = ((i + 1 : Nat) : Int) from rfl, Gen.goIndex_eq, clAt_lt l _ hlt,
        Gen.goSliceTo_eq, clTo_nat l i (by omega),
        show (i : Int) + 2 = ((i + 2 : Nat) : Int) from rfl, Gen.goSliceFrom_eq, clFrom_nat l (i + 2) (by omega)]
      by_cases hsp : l[i + 1] = 32 <;> simp [hsp, hlen, List.getD_eq_getElem?_getD, List.getElem?_eq_getElem hlt]

/-! ### genbankContigParser, parseReferenceInfo -/

/-- the filter handed to `pars.Until` (a4b3f5d) is `contigField`'s `untilFilter contigStop`: colon, line
feed or carriage return, for every byte; it never panics -/
theorem contigStop_eq (b : UInt8) : Gen.contigStop b = .ok (contigStop b) := by
  simp only [Gen.contigStop, contigStop, Bool.decide_or]
  rfl

/-- `gts.Segment{head - 1, tail}` is `contigField`'s `contigHead := head - 1, contigTail := tail` -/
theorem contigRegion_eq (head tail : Int) : Gen.contigRegion head tail = .ok (head - 1, tail) := by
  simp only [Gen.contigRegion]

/-- one `a to b` of a REFERENCE info: `refRange`'s `if b ≤ a - 1 then fail else pure (a - 1, b)` (b95613d:
an empty or inverted range is an error, `gts.Range` is never handed one) -/
theorem referenceRange_eq (a b : Int) :
    Gen.referenceRange a b = if b ≤ a - 1 then .error .fail else .ok (a - 1, b) := by
  simp only [Gen.referenceRange]

/-! ### the columns of the feature table -/

/-- `depth := pre + len(key) + pst` is `table`'s `pre + key.length + pst` -/
theorem tableDepth_eq (pre pst : Nat) (key : Bytes) :
    Gen.tableDepth (pre : Int) key (pst : Int) = .ok (((pre + key.length + pst : Nat)) : Int) := by
  simp only [Gen.tableDepth, Int.natCast_add]

/-- the prefix of the further key lines: `prefix ++ sp pre` (`keyline`'s `lit (sp pre)` for the empty
prefix of `INSDCTableParser("")`); `strings.Repeat` never fails on a length -/
theorem tableKeylinePrefix_eq (pre : Bytes) (n : Nat) :
    Gen.tableKeylinePrefix pre (n : Int) = .ok (pre ++ sp n) := by
  simp only [Gen.tableKeylinePrefix, goRepeat_blank]

/-- the prefix of the qualifier lines: `prefix ++ sp depth` (`qualifiers (sp depth)`) -/
theorem tableQualifierPrefix_eq (pre : Bytes) (depth : Nat) :
    Gen.tableQualifierPrefix pre (depth : Int) = .ok (pre ++ sp depth) := by
  simp only [Gen.tableQualifierPrefix, goRepeat_blank]

/-- the blanks between key and location: the loop bound `depth-len(prefix+key)` may be negative (no
iteration); as a number of iterations it is `keyline`'s `depth - (pre + key.length)` -/
theorem keylineBlanks_eq (depth pre : Nat) (key : Bytes) :
    ∃ n : Int, Gen.keylineBlanks (depth : Int) (sp pre) key = .ok n ∧ n.toNat = depth - (pre + key.length) := by
  refine ⟨(depth : Int) - (((sp pre ++ key).length : Nat) : Int), by simp only [Gen.keylineBlanks], ?_⟩
  simp only [sp, List.length_append, List.length_replicate]
  omega

/-! ### FlatFileSplit, Dictionary.Set -/

/-- `FlatFileSplit` with `strings.Split` read as the model's `split` -/
theorem flatFileSplit_eq (s : Bytes) :
    Gen.flatFileSplit (fun s sep => GenBank.split sep s) s = .ok (GenBank.flatFileSplit s) := by
  simp only [Gen.flatFileSplit, GenBank.flatFileSplit, Gen.bytesTrimSuffix_dot]
  cases h : trimDot s with
  | nil => simp
  | cons a t => simp [bs]; omega

theorem dictionarySetRange_eq (k v : Bytes) : ∀ d : List (Bytes × Bytes),
    (match Gen.dictionarySetRange k v d with | some d' => d' | none => d ++ [(k, v)]) = dictSet d k v
  | [] => rfl
  | (k', v') :: rest => by
    have ih := dictionarySetRange_eq k v rest
    simp only [Gen.dictionarySetRange, dictSet]
    by_cases h : k' = k
    · simp [h]
    · simp only [h, if_false]
      cases hr : Gen.dictionarySetRange k v rest with
      | none => rw [hr] at ih; simp only [Option.map_none, List.cons_append]; rw [← ih]
      | some d' => rw [hr] at ih; simp only [Option.map_some]; rw [← ih]

/-- `Dictionary.Set`: the `range` loop that overwrites the first cell with the key and returns, the
`append` behind it — the model's `dictSet` -/
theorem dictionarySet_eq (d : List (Bytes × Bytes)) (k v : Bytes) : Gen.dictionarySet d k v = dictSet d k v := by
  simp only [Gen.dictionarySet]; exact dictionarySetRange_eq k v d

/-! ### quotedQualifierParser: taking the continuation indent out of a quoted value -/

/-- one round of the loop body, the three checked operations: `token[r]` is inside the token, the
store `token[w] = token[r]` at `w ≤ r` is inside it, and so is the slice `token[:w+1]` — which is
`token[:w]` with the byte just moved behind it -/
theorem quotedStrip_step (token : Bytes) (w r : Nat) (c : UInt8) (hw : w ≤ r)
    (hc : token[r]? = some c) :
    Gen.goIndex token (r : Int) = some c ∧
    Gen.goStore token (w : Int) c = some (token.set w c) ∧
    Gen.goSliceTo (token.set w c) ((w + 1 : Nat) : Int) = some ((token.set w c).take (w + 1)) ∧
    (token.set w c).take (w + 1) = token.take w ++ [c] := by
  have hr : r < token.length := (List.getElem?_eq_some_iff.mp hc).1
  have hwl : w < token.length := by omega
  refine ⟨by rw [Gen.goIndex_eq, clAt_nat, hc], clPut_nat token w c hwl, clTo_nat _ _ (by rw [List.length_set]; omega), ?_⟩
  rw [List.take_set, List.take_add_one, List.getElem?_eq_getElem hwl]
  simp only [Option.toList_some]
  rw [List.set_append_right _ _ (by simp; omega)]
  simp [List.length_take, Nat.min_eq_left (Nat.le_of_lt hwl)]

/-- `bytes.HasSuffix(token[:w], p)` on `token[:w]` = `acc` reversed with the byte `c` behind it is the
model's test `rp.isPrefixOf (c :: acc)` -/
theorem quotedStrip_hasSuffix (p acc : Bytes) (c : UInt8) :
    Gen.bytesHasSuffix (acc.reverse ++ [c]) p = p.reverse.isPrefixOf (c :: acc) := by
  simp [Gen.bytesHasSuffix, List.isSuffixOf]

/-- THE LOOP, literally translated, is the model's `stripLoop` round for round.  From a state
`(token, w, r)` with `w ≤ r ≤ len(token)` whose `token[:w]` is `acc` reversed, at ANY fuel: no index,
store or slice ever fails, the token keeps its length and `w` stays inside it; and when the fuel covers
the `len(token) − r` bytes still to be read the loop has ended by its own condition (`r = len(token)`)
and `token[:w]` is what `stripLoop` makes of `acc` and `token[r:]`. -/
theorem quotedStripLoop_eq (pre : Bytes) : ∀ (fuel : Nat) (token acc : Bytes) (w r : Nat),
    w ≤ r → r ≤ token.length → token.take w = acc.reverse →
    ∃ (token' : Bytes) (w' r' : Nat),
      Gen.quotedStripLoop pre (10 :: pre) fuel token (w : Int) (r : Int) =
        .ok (token', (w' : Int), (r' : Int)) ∧
      token'.length = token.length ∧ w' ≤ token.length ∧
      (token.length - r ≤ fuel → r' = token.length ∧
        token'.take w' = stripLoop (10 :: pre).reverse pre.length acc (token.drop r))
  | 0, token, acc, w, r, hw, hr, hacc => by
    exact ⟨token, w, r, rfl, rfl, by omega, fun hf =>
      ⟨by omega, by rw [List.drop_of_length_le (by omega), stripLoop, hacc]⟩⟩
  | fuel + 1, token, acc, w, r, hw, hr, hacc => by
    rw [Gen.quotedStripLoop]
    by_cases hlt : r < token.length
    · rw [if_pos (by omega)]
      obtain ⟨h1, h2, h3, htk⟩ := quotedStrip_step token w r token[r] hw (List.getElem?_eq_getElem hlt)
      simp only [h1, h2, ← Int.natCast_succ, h3, htk]
      rw [hacc, quotedStrip_hasSuffix]
      have hlen : acc.length = w := by
        have := congrArg List.length hacc
        simp only [List.length_take, List.length_reverse] at this
        omega
      have hdrop : token.drop r = token[r] :: (token.set w token[r]).drop (r + 1) := by
        rw [List.drop_set_of_lt (by omega), List.drop_eq_getElem_cons hlt]
      have htake : (token.set w token[r]).take (w + 1) = (token[r] :: acc).reverse := by
        rw [htk, hacc, List.reverse_cons]
      -- both branches go on from `(token', w'', r + 1)` with `token'[:w'']` = `acc'` reversed
      have hnext := fun acc' w'' (h1 : w'' ≤ r + 1) =>
        quotedStripLoop_eq pre fuel (token.set w token[r]) acc' w'' (r + 1) h1 (by rw [List.length_set]; omega)
      simp only [List.length_set] at hnext
      rw [hdrop, stripLoop,
        show (token.length - r ≤ fuel + 1) = (token.length - (r + 1) ≤ fuel) from propext (by omega)]
      by_cases hp : (10 :: pre).reverse.isPrefixOf (token[r] :: acc) = true
      · -- the end of `token[:w]` is the pattern: `w -= len(prefix)`
        have hple : pre.length ≤ w := by
          have := (List.isPrefixOf_iff_prefix.mp hp).length_le
          simp only [List.length_reverse, List.length_cons] at this
          omega
        have hw2 : ((w + 1 : Nat) : Int) - ((pre.length : Nat) : Int) = ((w + 1 - pre.length : Nat) : Int) := by
          omega
        simp only [hp, if_true, hw2]
        refine hnext _ _ (by omega) ?_
        rw [← Nat.min_eq_left (Nat.sub_le (w + 1) pre.length), ← List.take_take, htake, List.take_reverse, List.length_cons, hlen]
        congr 2
        omega
      · simp only [hp, Bool.false_eq_true, if_false]
        exact hnext _ _ (by omega) htake
    · rw [if_neg (by omega)]
      exact ⟨token, w, r, rfl, rfl, by omega, fun _ =>
        ⟨by omega, by rw [List.drop_of_length_le (by omega), stripLoop, hacc]⟩⟩

/-- `quotedQualifierParser` behind `pars.EOL`, at EVERY fuel and for EVERY prefix: no index, store or
slice expression of the translated statements ever fails (a fuel below `len(token)` stops the loop
early, which the Go loop does not do: `quotedStrip_eq`) -/
theorem quotedStrip_nopanic (fuel : Nat) (pre tok : Bytes) :
    ∃ v, Gen.quotedStrip fuel pre tok = .ok v := by
  obtain ⟨token', w', r', hloop, hl, hwl, _⟩ :=
    quotedStripLoop_eq pre fuel tok [] 0 0 (Nat.le_refl _) (Nat.zero_le _) rfl
  simp only [Gen.quotedStrip, List.singleton_append]
  rw [show (0 : Int) = ((0 : Nat) : Int) from rfl, hloop]
  simp only
  rw [Gen.goSliceTo_eq, clTo_nat _ _ (by omega)]
  exact ⟨_, rfl⟩

/-- `quotedQualifierParser` behind `pars.EOL`: for every fuel of at least `len(token)` — the number of
rounds of the counted loop `for r := 0; r < len(token); r++` — the translated statements yield
`stripCont prefix token`, the value the model's `quotedValue` returns; for EVERY prefix, the empty one
included (where the loop before 2612fae did not end) -/
theorem quotedStrip_eq (fuel : Nat) (pre tok : Bytes) (hf : tok.length ≤ fuel) :
    Gen.quotedStrip fuel pre tok = .ok (stripCont pre tok) := by
  obtain ⟨token', w', r', hloop, hl, hwl, hend⟩ :=
    quotedStripLoop_eq pre fuel tok [] 0 0 (Nat.le_refl _) (Nat.zero_le _) rfl
  obtain ⟨_, ht⟩ := hend (by omega)
  simp only [Gen.quotedStrip, List.singleton_append]
  rw [show (0 : Int) = ((0 : Nat) : Int) from rfl, hloop]
  simp only
  rw [Gen.goSliceTo_eq, clTo_nat _ _ (by omega), ht]
  rfl

/-- THE LOOP BEFORE 2612fae (the old reading `stripContOld`; `Gts/Lemmas/GbStripOnePass.lean`): with a
non-empty prefix it ended within `len(token)` iterations — at every fuel from there on it yields the one-pass
value (`stripCont_onepass_eq`) — so more fuel changed nothing (with an EMPTY prefix the old Go loop did not end) -/
theorem stripCont_fuel_succ (pre : Bytes) (hne : pre ≠ []) : ∀ (f : Nat) (t : Bytes), t.length ≤ f →
    stripContOld pre (f + 1) t = stripContOld pre f t := fun f t h =>
  (stripCont_onepass_eq pre hne t (f + 1) (Nat.le_succ_of_le h)).symm.trans (stripCont_onepass_eq pre hne t f h)

/-- the old loop run to its end is the one-pass value (`stripCont_onepass_eq`, at every fuel of at least
`len(token)`): past that length the fuel does not matter -/
theorem stripCont_fuel_stable (pre : Bytes) (hne : pre ≠ []) (t : Bytes) :
    ∀ f, t.length ≤ f → stripContOld pre f t = stripContOld pre t.length t := fun f hf =>
  (stripCont_onepass_eq pre hne t f hf).symm.trans (stripCont_onepass_eq pre hne t t.length (Nat.le_refl _))

/-- … so that, with a non-empty prefix and for every fuel of at least `len(token)`, the translated
one-pass loop of today returns what `quotedValue` returned BEFORE the repair
(`stripContOld pre tok.length tok`): the value of a quoted qualifier has not changed
(`stripCont_onepass_eq`) -/
theorem quotedStrip_model (fuel : Nat) (pre tok : Bytes) (hne : pre ≠ []) (hf : tok.length ≤ fuel) :
    Gen.quotedStrip fuel pre tok = .ok (stripContOld pre tok.length tok) := by
  rw [quotedStrip_eq fuel pre tok hf, stripCont_onepass_eq pre hne tok tok.length (Nat.le_refl _)]

/-! ### searchString: the binary search is membership on a sorted list -/

/-- `searchString` on a list that is sorted (no element is greater than a later one) with respect to
an irreflexive, total `<`: it says whether the string is in the list.  Fuel: the length of the list
(every call is on a strictly shorter slice; the slice expressions cannot fail, `n < len(ss)`). -/
theorem searchString_mem (lt : Bytes → Bytes → Bool) (hirr : ∀ a, lt a a = false)
    (htot : ∀ a b, lt a b = false → lt b a = false → a = b) (s : Bytes) :
    ∀ (fuel : Nat) (ss : List Bytes), ss.length ≤ fuel → ss.Pairwise (fun a b => lt b a = false) →
      Gen.searchString lt fuel s ss = decide (s ∈ ss) := by
  intro fuel
  induction fuel with
  | zero =>
    intro ss h _
    have : ss = [] := List.length_eq_zero_iff.mp (by omega)
    subst this; rfl
  | succ fuel ih =>
    intro ss h hs
    rw [Gen.searchString]
    by_cases hnil : ss.length = 0
    · have : ss = [] := List.length_eq_zero_iff.mp hnil
      subst this; simp
    · rw [if_neg hnil]
      have hn : ss.length / 2 < ss.length := by omega
      have hm : ss.getD (ss.length / 2) [] = ss[ss.length / 2] := by
        rw [List.getD_eq_getElem?_getD, List.getElem?_eq_getElem hn, Option.getD_some]
      simp only [hm]
      refine sorted_search_step lt hirr htot s ss hs _ hn id _ _ ?_ ?_
      · exact ih _ (by rw [List.length_take]; omega) (List.Pairwise.sublist (List.take_sublist _ _) hs)
      · exact ih _ (by rw [List.length_drop]; omega) (List.Pairwise.sublist (List.drop_sublist _ _) hs)

/-- the code of a qualifier type: the `iota` value of its `QualifierType` constant
(`Gts.Gen.GbReader.qualifierTypes`) -/
def qtypeCode : QType → Nat
  | .quoted => 0 | .literal => 1 | .toggle => 2 | .unknown => 3

/-- `GetQualifierType`: insdc.go keeps its three name lists sorted (`sort.Strings` in `init` and after
every `Register…`), the model keeps them as plain lists with membership.  On sorted lists `q`, `l`,
`t` with the members of the model's registry the three binary searches, in the order of the `switch`,
are the model's `Registry.typeOf` (membership in `quoted`, then `literal`, then `toggle`); `<` on Go
strings is bytewise lexicographic (`Gen.bytesLt`) -/
theorem getQualifierType_eq (reg : Registry) (q l t : List Bytes) (name : Bytes) (fuel : Nat)
    (hq : q.Pairwise (fun a b => Gen.bytesLt b a = false))
    (hl : l.Pairwise (fun a b => Gen.bytesLt b a = false))
    (ht : t.Pairwise (fun a b => Gen.bytesLt b a = false))
    (mq : ∀ x, x ∈ q ↔ x ∈ reg.quoted) (ml : ∀ x, x ∈ l ↔ x ∈ reg.literal) (mt : ∀ x, x ∈ t ↔ x ∈ reg.toggle)
    (hfq : q.length ≤ fuel) (hfl : l.length ≤ fuel) (hft : t.length ≤ fuel) :
    Gen.getQualifierType Gen.bytesLt fuel q l t name = qtypeCode (reg.typeOf name) := by
  have sm := fun ss => searchString_mem Gen.bytesLt Gen.bytesLt_irrefl Gen.bytesLt_total name fuel ss
  simp only [Gen.getQualifierType, Registry.typeOf, sm _ hfq hq, sm _ hfl hl, sm _ hft ht, decide_eq_true_eq,
    mq, ml, mt]
  by_cases h1 : name ∈ reg.quoted
  · simp only [h1, if_true, qtypeCode]
  by_cases h2 : name ∈ reg.literal
  · simp only [h1, h2, if_true, if_false, qtypeCode]
  by_cases h3 : name ∈ reg.toggle <;> simp only [h1, h2, h3, if_true, if_false, qtypeCode]

/-! ### the hypotheses are met by concrete, non-trivial instances -/

-- a sorted registry (upper case sorts in front of lower case) against the same names in source order
example :
    Gen.getQualifierType Gen.bytesLt 3 [bs "EC_number", bs "gene", bs "note"] [bs "codon_start"] [bs "pseudo"]
      (bs "note") = qtypeCode ((⟨[bs "note", bs "gene", bs "EC_number"], [bs "codon_start"], [bs "pseudo"]⟩ : Registry).typeOf (bs "note")) :=
  getQualifierType_eq _ _ _ _ _ 3 (by decide +kernel) (by decide +kernel) (by decide +kernel)
    (fun x => by
      simp only [List.mem_cons, List.not_mem_nil, or_false]
      constructor <;> rintro (h | h | h) <;> simp [h])
    (fun _ => Iff.rfl) (fun _ => Iff.rfl) (by decide) (by decide) (by decide)

-- a value with two continuation lines behind the 21-column indent: 49 bytes, one round of the loop per byte
example : Gen.quotedStrip 50 (sp 21) (bs "ab" ++ 10 :: sp 21 ++ bs "cd" ++ 10 :: sp 21 ++ bs "e") =
    .ok (bs "ab" ++ 10 :: bs "cd" ++ 10 :: bs "e") := by
  rw [quotedStrip_eq 50 _ _ (by decide +kernel)]; decide +kernel

-- `DBLINK      BioProject: PRJNA1` and a line without value (f459ebc)
example : Gen.dblinkPair (bs "BioProject: PRJNA1") = .ok (bs "BioProject", bs "PRJNA1") := by
  rw [dblinkPair_eq]; repeat rw [GenBank.bs_ofList]
  decide +kernel
example : Gen.dblinkPair (bs "BioProject:") = .error .fail := by decide +kernel

end Gts.Bridge
