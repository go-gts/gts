/-
  Bridge: `utils.go Abs` and the `Segment` methods of region.go, regenerated by go2lean
  (Gts/Gen/RegionSeg.lean), are the hand-written model's `Reg.gabs`, `Reg.len / head / tail /
  complement` on a segment (Gts/Model/Region.lean) — for every input.
-/
import Gts.Gen.RegionSeg
import Gts.Model.Region
namespace Gts.Bridge
open Gts

theorem ixor_zero (x : Int) : Gen.ixor x 0 = x := by
  cases x <;> simp [Gen.ixor]

theorem ixor_neg_one (x : Int) : Gen.ixor x (-1) = -x - 1 := by
  cases x <;>
    simp only [show (-1 : Int) = Int.negSucc 0 from rfl, Gen.ixor, Nat.xor_zero, Int.ofNat_eq_natCast] <;> omega

/-- on a 64-bit `int` the arithmetic shift by 63 leaves the sign mask -/
theorem shiftRight63 (x : Int) (hlo : -2 ^ 63 ≤ x) (hhi : x < 2 ^ 63) :
    Int.shiftRight x 63 = if x < 0 then -1 else 0 := by
  rw [show Int.shiftRight x 63 = x >>> 63 from rfl, Int.shiftRight_eq_div_pow]
  split <;> omega

/-- `utils.go Abs`, as written (shift, exclusive-or, subtract), is the absolute value on every
`int` of a 64-bit platform (`-2^63 ≤ x < 2^63`; at `x = -2^63` Go's result overflows, the
unbounded reading gives `2^63`) -/
theorem gabs_eq (x : Int) (hlo : -2 ^ 63 ≤ x) (hhi : x < 2 ^ 63) : Gen.gabs x = Reg.gabs x := by
  simp only [Gen.gabs, Gen.intSize, Reg.gabs, show Int.toNat (64 - 1) = 63 from rfl,
    shiftRight63 x hlo hhi]
  by_cases h : x < 0
  · simp only [h, if_true, ixor_neg_one]; omega
  · simp only [h, if_false, ixor_zero]; omega

example : Gen.gabs (-7) = Reg.gabs (-7) := gabs_eq (-7) (by decide) (by decide)

/-- `Segment.Len` is the model's `Reg.len` of a segment, whenever the difference of the two ends
is an `int` (64 bit) -/
theorem segmentLen_eq (h t : Int) (hlo : -2 ^ 63 ≤ t - h) (hhi : t - h < 2 ^ 63) :
    Gen.segmentLen h t = Reg.len (.seg h t) := by
  simp only [Gen.segmentLen, Reg.len, gabs_eq (t - h) hlo hhi]

example : Gen.segmentLen 7 3 = Reg.len (.seg 7 3) := segmentLen_eq 7 3 (by decide) (by decide)

/-- `Segment.Head` is the model's `Reg.head` of a segment -/
theorem segmentHead_eq (h t : Int) : Gen.segmentHead h t = Reg.head (.seg h t) := rfl

/-- `Segment.Tail` is the model's `Reg.tail` of a segment -/
theorem segmentTail_eq (h t : Int) : Gen.segmentTail h t = Reg.tail (.seg h t) := rfl

/-- `Segment.Complement` is the model's `Reg.complement` of a segment (the returned `Segment`
is the pair of its ends) -/
theorem segmentComplement_eq (h t : Int) :
    Reg.seg (Gen.segmentComplement h t).1 (Gen.segmentComplement h t).2 = Reg.complement (.seg h t) := rfl

end Gts.Bridge
