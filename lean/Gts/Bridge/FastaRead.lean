/-
  Bridge: the function handed to `.Map(…)` in `var FastaParser = pars.Seq(…).Map(func …)` (seqio/fasta.go), as
  it is re-read on every run (`Gts/Gen/FastaRead.lean`, go2lean gfastard.go), IS the model's reading
  (`Gts/Model/Fasta.lean`, property C17):

    body ↦ data (Split on '\n', the loop with TrimSuffix "\r", Join with nil)   = `fastaBody`    (`fastaBody_eq`)
    the tokens of the children ↦ (Desc, Data)                                    = child 1, `fastaBody` of child 2
                                                                                   (`fastaMap_eq`, `fastaMap_seq`)
    the constructor in front of `.Map`, its arguments, the child indices         `fastaParser_shape`

  for EVERY byte list; the generated loop never takes its panic branch (`fastaData_range_map`).
  What the library calls are read as (fixed text of the generated module, `Gts/Gen/GbReaderPrelude.lean`):
  `bytes.Split` on one byte — a left-to-right scan (`bytesSplitByte_lines`: the model's `splitLines`),
  `bytes.TrimSuffix` — `bytesTrimSuffix` (`bytesTrimSuffix_cr`: the model's `stripCR`), `bytes.Join` with an
  empty separator — concatenation (`bytesJoin_nil`).
-/
import Gts.Gen.FastaRead
import Gts.Lemmas.Fasta
import Gts.Lemmas.GbReaderPrelude
namespace Gts.Bridge
open Gts.Pars Gts.Fasta Gts.Gen Gts.Gen.FastaRead

/-- the translator's `bytes.Split` loop (`cur` = the piece begun) is core's `List.splitOn`, for every separator -/
theorem bytesSplitByteFrom_splitOn (c : UInt8) (s cur : Bytes) :
    bytesSplitByteFrom c s cur = (s.splitOn c).modifyHead (cur ++ ·) := by
  induction s generalizing cur with
  | nil => simp [bytesSplitByteFrom]
  | cons b r ih =>
    rw [bytesSplitByteFrom, List.splitOn_cons_eq_if_modifyHead, ih, ih]
    split
    · cases List.splitOn c r <;> simp
    · cases h : List.splitOn c r with
      | nil => exact absurd h (List.splitOn_ne_nil c r)
      | cons => simp

/-- `bytes.Split(s, []byte{'\n'})` as the translator reads it is the model's `splitLines` -/
theorem bytesSplitByte_lines (s : Bytes) : bytesSplitByte s 10 = splitLines s := by
  rw [bytesSplitByte, bytesSplitByteFrom_splitOn, splitLines_eq_splitOn]
  cases h : List.splitOn 10 s with
  | nil => exact absurd h (List.splitOn_ne_nil 10 s)
  | cons => simp

private theorem stripCR_getLast (s : Bytes) :
    stripCR s = if s.getLast? = some 13 then s.dropLast else s := by
  fun_induction stripCR s with
  | case1 => simp
  | case2 c h =>
    have : c = 13 := by simpa using h
    simp [this]
  | case3 c h =>
    have : ¬ c = 13 := by simpa using h
    simp [this]
  | case4 c r hne ih =>
    cases r with
    | nil => exact (hne rfl).elim
    | cons x t =>
      rw [ih]
      simp only [List.getLast?_cons_cons, List.dropLast_cons_cons]
      split <;> rfl

/-- `bytes.TrimSuffix(line, []byte{'\r'})` as the translator reads it is the model's `stripCR` -/
theorem bytesTrimSuffix_cr (s : Bytes) : bytesTrimSuffix s [13] = stripCR s := by
  rw [stripCR_getLast]
  simp only [bytesTrimSuffix, isSuffixOf_singleton, List.length_cons, List.length_nil,
    Nat.zero_add, List.dropLast_eq_take]
  by_cases h : s.getLast? = some 13 <;> simp [h]

/-- `bytes.Join(lines, nil)` is the concatenation -/
theorem bytesJoin_nil (ls : List Bytes) : bytesJoin ls [] = ls.flatten := by
  induction ls with
  | nil => simp [bytesJoin]
  | cons a t ih =>
    cases t with
    | nil => simp [bytesJoin]
    | cons b t' => rw [bytesJoin, ih]; simp

/-- **The range loop, with its invariant.**  With `pre` already trimmed and `suf` still to do — the index is
`pre.length`, `suf.length` rounds are left — the loop ends regularly (no read or store outside the slice) with
every element of `suf` trimmed. -/
theorem fastaData_range_inv (pre suf : List Bytes) :
    fastaData_range suf.length pre.length (pre ++ suf) =
      some (pre ++ suf.map fun x => bytesTrimSuffix x [13]) := by
  induction suf generalizing pre with
  | nil => simp [fastaData_range]
  | cons x t ih =>
    have hget : (pre ++ x :: t)[pre.length]? = some x := by simp
    have hset : (pre ++ x :: t).set pre.length (bytesTrimSuffix x [13]) =
        (pre ++ [bytesTrimSuffix x [13]]) ++ t := by simp
    have hlen : pre.length + 1 = (pre ++ [bytesTrimSuffix x [13]]).length := by simp
    rw [List.length_cons, fastaData_range, hget]
    simp only []
    rw [hset, hlen, ih]
    simp

/-- the whole loop `for i := range lines { lines[i] = bytes.TrimSuffix(lines[i], "\r") }` never panics and
strips one carriage return from the end of every line -/
theorem fastaData_range_map (lines : List Bytes) :
    fastaData_range lines.length 0 lines = some (lines.map stripCR) := by
  have := fastaData_range_inv [] lines
  simpa only [List.length_nil, List.nil_append, bytesTrimSuffix_cr] using this

/-- **The body computation of the tree IS the model's.**  For every body token (every byte list, line feeds,
carriage returns and `>` anywhere): the regenerated statements `lines := bytes.Split(body, "\n")` … `data :=
bytes.Join(lines, nil)` do not panic and give `fastaBody body`. -/
theorem fastaBody_eq (body : Bytes) : fastaData body = some (fastaBody body) := by
  simp only [fastaData, bytesSplitByte_lines, fastaData_range_map, bytesJoin_nil, fastaBody]

/-- **The Map function of the tree, on every list of children.**  It reads child 1 as the description and
child 2 as the body (a Go panic exactly when there are fewer than three children) and stores
`Fasta{child 1, fastaBody (child 2)}`. -/
theorem fastaMap_eq (children : List Bytes) :
    fastaMap children =
      (children[1]?).bind fun desc => (children[2]?).map fun body => (desc, fastaBody body) := by
  simp only [fastaMap, fastaDescChild, fastaBodyChild, fastaBody_eq]
  cases children[1]? <;> cases children[2]? <;> rfl

/-- … in particular on the three children a `pars.Seq` of three parsers leaves (the token of `'>'`, of
`pars.Line`, of `pars.Until(…)`): exactly what the model's `fastaParse` returns after `fastaSeq`. -/
theorem fastaMap_seq (gt desc body : Bytes) :
    fastaMap [gt, desc, body] = some (desc, fastaBody body) := by
  rw [fastaMap_eq]; rfl

/-- **Facts about the declaration.**  `FastaParser` is `pars.Seq('>', pars.Line, pars.Until(pars.Any('>',
pars.End))).Map(…)` — the sequence the model's `fastaSeq` reads — and the Map function takes the description
from child 1, the body from child 2. -/
theorem fastaParser_shape :
    fastaParserCtor = "pars.Seq" ∧
    fastaParserArgs = ["'>'", "pars.Line", "pars.Until(pars.Any('>', pars.End))"] ∧
    fastaDescChild = 1 ∧ fastaBodyChild = 2 := ⟨rfl, rfl, rfl, rfl⟩

end Gts.Bridge
