/-
  Bridge: `GenBank.String` with NOTHING of seqio left as a parameter — the regenerated record writer
  (`Gts/Gen/GenBankWrite.lean`) run with the regenerated `(*Origin).Len` and `(*Origin).String`
  (`Gts/Gen/OriginBuf.lean`, bridged by `Gts/Bridge/OriginBuf.lean`) in place of its two ORIGIN parameters is the
  model's `write` (properties C01, C16): the ORIGIN block a record is written with is the block the C16 layout
  theorems are about.  The fuel of the literal loops of `NewOrigin` is any number ≥ 6 with `len ≤ 60·fuel`.
-/
import Gts.Bridge.GenBankWrite
import Gts.Bridge.OriginBuf
namespace Gts.Bridge
open Gts.Pars Gts.GenBank Gts.Gen.GoStrings
open Gts.Gen.GenBankWrite (genBankString)

/-- `(*Origin).Len()` as regenerated from origin.go (it has no error path) -/
def originLenGen (o : Gen.GenBankWrite.Origin) : Int :=
  match Gen.originLen o.Buffer o.Parsed with
  | .ok n => n
  | .error _ => 0

/-- `(*Origin).String()` as regenerated from origin.go (`none`: the panic) -/
def originStringGen (fuel : Nat) (o : Gen.GenBankWrite.Origin) : Option Bytes :=
  match Gen.originString fuel fmt9 o.Buffer o.Parsed with
  | .ok s => some s
  | .error _ => none

theorem originLenGen_eq (o : Gen.GenBankWrite.Origin) : originLenGen o = originLenModel o := by
  obtain ⟨p, parsed⟩ := o
  unfold originLenGen
  cases parsed with
  | false => rw [originLen_eq]; rfl
  | true => rw [originLen_parsed]; rfl

theorem originStringGen_eq (fuel : Nat) (o : Gen.GenBankWrite.Origin) (h6 : 6 ≤ fuel) (hl : o.Buffer.length ≤ 60 * fuel) :
    originStringGen fuel o = originStringModel o := by
  obtain ⟨p, parsed⟩ := o
  unfold originStringGen originStringModel originV
  rw [originString_eq fuel p parsed h6 hl]
  cases parsed with
  | false => simp [Origin.originString, OriginV.text]
  | true =>
    simp only [Origin.originString, OriginV.text, if_true, Bool.not_true, Bool.false_eq_true, if_false]
    cases Origin.newOrigin p <;> rfl

/-- the length of what an `Origin` holds (residues, or the formatted block) -/
def originHeld : OriginV → Nat
  | .residues p => p.length
  | .buffer b => b.length

/-- **`GenBank.String` with the regenerated ORIGIN code is the model's `write`**: the statement of
`genBankString_eq` with `(*Origin).Len` / `(*Origin).String` read from origin.go too, for every fuel the
loops of `NewOrigin` can run out with (≥ 6, and 60 residues per round) -/
theorem genBankString_origin_eq (reg : Registry) (toUpper : Bytes → Bytes)
    (timeFormat : String → Int → Int → Int → Bytes) (r : Record) (fuel : Nat)
    (hdate : toUpper (timeFormat "02-Jan-2006" r.fields.date.year r.fields.date.month r.fields.date.day) =
      r.fields.date.text)
    (h6 : 6 ≤ fuel) (hl : originHeld r.origin ≤ 60 * fuel) :
    wOut (genBankString itoaB toUpper timeFormat wrapSpaceModel Loc.printB originLenGen (originStringGen fuel)
      segmentLenModel (isQuotedIn reg) (isLiteralIn reg) (isToggleIn reg) (goRecord r)) = write reg r := by
  rw [← genBankString_eq reg toUpper timeFormat r hdate]
  have h1 : originLenGen = originLenModel := funext originLenGen_eq
  have hb : (goRecord r).Origin.Buffer.length = originHeld r.origin := by
    obtain ⟨f, t, o⟩ := r
    cases o <;> rfl
  unfold genBankString
  rw [h1, originStringGen_eq fuel (goRecord r).Origin h6 (by rw [hb]; exact hl)]

/-- non-vacuity: 61 residues (two ORIGIN lines), fuel 6 -/
example : (6 : Nat) ≤ 6 ∧ originHeld (OriginV.residues (List.replicate 61 97)) ≤ 60 * 6 := by decide

end Gts.Bridge
