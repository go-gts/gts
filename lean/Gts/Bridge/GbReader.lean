/-
  C07 / C01 bridge (DESIGN.md 4.1b): the STRUCTURE of the seqio reader that go2lean extracts from the Go
  source on every run (`Gts/Gen/GbReaderFacts.lean`, generator go2lean/gbreader.go) is the structure the
  hand-written model has (`Gts/Spec/GbReaderTable.lean`, written next to `Gts/Model/GenBankParse.lean` /
  `InsdcParse.lean` / `GbSlice.lean`, line by line with the model clause each line mirrors).

  One theorem per Go function (its function literals included), so that a change names the function
  that changed; plus the derived tables (`dispatch`: the sub-parsers in order of attempt with their
  field names; `stateOps`: every Push / Pop / Drop / Clear / Advance with the condition it stands
  under; the LOCUS `Seq` member by member, `Children(…)`, which child feeds which field; the
  QualifierType `iota` block) and a few statements ABOUT the tables that do not depend on the
  spelling of a line (`reader_hard_failures`, `reader_tryAll_ops`, `reader_locus_depth`, …).
  The table equalities are closed by `rfl` (the kernel compares the two literal tables; `decide` on the
  `String` equality of a few hundred long literals takes minutes), the computed statements by
  `decide +kernel`: reordering sub-parsers, another field name, `Pop` for `Clear` (66de3a0 was
  exactly that), another width or depth arithmetic make the kernel reject the theorem.
-/
import Gts.Gen.GbReaderFacts
import Gts.Spec.GbReaderTable
namespace Gts.Bridge
open Gts.Gen

/-- the inventory: the reader functions and their function literals are the expected ones, in order
(a new function literal, a new or removed function shows here) -/
theorem reader_inventory : GbReader.fns.map (·.1) = Spec.GbReader.fns.map (·.1) := rfl

/-- the LOCUS line parser: the `Seq` with its literals, `Children(…)`, the date `Map` -/
theorem reader_genbankLocusParser :
    GbReader.fn_genbankLocusParser = Spec.GbReader.fn_genbankLocusParser ∧
    GbReader.fn_genbankLocusParser_func0 = Spec.GbReader.fn_genbankLocusParser_func0 := ⟨rfl, rfl⟩

/-- `tryAllParsers`: Push, the parser, Drop on success, hard failure when nothing is pushed, Pop -/
theorem reader_tryAllParsers :
    GbReader.fn_tryAllParsers = Spec.GbReader.fn_tryAllParsers ∧
    GbReader.fn_tryAllParsers_func0 = Spec.GbReader.fn_tryAllParsers_func0 := ⟨rfl, rfl⟩

/-- `GenBankParser`: the use of the LOCUS children, the depth arithmetic, the range and final length checks, the order of the generators, the record loop -/
theorem reader_GenBankParser :
    GbReader.fn_GenBankParser = Spec.GbReader.fn_GenBankParser := rfl

theorem reader_genbankFieldNameParser :
    GbReader.fn_genbankFieldNameParser = Spec.GbReader.fn_genbankFieldNameParser ∧
    GbReader.fn_genbankFieldNameParser_func0 = Spec.GbReader.fn_genbankFieldNameParser_func0 := ⟨rfl, rfl⟩

theorem reader_genbankFieldLineParser :
    GbReader.fn_genbankFieldLineParser = Spec.GbReader.fn_genbankFieldLineParser ∧
    GbReader.fn_genbankFieldLineParser_func0 = Spec.GbReader.fn_genbankFieldLineParser_func0 := ⟨rfl, rfl⟩

theorem reader_genbankFieldBodyParser :
    GbReader.fn_genbankFieldBodyParser = Spec.GbReader.fn_genbankFieldBodyParser ∧
    GbReader.fn_genbankFieldBodyParser_func0 = Spec.GbReader.fn_genbankFieldBodyParser_func0 := ⟨rfl, rfl⟩

theorem reader_genbankGenericFieldParser :
    GbReader.fn_genbankGenericFieldParser = Spec.GbReader.fn_genbankGenericFieldParser ∧
    GbReader.fn_genbankGenericFieldParser_func0 = Spec.GbReader.fn_genbankGenericFieldParser_func0 := ⟨rfl, rfl⟩

theorem reader_genbankExtraFieldParser :
    GbReader.fn_genbankExtraFieldParser = Spec.GbReader.fn_genbankExtraFieldParser ∧
    GbReader.fn_genbankExtraFieldParser_func0 = Spec.GbReader.fn_genbankExtraFieldParser_func0 := ⟨rfl, rfl⟩

theorem reader_genbankSubfieldNameParser :
    GbReader.fn_genbankSubfieldNameParser = Spec.GbReader.fn_genbankSubfieldNameParser ∧
    GbReader.fn_genbankSubfieldNameParser_func0 = Spec.GbReader.fn_genbankSubfieldNameParser_func0 := ⟨rfl, rfl⟩

theorem reader_genbankGenericSubfieldParser :
    GbReader.fn_genbankGenericSubfieldParser = Spec.GbReader.fn_genbankGenericSubfieldParser ∧
    GbReader.fn_genbankGenericSubfieldParser_func0 = Spec.GbReader.fn_genbankGenericSubfieldParser_func0 := ⟨rfl, rfl⟩

theorem reader_genbankDefinitionParser :
    GbReader.fn_genbankDefinitionParser = Spec.GbReader.fn_genbankDefinitionParser ∧
    GbReader.fn_genbankDefinitionParser_func0 = Spec.GbReader.fn_genbankDefinitionParser_func0 := ⟨rfl, rfl⟩

theorem reader_genbankAccessionParser :
    GbReader.fn_genbankAccessionParser = Spec.GbReader.fn_genbankAccessionParser ∧
    GbReader.fn_genbankAccessionParser_func0 = Spec.GbReader.fn_genbankAccessionParser_func0 := ⟨rfl, rfl⟩

theorem reader_genbankVersionParser :
    GbReader.fn_genbankVersionParser = Spec.GbReader.fn_genbankVersionParser ∧
    GbReader.fn_genbankVersionParser_func0 = Spec.GbReader.fn_genbankVersionParser_func0 := ⟨rfl, rfl⟩

theorem reader_genbankDBLinkPairParser :
    GbReader.fn_genbankDBLinkPairParser = Spec.GbReader.fn_genbankDBLinkPairParser ∧
    GbReader.fn_genbankDBLinkPairParser_func0 = Spec.GbReader.fn_genbankDBLinkPairParser_func0 := ⟨rfl, rfl⟩

theorem reader_genbankDBLinkParser :
    GbReader.fn_genbankDBLinkParser = Spec.GbReader.fn_genbankDBLinkParser ∧
    GbReader.fn_genbankDBLinkParser_func0 = Spec.GbReader.fn_genbankDBLinkParser_func0 := ⟨rfl, rfl⟩

theorem reader_genbankKeywordsParser :
    GbReader.fn_genbankKeywordsParser = Spec.GbReader.fn_genbankKeywordsParser ∧
    GbReader.fn_genbankKeywordsParser_func0 = Spec.GbReader.fn_genbankKeywordsParser_func0 := ⟨rfl, rfl⟩

theorem reader_genbankSourceParser :
    GbReader.fn_genbankSourceParser = Spec.GbReader.fn_genbankSourceParser ∧
    GbReader.fn_genbankSourceParser_func0 = Spec.GbReader.fn_genbankSourceParser_func0 ∧
    GbReader.fn_genbankSourceParser_func1 = Spec.GbReader.fn_genbankSourceParser_func1 := ⟨rfl, rfl, rfl⟩

theorem reader_genbankReferenceSubfieldParser :
    GbReader.fn_genbankReferenceSubfieldParser = Spec.GbReader.fn_genbankReferenceSubfieldParser ∧
    GbReader.fn_genbankReferenceSubfieldParser_func0 = Spec.GbReader.fn_genbankReferenceSubfieldParser_func0 ∧
    GbReader.fn_genbankReferenceSubfieldParser_func1 = Spec.GbReader.fn_genbankReferenceSubfieldParser_func1 ∧
    GbReader.fn_genbankReferenceSubfieldParser_func2 = Spec.GbReader.fn_genbankReferenceSubfieldParser_func2 ∧
    GbReader.fn_genbankReferenceSubfieldParser_func3 = Spec.GbReader.fn_genbankReferenceSubfieldParser_func3 ∧
    GbReader.fn_genbankReferenceSubfieldParser_func4 = Spec.GbReader.fn_genbankReferenceSubfieldParser_func4 ∧
    GbReader.fn_genbankReferenceSubfieldParser_func5 = Spec.GbReader.fn_genbankReferenceSubfieldParser_func5 ∧
    GbReader.fn_genbankReferenceSubfieldParser_func6 = Spec.GbReader.fn_genbankReferenceSubfieldParser_func6 := ⟨rfl, rfl, rfl, rfl, rfl, rfl, rfl, rfl⟩

theorem reader_genbankReferenceParser :
    GbReader.fn_genbankReferenceParser = Spec.GbReader.fn_genbankReferenceParser ∧
    GbReader.fn_genbankReferenceParser_func0 = Spec.GbReader.fn_genbankReferenceParser_func0 := ⟨rfl, rfl⟩

theorem reader_genbankCommentParser :
    GbReader.fn_genbankCommentParser = Spec.GbReader.fn_genbankCommentParser ∧
    GbReader.fn_genbankCommentParser_func0 = Spec.GbReader.fn_genbankCommentParser_func0 := ⟨rfl, rfl⟩

theorem reader_genbankFeatureParser :
    GbReader.fn_genbankFeatureParser = Spec.GbReader.fn_genbankFeatureParser ∧
    GbReader.fn_genbankFeatureParser_func0 = Spec.GbReader.fn_genbankFeatureParser_func0 := ⟨rfl, rfl⟩

/-- `genbankContigParser` and its 2 function literals (the filter of `pars.Until`, the parser) -/
theorem reader_genbankContigParser :
    GbReader.fn_genbankContigParser = Spec.GbReader.fn_genbankContigParser ∧
    GbReader.fn_genbankContigParser_func0 = Spec.GbReader.fn_genbankContigParser_func0 ∧
    GbReader.fn_genbankContigParser_func1 = Spec.GbReader.fn_genbankContigParser_func1 := ⟨rfl, rfl, rfl⟩

theorem reader_makeGenbankOriginParser :
    GbReader.fn_makeGenbankOriginParser = Spec.GbReader.fn_makeGenbankOriginParser ∧
    GbReader.fn_makeGenbankOriginParser_func0 = Spec.GbReader.fn_makeGenbankOriginParser_func0 ∧
    GbReader.fn_makeGenbankOriginParser_func1 = Spec.GbReader.fn_makeGenbankOriginParser_func1 := ⟨rfl, rfl, rfl⟩

/-- `init` of insdc.go sorts the three name lists (the precondition of `searchString`) -/
theorem reader_init :
    GbReader.fn_init = Spec.GbReader.fn_init := rfl

/-- `RegisterQuotedQualifier`: append, then sort again — every member stays (`Registry.addQuoted`) -/
theorem reader_RegisterQuotedQualifier :
    GbReader.fn_RegisterQuotedQualifier = Spec.GbReader.fn_RegisterQuotedQualifier := rfl

/-- `RegisterLiteralQualifier`: append, then sort again (`Registry.addLiteral`) -/
theorem reader_RegisterLiteralQualifier :
    GbReader.fn_RegisterLiteralQualifier = Spec.GbReader.fn_RegisterLiteralQualifier := rfl

/-- `RegisterToggleQualifier`: append, then sort again (`Registry.addToggle`) -/
theorem reader_RegisterToggleQualifier :
    GbReader.fn_RegisterToggleQualifier = Spec.GbReader.fn_RegisterToggleQualifier := rfl

/-- `searchString`: the recursive binary search (as a function: `Gts.Bridge.searchString_mem`) -/
theorem reader_searchString :
    GbReader.fn_searchString = Spec.GbReader.fn_searchString := rfl

/-- `IsQuotedQualifier` searches `QuotedQualifierNames` -/
theorem reader_IsQuotedQualifier :
    GbReader.fn_IsQuotedQualifier = Spec.GbReader.fn_IsQuotedQualifier := rfl

/-- `IsLiteralQualifier` searches `LiteralQualifierNames` -/
theorem reader_IsLiteralQualifier :
    GbReader.fn_IsLiteralQualifier = Spec.GbReader.fn_IsLiteralQualifier := rfl

/-- `IsToggleQualifier` searches `ToggleQualifierNames` -/
theorem reader_IsToggleQualifier :
    GbReader.fn_IsToggleQualifier = Spec.GbReader.fn_IsToggleQualifier := rfl

theorem reader_GetQualifierType :
    GbReader.fn_GetQualifierType = Spec.GbReader.fn_GetQualifierType := rfl

theorem reader_qualifierNameParser :
    GbReader.fn_qualifierNameParser = Spec.GbReader.fn_qualifierNameParser ∧
    GbReader.fn_qualifierNameParser_func0 = Spec.GbReader.fn_qualifierNameParser_func0 := ⟨rfl, rfl⟩

theorem reader_quotedQualifierParser :
    GbReader.fn_quotedQualifierParser = Spec.GbReader.fn_quotedQualifierParser ∧
    GbReader.fn_quotedQualifierParser_func0 = Spec.GbReader.fn_quotedQualifierParser_func0 := ⟨rfl, rfl⟩

theorem reader_literalQualifierValueParser :
    GbReader.fn_literalQualifierValueParser = Spec.GbReader.fn_literalQualifierValueParser ∧
    GbReader.fn_literalQualifierValueParser_func0 = Spec.GbReader.fn_literalQualifierValueParser_func0 := ⟨rfl, rfl⟩

theorem reader_literalQualifierParser :
    GbReader.fn_literalQualifierParser = Spec.GbReader.fn_literalQualifierParser ∧
    GbReader.fn_literalQualifierParser_func0 = Spec.GbReader.fn_literalQualifierParser_func0 := ⟨rfl, rfl⟩

theorem reader_QualifierParser :
    GbReader.fn_QualifierParser = Spec.GbReader.fn_QualifierParser ∧
    GbReader.fn_QualifierParser_func0 = Spec.GbReader.fn_QualifierParser_func0 := ⟨rfl, rfl⟩

theorem reader_featureKeylineParser :
    GbReader.fn_featureKeylineParser = Spec.GbReader.fn_featureKeylineParser ∧
    GbReader.fn_featureKeylineParser_func0 = Spec.GbReader.fn_featureKeylineParser_func0 := ⟨rfl, rfl⟩

theorem reader_INSDCTableParser :
    GbReader.fn_INSDCTableParser = Spec.GbReader.fn_INSDCTableParser ∧
    GbReader.fn_INSDCTableParser_func0 = Spec.GbReader.fn_INSDCTableParser_func0 ∧
    GbReader.fn_INSDCTableParser_func1 = Spec.GbReader.fn_INSDCTableParser_func1 := ⟨rfl, rfl, rfl⟩

theorem reader_parseReferenceInfo :
    GbReader.fn_parseReferenceInfo = Spec.GbReader.fn_parseReferenceInfo ∧
    GbReader.fn_parseReferenceInfo_func0 = Spec.GbReader.fn_parseReferenceInfo_func0 ∧
    GbReader.fn_parseReferenceInfo_func1 = Spec.GbReader.fn_parseReferenceInfo_func1 := ⟨rfl, rfl, rfl⟩

theorem reader_dig :
    GbReader.fn_dig = Spec.GbReader.fn_dig := rfl

/-- all of them at once: the whole table -/
theorem reader_fns : GbReader.fns = Spec.GbReader.fns := rfl

/-- the sub-parsers in the order in which `tryAllParsers` attempts them, each with its field name:
`GenBank.fieldParsers` followed by `extraField` -/
theorem reader_dispatch : GbReader.dispatch = Spec.GbReader.dispatch := rfl

/-- every Push / Pop / Drop / Clear / Advance of the reader with the condition it stands under -/
theorem reader_stateOps : GbReader.stateOps = Spec.GbReader.stateOps := rfl

/-- the LOCUS `Seq` member by member, the kept children, and which child feeds which field -/
theorem reader_locus :
    GbReader.locusSeq = Spec.GbReader.locusSeq ∧ GbReader.locusChildren = Spec.GbReader.locusChildren ∧
    GbReader.locusUses = Spec.GbReader.locusUses := ⟨rfl, rfl, rfl⟩

/-- the `iota` block of `QualifierType` is `GenBank.QType` in the order of its constructors -/
theorem reader_qualifierTypes : GbReader.qualifierTypes = Spec.GbReader.qualifierTypes := rfl

/-- the HARD failures: exactly five places clear the saved positions — behind the LOCUS line, a
field name with uneven indent, SOURCE without ORGANISM (66de3a0), behind the FEATURES line, behind
the ORIGIN line — and no reader function pops or drops where the model clears -/
theorem reader_hard_failures :
    (GbReader.stateOps.filter (·.2.1 == "state.Clear()")).map (·.1) =
      ["GenBankParser", "genbankFieldNameParser/func0", "genbankSourceParser/func1",
       "genbankFeatureParser/func0", "makeGenbankOriginParser/func1"] := by decide +kernel

/-- `tryAllParsers` pushes once per attempt, drops on success only and pops on (soft) failure only;
nothing else touches the saved positions there -/
theorem reader_tryAll_ops :
    (GbReader.stateOps.filter (·.1 == "tryAllParsers/func0")).map (·.2) =
      [("state.Push()", "range _, v0 := range pp0"), ("state.Drop()", "if err0 == nil"),
       ("state.Pop()", "range _, v0 := range pp0")] := by decide +kernel

/-- the field sub-parsers themselves never push, pop or drop: the only functions that do are
`tryAllParsers` and the three qualifier value parsers of the feature table.  A soft failure of a field
is undone by `tryAllParsers` alone, which is what `recordLoop_fuel_stable` (C07) relies on -/
theorem reader_fields_do_not_pop :
    ((GbReader.stateOps.filter fun o => o.2.1 != "state.Clear()" && o.2.1 != "state.Advance()").map
      (·.1)).eraseDups =
      ["tryAllParsers/func0", "quotedQualifierParser/func0", "literalQualifierValueParser/func0",
       "literalQualifierParser/func0"] := by decide +kernel

/-- `errGenBankExtra` is returned by `genbankExtraFieldParser` and by nothing else: the error tag `extra`
of `Gts.Bridge.tryAllParsers_eq` belongs to the last sub-parser alone, so `dig(err) != errGenBankExtra`
in `GenBankParser` separates "skip this line" from "the record fails" the way the model's `Step` does -/
theorem reader_extra_error_unique :
    (GbReader.fns.filter fun f => f.2.any fun l => l.2.1 == "return" && l.2.2 == "errGenBankExtra").map (·.1) =
      ["genbankExtraFieldParser/func0"] := by decide +kernel

/-- the depth handed to every sub-parser is the width of "LOCUS" plus the blanks behind it: child 0 of
the LOCUS result is member 1 of the `Seq` (`pars.Spaces`), member 0 is the five-byte literal -/
theorem reader_locus_depth :
    GbReader.locusUses.head? = some ("depth", 0, "len(#.Token) + 5") ∧
    GbReader.locusChildren.head? = some 1 ∧
    GbReader.locusSeq.take 2 = ["\"LOCUS\"", "pars.Spaces"] ∧ "LOCUS".length = 5 := by decide +kernel

/-- every kept child is used exactly once, in order, and the kept members are the non-blank ones plus
the first run of blanks -/
theorem reader_locus_children :
    GbReader.locusUses.map (·.2.1) = List.range GbReader.locusChildren.length ∧
    GbReader.locusChildren.map (fun i => GbReader.locusSeq.getD i "") =
      ["pars.Spaces", "pars.Word(ascii.Not(ascii.IsSpace))", "pars.Int",
       "pars.Word(ascii.Not(ascii.IsSpace))", "pars.Word(ascii.Not(ascii.IsSpace))",
       "pars.Maybe(pars.Count(pars.Filter(ascii.IsUpper), 3).Map(pars.Cat))",
       "pars.AsParser(pars.Line).Map(func0)"] := by decide +kernel

/-- the twelve field names in order of attempt (the model's `fieldParsers` and `extraField`) -/
theorem reader_field_names :
    GbReader.dispatch.map (·.2.2) =
      ["\"DEFINITION\"", "\"ACCESSION\"", "\"VERSION\"", "\"DBLINK\"", "\"KEYWORDS\"", "\"SOURCE\"",
       "\"REFERENCE\"", "\"COMMENT\"", "\"FEATURES\"", "\"CONTIG\"", "\"ORIGIN\"", "pars.Word(ascii.IsUpper)"] := by
  decide +kernel

end Gts.Bridge
