/-
  Bridge: the regenerated `exact` / `encodePayload` of cmd/gts/io.go (`Gts/Gen/KeyEnc.lean`, go2lean
  keyenc.go) ARE the model's `Gts.KeyEnc.exact` / `Gts.KeyEnc.encodePayload` (property C14), once the
  two library parameters are instantiated with the model's strconv.QuoteToASCII and json.Marshal.

  The generated functions work on `tuple = [2]interface{}`, i.e. on pairs of VALUES: `exact` is
  applied to the key too.  The model's tuple has a byte-string key (every call of `encodePayload`
  passes a string constant): `keyed` embeds it, `marshalTuples` is json.Marshal of a `[][2]interface{}`
  over the model's value kinds.

  What breaks these theorems: marshalling the raw tuples (the encoder before 1c2c272 — `marshal tt`),
  quoting only the value or only the key, dropping the quoting of the `[]string` elements or of the
  plain strings, swapping key and value.  What go2lean refuses: any other statement or expression
  shape, another library function (`strconv.Quote`), another error handling, other cases in the type
  switch.
-/
import Gts.Gen.KeyEnc
import Gts.Model.KeyEnc
import Gts.Lemmas.KeyEncJson
namespace Gts.Bridge.KeyEnc
open Gts.KeyEnc

/-- json.Marshal of a `[]tuple` (`[][2]interface{}`) whose members are values of the model's kinds -/
def marshalTuples (qq : List (Value × Value)) : Bytes :=
  jsonArray (qq.map fun t => jsonArray [jsonValue t.1, jsonValue t.2])

/-- a tuple of the model as a Go `tuple`: the key is a `string` -/
def keyed (t : Tuple) : Value × Value := (.str t.1, t.2)

/-- the shape of a loop that fills a fresh slice with the image of every element, in order -/
theorem mapShape {α β : Type} (f : List α → List β) (g : α → β) (h0 : f [] = [])
    (h1 : ∀ a r, f (a :: r) = g a :: f r) : ∀ l, f l = l.map g
  | [] => h0
  | a :: r => by rw [h1, mapShape f g h0 h1 r]; rfl

/-- **the frame**: `tuple` is `[2]interface{}`, `strconv` / `json` are the standard packages, the
only library calls are strconv.QuoteToASCII and json.Marshal, an error of json.Marshal panics -/
theorem keyEncFrame :
    Gts.Gen.KeyEnc.keyEncFrame =
      { tupleType := "[2]interface{}", packages := ["strconv", "encoding/json"],
        calls := ["strconv.QuoteToASCII", "json.Marshal"], onMarshalError := "panic(err)" } := by
  decide +kernel

/-- the `[]string` clause of `exact` quotes every element -/
theorem exactLoop_eq (q : Bytes → Bytes) (l : List Bytes) : Gts.Gen.KeyEnc.exactLoop q l = l.map q :=
  mapShape (Gts.Gen.KeyEnc.exactLoop q) q rfl (fun _ _ => rfl) l

/-- **io.go `exact` is the model's `exact`** (strings quoted, `[]string` element-wise, the other
kinds unchanged) -/
theorem exact_eq (v : Value) : Gts.Gen.KeyEnc.exact quoteToASCII v = Gts.KeyEnc.exact v := by
  cases v with
  | str s => rfl
  | strs l => simp only [Gts.Gen.KeyEnc.exact, exactLoop_eq, Gts.KeyEnc.exact]
  | bool b => rfl
  | int n => rfl
  | bytes b => rfl

/-- the loop of `encodePayload` applies `exact` to both members of every tuple -/
theorem encodePayloadLoop_eq (l : List (Value × Value)) :
    Gts.Gen.KeyEnc.encodePayloadLoop quoteToASCII l =
      l.map fun t => (Gts.KeyEnc.exact t.1, Gts.KeyEnc.exact t.2) := by
  rw [mapShape (Gts.Gen.KeyEnc.encodePayloadLoop quoteToASCII)
    (fun t => (Gts.Gen.KeyEnc.exact quoteToASCII t.1, Gts.Gen.KeyEnc.exact quoteToASCII t.2)) rfl (fun _ _ => rfl) l]
  simp only [exact_eq]

/-- **io.go `encodePayload` is the model's `encodePayload`**: for every payload, the regenerated
function — run with the model's QuoteToASCII and json.Marshal — gives the model's key bytes. -/
theorem encodePayload_eq (p : Payload) :
    Gts.Gen.KeyEnc.encodePayload quoteToASCII marshalTuples (p.map keyed) = Gts.KeyEnc.encodePayload p := by
  simp only [Gts.Gen.KeyEnc.encodePayload, encodePayloadLoop_eq, marshalTuples, Gts.KeyEnc.encodePayload,
    jsonOfPayload, List.map_map]
  congr 1

/-- **The key bytes computed by the code of the tree determine the payload**: the C14 theorem
`encodePayload_injective`, restated for the REGENERATED `encodePayload` (run with the model's
QuoteToASCII and json.Marshal) — re-checked against what io.go says on every run. -/
theorem generated_injective (p₁ p₂ : Payload)
    (h : Gts.Gen.KeyEnc.encodePayload quoteToASCII marshalTuples (p₁.map keyed) =
      Gts.Gen.KeyEnc.encodePayload quoteToASCII marshalTuples (p₂.map keyed)) : p₁ = p₂ := by
  rw [encodePayload_eq, encodePayload_eq] at h
  exact encodePayload_code.inj h

/-- non-vacuity: the generated encoder on a payload with a string that is not UTF-8 -/
example : Gts.Gen.KeyEnc.encodePayload quoteToASCII marshalTuples
      ([(ascii "locator", Value.str [0x61, 0xFF, 0x62])].map keyed) =
    ascii "[[\"\\\"locator\\\"\",\"\\\"a\\\\xffb\\\"\"]]" := by
  repeat rw [ascii_ofList]
  decide +kernel

end Gts.Bridge.KeyEnc
