/-
  Bridge: the registry look-up of seqio/insdc.go — `searchString`, the recursive binary search behind
  `IsQuotedQualifier` / `IsLiteralQualifier` / `IsToggleQualifier` (`Gts/Gen/InsdcWrite.lean`, go2lean
  gwriter*.go) — IS membership, which is how `Registry.typeOf` of the model reads it (property C01):
  on every list that is sorted in the order of Go strings (bytewise lexicographic, duplicates allowed), for
  every fuel above the length of the list, the function never panics (the three slice / index expressions
  stay in range) and answers `s ∈ ss` (`searchString_eq`).
  What stays assumed: `sort.Strings` (called by `init()` and by every `Register…Qualifier`) leaves the three
  package variables sorted in that order.
-/
import Gts.Gen.InsdcWrite
import Gts.Lemmas.GoSlice
namespace Gts.Bridge
open Gts.Gen.GoStrings
open Gts.Gen.InsdcWrite (searchString)

theorem wsStrLt_irrefl (a : List UInt8) : wsStrLt a a = false := by
  induction a with
  | nil => rfl
  | cons x a ih => simp [wsStrLt, ih]

/-- the order is total: two strings neither of which is below the other are equal -/
theorem wsStrLt_antisymm (a b : List UInt8) (h1 : wsStrLt a b = false) (h2 : wsStrLt b a = false) : a = b := by
  induction a generalizing b with
  | nil =>
    cases b with
    | nil => rfl
    | cons y b => simp [wsStrLt] at h1
  | cons x a ih =>
    cases b with
    | nil => simp [wsStrLt] at h2
    | cons y b =>
      simp only [wsStrLt] at h1 h2
      by_cases hxy : x < y
      · simp [hxy] at h1
      · by_cases hyx : y < x
        · simp [hyx] at h2
        · simp only [hxy, hyx, if_false] at h1 h2
          rw [UInt8.le_antisymm (UInt8.not_lt.mp hyx) (UInt8.not_lt.mp hxy), ih b h1 h2]

/-- sorted in the order of Go strings (what `sort.Strings` establishes); duplicates allowed -/
def SortedStrings (ss : List (List UInt8)) : Prop := ss.Pairwise fun a b => wsStrLt b a = false

/-- the step of a binary search for `s` in a list sorted for an irreflexive, total `lt`, looked at from its
`n`-th element: what is below it can only be in front of it, what is above it only behind it, and what is
neither is that element.  `lo`, `hi` are the answers of the searches in the two parts, `f` is what an answer
is wrapped in -/
theorem sorted_search_step {α β : Type} [BEq α] [LawfulBEq α] (lt : α → α → Bool) (hirr : ∀ a, lt a a = false)
    (htot : ∀ a b, lt a b = false → lt b a = false → a = b) (s : α) (ss : List α)
    (hs : ss.Pairwise fun a b => lt b a = false) (n : Nat) (hn : n < ss.length) (f : Bool → β) (lo hi : β)
    (hlo : lo = f (decide (s ∈ ss.take n))) (hhi : hi = f (decide (s ∈ ss.drop (n + 1)))) :
    (if lt s ss[n] = true then lo else if lt ss[n] s = true then hi else f true) = f (decide (s ∈ ss)) := by
  have hsplit : ss = ss.take n ++ ss[n] :: ss.drop (n + 1) := by
    rw [List.getElem_cons_drop, List.take_append_drop]
  have hmem : s ∈ ss ↔ s ∈ ss.take n ∨ s = ss[n] ∨ s ∈ ss.drop (n + 1) := by
    rw [← List.mem_cons, ← List.mem_append, ← hsplit]
  rw [hsplit, List.pairwise_append, List.pairwise_cons] at hs
  obtain ⟨-, ⟨hright, -⟩, hleft⟩ := hs
  by_cases h1 : lt s ss[n] = true
  · rw [if_pos h1, hlo]
    refine congrArg f (decide_eq_decide.mpr ⟨fun hl => hmem.mpr (.inl hl), fun h => ?_⟩)
    rcases hmem.mp h with hl | hc | hr
    · exact hl
    · rw [← hc, hirr] at h1; cases h1
    · rw [hright s hr] at h1; cases h1
  · rw [if_neg h1]
    by_cases h2 : lt ss[n] s = true
    · rw [if_pos h2, hhi]
      refine congrArg f (decide_eq_decide.mpr ⟨fun hr => hmem.mpr (.inr (.inr hr)), fun h => ?_⟩)
      rcases hmem.mp h with hl | hc | hr
      · rw [hleft s hl _ List.mem_cons_self] at h2; cases h2
      · rw [← hc, hirr] at h2; cases h2
      · exact hr
    · rw [if_neg h2, htot _ _ (Bool.eq_false_iff.mpr h1) (Bool.eq_false_iff.mpr h2),
        decide_eq_true (List.getElem_mem hn)]

/-! the checked slice operations of the prelude `Gts/Gen/GoStrings.lean` are those of `Gts/Gen/CliList.lean`
(`Gts/Lemmas/GoSlice.lean` has their lemmas) -/

theorem wsIdx_eq : @wsIdx = @Gen.clAt := rfl
theorem wsFrom_eq : @wsFrom = @Gen.clFrom := rfl
theorem wsTo_eq : @wsTo = @Gen.clTo := rfl
theorem wsSet_eq : @wsSet = @Gen.clPut := rfl

theorem tdiv_two (n : Nat) : Int.tdiv (n : Int) 2 = ((n / 2 : Nat) : Int) := by
  rw [Int.tdiv_eq_ediv_of_nonneg (by omega)]
  omega

/-- **insdc.go `searchString` is membership on a sorted list**: no panic, `s ∈ ss`, for every fuel above
the length -/
theorem searchString_eq (s : List UInt8) : ∀ (fuel : Nat) (ss : List (List UInt8)), ss.length < fuel →
    SortedStrings ss → searchString fuel s ss = some (decide (s ∈ ss)) := by
  intro fuel
  induction fuel with
  | zero => intro ss h; omega
  | succ fuel ih =>
    intro ss hlen hs
    unfold searchString
    by_cases hne : (ss.length : Int) = 0
    · have : ss = [] := List.length_eq_zero_iff.mp (by omega)
      subst this
      rfl
    · rw [if_neg hne]
      have hk : ss.length / 2 < ss.length := by omega
      simp only [tdiv_two]
      rw [wsTo_eq, wsIdx_eq, wsFrom_eq, clTo_nat ss _ (by omega), clAt_lt ss _ hk,
        show ((ss.length / 2 : Nat) : Int) + 1 = ((ss.length / 2 + 1 : Nat) : Int) from rfl, clFrom_nat ss _ (by omega)]
      simp only [Option.bind_some]
      refine sorted_search_step wsStrLt wsStrLt_irrefl wsStrLt_antisymm s ss hs _ hk some _ _ ?_ ?_
      · rw [ih _ (by rw [List.length_take]; omega) (List.Pairwise.sublist (List.take_sublist _ _) hs)]; rfl
      · rw [ih _ (by rw [List.length_drop]; omega) (List.Pairwise.sublist (List.drop_sublist _ _) hs)]; rfl

/-- non-vacuity: a sorted list of three names (upper case sorts first: `EC_number` < `allele`), fuel 4 -/
example : SortedStrings [wsLit "EC_number", wsLit "allele", wsLit "note"] ∧
    searchString 4 (wsLit "allele") [wsLit "EC_number", wsLit "allele", wsLit "note"] = some true ∧
    searchString 4 (wsLit "gene") [wsLit "EC_number", wsLit "allele", wsLit "note"] = some false := by
  refine ⟨by unfold SortedStrings; decide +kernel, by decide +kernel, by decide +kernel⟩

end Gts.Bridge
