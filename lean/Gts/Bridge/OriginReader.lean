/-
  Bridge (C16): the ORIGIN reader `makeGenbankOriginParser` of seqio/genbank_subparsers.go.
  Its statements are recognised one by one (`originReaderFrame_eq`), and everything behind
  `state.Clear()` — the length guard `length > maxOriginResidues`, `Request(toOriginLength(length))`,
  the choice between the fast path `validateOrigin` and the slow path `slowGenBankOriginParser`, the
  check for a further sequence line — is REGENERATED as `Gen.originReaderTail` and proved equal,
  for every remaining input and EVERY declared length, to what the model's reader
  `Gts.Origin.originParser` does behind its `Pars.clear` (`readerTail`, `tailP_run`,
  `originParser_split`), the length guard of /repo be672b0 included: `originParser_gen` is the
  unguarded equality "model reader = hand-modelled head; regenerated tail".
-/
import Gts.Gen.OriginReader
import Gts.Bridge.OriginValidate
import Gts.Bridge.OriginSlow
import Gts.Lemmas.ModText
import Gts.Model.Origin
namespace Gts.Bridge
open Gts Gts.Origin
open Gts.Pars (Bytes Err P PS)

/-- the statements of the parser `makeGenbankOriginParser(length)` returns are the ones the model's
reader (`Origin.originParser`, `GenBankParse.originField`) follows: field name, rest of the line,
`Clear`, the guard `length > maxOriginResidues`, `Request(toOriginLength(length))`, the fast path
`validateOrigin` on the requested bytes and `Advance`, otherwise the slow path on the state, the
check for a further sequence line, the unparsed `Origin`.  (v0 = length, v1 = gb, v2 = depth,
v3 = state, v4 = result, v5 = the field-name parser, v6 = err, v7 = p, v8 = parser, v9 = c.)
A guard moved, dropped or weakened, or the two paths exchanged (seeded C16-e), changes this list. -/
theorem originReaderFrame_eq :
    Gen.originReaderFrame = [
      "v5 := genbankFieldNameParser(\"ORIGIN\", v2)",
      "return func(v3, v4) error",
      "if v6 := v5(v3, v4); v6 != nil { return v6 }",
      "pars.Line(v3, v4)",
      "v3.Clear()",
      "if v0 > maxOriginResidues { return pars.NewError(\"sequence is too long for an ORIGIN block\", v3.Position()) }",
      "if v6 := v3.Request(toOriginLength(v0)); v6 != nil { return pars.NewError(\"not enough bytes in state\", v3.Position()) }",
      "v7 := v3.Buffer()",
      "if validateOrigin(v7, v0, v3.Position()) == nil { v3.Advance() } else { v8 := slowGenBankOriginParser(v0); if v6 := v8(v3, v4); v6 != nil { return v6 }; v7 = v4.Token }",
      "if v9, v6 := pars.Next(v3); v6 == nil && v9 == spaceByte { return pars.NewError(\"sequence is longer than the declared length\", v3.Position()) }",
      "v1.Origin = &Origin{v7, false}",
      "return nil"] := rfl

/-- `if c, err := pars.Next(state); err == nil && c == ' '` as the model has it: a further line
starting with a blank is an error -/
def nextCheck (buf st' : Bytes) : Out (Bytes × Bytes) :=
  match st' with
  | 32 :: _ => .error .fail
  | _ => .ok (buf, st')

theorem match_blank {α : Type} (l : Bytes) (a b : α) :
    (match l with | 32 :: _ => a | _ => b) = if l.head? = some Gen.spaceByte then a else b := by
  cases l with
  | nil => rfl
  | cons c r =>
    by_cases hc : c = 32
    · subst hc; rfl
    · rw [if_neg (show ¬ (c :: r).head? = some Gen.spaceByte from fun h => hc (Option.some.inj h))]
      split
      · rename_i heq; exact absurd (List.cons.inj heq).1 hc
      · rfl

theorem nextCheck_eq (buf st' : Bytes) :
    nextCheck buf st' = if st'.head? = some Gen.spaceByte then .error .fail else .ok (buf, st') :=
  match_blank st' _ _

/-- what the model's reader `Origin.originParser` does behind `Pars.clear`, as a function of the
remaining input: the Origin buffer and the remaining input -/
def readerTail (length : Int) (st : Bytes) : Out (Bytes × Bytes) :=
  if length > 1000000020 then .error .fail else
  let n := Origin.toOriginLength length
  if n < 0 then .error .panic else
  if st.length < n.toNat then .error .fail else
  match (match Origin.validateOrigin (st.take n.toNat) length with
    | .ok () => .ok (st.take n.toNat, st.drop n.toNat)
    | .error .panic => .error .panic
    | .error .fail => Origin.slowOrigin st length : Out (Bytes × Bytes)) with
  | .error e => .error e
  | .ok (buf, st') => nextCheck buf st'

theorem head?_space (st : Bytes) : (st.head? = some Gen.spaceByte) ↔ ∃ r, st = 32 :: r := by
  cases st with
  | nil => simp
  | cons c r =>
    simp only [List.head?_cons, Option.some.injEq, List.cons.injEq]
    constructor
    · intro h; exact ⟨r, h, rfl⟩
    · rintro ⟨r', h, _⟩; exact h

theorem tail_check (b st' : Bytes) :
    (if st'.head? = some Gen.spaceByte then (.error .fail : Except Err (Bytes × Bool × Bytes)) else .ok (b, false, st')) =
      match nextCheck b st' with
      | .error e => .error e
      | .ok (b, r) => .ok (b, false, r) := by
  rw [nextCheck_eq]
  split <;> rfl

/-- **the ORIGIN reader behind `state.Clear()`, as written in genbank_subparsers.go** (with the
regenerated `validateOrigin` and `slowGenBankOriginParser` inside), run on the remaining input `st`:
the outcome is the model reader's (`readerTail`): a declared length beyond `maxOriginResidues` is an
error, otherwise the same Origin buffer (unparsed) and remaining input, the same error, the same
panic — every input, every declared length, any fuel that covers the trip counts.  The guard
dropped or weakened, the paths exchanged, `Advance` forgotten, the check for a further sequence
line dropped: each breaks this proof or `originReaderFrame_eq`. -/
theorem originReaderTail_eq (fuel : Nat) (length : Int) (st tok gb0 : Bytes) (gb1 : Bool) (h10 : 10 ≤ fuel)
    (hl : length ≤ 60 * (fuel : Int)) :
    Gen.originReaderTail fuel fmt9 splitLine length st tok gb0 gb1 =
      match readerTail length st with
      | .error e => .error e
      | .ok (b, r) => .ok (b, false, r) := by
  unfold Gen.originReaderTail readerTail
  rw [toOriginLength_eq]
  dsimp only
  by_cases hg : length > Gen.maxOriginResidues
  · rw [if_pos hg, if_pos (show length > 1000000020 from hg)]
  · rw [if_neg hg, if_neg (show ¬ length > 1000000020 from hg)]
    by_cases hneg : Origin.toOriginLength length < 0
    · rw [if_pos hneg, if_neg (fun h => Int.not_lt.mpr (Int.natCast_nonneg _) (Int.lt_trans h hneg))]
      unfold Gen.goSliceTo
      rw [if_neg (fun h => Int.not_lt.mpr h.1 hneg)]
    · rw [if_neg hneg]
      obtain ⟨n, hn⟩ := Int.eq_ofNat_of_zero_le (Int.not_lt.mp hneg)
      rw [hn, Int.toNat_natCast]
      by_cases hshort : st.length < n
      · rw [if_pos hshort, if_pos (Int.ofNat_lt.mpr hshort)]
      · rw [if_neg hshort, if_neg (mt Int.ofNat_lt.mp hshort), Gen.goSliceTo_eq, clTo_nat st n (Nat.not_lt.mp hshort)]
        dsimp only
        rw [validateOrigin_eq fuel _ _ h10 hl, slowGenBankOriginParser_eq fuel st tok length h10 hl]
        cases Origin.validateOrigin (st.take n) length with
        | ok u => exact tail_check _ _
        | error e =>
          cases e with
          | panic => rfl
          | fail =>
            dsimp only
            cases Origin.slowOrigin st length with
            | error e => rfl
            | ok r => obtain ⟨b, st'⟩ := r; exact tail_check _ _

/-- the last statement of `Origin.originParser`: a further line starting with a blank is an error -/
def nextP (buf : Bytes) : P Bytes := do
  match (← Pars.getS).rest with
  | 32 :: _ => Pars.fail
  | _ => pure buf

/-- the rest of `Origin.originParser` behind `Pars.clear` (its text, with `Pars.request` and `nextP`
for the two blocks they abbreviate) -/
def tailP (length : Int) : P Bytes := do
  if length > 1000000020 then Pars.fail
  let n := Origin.toOriginLength length
  if n < 0 then Pars.panic
  let p ← Pars.request n.toNat
  let buf ← (match Origin.validateOrigin p length with
    | .ok () => do Pars.advanceN n.toNat; pure p
    | .error .panic => Pars.panic
    | .error .fail => do
      let s ← Pars.getS
      match Origin.slowOrigin s.rest length with
      | .error .panic => Pars.panic
      | .error .fail => Pars.fail
      | .ok (tok, st') => do Pars.setS { s with rest := st' }; pure tok : P Bytes)
  nextP buf

theorem originParser_split (length depth : Int) :
    Origin.originParser length depth = (do
      Origin.fieldName [79, 82, 73, 71, 73, 78] depth
      let _ ← Pars.line
      Pars.clear
      tailP length) := rfl

theorem getS_bind_run {α} (k : PS → P α) (s : PS) : (Pars.getS >>= k) s = k s s := rfl

theorem nextP_run (buf : Bytes) (s : PS) :
    match nextCheck buf s.rest with
    | .ok (b, r) => nextP buf s = (.ok b, { s with rest := r })
    | .error e => (nextP buf s).1 = .error e := by
  rw [nextCheck_eq, show nextP buf s = _ from
    (congrFun (match_blank s.rest (Pars.fail : P Bytes) (pure buf)) s).trans (apply_ite (fun f : P Bytes => f s) _ _ _)]
  by_cases h : s.rest.head? = some Gen.spaceByte
  · rw [if_pos h, if_pos h]; exact rfl
  · rw [if_neg h, if_neg h]; exact rfl

/-- `tailP` run on a state computes `readerTail` of its remaining input (and leaves the saved
positions alone) -/
theorem tailP_run (length : Int) (s : PS) :
    match readerTail length s.rest with
    | .ok (b, r) => tailP length s = (.ok b, { s with rest := r })
    | .error e => (tailP length s).1 = .error e := by
  unfold tailP readerTail
  by_cases hg : length > 1000000020
  · rw [if_pos hg, if_pos hg]; rfl
  rw [if_neg hg, if_neg hg]
  dsimp only
  by_cases hneg : Origin.toOriginLength length < 0
  · rw [if_pos hneg, if_pos hneg]; rfl
  rw [if_neg hneg, if_neg hneg, P.bind_run, Pars.Run.request_run]
  by_cases hshort : s.rest.length < (Origin.toOriginLength length).toNat
  · rw [if_pos hshort, if_pos hshort]
  rw [if_neg hshort, if_neg hshort]
  dsimp only
  rw [P.bind_run]
  cases Origin.validateOrigin (s.rest.take (Origin.toOriginLength length).toNat) length with
  | ok u => exact nextP_run _ { s with rest := s.rest.drop (Origin.toOriginLength length).toNat }
  | error e =>
    cases e with
    | panic => rfl
    | fail =>
      dsimp only
      rw [getS_bind_run]
      cases Origin.slowOrigin s.rest length with
      | error e2 => cases e2 <;> rfl
      | ok res =>
        obtain ⟨tok, st'⟩ := res
        exact nextP_run tok { s with rest := st' }

/-- the hand-modelled part of the reader in front of the regenerated tail: field name, rest of the
`ORIGIN` line, `Clear` -/
def headP (depth : Int) : P Unit := do
  Origin.fieldName [79, 82, 73, 71, 73, 78] depth
  let _ ← Pars.line
  Pars.clear

/-- **the model's ORIGIN reader `Origin.originParser` is the hand-modelled head (field name, rest
of the line, `Clear`) followed by the REGENERATED rest of `makeGenbankOriginParser`** — for every
state and EVERY declared length (the length guard of be672b0 is part of both sides), any fuel that
covers the trip counts: same Origin buffer and remaining input, same error, same panic. -/
theorem originParser_gen (fuel : Nat) (length depth : Int) (tok gb0 : Bytes) (gb1 : Bool)
    (h10 : 10 ≤ fuel) (hl : length ≤ 60 * (fuel : Int)) (s : PS) :
    match headP depth s with
    | (.error e, _) => (Origin.originParser length depth s).1 = .error e
    | (.ok (), s1) =>
      match Gen.originReaderTail fuel fmt9 splitLine length s1.rest tok gb0 gb1 with
      | .ok (b, _, r) => Origin.originParser length depth s = (.ok b, { s1 with rest := r })
      | .error e => (Origin.originParser length depth s).1 = .error e := by
  have hsplit : Origin.originParser length depth = (headP depth >>= fun _ => tailP length) := by
    rw [originParser_split]; simp only [headP, bind_assoc]
  rw [hsplit]
  simp only [P.bind_run]
  rcases headP depth s with ⟨r, s1⟩
  cases r with
  | error e => rfl
  | ok u =>
    cases u
    dsimp only
    rw [originReaderTail_eq fuel length s1.rest tok gb0 gb1 h10 hl]
    have ht := tailP_run length s1
    generalize readerTail length s1.rest = m at ht ⊢
    rcases m with e | ⟨b, r⟩ <;> exact ht

/-- a two-line record tail through the regenerated reader: fast path, slow path (CRLF), a block
longer than declared, a declared length beyond the guard -/
example :
    Gen.originReaderTail 10 fmt9 splitLine 1 [32,32,32,32,32,32,32,32,49,32,97,10, 47,47,10] [] [] false
      = .ok ([32,32,32,32,32,32,32,32,49,32,97,10], false, [47,47,10])
    ∧ Gen.originReaderTail 10 fmt9 splitLine 1 [32,32,32,32,32,32,32,32,49,32,97,13,10, 47,47,10] [] [] false
      = .ok ([32,32,32,32,32,32,32,32,49,32,97,10], false, [47,47,10])
    ∧ Gen.originReaderTail 10 fmt9 splitLine 1 [32,32,32,32,32,32,32,32,49,32,97,10, 32,32,32,32,32,32,32,32,50,32,98,10] [] [] false
      = .error .fail
    ∧ Gen.originReaderTail 10 fmt9 splitLine 1000000021 [] [] [] false = .error .fail := by
  decide +kernel

end Gts.Bridge
