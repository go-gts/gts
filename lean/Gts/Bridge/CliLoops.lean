/-
  Bridge, common part: the guards on `len(xs)` and one generic lemma per loop SHAPE of the CLI steps and of
  locator.go (fill by index, fill by a counter in the state; the fold is `Go.foldLoop some` of Gts/Bridge/Loops.lean;
  the checked slice operations of the prelude `Gts/Gen/CliList.lean`: Gts/Lemmas/GoSlice.lean).  The bridges
  `Gts/Bridge/Cli*.lean`, `Gts/Bridge/Locator.lean` show that a generated loop has one of these
  shapes (`rfl`: renamed locals do not matter, a changed index, order or guard does) and then use the
  generic lemma.
-/
import Gts.Lemmas.GoSlice
import Gts.Bridge.Loops
namespace Gts.Bridge
open Gts

theorem clMake_nat (α : Type) [Inhabited α] (n : Nat) :
    Gen.clMake α (n : Int) = some (List.replicate n default) := by
  simp [Gen.clMake]

/-! ### guards on `len(xs)`: the forms a harmless rewrite may give them, normalised

(`simp only [gt_iff_lt, ge_iff_le, …]` with these turns every form into the one the model uses) -/

theorem guard_zero_forms (n : Nat) :
    (((n : Int) = 0) = (n = 0)) ∧ (((n : Int) < 1) = (n = 0)) ∧ (((n : Int) ≤ 0) = (n = 0)) ∧
    ((0 = (n : Int)) = (n = 0)) := by
  refine ⟨?_, ?_, ?_, ?_⟩ <;> apply propext <;> omega

theorem guard_pos_forms (n : Nat) :
    ((0 < (n : Int)) = (n ≠ 0)) ∧ (((n : Int) ≠ 0) = (n ≠ 0)) ∧ ((1 ≤ (n : Int)) = (n ≠ 0)) ∧
    ((0 ≠ (n : Int)) = (n ≠ 0)) := by
  refine ⟨?_, ?_, ?_, ?_⟩ <;> apply propext <;> omega

/-- "exactly one element, and `c`" on a non-empty slice -/
theorem guard_one_forms (n : Nat) (c : Prop) (hn : 1 ≤ n) :
    ((((n : Int) = 1) ∧ c) = (n = 1 ∧ c)) ∧ ((c ∧ ((n : Int) = 1)) = (n = 1 ∧ c)) ∧
    ((((n : Int) ≤ 1) ∧ c) = (n = 1 ∧ c)) ∧ ((c ∧ ((n : Int) ≤ 1)) = (n = 1 ∧ c)) ∧
    ((((n : Int) < 2) ∧ c) = (n = 1 ∧ c)) ∧ ((c ∧ ((n : Int) < 2)) = (n = 1 ∧ c)) ∧
    (((1 = (n : Int)) ∧ c) = (n = 1 ∧ c)) ∧ ((c ∧ (1 = (n : Int))) = (n = 1 ∧ c)) := by
  refine ⟨?_, ?_, ?_, ?_, ?_, ?_, ?_, ?_⟩ <;> apply propext <;>
    simp only [and_comm (a := c), and_congr_left_iff] <;> omega

/-- a loop of the shape `for _, x := range xs { st = f(st, x) }` whose step can fail -/
theorem foldLoopM_spec {α σ : Type} (loop : List α → σ → Option σ) (f : σ → α → σ)
    (hnil : ∀ st, loop [] st = some st)
    (hcons : ∀ a rest st, loop (a :: rest) st = (some (f st a)).bind (loop rest)) :
    ∀ xs st, loop xs st = some (xs.foldl f st) :=
  Go.foldLoop some loop f hnil hcons

/-- a loop of the shape `for _, x := range xs { out = append(out, h(x)) }` appends the images -/
theorem appendLoop_spec {α β : Type} (loop : List α → List β → Option (List β)) (h : α → β)
    (hnil : ∀ w, loop [] w = some w)
    (hcons : ∀ a rest w, loop (a :: rest) w = loop rest (w ++ [h a])) :
    ∀ xs w, loop xs w = some (w ++ xs.map h) := by
  intro xs
  induction xs with
  | nil => intro w; simp [hnil]
  | cons a rest ih => intro w; rw [hcons, ih]; simp

/-- a loop of the shape `for _, x := range xs { if p(x) { out = append(out, h(x)) } }` -/
theorem appendIfLoop_spec {α β : Type} (loop : List α → List β → Option (List β)) (p : α → Bool) (h : α → β)
    (hnil : ∀ w, loop [] w = some w)
    (hcons : ∀ a rest w, loop (a :: rest) w = loop rest (if p a then w ++ [h a] else w)) :
    ∀ xs w, loop xs w = some (w ++ (xs.filter p).map h) := by
  intro xs
  induction xs with
  | nil => intro w; simp [hnil]
  | cons a rest ih =>
    intro w; rw [hcons, ih]
    cases hp : p a <;> simp [hp]

/-- a loop of the shape `for i, x := range xs { ys[i+off] = g(x) }`, entered with `ys = pre ++ suf ++ tl`,
`len(pre) = i + off`, `len(suf) = len(xs)`: no store is out of range and the cells of `suf` are
overwritten with the images of `xs` (invariant: the cells before `i + off` are final) -/
theorem fillLoop_spec {α β : Type} (loop : List α → Int → List β → Option (List β)) (g : α → β) (off : Int)
    (hnil : ∀ i ys, loop [] i ys = some ys)
    (hcons : ∀ a rest i ys, loop (a :: rest) i ys =
      (Gen.clPut ys (i + off) (g a)).bind fun ys' => loop rest (i + 1) ys') :
    ∀ (xs : List α) (i : Int) (pre suf tl : List β), (pre.length : Int) = i + off → suf.length = xs.length →
      loop xs i (pre ++ suf ++ tl) = some (pre ++ xs.map g ++ tl) := by
  intro xs
  induction xs with
  | nil =>
    intro i pre suf tl _ hs
    have : suf = [] := List.eq_nil_of_length_eq_zero (by simpa using hs)
    simp [hnil, this]
  | cons a rest ih =>
    intro i pre suf tl hp hs
    match suf, hs with
    | b :: suf', hs =>
      rw [hcons, ← hp, List.append_assoc, List.cons_append, clPut_append_length, Option.bind_some]
      have := ih (i + 1) (pre ++ [g a]) suf' tl (by simp only [List.length_append, List.length_cons, List.length_nil]; omega)
        (by simpa using hs)
      simpa only [List.append_assoc, List.map_cons, List.cons_append, List.nil_append] using this

/-- a fill loop entered at index 0 on `make([]T, len(xs))` collects the images, in order, without an
index out of range -/
theorem fillLoop_fresh {α β : Type} [Inhabited β] (loop : List α → Int → List β → Option (List β)) (g : α → β)
    (hnil : ∀ i ys, loop [] i ys = some ys)
    (hcons : ∀ a rest i ys, loop (a :: rest) i ys =
      (Gen.clPut ys (i + 0) (g a)).bind fun ys' => loop rest (i + 1) ys') (xs : List α) :
    loop xs 0 (List.replicate xs.length default) = some (xs.map g) := by
  simpa using fillLoop_spec loop g 0 hnil hcons xs 0 [] (List.replicate xs.length default) [] (by simp) (by simp)

/-- a loop of the shape `for _, x := range xs { ys[i] = g(x); i++ }` (the counter is part of the loop
state), entered with `ys = pre ++ suf ++ tl`, `i = len(pre)`, `len(suf) = len(xs)` -/
theorem fillCountLoop_spec {α β : Type} (loop : List α → List β → Int → Option (List β × Int)) (g : α → β)
    (hnil : ∀ ys i, loop [] ys i = some (ys, i))
    (hcons : ∀ a rest ys i, loop (a :: rest) ys i =
      (Gen.clPut ys i (g a)).bind fun ys' => loop rest ys' (i + 1)) :
    ∀ (xs : List α) (pre suf tl : List β), suf.length = xs.length →
      loop xs (pre ++ suf ++ tl) (pre.length : Int) =
        some (pre ++ xs.map g ++ tl, ((pre.length + xs.length : Nat) : Int)) := by
  intro xs
  induction xs with
  | nil =>
    intro pre suf tl hs
    have : suf = [] := List.eq_nil_of_length_eq_zero (by simpa using hs)
    simp [hnil, this]
  | cons a rest ih =>
    intro pre suf tl hs
    match suf, hs with
    | b :: suf', hs =>
      rw [hcons, List.append_assoc, List.cons_append, clPut_append_length, Option.bind_some]
      have := ih (pre ++ [g a]) suf' tl (by simpa using hs)
      simp only [List.append_assoc, List.map_cons, List.cons_append, List.nil_append,
        List.length_append, List.length_cons, List.length_nil] at this ⊢
      rw [Nat.zero_add, Int.natCast_add, Int.natCast_one] at this
      rw [this]
      congr 2
      omega

/-- a loop of the shape `for i, x := range ys { ys[i] = g(x) }` — the body stores into the slice it
ranges over, `x` is read live —, entered at `i = len(pre)` on `ys = pre ++ suf` with `len(suf)` iterations
left: no read or store is out of range and `suf` is replaced by its images (every cell is read
before it is written) -/
theorem mapInPlaceLoop_spec {γ β : Type} (loop : List γ → Int → List β → Option (List β)) (g : β → β)
    (hnil : ∀ i ys, loop [] i ys = some ys)
    (hcons : ∀ c rest i ys, loop (c :: rest) i ys =
      (Gen.clAt ys i).bind fun x => (Gen.clPut ys i (g x)).bind fun ys' => loop rest (i + 1) ys') :
    ∀ (cnt : List γ) (pre suf : List β), cnt.length = suf.length →
      loop cnt (pre.length : Int) (pre ++ suf) = some (pre ++ suf.map g) := by
  intro cnt
  induction cnt with
  | nil =>
    intro pre suf hs
    have : suf = [] := List.eq_nil_of_length_eq_zero (by simpa using hs.symm)
    simp [hnil, this]
  | cons c rest ih =>
    intro pre suf hs
    match suf, hs with
    | b :: suf', hs =>
      rw [hcons, clAt_append_length, Option.bind_some, clPut_append_length, Option.bind_some]
      have := ih (pre ++ [g b]) suf' (by simpa using hs)
      simp only [List.append_assoc, List.cons_append, List.nil_append,
        List.length_append, List.length_cons, List.length_nil] at this
      rw [Nat.zero_add, Int.natCast_add, Int.natCast_one] at this
      rw [this]
      simp

end Gts.Bridge
