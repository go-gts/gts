/-
  Bridge: the definitions REGENERATED from the Go source by go2lean (Gts/Gen/Arith.lean) are
  equal to the hand-written model the property theorems are about.  Re-checked on every run:
  a changed boundary condition in the Go code changes `Gts.Gen.*` and breaks these proofs,
  a harmless rewrite (renamed locals, re-ordered independent statements) does not.
-/
import Gts.Gen.Arith
import Gts.Model.Loc
namespace Gts.Bridge
open Gts

theorem gmax_eq : Gen.gmax = Loc.gmax := by
  funext i j; simp [Gen.gmax, Loc.gmax]

theorem gmin_eq : Gen.gmin = Loc.gmin := by
  funext i j; simp [Gen.gmin, Loc.gmin]

theorem rangeCompare_eq : Gen.rangeCompare = Loc.rangeCompare := by
  funext s1 e1 s2 e2
  simp only [Gen.rangeCompare, Loc.rangeCompare]
  by_cases h1 : e1 < s1 <;> by_cases h2 : e2 < s2 <;> simp [h1, h2]

theorem rangeWithin_eq : Gen.rangeWithin = Loc.rangeWithin := by
  funext s e l u
  simp only [Gen.rangeWithin, Loc.rangeWithin]
  by_cases h1 : e < s <;> by_cases h2 : u < l <;> simp [h1, h2]

theorem rangeOverlap_eq : Gen.rangeOverlap = Loc.rangeOverlap := by
  funext s e l u
  simp only [Gen.rangeOverlap, Loc.rangeOverlap]
  by_cases h1 : e < s <;> by_cases h2 : u < l <;> simp [h1, h2]

theorem betweenExpand_eq : Gen.betweenExpand = Loc.betweenExpand := by
  funext p i n
  simp only [Gen.betweenExpand, Loc.betweenExpand, gmax_eq]

theorem pointExpand_eq : Gen.pointExpand = Loc.pointExpand := by
  funext p i n
  -- the generated condition is the model's, bracketed to the left
  simp only [Gen.pointExpand, Loc.pointExpand, gmax_eq, and_assoc]

theorem rangedExpand_eq : Gen.rangedExpand = Loc.rangedExpand := by
  funext s e p5 p3 i n
  simp only [Gen.rangedExpand, Loc.rangedExpand, gmax_eq]
  -- the two sides differ only in how the partial flags are written
  by_cases hn : n < 0
  · by_cases a : i ≤ s ∧ s < i - n <;> by_cases b : i < e ∧ e ≤ i - n <;>
      simp only [hn, a, b, and_self, and_true, true_and, if_true, if_false]
  · simp only [hn, false_and, if_false]

theorem ambiguousExpand_eq : Gen.ambiguousExpand = Loc.ambiguousExpand := by
  funext s e i n
  simp only [Gen.ambiguousExpand, Loc.ambiguousExpand, gmax_eq]

theorem rangedShift_eq : Gen.rangedShift = Loc.rangedShift := by
  funext s e p5 p3 i n
  simp only [Gen.rangedShift, Loc.rangedShift, rangedExpand_eq]
  cases p5 <;> cases p3 <;> rfl

theorem ambiguousShift_eq : Gen.ambiguousShift = Loc.ambiguousShift := by
  funext s e i n
  simp only [Gen.ambiguousShift, Loc.ambiguousShift, ambiguousExpand_eq]

theorem betweenReverse_eq (p L : Int) : Gen.betweenReverse p L = Loc.reverse (.between p) L := by
  simp [Gen.betweenReverse, Loc.reverse]

theorem pointReverse_eq (p L : Int) : Gen.pointReverse p L = Loc.reverse (.point p) L := by
  simp [Gen.pointReverse, Loc.reverse]

theorem ambiguousReverse_eq (s e L : Int) : Gen.ambiguousReverse s e L = Loc.reverse (.ambiguous s e) L := by
  simp [Gen.ambiguousReverse, Loc.reverse]

end Gts.Bridge
