/-
  C07 / C01 bridge (DESIGN.md 4.1a): `tryAllParsers`, the dispatcher of the GenBank reader, REGENERATED
  statement by statement from seqio/genbank.go onto the model of the go-pars state
  (`Gts/Gen/GbReaderDispatch.lean`, generator go2lean/gbreaderdispatch.go), IS the dispatch of the
  hand-written model (`GenBank.tryList` over the first eleven sub-parsers, `GenBank.tryAll` with the
  unknown-field parser last) — for EVERY list of sub-parsers, every record and every state of the
  saved positions, leaked frames included.

  The generated function takes its sub-parsers as parameters `σ → P (σ × Option ε)` (`none` = the
  parser returned nil).  A sub-parser of the model answers `(record, ok)` or fails; `asGoParser` reads it
  as such a parameter: a success is `none`, a failure — with or without a changed record — is the
  error tag of its position (`field`: one of the first eleven, `extra`: the last one, whose error the
  code makes `errGenBankExtra`).  `asStep` is what `GenBankParser` does with the dispatcher's answer:
  nil → the field is parsed; an error whose cause is `errGenBankExtra` → skip the line; any other
  error → the record fails.

  What this rules out without looking at a single test: `Drop` and `Pop` exchanged, the `Pushed` test
  dropped or moved, `Push` behind the call, a `Pop` on the success path … each changes the generated
  function, and `tryAllParsers_eq` stops being provable (66de3a0 was a defect of exactly this
  protocol, on the sub-parser's side: `reader_stateOps`).
-/
import Gts.Gen.GbReaderDispatch
import Gts.Lemmas.ParsRun
namespace Gts.Bridge
open Gts
open Gts.Pars
open Gts.GenBank

/-- the two kinds of error `GenBankParser` tells apart (`dig(err) != errGenBankExtra`) -/
inductive DispErr where
  | field   -- an error of one of the first eleven sub-parsers
  | extra   -- `errGenBankExtra`, the error of `genbankExtraFieldParser`
  deriving DecidableEq, Repr

/-- a sub-parser of the model read as a parser the generated dispatcher can call: its failure — before
or after it changed the record — is the error `e` -/
def asGoParser (e : DispErr) (q : Sub → P (Sub × Bool)) : Gen.GoParser Sub DispErr := fun s => do
  match ← attempt (q s) with
  | some (s', true) => pure (s', none)
  | some (s', false) => pure (s', some e)
  | none => pure (s, some e)

/-- what `GenBankParser` does with the dispatcher's answer -/
def asStep : Sub × Option DispErr → P Step
  | (s, none) => pure (.parsed s)
  | (s, some .extra) => pure (.skip s)
  | (_, some .field) => fail

theorem dispExt {α} {p q : P α} (h : ∀ s, p s = q s) : p = q := funext h

/-- the incoming value of the named result does not matter once there is a parser to try -/
theorem tryAllParsersRange_cons_err {σ ε} (p : Gen.GoParser σ ε) (rest : List (Gen.GoParser σ ε)) (w : σ)
    (e1 e2 : Option ε) :
    Gen.tryAllParsersRange (p :: rest) w e1 = Gen.tryAllParsersRange (p :: rest) w e2 := by
  simp only [Gen.tryAllParsersRange]

/-- the state after `Pop` -/
def dispPopped (st : PS) : PS := match st.stk with | [] => st | r :: stk => { rest := r, stk := stk }

theorem dispPop_run (st : PS) : pop st = (.ok (), dispPopped st) := by
  simp only [pop, dispPopped, P.bind_run, getS]
  cases st.stk <;> rfl

/-- one iteration of the GENERATED loop, as a run equation -/
theorem tryAllParsersRange_step {σ ε} (p : Gen.GoParser σ ε) (rest : List (Gen.GoParser σ ε)) (w : σ)
    (e : Option ε) (st : PS) :
    Gen.tryAllParsersRange (p :: rest) w e st =
      match p w { rest := st.rest, stk := st.rest :: st.stk } with
      | (.ok (w', none), st1) => (.ok (w', none), { st1 with stk := st1.stk.drop 1 })
      | (.ok (w', some err), st1) =>
        if st1.stk.isEmpty then (.ok (w', some err), st1)
        else Gen.tryAllParsersRange rest w' (some err) (dispPopped st1)
      | (.error e, st1) => (.error e, st1) := by
  simp only [Gen.tryAllParsersRange, P.bind_run, push, getS, setS]
  rcases p w { rest := st.rest, stk := st.rest :: st.stk } with ⟨r, st1⟩
  cases r with
  | error e => rfl
  | ok v =>
    rcases v with ⟨w', err⟩
    cases err with
    | none => simp only [Option.isNone_none, if_true, P.bind_run, Pars.drop, getS, setS, P.pure_run]
    | some err =>
      simp only [Option.isNone_some, Bool.false_eq_true, if_false, P.bind_run, pushed, getS, P.pure_run]
      cases st1.stk.isEmpty <;>
        simp only [Bool.not_false, Bool.not_true, Bool.false_eq_true, if_false, if_true, P.bind_run, dispPop_run, P.pure_run]

/-- one attempt of the MODEL's `tryList`, as a run equation -/
theorem tryList_step (q : Sub → P (Sub × Bool)) (qs : List (Sub → P (Sub × Bool))) (s : Sub) (st : PS) :
    tryList (q :: qs) s st =
      match q s { rest := st.rest, stk := st.rest :: st.stk } with
      | (.ok (s', true), st1) => (.ok (s', true), { st1 with stk := st1.stk.drop 1 })
      | (.ok (s', false), st1) =>
        if st1.stk.isEmpty then (.error .fail, st1) else tryList qs s' (dispPopped st1)
      | (.error .fail, st1) =>
        if st1.stk.isEmpty then (.error .fail, st1) else tryList qs s (dispPopped st1)
      | (.error .panic, st1) => (.error .panic, st1) := by
  simp only [tryList, P.bind_run, push, getS, setS, attempt_run]
  rcases q s { rest := st.rest, stk := st.rest :: st.stk } with ⟨(_ | _) | ⟨s', _ | _⟩, st1⟩
  case error.panic => rfl
  case ok.true => simp only [P.bind_run, Pars.drop, getS, setS, P.pure_run]
  -- a failure, hard or soft: go on with the next parser if a saved position is left
  all_goals
    simp only [pushed, P.bind_run, getS, P.pure_run]
    cases st1.stk.isEmpty <;>
      simp only [Bool.not_false, Bool.not_true, Bool.false_eq_true, if_false, if_true, P.bind_run, dispPop_run, Pars.fail]

/-- a model sub-parser read as a Go parser, as a run equation -/
theorem asGoParser_run (e : DispErr) (q : Sub → P (Sub × Bool)) (s : Sub) (st : PS) :
    asGoParser e q s st =
      match q s st with
      | (.ok (s', true), st1) => (.ok (s', none), st1)
      | (.ok (s', false), st1) => (.ok (s', some e), st1)
      | (.error .fail, st1) => (.ok (s, some e), st1)
      | (.error .panic, st1) => (.error .panic, st1) := by
  simp only [asGoParser, P.bind_run, attempt_run]
  rcases q s st with ⟨r, st1⟩
  cases r with
  | error e => cases e <;> rfl
  | ok v =>
    rcases v with ⟨s', b⟩
    cases b <;> rfl

/-- THE FIRST ELEVEN: the generated loop over model sub-parsers followed by any further parser `x`
is the model's `tryList`: the field that parses is returned with its frame dropped; a failure with
nothing pushed any more ends the dispatch with an error; when all failed softly the loop goes on
with `x` on the record as the failing parsers left it -/
theorem tryAllParsersRange_fields (x : Gen.GoParser Sub DispErr) (rest : List (Gen.GoParser Sub DispErr)) :
    ∀ (qs : List (Sub → P (Sub × Bool))) (s : Sub) (e0 : Option DispErr) (st : PS),
      (Gen.tryAllParsersRange (qs.map (asGoParser .field) ++ x :: rest) s e0 >>= asStep) st =
        (do let r ← tryList qs s
            if r.2 then pure (Step.parsed r.1)
            else Gen.tryAllParsersRange (x :: rest) r.1 none >>= asStep) st
  | [], s, e0, st => by
    simp only [List.map_nil, List.nil_append, tryList, P.bind_run, P.pure_run, Bool.false_eq_true, if_false]
    rw [tryAllParsersRange_cons_err x rest s e0 none]
  | q :: qs, s, e0, st => by
    have ih := tryAllParsersRange_fields x rest qs
    simp only [P.bind_run] at ih ⊢
    simp only [List.map_cons, List.cons_append]
    rw [tryAllParsersRange_step, tryList_step, asGoParser_run]
    rcases q s { rest := st.rest, stk := st.rest :: st.stk } with ⟨(_ | _) | ⟨s', _ | _⟩, st1⟩
    case error.panic => rfl
    case ok.true => simp only [asStep, P.pure_run, if_true]
    -- a failure, hard or soft: both sides go on with the rest of the list, or both give up
    all_goals
      simp only
      cases st1.stk.isEmpty
      · simp only [Bool.false_eq_true, if_false]; exact ih _ _ _
      · simp only [if_true, asStep, Pars.fail]

/-- `genbankExtraFieldParser` answers "parsed" whenever it answers at all -/
theorem extraField_ok_true (depth : Nat) (f f' : Fields) (b : Bool) (st st1 : PS)
    (h : extraField depth f st = (.ok (f', b), st1)) : b = true := by
  simp only [extraField, P.bind_run, P.pure_run] at h
  split at h
  · split at h
    · split at h
      · cases h; rfl
      · cases h
    · cases h
  · cases h

/-- THE LAST ONE: the generated loop on the unknown-field parser alone is the tail of the model's
`tryAll`: parsed → the frame is dropped; failed → `errGenBankExtra`, with the frame popped when there
still is one (a hard failure of this parser, too, only makes `GenBankParser` skip the line) -/
theorem tryAllParsersRange_extra (depth : Nat) (s : Sub) (st : PS) :
    (Gen.tryAllParsersRange [asGoParser .extra (liftF (extraField depth))] s none >>= asStep) st =
      (do let (f, t, o, r) := s
          push
          match ← attempt (extraField depth f) with
          | some (f', _) => do drop; pure (Step.parsed (f', t, o, r))
          | none => do pop; pure (Step.skip s)) st := by
  obtain ⟨f, t, o, r⟩ := s
  simp only [P.bind_run]
  rw [tryAllParsersRange_step, asGoParser_run]
  simp only [liftF, P.bind_run, push, getS, setS, attempt_run, P.pure_run]
  rcases hx : extraField depth f { rest := st.rest, stk := st.rest :: st.stk } with ⟨res, st1⟩
  cases res with
  | error e =>
    cases e with
    | panic => rfl
    | fail =>
      simp only [P.bind_run, dispPop_run, P.pure_run]
      cases h : st1.stk.isEmpty
      · simp only [Bool.false_eq_true, if_false, Gen.tryAllParsersRange, P.pure_run, asStep]
      · simp only [if_true, asStep, P.pure_run]
        rw [dispPopped, List.isEmpty_iff.mp h]
  | ok v =>
    rcases v with ⟨f', b⟩
    have hb := extraField_ok_true depth f f' b _ _ hx
    subst hb
    simp only [Pars.drop, P.bind_run, getS, setS, P.pure_run, asStep]

/-- THE DISPATCH.  `tryAllParsers` as regenerated from seqio/genbank.go, handed the model's twelve
sub-parsers in the order of `GenBankParser`'s `generators` list (`Gts.Bridge.reader_dispatch`), and read
the way `GenBankParser` reads its answer, IS the model's `tryAll` — for every declared length, depth,
record and state of the saved positions -/
theorem tryAllParsers_eq (length : Int) (depth : Nat) (s : Sub) :
    (Gen.tryAllParsers ((fieldParsers length depth).map (asGoParser .field) ++
        [asGoParser .extra (liftF (extraField depth))]) s >>= asStep) = tryAll length depth s := by
  apply dispExt; intro st
  simp only [Gen.tryAllParsers]
  rw [tryAllParsersRange_fields]
  simp only [tryAll, P.bind_run]
  rcases tryList (fieldParsers length depth) s st with ⟨res, st1⟩
  cases res with
  | error e => rfl
  | ok v =>
    rcases v with ⟨s', b⟩
    cases b with
    | true => rfl
    | false =>
      simp only [Bool.false_eq_true, if_false]
      obtain ⟨f, t, o, r⟩ := s'
      rw [tryAllParsersRange_extra depth (f, t, o, r) st1]
      rfl

/-- … and for ANY list of sub-parsers (not only the twelve): the generated dispatcher over
`qs ++ [x]` is `tryList qs` followed by the generated attempt of `x` -/
theorem tryAllParsers_general (qs : List (Sub → P (Sub × Bool))) (x : Gen.GoParser Sub DispErr) (s : Sub) :
    (Gen.tryAllParsers (qs.map (asGoParser .field) ++ [x]) s >>= asStep) =
      (do let r ← tryList qs s
          if r.2 then pure (Step.parsed r.1)
          else Gen.tryAllParsersRange [x] r.1 none >>= asStep) := by
  apply dispExt; intro st
  simp only [Gen.tryAllParsers]
  exact tryAllParsersRange_fields x [] qs s none st

end Gts.Bridge
