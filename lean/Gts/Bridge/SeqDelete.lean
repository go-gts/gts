/-
  Bridge: `gts.Delete` and `gts.Erase`, regenerated from sequence.go by go2lean (Gts/Gen/SeqDelete.lean:
  statement by statement; the loop `for i, f := range ff { ff[i].Loc = f.Loc.Expand(offset, -length) }`
  LITERALLY over a counter with live reads; `make`, the two slice expressions and the two `copy` calls as
  checked operations), are the hand-written model's `Seq.delete` and `Seq.erase` (Gts/Model/Seq.lean).

  Where Go panics: `make([]byte, len(q)-length)` for `length > len(q)`, `p[:offset]`, `q[:offset]`,
  `p[offset:]`, `q[offset+length:]` for bounds out of range.  With a slice END beyond `len` read as a panic
  (Gts/Gen/GoBytes.lean) the no-panic condition is exactly `0 ≤ offset ≤ len(seq)` and
  `0 ≤ offset + length ≤ len(seq)` (`length` may be negative: the code then duplicates a stretch, and so does
  the model).  The model is total outside (`List.take` / `List.drop` clamp), so equality with the model is
  stated under that condition and the panic is stated for every other input (`…_panic`).

  Metadata: `Delete` hands `tryExpand(info, offset, -length)` to `WithInfo`; `Erase` leaves the rest to `Delete`.
-/
import Gts.Gen.SeqDelete
import Gts.Bridge.SeqBase
import Gts.Bridge.SeqFilter
import Gts.Bridge.LocRec
import Gts.Lemmas.GoBytes
namespace Gts.Bridge
open Gts

/-- the no-panic condition of `gts.Delete` / `gts.Erase` -/
def deleteOk (len offset length : Int) : Prop :=
  0 ≤ offset ∧ offset ≤ len ∧ 0 ≤ offset + length ∧ offset + length ≤ len

instance (len offset length : Int) : Decidable (deleteOk len offset length) := by
  unfold deleteOk; infer_instance

theorem seqDeleteLoop_eq (offset length : Int) (ff : List Feature) :
    Gen.seqDeleteLoop offset length ff.length 0 ff =
      .ok (ff.map fun f => { f with loc := f.loc.expand offset (-length) }) := by
  rw [mapLocLoop_all (Gen.seqDeleteLoop offset length) (fun f => Gen.expand f.loc offset (-length))
    (fun _ _ => rfl) (fun _ _ _ => rfl)]
  simp only [expand_eq]

/-- `copy(p[:o], a)` into a fresh buffer, `len(a) = o ≤ len(p)` -/
theorem goCopyTo_fresh (a : List UInt8) (n : Nat) (h : a.length ≤ n) :
    Gen.goCopyTo (List.replicate n 0) (a.length : Int) a = some (a ++ List.replicate (n - a.length) 0) := by
  simp only [Gen.goCopyTo, List.length_replicate, Int.toNat_natCast]
  rw [if_pos (by omega)]
  simp only [Nat.min_self, List.drop_replicate, List.take_length]

/-- `copy(p[o:], src)` that fills the buffer behind the prefix `a` exactly -/
theorem goCopyAt_suffix (a r src : List UInt8) (h : r.length = src.length) :
    Gen.goCopyAt (a ++ r) (a.length : Int) src = some (a ++ src, (src.length : Int)) := by
  simp only [Gen.goCopyAt, List.length_append, Int.toNat_natCast]
  rw [if_pos (by omega)]
  have e1 : a.length + r.length - a.length = src.length := by omega
  rw [e1, List.take_length, List.take_left' rfl, ← h, ← List.length_append, List.drop_length, Nat.min_self]
  simp

/-- `gts.Delete` as sequence.go defines it now is the model's `Seq.delete` wherever Go does not panic, and hands
`tryExpand(info, offset, -length)` to `WithInfo` -/
theorem seqDelete_eq {ι : Type} (ops : Gen.InfoOps ι) (i : ι) (s : Seq) (offset length : Int)
    (h : deleteOk s.len offset length) :
    Gen.seqDelete ops i s.feats s.bytes offset length =
      .ok (ops.tryExpand i offset (-length), (s.delete offset length).feats, (s.delete offset length).bytes) := by
  obtain ⟨h0, h1, h2, h3⟩ := h
  simp only [Seq.len] at h1 h3
  obtain ⟨o, rfl⟩ := Int.eq_ofNat_of_zero_le h0
  obtain ⟨e, he⟩ := Int.eq_ofNat_of_zero_le h2
  have ho : o ≤ s.bytes.length := by omega
  have he' : e ≤ s.bytes.length := by omega
  have hm : (s.bytes.length : Int) - length = ((s.bytes.length + o - e : Nat) : Int) := by omega
  clear h0 h1 h2 h3
  have hto : (s.bytes.take o).length = o := List.length_take_of_le ho
  have hb1 := goCopyTo_fresh (s.bytes.take o) (s.bytes.length + o - e) (by omega)
  have hb2 := goCopyAt_suffix (s.bytes.take o) (List.replicate (s.bytes.length + o - e - o) 0) (s.bytes.drop e)
    (by rw [List.length_replicate, List.length_drop]; omega)
  rw [hto] at hb1 hb2
  simp only [Gen.seqDelete, goMakeFeats_nat, goCopyFeats_full, seqDeleteLoop_eq, hm, Gen.goMake_nat, he,
    Gen.goSliceTo_eq, clTo_nat _ _ ho, Gen.goSliceFrom_eq, clFrom_nat _ _ he', hb1, hb2, Seq.delete, Int.toNat_natCast]

/-- … and panics on every other input -/
theorem seqDelete_panic {ι : Type} (ops : Gen.InfoOps ι) (i : ι) (s : Seq) (offset length : Int)
    (h : ¬ deleteOk s.len offset length) :
    Gen.seqDelete ops i s.feats s.bytes offset length = .error .panic := by
  simp only [deleteOk, Seq.len] at h
  simp only [Gen.seqDelete, goMakeFeats_nat, goCopyFeats_full, seqDeleteLoop_eq, Gen.goMake]
  by_cases hm : (s.bytes.length : Int) - length < 0
  · simp only [if_pos hm]
  · simp only [if_neg hm, Gen.goSliceTo]
    by_cases hst : 0 ≤ offset ∧ offset ≤ (s.bytes.length : Int)
    · simp only [if_pos hst, Gen.goCopyTo, List.length_replicate]
      by_cases hct : 0 ≤ offset ∧ offset ≤ (((s.bytes.length : Int) - length).toNat : Int)
      · have hsf : ¬ (0 ≤ offset + length ∧ offset + length ≤ (s.bytes.length : Int)) := by omega
        simp only [if_pos hct, Gen.goSliceFrom, if_neg hsf]
      · simp only [if_neg hct]
    · simp only [if_neg hst]

/-- `gts.Erase` as sequence.go defines it now is the model's `Seq.erase` wherever Go does not panic -/
theorem seqErase_eq {ι : Type} (ops : Gen.InfoOps ι) (i : ι) (s : Seq) (offset length : Int)
    (h : deleteOk s.len offset length) :
    Gen.seqErase ops i s.feats s.bytes offset length =
      .ok (ops.tryExpand i offset (-length), (s.erase offset length).feats, (s.erase offset length).bytes) := by
  have hf : Gen.filterOr [Gen.filterKey "source", Gen.filterNot (Gen.filterWithin offset (offset + length))] =
      fun f : Feature => decide (f.key = "source") || !(f.loc.within offset (offset + length)) :=
    funext (eraseFilter_eq _ _)
  simp only [Gen.seqErase, featsFilter_eq, hf, Seq.erase,
    seqDelete_eq ops i ⟨s.feats.filter fun f => decide (f.key = "source") || !(f.loc.within offset (offset + length)),
      s.bytes⟩ offset length h]

/-- … and panics on every other input -/
theorem seqErase_panic {ι : Type} (ops : Gen.InfoOps ι) (i : ι) (s : Seq) (offset length : Int)
    (h : ¬ deleteOk s.len offset length) :
    Gen.seqErase ops i s.feats s.bytes offset length = .error .panic := by
  simp only [Gen.seqErase, featsFilter_eq, seqDelete_panic ops i ⟨s.feats.filter (Gen.filterOr [Gen.filterKey "source",
    Gen.filterNot (Gen.filterWithin offset (offset + length))]), s.bytes⟩ offset length h]

-- non-vacuity
example : deleteOk 6 2 3 := by decide
example : Gen.seqErase (ι := Unit) ⟨fun i _ _ => i, fun i _ _ => i, fun i _ _ => i, fun i _ => i, ()⟩ ()
      [⟨"source", .ranged 0 6 false false, []⟩, ⟨"gene", .ranged 2 4 false false, []⟩, ⟨"cds", .ranged 1 6 false false, []⟩]
      [65, 67, 71, 84, 65, 67] 2 3 =
    .ok ((), [⟨"source", .ranged 0 3 false false, []⟩, ⟨"cds", .ranged 1 3 false false, []⟩], [65, 67, 67]) := by
  rfl
example : Gen.seqDelete (ι := Unit) ⟨fun i _ _ => i, fun i _ _ => i, fun i _ _ => i, fun i _ => i, ()⟩ ()
      [] [65, 67, 71, 84] 3 2 = .error .panic := by
  rfl

end Gts.Bridge
