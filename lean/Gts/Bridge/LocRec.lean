/-
  Bridge: the RECURSIVE location methods regenerated from location.go by go2lean
  (Gts/Gen/LocRec.lean: `Location.Expand / Shift / Reverse / Normalize` over all seven kinds,
  including the two-pointer swap loop of `Joined.Reverse` / `Ordered.Reverse` translated literally)
  are equal to the hand-written model `Gts.Loc.expand / shift / reverse / normalize` the property
  theorems of C02–C05 and C10 are about — for EVERY location (structural induction), not on a sample.

  A changed boundary condition, a loop that skips or repeats a part (`l < r` instead of `l <= r`
  dropped the middle part of odd-arity joins: repaired defect 2400d2c), a wrong constructor
  (`Join` for `Order`) or a different method called on the parts changes `Gts.Gen.*` and breaks
  these proofs.
-/
import Gts.Gen.LocRec
import Gts.Bridge.Arith
namespace Gts.Bridge
open Gts

theorem betweenShift_eq (p i n : Int) : Gen.betweenShift p i n = Loc.shift (.between p) i n := by
  simp [Gen.betweenShift, Loc.shift, betweenExpand_eq]

theorem pointShift_eq (p i n : Int) : Gen.pointShift p i n = Loc.shift (.point p) i n := by
  simp [Gen.pointShift, Loc.shift, pointExpand_eq]

theorem betweenNormalize_eq (p L : Int) : Gen.betweenNormalize p L = Loc.normalize (.between p) L := by
  simp [Gen.betweenNormalize, Loc.normalize]

theorem pointNormalize_eq (p L : Int) : Gen.pointNormalize p L = Loc.normalize (.point p) L := by
  simp [Gen.pointNormalize, Loc.normalize]

theorem ambiguousNormalize_eq (s e L : Int) :
    Gen.ambiguousNormalize s e L = Loc.normalize (.ambiguous s e) L := by
  simp [Gen.ambiguousNormalize, Loc.normalize]

theorem rangedReverse_eq : Gen.rangedReverse = Loc.rangedReverse := by
  funext s e p5 p3 L
  cases p5 <;> cases p3 <;> simp [Gen.rangedReverse, Loc.rangedReverse]

theorem rangedNormalize_eq : Gen.rangedNormalize = Loc.rangedNormalize := by
  funext s e p5 p3 L
  simp only [Gen.rangedNormalize, Loc.rangedNormalize, rangedExpand_eq]
  by_cases h0 : e - s = L
  · simp [h0]
  · simp only [h0, if_false]
    by_cases h1 : Int.tmod s L < Int.tmod (e - 1) L + 1
    · simp [h1]
    · simp only [h1, if_false]
      cases p5 <;> cases p3 <;> simp

section TwoPointer
variable (loop : List Loc → Nat → Int → Int → List Loc → List Loc)
  (hloop0 : ∀ src l r ll, loop src 0 l r ll = ll)
  (hloop : ∀ src fuel l r ll, loop src (fuel + 1) l r ll =
      if l ≤ r then
        loop src fuel (l + 1) (r - 1)
          ((ll.set (Int.toNat l) (src.getD (Int.toNat r) default)).set (Int.toNat r)
            (src.getD (Int.toNat l) default))
      else ll)
include hloop0 hloop

/-- invariant of the loop `for l, r := 0, n-1; l <= r; l, r = l+1, r-1 { ll[l], ll[r] = src[r], src[l] }`:
started at `l + r = n - 1` with the cells outside `[l, r]` already mirrored, it ends with every
cell mirrored -/
theorem twoPointer_inv (src : List Loc) :
    ∀ (fuel : Nat) (l r : Int) (ll : List Loc), 0 ≤ l → l + r = (src.length : Int) - 1 →
      ll.length = src.length → r - l + 2 ≤ 2 * (fuel : Int) →
      (∀ j : Nat, j < src.length → ((j : Int) < l ∨ r < (j : Int)) →
        ll.getD j default = src.getD (src.length - 1 - j) default) →
      ∀ j : Nat, j < src.length →
        (loop src fuel l r ll).getD j default = src.getD (src.length - 1 - j) default := by
  intro fuel
  induction fuel with
  | zero =>
    intro l r ll hl hsum hlen hf hout j hj
    -- no fuel: then `r < l` must hold, every cell is outside
    rw [hloop0]
    exact hout j hj (by omega)
  | succ f ih =>
    intro l r ll hl hsum hlen hf hout j hj
    rw [hloop]
    by_cases hlr : l ≤ r
    · rw [if_pos hlr]
      -- as natural numbers: `a + b = n - 1`, `a ≤ b`
      obtain ⟨a, rfl⟩ := Int.eq_ofNat_of_zero_le hl
      obtain ⟨b, rfl⟩ := Int.eq_ofNat_of_zero_le (Int.le_trans hl hlr)
      simp only [Int.toNat_natCast]
      have hab : a + b + 1 = src.length := by omega
      refine ih _ _ _ (by omega) (by omega) (by rw [List.length_set, List.length_set, hlen]) (by omega) ?_ j hj
      intro k hk hk'
      simp only [List.getD_eq_getElem?_getD, List.getElem?_set]
      rw [List.length_set, hlen]
      by_cases h1 : b = k
      · subst h1
        rw [if_pos rfl, if_pos (by omega), Option.getD_some, show src.length - 1 - b = a by omega]
      · rw [if_neg h1]
        by_cases h2 : a = k
        · subst h2
          rw [if_pos rfl, if_pos (by omega), Option.getD_some, show src.length - 1 - a = b by omega]
        · rw [if_neg h2, ← List.getD_eq_getElem?_getD]
          exact hout k hk (by omega)
    · rw [if_neg hlr]
      exact hout j hj (by omega)

theorem twoPointer_length (src : List Loc) : ∀ fuel l r ll, (loop src fuel l r ll).length = ll.length
  | 0, l, r, ll => by rw [hloop0]
  | fuel + 1, l, r, ll => by
    rw [hloop]
    split
    · rw [twoPointer_length src fuel, List.length_set, List.length_set]
    · rfl

end TwoPointer

theorem twoPointer_reverse (loop : List Loc → Nat → Int → Int → List Loc → List Loc)
    (hloop0 : ∀ src l r ll, loop src 0 l r ll = ll)
    (hloop : ∀ src fuel l r ll, loop src (fuel + 1) l r ll =
      if l ≤ r then
        loop src fuel (l + 1) (r - 1)
          ((ll.set (Int.toNat l) (src.getD (Int.toNat r) default)).set (Int.toNat r)
            (src.getD (Int.toNat l) default))
      else ll)
    (hlen : ∀ src fuel l r ll, (loop src fuel l r ll).length = ll.length)
    (src : List Loc) :
    loop src (src.length + 1) 0 ((src.length : Int) - 1) (List.replicate src.length default) =
      src.reverse := by
  apply List.ext_getElem
  · simp [hlen]
  · intro j h1 h2
    have hj : j < src.length := by simpa [hlen] using h1
    have := twoPointer_inv loop hloop0 hloop src (src.length + 1) 0 ((src.length : Int) - 1)
      (List.replicate src.length default) (by omega) (by omega) (by simp)
      (by push_cast; omega) (by intro k hk hk'; omega) j hj
    rw [List.getD_eq_getElem?_getD, List.getElem?_eq_getElem h1] at this
    simp only [Option.getD_some] at this
    rw [this, List.getElem_reverse, List.getD_eq_getElem?_getD,
      List.getElem?_eq_getElem (by omega)]
    rfl

theorem joinedReverseLoop_eq (src : List Loc) :
    Gen.joinedReverseLoop src (src.length + 1) 0 ((src.length : Int) - 1)
      (List.replicate src.length default) = src.reverse :=
  have hs := fun src fuel l r ll => show Gen.joinedReverseLoop src (fuel + 1) l r ll = _ from rfl
  twoPointer_reverse _ (fun _ _ _ _ => rfl) hs (twoPointer_length _ (fun _ _ _ _ => rfl) hs) src

theorem orderedReverseLoop_eq (src : List Loc) :
    Gen.orderedReverseLoop src (src.length + 1) 0 ((src.length : Int) - 1)
      (List.replicate src.length default) = src.reverse :=
  have hs := fun src fuel l r ll => show Gen.orderedReverseLoop src (fuel + 1) l r ll = _ from rfl
  twoPointer_reverse _ (fun _ _ _ _ => rfl) hs (twoPointer_length _ (fun _ _ _ _ => rfl) hs) src

mutual
theorem expand_eq : ∀ (l : Loc) (i n : Int), Gen.expand l i n = Loc.expand l i n
  | .between _, i, n | .point _, i, n | .ranged _ _ _ _, i, n | .ambiguous _ _, i, n => by
      simp [Gen.expand, Loc.expand, betweenExpand_eq, pointExpand_eq, rangedExpand_eq, ambiguousExpand_eq]
  | .joined ls, i, n | .ordered ls, i, n => by simp [Gen.expand, Loc.expand, expandList_eq ls i n]
  | .compl l, i, n => by simp [Gen.expand, Loc.expand, expand_eq l i n]
theorem expandList_eq : ∀ (ls : List Loc) (i n : Int), Gen.expandList ls i n = Loc.expandList ls i n
  | [], _, _ => by simp [Gen.expandList, Loc.expandList]
  | l :: ls, i, n => by simp [Gen.expandList, Loc.expandList, expand_eq l i n, expandList_eq ls i n]
end

mutual
theorem shift_eq : ∀ (l : Loc) (i n : Int), Gen.shift l i n = Loc.shift l i n
  | .between _, i, n | .point _, i, n => by simp [Gen.shift, betweenShift_eq, pointShift_eq]
  | .ranged _ _ _ _, i, n | .ambiguous _ _, i, n => by simp [Gen.shift, Loc.shift, rangedShift_eq, ambiguousShift_eq]
  | .joined ls, i, n | .ordered ls, i, n => by simp [Gen.shift, Loc.shift, shiftList_eq ls i n]
  | .compl l, i, n => by simp [Gen.shift, Loc.shift, shift_eq l i n]
theorem shiftList_eq : ∀ (ls : List Loc) (i n : Int), Gen.shiftList ls i n = Loc.shiftList ls i n
  | [], _, _ => by simp [Gen.shiftList, Loc.shiftList]
  | l :: ls, i, n => by simp [Gen.shiftList, Loc.shiftList, shift_eq l i n, shiftList_eq ls i n]
end

mutual
theorem reverse_eq : ∀ (l : Loc) (len : Int), Gen.reverse l len = Loc.reverse l len
  | .between _, len | .point _, len | .ambiguous _ _, len => by
      simp [Gen.reverse, betweenReverse_eq, pointReverse_eq, ambiguousReverse_eq]
  | .ranged s e a b, len => by simp [Gen.reverse, Loc.reverse, rangedReverse_eq]
  | .joined ls, len | .ordered ls, len => by
      simp only [Gen.reverse, Loc.reverse, joinedReverseLoop_eq, orderedReverseLoop_eq, reverseList_eq ls len]
  | .compl l, len => by simp [Gen.reverse, Loc.reverse, reverse_eq l len]
theorem reverseList_eq : ∀ (ls : List Loc) (len : Int), Gen.reverseList ls len = Loc.reverseList ls len
  | [], _ => by simp [Gen.reverseList, Loc.reverseList]
  | l :: ls, len => by simp [Gen.reverseList, Loc.reverseList, reverse_eq l len, reverseList_eq ls len]
end

mutual
theorem normalize_eq : ∀ (l : Loc) (len : Int), Gen.normalize l len = Loc.normalize l len
  | .between _, len | .point _, len | .ambiguous _ _, len => by
      simp [Gen.normalize, betweenNormalize_eq, pointNormalize_eq, ambiguousNormalize_eq]
  | .ranged s e a b, len => by simp [Gen.normalize, Loc.normalize, rangedNormalize_eq]
  | .joined ls, len | .ordered ls, len => by simp [Gen.normalize, Loc.normalize, normalizeList_eq ls len]
  | .compl l, len => by simp [Gen.normalize, Loc.normalize, normalize_eq l len]
theorem normalizeList_eq : ∀ (ls : List Loc) (len : Int),
    Gen.normalizeList ls len = Loc.normalizeList ls len
  | [], _ => by simp [Gen.normalizeList, Loc.normalizeList]
  | l :: ls, len => by
      simp [Gen.normalizeList, Loc.normalizeList, normalize_eq l len, normalizeList_eq ls len]
end

/-- the four recursive methods of `Location`, as the current location.go defines them, are the
model's — as functions -/
theorem locrec_eq :
    Gen.expand = Loc.expand ∧ Gen.shift = Loc.shift ∧ Gen.reverse = Loc.reverse ∧
      Gen.normalize = Loc.normalize :=
  ⟨funext fun l => funext fun i => funext fun n => expand_eq l i n,
   funext fun l => funext fun i => funext fun n => shift_eq l i n,
   funext fun l => funext fun len => reverse_eq l len,
   funext fun l => funext fun len => normalize_eq l len⟩

end Gts.Bridge
