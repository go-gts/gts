/-
  Bridge: the regenerated `GenBankFields.Slice` of seqio/genbank.go (`Gts/Gen/GbSlice.lean`, go2lean
  gwriter*.go) IS the model's reference clipping `Gts.sliceRefs` of `Gts/Model/GbSlice.lean` (properties
  C03 / C01): for EVERY value of the Go struct and every window the function never panics, sets
  `Region = Segment{start, end}`, keeps every other field, and its references are `sliceRefsFull` — the
  references whose info is unparsable (kept verbatim) or has a range overlapping the window (info re-written
  with the overlapping ranges clipped and re-based), every other field of a kept reference untouched,
  numbered 1..m (`genBankFieldsSlice_eq`); projected on (number, info) that list is the model's `sliceRefs`
  (`sliceRefsFull_model`).

  Parameters of the generated text and their instances: `parseReferenceInfo(prefix).Parse(FromString(info))`
  behind the closure `tryParse` = the model's `parseRefInfo` (hand-modelled from seqio/reference.go), its
  ranges as `gts.Ranged{s, e, Complete}`; `gts.LocationOverlap(loc, start, end)` on a `gts.Ranged` = the model's
  `Loc.overlap` on that range (regenerated and bridged on its own: `Gts/Bridge/LocPred.lean`); `%d` =
  `intBytes`.  `make`, `ss[i] = …`, `refs[i].Number = …`, `strings.Join` are the fixed readings of
  `Gts/Gen/GoStrings.lean`; `gts.Max`, `gts.Min`, `Molecule.Counter` are regenerated here.
-/
import Gts.Gen.GbSlice
import Gts.Model.GbSlice
import Gts.Bridge.InsdcSearch
import Gts.Bridge.CliLoops
namespace Gts.Bridge
open Gts.Pars Gts.Gen.GoStrings
open Gts.Gen.GbFields (GenBankFields Reference)
open Gts.Gen.GbSlice

/-- a parsed range of the model as the `gts.Ranged` the Go parser builds (`gts.Range(start, end)`) -/
def goRanged (r : Int × Int) : Ranged := { Start := r.1, End := r.2, Partial := { Partial5 := false, Partial3 := false } }

/-- `parseReferenceInfo(prefix).Parse(pars.FromString(info))` through `tryParse` -/
def parseInfoModel (pref info : Bytes) : Option (List Ranged) := (parseRefInfo pref info).map (·.map goRanged)

/-- `gts.LocationOverlap` on a `gts.Ranged` -/
def overlapModel (r : Ranged) (lo hi : Int) : Bool :=
  Loc.overlap (.ranged r.Start r.End r.Partial.Partial5 r.Partial.Partial3) lo hi

/-- `refs[i].Number = i + 1` from `k` on -/
def renumberFrom : Nat → List Reference → List Reference
  | _, [] => []
  | k, r :: rs => { r with Number := (k : Int) + 1 } :: renumberFrom (k + 1) rs

/-- one reference: dropped (`none`), or kept with the new info -/
def sliceRefFull (pref : Bytes) (a b : Int) (r : Reference) : Option Reference :=
  (sliceRefInfo pref a b r.Info).map fun i => { r with Info := i }

/-- the references after `Slice(a, b)` -/
def sliceRefsFull (pref : Bytes) (a b : Int) (refs : List Reference) : List Reference :=
  renumberFrom 0 (refs.filterMap (sliceRefFull pref a b))

/-- the model's view of a reference -/
def toRef (r : Reference) : Ref := { number := r.Number, info := r.Info }

theorem gtsMax_eq (i j : Int) : gtsMax i j = Loc.gmax i j := rfl
theorem gtsMin_eq (i j : Int) : gtsMin i j = Loc.gmin i j := rfl

theorem wsMake_nat {α : Type} (z : α) (n : Nat) : wsMake z (n : Int) = some (List.replicate n z) := by
  unfold wsMake
  rw [if_neg (Int.not_lt.mpr (Int.natCast_nonneg _)), Int.toNat_natCast]

theorem str_to : str " to " = wsLit " to " := by decide +kernel
theorem str_sep : str "; " = wsLit "; " := by decide +kernel

theorem wsJoin_intersperse (sep : Bytes) (l : List Bytes) : wsJoin sep l = (l.intersperse sep).flatten := by
  induction l with
  | nil => rfl
  | cons x l ih =>
    cases l with
    | nil => simp [wsJoin]
    | cons y r =>
      rw [wsJoin, ih]
      simp [List.intersperse, List.append_assoc]

/-- the first inner loop keeps the overlapping ranges, in order -/
theorem sliceOverlapLoop_eq (a b : Int) (locs olap : List Ranged) :
    genBankFieldsSliceLoop2 overlapModel a b locs olap = olap ++ locs.filter fun r => overlapModel r a b := by
  induction locs generalizing olap with
  | nil => simp [genBankFieldsSliceLoop2]
  | cons r locs ih =>
    simp only [genBankFieldsSliceLoop2, ih, List.filter_cons]
    cases overlapModel r a b <;> simp

/-- the text of one clipped range -/
def fmtOne (a b : Int) (r : Ranged) : Bytes :=
  intBytes (Loc.gmax 0 (r.Start - a) + 1) ++ wsLit " to " ++ intBytes (Loc.gmin (b - a) (r.End - a))

/-- the second inner loop fills the fresh slice `ss`, cell `i` with the text of range `i` (no store is out of
range) -/
theorem sliceFormatLoop_eq (a b : Int) (l : List Ranged) (done : List Bytes) :
    genBankFieldsSliceLoop3 intBytes a b l (done.length : Int) (done ++ List.replicate l.length []) =
      some (done ++ l.map (fmtOne a b)) := by
  simpa using fillLoop_spec (genBankFieldsSliceLoop3 intBytes a b) (fmtOne a b) 0 (fun _ _ => rfl)
    (fun _ _ _ _ => by rw [Int.add_zero]; rfl) l done.length done (List.replicate l.length []) [] (by simp) (by simp)

theorem filter_goRanged (a b : Int) (locs : List (Int × Int)) :
    (locs.map goRanged).filter (fun r => overlapModel r a b) =
      (locs.filter fun r => Loc.rangeOverlap r.1 r.2 a b).map goRanged :=
  List.filter_map

/-- the re-written info: `(prefix r1; r2; …)` -/
theorem sliceInfo_fmt (pref : Bytes) (a b : Int) (olap : List (Int × Int)) :
    wsLit "(" ++ pref ++ wsLit " " ++ wsJoin (wsLit "; ") ((olap.map goRanged).map (fmtOne a b)) ++ wsLit ")" =
      fmtRanges pref (olap.map (clipRange a b)) := by
  unfold fmtRanges
  rw [wsJoin_intersperse, str_sep]
  simp only [List.map_map]
  have : (fmtOne a b ∘ goRanged) = ((fun r => intBytes (r.1 + 1) ++ str " to " ++ intBytes r.2) ∘ clipRange a b) := by
    funext r
    simp [fmtOne, goRanged, clipRange, str_to]
  rw [this]
  simp [wsLit, List.append_assoc]

theorem reference_eta (r : Reference) : { r with Info := r.Info } = r := by cases r; rfl

/-- the loop over the references: each one is dropped or kept as `sliceRefFull` says; nothing panics -/
theorem sliceRefLoop_eq (pref : Bytes) (a b : Int) (refs acc : List Reference) :
    genBankFieldsSliceLoop intBytes overlapModel parseInfoModel a b pref pref refs acc =
      some (acc ++ refs.filterMap (sliceRefFull pref a b)) := by
  induction refs generalizing acc with
  | nil => simp [genBankFieldsSliceLoop]
  | cons r refs ih =>
    simp only [genBankFieldsSliceLoop, List.filterMap_cons]
    cases hp : parseRefInfo pref r.Info with
    | none =>
      simp [parseInfoModel, sliceRefFull, sliceRefInfo, hp, ih]
    | some locs =>
      have h1 : parseInfoModel pref r.Info = some (locs.map goRanged) := by simp [parseInfoModel, hp]
      rw [h1]
      simp only [Option.isSome_some, if_true, Option.getD_some, sliceOverlapLoop_eq, List.nil_append, filter_goRanged]
      cases ho : locs.filter (fun r => Loc.rangeOverlap r.1 r.2 a b) with
      | nil =>
        simp [sliceRefFull, sliceRefInfo, hp, ho, ih]
      | cons o os =>
        have h2 : sliceRefFull pref a b r = some { r with Info := fmtRanges pref ((o :: os).map (clipRange a b)) } := by
          simp [sliceRefFull, sliceRefInfo, hp, ho]
        rw [h2]
        have hlen : (((List.map goRanged (o :: os)).length : Nat) : Int) > 0 := by simp
        rw [if_pos hlen]
        rw [wsMake_nat, Option.bind_some]
        have hfill := sliceFormatLoop_eq a b (List.map goRanged (o :: os)) []
        rw [show (([] : List Bytes).length : Int) = 0 from rfl, List.nil_append] at hfill
        rw [hfill]
        simp only [Option.bind_some, List.nil_append, sliceInfo_fmt, ih]
        simp

/-- the last loop numbers the kept references 1..m in place (no index is out of range) -/
theorem sliceRenumberLoop_eq (l done todo : List Reference) (h : l.length = todo.length) :
    genBankFieldsSliceLoop4 l (done.length : Int) (done ++ todo) = some (done ++ renumberFrom done.length todo) := by
  induction l generalizing done todo with
  | nil =>
    cases todo with
    | nil => simp [genBankFieldsSliceLoop4, renumberFrom]
    | cons t ts => simp at h
  | cons x l ih =>
    cases todo with
    | nil => simp at h
    | cons t ts =>
      simp only [genBankFieldsSliceLoop4]
      rw [wsIdx_eq, wsSet_eq, clAt_append_length, Option.bind_some, clPut_append_length, Option.bind_some, List.append_cons]
      have hi := ih (done ++ [{ t with Number := (done.length : Int) + 1 }]) ts (by simpa using h)
      simp only [List.length_append, List.length_singleton] at hi
      push_cast at hi
      rw [hi]
      simp [renumberFrom]

/-- **genbank.go `GenBankFields.Slice` never panics and is the model's clipping**: the region is the window,
the references are `sliceRefsFull` under the counter word of the molecule, every other field is kept — for
EVERY value of the Go struct and every window -/
theorem genBankFieldsSlice_eq (gbf : GenBankFields) (a b : Int) :
    genBankFieldsSlice intBytes overlapModel parseInfoModel gbf a b =
      some { gbf with Region := some (a, b),
                      References := sliceRefsFull (moleculeCounter gbf.Molecule) a b gbf.References } := by
  unfold genBankFieldsSlice sliceRefsFull
  simp only [sliceRefLoop_eq, List.nil_append, Option.bind_some]
  have h := sliceRenumberLoop_eq (gbf.References.filterMap (sliceRefFull (moleculeCounter gbf.Molecule) a b)) []
    (gbf.References.filterMap (sliceRefFull (moleculeCounter gbf.Molecule) a b)) rfl
  simp only [List.length_nil, List.nil_append] at h
  rw [show ((0 : Int)) = ((0 : Nat) : Int) from rfl, h]
  rfl

theorem renumberFrom_model (k : Nat) (rs : List Reference) :
    (renumberFrom k rs).map toRef = ((rs.map (·.Info)).zipIdx k).map fun (i, n) => ⟨(n : Int) + 1, i⟩ := by
  induction rs generalizing k with
  | nil => rfl
  | cons r rs ih => simp [renumberFrom, toRef, ih, List.zipIdx_cons]

/-- **projected on (number, info), the references `Slice` returns are the model's `sliceRefs`** — the function
the C03 clipping theorems are about -/
theorem sliceRefsFull_model (pref : Bytes) (a b : Int) (refs : List Reference) :
    (sliceRefsFull pref a b refs).map toRef = sliceRefs pref a b (refs.map toRef) := by
  unfold sliceRefsFull sliceRefs renumber
  rw [renumberFrom_model]
  congr 2
  induction refs with
  | nil => rfl
  | cons r refs ih =>
    simp only [List.filterMap_cons, List.map_cons, sliceRefFull, toRef]
    cases sliceRefInfo pref a b r.Info <;> simpa using ih

/-- genbank.go `Molecule.Counter`: `residues` for AA, `bases` otherwise -/
theorem moleculeCounter_eq (m : Bytes) :
    moleculeCounter m = if m = wsLit "AA" then wsLit "residues" else wsLit "bases" := rfl

/-- non-vacuity: a DNA record with three references — one inside the window (clipped and re-based), one
disjoint (dropped), one whose info is no range list (kept verbatim) — sliced to `[2, 9)` -/
example :
    let mk (n : Int) (info : String) : Reference :=
      { Number := n, Info := wsLit info, Authors := wsLit "A", Group := [], Title := [], Journal := [], Xref := none, Comment := [] }
    (sliceRefsFull (wsLit "bases") 2 9 [mk 1 "(bases 1 to 5; 8 to 20)", mk 2 "(bases 30 to 40)", mk 3 "(sites)"]).map
        (fun r => (r.Number, r.Info)) =
      [(1, wsLit "(bases 1 to 3; 6 to 7)"), (2, wsLit "(sites)")] := by
  decide +kernel

end Gts.Bridge
