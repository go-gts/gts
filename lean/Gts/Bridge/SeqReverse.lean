/-
  Bridge: `gts.Reverse`, regenerated from sequence.go by go2lean (Gts/Gen/SeqReverse.lean: the `range` loop
  over the features as a recursion over the list — `Feature{f.Key, f.Loc.Reverse(Len(seq)), f.Props.Clone()}`
  inserted one by one —, `make` / `copy` as checked operations, `flip.Bytes` as `List.reverse`), is the
  hand-written model's `Seq.reverse` (Gts/Model/Seq.lean) — for EVERY sequence: the function cannot panic
  (`make([]byte, Len(seq))` has a non-negative length, `copy(p, seq.Bytes())` fills it exactly), which is part
  of what `seqReverse_eq` proves.  Metadata: untouched.
-/
import Gts.Gen.SeqReverse
import Gts.Bridge.SeqBase
import Gts.Bridge.LocRec
namespace Gts.Bridge
open Gts

theorem seqReverseLoop_eq (b : List UInt8) (fs ff : List Feature) :
    Gen.seqReverseLoop b fs ff =
      .ok (Table.insertAll ff (fs.map fun f => { f with loc := f.loc.reverse b.length })) := by
  rw [insertLocLoop_shape (Gen.seqReverseLoop b) (fun f => Gen.reverse f.loc b.length)
    (fun _ => rfl) (fun _ _ _ => rfl)]
  simp only [reverse_eq]

/-- `gts.Reverse` as sequence.go defines it now is the model's `Seq.reverse`, for every sequence -/
theorem seqReverse_eq {ι : Type} (i : ι) (s : Seq) :
    Gen.seqReverse i s.feats s.bytes = .ok (i, s.reverse.feats, s.reverse.bytes) := by
  have hm : ¬ ((s.bytes.length : Int) < 0) := by omega
  simp only [Gen.seqReverse, seqReverseLoop_eq, Gen.goMake, if_neg hm, Int.toNat_natCast, goCopyAt_fresh,
    Seq.reverse, Seq.len]

-- non-vacuity
example : Gen.seqReverse (ι := Unit) () [⟨"gene", .ranged 0 2 true false, []⟩, ⟨"cds", .point 3, []⟩] [65, 67, 71, 84] =
    .ok ((), [⟨"cds", .point 0, []⟩, ⟨"gene", .ranged 2 4 false true, []⟩], [84, 71, 67, 65]) := by
  rfl

end Gts.Bridge
