/-
  Bridge: `Repair`, regenerated from feature.go (Gts/Gen/FeatRepair.lean), is `repairWith sort` for EVERY value
  of its parameter `sortLocs_` (= `sort.Sort(Locations(·))`).  Gts/Bridge/FeatRepair.lean ties the generated function
  to the model's `repair` under the assumption that `sort.Sort` is the model's insertion sort; the theorems below are
  the same statements with the sort left arbitrary — no assumption about `sort.Sort(Locations(·))` at all: whatever
  function it is, the generated `Repair` never panics and returns the table `repairWith sort` returns (the model
  of Gts/Model/RepairSort.lean, about which Gts/Props/C12Sort.lean proves the clauses of C12 for every correct sort).
  The loops, the class step `classStepNS sort` and its relation to `classStepWith sort` are in Gts/Bridge/FeatRepair.lean.
-/
import Gts.Bridge.FeatRepair
import Gts.Lemmas.RepairIdem
import Gts.Spec.RepairSortGuard
namespace Gts.Bridge
open Gts

/-- **the generated `Repair` is `repairOrdNS sort`** for the order in which the map is visited, which is a
permutation of the model's classes `Table.groups` -/
theorem repair_gen_ord_sort (sort : List Loc → List Loc) (zero : Feature) (nil : Loc) (sortInts : List Int → List Int)
    (sprintf : String → String → List (List String) → String)
    (rangeMap : List (String × List Int) → List (String × List Int))
    (hfmt : ∀ f : Feature, sprintf "%q:%q" f.key f.props = classKey f)
    (hsort : ∀ l, (sortInts l).Perm l ∧ (sortInts l).Pairwise (· ≤ ·))
    (hrange : ∀ m, (rangeMap m).Perm m) (ff : Table) :
    ∃ cs : List (List Nat), cs.Perm (Table.groups ff) ∧
      Gen.repair zero nil sort sortInts sprintf rangeMap ff = repairOrdNS sort nil ff cs := by
  obtain ⟨cs, hp, hv, he⟩ := repair_gen_classLoop zero nil sortInts sprintf rangeMap hfmt hsort hrange ff
  refine ⟨cs.map (·.2), hp, ?_⟩
  rw [he sort _ _ (repairLoop2_eq_sort sort nil ff cs ff [] hv rfl)]
  simp only [repairOrdNS, List.foldl_map]

/-- **`Repair(ff)` as feature.go defines it now returns the table the model's `repairWith sort ff` returns** — for every
table on which the model answers a table (every table without a class of two or more empty `Joined{}`
literals: `Gts.C12.no_panic_ok_with`), EVERY function `sort` standing for `sort.Sort(Locations(·))`, every order in
which Go visits the map, every sorted permutation that `sort.Sort(sort.IntSlice(keep))` produces, every zero `Feature`
and nil `Location` -/
theorem repair_gen_sort (sort : List Loc → List Loc) (zero : Feature) (nil : Loc) (sortInts : List Int → List Int)
    (sprintf : String → String → List (List String) → String)
    (rangeMap : List (String × List Int) → List (String × List Int))
    (hfmt : ∀ f : Feature, sprintf "%q:%q" f.key f.props = classKey f)
    (hsort : ∀ l, (sortInts l).Perm l ∧ (sortInts l).Pairwise (· ≤ ·))
    (hrange : ∀ m, (rangeMap m).Perm m) (ff t : Table) (h : repairWith sort ff = .ok t) :
    Gen.repair zero nil sort sortInts sprintf rangeMap ff = some t := by
  obtain ⟨cs, hp, he⟩ := repair_gen_ord_sort sort zero nil sortInts sprintf rangeMap hfmt hsort hrange ff
  rw [he]
  apply repairOrdN_of_ok_sort sort
  have : repairOrdWith sort ff cs = repairWith sort ff :=
    (repairOrd_permW sort ff _ _ hp.symm (Table.groups_flatten_nodup ff)).symm
  rw [this, h]

/-- **`Repair(ff)` as feature.go defines it now never panics**, on any table, whatever `sort.Sort(Locations(·))`
returns — even a list of another length (in particular: the index
expressions `gg[i]`, `ff[indices[0]]`, `gg[indices[i]]`, the slice `indices[:len(locs)]`, the compaction and
`gg[:len(keep)]` stay in range) -/
theorem repair_gen_nopanic_sort (sort : List Loc → List Loc) (zero : Feature) (nil : Loc) (sortInts : List Int → List Int)
    (sprintf : String → String → List (List String) → String)
    (rangeMap : List (String × List Int) → List (String × List Int))
    (hfmt : ∀ f : Feature, sprintf "%q:%q" f.key f.props = classKey f)
    (hsort : ∀ l, (sortInts l).Perm l ∧ (sortInts l).Pairwise (· ≤ ·))
    (hrange : ∀ m, (rangeMap m).Perm m) (ff : Table) :
    ∃ t, Gen.repair zero nil sort sortInts sprintf rangeMap ff = some t := by
  obtain ⟨cs, hp, he⟩ := repair_gen_ord_sort sort zero nil sortInts sprintf rangeMap hfmt hsort hrange ff
  rw [he]
  exact repairOrdN_some_sort sort nil ff cs hp

-- non-vacuity: a sort other than the model's insertion sort (ties in the opposite order), on a table where that matters
example : repairWith (fun xs => sortLocs xs.reverse) [⟨"gene", .point 3, []⟩, ⟨"gene", .ranged 3 4 false false, []⟩] =
      .ok [⟨"gene", .point 3, []⟩, ⟨"gene", .ranged 3 4 false false, []⟩] ∧
    repair [⟨"gene", .point 3, []⟩, ⟨"gene", .ranged 3 4 false false, []⟩] = .ok [⟨"gene", .ranged 3 4 false false, []⟩] :=
  ⟨rfl, rfl⟩

end Gts.Bridge
