/-
  Bridge: `Repair`, regenerated from feature.go by go2lean (Gts/Gen/FeatRepair.lean: `make` + `copy`, the index
  map as an association list, the loop over the classes in the order `rangeMap_` — Go leaves it unspecified —
  with `locs[j] = gg[i].Loc`, `sort.Sort(Locations(locs))`, the `Push` fold with `force` only for `source`,
  `list.Slice()`, the write-back and `indices[:len(locs)]`, then `sort.Sort(sort.IntSlice(keep))` and the in-place
  compaction — literal loops over lists, every index / slice / `make` a checked operation), never panics and
  returns what the hand-written model `repair` (Gts/Model/Repair.lean) returns — for every table, every
  iteration order of the map, every sort of `keep`, every value of the zero `Feature` and of the nil
  `Location`.

  External calls are parameters with their assumed behaviour as hypotheses: `fmt.Sprintf("%q:%q", key, props)` is
  the model's `classKey` (the format text is part of the hypothesis), `sort.Sort(Locations(·))` is the model's
  `sortLocs` (Go's insertion sort up to 12 elements), `sort.Sort(sort.IntSlice(·))` returns a sorted permutation.
  `LocationList.Push` is the model's `Loc.push` (its rules are tied by Gts/Bridge/PushRules.lean).

  Nothing about the loops depends on what `sort.Sort(Locations(·))` does: the class loop and its relation to the
  model are proved for an arbitrary `sort` (`classStepNS`, `repairOrdNS`, the `_sort` theorems, against
  `classStepWith sort` of Gts/Model/RepairSort.lean), and `sortLocs` is put in at the end; Gts/Bridge/FeatRepairSort.lean
  states the end theorems for every `sort`.
-/
import Gts.Gen.FeatRepair
import Gts.Model.RepairSort
import Gts.Lemmas.GoList
import Gts.Lemmas.Repair
import Gts.Lemmas.RepairIndex
import Gts.Bridge.CliLoops
namespace Gts.Bridge
open Gts

/-- `for _, x := range xs { s = step(s, x) }` -/
theorem foldLoop_shape {α σ : Type} (loop : List α → σ → Option σ) (step : σ → α → σ)
    (hnil : ∀ s, loop [] s = some s)
    (hcons : ∀ x rest s, loop (x :: rest) s = loop rest (step s x)) :
    ∀ xs s, loop xs s = some (xs.foldl step s) :=
  Go.foldLoop some loop step hnil hcons

/-- the gathering loop `for j, i := range idx { locs[j] = g(gg[i]) }` on a destination with room -/
theorem gatherLoop_shape {α β : Type} (loop : List Int → Int → List β → Option (List β)) (gg : List α) (g : α → β)
    (hnil : ∀ j dst, loop [] j dst = some dst)
    (hcons : ∀ i rest j dst, loop (i :: rest) j dst =
      (Gen.goIdx gg i).bind fun x => (Gen.goSet dst j (g x)).bind fun dst' => loop rest (j + 1) dst') :
    ∀ (idx : List Nat) (pre rest : List β), (∀ i ∈ idx, i < gg.length) → idx.length ≤ rest.length →
      loop (idx.map Int.ofNat) (pre.length : Int) (pre ++ rest) =
        some (pre ++ idx.filterMap (fun i => gg[i]?.map g) ++ rest.drop idx.length) := by
  intro idx
  induction idx with
  | nil =>
    intro pre rest _ _
    rw [List.map_nil, hnil, List.filterMap_nil, List.append_nil, List.length_nil, List.drop_zero]
  | cons i idx ih =>
    intro pre rest hi hk
    cases rest with
    | nil => exact absurd hk (Nat.not_succ_le_zero _)
    | cons y rest =>
      have hilt : i < gg.length := hi i List.mem_cons_self
      rw [List.map_cons, hcons, Int.ofNat_eq_natCast, Gen.goIdx_eq, clAt_lt gg i hilt, Option.bind_some,
        Gen.goSet_eq, clPut_append_length, Option.bind_some]
      have := ih (pre ++ [g gg[i]]) rest (fun j' h' => hi j' (List.mem_cons_of_mem _ h')) (Nat.le_of_succ_le_succ hk)
      simp only [List.length_append, List.length_cons, List.length_nil, Int.natCast_add, Int.cast_ofNat_Int,
        List.append_assoc, List.cons_append, List.nil_append, Nat.zero_add] at this
      rw [this]
      simp only [List.filterMap_cons, List.getElem?_eq_getElem hilt, Option.map_some, List.cons_append, List.length_cons,
        List.drop_succ_cons, List.append_assoc]

theorem modify_loc_eq_set : ∀ (gg : Table) (i : Nat) (l : Loc) (h : i < gg.length),
    gg.modify i (fun f => { f with loc := l }) = gg.set i { gg[i] with loc := l }
  | _ :: _, 0, _, _ => rfl
  | f :: gg, i + 1, l, h => by
    simp only [List.modify_succ_cons, List.set_cons_succ, List.getElem_cons_succ]
    rw [modify_loc_eq_set gg i l (by simpa using h)]

/-- the write-back loop `for i, loc := range locs { gg[indices[i]].Loc = loc }` -/
theorem repairLoop5_drop (idx : List Nat) (locs : List Loc) (k : Nat) (gg : Table) (hj : ∀ j ∈ idx, j < gg.length)
    (hk : k + locs.length ≤ idx.length) :
    Gen.repairLoop5 (idx.map Int.ofNat) locs (k : Int) gg = some (writeLocs gg ((idx.drop k).zip locs)) := by
  induction locs generalizing k gg with
  | nil => rw [Gen.repairLoop5, List.zip_nil_right, writeLocs]
  | cons loc locs ih =>
    rw [List.length_cons] at hk
    have hklt : k < idx.length := by omega
    have hjlt : idx[k] < gg.length := hj _ (List.getElem_mem hklt)
    have hk' : k < (idx.map Int.ofNat).length := by rw [List.length_map]; exact hklt
    rw [Gen.repairLoop5, Gen.goIdx_eq, clAt_lt _ k hk', Option.bind_some, List.getElem_map, Int.ofNat_eq_natCast]
    dsimp only
    rw [clAt_lt gg _ hjlt, Option.bind_some, Gen.goSet_nat _ _ _ hjlt, Option.bind_some]
    have := ih (k + 1) (gg.set idx[k] { gg[idx[k]] with loc := loc })
      (fun j h => by rw [List.length_set]; exact hj j h) (by omega)
    rw [Int.natCast_add, Int.natCast_one] at this
    rw [this, List.drop_eq_getElem_cons hklt, List.zip_cons_cons, writeLocs, modify_loc_eq_set gg _ loc hjlt]

/-- the compaction loop `for _, j := range keep { gg[i] = gg[j]; i++ }` is the model's `compactLoop` -/
theorem repairLoop6_eq (js : List Nat) (gg : Table) (i : Nat) :
    Gen.repairLoop6 (js.map Int.ofNat) gg (i : Int) =
      (compactLoop gg i js).map fun g => (g, ((i + js.length : Nat) : Int)) := by
  induction js generalizing gg i with
  | nil => rw [compactLoop]; rfl
  | cons j js ih =>
    rw [List.map_cons, compactLoop, List.length_cons, Gen.repairLoop6, Int.ofNat_eq_natCast, Gen.goIdx_eq, clAt_nat]
    cases gg[j]? with
    | none => rfl
    | some f =>
      rw [Option.bind_some]
      by_cases hi : i < gg.length
      · have := ih (gg.set i f) (i + 1)
        rw [Int.natCast_add, Int.natCast_one] at this
        rw [Gen.goSet_nat gg i f hi, Option.bind_some, this, Nat.add_right_comm]
        simp only [if_pos hi, Nat.add_assoc]
      · rw [show Gen.goSet gg (i : Int) f = none from clPut_nat_none gg i f (by omega)]
        simp only [if_neg hi]
        rfl

theorem compactLoop_some_length (js : List Nat) (gg : Table) (i : Nat) (gg' : Table)
    (h : compactLoop gg i js = some gg') : gg'.length = gg.length ∧ js.length ≤ gg.length - i := by
  induction js generalizing gg i with
  | nil =>
    rw [compactLoop, Option.some.injEq] at h
    exact ⟨h ▸ rfl, Nat.zero_le _⟩
  | cons j js ih =>
    rw [compactLoop] at h
    cases hg : gg[j]? with
    | none => rw [hg] at h; cases h
    | some f =>
      rw [hg] at h
      by_cases hi : i < gg.length
      · simp only [if_pos hi] at h
        have := ih (gg.set i f) (i + 1) h
        rw [List.length_set] at this
        exact ⟨this.1, by rw [List.length_cons]; omega⟩
      · simp only [if_neg hi] at h; cases h

/-- whether the compaction succeeds depends on the indices and the length of the table only -/
theorem compactLoop_isSome_congr : ∀ (js : List Nat) (gg gg' : Table) (i : Nat), gg.length = gg'.length →
    (compactLoop gg i js).isSome = (compactLoop gg' i js).isSome := by
  intro js
  induction js with
  | nil => intro _ _ _ _; rfl
  | cons j js ih =>
    intro gg gg' i h
    rw [compactLoop, compactLoop]
    by_cases hj : j < gg.length
    · rw [List.getElem?_eq_getElem hj, List.getElem?_eq_getElem (h ▸ hj)]
      by_cases hi : i < gg.length
      · simp only [if_pos hi, if_pos (h ▸ hi)]
        exact ih _ _ (i + 1) (by rw [List.length_set, List.length_set]; exact h)
      · simp only [if_neg hi, if_neg (h ▸ hi)]
    · rw [List.getElem?_eq_none (Nat.le_of_not_lt hj), List.getElem?_eq_none (Nat.le_of_not_lt (h ▸ hj))]

/-- `list.Slice()`: the pushed list, or `[nil]` for the empty `LocationList` -/
def sliceN (nil : Loc) (p : List Loc) : List Loc := if p.isEmpty then [nil] else p

/-- one iteration of `for _, indices := range index` with the nil `Location` as a value (the model's
`classStep` flags it instead: `RepairSt.nil`) -/
def classStepN (nil : Loc) (ff : Table) (st : Table × List Nat) (idx : List Nat) : Table × List Nat :=
  let p := sliceN nil (pushedOf (classForce ff idx) (classLocs st.1 idx))
  if p.length < idx.length then (writeLocs st.1 (idx.zip p), st.2 ++ idx.take p.length) else (st.1, st.2 ++ idx)

/-- `classStepN` for an arbitrary `sort.Sort(Locations(·))` (the model's `classStepWith sort` flags the nil
`Location` instead of writing it); `classStepN` is the instance `sortLocs` -/
def classStepNS (sort : List Loc → List Loc) (nil : Loc) (ff : Table) (st : Table × List Nat) (idx : List Nat) : Table × List Nat :=
  let p := sliceN nil (pushedOfWith sort (classForce ff idx) (classLocs st.1 idx))
  if p.length < idx.length then (writeLocs st.1 (idx.zip p), st.2 ++ idx.take p.length) else (st.1, st.2 ++ idx)

theorem length_classStepNS (sort : List Loc → List Loc) (nil : Loc) (ff : Table) (st : Table × List Nat) (idx : List Nat) :
    (classStepNS sort nil ff st idx).1.length = st.1.length := by
  simp only [classStepNS]
  split
  · exact length_writeLocs _ _
  · rfl

theorem repairLoop3_eq (nil : Loc) (gg : Table) (idx : List Nat) (h : ∀ i ∈ idx, i < gg.length) :
    Gen.repairLoop3 gg (idx.map Int.ofNat) 0 (List.replicate idx.length nil) = some (classLocs gg idx) := by
  have := gatherLoop_shape (Gen.repairLoop3 gg) gg (fun f : Feature => f.loc)
    (fun _ _ => by rw [Gen.repairLoop3]) (fun _ _ _ _ => by rw [Gen.repairLoop3]) idx []
    (List.replicate idx.length nil) h (by simp only [List.length_replicate]; exact Nat.le_refl _)
  simp only [List.length_nil, Int.cast_ofNat_Int, List.nil_append, List.drop_replicate, Nat.sub_self,
    List.replicate_zero, List.append_nil] at this
  exact this

theorem repairLoop4_eq (force : Bool) (locs racc : List Loc) :
    Gen.repairLoop4 force locs racc = some (Loc.pushAll racc locs force) :=
  foldLoop_shape (Gen.repairLoop4 force) (fun acc y => Loc.push acc y force)
    (fun _ => by rw [Gen.repairLoop4]) (fun _ _ _ => by rw [Gen.repairLoop4]) locs racc

theorem locationListSlice_pushAll (sort : List Loc → List Loc) (nil : Loc) (force : Bool) (locs : List Loc) :
    Gen.locationListSlice nil (Loc.pushAll [] (sort locs) force) = sliceN nil (pushedOfWith sort force locs) := by
  simp only [Gen.locationListSlice, sliceN, pushedOfWith, List.isEmpty_reverse]

theorem classForce_cons (ff : Table) (i : Nat) (idx : List Nat) (h : i < ff.length) :
    classForce ff (i :: idx) = decide (ff[i].key = "source") := by
  simp only [classForce, List.getElem?_eq_getElem h]
  rfl

/-- the write-back and `indices[:len(locs)]`, when `Push` has fused locations of the class -/
theorem repairWrite_eq (idx : List Nat) (p : List Loc) (gg : Table) (hidx : ∀ j ∈ idx, j < gg.length) :
    (if (p.length : Int) < (idx.length : Int) then
      (Gen.repairLoop5 (idx.map Int.ofNat) p 0 gg).bind fun st =>
        (Gen.goTo (idx.map Int.ofNat) (p.length : Int)).bind fun x => some (st, x)
      else some (gg, idx.map Int.ofNat)) =
    some (if p.length < idx.length then (writeLocs gg (idx.zip p), (idx.take p.length).map Int.ofNat)
      else (gg, idx.map Int.ofNat)) := by
  by_cases hlt : p.length < idx.length
  · rw [if_pos (Int.ofNat_lt.mpr hlt), if_pos hlt,
      show Gen.repairLoop5 (idx.map Int.ofNat) p 0 gg = some (writeLocs gg (idx.zip p)) from
        repairLoop5_drop idx p 0 gg hidx (by omega),
      Gen.goTo_eq, clTo_nat _ _ (by rw [List.length_map]; exact Nat.le_of_lt hlt), List.map_take]
    rfl
  · rw [if_neg (mt Int.ofNat_lt.mp hlt), if_neg hlt]

theorem repairLoop2_cons (sort : List Loc → List Loc) (nil : Loc) (ff gg : Table) (keep idx : List Nat) (k : String)
    (rest : List (String × List Int)) (hidx : ∀ j ∈ idx, j < gg.length) (hlen : gg.length = ff.length) :
    Gen.repairLoop2 nil sort ff ((k, idx.map Int.ofNat) :: rest) gg (keep.map Int.ofNat) =
      Gen.repairLoop2 nil sort ff rest (classStepNS sort nil ff (gg, keep) idx).1
        ((classStepNS sort nil ff (gg, keep) idx).2.map Int.ofNat) := by
  rw [Gen.repairLoop2, List.length_map]
  cases idx with
  | nil =>
    rw [if_neg (by decide)]
    simp only [Option.bind_some, classStepNS, List.length_nil, Nat.not_lt_zero, if_false, List.append_nil,
      List.map_nil]
  | cons i0 idx' =>
    have hi0 : i0 < ff.length := by have := hidx i0 List.mem_cons_self; omega
    have h0 : Gen.clAt (List.map Int.ofNat (i0 :: idx')) 0 = some (i0 : Int) := rfl
    have hpos : ((i0 :: idx').length : Int) > 0 := by simp only [List.length_cons]; omega
    simp only [if_pos hpos, Gen.goMake_nat, Option.bind_some, repairLoop3_eq nil gg (i0 :: idx') hidx, h0,
      Gen.goIdx_eq, clAt_lt ff i0 hi0, repairLoop4_eq, locationListSlice_pushAll, ← classForce_cons ff i0 idx' hi0,
      repairWrite_eq _ _ gg hidx, classStepNS]
    generalize sliceN nil (pushedOfWith sort (classForce ff (i0 :: idx')) (classLocs gg (i0 :: idx'))) = p
    by_cases h : p.length < (i0 :: idx').length <;> simp only [h, ↓reduceIte, List.map_append]

theorem repairLoop2_eq_sort (sort : List Loc → List Loc) (nil : Loc) (ff : Table) : ∀ (cs : List (String × List Nat)) (gg : Table) (keep : List Nat),
    (∀ c ∈ cs, ∀ j ∈ c.2, j < gg.length) → gg.length = ff.length →
    Gen.repairLoop2 nil sort ff (cs.map fun c => (c.1, c.2.map Int.ofNat)) gg (keep.map Int.ofNat) =
      some ((cs.foldl (fun st c => classStepNS sort nil ff st c.2) (gg, keep)).1,
        (cs.foldl (fun st c => classStepNS sort nil ff st c.2) (gg, keep)).2.map Int.ofNat) := by
  intro cs
  induction cs with
  | nil => intro gg keep _ _; rfl
  | cons c cs ih =>
    intro gg keep hv hlen
    have hl := length_classStepNS sort nil ff (gg, keep) c.2
    rw [List.map_cons, repairLoop2_cons sort nil ff gg keep c.2 c.1 _ (hv c List.mem_cons_self) hlen,
      ih _ _ (fun c' hc' j hj => hl ▸ hv c' (List.mem_cons_of_mem _ hc') j hj) (hl ▸ hlen)]
    rfl

theorem repairLoop2_eq (nil : Loc) (ff : Table) : ∀ (cs : List (String × List Nat)) (gg : Table) (keep : List Nat),
    (∀ c ∈ cs, ∀ j ∈ c.2, j < gg.length) → gg.length = ff.length →
    Gen.repairLoop2 nil sortLocs ff (cs.map fun c => (c.1, c.2.map Int.ofNat)) gg (keep.map Int.ofNat) =
      some ((cs.foldl (fun st c => classStepN nil ff st c.2) (gg, keep)).1,
        (cs.foldl (fun st c => classStepN nil ff st c.2) (gg, keep)).2.map Int.ofNat) :=
  repairLoop2_eq_sort sortLocs nil ff

/-- `Repair(ff)` with the nil `Location` as a value, the classes visited in the order `cs` -/
def repairOrdN (nil : Loc) (ff : Table) (cs : List (List Nat)) : Option Table :=
  compact (cs.foldl (classStepN nil ff) (ff, [])).1 (sortNat (cs.foldl (classStepN nil ff) (ff, [])).2)

/-- `repairOrdN` for an arbitrary `sort.Sort(Locations(·))`; `repairOrdN` is the instance `sortLocs` -/
def repairOrdNS (sort : List Loc → List Loc) (nil : Loc) (ff : Table) (cs : List (List Nat)) : Option Table :=
  compact (cs.foldl (classStepNS sort nil ff) (ff, [])).1 (sortNat (cs.foldl (classStepNS sort nil ff) (ff, [])).2)

theorem goCopy_replicate {α : Type} (z : α) (l : List α) : Gen.goCopy (List.replicate l.length z) l = l := by
  rw [Gen.goCopy_le _ _ (by simp only [List.length_replicate]; exact Nat.le_refl _)]
  simp only [List.drop_replicate, Nat.sub_self, List.replicate_zero, List.append_nil]

theorem sortInts_eq (sortInts : List Int → List Int)
    (hsort : ∀ l, (sortInts l).Perm l ∧ (sortInts l).Pairwise (· ≤ ·)) (keep : List Nat) :
    sortInts (keep.map Int.ofNat) = (sortNat keep).map Int.ofNat := by
  obtain ⟨hp, hs⟩ := hsort (keep.map Int.ofNat)
  apply List.Perm.eq_of_pairwise (le := (· ≤ ·)) (fun a b _ _ h1 h2 => Int.le_antisymm h1 h2) hs
  · rw [List.pairwise_map]
    exact (sortNat_sorted keep).imp (fun h => by simpa using h)
  · exact hp.trans ((sortNat_perm keep).map _).symm

/-- the tail of `Repair`: sorted `keep`, compaction, `gg[:len(keep)]` is the model's `compact` -/
theorem repairTail_eq (js : List Nat) (gg : Table) :
    ((Gen.repairLoop6 (js.map Int.ofNat) gg 0).bind fun st =>
      (Gen.goTo st.1 ((js.map Int.ofNat).length : Int)).bind fun x => some x) = compact gg js := by
  have := repairLoop6_eq js gg 0
  rw [Int.natCast_zero] at this
  rw [this]
  simp only [compact, List.length_map]
  cases h : compactLoop gg 0 js with
  | none => rfl
  | some gg' =>
    obtain ⟨h1, h2⟩ := compactLoop_some_length js gg 0 gg' h
    have hle : js.length ≤ gg'.length := by omega
    simp only [Option.map_some, Option.bind_some]
    rw [Gen.goTo_eq, clTo_nat _ _ hle]
    rfl

/-- `Repair` around its class loop: `make`, `copy` and the index map in front of it yield the classes of the table,
visited in some order `cs`; behind it, whatever state `(gg, keep)` the class loop leaves, the sort of `keep` and the
compaction are the model's `compact` -/
theorem repair_gen_classLoop (zero : Feature) (nil : Loc) (sortInts : List Int → List Int)
    (sprintf : String → String → List (List String) → String)
    (rangeMap : List (String × List Int) → List (String × List Int))
    (hfmt : ∀ f : Feature, sprintf "%q:%q" f.key f.props = classKey f)
    (hsort : ∀ l, (sortInts l).Perm l ∧ (sortInts l).Pairwise (· ≤ ·))
    (hrange : ∀ m, (rangeMap m).Perm m) (ff : Table) :
    ∃ cs : List (String × List Nat), (cs.map (·.2)).Perm (Table.groups ff) ∧ (∀ c ∈ cs, ∀ j ∈ c.2, j < ff.length) ∧
      ∀ (sort : List Loc → List Loc) (gg : Table) (keep : List Nat),
        Gen.repairLoop2 nil sort ff (cs.map fun c => (c.1, c.2.map Int.ofNat)) ff [] = some (gg, keep.map Int.ofNat) →
        Gen.repair zero nil sort sortInts sprintf rangeMap ff = compact gg (sortNat keep) := by
  -- the index map, and the order in which it is visited: a permutation `R` of it
  have hindex := indexLoop_shape (Gen.repairLoop sprintf) (fun _ _ => by rw [Gen.repairLoop])
    (fun f rest i m => by rw [Gen.repairLoop, hfmt]) ff
  have hR := hrange ((Table.classKeys ff).map fun k => (k, (Table.memberIdx ff k).map Int.ofNat))
  generalize hRdef : rangeMap _ = R at hR
  have hmemR : ∀ e ∈ R, e.2 = (Table.memberIdx ff e.1).map Int.ofNat := by
    intro e he
    obtain ⟨k, _, rfl⟩ := List.mem_map.mp (hR.subset he)
    rfl
  refine ⟨R.map fun e => (e.1, Table.memberIdx ff e.1), ?_, ?_, fun sort gg keep hloop => ?_⟩
  · have := hR.map fun e => Table.memberIdx ff e.1
    rw [List.map_map] at this
    rw [List.map_map, Table.groups]
    exact this
  · intro c hc j hj
    obtain ⟨e, _, rfl⟩ := List.mem_map.mp hc
    obtain ⟨f, hf, _⟩ := (Table.mem_memberIdx ff e.1 j).mp hj
    exact (List.getElem?_eq_some_iff.mp hf).1
  · have hRK : (R.map fun e => (e.1, Table.memberIdx ff e.1)).map (fun c => (c.1, c.2.map Int.ofNat)) = R := by
      rw [List.map_map]
      refine (List.map_congr_left fun e he => ?_).trans (List.map_id R)
      show (e.1, (Table.memberIdx ff e.1).map Int.ofNat) = e
      rw [← hmemR e he]
    rw [hRK] at hloop
    simp only [Gen.repair]
    rw [Gen.goMake_nat, Option.bind_some, goCopy_replicate, hindex, Option.bind_some, Gen.goMake3_zero,
      Option.bind_some, hRdef, hloop, Option.bind_some]
    simp only [sortInts_eq sortInts hsort]
    exact repairTail_eq _ _

/-- **the generated `Repair` is `repairOrdN`** for the order in which the map is visited, which is a
permutation of the model's classes `Table.groups` -/
theorem repair_gen_ord (zero : Feature) (nil : Loc) (sortInts : List Int → List Int)
    (sprintf : String → String → List (List String) → String)
    (rangeMap : List (String × List Int) → List (String × List Int))
    (hfmt : ∀ f : Feature, sprintf "%q:%q" f.key f.props = classKey f)
    (hsort : ∀ l, (sortInts l).Perm l ∧ (sortInts l).Pairwise (· ≤ ·))
    (hrange : ∀ m, (rangeMap m).Perm m) (ff : Table) :
    ∃ cs : List (List Nat), cs.Perm (Table.groups ff) ∧
      Gen.repair zero nil sortLocs sortInts sprintf rangeMap ff = repairOrdN nil ff cs := by
  obtain ⟨cs, hp, hv, he⟩ := repair_gen_classLoop zero nil sortInts sprintf rangeMap hfmt hsort hrange ff
  refine ⟨cs.map (·.2), hp, ?_⟩
  rw [he sortLocs _ _ (repairLoop2_eq nil ff cs ff [] hv rfl)]
  simp only [repairOrdN, List.foldl_map]

theorem length_sliceN (nil : Loc) (p : List Loc) : (sliceN nil p).length = sliceLen p := by
  simp only [sliceN, sliceLen]
  split <;> rfl

/-- where the model's step has not flagged a nil `Location`, the step on the nil value gives the same table and
indices (the pushed list is not empty, so `list.Slice()` is that list) -/
theorem classStepNS_eq (sort : List Loc → List Loc) (nil : Loc) (ff : Table) (s : RepairSt) (c : List Nat)
    (h : (classStepWith sort ff s c).nil = false) :
    s.nil = false ∧ classStepNS sort nil ff (s.gg, s.keep) c =
      ((classStepWith sort ff s c).gg, (classStepWith sort ff s c).keep) := by
  simp only [classStepNS, classStepWith, length_sliceN] at h ⊢
  by_cases hlt : sliceLen (pushedOfWith sort (classForce ff c) (classLocs s.gg c)) < c.length
  · simp only [if_pos hlt, Bool.or_eq_false_iff] at h ⊢
    simp only [sliceN, h.2, Bool.false_eq_true, if_false, h.1, true_and]
  · simp only [if_neg hlt] at h ⊢
    exact ⟨h, trivial⟩

theorem foldl_classStepN_eq (sort : List Loc → List Loc) (nil : Loc) (ff : Table) (cs : List (List Nat)) (s : RepairSt)
    (hn : (cs.foldl (classStepWith sort ff) s).nil = false) :
    s.nil = false ∧ cs.foldl (classStepNS sort nil ff) (s.gg, s.keep) =
      ((cs.foldl (classStepWith sort ff) s).gg, (cs.foldl (classStepWith sort ff) s).keep) := by
  induction cs generalizing s with
  | nil => exact ⟨hn, rfl⟩
  | cons c cs ih =>
    obtain ⟨h1, h2⟩ := ih (classStepWith sort ff s c) hn
    obtain ⟨h3, h4⟩ := classStepNS_eq sort nil ff s c h1
    exact ⟨h3, by rw [List.foldl_cons, h4, h2]; rfl⟩

theorem foldl_classStepN_keep (sort : List Loc → List Loc) (nil : Loc) (ff : Table) (cs : List (List Nat))
    (st : Table × List Nat) : ∃ X, (cs.foldl (classStepNS sort nil ff) st).2 = st.2 ++ X ∧ X.Sublist cs.flatten := by
  induction cs generalizing st with
  | nil => exact ⟨[], (List.append_nil _).symm, List.Sublist.refl _⟩
  | cons c cs ih =>
    obtain ⟨X, hX, hs⟩ := ih (classStepNS sort nil ff st c)
    rw [List.foldl_cons, List.flatten_cons, hX]
    simp only [classStepNS]
    split
    · exact ⟨_, List.append_assoc .., (List.take_sublist _ _).append hs⟩
    · exact ⟨_, List.append_assoc .., (List.Sublist.refl _).append hs⟩

theorem length_foldl_classStepN (sort : List Loc → List Loc) (nil : Loc) (ff : Table) (cs : List (List Nat))
    (st : Table × List Nat) : (cs.foldl (classStepNS sort nil ff) st).1.length = st.1.length := by
  induction cs generalizing st with
  | nil => rfl
  | cons c cs ih => rw [List.foldl_cons, ih, length_classStepNS]

/-- **`repairOrdNS sort` never fails** over a permutation of the classes of the table (the compaction reads and
writes inside the table: `keep` is a duplicate-free list of table indices) -/
theorem repairOrdN_some_sort (sort : List Loc → List Loc) (nil : Loc) (ff : Table) (cs : List (List Nat)) (hp : cs.Perm (Table.groups ff)) :
    ∃ t, repairOrdNS sort nil ff cs = some t := by
  obtain ⟨X, hX, hs⟩ := foldl_classStepN_keep sort nil ff cs (ff, [])
  simp only [List.nil_append] at hX
  have hnd : cs.flatten.Nodup := (hp.flatten.nodup_iff).mpr (Table.groups_flatten_nodup ff)
  have hXnd : X.Nodup := hnd.sublist hs
  have hXlt : ∀ j ∈ X, j < ff.length := fun j hj =>
    (Table.mem_groups_flatten ff j).mp ((hp.flatten.mem_iff).mp (hs.subset hj))
  have hperm := sortNat_perm X
  have hsorted : (sortNat X).Pairwise (· < ·) := by
    have hle := sortNat_sorted X
    have hnd' : (sortNat X).Nodup := (hperm.nodup_iff).mpr hXnd
    have := hle.and hnd'
    exact this.imp (fun ⟨h1, h2⟩ => Nat.lt_of_le_of_ne h1 h2)
  have hc := compact_incr (cs.foldl (classStepNS sort nil ff) (ff, [])).1 (sortNat X) hsorted (fun j hj => by
    rw [length_foldl_classStepN sort]
    exact hXlt j ((hperm.mem_iff).mp hj))
  exact ⟨_, by simp only [repairOrdNS, hX]; exact hc⟩

theorem repairOrd_ok (sort : List Loc → List Loc) (ff : Table) (cs : List (List Nat)) (t : Table) (h : repairOrdWith sort ff cs = .ok t) :
    (cs.foldl (classStepWith sort ff) ⟨ff, [], false⟩).nil = false ∧
      compact (cs.foldl (classStepWith sort ff) ⟨ff, [], false⟩).gg (sortNat (cs.foldl (classStepWith sort ff) ⟨ff, [], false⟩).keep) = some t := by
  simp only [repairOrdWith] at h
  split at h
  · cases h
  · rename_i gg hgg
    split at h
    · cases h
    · rename_i hnil
      cases h
      exact ⟨by simpa using hnil, hgg⟩

theorem repairOrdN_some (nil : Loc) (ff : Table) (cs : List (List Nat)) (hp : cs.Perm (Table.groups ff)) :
    ∃ t, repairOrdN nil ff cs = some t :=
  repairOrdN_some_sort sortLocs nil ff cs hp

theorem repairOrdN_of_ok_sort (sort : List Loc → List Loc) (nil : Loc) (ff : Table) (cs : List (List Nat)) (t : Table)
    (h : repairOrdWith sort ff cs = .ok t) : repairOrdNS sort nil ff cs = some t := by
  obtain ⟨hn, hc⟩ := repairOrd_ok sort ff cs t h
  simp only [repairOrdNS, (foldl_classStepN_eq sort nil ff cs ⟨ff, [], false⟩ hn).2]
  exact hc

theorem repairOrdN_of_ok (nil : Loc) (ff : Table) (cs : List (List Nat)) (t : Table)
    (h : repairOrd ff cs = .ok t) : repairOrdN nil ff cs = some t :=
  repairOrdN_of_ok_sort sortLocs nil ff cs t h

/-- **`Repair(ff)` as feature.go defines it now returns the table the model's `repair ff` returns** — for every
table on which the model answers a table (every table without a class of two or more empty `Joined{}`
literals: `Gts.C12.no_panic_ok`), every order in which Go visits the map, every sorted permutation that
`sort.Sort(sort.IntSlice(keep))` produces, every zero `Feature` and nil `Location` -/
theorem repair_gen (zero : Feature) (nil : Loc) (sortInts : List Int → List Int)
    (sprintf : String → String → List (List String) → String)
    (rangeMap : List (String × List Int) → List (String × List Int))
    (hfmt : ∀ f : Feature, sprintf "%q:%q" f.key f.props = classKey f)
    (hsort : ∀ l, (sortInts l).Perm l ∧ (sortInts l).Pairwise (· ≤ ·))
    (hrange : ∀ m, (rangeMap m).Perm m) (ff t : Table) (h : repair ff = .ok t) :
    Gen.repair zero nil sortLocs sortInts sprintf rangeMap ff = some t := by
  obtain ⟨cs, hp, he⟩ := repair_gen_ord zero nil sortInts sprintf rangeMap hfmt hsort hrange ff
  rw [he]
  apply repairOrdN_of_ok
  have : repairOrd ff cs = repair ff :=
    (repairOrd_perm ff _ _ hp.symm (Table.groups_flatten_nodup ff)).symm
  rw [this, h]

/-- **`Repair(ff)` as feature.go defines it now never panics**, on any table (in particular: the index
expressions `gg[i]`, `ff[indices[0]]`, `gg[indices[i]]`, the slice `indices[:len(locs)]`, the compaction and
`gg[:len(keep)]` stay in range) -/
theorem repair_gen_nopanic (zero : Feature) (nil : Loc) (sortInts : List Int → List Int)
    (sprintf : String → String → List (List String) → String)
    (rangeMap : List (String × List Int) → List (String × List Int))
    (hfmt : ∀ f : Feature, sprintf "%q:%q" f.key f.props = classKey f)
    (hsort : ∀ l, (sortInts l).Perm l ∧ (sortInts l).Pairwise (· ≤ ·))
    (hrange : ∀ m, (rangeMap m).Perm m) (ff : Table) :
    ∃ t, Gen.repair zero nil sortLocs sortInts sprintf rangeMap ff = some t := by
  obtain ⟨cs, hp, he⟩ := repair_gen_ord zero nil sortInts sprintf rangeMap hfmt hsort hrange ff
  rw [he]
  exact repairOrdN_some nil ff cs hp

-- non-vacuity: the hypotheses are satisfiable (the model's key text, the identity order, the model's sort of the
-- indices), and the generated function fuses two abutting fragments of a gene next to an unrelated feature
example : ∃ (sprintf : String → String → List (List String) → String) (sortInts : List Int → List Int)
    (rangeMap : List (String × List Int) → List (String × List Int)),
    (∀ f : Feature, sprintf "%q:%q" f.key f.props = classKey f) ∧
    (∀ l, (sortInts l).Perm l ∧ (sortInts l).Pairwise (· ≤ ·)) ∧ (∀ m, (rangeMap m).Perm m) :=
  ⟨fun _ k p => classKey ⟨k, .point 0, p⟩, fun l => l.mergeSort (fun a b => decide (a ≤ b)), id, fun _ => rfl,
    fun l => ⟨List.mergeSort_perm l _, by
      have := List.pairwise_mergeSort (le := fun a b : Int => decide (a ≤ b))
        (fun a b c h1 h2 => by simp only [decide_eq_true_eq] at *; omega)
        (fun a b => by simp only [Bool.or_eq_true, decide_eq_true_eq]; omega) l
      exact this.imp (fun h => by simpa using h)⟩, fun _ => List.Perm.refl _⟩
example : repair [⟨"gene", .ranged 0 2 false true, []⟩, ⟨"CDS", .point 1, []⟩, ⟨"gene", .ranged 2 4 true false, []⟩] =
    .ok [⟨"gene", .ranged 0 4 false false, []⟩, ⟨"CDS", .point 1, []⟩] := by rfl

end Gts.Bridge
