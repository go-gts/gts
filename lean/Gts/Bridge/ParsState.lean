/-
  C07 / C01 / C06 bridge (DESIGN.md 4.1a): the STATE of go-pars — stack.go and state.go of github.com/go-pars/pars
  v1.1.6, regenerated statement by statement on every run (`Gts/Gen/Pars.lean`, generator go2lean/gparsfn.go) — is
  what the hand-written model `Gts/Model/Pars.lean` says it is.

  The Go state is a buffer with an offset, the end of the requested range, a reader that fills the buffer in
  chunks, and a stack of (offset, position) frames in a slice with a fill index; `Clear` — and `autoclear`,
  whenever the stack runs empty in `Advance` / `Pop` / `Drop` — throws the consumed bytes away and re-bases every
  offset.  The model's state `PS` is "the rest of the input + the rests at the saved positions".

  * `absState pend g` is the ABSTRACTION FUNCTION (`pend rd err` = what the reader still holds), `Inv g` the
    representation invariant: the fill index points into the cell array, offset and saved offsets lie inside the
    buffer, nothing pushed ⇒ offset 0, and the OLDEST frame has offset 0 — which is why `Trail` may subtract
    `state.Offset()` AFTER `Pop` although `Pop` re-bases the buffer when it takes the last frame.
  * what is ASSUMED is `FillOk`: the read loop at the head of `State.Request` (a parameter of the generated code)
    changes nothing but buffer / reader / reader error, keeps the input as a whole, only lets the buffer grow,
    and leaves it short of the requested bytes only when the reader has ended.
  * `push_sim`, `pop_sim`, `drop_sim`, `clear_sim`, `pushed_sim`, `request_sim`, `advance_sim`, `next_sim`,
    `trail_sim`: from EVERY state that meets `Inv` the generated function does not panic (except where the model
    panics too: `Trail` behind a saved position), re-establishes `Inv`, and its effect read through `absState` is
    the run of `Pars.push / pop / drop / clear / pushed / request / advanceN / next / trail`.
    `stackPop_empty_panics`: the raw `stack.Pop` does panic on an empty stack (`v[-1]`), `State.Pop` / `Drop`
    guard it (`pars_stackPop_guarded`); `advance_without_request_panics`.
  Proofs by the list lemmas of core (`take`, `drop`, `set`), `omega` for the offsets; no decisions on samples.
-/
import Gts.Gen.Pars
import Gts.Model.Pars
import Gts.Lemmas.ParsSafe
import Gts.Lemmas.GoSlice
namespace Gts.Bridge
open Gts.Gen.GoPars
open Gts.Pars (PS Bytes)

/-! `v[i]` of the prelude `Gts/Gen/ParsPrelude.lean` is `clAt` of `Gts/Gen/CliList.lean` (lemmas: `Gts/Lemmas/GoSlice.lean`) -/

theorem parsIdx_eq : @goIdx = @Gen.clAt := rfl

def liveFrames (k : Stack) : List Frame := (k.v.take k.i.toNat).reverse
def WfStk (k : Stack) : Prop := 0 ≤ k.i ∧ k.i ≤ (k.v.length : Int)

theorem wfStk_nat {k : Stack} (h : WfStk k) : ∃ (v : List Frame) (n : Nat), k = ⟨v, n⟩ ∧ n ≤ v.length := by
  obtain ⟨h0, h1⟩ := h
  exact ⟨k.v, k.i.toNat, by rw [Int.toNat_of_nonneg h0], by omega⟩

theorem stackEmpty_eq (k : Stack) (h : WfStk k) : stackEmpty k = (liveFrames k).isEmpty := by
  obtain ⟨v, n, rfl, hle⟩ := wfStk_nat h
  unfold stackEmpty liveFrames
  cases n with
  | zero => simp
  | succ m =>
    cases v with
    | nil => simp at hle
    | cons a t =>
      have h1 : ¬ ((m : Int) + 1 = 0) := by omega
      simp [h1]

theorem stackReset_live (k : Stack) : liveFrames (stackReset k) = [] ∧ WfStk (stackReset k) := by
  simp [stackReset, liveFrames, WfStk]

theorem stackPush_k1_spec (v : List Frame) (n : Nat) (hlt : n < v.length) (o : Int) (p : Position) :
    stackPush_k1 ⟨v, n⟩ o p = some ⟨v.set n ⟨o, p⟩, (n : Int) + 1⟩ ∧
    WfStk ⟨v.set n ⟨o, p⟩, (n : Int) + 1⟩ ∧
    liveFrames ⟨v.set n ⟨o, p⟩, (n : Int) + 1⟩ = ⟨o, p⟩ :: liveFrames ⟨v, n⟩ := by
  refine ⟨?_, ?_, ?_⟩
  · simp [stackPush_k1, goSet, hlt]
  · simp [WfStk]; omega
  · simp only [liveFrames]
    have : ((n : Int) + 1).toNat = n + 1 := by omega
    rw [this, Int.toNat_natCast, List.take_add_one]
    simp [List.take_set_of_le, hlt]

theorem stackPush_spec (k : Stack) (h : WfStk k) (o : Int) (p : Position) :
    ∃ k', stackPush k o p = some k' ∧ WfStk k' ∧ liveFrames k' = ⟨o, p⟩ :: liveFrames k := by
  obtain ⟨v, n, rfl, hle⟩ := wfStk_nat h
  unfold stackPush
  split
  · rename_i heq
    simp only at heq
    have hnl : n = v.length := by omega
    have hlt : n < (v ++ List.replicate 16 (⟨0, ⟨0, 0⟩⟩ : Frame)).length := by simp; omega
    obtain ⟨h1, h2, h3⟩ := stackPush_k1_spec (v ++ List.replicate 16 ⟨0, ⟨0, 0⟩⟩) n hlt o p
    refine ⟨_, h1, h2, ?_⟩
    rw [h3]
    simp [liveFrames, hnl]
  · rename_i hne
    simp only at hne
    exact ⟨_, stackPush_k1_spec v n (by omega) o p⟩

theorem stackPop_spec (k : Stack) (h : WfStk k) :
    match liveFrames k with
    | [] => stackPop k = none
    | f :: fs => ∃ k', stackPop k = some (k', f.Off, f.Pos) ∧ WfStk k' ∧ liveFrames k' = fs := by
  obtain ⟨v, n, rfl, hle⟩ := wfStk_nat h
  cases n with
  | zero => simp [liveFrames, stackPop, goIdx]
  | succ m =>
    have hlt : m < v.length := by omega
    have : liveFrames ⟨v, ((m + 1 : Nat) : Int)⟩ = v[m] :: liveFrames ⟨v, (m : Int)⟩ := by
      show (v.take ((m + 1 : Nat) : Int).toNat).reverse = v[m] :: (v.take ((m : Nat) : Int).toNat).reverse
      rw [Int.toNat_natCast, Int.toNat_natCast, List.take_add_one, List.getElem?_eq_getElem hlt]
      simp
    rw [this]
    refine ⟨⟨v, m⟩, ?_, ?_, rfl⟩
    · unfold stackPop
      dsimp only
      rw [show ((m + 1 : Nat) : Int) - 1 = (m : Int) by omega, parsIdx_eq, clAt_lt v m hlt]
      rfl
    · show 0 ≤ (m : Int) ∧ (m : Int) ≤ (v.length : Int)
      omega

section State
variable {ρ ε : Type}

/-- everything from the start of the buffer on: the buffer, then what the reader still holds (`pend`) -/
def parsInput (pend : ρ → Option ε → Bytes) (g : State ρ ε) : Bytes := g.buf ++ pend g.rd g.err

/-- saved offsets as remaining inputs -/
def absStk (inp : Bytes) (fs : List Frame) : List Bytes := fs.map fun f => inp.drop f.Off.toNat

/-- THE ABSTRACTION: the state of the model `Gts.Pars.PS` a Go state stands for -/
def absState (pend : ρ → Option ε → Bytes) (g : State ρ ε) : PS :=
  ⟨(parsInput pend g).drop g.off.toNat, absStk (parsInput pend g) (liveFrames g.stk)⟩

/-- the representation invariant of `pars.State` -/
structure Inv (g : State ρ ε) : Prop where
  wf : WfStk g.stk
  off0 : 0 ≤ g.off
  offLe : g.off ≤ (g.buf.length : Int)
  frames : ∀ f ∈ liveFrames g.stk, 0 ≤ f.Off ∧ f.Off ≤ (g.buf.length : Int)
  emptyOff : liveFrames g.stk = [] → g.off = 0
  bottom : ∀ f, (liveFrames g.stk).getLast? = some f → f.Off = 0

theorem statePushed_eq (pend : ρ → Option ε → Bytes) (g : State ρ ε) (h : Inv g) :
    statePushed g = !(absState pend g).stk.isEmpty := by
  simp only [statePushed, stackEmpty_eq _ h.wf, absState, absStk, List.isEmpty_map]
  cases liveFrames g.stk <;> simp

theorem statePush_spec (pend : ρ → Option ε → Bytes) (g : State ρ ε) (h : Inv g) :
    ∃ g', statePush g = some g' ∧ Inv g' ∧
      absState pend g' = ⟨(absState pend g).rest, (absState pend g).rest :: (absState pend g).stk⟩ ∧
      g'.off = g.off ∧ g'.buf = g.buf ∧ g'.rd = g.rd ∧ g'.err = g.err := by
  obtain ⟨k', hk, hwf, hlive⟩ := stackPush_spec g.stk h.wf g.off g.pos
  refine ⟨{ g with stk := k' }, ?_, ?_, ?_, rfl, rfl, rfl, rfl⟩
  · simp [statePush, hk]
  · refine ⟨hwf, h.off0, h.offLe, ?_, ?_, ?_⟩
    · intro f hf
      simp only [hlive, List.mem_cons] at hf
      rcases hf with rfl | hf
      · exact ⟨h.off0, h.offLe⟩
      · exact h.frames f hf
    · simp [hlive]
    · intro f hf
      simp only [hlive] at hf
      cases hl : liveFrames g.stk with
      | nil => simp [hl] at hf; subst hf; exact h.emptyOff hl
      | cons a t => rw [hl, List.getLast?_cons_cons] at hf; exact h.bottom f (by rw [hl]; exact hf)
  · simp [absState, absStk, hlive, parsInput]

/-- `Inv` without "nothing pushed ⇒ offset 0": what holds between `stk.Pop()` / `off = end` and `autoclear` -/
structure Inv0 (g : State ρ ε) : Prop where
  wf : WfStk g.stk
  off0 : 0 ≤ g.off
  offLe : g.off ≤ (g.buf.length : Int)
  frames : ∀ f ∈ liveFrames g.stk, 0 ≤ f.Off ∧ f.Off ≤ (g.buf.length : Int)
  bottom : ∀ f, (liveFrames g.stk).getLast? = some f → f.Off = 0

theorem Inv.inv0 {g : State ρ ε} (h : Inv g) : Inv0 g := ⟨h.wf, h.off0, h.offLe, h.frames, h.bottom⟩

/-- the youngest frame taken off the stack (`stk.Pop()`), the offset set to any place inside the buffer -/
theorem Inv.popped {g : State ρ ε} (h : Inv g) {f : Frame} {fs : List Frame} (hl : liveFrames g.stk = f :: fs)
    {g' : State ρ ε} (hwf : WfStk g'.stk) (hlive : liveFrames g'.stk = fs) (hb : g'.buf = g.buf)
    (h0 : 0 ≤ g'.off) (h1 : g'.off ≤ (g.buf.length : Int)) : Inv0 g' := by
  refine ⟨hwf, h0, hb ▸ h1, ?_, ?_⟩
  · intro x hx
    rw [hb]
    exact h.frames x (by rw [hl]; exact List.mem_cons_of_mem _ (hlive ▸ hx))
  · intro x hx
    rw [hlive] at hx
    apply h.bottom x
    rw [hl]
    cases fs with
    | nil => cases hx
    | cons b u => rw [List.getLast?_cons_cons]; exact hx

theorem stateClear_spec (pend : ρ → Option ε → Bytes) (g : State ρ ε) (h0 : 0 ≤ g.off) (h1 : g.off ≤ (g.buf.length : Int)) :
    ∃ g', stateClear g = some g' ∧ Inv g' ∧ absState pend g' = ⟨(absState pend g).rest, []⟩ ∧
      g'.off = 0 ∧ g'.buf = g.buf.drop g.off.toNat ∧ g'.rd = g.rd ∧ g'.err = g.err ∧ liveFrames g'.stk = [] := by
  refine ⟨{ g with buf := g.buf.drop g.off.toNat, off := 0, stk := stackReset g.stk }, ?_, ?_, ?_, rfl, rfl, rfl, rfl, (stackReset_live _).1⟩
  · simp [stateClear, goFrom, h0, h1]
  · refine ⟨(stackReset_live _).2, by simp, by simp, ?_, fun _ => rfl, ?_⟩ <;> simp [(stackReset_live _).1]
  · have : g.off.toNat ≤ g.buf.length := by omega
    simp [absState, absStk, (stackReset_live _).1, parsInput, List.drop_append_of_le_length this]

theorem stateAutoclear_spec (pend : ρ → Option ε → Bytes) (g : State ρ ε) (h : Inv0 g) :
    ∃ g', stateAutoclear g = some g' ∧ Inv g' ∧ absState pend g' = absState pend g ∧ g'.rd = g.rd ∧ g'.err = g.err ∧
      liveFrames g'.stk = liveFrames g.stk ∧
      (liveFrames g.stk ≠ [] → g' = g) ∧
      (liveFrames g.stk = [] → g'.off = 0 ∧ g'.buf = g.buf.drop g.off.toNat) := by
  unfold stateAutoclear
  rw [stackEmpty_eq _ h.wf]
  cases hl : liveFrames g.stk with
  | nil =>
    obtain ⟨g', hc, hinv, habs, hoff, hbuf, hrd, herr, hlv⟩ := stateClear_spec pend g h.off0 h.offLe
    refine ⟨g', by simp [hc], hinv, ?_, hrd, herr, hlv, by simp, fun _ => ⟨hoff, hbuf⟩⟩
    rw [habs]; simp [absState, absStk, hl]
  | cons a t =>
    refine ⟨g, by simp, ⟨h.wf, h.off0, h.offLe, h.frames, by simp [hl], h.bottom⟩, rfl, rfl, rfl, hl, fun _ => rfl, by simp⟩

theorem getLast?_tail_of_ne {α} (a : α) (t : List α) (ht : t ≠ []) : (a :: t).getLast? = t.getLast? := by
  cases t with
  | nil => exact absurd rfl ht
  | cons b u => exact List.getLast?_cons_cons

theorem statePop_spec (pend : ρ → Option ε → Bytes) (g : State ρ ε) (h : Inv g) :
    match liveFrames g.stk with
    | [] => statePop g = some g
    | f :: fs => ∃ g', statePop g = some g' ∧ Inv g' ∧ g'.off = f.Off ∧ g'.buf = g.buf ∧ g'.rd = g.rd ∧ g'.err = g.err ∧
        liveFrames g'.stk = fs := by
  have hp := stackPop_spec g.stk h.wf
  unfold statePop
  rw [stackEmpty_eq _ h.wf]
  cases hl : liveFrames g.stk with
  | nil => simp
  | cons f fs =>
    rw [hl] at hp
    obtain ⟨k', hk, hwf, hlive⟩ := hp
    have hf := h.frames f (by rw [hl]; exact List.mem_cons_self)
    have h0 : Inv0 ({ g with stk := k', off := f.Off, pos := f.Pos } : State ρ ε) :=
      h.popped hl hwf hlive rfl hf.1 hf.2
    obtain ⟨g', ha, hinv, _, hrd, herr, hlv, hne, hemp⟩ := stateAutoclear_spec pend _ h0
    -- `autoclear` changes the state only when `f` was the last frame, and then `f.Off = 0`
    have hob : g'.off = f.Off ∧ g'.buf = g.buf := by
      cases fs with
      | nil =>
        have hb : f.Off = 0 := h.bottom f (by rw [hl]; rfl)
        obtain ⟨ho, hbuf⟩ := hemp hlive
        exact ⟨by rw [ho, hb], by rw [hbuf]; simp only [hb, Int.toNat_zero, List.drop_zero]⟩
      | cons b u => rw [hne (by rw [hlive]; exact List.cons_ne_nil _ _)]; exact ⟨rfl, rfl⟩
    exact ⟨g', by simp [hk, ha], hinv, hob.1, hob.2, hrd, herr, by rw [hlv]; exact hlive⟩

theorem absState_of (pend : ρ → Option ε → Bytes) (g g' : State ρ ε) (hb : g'.buf = g.buf) (hr : g'.rd = g.rd) (he : g'.err = g.err) :
    absState pend g' = ⟨(parsInput pend g).drop g'.off.toNat, absStk (parsInput pend g) (liveFrames g'.stk)⟩ := by
  simp [absState, parsInput, hb, hr, he]

theorem stateDrop_spec (pend : ρ → Option ε → Bytes) (g : State ρ ε) (h : Inv g) :
    ∃ g', stateDrop g = some g' ∧ Inv g' ∧
      absState pend g' = ⟨(absState pend g).rest, (absState pend g).stk.drop 1⟩ := by
  have hp := stackPop_spec g.stk h.wf
  unfold stateDrop
  rw [stackEmpty_eq _ h.wf]
  cases hl : liveFrames g.stk with
  | nil => exact ⟨g, by simp, h, by simp [absState, absStk, hl]⟩
  | cons f fs =>
    rw [hl] at hp
    obtain ⟨k', hk, hwf, hlive⟩ := hp
    have h0 : Inv0 ({ g with stk := k' } : State ρ ε) := h.popped hl hwf hlive rfl h.off0 h.offLe
    obtain ⟨g', ha, hinv, habs, _⟩ := stateAutoclear_spec pend _ h0
    refine ⟨g', by simp [hk, ha], hinv, ?_⟩
    rw [habs]
    simp [absState, absStk, hl, hlive, parsInput]

/-- a successful `Request(k)` is pending: `Buffer()` is the next `k` bytes and `Advance()` consumes them -/
def Ready (g : State ρ ε) (k : Nat) : Prop := g.end_ = g.off + k ∧ g.off + k ≤ (g.buf.length : Int)

theorem stateBuffer_spec (pend : ρ → Option ε → Bytes) (g : State ρ ε) (h : Inv g) (k : Nat) (hr : Ready g k) :
    stateBuffer g = some ((absState pend g).rest.take k) := by
  obtain ⟨he, hle⟩ := hr
  obtain ⟨o, ho⟩ := Int.eq_ofNat_of_zero_le h.off0
  have c1 : (0 : Int) ≤ o ∧ (o : Int) ≤ (o : Int) + k ∧ (o : Int) + k ≤ (g.buf.length : Int) := by omega
  have e1 : ((o : Int) + (k : Int)).toNat - o = k := by omega
  simp only [stateBuffer, goSlice, he, ho, c1, and_self, if_true, Option.bind_some, Int.toNat_natCast, e1, absState, parsInput]
  congr 1
  rw [List.drop_append_of_le_length (by omega), List.take_append_of_le_length (by simp; omega)]

theorem foldl_pos_only (f : State ρ ε → UInt8 → State ρ ε) (hf : ∀ s b, ∃ p, f s b = { s with pos := p })
    (l : List UInt8) (s : State ρ ε) : ∃ p, l.foldl f s = { s with pos := p } := by
  induction l generalizing s with
  | nil => exact ⟨s.pos, rfl⟩
  | cons b t ih =>
    obtain ⟨p, hp⟩ := hf s b
    obtain ⟨q, hq⟩ := ih { s with pos := p }
    exact ⟨q, by rw [List.foldl_cons, hp, hq]⟩

theorem stateAdvance_spec (pend : ρ → Option ε → Bytes) (g : State ρ ε) (h : Inv g) (k : Nat) (hr : Ready g k) :
    ∃ g', stateAdvance g = some g' ∧ Inv g' ∧
      absState pend g' = ⟨(absState pend g).rest.drop k, (absState pend g).stk⟩ := by
  obtain ⟨he, hle⟩ := hr
  have ho := h.off0
  have c0 : ¬ (g.end_ < 0) := by omega
  have c1 : (0 : Int) ≤ g.off ∧ g.off ≤ g.end_ ∧ g.end_ ≤ (g.buf.length : Int) := by omega
  unfold stateAdvance
  simp only [c0, if_false, goSlice, c1, and_self, if_true, Option.bind_some]
  generalize hF : List.foldl _ g _ = st
  obtain ⟨p, rfl⟩ : ∃ p, st = { g with pos := p } :=
    hF ▸ foldl_pos_only _ (fun s b => by split <;> exact ⟨_, rfl⟩) _ g
  have h0 : Inv0 ({ g with pos := p, off := g.end_, end_ := -1 } : State ρ ε) :=
    ⟨h.wf, by simp only; omega, by simp only; omega, h.frames, h.bottom⟩
  obtain ⟨g', ha, hinv, habs, _⟩ := stateAutoclear_spec pend _ h0
  refine ⟨g', ?_, hinv, ?_⟩
  · simpa using ha
  · rw [habs]
    have e : (g.off + (k : Int)).toNat = g.off.toNat + k := by omega
    simp [absState, parsInput, he, e, List.drop_drop, Nat.add_comm]

/-- THE ASSUMPTION about the part of `State.Request` that is not translated — the loop that reads from the
`io.Reader` into the buffer —, with `pend` = what the reader still holds: it changes nothing but the buffer, the
reader and its error; the input as a whole (buffer + what is pending) stays; the buffer only grows; and when the
buffer is still short of `off + n` bytes afterwards, the reader has ended (error set, nothing pending).
In words: "the next `n` bytes of the remaining input are available, or an error if fewer remain". -/
structure FillOk (env : Env ρ ε) (pend : ρ → Option ε → Bytes) : Prop where
  frame : ∀ g n, (env.fill g n).off = g.off ∧ (env.fill g n).end_ = g.end_ ∧ (env.fill g n).pos = g.pos ∧
    (env.fill g n).stk = g.stk
  input : ∀ g n, parsInput pend (env.fill g n) = parsInput pend g
  grows : ∀ g n, g.buf.length ≤ (env.fill g n).buf.length
  short : ∀ g n, ((env.fill g n).buf.length : Int) < g.off + n →
    (env.fill g n).err.isSome = true ∧ pend (env.fill g n).rd (env.fill g n).err = []

theorem absState_congr (pend : ρ → Option ε → Bytes) (g g' : State ρ ε) (hi : parsInput pend g' = parsInput pend g)
    (ho : g'.off = g.off) (hs : g'.stk = g.stk) : absState pend g' = absState pend g := by
  simp [absState, hi, ho, hs]

theorem Inv.of_grow {g g' : State ρ ε} (h : Inv g) (ho : g'.off = g.off) (hs : g'.stk = g.stk)
    (hb : g.buf.length ≤ g'.buf.length) : Inv g' := by
  refine ⟨by rw [hs]; exact h.wf, by rw [ho]; exact h.off0, by rw [ho]; have := h.offLe; omega, ?_,
    by rw [hs, ho]; exact h.emptyOff, by rw [hs]; exact h.bottom⟩
  intro f hf
  rw [hs] at hf
  have := h.frames f hf
  omega

theorem absRest_length (pend : ρ → Option ε → Bytes) (g : State ρ ε) (h : Inv g) :
    ((absState pend g).rest.length : Int) = g.buf.length + (pend g.rd g.err).length - g.off := by
  have := h.off0; have := h.offLe
  simp [absState, parsInput]; omega

/-- `Request(n)`, `0 ≤ n`: nothing the model sees changes; `n` bytes left: no error and the request is pending;
fewer: an error, and what IS left is pending -/
theorem stateRequest_spec (env : Env ρ ε) (pend : ρ → Option ε → Bytes) (hf : FillOk env pend) (g : State ρ ε) (h : Inv g) (k : Nat) :
    Inv (stateRequest env g k).1 ∧ absState pend (stateRequest env g k).1 = absState pend g ∧
    (stateRequest env g k).1.off = g.off ∧ (stateRequest env g k).1.stk = g.stk ∧
    (if k ≤ (absState pend g).rest.length then (stateRequest env g k).2 = none ∧ Ready (stateRequest env g k).1 k
     else (stateRequest env g k).2.isSome = true ∧ Ready (stateRequest env g k).1 (absState pend g).rest.length) := by
  obtain ⟨fo, fe, fp, fs⟩ := hf.frame g k
  have hinv' : Inv (env.fill g k) := h.of_grow fo fs (hf.grows g k)
  have habs' : absState pend (env.fill g k) = absState pend g := absState_congr pend _ _ (hf.input g k) fo fs
  have hlen := absRest_length pend _ hinv'
  rw [habs', fo] at hlen
  unfold stateRequest
  simp only []
  split <;> refine ⟨hinv'.of_grow rfl rfl (Nat.le_refl _), (absState_congr pend _ _ rfl rfl rfl).trans habs', fo, fs, ?_⟩
  · rename_i hlt
    rw [fo] at hlt
    obtain ⟨herr, hpend⟩ := hf.short g k hlt
    rw [hpend] at hlen
    simp only [List.length_nil, Int.natCast_zero, Int.add_zero] at hlen
    rw [if_neg (by omega)]
    refine ⟨herr, ?_, ?_⟩
    · show ((env.fill g k).buf.length : Int) = (env.fill g k).off + _
      rw [fo]; omega
    · show (env.fill g k).off + _ ≤ ((env.fill g k).buf.length : Int)
      rw [fo]; omega
  · rename_i hge
    rw [fo] at hge
    rw [if_pos (by omega)]
    refine ⟨rfl, rfl, ?_⟩
    show (env.fill g k).off + _ ≤ ((env.fill g k).buf.length : Int)
    rw [fo]; omega

/-- `Request(n)` for any `n` with `off + n` inside the buffer (`Trail` asks for a NEGATIVE length when the saved position
lies behind the current one): no error, `end = off + n` -/
theorem stateRequest_inside (env : Env ρ ε) (pend : ρ → Option ε → Bytes) (hf : FillOk env pend) (g : State ρ ε) (n : Int)
    (hle : g.off + n ≤ (g.buf.length : Int)) :
    (stateRequest env g n).2 = none ∧ (stateRequest env g n).1.end_ = g.off + n ∧
    (stateRequest env g n).1.off = g.off ∧ g.buf.length ≤ (stateRequest env g n).1.buf.length := by
  obtain ⟨fo, fe, fp, fs⟩ := hf.frame g n
  have fg := hf.grows g n
  unfold stateRequest
  simp only []
  have : ¬ (((env.fill g n).buf.length : Int) < (env.fill g n).off + n) := by rw [fo]; omega
  rw [if_neg this]
  exact ⟨rfl, by show (env.fill g n).off + n = _; rw [fo], fo, fg⟩

theorem parsNext_spec (env : Env ρ ε) (pend : ρ → Option ε → Bytes) (hf : FillOk env pend) (g : State ρ ε) (h : Inv g) :
    match (absState pend g).rest with
    | [] => ∃ g' e, parsNext env g = some (g', 0, some e) ∧ Inv g' ∧ absState pend g' = absState pend g
    | b :: _ => ∃ g', parsNext env g = some (g', b, none) ∧ Inv g' ∧ absState pend g' = absState pend g ∧ Ready g' 1 := by
  obtain ⟨hinv, habs, _, _, hif⟩ := stateRequest_spec env pend hf g h 1
  rw [Int.natCast_one] at hinv habs hif
  cases hr : (absState pend g).rest with
  | nil =>
    rw [hr, if_neg (show ¬ (1 ≤ ([] : Bytes).length) from Nat.not_succ_le_zero 0)] at hif
    obtain ⟨e, he⟩ := Option.isSome_iff_exists.mp hif.1
    exact ⟨_, e, by simp [parsNext, he], hinv, habs⟩
  | cons b t =>
    rw [hr, if_pos (show 1 ≤ (b :: t).length from Nat.succ_le_succ (Nat.zero_le _))] at hif
    have hb := stateBuffer_spec pend _ hinv 1 hif.2
    rw [habs, hr] at hb
    refine ⟨_, ?_, hinv, habs, hif.2⟩
    simp [parsNext, hif.1, hb, goIdx]

theorem parsSkip_spec (env : Env ρ ε) (pend : ρ → Option ε → Bytes) (hf : FillOk env pend) (g : State ρ ε) (h : Inv g) (k : Nat) :
    if k ≤ (absState pend g).rest.length then
      ∃ g', parsSkip env g k = some (g', none) ∧ Inv g' ∧
        absState pend g' = ⟨(absState pend g).rest.drop k, (absState pend g).stk⟩
    else ∃ g' e, parsSkip env g k = some (g', some e) ∧ Inv g' ∧ absState pend g' = absState pend g := by
  obtain ⟨hinv, habs, _, _, hif⟩ := stateRequest_spec env pend hf g h k
  split
  · rename_i hk
    rw [if_pos hk] at hif
    obtain ⟨g', ha, hinv', habs'⟩ := stateAdvance_spec pend _ hinv k hif.2
    refine ⟨g', ?_, hinv', by rw [habs', habs]⟩
    simp [parsSkip, hif.1, ha]
  · rename_i hk
    rw [if_neg hk] at hif
    obtain ⟨e, he⟩ := Option.isSome_iff_exists.mp hif.1
    exact ⟨_, e, by simp [parsSkip, he], hinv, habs⟩

theorem parsInput_length_ge (pend : ρ → Option ε → Bytes) (g : State ρ ε) : g.buf.length ≤ (parsInput pend g).length := by
  simp [parsInput]

/-- `pars.Trail`: nothing pushed — an error and no bytes; the youngest saved position BEHIND the current one — the Go
panic (negative length, `Buffer()` slices `buf[off:end]` with `end < off`); else the bytes from the saved position up
to here, the position stays, the frame is gone -/
theorem parsTrail_spec (env : Env ρ ε) (pend : ρ → Option ε → Bytes) (hf : FillOk env pend) (g : State ρ ε) (h : Inv g) :
    match liveFrames g.stk with
    | [] => parsTrail env g = some (g, [], some env.mkErr)
    | f :: fs =>
      if g.off < f.Off then parsTrail env g = none
      else ∃ g', parsTrail env g = some (g', ((parsInput pend g).drop f.Off.toNat).take (g.off - f.Off).toNat, none) ∧
        Inv g' ∧ absState pend g' =
          ⟨((parsInput pend g).drop f.Off.toNat).drop (g.off - f.Off).toNat, absStk (parsInput pend g) fs⟩ := by
  have hpushed := statePushed_eq pend g h
  have hpop := statePop_spec pend g h
  cases hl : liveFrames g.stk with
  | nil =>
    simp only [absState, absStk, hl, List.map_nil, List.isEmpty_nil, Bool.not_true] at hpushed
    simp [parsTrail, hpushed]
  | cons f fs =>
    simp only [absState, absStk, hl, List.map_cons, List.isEmpty_cons, Bool.not_false] at hpushed
    rw [hl] at hpop
    obtain ⟨g1, hp1, hinv1, hoff1, hbuf1, hrd1, herr1, hlive1⟩ := hpop
    have hfb := h.frames f (by rw [hl]; exact List.mem_cons_self)
    have habs1 := absState_of pend g g1 hbuf1 hrd1 herr1
    rw [hoff1, hlive1] at habs1
    dsimp only
    split
    · -- the saved position lies behind the current one
      rename_i hlt
      obtain ⟨_, hend, hoff2, _⟩ := stateRequest_inside env pend hf g1 (g.off - g1.off)
        (by rw [hbuf1]; have := h.offLe; omega)
      have hb : stateBuffer (stateRequest env g1 (g.off - g1.off)).1 = none := by
        have : ¬ ((stateRequest env g1 (g.off - g1.off)).1.off ≤ (stateRequest env g1 (g.off - g1.off)).1.end_) := by
          rw [hend, hoff2, hoff1]; omega
        simp [stateBuffer, goSlice, this]
      simp [parsTrail, hpushed, stateOffset, hp1, hb]
    · rename_i hge
      obtain ⟨k, hk⟩ := Int.eq_ofNat_of_zero_le (Int.sub_nonneg_of_le (Int.not_lt.mp hge))
      obtain ⟨hinv2, habs2, _, _, hif⟩ := stateRequest_spec env pend hf g1 hinv1 k
      have hklen : k ≤ (absState pend g1).rest.length := by
        rw [habs1]
        have := parsInput_length_ge pend g
        have := h.offLe
        simp only [List.length_drop]
        omega
      rw [if_pos hklen] at hif
      have hb := stateBuffer_spec pend _ hinv2 k hif.2
      obtain ⟨g3, ha, hinv3, habs3⟩ := stateAdvance_spec pend _ hinv2 k hif.2
      rw [habs2, habs1] at hb habs3
      refine ⟨g3, ?_, hinv3, ?_⟩
      · simp [parsTrail, hpushed, stateOffset, hp1, hoff1, hb, ha, hk]
      · rw [habs3, hk, Int.toNat_natCast]

/-- `state.Push()` = `Pars.push`: never panics -/
theorem push_sim (pend : ρ → Option ε → Bytes) (g : State ρ ε) (h : Inv g) :
    ∃ g', statePush g = some g' ∧ Inv g' ∧ Pars.push.run' (absState pend g) = (.ok (), absState pend g') := by
  obtain ⟨g', h1, h2, h3, _⟩ := statePush_spec pend g h
  exact ⟨g', h1, h2, by rw [Pars.run_push, h3]⟩

/-- `state.Pop()` = `Pars.pop`: never panics, does nothing on an empty stack -/
theorem pop_sim (pend : ρ → Option ε → Bytes) (g : State ρ ε) (h : Inv g) :
    ∃ g', statePop g = some g' ∧ Inv g' ∧ Pars.pop.run' (absState pend g) = (.ok (), absState pend g') := by
  have hp := statePop_spec pend g h
  rw [Pars.run_pop]
  cases hl : liveFrames g.stk with
  | nil =>
    rw [hl] at hp
    exact ⟨g, hp, h, by simp [absState, absStk, hl]⟩
  | cons f fs =>
    rw [hl] at hp
    obtain ⟨g', h1, h2, h3, h4, h5, h5', h6⟩ := hp
    refine ⟨g', h1, h2, ?_⟩
    simp [absState, absStk, hl, parsInput, h3, h4, h5, h5', h6]

/-- `state.Drop()` = `Pars.drop`: never panics, does nothing on an empty stack -/
theorem drop_sim (pend : ρ → Option ε → Bytes) (g : State ρ ε) (h : Inv g) :
    ∃ g', stateDrop g = some g' ∧ Inv g' ∧ Pars.drop.run' (absState pend g) = (.ok (), absState pend g') := by
  obtain ⟨g', h1, h2, h3⟩ := stateDrop_spec pend g h
  exact ⟨g', h1, h2, by rw [Pars.run_drop, h3]⟩

/-- `state.Clear()` = `Pars.clear`: never panics, every saved position is gone, the position stays -/
theorem clear_sim (pend : ρ → Option ε → Bytes) (g : State ρ ε) (h : Inv g) :
    ∃ g', stateClear g = some g' ∧ Inv g' ∧ Pars.clear.run' (absState pend g) = (.ok (), absState pend g') := by
  obtain ⟨g', h1, h2, h3, _⟩ := stateClear_spec pend g h.off0 h.offLe
  exact ⟨g', h1, h2, by rw [Pars.run_clear, h3]⟩

/-- `state.Pushed()` = `Pars.pushed` -/
theorem pushed_sim (pend : ρ → Option ε → Bytes) (g : State ρ ε) (h : Inv g) :
    Pars.pushed.run' (absState pend g) = (.ok (statePushed g), absState pend g) := by
  rw [statePushed_eq pend g h]; rfl

/-- `state.Request(n)` + `state.Buffer()` = `Pars.request n`: an error iff fewer than `n` bytes remain, else the next `n`
bytes; nothing the model sees changes -/
theorem request_sim (env : Env ρ ε) (pend : ρ → Option ε → Bytes) (hf : FillOk env pend) (g : State ρ ε) (h : Inv g) (n : Nat) :
    Inv (stateRequest env g n).1 ∧ absState pend (stateRequest env g n).1 = absState pend g ∧
    match (Pars.request n).run' (absState pend g) with
    | (.ok p, _) => (stateRequest env g n).2 = none ∧ stateBuffer (stateRequest env g n).1 = some p ∧
        Ready (stateRequest env g n).1 n
    | (.error _, _) => (stateRequest env g n).2.isSome = true := by
  obtain ⟨h1, h2, _, _, hif⟩ := stateRequest_spec env pend hf g h n
  refine ⟨h1, h2, ?_⟩
  rw [Pars.run_request]
  split at hif
  · rename_i hk
    rw [if_neg (by omega)]
    have hb := stateBuffer_spec pend _ h1 n hif.2
    rw [h2] at hb
    exact ⟨hif.1, hb, hif.2⟩
  · rename_i hk
    rw [if_pos (by omega)]
    exact hif.1

/-- `state.Advance()` behind a successful `Request(n)` = `Pars.advanceN n` (`advance1` for `n = 1`): never panics -/
theorem advance_sim (pend : ρ → Option ε → Bytes) (g : State ρ ε) (h : Inv g) (n : Nat) (hr : Ready g n) :
    ∃ g', stateAdvance g = some g' ∧ Inv g' ∧ (Pars.advanceN n).run' (absState pend g) = (.ok (), absState pend g') := by
  obtain ⟨g', h1, h2, h3⟩ := stateAdvance_spec pend g h n hr
  exact ⟨g', h1, h2, by rw [Pars.run_advanceN, h3]⟩

/-- `state.Advance()` without a `Request` in front panics (`end` is −1 then); no parser calls it so -/
theorem advance_without_request_panics (g : State ρ ε) (he : g.end_ < 0) : stateAdvance g = none := by
  simp [stateAdvance, he]

/-- `pars.Next` = `Pars.next`: the next byte, or an error at the end of the input; nothing the model sees changes -/
theorem next_sim (env : Env ρ ε) (pend : ρ → Option ε → Bytes) (hf : FillOk env pend) (g : State ρ ε) (h : Inv g) :
    match Pars.next.run' (absState pend g) with
    | (.ok b, s') => ∃ g', parsNext env g = some (g', b, none) ∧ Inv g' ∧ absState pend g' = s' ∧ Ready g' 1
    | (.error _, s') => ∃ g' e, parsNext env g = some (g', 0, some e) ∧ Inv g' ∧ absState pend g' = s' := by
  have hn := parsNext_spec env pend hf g h
  rw [Pars.run_next]
  cases hr : (absState pend g).rest <;> (rw [hr] at hn; exact hn)

/-- `stack.Pop()` on an empty stack indexes `v[-1]`: the Go panic `State.Pop` / `State.Drop` guard against -/
theorem stackPop_empty_panics (k : Stack) (h : WfStk k) (he : liveFrames k = []) : stackPop k = none := by
  have := stackPop_spec k h
  rw [he] at this
  exact this

/-- `pars.Trail` = `Pars.trail`, the Go panic included: it panics exactly when the model does (the youngest saved
position lies behind the current one); else the same bytes and the same state; nothing pushed: no bytes (and an error
the callers drop) -/
theorem trail_sim (env : Env ρ ε) (pend : ρ → Option ε → Bytes) (hf : FillOk env pend) (g : State ρ ε) (h : Inv g) :
    match Pars.trail.run' (absState pend g) with
    | (.ok p, s') => ∃ g' e, parsTrail env g = some (g', p, e) ∧ Inv g' ∧ absState pend g' = s' ∧
        (e.isSome = (absState pend g).stk.isEmpty)
    | (.error .panic, _) => parsTrail env g = none
    | (.error .fail, _) => False := by
  have ht := parsTrail_spec env pend hf g h
  rw [Pars.run_trail]
  cases hl : liveFrames g.stk with
  | nil =>
    rw [hl] at ht
    simp only [absState, absStk, hl, List.map_nil]
    exact ⟨g, some env.mkErr, ht, h, by simp [hl], rfl⟩
  | cons f fs =>
    rw [hl] at ht
    obtain ⟨hf0, hfb⟩ := h.frames f (by rw [hl]; exact List.mem_cons_self)
    have hL := parsInput_length_ge pend g
    -- offsets as natural numbers `fo`, `o` below the length of the input
    obtain ⟨fo, hfo⟩ := Int.eq_ofNat_of_zero_le hf0
    obtain ⟨o, ho⟩ := Int.eq_ofNat_of_zero_le h.off0
    have hole : o ≤ (parsInput pend g).length := by have := h.offLe; omega
    simp only [absState, absStk, hl, List.map_cons, List.length_drop, hfo, ho, Int.toNat_natCast]
    simp only [hfo, ho, Int.toNat_natCast] at ht
    by_cases hc : (o : Int) < (fo : Int)
    · rw [if_pos hc] at ht
      rw [if_pos (by omega)]
      exact ht
    · rw [if_neg hc] at ht
      rw [if_neg (by omega)]
      obtain ⟨g', h1, h2, h3⟩ := ht
      rw [show (parsInput pend g).length - fo - ((parsInput pend g).length - o) = ((o : Int) - (fo : Int)).toNat by omega]
      exact ⟨g', none, h1, h2, h3, rfl⟩
end State
end Gts.Bridge
