/-
  Bridge: the filter constructors of feature.go and `FeatureSlice.Filter`, regenerated by go2lean
  (Gts/Gen/FeatFilter.lean: a `Filter` is a function `Feature → Bool`, a closure reads the arguments
  of its constructor, the `range` loops are recursive helpers), are the hand-written model
  (Gts/Model/Feature.lean): `andF`, `orF` (incl. K19B: `Or()` of nothing is `TrueFilter`), `notF`,
  `keyF`, `withinF`, `overlapF`, `forwardStrand`, `reverseStrand`, `trueFilter`, `falseFilter`, and
  `Table.filterTable` — for every argument, every feature, every table, and every value of the zero
  `Feature` that `make` fills the result with (so: every cell of the result is overwritten).

  The closure loops and the collecting loop are proved by induction on the generated helpers; the filling loop
  `gg[i] = ff[indices[i]]` has the shape of `gatherLoop_shape` (Gts/Bridge/FeatRepair.lean).
-/
import Gts.Gen.FeatFilter
import Gts.Bridge.LocPred
import Gts.Bridge.LocStrand
import Gts.Bridge.FeatRepair
import Gts.Model.Feature
namespace Gts.Bridge
open Gts

/-- `for _, filter := range filters { if !filter(f) { return false } }` -/
theorem filterAndLoop_eq (f : Feature) (fs : List Filter) :
    Gen.filterAndLoop f fs = if fs.all (fun p => p f) = true then .next () else .ret false := by
  induction fs with
  | nil => rfl
  | cons p fs ih =>
    rw [Gen.filterAndLoop, ih, List.all_cons]
    cases p f <;> rfl

/-- `for _, filter := range filters { if filter(f) { return true } }` -/
theorem filterOrLoop_eq (f : Feature) (fs : List Filter) :
    Gen.filterOrLoop f fs = if fs.any (fun p => p f) = true then .ret true else .next () := by
  induction fs with
  | nil => rfl
  | cons p fs ih =>
    rw [Gen.filterOrLoop, ih, List.any_cons]
    cases p f <;> rfl

theorem trueFilter_eq : Gen.trueFilter = trueFilter := rfl
theorem falseFilter_eq : Gen.falseFilter = falseFilter := rfl

theorem length_zero_iff {α : Type} (l : List α) : ((l.length : Int) = 0) ↔ l.isEmpty = true := by
  rw [List.isEmpty_iff_length_eq_zero]
  omega

/-- `And(filters...)`: `TrueFilter` for no filters, else the conjunction -/
theorem filterAnd_eq (fs : List Filter) : Gen.filterAnd fs = andF fs := by
  simp only [Gen.filterAnd, andF, length_zero_iff, trueFilter_eq]
  split
  · rfl
  · funext f
    rw [filterAndLoop_eq]
    cases h : fs.all (fun p => p f) <;> simp

/-- `Or(filters...)`: **`TrueFilter` for no filters** (K19B), else the disjunction -/
theorem filterOr_eq (fs : List Filter) : Gen.filterOr fs = orF fs := by
  simp only [Gen.filterOr, orF, length_zero_iff, trueFilter_eq]
  split
  · rfl
  · funext f
    rw [filterOrLoop_eq]
    cases h : fs.any (fun p => p f) <;> simp

theorem filterNot_eq (p : Filter) : Gen.filterNot p = notF p := by
  funext f
  simp only [Gen.filterNot, notF]
  cases p f <;> simp

theorem filterWithin_eq (lo hi : Int) : Gen.filterWithin lo hi = withinF lo hi := by
  funext f
  simp only [Gen.filterWithin, withinF, within_eq]

theorem filterOverlap_eq (lo hi : Int) : Gen.filterOverlap lo hi = overlapF lo hi := by
  funext f
  simp only [Gen.filterOverlap, overlapF, overlap_eq]

/-- `Key(key)`: the empty key accepts everything -/
theorem filterKey_eq (key : String) : Gen.filterKey key = keyF key := by
  simp only [Gen.filterKey, keyF, trueFilter_eq]

theorem forwardStrand_eq : Gen.forwardStrand = forwardStrand := by
  funext f
  simp only [Gen.forwardStrand, forwardStrand, locCheckStrand_eq, Gen.strandForward]
  exact decide_eq_decide.mpr (by omega)

theorem reverseStrand_eq : Gen.reverseStrand = reverseStrand := by
  funext f
  simp only [Gen.reverseStrand, reverseStrand, locCheckStrand_eq, Gen.strandReverse]
  exact decide_eq_decide.mpr (by omega)

/-- the collecting loop `for i, f := range ff { if filter(f) { indices = append(indices, i) } }` -/
theorem featureSliceFilterLoop_eq (p : Filter) (fs : Table) (k : Nat) (acc : List Int) :
    Gen.featureSliceFilterLoop p fs (k : Int) acc = some (acc ++ (Table.filterIndices p fs k).map Int.ofNat) := by
  induction fs generalizing k acc with
  | nil => rw [Gen.featureSliceFilterLoop, Table.filterIndices, List.map_nil, List.append_nil]
  | cons f fs ih =>
    rw [Gen.featureSliceFilterLoop, ← Int.natCast_succ, ih, Table.filterIndices]
    cases p ⟨f.key, f.loc, f.props⟩
    · rfl
    · rw [if_pos rfl, if_pos rfl, List.append_assoc]; rfl

theorem filterIndices_lt (p : Filter) (fs : Table) (k j : Nat) (h : j ∈ Table.filterIndices p fs k) :
    k ≤ j ∧ j < k + fs.length := by
  induction fs generalizing k with
  | nil => exact absurd h List.not_mem_nil
  | cons f fs ih =>
    rw [Table.filterIndices] at h
    rw [List.length_cons]
    by_cases hp : p ⟨f.key, f.loc, f.props⟩ = true
    · rw [if_pos hp] at h
      rcases List.mem_cons.mp h with rfl | h
      · omega
      · have := ih _ h; omega
    · rw [if_neg hp] at h
      have := ih _ h; omega

/-- **`FeatureSlice.Filter(filter)` as feature.go defines it now never panics and returns the model's
`Table.filterTable`** — the accepted features, in table order, untouched — for every table, every
filter and every value of the zero `Feature` -/
theorem featureSliceFilter_eq (zero : Feature) (ff : Table) (p : Filter) :
    Gen.featureSliceFilter zero ff p = some (Table.filterTable p ff) := by
  simp only [Gen.featureSliceFilter]
  rw [Gen.goMake3_zero, Option.bind_some]
  have h1 := featureSliceFilterLoop_eq p ff 0 []
  rw [Int.natCast_zero, List.nil_append] at h1
  rw [h1]
  simp only [Option.bind_some, List.length_map]
  rw [Gen.goMake_nat, Option.bind_some]
  have h2 := gatherLoop_shape (Gen.featureSliceFilterLoop2 ff) ff id (fun _ _ => rfl) (fun _ _ _ _ => rfl)
    (Table.filterIndices p ff 0) [] (List.replicate (Table.filterIndices p ff 0).length zero)
    (fun j h => by have := filterIndices_lt p ff 0 j h; omega) (by rw [List.length_replicate]; exact Nat.le_refl _)
  rw [List.length_nil, Int.natCast_zero, List.nil_append, List.nil_append] at h2
  rw [h2]
  simp only [Option.bind_some, Option.map_id, id_eq, List.drop_replicate, Nat.sub_self, List.replicate_zero, List.append_nil,
    Table.filterTable]

-- non-vacuity: a filter that accepts a proper non-empty part of a table, on the generated function
example : Gen.featureSliceFilter default
    [⟨"gene", .point 1, []⟩, ⟨"CDS", .point 5, []⟩, ⟨"gene", .compl (.point 7), []⟩]
    (Gen.filterAnd [Gen.filterKey "gene", Gen.forwardStrand]) = some [⟨"gene", .point 1, []⟩] := by
  rw [featureSliceFilter_eq]; rfl

end Gts.Bridge
