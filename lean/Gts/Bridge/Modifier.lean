/-
  Bridge (C08): the five `Modifier.Apply` methods REGENERATED from modifier.go by go2lean
  (self-recursive in Go: the generated definitions carry an explicit fuel argument) equal the
  hand-written `Mod.apply` the C08 theorems are about — for every input, with fuel 2, and any
  larger fuel gives the same result.
-/
import Gts.Gen.ArithModifier
import Gts.Model.Region
namespace Gts.Bridge
open Gts

theorem headApply_eq (p h t : Int) : Gen.headApply 2 p h t = Mod.apply (.head p) h t := by
  unfold Gen.headApply Mod.apply
  by_cases c : t < h
  · simp [c, Int.lt_asymm c, Gen.headApply, Mod.applyFwd]
  · simp [c, Mod.applyFwd]

theorem tailApply_eq (q h t : Int) : Gen.tailApply 2 q h t = Mod.apply (.tail q) h t := by
  unfold Gen.tailApply Mod.apply
  by_cases c : t < h
  · simp [c, Int.lt_asymm c, Gen.tailApply, Mod.applyFwd]
  · simp [c, Mod.applyFwd]

theorem headTailApply_eq (p q h t : Int) :
    Gen.headTailApply 2 p q h t = Mod.apply (.headTail p q) h t := by
  unfold Gen.headTailApply Mod.apply
  by_cases c : t < h
  · simp [c, Int.lt_asymm c, Gen.headTailApply, Mod.applyFwd, Gen.gmax, Loc.gmax]
  · simp [c, Mod.applyFwd, Gen.gmax, Loc.gmax]

theorem headHeadApply_eq (p q h t : Int) :
    Gen.headHeadApply 2 p q h t = Mod.apply (.headHead p q) h t := by
  unfold Gen.headHeadApply Mod.apply
  by_cases c : t < h
  · simp [c, Int.lt_asymm c, Gen.headHeadApply, Mod.applyFwd, Gen.gmax, Loc.gmax]
  · simp [c, Mod.applyFwd, Gen.gmax, Loc.gmax]

theorem tailTailApply_eq (p q h t : Int) :
    Gen.tailTailApply 2 p q h t = Mod.apply (.tailTail p q) h t := by
  unfold Gen.tailTailApply Mod.apply
  by_cases c : t < h
  · simp [c, Int.lt_asymm c, Gen.tailTailApply, Mod.applyFwd, Gen.gmax, Loc.gmax]
  · simp [c, Mod.applyFwd, Gen.gmax, Loc.gmax]

/-- the recursion is at most one level deep: any fuel ≥ 2 gives the result of fuel 2 -/
theorem apply_fuel (n : Nat) (p q h t : Int) :
    Gen.headApply (n + 2) p h t = Gen.headApply 2 p h t ∧
    Gen.tailApply (n + 2) p h t = Gen.tailApply 2 p h t ∧
    Gen.headTailApply (n + 2) p q h t = Gen.headTailApply 2 p q h t ∧
    Gen.headHeadApply (n + 2) p q h t = Gen.headHeadApply 2 p q h t ∧
    Gen.tailTailApply (n + 2) p q h t = Gen.tailTailApply 2 p q h t := by
  refine ⟨?_, ?_, ?_, ?_, ?_⟩ <;>
  · by_cases c : t < h
    · simp [Gen.headApply, Gen.tailApply, Gen.headTailApply, Gen.headHeadApply, Gen.tailTailApply, c, Int.lt_asymm c]
    · simp [Gen.headApply, Gen.tailApply, Gen.headTailApply, Gen.headHeadApply, Gen.tailTailApply, c]

end Gts.Bridge
