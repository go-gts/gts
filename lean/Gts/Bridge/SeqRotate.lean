/-
  Bridge: `gts.Rotate`, regenerated from sequence.go by go2lean (Gts/Gen/SeqRotate.lean: the loop
  `for Len(seq) > 0 && n < 0 { n += Len(seq) }` LITERALLY with fuel, `n %= Len(seq)` as a checked remainder,
  the `range` loop over the features as a recursion over the list, the two slice expressions of the byte
  splice as checked operations), is the hand-written model's `Seq.rotate` (Gts/Model/Seq.lean) — for every
  non-empty sequence, every `n : Int` and every fuel of at least `-n` (the loop runs `⌈-n / L⌉` times).

  The model writes the loop in closed form (`n + ((-n + L - 1) / L) * L`); `rotateLoop_neg` shows that the
  literal loop computes `n mod L`, `rotN_closed` that the closed form does.

  Where Go panics: `n %= Len(seq)` on the EMPTY sequence (integer divide by zero), for every `n`
  (`seqRotate_panic`).  The model is total there (`Int.tmod x 0 = x`), so equality is stated for `0 < L`.
  On a non-empty sequence `1 ≤ m = L - n' ≤ L` and neither slice expression can fail.

  Metadata: `Rotate` does not touch it.
-/
import Gts.Gen.SeqRotate
import Gts.Bridge.SeqBase
import Gts.Bridge.LocRec
import Gts.Lemmas.Table
namespace Gts.Bridge
open Gts

/-- the closed form the model uses for `for n < 0 { n += L }; n %= L` is the mathematical residue -/
theorem rotN_closed (n L : Int) (hL : 0 < L) :
    Int.tmod (if n < 0 then n + ((-n + L - 1) / L) * L else n) L = n % L :=
  Seq.rotAmount_emod n L hL

theorem rotateLoop_nonneg (b : List UInt8) (fuel : Nat) (n : Int) (hn : 0 ≤ n) :
    Gen.seqRotateLoop b fuel n = .ok n := by
  cases fuel with
  | zero => rfl
  | succ fuel =>
    have : ¬ (((b.length : Int) > 0) ∧ (n < 0)) := by omega
    simp only [Gen.seqRotateLoop, if_neg this]

theorem rotateLoop_empty (fuel : Nat) (n : Int) : Gen.seqRotateLoop [] fuel n = .ok n := by
  cases fuel with
  | zero => rfl
  | succ fuel => simp [Gen.seqRotateLoop]

theorem rotateLoop_neg (b : List UInt8) (hL : 0 < (b.length : Int)) :
    ∀ (fuel : Nat) (n : Int), n < 0 → -n ≤ fuel → Gen.seqRotateLoop b fuel n = .ok (n % (b.length : Int))
  | 0, n, hn, hf => by omega
  | fuel + 1, n, hn, hf => by
    have hc : ((b.length : Int) > 0) ∧ (n < 0) := ⟨hL, hn⟩
    simp only [Gen.seqRotateLoop, if_pos hc]
    by_cases h2 : n + (b.length : Int) < 0
    · rw [rotateLoop_neg b hL fuel _ h2 (by omega), Int.add_emod_right]
    · rw [rotateLoop_nonneg b fuel _ (by omega)]
      have : (n + (b.length : Int)) % (b.length : Int) = n + (b.length : Int) :=
        Int.emod_eq_of_lt (by omega) (by omega)
      rw [← this, Int.add_emod_right]

theorem seqRotateLoop2_eq (b : List UInt8) (n : Int) (fs ff : List Feature) :
    Gen.seqRotateLoop2 b n fs ff =
      .ok (Table.insertAll ff (fs.map fun f => { f with loc := (f.loc.expand 0 n).normalize b.length })) := by
  rw [insertLocLoop_shape (Gen.seqRotateLoop2 b n) (fun f => Gen.normalize (Gen.expand f.loc 0 n) b.length)
    (fun _ => rfl) (fun _ _ _ => rfl)]
  simp only [expand_eq, normalize_eq]

/-- `gts.Rotate` as sequence.go defines it now is the model's `Seq.rotate` on every non-empty sequence, for
every `n` and every fuel of at least `-n`; the metadata is untouched -/
theorem seqRotate_eq {ι : Type} (fuel : Nat) (i : ι) (s : Seq) (n : Int) (hL : 0 < s.len) (hf : -n ≤ fuel) :
    Gen.seqRotate fuel i s.feats s.bytes n = .ok (i, (s.rotate n).feats, (s.rotate n).bytes) := by
  simp only [Seq.len] at hL
  have hr0 := Int.emod_nonneg n (show (s.bytes.length : Int) ≠ 0 by omega)
  have hr1 := Int.emod_lt_of_pos n hL
  -- the normalisation loop leaves some `m` with the residue of `n`
  obtain ⟨m, hloop, hrem⟩ : ∃ m, Gen.seqRotateLoop s.bytes fuel n = .ok m ∧
      Int.tmod m (s.bytes.length : Int) = n % (s.bytes.length : Int) := by
    by_cases hn : n < 0
    · exact ⟨_, rotateLoop_neg s.bytes hL fuel n hn hf,
        by rw [Int.tmod_eq_emod_of_nonneg hr0, Int.emod_emod_of_dvd _ (Int.dvd_refl _)]⟩
    · exact ⟨n, rotateLoop_nonneg s.bytes fuel n (by omega), Int.tmod_eq_emod_of_nonneg (by omega)⟩
  have hne : ¬ ((s.bytes.length : Int) = 0) := by omega
  have hcap : ¬ ((s.bytes.length : Int) < 0) := by omega
  simp only [Gen.seqRotate, hloop, Gen.goRem, if_neg hne, hrem, seqRotateLoop2_eq, Gen.goMakeCap, if_neg hcap,
    Seq.rotate, Seq.len, rotN_closed n _ hL]
  generalize n % (s.bytes.length : Int) = r at *
  have h1 : 0 ≤ (s.bytes.length : Int) - r ∧ (s.bytes.length : Int) - r ≤ (s.bytes.length : Int) := by omega
  simp only [Gen.goSliceFrom, Gen.goSliceTo, if_pos h1, List.nil_append]

/-- … and panics on the empty sequence (`n %= 0`), for every `n` and every fuel -/
theorem seqRotate_panic {ι : Type} (fuel : Nat) (i : ι) (feats : List Feature) (n : Int) :
    Gen.seqRotate fuel i feats [] n = .error .panic := by
  simp [Gen.seqRotate, rotateLoop_empty, Gen.goRem]

-- non-vacuity: `n = -7` on six residues is a rotation by 5; a feature crossing the new origin is split
example : Gen.seqRotate (ι := Unit) 7 () [⟨"gene", .ranged 0 3 false false, []⟩] [65, 67, 71, 84, 65, 67] (-7) =
    .ok ((), [⟨"gene", .joined [.ranged 5 6 false false, .ranged 0 2 false false], []⟩], [67, 71, 84, 65, 67, 65]) := by
  rfl

end Gts.Bridge
