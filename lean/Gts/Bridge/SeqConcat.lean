/-
  Bridge: `gts.Concat`, regenerated from sequence.go by go2lean (Gts/Gen/SeqConcat.lean: `switch len(ss)` as the
  chain of comparisons, `ss[0]` / `ss[1:]` as checked operations, the two nested `range` loops as recursions
  over the lists with the running state `(ff, p)` — `f.Loc.Expand(0, len(p))` reads the bytes accumulated SO
  FAR, `ff = ff.Insert(f)`, then `p = append(p, seq.Bytes()...)`), is the hand-written model's `Seq.concat`
  (Gts/Model/Seq.lean) — for EVERY list of sequences: the function cannot panic (`ss[0]`, `ss[1:]` are read
  behind `len(ss) ≥ 2`), which is part of what `seqConcat_eq` proves.

  Metadata: none gives `New(nil, nil, nil)`; otherwise the metadata of the FIRST sequence, unchanged.
-/
import Gts.Gen.SeqConcat
import Gts.Bridge.SeqBase
import Gts.Bridge.LocRec
namespace Gts.Bridge
open Gts

/-- the components the model sees of a generated sequence value -/
def toSeq {ι : Type} (v : Gen.SeqV ι) : Seq := ⟨v.2.1, v.2.2⟩

/-- the inner loop of `Concat` inserts the features of one piece, shifted by the bytes so far -/
theorem seqConcatLoop2_eq (p : List UInt8) (fs ff : List Feature) :
    Gen.seqConcatLoop2 p fs ff =
      .ok (Table.insertAll ff (fs.map fun f => { f with loc := f.loc.expand 0 p.length })) := by
  rw [insertLocLoop_shape (Gen.seqConcatLoop2 p) (fun f => Gen.expand f.loc 0 p.length)
    (fun _ => rfl) (fun _ _ _ => rfl)]
  simp only [expand_eq]

/-- the outer loop of `Concat` folds `concat2` over the remaining pieces -/
theorem seqConcatLoop_eq {ι : Type} : ∀ (vs : List (Gen.SeqV ι)) (ff : List Feature) (p : List UInt8),
    Gen.seqConcatLoop vs ff p =
      .ok (((vs.map toSeq).foldl Seq.concat2 ⟨ff, p⟩).feats, ((vs.map toSeq).foldl Seq.concat2 ⟨ff, p⟩).bytes)
  | [], ff, p => rfl
  | v :: vs, ff, p => by
    simp only [Gen.seqConcatLoop, seqConcatLoop2_eq, seqConcatLoop_eq vs, List.map_cons, List.foldl_cons,
      Seq.concat2, toSeq, Seq.len]

/-- `gts.Concat` as sequence.go defines it now is the model's `Seq.concat`, for every list of sequences -/
theorem seqConcat_eq {ι : Type} (ops : Gen.InfoOps ι) (ss : List (Gen.SeqV ι)) :
    Gen.seqConcat ops ss =
      .ok (match ss with | [] => ops.nilInfo | v :: _ => v.1,
        (Seq.concat (ss.map toSeq)).feats, (Seq.concat (ss.map toSeq)).bytes) := by
  match ss with
  | [] => rfl
  | [v] => rfl
  | v :: w :: vs =>
    have h0 : ¬ (((v :: w :: vs).length : Int) = 0) := by simp only [List.length_cons]; omega
    have h1 : ¬ (((v :: w :: vs).length : Int) = 1) := by simp only [List.length_cons]; omega
    have hat : Gen.goAt (v :: w :: vs) 0 = some v := rfl
    have hfr : Gen.goFrom (v :: w :: vs) 1 = some (w :: vs) := clFrom_append_succ [] v (w :: vs)
    simp only [Gen.seqConcat, if_neg h0, if_neg h1, hat, hfr, seqConcatLoop_eq, Seq.concat, List.map_cons, toSeq]

-- non-vacuity: three pieces; the feature of the third is shifted by the residues of the first two
example : Gen.seqConcat (ι := Nat) ⟨fun i _ _ => i, fun i _ _ => i, fun i _ _ => i, fun i _ => i, 0⟩
      [(7, [⟨"a", .point 0, []⟩], [65, 67]), (8, [], [71]), (9, [⟨"b", .point 1, []⟩], [84, 84])] =
    .ok (7, [⟨"a", .point 0, []⟩, ⟨"b", .point 4, []⟩], [65, 67, 71, 84, 84]) := by
  rfl

end Gts.Bridge
