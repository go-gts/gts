/-
  Bridge: `shiftSelector` and `toQualifier`, regenerated from feature.go by go2lean
  (Gts/Gen/FeatSelector.lean: byte loops with the index arithmetic of the source — `s[i]`, `s[:i]`,
  `s[i+1:]` are checked operations whose `none` is the Go panic — the `for` loop literally with fuel,
  the tagged `switch` as a chain of tests on the byte read once), never panic and compute the
  hand-written model: `shiftSelectorB` / `shiftIdx` (Gts/Model/Locator.lean, Gts/Lemmas/SelShift.lean,
  used by C07 and C19) for every string and every fuel ≥ its length, and `splitEqB` for the
  arguments `toQualifier` passes to `Qualifier` (a parameter: regexp is external).  `Selector` is
  regenerated over ABSTRACT filters and errors (`Key`, `And`, `FalseFilter`, `Qualifier` are parameters):
  the loop `for tail != ""` literally with fuel computes `selectorSpec` — the key filter combined by
  `And` with the clause filters in order, the first error ending it (`selector_eq`); read on predicates
  with regexp-free clauses it is the locator model's `selectorMatch` (`selector_match`).
-/
import Gts.Gen.FeatSelector
import Gts.Lemmas.GoList
import Gts.Lemmas.SelShift
namespace Gts.Bridge
open Gts Gts.Pars

/-- what `shiftSelector` returns for an outcome of its loop: the pair the loop returned, or
`(s, "")` when the loop ended -/
def shiftFinish (s : Bytes) : Option (Gen.Flow (Bool × Int) (Bytes × Bytes)) → Option (Bytes × Bytes)
  | none => none
  | some (.ret r) => some r
  | some (.next _) => some (s, [])

theorem shiftSelectorLoop_shape (s : Bytes) (n i : Nat) (esc : Bool) (hn : s.length - i ≤ n) :
    shiftFinish s (Gen.shiftSelectorLoop s n esc (i : Int)) = (shiftIdx s i esc).toOption := by
  induction n generalizing i esc with
  | zero => rw [shiftIdx, dif_neg (by omega)]; rfl
  | succ n ih =>
    rw [Gen.shiftSelectorLoop, shiftIdx]
    by_cases hi : i < s.length
    · have hnext (e : Bool) : shiftFinish s (Gen.shiftSelectorLoop s n e ((i : Int) + 1)) =
          (shiftIdx s (i + 1) e).toOption := ih (i + 1) e (by omega)
      rw [if_pos (Int.ofNat_lt.mpr hi), dif_pos hi, Gen.goIdx_eq, clAt_lt s i hi, List.getElem?_eq_getElem hi]
      simp only [Option.bind_some]
      by_cases h92 : s[i] = 92
      · rw [if_pos h92, if_pos h92, hnext]
      · rw [if_neg h92, if_neg h92]
        by_cases h47 : s[i] = 47
        · rw [if_pos h47, if_pos h47]
          cases esc with
          | false =>
            have h1 : i ≤ s.length ∧ i + 1 ≤ s.length := ⟨Nat.le_of_lt hi, hi⟩
            rw [if_pos (show ¬ (false = true) by decide), if_pos (show (!false) = true from rfl), if_pos h1, Gen.goTo_eq, clTo_nat s i h1.1, ← Int.natCast_succ,
              Gen.goFrom_eq, clFrom_nat s (i + 1) hi]
            rfl
          | true => rw [if_neg (show ¬ ¬ (true = true) by decide), if_neg (show ¬ (!true) = true by decide), hnext]
        · rw [if_neg h47, if_neg h47, hnext]
    · rw [if_neg (mt Int.ofNat_lt.mp hi), dif_neg hi]; rfl

/-- **`shiftSelector(s)` as feature.go defines it now never panics and returns the model's
`shiftSelectorB s`** (the text before the first unescaped `/`, the text behind it), for every string and
every fuel of at least its length (the loop ends: one byte per iteration) -/
theorem shiftSelector_eq (s : Bytes) (fuel : Nat) (h : s.length ≤ fuel) :
    Gen.shiftSelector fuel s = some (shiftSelectorB s) := by
  have := shiftSelectorLoop_shape s fuel 0 false (by omega)
  rw [shiftIdx_ok] at this
  simp only [Int.cast_ofNat_Int] at this
  simp only [Gen.shiftSelector]
  revert this
  cases Gen.shiftSelectorLoop s fuel false 0 with
  | none => intro h; exact h
  | some r => cases r <;> (intro h; exact h)

/-- … and is the index-by-index model `shiftIdx` of C07 (`shiftSelector_total`) -/
theorem shiftSelector_shiftIdx (s : Bytes) (fuel : Nat) (h : s.length ≤ fuel) :
    Gen.shiftSelector fuel s = (shiftIdx s 0 false).toOption := by
  rw [shiftSelector_eq s fuel h, shiftIdx_ok]; rfl

theorem findIdx?_splitEqB (s : Bytes) :
    (match s.findIdx? (· == (61 : UInt8)) with
     | some i => (s.take i, s.drop (i + 1))
     | none => (s, [])) = splitEqB s := by
  induction s with
  | nil => rfl
  | cons c r ih =>
    rw [List.findIdx?_cons, splitEqB, ← ih]
    by_cases h : c = 61
    · rw [if_pos (beq_iff_eq.mpr h), if_pos h]; rfl
    · rw [if_neg (mt beq_iff_eq.mp h), if_neg h]
      cases r.findIdx? (· == (61 : UInt8)) <;> rfl

/-- **`toQualifier(s)` as feature.go defines it now never panics and calls `Qualifier` with the model's
split of `s` at its first `=`** (`splitEqB`: the whole string and `""` when there is none) — for every
string and every `Qualifier` -/
theorem toQualifier_eq {ρ : Type} (q : Bytes → Bytes → ρ) (s : Bytes) :
    Gen.toQualifier q s = some (q (splitEqB s).1 (splitEqB s).2) := by
  rw [← findIdx?_splitEqB s]
  unfold Gen.toQualifier Gen.stringsIndexByte
  cases h : s.findIdx? (· == (61 : UInt8)) with
  | none => rfl
  | some i =>
    have hi : i < s.length := (List.findIdx?_eq_some_iff_getElem.mp h).1
    show (if (i : Int) = -1 then _ else _) = _
    rw [if_neg (by omega), Gen.goTo_eq, clTo_nat s i (Nat.le_of_lt hi), ← Int.natCast_succ, Gen.goFrom_eq, clFrom_nat s (i + 1) hi]
    rfl

/-- the clause loop of `Selector` on the clause texts: every clause `name[=query]` is split at its first `=` and
handed to `Qualifier`; the first error ends the loop with `(FalseFilter, err)`, otherwise the filter is
`And(filter, clause filter)` -/
def selectorGo {φ ε : Type} (false_ : φ) (and_ : φ → φ → φ) (qual : Bytes → Bytes → φ × Option ε) :
    List Bytes → φ → φ × Option ε
  | [], f => (f, none)
  | part :: rest, f =>
    if (qual (splitEqB part).1 (splitEqB part).2).2.isSome = true then
      (false_, (qual (splitEqB part).1 (splitEqB part).2).2)
    else selectorGo false_ and_ qual rest (and_ f (qual (splitEqB part).1 (splitEqB part).2).1)

/-- what `Selector(sel)` computes, on the model's decomposition of the selector string (`shiftSelectorB`,
`selectorParts` of Gts/Model/Locator.lean): `Key(head)` combined with the clauses in order -/
def selectorSpec {φ ε : Type} (key : Bytes → φ) (false_ : φ) (and_ : φ → φ → φ)
    (qual : Bytes → Bytes → φ × Option ε) (s : Bytes) : φ × Option ε :=
  selectorGo false_ and_ qual (selectorParts ((shiftSelectorB s).2.length + 1) (shiftSelectorB s).2)
    (key (shiftSelectorB s).1)

/-- what `Selector` returns for an outcome of its loop -/
def selFinish {φ ε : Type} : Option (Gen.Flow (Bytes × Bytes × φ) (φ × Option ε)) → Option (φ × Option ε)
  | none => none
  | some (.ret r) => some r
  | some (.next st) => some (st.2.2, none)

/-- the loop `for tail != ""` of `Selector`: any function with these two equations, with fuel for the
remaining text, consumes the clauses as `selectorGo` does (`F` is the fuel of the `shiftSelector` calls) -/
theorem selLoop_shape {φ ε : Type} (loop : Nat → Bytes → Bytes → φ → Option (Gen.Flow (Bytes × Bytes × φ) (φ × Option ε)))
    (F : Nat) (false_ : φ) (and_ : φ → φ → φ) (qual : Bytes → Bytes → φ × Option ε)
    (h0 : ∀ head tail f, loop 0 head tail f = some (.next (head, tail, f)))
    (hs : ∀ n head tail f, loop (n + 1) head tail f =
      if tail ≠ [] then
        (Gen.shiftSelector F tail).bind fun x => (Gen.toQualifier qual x.1).bind fun y =>
          if y.2.isSome = true then some (.ret (false_, y.2)) else loop n x.1 x.2 (and_ f y.1)
      else some (.next (head, tail, f))) :
    ∀ (n : Nat) (head tail : Bytes) (f : φ), tail.length ≤ n → tail.length ≤ F →
      selFinish (loop n head tail f) = some (selectorGo false_ and_ qual (selectorParts (tail.length + 1) tail) f) := by
  intro n
  induction n with
  | zero =>
    intro head tail f hn _
    rw [List.eq_nil_of_length_eq_zero (Nat.le_zero.mp hn), h0]
    rfl
  | succ n ih =>
    intro head tail f hn hF
    rw [hs]
    cases tail with
    | nil => rw [if_neg (fun h => h rfl)]; rfl
    | cons c r =>
      rw [if_pos (List.cons_ne_nil c r), shiftSelector_eq _ _ hF, Option.bind_some, toQualifier_eq, Option.bind_some]
      simp only [selectorParts, List.isEmpty_cons, Bool.false_eq_true, if_false, selectorGo]
      have hlt := shiftSelectorB_tail_lt c r
      by_cases he : (qual (splitEqB (shiftSelectorB (c :: r)).1).1 (splitEqB (shiftSelectorB (c :: r)).1).2).2.isSome = true
      · rw [if_pos he, if_pos he]; rfl
      · rw [if_neg he, if_neg he, ih _ _ _ (by omega) (by omega),
          selectorParts_fuel ((shiftSelectorB (c :: r)).2.length + 1) (c :: r).length _ (by omega) (by omega)]

/-- **`Selector(sel)` as feature.go defines it now never panics and computes `selectorSpec`**: the key filter of the
text before the first free `/`, combined by `And` with the `Qualifier` filter of every further clause (split at its
first `=`), in order; the first `Qualifier` error ends it with `(FalseFilter, err)` — for every string, every
`Key` / `And` / `FalseFilter` / `Qualifier` and every fuel above the length of the string (the loop ends: every
round removes at least one byte of `tail`) -/
theorem selector_eq {φ ε : Type} (key : Bytes → φ) (false_ : φ) (and_ : φ → φ → φ)
    (qual : Bytes → Bytes → φ × Option ε) (s : Bytes) (fuel : Nat) (h : s.length ≤ fuel) :
    Gen.selector fuel key false_ and_ qual s = some (selectorSpec key false_ and_ qual s) := by
  simp only [Gen.selector]
  rw [shiftSelector_eq s fuel h, Option.bind_some]
  have htl : (shiftSelectorB s).2.length ≤ s.length := shiftSelectorGo_tail_le s false
  have := selLoop_shape (Gen.selectorLoop fuel false_ and_ qual) fuel false_ and_ qual
    (fun _ _ _ => by rw [Gen.selectorLoop]) (fun _ _ _ _ => by rw [Gen.selectorLoop])
    fuel (shiftSelectorB s).1 (shiftSelectorB s).2 (key (shiftSelectorB s).1) (by omega) (by omega)
  simp only [selectorSpec]
  rw [← this]
  cases Gen.selectorLoop fuel false_ and_ qual fuel (shiftSelectorB s).1 (shiftSelectorB s).2 (key (shiftSelectorB s).1) with
  | none => rfl
  | some r => cases r <;> rfl

/-- for regexp-free clauses (`Qualifier` never fails and tests `qualifierMatch`), with `Key` and `And` read as
predicates, the filter `Selector(s)` returns accepts exactly the features `selectorMatch s` accepts — the function
behind the protocol answers of the locator model (Gts/Model/Locator.lean) -/
theorem selector_match (s : Bytes) (fuel : Nat) (h : s.length ≤ fuel) :
    ∃ flt : Feature → Bool,
      Gen.selector (ε_ := Unit) fuel (fun k f => k.isEmpty || f.key.toUTF8.toList == k) (fun _ => false)
        (fun a b f => a f && b f) (fun n q => (qualifierMatch n q, none)) s = some (flt, none) ∧
      ∀ f, flt f = selectorMatch s f := by
  rw [selector_eq _ _ _ _ s fuel h]
  have key : ∀ (parts : List Bytes) (g : Feature → Bool),
      ∃ flt : Feature → Bool, selectorGo (ε := Unit) (fun _ => false) (fun a b f => a f && b f)
        (fun n q => (qualifierMatch n q, none)) parts g = (flt, none) ∧
        ∀ f, flt f = (g f && parts.all fun part => qualifierMatch (splitEqB part).1 (splitEqB part).2 f) := by
    intro parts
    induction parts with
    | nil => intro g; exact ⟨g, rfl, fun f => by simp⟩
    | cons p ps ih =>
      intro g
      obtain ⟨flt, h1, h2⟩ := ih (fun f => g f && qualifierMatch (splitEqB p).1 (splitEqB p).2 f)
      refine ⟨flt, ?_, fun f => ?_⟩
      · simp only [selectorGo, Option.isSome_none, Bool.false_eq_true, if_false]
        exact h1
      · rw [h2 f]
        simp only [List.all_cons, Bool.and_assoc]
  obtain ⟨flt, h1, h2⟩ := key (selectorParts ((shiftSelectorB s).2.length + 1) (shiftSelectorB s).2)
    (fun f => (shiftSelectorB s).1.isEmpty || f.key.toUTF8.toList == (shiftSelectorB s).1)
  refine ⟨flt, by simp only [selectorSpec]; rw [h1], fun f => ?_⟩
  rw [h2 f]
  rfl

-- non-vacuity: an escaped slash is skipped, the first free one splits (`a\/b/c=d`); the clause is split
-- at its first `=`
example : Gen.shiftSelector 8 [97, 92, 47, 98, 47, 99, 61, 100] = some ([97, 92, 47, 98], [99, 61, 100]) := by
  rw [shiftSelector_eq _ _ (by decide)]; decide +kernel
example : Gen.toQualifier (fun a b => (a, b)) [99, 61, 100, 61] = some ([99], [100, 61]) := by
  rw [toQualifier_eq]; decide +kernel
-- a key and two clauses, the second one failing: `g/a=b/c` with a `Qualifier` that rejects the name `c`
example : Gen.selector 7 (fun k => [k]) [] (fun a b => a ++ b)
    (fun n q => ([n ++ q], if n = [99] then some () else none)) [103, 47, 97, 61, 98, 47, 99] = some ([], some ()) := by
  rw [selector_eq _ _ _ _ _ _ (by decide)]; decide +kernel
example : Gen.selector 5 (fun k => [k]) [] (fun a b => a ++ b)
    (fun n q => ([n ++ q], (none : Option Unit))) [103, 47, 97, 61, 98] = some ([[103], [97, 98]], none) := by
  rw [selector_eq _ _ _ _ _ _ (by decide)]; decide +kernel

end Gts.Bridge
