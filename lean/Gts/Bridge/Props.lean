/-
  Bridge: props.go, regenerated statement by statement by go2lean (Gts/Gen/Props.lean, generator gprops.go on the
  typed translator of gfeat.go: `string` an abstract type `σ_` with decidable equality, `Props` a list of rows,
  `props[i][0]`, `prop[1:]`, `keys[i] = …`, `make`, `copy` checked operations whose `none` is the Go panic, the
  `range` loops recursions over the list with a counter and live reads of `props[i]`, the pointer-receiver methods
  functions that RETURN the new value of `*props` — aliasing and capacity are C11's, Gts/Model/Mem.lean).

  For EVERY table, key, values and every zero string that `make` fills in (so: every cell is overwritten):
  `Index` is the model's `Props.index` under `rowsOk` and PANICS when an empty row stands in front of the first
  row of that name (`props_index_panic`; without one it does not: `props_index_panic_iff`); every other method
  panics exactly when its `Index` does (`propsSet_eq` … of `Lemmas/PropsGen.lean` have the form `(findO key ps).map …`)
  and is the model's function otherwise.  The same generated functions at byte strings are the seqio reader's
  `GenBank.propsAdd` (Gts/Model/InsdcParse.lean) and the table writer's `GenBank.propsItems` (fix 7b61a9a / F31).
-/
import Gts.Lemmas.GbProps
import Gts.Lemmas.PropsLaws
import Gts.Lemmas.Select
import Gts.Model.Feature
import Gts.Model.InsdcParse
import Gts.Model.GenBank
namespace Gts.Bridge
open Gts Gts.Gen Gts.Gen.PropsGo Gts.PropsG

theorem props_rowsOk_eq (ps : Props) : Props.rowsOk ps = PropsG.rowsOk ps := rfl

theorem props_findO_index (ps : Props) (key : String) (n : Nat) (ok : Props.rowsOk ps = true) :
    (findO key ps).map (fun r => match r with | none => (-1 : Int) | some j => ((n + j : Nat) : Int)) =
      some (Props.indexFrom key ps n) := by
  induction ps generalizing n with
  | nil => rfl
  | cons row rest ih =>
    cases row with
    | nil => simp [Props.rowsOk] at ok
    | cons h t =>
      have ok' : Props.rowsOk rest = true := by simpa [Props.rowsOk] using ok
      by_cases hk : h = key
      · simp [findO, Props.indexFrom, hk]
      · have := ih (n + 1) ok'
        simp only [findO, hk, if_false, Props.indexFrom, List.head?_cons, Option.some.injEq, Option.map_map]
        rw [← this]
        congr 1
        funext r
        cases r with
        | none => rfl
        | some j => simp only [Function.comp, Option.map_some]; congr 1; omega

theorem props_set_g (ps : Props) (k : String) (vs : List String) : Props.set ps k vs = gset ps k vs := by
  induction ps with
  | nil => rfl
  | cons r a ih => rw [gset] at ih ⊢; simp [Props.set, gupd, ih]

theorem props_add_g (ps : Props) (k : String) (vs : List String) : Props.add ps k vs = gadd ps k vs := by
  induction ps with
  | nil => rfl
  | cons r a ih => rw [gadd] at ih ⊢; simp [Props.add, gupd, ih]

theorem props_del_g (ps : Props) (k : String) : Props.del ps k = gdel ps k := by
  induction ps with
  | nil => rfl
  | cons r a ih => rw [gdel] at ih ⊢; simp [Props.del, gupd, ih]

theorem props_items_g : ∀ ps : Props, Props.items ps = gitems ps
  | [] => rfl
  | row :: rest => by cases row <;> simp [Props.items, gitems, props_items_g rest]

theorem gget_eq_find {σ : Type} [DecidableEq σ] (k : σ) : ∀ ps : List (List σ),
    gget ps k = (ps.find? fun row => row.head? == some k).map List.tail
  | [] => rfl
  | row :: rest => by
      rw [gget, List.find?_cons, gget_eq_find k rest]
      by_cases h : row.head? = some k
      · rw [if_pos h, beq_iff_eq.mpr h]; rfl
      · rw [if_neg h, beq_eq_false_iff_ne.mpr h]

/-- `Props.get` (position by `index`, then the row) is the first row of that name, on any table -/
theorem props_get_g (ps : Props) (k : String) : Props.get ps k = gget ps k := by
  rw [Props.get_eq, gget_eq_find]

/-- `Props.Index` on a table whose rows all have a name: the model's `Props.index` (never a panic) -/
theorem props_index_eq (ps : Props) (key : String) (ok : Props.rowsOk ps = true) :
    propsIndex ps key = some (Props.index ps key) := by
  rw [propsIndex_eq]
  have := props_findO_index ps key 0 ok
  simp only [Nat.zero_add] at this
  exact this

/-- `Props.Index` PANICS (`props[i][0]`) when an empty row stands in front of every row of that name -/
theorem props_index_panic {σ : Type} [DecidableEq σ] (a b : List (List σ)) (key : σ)
    (hn : ∀ row ∈ a, row.head? ≠ some key) (ok : PropsG.rowsOk a = true) :
    propsIndex (a ++ [] :: b) key = none := by
  rw [propsIndex_eq, (findO_none_iff key _).2 ⟨a, b, rfl, ok, hn⟩]
  rfl

/-- … and only then: `Index` panics exactly on `a ++ [] :: b` with no row of that name and no empty row in `a` -/
theorem props_index_panic_iff {σ : Type} [DecidableEq σ] (ps : List (List σ)) (key : σ) :
    propsIndex ps key = none ↔
      ∃ a b, ps = a ++ [] :: b ∧ PropsG.rowsOk a = true ∧ ∀ row ∈ a, row.head? ≠ some key := by
  rw [propsIndex_eq, Option.map_eq_none_iff]
  exact findO_none_iff key ps

/-- `Props.Has` -/
theorem props_has_eq (ps : Props) (name : String) (ok : Props.rowsOk ps = true) :
    propsHas ps name = some (Props.has ps name) := by
  unfold propsHas Props.has
  rw [props_index_eq ps name ok]
  rfl

/-- `Props.Keys`: the names in order, whatever `make` filled in -/
theorem props_keys_eq (z : String) (ps : Props) (ok : Props.rowsOk ps = true) :
    propsKeys z ps = some (Props.keys ps) := by
  rw [propsKeys_eq, keysO_rowsOk ps ok]
  congr 1
  unfold Props.keys
  induction ps with
  | nil => rfl
  | cons r a ih =>
    cases r with
    | nil => simp [Props.rowsOk] at ok
    | cons h t =>
      have ok' : Props.rowsOk a = true := by simpa [Props.rowsOk] using ok
      simp [ih ok']

/-- `Props.Keys` panics on every table with an empty row -/
theorem props_keys_panic {σ : Type} [DecidableEq σ] (z : σ) (a b : List (List σ)) :
    propsKeys z (a ++ [] :: b) = none := by
  rw [propsKeys_eq]
  induction a with
  | nil => rfl
  | cons r a ih => cases r <;> simp [keysO, ih]

/-- `Props.Get`: the values of the first row of that name; Go's `nil` (absent, the model's `none`) and the empty
slice are both the empty list in the value reading -/
theorem props_get_eq (ps : Props) (key : String) (ok : Props.rowsOk ps = true) :
    propsGet ps key = some ((Props.get ps key).getD []) := by
  rw [propsGet_total ps key ok, props_get_g ps key]

/-- `Props.Items`: the flat list of (name, value) pairs row by row, in order -/
theorem props_items_eq (z : String) (ps : Props) (ok : Props.rowsOk ps = true) :
    propsItems z ps = some (Props.items ps) := by
  rw [propsItems_eq, itemsO_rowsOk ps ok, props_items_g]

theorem gitems_genbank : ∀ ps : List (List (List UInt8)), gitems ps = GenBank.propsItems ps
  | [] => rfl
  | row :: rest => by cases row <;> simp [gitems, GenBank.propsItems, gitems_genbank rest]

/-- at byte strings `Props.Items` is what the model's table writer walks per feature (`GenBank.propsItems` inside
`featureText`; `propsOk` there is the no-panic condition here): one qualifier per VALUE of every row, rows of one
name kept apart (F31) -/
theorem props_items_writer (z : List UInt8) (ps : List (List (List UInt8))) :
    propsItems z ps = if GenBank.propsOk ps then some (GenBank.propsItems ps) else none := by
  rw [propsItems_eq]
  by_cases ok : GenBank.propsOk ps = true
  · rw [itemsO_rowsOk ps ok, gitems_genbank]; simp [ok]
  · simp only [ok]
    induction ps with
    | nil => simp [GenBank.propsOk] at ok
    | cons r a ih =>
      cases r with
      | nil => rfl
      | cons h t =>
        have : ¬ GenBank.propsOk a = true := by simpa [GenBank.propsOk] using ok
        simp [itemsO, ih this]

/-- `(*Props).Set`: the first row of that name replaced by `key :: values`, else a new last row -/
theorem props_set_eq (z : String) (ps : Props) (key : String) (values : List String) (ok : Props.rowsOk ps = true) :
    propsSet z ps key values = some (Props.set ps key values) := by
  rw [propsSet_total z ps key values ok, props_set_g]

/-- `(*Props).Add` with any number of values: appended to the FIRST row of that name, else a new last row -/
theorem props_add_eq (z : String) (ps : Props) (key : String) (values : List String) (ok : Props.rowsOk ps = true) :
    propsAdd z ps key values = some (Props.add ps key values) := by
  rw [propsAdd_total z ps key values ok, props_add_g]

/-- a single value added to a table of byte strings is the reader's `GenBank.propsAdd` (Gts/Model/InsdcParse.lean) (how `INSDCTableParser`
builds the rows) -/
theorem props_add_reader (z : List UInt8) (ps : List (List (List UInt8))) (n v : List UInt8)
    (ok : PropsG.rowsOk ps = true) : propsAdd z ps n [v] = some (GenBank.propsAdd ps n v) := by
  rw [propsAdd_total z ps n [v] ok, GenBank.propsAdd_eq_gadd]

/-- `(*Props).Del`: the FIRST row of that name removed, no other -/
theorem props_del_eq (ps : Props) (key : String) (ok : Props.rowsOk ps = true) :
    propsDel ps key = some (Props.del ps key) := by
  rw [propsDel_total ps key ok, props_del_g]

/-- `Set`, `Add`, `Del`, `Get`, `Has` panic exactly when their `Index` does -/
theorem props_ops_panic {σ : Type} [DecidableEq σ] (z : σ) (ps : List (List σ)) (key : σ) (values : List σ)
    (h : propsIndex ps key = none) :
    propsSet z ps key values = none ∧ propsAdd z ps key values = none ∧ propsDel ps key = none ∧
      propsGet ps key = none ∧ propsHas ps key = none := by
  rw [propsIndex_eq, Option.map_eq_none_iff] at h
  simp [propsSet_eq, propsAdd_eq, propsDel_eq, propsGet_eq, propsHas_eq, h]

/-- `Props.Clone`: the identity on values, for EVERY table (empty rows included: no panic) and every zero string -/
theorem props_clone_eq (z : String) (ps : Props) : propsClone z ps = some (Props.clone ps) :=
  propsClone_eq z ps

end Gts.Bridge
