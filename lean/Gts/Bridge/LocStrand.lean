/-
  Bridge: `CheckStrand` / `checkStrand`, regenerated from location.go by go2lean
  (Gts/Gen/LocStrand.lean: the `Strand` constants from the `iota` block, `checkStrand` translated on
  the list of the `CheckStrand` results of the elements — the counting loop with its tagged switch —,
  `CheckStrand`'s type switch clause by clause as a structural recursion over `Gts.Loc`), are the
  hand-written model's `Loc.strandList` / `Loc.strand` (1 = forward, 2 = reverse, 0 = both) — for EVERY
  location.  `Loc.strand` is what the strand filters of C19 (`strand_spec`, `strand_exclusive`) are
  about.
-/
import Gts.Gen.LocStrand
import Gts.Model.Loc
namespace Gts.Bridge
open Gts

/-- the `Strand` constants are the numbers the model uses -/
theorem strandConsts_eq : Gen.strandBoth = 0 ∧ Gen.strandForward = 1 ∧ Gen.strandReverse = 2 :=
  ⟨rfl, rfl, rfl⟩

/-- the counting loop of `checkStrand` (`switch x { case 1: f++; case 2: r++; default: f++; r++ }`)
counts in `f` the elements other than 2 and in `r` the elements other than 1 -/
theorem checkStrandOfListLoop_eq : ∀ (ss : List Nat) (f r : Int),
    Gen.checkStrandOfListLoop (ss.map Int.ofNat) f r =
      (f + ((ss.filter (· != 2)).length : Int), r + ((ss.filter (· != 1)).length : Int))
  | [], f, r => by simp [Gen.checkStrandOfListLoop]
  | s :: ss, f, r => by
    simp only [List.map_cons, Gen.checkStrandOfListLoop, List.filter_cons]
    by_cases h1 : s = 1
    · subst h1; simp [checkStrandOfListLoop_eq ss]; omega
    · by_cases h2 : s = 2
      · subst h2; simp [checkStrandOfListLoop_eq ss]; omega
      · have e1 : ¬ (s : Int) = 1 := by omega
        have e2 : ¬ (s : Int) = 2 := by omega
        simp [h1, h2, e1, e2, checkStrandOfListLoop_eq ss]; omega

/-- `checkStrand` on the `CheckStrand` results of the elements is the model's `strandList` -/
theorem checkStrandOfList_eq (ss : List Nat) :
    Gen.checkStrandOfList (ss.map Int.ofNat) = (Loc.strandList ss : Int) := by
  simp only [Gen.checkStrandOfList, Loc.strandList]
  rw [checkStrandOfListLoop_eq]
  simp only [Int.zero_add]
  by_cases hr : (ss.filter (· != 1)).length = 0
  · simp [hr]
  · by_cases hf : (ss.filter (· != 2)).length = 0 <;> simp [hr, hf]

mutual
/-- `CheckStrand` as location.go defines it now is the model's `Loc.strand` -/
theorem locCheckStrand_eq : ∀ (l : Loc), Gen.locCheckStrand l = (Loc.strand l : Int)
  | .between _ | .point _ | .ranged _ _ _ _ | .ambiguous _ _ | .compl _ => rfl
  | .joined ls | .ordered ls => by
    simp only [Gen.locCheckStrand, Loc.strand, locCheckStrandList_eq ls, checkStrandOfList_eq]
theorem locCheckStrandList_eq : ∀ (ls : List Loc),
    Gen.locCheckStrandList ls = (Loc.strands ls).map Int.ofNat
  | [] => rfl
  | l :: ls => by
    simp only [Gen.locCheckStrandList, Loc.strands, List.map_cons, locCheckStrand_eq l,
      locCheckStrandList_eq ls]
    rfl
end

-- non-vacuity: a join of a forward and a complemented part lies on both strands
example : Gen.locCheckStrand (.joined [.point 3, .compl (.point 9)]) = 0 := by decide
example : Gen.locCheckStrand (.ordered [.compl (.point 3), .compl (.ranged 5 9 false false)]) = 2 := by decide

end Gts.Bridge
