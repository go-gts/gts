/-
  Bridge (DESIGN.md 4.1b): the GLUE between the library and the CLI as facts — the inventory of cmd/gts and the commands of C19: select, sort, clear, define, annotate.
  The command functions of `/repo/cmd/gts/*.go` that have no regenerated tie of their own, as go2lean extracts them from
  the Go source on every run (`Gts/Gen/CmdFacts.lean`, generator go2lean/cmdfacts.go: normal form, one line per statement,
  locals `v0, v1, …`, parameters by type), are what the hand-written expectation `Gts/Spec/CmdTable.lean` says, line by
  line with what each line does in terms of the library function the model has.

  Per command FILE `cmd_<file>` — every function, method and function literal of the file in normal form, its top-level
  declarations, its types (`rfl`: the kernel compares the two literal tables) — and `cmd_<file>_pipeline` — the library
  calls of the command function in source order with the kinds of the headers above them (no variable name, no line
  number: renaming, re-ordered option declarations, another error text keep it; a library call added, dropped, replaced
  or moved under / out of a condition or loop changes it).  One bridge module per property, so that a change of a
  command file stops the check of ITS property only.
-/
import Gts.Gen.CmdFacts
import Gts.Spec.CmdTable
namespace Gts.Bridge.Cmd

/-- the inventory of cmd/gts: the files and how each is tied (and, for the files that are not given as facts, their
top-level declarations) are the expected ones — a NEW command file shows here with the tie `new` -/
theorem cmd_inventory : Gts.Gen.Cmd.files = Gts.Spec.Cmd.files := rfl

/-- which function runs for which command name (`flags.Register` in the `init` functions of ALL command files) -/
theorem cmd_registered : Gts.Gen.Cmd.registered = Gts.Spec.Cmd.registered := rfl

/-- `gts select`: `Or(Key("source"), invert ? Not(Or(selectors…)) : Or(selectors…))`, then `And(·, strand)`; `Filter` per
record (seeded W10-1 — the strand restriction inside the negation — breaks it, and `cmd_select_pipeline`) -/
theorem cmd_select : Gts.Gen.Cmd.file_select = Gts.Spec.Cmd.file_select ∧ Gts.Gen.Cmd.decls_select = Gts.Spec.Cmd.decls_select ∧
    Gts.Gen.Cmd.types_select = Gts.Spec.Cmd.types_select := ⟨rfl, rfl, rfl⟩

theorem cmd_select_pipeline : Gts.Gen.Cmd.pipeline_select = Gts.Spec.Cmd.pipeline_select := rfl

/-- `gts sort`: `byLength.Less(i, j) = Len(ss[j]) < Len(ss[i])`, `-r` = `sort.Reverse`, `sort.Sort`, all records written -/
theorem cmd_sort : Gts.Gen.Cmd.file_sort = Gts.Spec.Cmd.file_sort ∧ Gts.Gen.Cmd.decls_sort = Gts.Spec.Cmd.decls_sort ∧
    Gts.Gen.Cmd.types_sort = Gts.Spec.Cmd.types_sort := ⟨rfl, rfl, rfl⟩

theorem cmd_sort_pipeline : Gts.Gen.Cmd.pipeline_sort = Gts.Spec.Cmd.pipeline_sort := rfl

/-- `gts clear`: `Features().Filter(Key("source"))` -/
theorem cmd_clear : Gts.Gen.Cmd.file_clear = Gts.Spec.Cmd.file_clear ∧ Gts.Gen.Cmd.decls_clear = Gts.Spec.Cmd.decls_clear ∧
    Gts.Gen.Cmd.types_clear = Gts.Spec.Cmd.types_clear := ⟨rfl, rfl, rfl⟩

theorem cmd_clear_pipeline : Gts.Gen.Cmd.pipeline_clear = Gts.Spec.Cmd.pipeline_clear := rfl

/-- `gts define`: one feature (key, `AsLocation`, `-q` qualifiers) `Insert`ed into every record -/
theorem cmd_define : Gts.Gen.Cmd.file_define = Gts.Spec.Cmd.file_define ∧ Gts.Gen.Cmd.decls_define = Gts.Spec.Cmd.decls_define ∧
    Gts.Gen.Cmd.types_define = Gts.Spec.Cmd.types_define := ⟨rfl, rfl, rfl⟩

theorem cmd_define_pipeline : Gts.Gen.Cmd.pipeline_define = Gts.Spec.Cmd.pipeline_define := rfl

/-- `gts annotate`: every feature of the table file is `Insert`ed into every record, in file order -/
theorem cmd_annotate : Gts.Gen.Cmd.file_annotate = Gts.Spec.Cmd.file_annotate ∧ Gts.Gen.Cmd.decls_annotate = Gts.Spec.Cmd.decls_annotate ∧
    Gts.Gen.Cmd.types_annotate = Gts.Spec.Cmd.types_annotate := ⟨rfl, rfl, rfl⟩

theorem cmd_annotate_pipeline : Gts.Gen.Cmd.pipeline_annotate = Gts.Spec.Cmd.pipeline_annotate := rfl

end Gts.Bridge.Cmd
