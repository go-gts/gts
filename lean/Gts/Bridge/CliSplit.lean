/-
  Bridge: the per-record step of `gts split`, regenerated from cmd/gts/split.go by go2lean
  (Gts/Gen/CliSplit.lean: the three clauses of the switch; the `unique` map filled with the cut of
  every region, its keys copied into `heads` — in the unspecified order of a Go map, a parameter
  `mapOrder` here —, `sort.Ints`, the repaired one-cut case of a circular record, the `splits` slice
  built by index, the consecutive `gts.Slice` calls), writes exactly the model's `Cli.split` — for
  EVERY record, locator, topology and EVERY iteration order of the map; no index or slice expression
  in it panics.
-/
import Gts.Gen.CliSplit
import Gts.Bridge.CliLoops
import Gts.Lemmas.CliListSort
namespace Gts.Bridge
open Gts
set_option linter.unusedSimpArgs false  -- the guard forms: only the ones the source uses are needed

/-- the set `unique` after `for _, r := range rr { head, tail := r.Head(), r.Tail(); if tail < head { head = tail };
unique[head] = nil }`: the cuts of the regions, first occurrences in order -/
theorem splitStepLoop_eq (mo : List Int → List Int) (locate : Seq → List Reg) (circular : Bool) (rr : List Reg) :
    Gen.splitStepLoop mo locate circular rr [] = some ((rr.map Cli.cutOf).foldl Gen.clSetAdd []) := by
  rw [Go.foldLoop some (Gen.splitStepLoop mo locate circular) (fun u r => Gen.clSetAdd u (Cli.cutOf r)) (fun _ => rfl)
    (fun r rest unique => by
      simp only [Gen.splitStepLoop, Cli.cutOf]
      by_cases h : r.tail < r.head <;> simp only [h, if_true, if_false]), List.foldl_map]

/-- `heads := make([]int, len(unique)); i := 0; for head := range unique { heads[i] = head; i++ }`: the keys
in the order the map yields them, no store out of range -/
theorem splitStepLoop2_eq (mo : List Int → List Int) (locate : Seq → List Reg) (circular : Bool)
    (keys : List Int) (n : Nat) (h : keys.length = n) :
    Gen.splitStepLoop2 mo locate circular keys (List.replicate n default) 0 = some (keys, (n : Int)) := by
  have := fillCountLoop_spec (Gen.splitStepLoop2 mo locate circular) id (fun _ _ => rfl)
    (fun head rest heads i => by cases h : Gen.clPut heads i head <;> simp [Gen.splitStepLoop2, h])
    keys [] (List.replicate n default) [] (by simp [h])
  simpa [h] using this

/-- `for i, head := range heads { splits[i+1] = head }` on `splits = [a] ++ (len(heads) cells) ++ tl` -/
theorem splitStepLoop3_eq (mo : List Int → List Int) (locate : Seq → List Reg) (circular : Bool)
    (heads : List Int) (a : Int) (cells tl : List Int) (h : cells.length = heads.length) :
    Gen.splitStepLoop3 mo locate circular heads 0 (a :: (cells ++ tl)) = some (a :: (heads ++ tl)) := by
  have := fillLoop_spec (Gen.splitStepLoop3 mo locate circular) id 1 (fun _ _ => rfl)
    (fun head rest i splits => by cases h : Gen.clPut splits (i + 1) head <;> simp [Gen.splitStepLoop3, h])
    heads 0 [a] cells tl (by simp) h
  simpa using this

/-- linear record: `splits := make([]int, len(heads)+2); splits[len(splits)-1] = gts.Len(seq)` -/
theorem splits_linear (heads : List Int) (L : Int) :
    Gen.clMake Int ((heads.length : Int) + 2) = some (List.replicate (heads.length + 2) 0) ∧
    Gen.clPut (List.replicate (heads.length + 2) (0 : Int)) (((List.replicate (heads.length + 2) (0 : Int)).length : Int) - 1) L =
      some (0 :: (List.replicate heads.length 0 ++ [L])) := by
  constructor
  · have e : (heads.length : Int) + 2 = ((heads.length + 2 : Nat) : Int) := by omega
    rw [e, clMake_nat]; rfl
  · have e : (((List.replicate (heads.length + 2) (0 : Int)).length : Int) - 1)
        = (((0 : Int) :: List.replicate heads.length 0).length : Int) := by
      simp only [List.length_replicate, List.length_cons]; omega
    have e2 : List.replicate (heads.length + 2) (0 : Int) = (0 :: List.replicate heads.length 0) ++ 0 :: [] := by
      rw [List.replicate_succ', List.replicate_succ]
    rw [e, e2, clPut_append_length]; rfl

/-- circular record: `splits[0] = heads[len(heads)-1]; splits = splits[:len(splits)-1]` -/
theorem splits_circular (heads : List Int) (a : Int) (l : List Int) (hh : heads = a :: l) :
    Gen.clAt heads ((heads.length : Int) - 1) = some (Cli.lastFrom a l) ∧
    (∀ v : Int, Gen.clPut (List.replicate (heads.length + 2) (0 : Int)) 0 v =
      some (v :: List.replicate (heads.length + 1) 0)) ∧
    (∀ v : Int, Gen.clTo (v :: List.replicate (heads.length + 1) (0 : Int))
        (((v :: List.replicate (heads.length + 1) (0 : Int)).length : Int) - 1) =
      some (v :: List.replicate heads.length 0)) := by
  refine ⟨?_, ?_, ?_⟩
  · subst hh
    have e : (((a :: l).length : Int) - 1) = ((l.length : Nat) : Int) := by
      simp only [List.length_cons]; omega
    rw [e, clAt_nat]
    have := Cli.getLast?_lastFrom a l
    rw [List.getLast?_eq_getElem?] at this
    simpa using this
  · intro v
    have := clPut_append_length ([] : List Int) 0 v (List.replicate (heads.length + 1) 0)
    simpa [List.replicate_succ] using this
  · intro v
    have := clTo_append_length (v :: List.replicate heads.length (0 : Int)) [0]
    simpa [← List.replicate_succ'] using this

/-- `for i, tail := range splits[1:] { head := splits[i]; … gts.Slice(seq, head, tail) … }`, entered at
`i = len(pre)` on `splits = pre ++ a :: tl`, ranging over `tl`: the model's `Cli.pieces`, and
`splits[i]` never panics -/
theorem splitStepLoop4_spec (mo : List Int → List Int) (locate : Seq → List Reg) (circular : Bool) (seq : Seq) :
    ∀ (tl pre : List Int) (a : Int) (written : List Seq),
    Gen.splitStepLoop4 mo locate circular seq (pre ++ a :: tl) tl (pre.length : Int) written =
      some (written ++ Cli.pieces seq (a :: tl)) := by
  intro tl
  induction tl with
  | nil => intro pre a written; simp [Gen.splitStepLoop4, Cli.pieces]
  | cons b rest ih =>
    intro pre a written
    simp only [Gen.splitStepLoop4, clAt_append_length]
    have := ih (pre ++ [a]) b (written ++ [seq.slice a b])
    simp only [List.append_assoc, List.singleton_append, List.length_append, List.length_cons,
      List.length_nil, Nat.zero_add] at this
    rw [Int.natCast_add, Int.natCast_one] at this
    rw [this, Cli.pieces]

/-- the last loop of the step on `splits = a :: tl` -/
theorem splitStep_pieces (mo : List Int → List Int) (locate : Seq → List Reg) (circular : Bool) (seq : Seq)
    (a : Int) (tl : List Int) (written : List Seq) :
    Gen.clFrom (a :: tl) 1 = some tl ∧
    Gen.splitStepLoop4 mo locate circular seq (a :: tl) tl 0 written = some (written ++ Cli.pieces seq (a :: tl)) :=
  ⟨clFrom_append_succ [] a tl, splitStepLoop4_spec mo locate circular seq tl [] a written⟩

/-- **`gts split`, one record**: the scan-loop body of split.go, as written, hands to `WriteSeq`
exactly the model's `Cli.split` — no region: the record; circular with one region, or (repair
78dc8d4) with one distinct cut: the record turned to that position; else the slices between
consecutive cuts (linear: `0, cuts…, len`; circular: `last cut, cuts…`) — for every order `mapOrder`
in which the Go map may yield its keys (any permutation), and no index / slice / make expression in
it panics. -/
theorem splitStep_eq (mo : List Int → List Int) (hmo : ∀ l, (mo l).Perm l) (locate : Seq → List Reg)
    (circular : Bool) (seq : Seq) :
    Gen.splitStep mo locate circular seq = some (Cli.split locate circular seq) := by
  simp only [Gen.splitStep, Cli.split]
  cases hrr : locate seq with
  | nil => simp
  | cons r0 rest =>
    -- the guards on len(rr), whatever form they are written in, are the model's
    obtain ⟨z1, z2, z3, z4⟩ := guard_zero_forms (r0 :: rest).length
    obtain ⟨o1, o2, o3, o4, o5, o6, o7, o8⟩ :=
      guard_one_forms (r0 :: rest).length (circular = true) (by simp)
    have hlen0 : ¬ ((r0 :: rest).length = 0) := by simp
    simp only [gt_iff_lt, ge_iff_le, z1, z2, z3, z4, o1, o2, o3, o4, o5, o6, o7, o8, hlen0, if_false,
      List.nil_append]
    by_cases h1 : (r0 :: rest).length = 1 ∧ circular = true
    · rw [if_pos h1, if_pos h1]
      simp only [Reg.head, Reg.headList]
    · rw [if_neg h1, if_neg h1]
      generalize hkeys : ((r0 :: rest).map Cli.cutOf).foldl Gen.clSetAdd [] = keys
      have hlenk : (mo keys).length = keys.length := (hmo keys).length_eq
      have hsort : Gen.clSortInts (mo keys) = Cli.sortAscU ((r0 :: rest).map Cli.cutOf) :=
        clSortInts_keys _ _ (hkeys ▸ hmo keys)
      simp only [splitStepLoop_eq, hkeys, clMake_nat, splitStepLoop2_eq mo locate circular (mo keys) keys.length hlenk, hsort]
      generalize hheads : Cli.sortAscU ((r0 :: rest).map Cli.cutOf) = heads
      obtain ⟨a, l, hh⟩ : ∃ a l, heads = a :: l := by
        have : Cli.cutOf r0 ∈ heads := by
          rw [← hheads, Cli.mem_sortAscU]; simp
        cases heads with
        | nil => simp at this
        | cons a l => exact ⟨a, l, rfl⟩
      obtain ⟨p1, p2, p3, p4, p5, p6, p7, p8⟩ :=
        guard_one_forms heads.length (circular = true) (by rw [hh]; simp)
      have pc : (circular = true ∧ heads.length = 1) = (heads.length = 1 ∧ circular = true) :=
        propext And.comm
      simp only [gt_iff_lt, ge_iff_le, p1, p2, p3, p4, p5, p6, p7, p8, pc]
      by_cases h2 : heads.length = 1 ∧ circular = true
      · rw [if_pos h2, if_pos h2]
        subst hh
        simp only [clAt_zero_cons, List.headD_cons]
      · rw [if_neg h2, if_neg h2]
        cases circular with
        | true =>
          obtain ⟨e1, e2, e3⟩ := splits_circular heads a l hh
          have e4 := splitStepLoop3_eq mo locate true heads (Cli.lastFrom a l) (List.replicate heads.length 0) []
            (by simp)
          simp only [List.append_nil] at e4
          obtain ⟨e5, e6⟩ := splitStep_pieces mo locate true seq (Cli.lastFrom a l) heads []
          simp only [(splits_linear heads 0).1, if_true, e1, e2, e3, e4, e5, e6, List.nil_append]
          rw [hh, Cli.getLast?_lastFrom]
          rfl
        | false =>
          have e4 := splitStepLoop3_eq mo locate false heads 0 (List.replicate heads.length 0) [seq.len] (by simp)
          obtain ⟨e5, e6⟩ := splitStep_pieces mo locate false seq 0 (heads ++ [seq.len]) []
          simp only [(splits_linear heads seq.len).1, (splits_linear heads seq.len).2, Bool.false_eq_true, if_false,
            e4, e5, e6, List.nil_append]
          rfl

example : Gen.splitStep List.reverse (fun _ => [.seg 3 1, .seg 2 4, .seg 1 2]) true ⟨[], [1, 2, 3, 4, 5]⟩
    = some (Cli.split (fun _ => [.seg 3 1, .seg 2 4, .seg 1 2]) true ⟨[], [1, 2, 3, 4, 5]⟩) :=
  splitStep_eq _ (fun l => List.reverse_perm l) _ _ _

/-- the calls of the step that are read by specification, and its I/O statements, clause by clause:
every written record is marked linear (`gts.WithTopology(·, gts.Linear)`; the model's sequences
carry no topology) -/
theorem splitStepFacts_eq : Gen.splitStepFacts =
    ["topology", "write", "withTopology Linear", "write", "clSortInts", "withTopology Linear", "write",
     "withTopology Linear", "write", "flush"] := rfl

end Gts.Bridge
