/-
  Bridge: `Location.Region()` over the seven kinds, regenerated from location.go by go2lean
  (Gts/Gen/LocRegion.lean: the contiguous kinds as the pair of a `Segment`, `Joined.Region` /
  `Ordered.Region` translated on the list of the regions of the parts — `make(Regions, n)` and the
  loop `rr[i] = l.Region()` literally —, `Complemented.Region` through the regenerated
  `Region.Complement` of Gts/Gen/RegionRec.lean), is the hand-written model's `Loc.region`
  (Gts/Model/Region.lean) — for EVERY location (structural induction).  `Loc.region` is what
  `locate_bytes` / `region_den` (C05) and the locators of C08 are about.
-/
import Gts.Gen.LocRegion
import Gts.Bridge.RegionRec
namespace Gts.Bridge
open Gts

/-- a loop of the shape `for i, l := range src { rr[i] = l }` entered behind the cells `done` already filled, with
as many cells left as elements, ends with the remaining elements `rest` in those cells -/
theorem fillLoop_shape (loop : List Reg → Int → List Reg → List Reg)
    (hnil : ∀ i rr, loop [] i rr = rr)
    (hcons : ∀ l rest i rr, loop (l :: rest) i rr = loop rest (i + 1) (rr.set (Int.toNat i) l))
    (rest done pad : List Reg) (h : pad.length = rest.length) :
    loop rest (done.length : Int) (done ++ pad) = done ++ rest := by
  induction rest generalizing done pad with
  | nil => rw [hnil, List.eq_nil_of_length_eq_zero h]
  | cons l rest ih =>
    cases pad with
    | nil => cases h
    | cons y pad =>
      have := ih (done ++ [l]) pad (Nat.succ.inj h)
      rw [List.length_append, List.length_singleton, Int.natCast_succ, List.append_assoc, List.singleton_append,
        List.append_assoc, List.singleton_append] at this
      rw [hcons, Int.toNat_natCast, List.set_append_right _ _ (Nat.le_refl _), Nat.sub_self, List.set_cons_zero, this]

/-- `Joined.Region()` on the regions of the parts: the list itself -/
theorem joinedRegion_eq (rs : List Reg) : Gen.joinedRegion rs = rs :=
  fillLoop_shape Gen.joinedRegionLoop (fun _ _ => rfl) (fun _ _ _ _ => rfl) rs []
    (List.replicate rs.length default) (List.length_replicate ..)

/-- `Ordered.Region()` on the regions of the parts: the list itself -/
theorem orderedRegion_eq (rs : List Reg) : Gen.orderedRegion rs = rs :=
  fillLoop_shape Gen.orderedRegionLoop (fun _ _ => rfl) (fun _ _ _ _ => rfl) rs []
    (List.replicate rs.length default) (List.length_replicate ..)

mutual
/-- `Location.Region()` as location.go defines it now over the seven kinds is the model's
`Loc.region` -/
theorem locRegion_eq : ∀ (l : Loc), Gen.locRegion l = Loc.region l
  | .between _ | .point _ | .ranged _ _ _ _ | .ambiguous _ _ => rfl
  | .joined ls | .ordered ls => by
    simp only [Gen.locRegion, Loc.region, locRegionList_eq ls, joinedRegion_eq, orderedRegion_eq]
  | .compl l => by
    simp only [Gen.locRegion, Gen.complementedRegion, Loc.region, locRegion_eq l, regComplement_eq]
theorem locRegionList_eq : ∀ (ls : List Loc), Gen.locRegionList ls = Loc.regionList ls
  | [] => rfl
  | l :: ls => by simp only [Gen.locRegionList, Loc.regionList, locRegion_eq l, locRegionList_eq ls]
end

-- non-vacuity: complement(join(..)) flips the order of the parts and the ends of the segments
example : Gen.locRegion (.compl (.joined [.ranged 3 9 false false, .point 12])) =
    .many [.seg 13 12, .seg 9 3] := by rfl

end Gts.Bridge
