/-
  C14 bridge (DESIGN.md 4.1b): the cache PROTOCOL code of the CLI — `/repo/cmd/gts/io.go`: `newIODelegate`,
  `TryCache`, the tee `Write`, `Commit`, `Close`, `gtsCacheDir`, `attach` — as go2lean extracts it from the Go
  source on every run (`Gts/Gen/IoDelegateFacts.lean`, generator go2lean/iodelegate.go) is what the
  hand-written protocol model follows (`Gts/Spec/IoDelegateTable.lean`, written next to
  `Gts/Model/CacheProto.lean`, line by line with the clause of `step` each line mirrors).

  One theorem per Go function (`iodelegate_<function>`, closed by `rfl`: the kernel compares the two literal
  tables), so that a change names the function that changed; plus statements ABOUT the extracted tables that
  the C14 theorems lean on and that do not depend on the line numbers or on which `vN` a local got
  (closed by `decide +kernel` on the tables `calls / returns / assigns / conds` the generator reads off the
  normal form): `hit_copy_error_falls_back`, `stdin_always_spooled_and_hashed`, `commit_only_sets_flag`,
  `close_removes_unless_committed`, `tee_writes_both`.
-/
import Gts.Gen.IoDelegateFacts
import Gts.Spec.IoDelegateTable
namespace Gts.Bridge.IoDelegate

/-- the inventory: the functions and methods of io.go (outside `exact` / `encodePayload`) are the expected
ones, in order — a new helper (seeded C14-g: `isRegular`) or a function literal shows here -/
theorem iodelegate_inventory : Gts.Gen.IoDelegate.fns.map (·.1) = Gts.Spec.IoDelegate.fns.map (·.1) := by decide +kernel

/-- `exact` and `encodePayload` are the functions left to Gts/Bridge/KeyEnc.lean -/
theorem iodelegate_elsewhere : Gts.Gen.IoDelegate.elsewhere = Gts.Spec.IoDelegate.elsewhere := rfl

/-- the struct `ioDelegate` field by field (the literal of `newIODelegate` is positional), `attachment`, `tuple` -/
theorem iodelegate_types : Gts.Gen.IoDelegate.types = Gts.Spec.IoDelegate.types := rfl

/-- `(*attachment).Read`: what is read from a secondary input is what goes into its digest -/
theorem iodelegate_attachment_Read : Gts.Gen.IoDelegate.fn_attachment_Read = Gts.Spec.IoDelegate.fn_attachment_Read := rfl

theorem iodelegate_attach : Gts.Gen.IoDelegate.fn_attach = Gts.Spec.IoDelegate.fn_attach := rfl

/-- `gtsCacheDir`: the user's cache directory, `gts-cache` below it, made on demand -/
theorem iodelegate_gtsCacheDir : Gts.Gen.IoDelegate.fn_gtsCacheDir = Gts.Spec.IoDelegate.fn_gtsCacheDir := rfl

theorem iodelegate_Commit : Gts.Gen.IoDelegate.fn_ioDelegate_Commit = Gts.Spec.IoDelegate.fn_ioDelegate_Commit := rfl

/-- `newIODelegate`: `-` is stdin / stdout; a fresh delegate has no entry, is not committed -/
theorem iodelegate_newIODelegate : Gts.Gen.IoDelegate.fn_newIODelegate = Gts.Spec.IoDelegate.fn_newIODelegate := rfl

theorem iodelegate_Read : Gts.Gen.IoDelegate.fn_ioDelegate_Read = Gts.Spec.IoDelegate.fn_ioDelegate_Read := rfl

theorem iodelegate_Write : Gts.Gen.IoDelegate.fn_ioDelegate_Write = Gts.Spec.IoDelegate.fn_ioDelegate_Write := rfl

/-- `TryCache`: every statement in normal form is the one the model's `step` mirrors, in its order -/
theorem iodelegate_TryCache : Gts.Gen.IoDelegate.fn_ioDelegate_TryCache = Gts.Spec.IoDelegate.fn_ioDelegate_TryCache := rfl

theorem iodelegate_Close : Gts.Gen.IoDelegate.fn_ioDelegate_Close = Gts.Spec.IoDelegate.fn_ioDelegate_Close := rfl

theorem iodelegate_fns : Gts.Gen.IoDelegate.fns = Gts.Spec.IoDelegate.fns := rfl

abbrev Line := Gts.Gen.IoDelegate.Line

def table (f : String) : List Line := ((Gts.Gen.IoDelegate.fns.filter (·.1 == f)).map (·.2)).flatten

/-- the lines of function `f` that call `on.name(…)`, with the arguments (`on = none`: called on anything) -/
def callsTo (f : String) (on : Option String) (name : String) : List (Nat × List String) :=
  (Gts.Gen.IoDelegate.calls.filter fun c => c.1 == f && (on.isNone || on == some c.2.2.1) && c.2.2.2.1 == name).map
    fun c => (c.2.1, c.2.2.2.2)

/-- the calls of function `f` as `(on, name, arguments)` in source order -/
def callSeq (f : String) (p : Nat → String → String → List String → Bool) : List (String × String × List String) :=
  (Gts.Gen.IoDelegate.calls.filter fun c => c.1 == f && p c.2.1 c.2.2.1 c.2.2.2.1 c.2.2.2.2).map (·.2.2)

def assignAt (f : String) (i : Nat) : Option (List String × String × List String) :=
  ((Gts.Gen.IoDelegate.assigns.filter fun a => a.1 == f && a.2.1 == i).map (·.2.2)).head?

def condAt (f : String) (i : Nat) : Option String :=
  ((Gts.Gen.IoDelegate.conds.filter fun a => a.1 == f && a.2.1 == i).map (·.2.2)).head?

def underAt (f : String) (i : Nat) : List String :=
  ((Gts.Gen.IoDelegate.under.filter fun a => a.1 == f && a.2.1 == i).map (·.2.2)).flatten

/-- the body of the header at line `i`: the lines behind it that are indented deeper -/
def bodyOf (f : String) (i : Nat) : List Line :=
  match (table f)[i]? with
  | none => []
  | some h => ((table f).drop (i + 1)).takeWhile fun l => h.1 < l.1

/-- the returns of `f`: (line, results, innermost header) -/
def returnsOf (f : String) : List (Nat × List String × String) :=
  (Gts.Gen.IoDelegate.returns.filter (·.1 == f)).map (·.2)

abbrev TC := "ioDelegate.TryCache"

def hitCopyErrorFallsBack : Bool :=
  match callsTo TC (some "io") "Copy" |>.filter (·.2.head? == some "recv.outfile") with
  | [(l, [_, src])] =>
    match assignAt TC l, condAt TC l, callsTo TC (some "cache") "Open" with
    | some (["_", e], ":=", [_]), some c, [(o, _)] =>
      -- the source of the copy is the file `cache.Open` returned
      (assignAt TC o).map (·.1.head?) == some (some src) &&
      -- the ERROR of the copy alone decides (not the number of bytes copied: seeded W3-1) …
      c == e ++ " != nil" &&
      -- … and all that happens under it is `return false, nil`: no hit is reported, no error, `d.cache` stays nil
      (bodyOf TC l).map (·.2) == [("return", "false, nil")] &&
      -- a hit is reported by ONE statement: the last one of the function, at its top level, behind the copy
      (returnsOf TC).filter (·.2.1.head? == some "true") == [((table TC).length - 1, ["true", "nil"], "")] &&
      l + 1 < (table TC).length - 1
    | _, _, _ => false
  | _ => false

/-- **The error of the hit copy is never reported as success**: `TryCache` copies an entry to the output in
exactly one place, `if _, e := io.Copy(d.outfile, f); e != nil`, with `f` the file `cache.Open` returned; the
condition is the error alone; the body of that `if` is `return false, nil` and nothing else (the model's
`brokenHit`: the run falls back to an uncached run, without an armed entry); `true` is returned by the
last statement alone, at the top level of the function, behind that `if`.  (Seeded W3-1 — `err != nil && n == 0` —
makes this false.) -/
theorem hit_copy_error_falls_back : hitCopyErrorFallsBack = true := by decide +kernel

/-- a call that touches the digest `a0` (the `hash.Hash` parameter): a method of it, or it is an argument -/
def onHash (on : String) (args : List String) : Bool := on == "a0" || args.contains "a0"

def stdinAlwaysSpooledAndHashed : Bool :=
  match callsTo TC (some "cache") "Open", callsTo TC (some "") "gtsCacheDir",
        (Gts.Gen.IoDelegate.conds.filter fun c => c.1 == TC && c.2.2 == "recv.infile == os.Stdin").map (·.2.1),
        callsTo TC (some "ioutil") "TempFile" with
  | [(o, openArgs)], [(g, [])], [sp], [(t, _)] =>
    match assignAt TC g, assignAt TC t with
    | some ([dir, _], ":=", [_]), some ([tmp, _], ":=", [_]) =>
      -- (a) NO return in front of `cache.Open` reports a hit: there is no shortcut around the key
      (((returnsOf TC).filter (·.1 < o)).all fun r => r.2.1.head? == some "false") &&
      -- (b) stdin is spooled under the condition `d.infile == os.Stdin` ALONE (seeded C14-g adds `&& !isRegular(…)`),
      --     at the top level of the function, in front of every use of the digest: temporary file, the whole of
      --     stdin copied into it, rewound, and from then on it IS the primary input
      underAt TC sp == [] &&
      (bodyOf TC sp).filter (fun l => l.1 == 2 && l.2.1 != "if") ==
        [(2, "assign", tmp ++ ", " ++ ((assignAt TC t).map (·.1.getD 1 "")).getD "" ++ " := ioutil.TempFile(\"\", \"gts-tmp-*\")"),
         (2, "assign", "recv.infile = " ++ tmp), (2, "assign", "recv.tmpin = true")] &&
      callSeq TC (fun i on _ _ => sp < i && i ≤ sp + (bodyOf TC sp).length && on != "recv") ==
        [("ioutil", "TempFile", ["\"\"", "\"gts-tmp-*\""]), ("io", "Copy", [tmp, "os.Stdin"]),
         (tmp, "Seek", ["0", "io.SeekStart"])] &&
      -- (c) the digest is used, in this order and in front of `cache.Open`: Reset, the WHOLE primary input, Sum;
      --     Reset, the payload, Sum — and nowhere else in front of it
      (match callSeq TC (fun i on _ args => i < o && onHash on args) with
       | [("a0", "Reset", []), ("io", "Copy", ["a0", "recv.infile"]), ("a0", "Sum", ["nil"]),
          ("a0", "Reset", []), ("a0", "Write", ["p0"]), ("a0", "Sum", ["nil"])] => true
       | _ => false) &&
      (callSeq TC (fun i on _ args => i ≤ sp + (bodyOf TC sp).length && onHash on args)).isEmpty &&
      -- (d) the two sums are the key, root sum first, in the directory `gtsCacheDir` returned — for `Open` and for
      --     the entry `CreateLevel` makes on a miss
      (match (callsTo TC (some "a0") "Sum").map (fun s => (assignAt TC s.1).map (·.1)) with
       | [some [r], some [q]] =>
         openArgs == [dir, "a0", r, q] &&
         (callsTo TC (some "cache") "CreateLevel").map (·.2) == [[dir, "a0", r, q, "flate.BestSpeed"]]
       | _ => false)
    | _, _ => false
  | _, _, _, _ => false

/-- **No shortcut before the key is computed**: every `return` of `TryCache` in front of `cache.Open` returns
`false` (seeded W3-2 returns `true, nil` on empty stdin); stdin is spooled under `d.infile == os.Stdin` alone —
temporary file, `io.Copy(f, os.Stdin)`, rewind, `d.infile = f`, `d.tmpin = true` — in front of every use of the
digest; the digest sees `Reset; io.Copy(h, d.infile); Sum; Reset; Write(data); Sum` in that order and nothing else;
`cache.Open` and `cache.CreateLevel` get the directory of `gtsCacheDir` and the two sums, root sum first. -/
theorem stdin_always_spooled_and_hashed : stdinAlwaysSpooledAndHashed = true := by decide +kernel

/-- **`Commit` sets the flag and nothing else, and nothing else sets it**: its body is the one statement
`d.done = true` (no call); no other line of io.go assigns `done`; a fresh delegate has `done = false` (the last
of the five positional fields of the literal in `newIODelegate`, the field order being `types`). -/
theorem commit_only_sets_flag :
    Gts.Gen.IoDelegate.fn_ioDelegate_Commit = [(0, "func", "(recv *ioDelegate) ()"), (1, "assign", "recv.done = true")] ∧
    (Gts.Gen.IoDelegate.assigns.filter fun a => a.2.2.1.any fun l => l == "recv.done" || l == "recv") =
      [("ioDelegate.Commit", 1, ["recv.done"], "=", ["true"])] ∧
    (Gts.Gen.IoDelegate.calls.filter (·.1 == "ioDelegate.Commit")) = [] ∧
    ((Gts.Gen.IoDelegate.types.filter (·.1 == "ioDelegate")).map (·.2)) =
      [["infile *os.File", "outfile *os.File", "cache *cache.File", "tmpin bool", "done bool"]] ∧
    ((returnsOf "newIODelegate").filter (·.2.2 == "")).map (·.2.1) =
      [["&ioDelegate{v0, v1, nil, false, false}", "nil"]] := by decide +kernel

abbrev CL := "ioDelegate.Close"

def closeRemovesUnlessCommitted : Bool :=
  match callsTo CL (some "os") "Remove" |>.filter (·.2 == ["recv.cache.Name()"]), callsTo CL (some "recv.cache") "Close" with
  | [(l, _)], [(c, [])] =>
    match assignAt CL c with
    | some ([e], ":=", ["recv.cache.Close()"]) =>
      -- the entry is removed under: an armed entry, and (its Close failed or the run was not committed)
      underAt CL l == ["if recv.cache != nil", "if " ++ e ++ " := recv.cache.Close(); " ++ e ++ " != nil || !recv.done"] &&
      condAt CL c == some (e ++ " != nil || !recv.done") &&
      -- that `if` does nothing but remove it, the outer one nothing but that `if`
      (bodyOf CL c).map (·.2) == [("call", "os.Remove(recv.cache.Name())")] &&
      (bodyOf CL (c - 1)).length == 2 &&
      -- the entry is finalised (`cache.Close`) exactly once, before it may be removed, and Close always returns nil
      c < l && returnsOf CL == [((table CL).length - 1, ["nil"], "")]
    | _ => false
  | _, _ => false

/-- **`Close` removes the entry unless the run was committed** (and the entry's own `Close` worked): the one
`os.Remove(d.cache.Name())` of `Close` stands under `if d.cache != nil` and
`if err := d.cache.Close(); err != nil || !d.done`, which do nothing else; `d.cache.Close()` (finalising the entry)
runs exactly once and first.  This is `keep := o.committed && r.closeOk` of `CacheProto.step`. -/
theorem close_removes_unless_committed : closeRemovesUnlessCommitted = true := by decide +kernel

abbrev WR := "ioDelegate.Write"

def teeWritesBoth : Bool :=
  match callSeq WR (fun _ _ _ _ => true), callsTo WR (some "recv.cache") "Write", callsTo WR (some "recv.outfile") "Write" with
  | [("recv.cache", "Write", ["p0"]), ("recv.outfile", "Write", ["p0"])], [(c, _)], [(o, _)] =>
    match assignAt WR c, assignAt WR o with
    | some ([n, e], ":=", [_]), some ([m, e'], ":=", [_]) =>
      -- the entry gets the chunk when (and only when) an entry is armed, the output always (top level)
      underAt WR c == ["if recv.cache != nil"] && underAt WR o == [] &&
      -- an entry write error is returned AT ONCE: the output does not get the chunk, the command's write fails
      (bodyOf WR (c + 1)).map (·.2) == [("return", n ++ ", " ++ e)] && condAt WR (c + 1) == some (e ++ " != nil") &&
      underAt WR (c + 1) == ["if recv.cache != nil"] &&
      -- otherwise the result of the write is the result of the OUTPUT's write
      returnsOf WR == [(c + 2, [n, e], "if " ++ e ++ " != nil"), (o + 1, [m, e'], "")]
    | _, _ => false
  | _, _, _ => false

/-- **The tee writes both**: `Write(p)` calls exactly `d.cache.Write(p)` (under `d.cache != nil` alone) and then
`d.outfile.Write(p)` (unconditionally), with the SAME buffer; what the code does on an entry write error: it is
returned at once — `return n, err` — so the real output does not get that chunk and the command's write fails
(the entry is then discarded by `Close`: the run is not committed); otherwise `Write` returns what the output's
write returned. -/
theorem tee_writes_both : teeWritesBoth = true := by decide +kernel

/-- **A hit removes the entry exactly when the output is a file**: `os.Remove(f.Name())` of the entry `cache.Open`
returned stands under `d.outfile != os.Stdout` alone (`if r.toFile then Store.set σ n none else σ`) -/
theorem hit_removes_entry_for_file_output :
    (match callsTo TC (some "cache") "Open" with
     | [(o, _)] =>
       (match assignAt TC o with
        | some ([f, _], ":=", [_]) =>
          ((callsTo TC (some "os") "Remove").filter (·.2 == [f ++ ".Name()"])).map (fun r => underAt TC r.1) ==
            [["if recv.outfile != os.Stdout"]]
        | _ => false)
     | _ => false) = true := by decide +kernel

/-- **A miss arms the tee with the entry it created, and only a miss does**: `d.cache` is assigned once in io.go,
under `if err != nil` of `cache.Open`'s error, with the file `cache.CreateLevel` returned, and the next statement is
`return false, nil` -/
theorem miss_arms_the_tee :
    (match callsTo TC (some "cache") "Open", callsTo TC (some "cache") "CreateLevel" with
     | [(o, _)], [(k, _)] =>
       (match assignAt TC o, assignAt TC k with
        | some ([_, e], ":=", [_]), some ([f, _], ":=", [_]) =>
          (Gts.Gen.IoDelegate.assigns.filter fun a => a.2.2.1.contains "recv.cache").map (fun a => (a.1, a.2.2, underAt a.1 a.2.1)) ==
            [(TC, (["recv.cache"], "=", [f]), ["if " ++ e ++ " != nil"])] &&
          condAt TC (o + 1) == some (e ++ " != nil") &&
          ((bodyOf TC (o + 1)).filter (·.1 == 2)).getLast? == some (2, "return", "false, nil")
        | _, _ => false)
     | _, _ => false) = true := by decide +kernel

/-- **A cache that cannot be set up is not an error of the run**: the failure of `gtsCacheDir()` and of
`ioutil.TempFile` is answered by `return false, nil` and nothing else — `!r.usable` of `CacheProto.step`: the body runs
uncached.  (Seeded C14-h returns the error: the command fails where `--no-cache` succeeds.) -/
theorem cache_setup_failure_bypasses :
    (match callsTo TC (some "") "gtsCacheDir", callsTo TC (some "ioutil") "TempFile" with
     | [(g, _)], [(t, _)] =>
       (match assignAt TC g, assignAt TC t with
        | some ([_, e], ":=", [_]), some ([_, e'], ":=", [_]) =>
          condAt TC (g + 1) == some (e ++ " != nil") && (bodyOf TC (g + 1)).map (·.2) == [("return", "false, nil")] &&
          condAt TC (t + 1) == some (e' ++ " != nil") && (bodyOf TC (t + 1)).map (·.2) == [("return", "false, nil")]
        | _, _ => false)
     | _, _ => false) = true := by decide +kernel

end Gts.Bridge.IoDelegate
