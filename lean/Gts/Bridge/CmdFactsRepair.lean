/-
  Bridge (DESIGN.md 4.1b): the GLUE between the library and the CLI as facts — C12: repair.
  The command functions of `/repo/cmd/gts/*.go` that have no regenerated tie of their own, as go2lean extracts them from
  the Go source on every run (`Gts/Gen/CmdFacts.lean`, generator go2lean/cmdfacts.go: normal form, one line per statement,
  locals `v0, v1, …`, parameters by type), are what the hand-written expectation `Gts/Spec/CmdTable.lean` says, line by
  line with what each line does in terms of the library function the model has.

  Per command FILE `cmd_<file>` — every function, method and function literal of the file in normal form, its top-level
  declarations, its types (`rfl`: the kernel compares the two literal tables) — and `cmd_<file>_pipeline` — the library
  calls of the command function in source order with the kinds of the headers above them (no variable name, no line
  number: renaming, re-ordered option declarations, another error text keep it; a library call added, dropped, replaced
  or moved under / out of a condition or loop changes it).  One bridge module per property, so that a change of a
  command file stops the check of ITS property only.
-/
import Gts.Gen.CmdFacts
import Gts.Spec.CmdTable
namespace Gts.Bridge.Cmd

/-- `gts repair`: `gts.Repair` on the table of every record and nothing else -/
theorem cmd_repair : Gts.Gen.Cmd.file_repair = Gts.Spec.Cmd.file_repair ∧ Gts.Gen.Cmd.decls_repair = Gts.Spec.Cmd.decls_repair ∧
    Gts.Gen.Cmd.types_repair = Gts.Spec.Cmd.types_repair := ⟨rfl, rfl, rfl⟩

theorem cmd_repair_pipeline : Gts.Gen.Cmd.pipeline_repair = Gts.Spec.Cmd.pipeline_repair := rfl

end Gts.Bridge.Cmd
