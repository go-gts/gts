/-
  Bridge: the regenerated FASTA writer of seqio/fasta.go and the two description methods of
  `GenBankFields` (seqio/genbank.go) — `Gts/Gen/FastaWrite.lean`, `Gts/Gen/GbFields.lean`, go2lean
  gwriter*.go — ARE the model's `Gts.Fasta` (property C17):

    Fasta.WriteTo (the text handed to io.WriteString)   = `fastaWrite`           (`fastaWriteTo_eq`)
    FastaWriter.WriteSeq (both type switches)            = `fastaWriteSeq`        (`fastaWriterWriteSeq_eq`,
                                                                                  `fastaWriterWriteSeq_genbank`)
    GenBankFields.String                                 = `fastaDescOfGenBank`   (`genBankFieldsString_eq`)
    GenBankFields.ID                                     = `genbankID`            (`genBankFieldsID_eq`)

  Parameters of the generated text and what they are instantiated with: `wrap.Force(s, n)` — the model's
  `wrapForce s n` (go-wrap v1.0.3, hand-modelled); `%d` — the model's `itoaBytes`.
  `strings.ReplaceAll(desc, "\n", " ")` is the fixed re-implementation `wsReplaceByte` of
  `Gts/Gen/GoStrings.lean`, `fmt.Sprintf` with the literal formats `>%s\n%s\n`, `%s:%d-%d %s`, `%s %s` is
  re-implemented by the translator (concatenation).
-/
import Gts.Gen.FastaWrite
import Gts.Gen.GbFields
import Gts.Model.Fasta
namespace Gts.Bridge
open Gts.Pars Gts.Fasta Gts.Gen.GoStrings
open Gts.Gen.FastaWrite Gts.Gen.GbFields

/-- `wrap.Force(s, n)` as the model reads it -/
def wrapForceModel (s : Bytes) (n : Int) : Bytes := wrapForce s n.toNat

/-- `strings.ReplaceAll(d, "\n", " ")` is the model's `nl2sp` -/
theorem wsReplaceByte_nl2sp (d : Bytes) : wsReplaceByte (10 : UInt8) (wsLit " ") d = nl2sp d := by
  induction d with
  | nil => rfl
  | cons c d ih =>
    unfold wsReplaceByte nl2sp
    rw [ih]
    by_cases h : c = 10
    · subst h; rfl
    · simp [h, nl2sp]

/-- **fasta.go `Fasta.WriteTo` writes the model's `fastaWrite`**: `>`, the description with every line feed
turned into a blank, a line feed, the residues wrapped at 70, a line feed -/
theorem fastaWriteTo_eq (desc data : Bytes) :
    fastaWriteTo wrapForceModel { Desc := desc, Data := data } = fastaWrite desc data := by
  unfold fastaWriteTo fastaWrite wrapForceModel
  simp only [wsReplaceByte_nl2sp]
  show wsLit ">" ++ nl2sp desc ++ wsLit "\n" ++ wrapForce data 70 ++ wsLit "\n" = _
  simp [wsLit, width, List.append_assoc]

/-- a sequence value of the model as the dynamic types `FastaWriter.WriteSeq` distinguishes; a
`GenBankFields` is a `fmt.Stringer` whose `String()` is `fastaDescOfGenBank` (`genBankFieldsString_eq`) -/
def seqDyn : SeqVal → SeqDyn
  | .fasta d b => .fasta { Desc := d, Data := b }
  | .fastaPtr d b => .fastaPtr { Desc := d, Data := b }
  | .generic (.str s) b => .other (.string s) b
  | .generic (.genbank v d r) b => .other (.stringer (fastaDescOfGenBank v d r)) b
  | .generic (.stringer s) b => .other (.stringer s) b
  | .generic .other b => .other .other b

/-- **fasta.go `FastaWriter.WriteSeq` is the model's `fastaWriteSeq`**: a `Fasta` and a `*Fasta` are written
as they are, `string` metadata is the description, a `fmt.Stringer` gives its `String()`, everything else
is the error -/
theorem fastaWriterWriteSeq_eq (v : SeqVal) :
    fastaWriterWriteSeq wrapForceModel (seqDyn v) = fastaWriteSeq v := by
  cases v with
  | generic info b =>
    cases info <;> simp [seqDyn, fastaWriterWriteSeq, fastaWriterWriteSeqFasta, fastaWriteTo_eq, fastaWriteSeq]
  | _ => simp [seqDyn, fastaWriterWriteSeq, fastaWriterWriteSeqFasta, fastaWriteTo_eq, fastaWriteSeq]

/-- **genbank.go `GenBankFields.String` is `fastaDescOfGenBank`** of the version, the definition and the
region — for EVERY value of the Go struct: `version:head+1-tail definition` when the region is a
`gts.Segment`, `version definition` otherwise -/
theorem genBankFieldsString_eq (gbf : GenBankFields) :
    genBankFieldsString itoaBytes gbf = fastaDescOfGenBank gbf.Version gbf.Definition gbf.Region := by
  unfold genBankFieldsString fastaDescOfGenBank gtsUnpack
  cases h : gbf.Region with
  | none => simp [wsLit, List.append_assoc]
  | some seg =>
    obtain ⟨a, c⟩ := seg
    simp [wsLit, List.append_assoc]

/-- the GenBank case of `WriteSeq` with the REGENERATED `String()`: a sequence whose metadata is a
`GenBankFields` value is written under the description `fastaDescOfGenBank` -/
theorem fastaWriterWriteSeq_genbank (gbf : GenBankFields) (b : Bytes) :
    fastaWriterWriteSeq wrapForceModel (.other (.stringer (genBankFieldsString itoaBytes gbf)) b) =
      fastaWriteSeq (.generic (.genbank gbf.Version gbf.Definition gbf.Region) b) := by
  rw [genBankFieldsString_eq]
  exact fastaWriterWriteSeq_eq (.generic (.genbank gbf.Version gbf.Definition gbf.Region) b)

/-- **genbank.go `GenBankFields.ID` is `genbankID`**: the first non-empty one of version, accession, locus name -/
theorem genBankFieldsID_eq (gbf : GenBankFields) :
    genBankFieldsID gbf = genbankID gbf.Version gbf.Accession gbf.LocusName := by
  unfold genBankFieldsID genbankID
  cases gbf.Version <;> cases gbf.Accession <;> simp

/-- non-vacuity: a two-line description `a\nb` and 71 residues (one wrapped line) -/
example : fastaWriteTo wrapForceModel { Desc := [97, 10, 98], Data := List.replicate 71 65 } =
    [62, 97, 32, 98, 10] ++ List.replicate 70 65 ++ [10, 65, 10] := by
  rw [fastaWriteTo_eq]; decide +kernel

/-- non-vacuity: string metadata `id` over the residues `acgt`, and metadata of no known kind -/
example : fastaWriterWriteSeq wrapForceModel (seqDyn (.generic (.str [105, 100]) [97, 99, 103, 116])) =
      some [62, 105, 100, 10, 97, 99, 103, 116, 10] ∧
    fastaWriterWriteSeq wrapForceModel (seqDyn (.generic .other [97])) = none := by
  rw [fastaWriterWriteSeq_eq, fastaWriterWriteSeq_eq]; decide +kernel

/-- non-vacuity: the description of a sliced GenBank record (`Region = Segment{2, 9}`) -/
example : genBankFieldsString itoaBytes
      { LocusName := [], Molecule := [], Topology := 0, Division := [], Date := ⟨0, 0, 0⟩, Definition := [100],
        Accession := [], Version := [86], DBLink := [], Keywords := [], Source := ⟨[], [], []⟩, References := [],
        Comments := [], Extra := [], Contig := ⟨[], (0, 0)⟩, Region := some (2, 9) } =
    [86] ++ 58 :: itoaBytes 3 ++ 45 :: itoaBytes 9 ++ 32 :: [100] := by
  rw [genBankFieldsString_eq]; rfl

end Gts.Bridge
