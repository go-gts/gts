/-
  Bridge: `BySegment.Less`, `invertSegments` and the merge loop of `Minimize`, regenerated from
  region.go by go2lean (Gts/Gen/Region.lean; the loops translated literally as recursive helpers
  over the loop state), are equal to the hand-written model `Reg.segLess`, `Reg.invertSegments`,
  `Reg.mergeSegs` (Gts/Model/Region.lean) the property theorems of C09 and C15 are about — for
  EVERY list, by induction over the loops (the merge loop through its one-round equation
  `minimizeMergeLoop_shape`: renamed locals do not matter, a changed condition, index or merged value does).
-/
import Gts.Gen.Region
import Gts.Bridge.Arith
import Gts.Model.Region
namespace Gts.Bridge
open Gts

/-- `BySegment.Less(i, j)`, as a function of the two array values `ss[i]`, `ss[j]`, is the model's
`Reg.segLess` — for every pair of segments, either orientation -/
theorem bySegmentLess_eq (l r : Seg) : Gen.bySegmentLess l.1 l.2 r.1 r.2 = Reg.segLess l r := by
  obtain ⟨l0, l1⟩ := l
  obtain ⟨r0, r1⟩ := r
  simp only [Gen.bySegmentLess, Reg.segLess]
  by_cases hl : l1 < l0 <;> by_cases hr : r1 < r0 <;>
    simp only [hl, hr, if_true, if_false, Bool.if_true_left, Bool.or_false]

/-- the loop `for _, s := range ss { if start != s[0] { rr = append(rr, {start, s[0]}) }; start = s[1] }`
followed by the trailing `if start != n { append }` computes `rr ++ invertFrom start n ss` -/
theorem invertLoop_spec (n : Int) (ss rr : List Seg) (start : Int) :
    (if (Gen.invertSegmentsLoop ss rr start).2 ≠ n then
        (Gen.invertSegmentsLoop ss rr start).1 ++ [((Gen.invertSegmentsLoop ss rr start).2, n)]
      else (Gen.invertSegmentsLoop ss rr start).1) = rr ++ Reg.invertFrom start n ss := by
  induction ss generalizing rr start with
  | nil =>
    rw [Gen.invertSegmentsLoop, Reg.invertFrom]
    by_cases h : start ≠ n
    · rw [if_pos h, if_pos h]
    · rw [if_neg h, if_neg h, List.append_nil]
  | cons s rest ih =>
    rw [Gen.invertSegmentsLoop, ih, Reg.invertFrom]
    by_cases h : start ≠ s.1
    · rw [if_pos h, if_pos h, List.append_assoc]
    · rw [if_neg h, if_neg h, List.nil_append]

/-- `invertSegments(ss, n)`, as written, is the model's `Reg.invertSegments` — for every list -/
theorem invertSegments_eq : Gen.invertSegments = Reg.invertSegments := by
  funext ss n
  have h := invertLoop_spec n ss [] 0
  simp only [Gen.invertSegments, Reg.invertSegments]
  simpa using h

theorem getD_append_length (pre : List Seg) (a : Seg) (rest : List Seg) :
    (pre ++ a :: rest).getD pre.length default = a := by
  rw [List.getD_eq_getElem?_getD, List.getElem?_append_right (Nat.le_refl _), Nat.sub_self]
  rfl

theorem getD_append_length_succ (pre : List Seg) (a b : Seg) (rest : List Seg) :
    (pre ++ a :: b :: rest).getD (pre.length + 1) default = b := by
  rw [List.getD_eq_getElem?_getD, List.getElem?_append_right (Nat.le_add_right _ _), Nat.add_sub_cancel_left]
  rfl

theorem set_append_length (pre : List Seg) (a m : Seg) (rest : List Seg) :
    (pre ++ a :: rest).set pre.length m = pre ++ m :: rest := by
  rw [List.set_append_right _ _ (Nat.le_refl _), Nat.sub_self]
  rfl

theorem eraseIdx_append_length_succ (pre : List Seg) (m b : Seg) (rest : List Seg) :
    (pre ++ m :: b :: rest).eraseIdx (pre.length + 1) = pre ++ m :: rest := by
  rw [List.eraseIdx_append_of_length_le (Nat.le_add_right _ _), Nat.add_sub_cancel_left]
  rfl

theorem mergeSegs_short (suf : List Seg) (h : suf.length ≤ 1) : Reg.mergeSegs suf = suf := by
  match suf, h with
  | [], _ => rw [Reg.mergeSegs]
  | [a], _ => rw [Reg.mergeSegs]

theorem minimizeMergeLoop_shape (fuel : Nat) (ss : List Seg) (i : Int) :
    Gen.minimizeMergeLoop (fuel + 1) ss i =
      if i < (ss.length : Int) - 1 then
        (if (ss.getD (Int.toNat i) default).2 < (ss.getD (Int.toNat (i + 1)) default).1 then
          Gen.minimizeMergeLoop fuel ss (i + 1)
        else
          Gen.minimizeMergeLoop fuel ((ss.set (Int.toNat i)
            (Loc.gmin (ss.getD (Int.toNat i) default).1 (ss.getD (Int.toNat (i + 1)) default).1,
             Loc.gmax (ss.getD (Int.toNat i) default).2 (ss.getD (Int.toNat (i + 1)) default).2)).eraseIdx
              (Int.toNat (i + 1))) i)
      else (ss, i) := by
  rw [← gmin_eq, ← gmax_eq, Gen.minimizeMergeLoop]
  by_cases hc : i < (ss.length : Int) - 1
  · rw [if_pos hc, if_pos hc]
    by_cases hab : (ss.getD (Int.toNat i) default).2 < (ss.getD (Int.toNat (i + 1)) default).1
    · simp only [if_pos hab]
    · simp only [if_neg hab]
  · rw [if_neg hc, if_neg hc]

/-- the loop
`for i < len(ss)-1 { l, r := ss[i], ss[i+1]; if l[1] < r[0] { i++ } else { ss[i] = {Min(l[0],r[0]), Max(l[1],r[1])}; delete ss[i+1] } }`
started at index `i = len(pre)` on `pre ++ suf` leaves `pre` as it is and merges `suf` as the
model's `mergeSegs` does (invariant: the prefix before `i` is final); `len(suf)` units of fuel
suffice, i.e. the loop ends because its condition fails -/
theorem mergeLoop_spec (fuel : Nat) (pre suf : List Seg) (hf : suf.length ≤ fuel + 1) :
    (Gen.minimizeMergeLoop fuel (pre ++ suf) (pre.length : Int)).1 = pre ++ Reg.mergeSegs suf := by
  induction fuel generalizing pre suf with
  | zero => rw [mergeSegs_short suf hf]; rfl
  | succ f ih =>
    rw [minimizeMergeLoop_shape]
    match suf, hf with
    | [], _ => rw [if_neg (by rw [List.append_nil]; omega), mergeSegs_short [] (Nat.zero_le _)]
    | [a], _ =>
      rw [if_neg (by rw [List.length_append, List.length_singleton]; omega), mergeSegs_short [a] (Nat.le_refl _)]
    | a :: b :: rest, hf =>
      have hc : (pre.length : Int) < ((pre ++ a :: b :: rest).length : Int) - 1 := by
        rw [List.length_append, List.length_cons, List.length_cons]; omega
      rw [if_pos hc, ← Int.natCast_succ, Int.toNat_natCast, Int.toNat_natCast, getD_append_length,
        getD_append_length_succ, Reg.mergeSegs]
      by_cases hab : a.2 < b.1
      · have := ih (pre ++ [a]) (b :: rest) (Nat.le_of_succ_le_succ hf)
        rw [List.append_assoc, List.singleton_append, List.length_append, List.length_singleton] at this
        rw [if_pos hab, if_pos hab, this, List.append_assoc, List.singleton_append]
      · rw [if_neg hab, if_neg hab, set_append_length, eraseIdx_append_length_succ]
        exact ih pre ((Loc.gmin a.1 b.1, Loc.gmax a.2 b.2) :: rest) (Nat.le_of_succ_le_succ hf)

/-- **the merge loop of `Minimize`, as written in region.go**, started at `i = 0` with any fuel
`≥ len(ss) - 1`, returns the model's `Reg.mergeSegs ss` — for EVERY list (sorted or not).
`Segment{l[0], r[1]}` instead of `Min`/`Max` (seeded change C09-a) breaks `minimizeMergeLoop_shape`. -/
theorem minimizeMerge_eq (fuel : Nat) (ss : List Seg) (h : ss.length ≤ fuel + 1) :
    Gen.minimizeMerge fuel ss = Reg.mergeSegs ss := by
  have := mergeLoop_spec fuel [] ss h
  simpa [Gen.minimizeMerge] using this

example : Gen.minimizeMerge 4 [(0, 3), (2, 5), (7, 9), (9, 9)] = Reg.mergeSegs [(0, 3), (2, 5), (7, 9), (9, 9)] :=
  minimizeMerge_eq 4 _ (by decide)

/-- the statements of `Minimize` in front of the merge loop are the ones the model's
`Reg.minimize r = mergeSegs (sortSegs (flatten r))` follows -/
theorem minimizeFrame_eq :
    Gen.minimizeFrame = ["ss := flattenRegion(arg)", "sort.Sort(BySegment(ss))", "minimizeMerge ss"] := rfl

/-- `Minimize(r)` is: flatten, sort (both hand-modelled, tied by the correspondence run), then the
REGENERATED merge loop -/
theorem minimize_gen (r : Reg) (fuel : Nat) (h : (Reg.sortSegs (Reg.flatten r)).length ≤ fuel + 1) :
    Reg.minimize r = Gen.minimizeMerge fuel (Reg.sortSegs (Reg.flatten r)) := by
  rw [minimizeMerge_eq fuel _ h]; rfl

example : ((Reg.sortSegs (Reg.flatten (.many [.seg 9 7, .seg 0 3, .seg 2 5]))).length ≤ 2 + 1) := by decide

end Gts.Bridge
