/-
  Bridge: `LocationWithin` / `LocationOverlap` regenerated from location.go by go2lean
  (Gts/Gen/LocPred.lean, with the four `span` methods of Gts/Gen/Arith.lean) are the model's
  `Loc.within` / `Loc.overlap` — for every location (structural induction).  These predicates
  decide which features Erase drops and Slice keeps (C03, C10) and are the `Within` / `Overlap`
  feature filters of C19.
-/
import Gts.Gen.LocPred
import Gts.Bridge.Arith
namespace Gts.Bridge
open Gts

mutual
theorem within_eq : ∀ (l : Loc) (lo hi : Int), Gen.locationWithin l lo hi = Loc.within l lo hi
  | .between _, lo, hi | .point _, lo, hi | .ranged _ _ _ _, lo, hi | .ambiguous _ _, lo, hi => by
      simp [Gen.locationWithin, Loc.within, Gen.betweenSpan, Gen.pointSpan, Gen.rangedSpan, Gen.ambiguousSpan,
        rangeWithin_eq]
  | .joined ls, lo, hi | .ordered ls, lo, hi => by simp [Gen.locationWithin, Loc.within, withinList_eq ls lo hi]
  | .compl l, lo, hi => by simp [Gen.locationWithin, Loc.within, within_eq l lo hi]
theorem withinList_eq : ∀ (ls : List Loc) (lo hi : Int),
    Gen.locationWithinList ls lo hi = Loc.withinAll ls lo hi
  | [], _, _ => by simp [Gen.locationWithinList, Loc.withinAll]
  | l :: ls, lo, hi => by
      simp only [Gen.locationWithinList, Loc.withinAll, within_eq l lo hi, withinList_eq ls lo hi]
      cases Loc.within l lo hi <;> simp
end

mutual
theorem overlap_eq : ∀ (l : Loc) (lo hi : Int), Gen.locationOverlap l lo hi = Loc.overlap l lo hi
  | .between _, lo, hi | .point _, lo, hi | .ranged _ _ _ _, lo, hi | .ambiguous _ _, lo, hi => by
      simp [Gen.locationOverlap, Loc.overlap, Gen.betweenSpan, Gen.pointSpan, Gen.rangedSpan, Gen.ambiguousSpan,
        rangeOverlap_eq]
  | .joined ls, lo, hi | .ordered ls, lo, hi => by simp [Gen.locationOverlap, Loc.overlap, overlapList_eq ls lo hi]
  | .compl l, lo, hi => by simp [Gen.locationOverlap, Loc.overlap, overlap_eq l lo hi]
theorem overlapList_eq : ∀ (ls : List Loc) (lo hi : Int),
    Gen.locationOverlapList ls lo hi = Loc.overlapAny ls lo hi
  | [], _, _ => by simp [Gen.locationOverlapList, Loc.overlapAny]
  | l :: ls, lo, hi => by
      simp only [Gen.locationOverlapList, Loc.overlapAny, overlap_eq l lo hi, overlapList_eq ls lo hi]
      cases Loc.overlap l lo hi <;> simp
end

/-- the four `span` methods are the model's `span?` -/
theorem span_eq (l : Loc) :
    Loc.span? l = match l with
      | .between p => some (Gen.betweenSpan p)
      | .point p => some (Gen.pointSpan p)
      | .ranged s e a b => some (Gen.rangedSpan s e a b)
      | .ambiguous s e => some (Gen.ambiguousSpan s e)
      | _ => none := by
  cases l <;> rfl

end Gts.Bridge
