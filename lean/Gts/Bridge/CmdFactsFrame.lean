/-
  Bridge (DESIGN.md 4.1b): the GLUE between the library and the CLI as facts — C17 (the reader → edit → writer frame of the commands without a property of their own): join, length, pick, query, summary.
  The command functions of `/repo/cmd/gts/*.go` that have no regenerated tie of their own, as go2lean extracts them from
  the Go source on every run (`Gts/Gen/CmdFacts.lean`, generator go2lean/cmdfacts.go: normal form, one line per statement,
  locals `v0, v1, …`, parameters by type), are what the hand-written expectation `Gts/Spec/CmdTable.lean` says, line by
  line with what each line does in terms of the library function the model has.

  Per command FILE `cmd_<file>` — every function, method and function literal of the file in normal form, its top-level
  declarations, its types (`rfl`: the kernel compares the two literal tables) — and `cmd_<file>_pipeline` — the library
  calls of the command function in source order with the kinds of the headers above them (no variable name, no line
  number: renaming, re-ordered option declarations, another error text keep it; a library call added, dropped, replaced
  or moved under / out of a condition or loop changes it).  One bridge module per property, so that a change of a
  command file stops the check of ITS property only.
-/
import Gts.Gen.CmdFacts
import Gts.Spec.CmdTable
namespace Gts.Bridge.Cmd

/-- `gts join`: `gts.Concat` of all records, `-c` sets the topology -/
theorem cmd_join : Gts.Gen.Cmd.file_join = Gts.Spec.Cmd.file_join ∧ Gts.Gen.Cmd.decls_join = Gts.Spec.Cmd.decls_join ∧
    Gts.Gen.Cmd.types_join = Gts.Spec.Cmd.types_join := ⟨rfl, rfl, rfl⟩

theorem cmd_join_pipeline : Gts.Gen.Cmd.pipeline_join = Gts.Spec.Cmd.pipeline_join := rfl

/-- `gts length`: `gts.Len` per record, one decimal line -/
theorem cmd_length : Gts.Gen.Cmd.file_length = Gts.Spec.Cmd.file_length ∧ Gts.Gen.Cmd.decls_length = Gts.Spec.Cmd.decls_length ∧
    Gts.Gen.Cmd.types_length = Gts.Spec.Cmd.types_length := ⟨rfl, rfl, rfl⟩

theorem cmd_length_pipeline : Gts.Gen.Cmd.pipeline_length = Gts.Spec.Cmd.pipeline_length := rfl

/-- `gts pick`: the `cut`-style list, records numbered from 1 -/
theorem cmd_pick : Gts.Gen.Cmd.file_pick = Gts.Spec.Cmd.file_pick ∧ Gts.Gen.Cmd.decls_pick = Gts.Spec.Cmd.decls_pick ∧
    Gts.Gen.Cmd.types_pick = Gts.Spec.Cmd.types_pick := ⟨rfl, rfl, rfl⟩

theorem cmd_pick_pipeline : Gts.Gen.Cmd.pipeline_pick = Gts.Spec.Cmd.pipeline_pick := rfl

/-- `gts query`: the feature report -/
theorem cmd_query : Gts.Gen.Cmd.file_query = Gts.Spec.Cmd.file_query ∧ Gts.Gen.Cmd.decls_query = Gts.Spec.Cmd.decls_query ∧
    Gts.Gen.Cmd.types_query = Gts.Spec.Cmd.types_query := ⟨rfl, rfl, rfl⟩

theorem cmd_query_pipeline : Gts.Gen.Cmd.pipeline_query = Gts.Spec.Cmd.pipeline_query := rfl

/-- `gts summary`: the text report -/
theorem cmd_summary : Gts.Gen.Cmd.file_summary = Gts.Spec.Cmd.file_summary ∧ Gts.Gen.Cmd.decls_summary = Gts.Spec.Cmd.decls_summary ∧
    Gts.Gen.Cmd.types_summary = Gts.Spec.Cmd.types_summary := ⟨rfl, rfl, rfl⟩

theorem cmd_summary_pipeline : Gts.Gen.Cmd.pipeline_summary = Gts.Spec.Cmd.pipeline_summary := rfl

end Gts.Bridge.Cmd
