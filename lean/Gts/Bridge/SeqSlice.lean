/-
  Bridge: `gts.Slice`, regenerated from sequence.go by go2lean (Gts/Gen/SeqSlice.lean: the two index
  normalisations, the wrap-around branch `seq = Rotate(seq, -start); return Slice(seq, 0, length)` as a call
  of the regenerated `Rotate` and a RECURSIVE call (explicit fuel), `Filter(Overlap(start, end))` through the
  regenerated `FeatureSlice.Filter`, the in-place loop `for i, f := range ff { … ff[i].Loc = loc }` LITERALLY
  over a counter, `asComplete` for `source`, `make` / `copy(p, seq.Bytes()[start:end])` as checked operations,
  `WithTopology(seq, Linear)`), is the hand-written model's `Seq.slice` (Gts/Model/Seq.lean).

  Write `s' = start (+ L if negative)`, `e' = end (+ L if negative)`.

  * forward window `s' ≤ e'`: Go panics iff not `0 ≤ s' ∧ e' ≤ L` (`seq.Bytes()[start:end]`, a slice END beyond
    `len` read as a panic); inside, the generated function is the model's `sliceFwd` = `slice`
    (`seqSlice_fwd`, `seqSlice_fwd_panic`).  Metadata: `WithTopology(WithInfo(seq, trySlice(info, s', e')), Linear)`.
  * wrap-around window `e' < s'`: the code rotates by `-s'` and calls itself with `(0, L - s' + e')`
    (`seqSlice_wrap_step`, for EVERY input).  On the empty sequence that is a panic (`Rotate` divides by the
    length: `seqSlice_wrap_empty_panic`).  When `0 ≤ L - s' + e'` (every window with `s' ≤ L + e'`, in
    particular every `start, end ∈ [-L, L]`, the domain of the harness) the inner call is a forward window
    that cannot panic and the result is the model's (`seqSlice_wrap`).
  * MODEL / CODE DISCREPANCY outside that domain: for `L - s' + e' < 0` (e.g. `Slice(seq, 25, 3)` on ten
    residues) the inner call sees a negative `end`, adds `L` and — if still negative — wraps AGAIN (each level adds
    `2L`), so the real function returns a non-empty window where the model (which calls `sliceFwd` directly)
    returns the empty one.  `seqSlice_deep_differs` is the witness.  No theorem of C03/C10 speaks about that
    region (their hypotheses keep the indices in `[-L, L]`); the model keeps the direct call.
-/
import Gts.Gen.SeqSlice
import Gts.Bridge.SeqRotate
import Gts.Bridge.SeqFilter
namespace Gts.Bridge
open Gts

/-- the index normalisation of `gts.Slice`: a negative index counts from the end -/
def sliceNorm (L x : Int) : Int := if x < 0 then x + L else x

theorem sliceNorm_nonneg (L : Int) {x : Int} (h : 0 ≤ x) : sliceNorm L x = x :=
  if_neg (Int.not_lt.mpr h)

/-- the in-place loop of `Slice` re-bases every location and completes the `source` ones -/
theorem seqSliceLoop_eq (a b L : Int) (ff : List Feature) :
    Gen.seqSliceLoop a b L ff.length 0 ff =
      .ok (ff.map fun f => { f with loc :=
        if f.key = "source" then ((f.loc.expand b (b - L)).expand 0 (-a)).asComplete
        else (f.loc.expand b (b - L)).expand 0 (-a) }) := by
  rw [mapLocLoop_all (Gen.seqSliceLoop a b L)
    (fun f => if f.key = "source"
      then Gen.asComplete (Gen.locFuel (Gen.expand (Gen.expand f.loc b (b - L)) 0 (-a))) (Gen.expand (Gen.expand f.loc b (b - L)) 0 (-a))
      else Gen.expand (Gen.expand f.loc b (b - L)) 0 (-a))
    (fun _ _ => rfl) (fun _ _ _ => rfl)]
  simp only [expand_eq, asComplete_fuel]

/-- the byte part of the forward window: `p := make([]byte, b-a); copy(p, q[a:b])` -/
theorem sliceBytes_eq (q : List UInt8) (a b : Int) (h : 0 ≤ a ∧ a ≤ b ∧ b ≤ (q.length : Int)) :
    Gen.goSlice q a b = some ((q.drop a.toNat).take (b - a).toNat) ∧
    Gen.goCopyAt (List.replicate (b - a).toNat 0) 0 ((q.drop a.toNat).take (b - a).toNat) =
      some ((q.drop a.toNat).take (b - a).toNat, ((b - a).toNat : Int)) := by
  obtain ⟨m, rfl⟩ := Int.eq_ofNat_of_zero_le h.1
  obtain ⟨n, rfl⟩ := Int.eq_ofNat_of_zero_le (Int.le_trans h.1 h.2.1)
  have hmn : m ≤ n := Int.ofNat_le.mp h.2.1
  have hn : n ≤ q.length := Int.ofNat_le.mp h.2.2
  have hcopy := goCopyAt_fresh ((q.drop m).take (n - m))
  rw [List.length_take, List.length_drop, Nat.min_eq_left (by omega)] at hcopy
  rw [Int.toNat_natCast, Int.toNat_sub]
  exact ⟨clSub_nat q m n hmn hn, hcopy⟩

/-- the forward branch of the generated function on normalised bounds `s' ≤ e'`: the model's `sliceFwd` on
them when they lie inside the sequence, else the panic of `seq.Bytes()[s':e']` -/
theorem seqSlice_fwd_norm {ι : Type} (ops : Gen.InfoOps ι) (fuel : Nat) (i : ι) (s : Seq) (start end_ : Int)
    (hw : sliceNorm s.len start ≤ sliceNorm s.len end_) :
    Gen.seqSlice ops (fuel + 1) i s.feats s.bytes start end_ =
      if 0 ≤ sliceNorm s.len start ∧ sliceNorm s.len end_ ≤ s.len then
        .ok (ops.withTopology (ops.trySlice i (sliceNorm s.len start) (sliceNorm s.len end_)) 0,
          (s.sliceFwd (sliceNorm s.len start) (sliceNorm s.len end_)).feats,
          (s.sliceFwd (sliceNorm s.len start) (sliceNorm s.len end_)).bytes)
      else .error .panic := by
  simp only [sliceNorm, Seq.len] at hw
  simp only [Gen.seqSlice]
  generalize ha : (if start < 0 then start + (s.bytes.length : Int) else start) = a at hw ⊢
  generalize hb : (if end_ < 0 then end_ + (s.bytes.length : Int) else end_) = b at hw ⊢
  rw [show sliceNorm s.len start = a from ha, show sliceNorm s.len end_ = b from hb]
  have hab : ¬ b < a := by omega
  have hm : ¬ (b - a < 0) := by omega
  simp only [if_neg hab, featsFilter_eq, seqSliceLoop_eq, Gen.goMake, if_neg hm]
  by_cases h : 0 ≤ a ∧ b ≤ s.len
  · obtain ⟨h1, h2⟩ := sliceBytes_eq s.bytes a b ⟨h.1, hw, h.2⟩
    have hfo : Gen.filterOverlap a b = fun f => f.loc.overlap a b := funext (filterOverlap_eq a b)
    rw [if_pos h]
    simp only [h1, h2, Seq.sliceFwd, Seq.len, hfo]
  · have hs : ¬ (0 ≤ a ∧ a ≤ b ∧ b ≤ (s.bytes.length : Int)) := fun hs => h ⟨hs.1, hs.2.2⟩
    rw [if_neg h]
    simp only [Gen.goSlice, if_neg hs]

/-- FORWARD WINDOW, inside: `gts.Slice` as sequence.go defines it now is the model's `Seq.slice` -/
theorem seqSlice_fwd {ι : Type} (ops : Gen.InfoOps ι) (fuel : Nat) (i : ι) (s : Seq) (start end_ : Int)
    (hw : sliceNorm s.len start ≤ sliceNorm s.len end_)
    (h : 0 ≤ sliceNorm s.len start ∧ sliceNorm s.len end_ ≤ s.len) :
    Gen.seqSlice ops (fuel + 1) i s.feats s.bytes start end_ =
      .ok (ops.withTopology (ops.trySlice i (sliceNorm s.len start) (sliceNorm s.len end_)) 0,
        (s.slice start end_).feats, (s.slice start end_).bytes) := by
  have hm : s.slice start end_ = s.sliceFwd (sliceNorm s.len start) (sliceNorm s.len end_) := by
    simp only [Seq.slice, sliceNorm]
    rw [if_neg (by simp only [sliceNorm] at hw; omega)]
  rw [hm, seqSlice_fwd_norm ops fuel i s start end_ hw, if_pos h]

/-- FORWARD WINDOW, outside: `seq.Bytes()[start:end]` panics -/
theorem seqSlice_fwd_panic {ι : Type} (ops : Gen.InfoOps ι) (fuel : Nat) (i : ι) (s : Seq) (start end_ : Int)
    (hw : sliceNorm s.len start ≤ sliceNorm s.len end_)
    (h : ¬ (0 ≤ sliceNorm s.len start ∧ sliceNorm s.len end_ ≤ s.len)) :
    Gen.seqSlice ops (fuel + 1) i s.feats s.bytes start end_ = .error .panic := by
  rw [seqSlice_fwd_norm ops fuel i s start end_ hw, if_neg h]

/-- WRAP-AROUND WINDOW, every input: rotate by `-s'`, then call itself with `(0, L - s' + e')` -/
theorem seqSlice_wrap_step {ι : Type} (ops : Gen.InfoOps ι) (fuel : Nat) (i : ι) (feats : List Feature)
    (bytes : List UInt8) (start end_ : Int)
    (hw : sliceNorm bytes.length end_ < sliceNorm bytes.length start) :
    Gen.seqSlice ops (fuel + 1) i feats bytes start end_ =
      match Gen.seqRotate fuel i feats bytes (-(sliceNorm bytes.length start)) with
      | .error e => .error e
      | .ok (ri, rf, rb) =>
        Gen.seqSlice ops fuel ri rf rb 0 ((bytes.length : Int) - sliceNorm bytes.length start + sliceNorm bytes.length end_) := by
  simp only [sliceNorm] at hw
  simp only [Gen.seqSlice, sliceNorm, if_pos hw]
  split <;> rename_i h
  · rw [h]
  · rw [h]
    simp only []
    split <;> rename_i h2 <;> rw [h2]

/-- WRAP-AROUND WINDOW on the empty sequence: `Rotate` divides by the length -/
theorem seqSlice_wrap_empty_panic {ι : Type} (ops : Gen.InfoOps ι) (fuel : Nat) (i : ι) (feats : List Feature)
    (start end_ : Int) (hw : sliceNorm 0 end_ < sliceNorm 0 start) :
    Gen.seqSlice ops (fuel + 1) i feats [] start end_ = .error .panic := by
  have := seqSlice_wrap_step ops fuel i feats [] start end_ (by simpa using hw)
  rw [this, seqRotate_panic]

/-- WRAP-AROUND WINDOW with `0 ≤ L - s' + e'` on a non-empty sequence: `gts.Slice` as sequence.go defines it
now is the model's `Seq.slice`, for every fuel of at least `max 2 (s' + 1)` -/
theorem seqSlice_wrap {ι : Type} (ops : Gen.InfoOps ι) (fuel : Nat) (i : ι) (s : Seq) (start end_ : Int)
    (hw : sliceNorm s.len end_ < sliceNorm s.len start) (hL : 0 < s.len)
    (hlen : 0 ≤ s.len - sliceNorm s.len start + sliceNorm s.len end_)
    (hf : sliceNorm s.len start ≤ fuel + 1) :
    Gen.seqSlice ops (fuel + 2) i s.feats s.bytes start end_ =
      .ok (ops.withTopology (ops.trySlice i 0 (s.len - sliceNorm s.len start + sliceNorm s.len end_)) 0,
        (s.slice start end_).feats, (s.slice start end_).bytes) := by
  have hm : s.slice start end_ =
      (s.rotate (-(sliceNorm s.len start))).sliceFwd 0 (s.len - sliceNorm s.len start + sliceNorm s.len end_) := by
    simp only [Seq.slice, sliceNorm]
    rw [if_pos (by simp only [sliceNorm] at hw; omega)]
  have hstep := seqSlice_wrap_step ops (fuel + 1) i s.feats s.bytes start end_ hw
  have hrot := seqRotate_eq (fuel + 1) i s (-(sliceNorm s.len start)) hL (by simp only [Int.neg_neg]; omega)
  simp only [Seq.len] at hrot hstep
  rw [hstep, hrot]
  simp only []
  have hfw := seqSlice_fwd_norm ops fuel i (s.rotate (-(sliceNorm s.len start))) 0
    (s.len - sliceNorm s.len start + sliceNorm s.len end_)
  rw [sliceNorm_nonneg _ (Int.le_refl 0), sliceNorm_nonneg _ hlen, Seq.rotate_len] at hfw
  have hfw := (hfw hlen).trans (if_pos ⟨Int.le_refl 0, by omega⟩)
  simp only [Seq.len] at hfw hm ⊢
  rw [hfw, hm]

-- non-vacuity of the three theorems (ten residues; forward, negative indices, wrap-around)
example : sliceNorm 10 2 ≤ sliceNorm 10 (-3) ∧ 0 ≤ sliceNorm 10 2 ∧ sliceNorm 10 (-3) ≤ 10 := by decide
example : sliceNorm 10 3 < sliceNorm 10 8 ∧ (0 : Int) ≤ 10 - sliceNorm 10 8 + sliceNorm 10 3 := by decide
example : Gen.seqSlice (ι := Unit) ⟨fun i _ _ => i, fun i _ _ => i, fun i _ _ => i, fun i _ => i, ()⟩ 10 ()
      [⟨"source", .ranged 0 10 false false, []⟩, ⟨"gene", .ranged 1 4 false false, []⟩]
      [65, 67, 71, 84, 65, 67, 71, 84, 65, 67] 8 3 =
    .ok ((), [⟨"source", .ranged 0 5 false false, []⟩, ⟨"gene", .ranged 3 5 false true, []⟩], [65, 67, 65, 67, 71]) := by
  rfl

/-- the discrepancy witness: `Slice(seq, 25, 3)` on ten residues wraps twice and returns eight residues;
the model returns none -/
theorem seqSlice_deep_differs :
    Gen.seqSlice (ι := Unit) ⟨fun i _ _ => i, fun i _ _ => i, fun i _ _ => i, fun i _ => i, ()⟩ 30 ()
      [] [65, 67, 71, 84, 65, 67, 71, 84, 65, 67] 25 3 = .ok ((), [], [67, 71, 84, 65, 67, 65, 67, 71]) ∧
    (Seq.slice ⟨[], [65, 67, 71, 84, 65, 67, 71, 84, 65, 67]⟩ 25 3).bytes = [] := by
  constructor <;> rfl

end Gts.Bridge
