/-
  Bridge: the order of `gts sort`, regenerated from cmd/gts/sort.go by go2lean (Gts/Gen/CmdSort.lean, generator
  go2lean/cmdsteps.go): `byLength.Less(i, j)` — the `Less` method of the type sort.go converts the collected records
  to — is `gts.Len(ss[j]) < gts.Len(ss[i])`: record `i` sorts in front of record `j` iff it is LONGER.
-/
import Gts.Gen.CmdSort
import Gts.Bridge.CliLoops
namespace Gts.Bridge
open Gts

/-- **the order of `gts sort`, as written**: for two valid indices `byLength.Less(i, j)` does not panic and is the
model's `Cli.lenLess false` on the two records — DESCENDING by number of residues (a swapped comparison, `<=`, another
key break it) -/
theorem byLengthLess_eq (ss : List Seq) (i j : Nat) (a b : Seq) (hi : ss[i]? = some a) (hj : ss[j]? = some b) :
    Gen.byLengthLess ss (i : Int) (j : Int) = some (Cli.lenLess false a b) := by
  simp [Gen.byLengthLess, clAt_nat, hi, hj, Cli.lenLess]

/-- `sort.Reverse` swaps the arguments of `Less`: behind `-r` the order is `Cli.lenLess true` — ascending -/
theorem byLengthLess_reverse (ss : List Seq) (i j : Nat) (a b : Seq) (hi : ss[i]? = some a) (hj : ss[j]? = some b) :
    Gen.byLengthLess ss (j : Int) (i : Int) = some (Cli.lenLess true a b) :=
  byLengthLess_eq ss j i b a hj hi

/-- an index outside the slice is the Go panic -/
theorem byLengthLess_panic (ss : List Seq) (i j : Nat) (h : ss.length ≤ i ∨ ss.length ≤ j) :
    Gen.byLengthLess ss (i : Int) (j : Int) = none := by
  simp only [Gen.byLengthLess, clAt_nat]
  rcases h with h | h
  · cases hj : ss[j]? with
    | none => rfl
    | some b => simp [List.getElem?_eq_none h]
  · simp [List.getElem?_eq_none h]

example : Gen.byLengthLess [⟨[], [1]⟩, ⟨[], [1, 2]⟩] 1 0 = some true := by decide +kernel

end Gts.Bridge
