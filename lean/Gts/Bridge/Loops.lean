/-
  Bridge, common to every generator: a `range` loop whose body cannot panic.  go2lean emits such a loop as a
  recursion over the list with the loop state as argument; what differs between the generators is only what
  the function does with the final state (`some s`, `.ok s`, `s` itself).  With that as a parameter `ret` the
  two equations of the loop read the same everywhere — no `match` on a checked operation occurs in them — so a
  generated loop meets them by `rfl`, whatever its locals are called.

  This file imports no prelude of Gts/Gen: the preludes declare some names twice and cannot all be imported
  into one module.
-/
namespace Gts.Go
variable {α σ ρ : Type}

/-- `for _, x := range xs { s = step(s, x) }`: any function with these two equations folds `step` -/
theorem foldLoop (ret : σ → ρ) (loop : List α → σ → ρ) (step : σ → α → σ)
    (h0 : ∀ s, loop [] s = ret s)
    (hs : ∀ x xs s, loop (x :: xs) s = loop xs (step s x)) :
    ∀ (xs : List α) (s : σ), loop xs s = ret (xs.foldl step s)
  | [], s => h0 s
  | x :: xs, s => (hs x xs s).trans (foldLoop ret loop step h0 hs xs (step s x))

end Gts.Go
