/-
  C07 / C01 / C06 bridge (DESIGN.md 4.1a): the PRIMITIVE PARSERS of go-pars v1.1.6 — `Spaces`, `Word`, `Byte`, `Bytes`,
  `String`, `End`, `EOL`, `calculateLineLength`, `Line`, `untilByte`, `untilFilter`, `convertInt`, `Int`, regenerated
  statement by statement on every run (`Gts/Gen/Pars.lean`, generator go2lean/gparsfn.go) over the regenerated state —
  are the model's `Pars.spaces`, `word`, `ModParse.byte`, `lit`, `ModParse.atEnd`, `eol`, `calcLine`, `line`,
  `untilFilter`, `int` (`Gts/Model/Pars.lean`), read through the abstraction `absState` of `Gts/Bridge/ParsState.lean`.

  `Agree pend val r m`: the generated run `r` from a Go state `g` and the model's run `m` from `absState pend g` end
  alike — success with related values and `absState` of the new Go state = the model's new state; an error on both
  sides, again with equal states (so frames that LEAK on an error path leak on both sides: `int_sim`,
  `int_leaks_frame` — F34's root cause —, and `Until` restores the entry state: `until_frame`); a Go panic exactly
  where the model panics (`Trail` behind a saved position).  Every theorem holds from EVERY state that meets the
  representation invariant `Inv`, under `FillOk` (the read loop of `Request`) and `EnvOk` (`ascii.IsDigit / IsSpace`,
  `strconv.Atoi` are the model's), with more loop fuel than bytes left.

  One lemma per loop SHAPE with its invariant — `scan_loop` (`for err == nil && pred(c)`: the position moves over accepted
  bytes only, `(c, err)` is what `Next` sees there; = `skipWhile pred`), `until_loop` (`for !stop(c)` with the `Pop` on
  the end of the input; = `indexWhere`), `calcLine_rounds` (`i` bytes are behind the scan, `cr` ⇒ `1 ≤ i`; = `calcLine`, by
  induction on the bytes it recurses on) —, the generated loop bodies are shown to have the shape by `rfl`.  The straight-line
  code is followed operation by operation: `Agree.step`, `Agree.next_bind` / `next_skip`, `Agree.scan`, `Agree.trail_bind`
  say that one generated operation followed by `K` agrees with the model's `op >>= k` when `K` and `k`
  agree from the state the operation leaves.  Known finding K7C (`pars.Line` behind CR CR LF) is
  reproduced: `line_sim` + `calcLine_crcrlf`, and on the generated code itself by the last examples.
-/
import Gts.Bridge.ParsState
import Gts.Lemmas.ByteSearch
namespace Gts.Bridge
open Gts.Gen.GoPars
open Gts.Pars (PS Bytes Err)

section Prim
variable {ρ ε : Type}

/-- the generated parser run `r` agrees with the model run `m`: success with the value `val` relates, the same state;
an error (the model's `fail`), the same state; a panic on both sides -/
def Agree {α : Type} (pend : ρ → Option ε → Bytes) (val : α → ResultV → Prop)
    (r : Option (State ρ ε × ResultV × Option ε)) (m : Except Err α × PS) : Prop :=
  match m with
  | (.ok a, s') => ∃ g' res, r = some (g', res, none) ∧ val a res ∧ Inv g' ∧ absState pend g' = s'
  | (.error .fail, s') => ∃ g' res e, r = some (g', res, some e) ∧ Inv g' ∧ absState pend g' = s'
  | (.error .panic, _) => r = none

/-- a state operation that cannot fail, then `K`, against the model's `mop >>= k`: the continuations agree from the state the
operation leaves (`h` is the form of `push_sim`, `pop_sim`, `drop_sim`, `clear_sim`, `advance_sim`) -/
theorem Agree.step {α : Type} {pend : ρ → Option ε → Bytes} {val : α → ResultV → Prop} {g : State ρ ε}
    {o : Option (State ρ ε)} {mop : Pars.P Unit}
    (h : ∃ g', o = some g' ∧ Inv g' ∧ mop.run' (absState pend g) = (.ok (), absState pend g'))
    {K : State ρ ε → Option (State ρ ε × ResultV × Option ε)} {k : Unit → Pars.P α}
    (hk : ∀ g', o = some g' → Inv g' → absState pend g' = (mop.run' (absState pend g)).2 →
      Agree pend val (K g') ((k ()).run' (absState pend g'))) :
    Agree pend val (o.bind K) ((mop >>= k).run' (absState pend g)) := by
  obtain ⟨g', rfl, hi, hm⟩ := h
  rw [Pars.run_bind, hm]
  exact hk g' rfl hi (by rw [hm])

/-- what `Next` answered belongs to the state at hand -/
def NextAt (pend : ρ → Option ε → Bytes) (g : State ρ ε) (c : UInt8) (err : Option ε) : Prop :=
  match (absState pend g).rest with
  | [] => err.isSome = true
  | b :: _ => err = none ∧ c = b ∧ Ready g 1

theorem NextAt.cons {pend : ρ → Option ε → Bytes} {g : State ρ ε} {b : UInt8} {t : Bytes}
    (hr : (absState pend g).rest = b :: t) (hready : Ready g 1) : NextAt pend g b none := by
  unfold NextAt; rw [hr]; exact ⟨rfl, rfl, hready⟩

theorem parsNext_at (env : Env ρ ε) (pend : ρ → Option ε → Bytes) (hf : FillOk env pend) (g : State ρ ε) (h : Inv g) :
    ∃ g' c err, parsNext env g = some (g', c, err) ∧ Inv g' ∧ absState pend g' = absState pend g ∧ NextAt pend g' c err := by
  have hn := parsNext_spec env pend hf g h
  cases hr : (absState pend g).rest with
  | nil =>
    rw [hr] at hn
    obtain ⟨g', e, h1, h2, h3⟩ := hn
    exact ⟨g', 0, some e, h1, h2, h3, by simp [NextAt, h3, hr]⟩
  | cons b t =>
    rw [hr] at hn
    obtain ⟨g', h1, h2, h3, h4⟩ := hn
    exact ⟨g', b, none, h1, h2, h3, by simp [NextAt, h3, hr, h4]⟩

/-- `Next`, then `K`, where the model does nothing: `Next` changes nothing the model sees -/
theorem Agree.next_skip {α : Type} (env : Env ρ ε) {pend : ρ → Option ε → Bytes} (hf : FillOk env pend)
    {val : α → ResultV → Prop} {g : State ρ ε} (h : Inv g)
    {K : State ρ ε × UInt8 × Option ε → Option (State ρ ε × ResultV × Option ε)} {m : Pars.P α}
    (hk : ∀ g' c err, Inv g' → absState pend g' = absState pend g → NextAt pend g' c err →
      Agree pend val (K (g', c, err)) (m.run' (absState pend g'))) :
    Agree pend val ((parsNext env g).bind K) (m.run' (absState pend g)) := by
  obtain ⟨g', c, err, hn, hi, ha, hat⟩ := parsNext_at env pend hf g h
  rw [hn, ← ha]
  exact hk g' c err hi ha hat

theorem Agree.next_bind {α : Type} (env : Env ρ ε) {pend : ρ → Option ε → Bytes} (hf : FillOk env pend)
    {val : α → ResultV → Prop} {g : State ρ ε} (h : Inv g)
    {K : State ρ ε × UInt8 × Option ε → Option (State ρ ε × ResultV × Option ε)} {k : UInt8 → Pars.P α}
    (hnil : ∀ g' c e, Inv g' → Agree pend val (K (g', c, some e)) (.error .fail, absState pend g'))
    (hcons : ∀ g' b t, Inv g' → absState pend g' = absState pend g → (absState pend g').rest = b :: t → Ready g' 1 →
      Agree pend val (K (g', b, none)) ((k b).run' (absState pend g'))) :
    Agree pend val ((parsNext env g).bind K) ((Pars.next >>= k).run' (absState pend g)) := by
  obtain ⟨g', c, err, hn, hi, ha, hat⟩ := parsNext_at env pend hf g h
  rw [hn, Pars.run_bind, Pars.run_next, ← ha]
  unfold NextAt at hat
  cases hr : (absState pend g').rest with
  | nil =>
    rw [hr] at hat
    obtain ⟨e, rfl⟩ := Option.isSome_iff_exists.mp hat
    exact hnil g' c e hi
  | cons b t =>
    rw [hr] at hat
    obtain ⟨rfl, rfl, hready⟩ := hat
    exact hcons g' c t hi ha hr hready

/-- the shape of the loops `for err == nil && pred(c) { state.Advance(); c, err = Next(state) }` -/
def scanBody (env : Env ρ ε) (pred : UInt8 → Bool) {R : Type} (s_ : State ρ ε × UInt8 × Option ε) :
    Option (Flow (State ρ ε × UInt8 × Option ε) R) :=
  if (s_.2.2.isNone = true) ∧ (pred s_.2.1 = true) then
    (stateAdvance s_.1).bind fun t =>
    (parsNext env t).bind fun u =>
    some (Flow.next (u.1, u.2.1, u.2.2))
  else some (Flow.done (s_.1, s_.2.1, s_.2.2))

/-- a loop of that shape ends (with more fuel than bytes left) where `skipWhile pred` ends: behind the longest prefix
`pred` accepts — invariant: the position moved over accepted bytes only, the saved positions are untouched, `(c, err)` is
what `Next` sees at the position -/
theorem scan_loop (env : Env ρ ε) (pend : ρ → Option ε → Bytes) (hf : FillOk env pend) (pred : UInt8 → Bool) {R : Type}
    (exit : State ρ ε × UInt8 × Option ε → Option R) (l : Bytes) :
    ∀ (g : State ρ ε) (c : UInt8) (err : Option ε) (fuel : Nat), Inv g → (absState pend g).rest = l →
      NextAt pend g c err → l.length < fuel →
      ∃ g' c' err', loop (scanBody env pred) exit fuel (g, c, err) = exit (g', c', err') ∧ Inv g' ∧
        absState pend g' = ⟨l.dropWhile pred, (absState pend g).stk⟩ ∧ NextAt pend g' c' err' := by
  induction l with
  | nil =>
    intro g c err fuel h hr hn hfu
    obtain ⟨f, rfl⟩ := Nat.exists_eq_succ_of_ne_zero (Nat.ne_of_gt (Nat.zero_lt_of_lt hfu))
    simp only [NextAt, hr] at hn
    refine ⟨g, c, err, ?_, h, ?_, by simp [NextAt, hr, hn]⟩
    · cases err with
      | none => simp at hn
      | some e => simp [loop, scanBody]
    · show absState pend g = ⟨[], _⟩
      rw [← hr]
  | cons b t ih =>
    intro g c err fuel h hr hn hfu
    obtain ⟨f, rfl⟩ := Nat.exists_eq_succ_of_ne_zero (Nat.ne_of_gt (Nat.zero_lt_of_lt hfu))
    simp only [NextAt, hr] at hn
    obtain ⟨rfl, rfl, hready⟩ := hn
    by_cases hp : pred c = true
    · obtain ⟨g1, ha, hinv1, habs1⟩ := stateAdvance_spec pend g h 1 hready
      obtain ⟨g2, c2, err2, hn2, hinv2, habs2, hat2⟩ := parsNext_at env pend hf g1 hinv1
      have hr2 : (absState pend g2).rest = t := by rw [habs2, habs1, hr]; simp
      obtain ⟨g', c', err', hl, hinv', habs', hat'⟩ := ih g2 c2 err2 f hinv2 hr2 hat2 (by simp at hfu; omega)
      refine ⟨g', c', err', ?_, hinv', ?_, hat'⟩
      · rw [← hl]
        simp [loop, scanBody, hp, ha, hn2]
      · rw [habs', habs2, habs1]
        simp [List.dropWhile, hp]
    · refine ⟨g, c, none, ?_, h, ?_, by simp [NextAt, hr, hready]⟩
      · simp [loop, scanBody, hp]
      · simp [List.dropWhile, hp, ← hr]

theorem Agree.scan {α : Type} (env : Env ρ ε) {pend : ρ → Option ε → Bytes} (hf : FillOk env pend) (pred : UInt8 → Bool)
    {val : α → ResultV → Prop} {g : State ρ ε} {c : UInt8} {err : Option ε} {fuel : Nat} (h : Inv g)
    (hat : NextAt pend g c err) (hfu : (absState pend g).rest.length < fuel)
    {exit : State ρ ε × UInt8 × Option ε → Option (State ρ ε × ResultV × Option ε)} {k : Unit → Pars.P α}
    (hk : ∀ g' c' err', Inv g' → NextAt pend g' c' err' →
      absState pend g' = ⟨(absState pend g).rest.dropWhile pred, (absState pend g).stk⟩ →
      Agree pend val (exit (g', c', err')) ((k ()).run' (absState pend g'))) :
    Agree pend val (loop (scanBody env pred) exit fuel (g, c, err)) ((Pars.skipWhile pred >>= k).run' (absState pend g)) := by
  obtain ⟨g', c', err', hl, hi, ha, hat'⟩ := scan_loop env pend hf pred exit _ g c err fuel h rfl hat hfu
  rw [hl, Pars.run_bind, Pars.run_skipWhile, ← ha]
  exact hk g' c' err' hi hat' ha

/-- THE ASSUMPTION about the library calls that are parameters of the generated code: `ascii.IsDigit`, `ascii.IsSpace`
are the model's byte classes, `strconv.Atoi` is the model's `atoi` (an error exactly where it answers `none`) -/
structure EnvOk (env : Env ρ ε) : Prop where
  isDigit : env.isDigit = Pars.isDigit
  isSpace : env.isSpace = Pars.isSpace
  atoi : ∀ p, match Pars.atoi p with
    | some n => env.atoi p = (n, none)
    | none => (env.atoi p).2.isSome = true

theorem Agree.trail_bind {α : Type} (env : Env ρ ε) {pend : ρ → Option ε → Bytes} (hf : FillOk env pend)
    {val : α → ResultV → Prop} {g : State ρ ε} (h : Inv g)
    {K : State ρ ε × List UInt8 × Option ε → Option (State ρ ε × ResultV × Option ε)} {k : Bytes → Pars.P α}
    (hk : ∀ g' p e, Inv g' → e.isSome = (absState pend g).stk.isEmpty →
      Agree pend val (K (g', p, e)) ((k p).run' (absState pend g'))) :
    Agree pend val ((parsTrail env g).bind K) ((Pars.trail >>= k).run' (absState pend g)) := by
  have ht := trail_sim env pend hf g h
  rw [Pars.run_bind]
  generalize Pars.trail.run' (absState pend g) = m at ht
  obtain ⟨r, s'⟩ := m
  rcases r with e | p
  · cases e with
    | fail => exact ht.elim
    | panic => rw [show parsTrail env g = none from ht]; rfl
  · obtain ⟨g', e, h1, h2, rfl, h4⟩ := ht
    rw [h1]
    exact hk g' p e h2 h4

/-- the last step of `Spaces`, `untilByte`, `untilFilter`: the token is the `Trail` -/
theorem trail_token (env : Env ρ ε) (pend : ρ → Option ε → Bytes) (hf : FillOk env pend) (g : State ρ ε) (h : Inv g) :
    Agree pend (fun p r => r = ResultV.token p)
      ((parsTrail env g).bind fun t => some (t.1, ResultV.token t.2.1, (none : Option ε)))
      (Pars.trail.run' (absState pend g)) := by
  rw [← bind_pure Pars.trail]
  exact Agree.trail_bind env hf h fun g' p _ hinv' _ => ⟨g', _, rfl, rfl, hinv', rfl⟩

/-- `pars.Spaces` = `Pars.spaces`, for every state and with more fuel than bytes left: the loop is `skipWhile isSpace`,
the token the `Trail` — a panic exactly where the model's `trail` panics (never from a sorted state: C07) -/
theorem spaces_sim (env : Env ρ ε) (pend : ρ → Option ε → Bytes) (hf : FillOk env pend) (he : EnvOk env)
    (g : State ρ ε) (h : Inv g) (fuel : Nat) (hfu : (absState pend g).rest.length < fuel) (res : ResultV) :
    Agree pend (fun p r => r = ResultV.token p) (parsSpaces env fuel g res) (Pars.spaces.run' (absState pend g)) := by
  refine Agree.step (push_sim pend g h) fun g1 _ hinv1 habs1 => ?_
  refine Agree.next_skip env hf hinv1 fun g2 c2 err2 hinv2 habs2 hat2 => ?_
  rw [← he.isSpace]
  refine Agree.scan env hf env.isSpace hinv2 hat2 (by rw [habs2, habs1]; exact hfu) fun g3 _ _ hinv3 _ _ => ?_
  exact trail_token env pend hf g3 hinv3

/-- `pars.Word(filter)` = `Pars.word filter`: the loop is `skipWhile filter`, the token the `Trail`, an EMPTY token is an
error (with the frame already gone and nothing consumed) -/
theorem word_sim (env : Env ρ ε) (pend : ρ → Option ε → Bytes) (hf : FillOk env pend) (filter : UInt8 → Bool)
    (g : State ρ ε) (h : Inv g) (fuel : Nat) (hfu : (absState pend g).rest.length < fuel) (res : ResultV) :
    Agree pend (fun p r => r = ResultV.token p) (parsWord env fuel filter g res) ((Pars.word filter).run' (absState pend g)) := by
  refine Agree.step (push_sim pend g h) fun g1 _ hinv1 habs1 => ?_
  refine Agree.next_skip env hf hinv1 fun g2 c2 err2 hinv2 habs2 hat2 => ?_
  refine Agree.scan env hf filter hinv2 hat2 (by rw [habs2, habs1]; exact hfu) fun g3 _ _ hinv3 _ _ => ?_
  refine Agree.trail_bind env hf hinv3 fun g' p _ hinv' _ => ?_
  cases p with
  | nil => exact ⟨g', res, env.mkErr, rfl, hinv', rfl⟩
  | cons b t => exact ⟨g', _, if_neg (by rw [List.length_cons]; omega), rfl, hinv', rfl⟩

/-- `pars.Byte(c)` = `ModParse.byte c`: the next byte must be `c`; nothing is pushed, nothing moves on a failure -/
theorem byte_sim (env : Env ρ ε) (pend : ρ → Option ε → Bytes) (hf : FillOk env pend) (c : UInt8)
    (g : State ρ ε) (h : Inv g) (res : ResultV) :
    Agree pend (fun _ r => r = ResultV.token [c]) (parsByte env c g res) ((ModParse.byte c).run' (absState pend g)) := by
  refine Agree.next_bind env hf h (fun g' _ e hi => ⟨g', res, env.mkErr, rfl, hi, rfl⟩) fun g' b t hi _ _ hr => ?_
  dsimp only
  by_cases hbc : b = c
  · subst hbc
    rw [if_neg (by simp), if_neg (by simp), if_neg (by simp), ← bind_pure Pars.advance1]
    exact Agree.step (advance_sim pend g' hi 1 hr) fun g2 _ hi2 _ => ⟨g2, _, rfl, rfl, hi2, rfl⟩
  · rw [if_pos (show b ≠ c from hbc), if_pos (show (b != c) = true by simpa using hbc)]
    exact ⟨g', res, env.mkErr, rfl, hi, rfl⟩

/-- the shape of `Bytes(p)` and `String(s)`: `Request(len(p))`, compare the buffer with `p`, `Advance`; they differ in the
result they set (`tok`) -/
def litBody (env : Env ρ ε) (p : List UInt8) (tok : ResultV) (g : State ρ ε) (res : ResultV) :
    Option (State ρ ε × ResultV × Option ε) :=
  if (stateRequest env g (p.length : Int)).2.isSome = true then
    some ((stateRequest env g (p.length : Int)).1, res, some env.mkErr)
  else
    (stateBuffer (stateRequest env g (p.length : Int)).1).bind fun b =>
    if ¬ b = p then some ((stateRequest env g (p.length : Int)).1, res, some env.mkErr)
    else (stateAdvance (stateRequest env g (p.length : Int)).1).bind fun t => some (t, tok, none)

theorem litBody_sim (env : Env ρ ε) (pend : ρ → Option ε → Bytes) (hf : FillOk env pend) (p : Bytes) (tok : ResultV)
    (g : State ρ ε) (h : Inv g) (res : ResultV) :
    Agree pend (fun _ r => r = tok) (litBody env p tok g res) ((Pars.lit p).run' (absState pend g)) := by
  obtain ⟨hinv, habs, _, _, hif⟩ := stateRequest_spec env pend hf g h p.length
  unfold Pars.lit litBody
  rw [Pars.run_bind, Pars.run_getS]; dsimp only
  have hcond : ((absState pend g).rest.take p.length == p && decide (p.length ≤ (absState pend g).rest.length)) = true ↔
      (absState pend g).rest.take p.length = p ∧ p.length ≤ (absState pend g).rest.length := by
    rw [Bool.and_eq_true, beq_iff_eq, decide_eq_true_eq]
  split at hif
  · rename_i hk
    have hb := stateBuffer_spec pend _ hinv p.length hif.2
    rw [habs] at hb
    rw [hif.1, if_neg (by simp), hb, Option.bind_some]
    by_cases heq : (absState pend g).rest.take p.length = p
    · rw [if_pos (hcond.mpr ⟨heq, hk⟩), if_neg (not_not_intro heq), ← habs, ← bind_pure (Pars.advanceN _)]
      exact Agree.step (advance_sim pend _ hinv p.length hif.2) fun g2 _ hinv2 _ => ⟨g2, _, rfl, rfl, hinv2, rfl⟩
    · rw [if_neg (fun x => heq (hcond.mp x).1), if_pos heq]
      exact ⟨_, res, env.mkErr, rfl, hinv, habs⟩
  · rename_i hk
    rw [if_pos hif.1, if_neg (fun x => hk (hcond.mp x).2)]
    exact ⟨_, res, env.mkErr, rfl, hinv, habs⟩

/-- `pars.Bytes(p)` = `Pars.lit p`: the next `len(p)` bytes must be `p`; nothing moves on a failure -/
theorem bytes_sim (env : Env ρ ε) (pend : ρ → Option ε → Bytes) (hf : FillOk env pend) (p : Bytes)
    (g : State ρ ε) (h : Inv g) (res : ResultV) :
    Agree pend (fun _ r => r = ResultV.token p) (parsBytes env p g res) ((Pars.lit p).run' (absState pend g)) :=
  litBody_sim env pend hf p _ g h res

/-- `pars.String(s)` = `Pars.lit` of its bytes -/
theorem string_sim (env : Env ρ ε) (pend : ρ → Option ε → Bytes) (hf : FillOk env pend) (p : Bytes)
    (g : State ρ ε) (h : Inv g) (res : ResultV) :
    Agree pend (fun _ r => r = ResultV.str p) (parsString env p g res) ((Pars.lit p).run' (absState pend g)) :=
  litBody_sim env pend hf p _ g h res

/-- `pars.End` = `ModParse.atEnd`: succeeds iff no byte is left -/
theorem end_sim (env : Env ρ ε) (pend : ρ → Option ε → Bytes) (hf : FillOk env pend)
    (g : State ρ ε) (h : Inv g) (res : ResultV) :
    Agree pend (fun _ r => r = res) (some (parsEnd env g res)) (ModParse.atEnd.run' (absState pend g)) := by
  obtain ⟨hinv, habs, _, _, hif⟩ := stateRequest_spec env pend hf g h 1
  unfold ModParse.atEnd parsEnd
  rw [Pars.run_bind, Pars.run_getS]
  dsimp only
  cases hr : (absState pend g).rest with
  | nil =>
    rw [hr, if_neg (show ¬ (1 ≤ ([] : Bytes).length) from Nat.not_succ_le_zero 0)] at hif
    obtain ⟨e, (he : (stateRequest env g 1).2 = some e)⟩ := Option.isSome_iff_exists.mp hif.1
    rw [he, if_neg (show ¬ ((some e).isNone = true) from Bool.false_ne_true)]
    exact ⟨_, res, rfl, rfl, hinv, habs⟩
  | cons b t =>
    rw [hr, if_pos (show 1 ≤ (b :: t).length from Nat.succ_le_succ (Nat.zero_le _))] at hif
    rw [show (stateRequest env g 1).2 = none from hif.1, if_pos (show (none : Option ε).isNone = true from rfl)]
    exact ⟨_, res, env.mkErr, rfl, hinv, habs⟩

/-- `pars.EOL` = `Pars.eol`: nothing at the end of the input, LF, CR LF, a lone CR (the CR is consumed BEFORE the byte behind
it is looked at); any other byte is an error with nothing consumed; never a panic -/
theorem eol_sim (env : Env ρ ε) (pend : ρ → Option ε → Bytes) (hf : FillOk env pend)
    (g : State ρ ε) (h : Inv g) (res : ResultV) :
    Agree pend (fun p r => r = ResultV.token p) (parsEOL env g res) (Pars.eol.run' (absState pend g)) := by
  have hnone : ¬ ((none : Option ε).isSome = true) := Bool.false_ne_true
  unfold Pars.eol
  rw [Pars.run_bind, Pars.run_getS]
  dsimp only
  split <;> refine Agree.next_skip env hf h fun g1 c err hi1 habs1 hat => ?_ <;> unfold NextAt at hat <;>
    rw [habs1] at hat <;> dsimp only
  · -- end of the input
    rename_i hr
    rw [hr] at hat
    obtain ⟨e, rfl⟩ := Option.isSome_iff_exists.mp hat
    exact ⟨g1, _, rfl, rfl, hi1, rfl⟩
  · -- LF
    rename_i t hr
    rw [hr] at hat
    obtain ⟨rfl, rfl, hready⟩ := hat
    rw [if_neg hnone, if_pos rfl]
    exact Agree.step (advance_sim pend g1 hi1 1 hready) fun g2 _ hi2 _ => ⟨g2, _, rfl, rfl, hi2, rfl⟩
  · -- CR LF
    rename_i t hr
    rw [hr] at hat
    obtain ⟨rfl, rfl, hready⟩ := hat
    obtain ⟨g2, ha, hi2, habs2⟩ := stateAdvance_spec pend g1 hi1 1 hready
    rw [if_neg hnone, if_neg (by decide), if_pos rfl, ha, Option.bind_some]
    have hn := parsNext_spec env pend hf g2 hi2
    rw [habs2, habs1, hr] at hn
    obtain ⟨g3, h3, hi3, habs3, hready3⟩ := hn
    obtain ⟨g4, ha4, hi4, habs4⟩ := stateAdvance_spec pend g3 hi3 1 hready3
    rw [h3, Option.bind_some]
    dsimp only
    rw [if_pos ⟨rfl, rfl⟩, ha4]
    exact ⟨g4, _, rfl, rfl, hi4, by rw [habs4, habs3, habs1, hr]; rfl⟩
  · -- a lone CR
    rename_i t hnot hr
    rw [hr] at hat
    obtain ⟨rfl, rfl, hready⟩ := hat
    obtain ⟨g2, ha, hi2, habs2⟩ := stateAdvance_spec pend g1 hi1 1 hready
    rw [if_neg hnone, if_neg (by decide), if_pos rfl, ha, Option.bind_some]
    obtain ⟨g3, c3, err3, h3, hi3, habs3, hat3⟩ := parsNext_at env pend hf g2 hi2
    have hr3 : (absState pend g3).rest = t := by rw [habs3, habs2, habs1, hr]; rfl
    rw [h3, Option.bind_some]
    dsimp only
    rw [if_neg]
    · exact ⟨g3, _, rfl, rfl, hi3, by rw [habs3, habs2, habs1]⟩
    · rintro ⟨he, rfl⟩
      unfold NextAt at hat3
      rw [hr3] at hat3
      cases t with
      | nil => rw [Option.isNone_iff_eq_none.mp he] at hat3; cases hat3
      | cons b u => exact hnot u (by rw [hat3.2.1])
  · -- any other byte
    rename_i h0 h10 h1310 h13
    cases hr : (absState pend g).rest with
    | nil => exact absurd hr h0
    | cons b t =>
      rw [hr] at hat
      obtain ⟨rfl, rfl, _⟩ := hat
      rw [if_neg hnone, if_neg (fun hb => h10 t (by rw [hr, hb])), if_neg (fun hb => h13 t (by rw [hr, hb]))]
      exact ⟨g1, res, env.mkErr, rfl, hi1, rfl⟩

theorem calcLine_round (env : Env ρ ε) (pend : ρ → Option ε → Bytes) (hf : FillOk env pend) (fuel0 : Nat)
    (g : State ρ ε) (h : Inv g) (i : Nat) (c : UInt8) (t : Bytes) (hd : (absState pend g).rest.drop i = c :: t)
    (n : Int) (cr : Bool) :
    ∃ g1, Inv g1 ∧ absState pend g1 = absState pend g ∧
      parsCalculateLineLength_body1 env fuel0 (g, (i : Int), n, cr) =
        if (c == 10 && cr) = true then some (Flow.ret (g1, (i : Int) - 1, n + 1))
        else if (c == 10) = true then some (Flow.ret (g1, (i : Int), n + 1))
        else if (c == 13) = true then some (Flow.next (g1, (i : Int) + 1, n + 1, true))
        else if cr = true then some (Flow.ret (g1, (i : Int) - 1, n))
        else some (Flow.next (g1, (i : Int) + 1, n, cr)) := by
  have hlen : i + 1 ≤ (absState pend g).rest.length := by
    have := congrArg List.length hd
    rw [List.length_drop, List.length_cons] at this
    omega
  have hc : (absState pend g).rest[i]? = some c := by rw [← List.head?_drop, hd]; rfl
  obtain ⟨hinv, habs, _, _, hif⟩ := stateRequest_spec env pend hf g h (i + 1)
  rw [if_pos hlen] at hif
  have hb := stateBuffer_spec pend _ hinv (i + 1) hif.2
  rw [habs] at hb
  have hidx : goIdx ((absState pend g).rest.take (i + 1)) (i : Int) = some c := by
    rw [parsIdx_eq, clAt_nat, List.getElem?_take_of_lt (Nat.lt_succ_self i), hc]
  rw [Int.natCast_add, Int.natCast_one] at hif hb hinv habs
  refine ⟨_, hinv, habs, ?_⟩
  unfold parsCalculateLineLength_body1 parsCalculateLineLength_k2
  dsimp only
  rw [hif.1, if_pos (show (none : Option ε).isNone = true from rfl), hb, Option.bind_some, hidx, Option.bind_some]
  simp only [Bool.and_eq_true, beq_iff_eq]

/-- the loop of `calculateLineLength` from offset `i` with `n` terminator bytes counted and `cr` = a carriage return was
seen: it answers what `Pars.calcLine` answers on the bytes `l` from `i` on (the list `Pars.calcLine` recurses on) and changes
nothing the model sees.  Invariant: `i` bytes of the line are behind the scan, `cr` ⇒ `1 ≤ i` (so that Go's `i - 1` is the
model's truncated `i - 1`) -/
theorem calcLine_rounds (env : Env ρ ε) (pend : ρ → Option ε → Bytes) (hf : FillOk env pend) (fuel0 : Nat) (rest : Bytes) :
    ∀ (l : Bytes) (g : State ρ ε) (i n : Nat) (cr : Bool) (fuel : Nat), Inv g → (absState pend g).rest = rest →
      rest.drop i = l → (cr = true → 1 ≤ i) → l.length < fuel →
      ∃ g', loop (parsCalculateLineLength_body1 env fuel0) (parsCalculateLineLength_exit1 env fuel0) fuel
          (g, (i : Int), (n : Int), cr) =
          some (g', ((Pars.calcLine l i n cr).1 : Int), ((Pars.calcLine l i n cr).2 : Int)) ∧
        Inv g' ∧ absState pend g' = absState pend g := by
  intro l
  induction l with
  | nil =>
    intro g i n cr fuel h hr hd _ hfu
    obtain ⟨f, rfl⟩ := Nat.exists_eq_succ_of_ne_zero (Nat.ne_of_gt hfu)
    obtain ⟨hinv, habs, _, _, hif⟩ := stateRequest_spec env pend hf g h (i + 1)
    rw [hr, if_neg (Nat.not_le.mpr (Nat.lt_succ_of_le (List.drop_eq_nil_iff.mp hd))), Int.natCast_add, Int.natCast_one] at hif
    rw [Int.natCast_add, Int.natCast_one] at hinv habs
    obtain ⟨e, he⟩ := Option.isSome_iff_exists.mp hif.1
    refine ⟨_, ?_, hinv, habs⟩
    unfold loop parsCalculateLineLength_body1
    dsimp only
    rw [he]
    rfl
  | cons c t ih =>
    intro g i n cr fuel h hr hd hcr hfu
    obtain ⟨f, rfl⟩ := Nat.exists_eq_succ_of_ne_zero (Nat.ne_of_gt (Nat.zero_lt_of_lt hfu))
    obtain ⟨g1, hinv1, habs1, hbody⟩ := calcLine_round env pend hf fuel0 g h i c t (by rw [hr]; exact hd) n cr
    have hd1 : rest.drop (i + 1) = t := by rw [← List.tail_drop, hd]; rfl
    have next := fun (n' : Nat) (cr' : Bool) =>
      (ih g1 (i + 1) n' cr' f hinv1 (by rw [habs1, hr]) hd1 (fun _ => Nat.succ_pos i) (Nat.lt_of_succ_lt_succ hfu)).imp
        fun _ => And.imp_right (And.imp_right (·.trans habs1))
    have e : cr = true → ((i - 1 : Nat) : Int) = (i : Int) - 1 := fun hc => Int.natCast_sub (hcr hc)
    rw [loop, hbody, Pars.calcLine]
    by_cases h1 : (c == 10 && cr) = true
    · rw [if_pos h1, if_pos h1, ← e (Bool.and_eq_true _ _ ▸ h1).2]
      exact ⟨g1, rfl, hinv1, habs1⟩
    rw [if_neg h1, if_neg h1]
    by_cases h2 : (c == 10) = true
    · rw [if_pos h2, if_pos h2]
      exact ⟨g1, rfl, hinv1, habs1⟩
    rw [if_neg h2, if_neg h2]
    by_cases h3 : (c == 13) = true
    · rw [if_pos h3, if_pos h3]
      exact next (n + 1) true
    rw [if_neg h3, if_neg h3]
    by_cases h4 : cr = true
    · rw [if_pos h4, if_pos h4, ← e h4]
      exact ⟨g1, rfl, hinv1, habs1⟩
    rw [if_neg h4, if_neg h4]
    exact next n cr

/-- … with the bytes from `i` on counted by `k` -/
theorem calcLine_loop (env : Env ρ ε) (pend : ρ → Option ε → Bytes) (hf : FillOk env pend) (fuel0 : Nat) (rest : Bytes) :
    ∀ (k : Nat) (g : State ρ ε) (i n : Nat) (cr : Bool) (fuel : Nat), Inv g → (absState pend g).rest = rest →
      rest.length - i = k → i ≤ rest.length → (cr = true → 1 ≤ i) → k < fuel →
      ∃ g', loop (parsCalculateLineLength_body1 env fuel0) (parsCalculateLineLength_exit1 env fuel0) fuel
          (g, (i : Int), (n : Int), cr) =
          some (g', ((Pars.calcLine (rest.drop i) i n cr).1 : Int), ((Pars.calcLine (rest.drop i) i n cr).2 : Int)) ∧
        Inv g' ∧ absState pend g' = absState pend g :=
  fun _ g i n cr fuel h hr hk _ hcr hfu =>
    calcLine_rounds env pend hf fuel0 rest _ g i n cr fuel h hr rfl hcr (by rw [List.length_drop, hk]; exact hfu)

theorem calcLine_fst_le (st : Bytes) (i n : Nat) (cr : Bool) : (Pars.calcLine st i n cr).1 ≤ i + st.length := by
  fun_induction Pars.calcLine st i n cr <;> simp only [List.length_cons] <;> omega

/-- `calculateLineLength` = `Pars.calcLine rest 0 0 false` (with more fuel than bytes left): never a panic, nothing the
model sees changes.  Known finding K7C is in here: see `calcLine_crcrlf` -/
theorem calculateLineLength_sim (env : Env ρ ε) (pend : ρ → Option ε → Bytes) (hf : FillOk env pend)
    (g : State ρ ε) (h : Inv g) (fuel : Nat) (hfu : (absState pend g).rest.length < fuel) :
    ∃ g', parsCalculateLineLength env fuel g =
        some (g', ((Pars.calcLine (absState pend g).rest 0 0 false).1 : Int),
          ((Pars.calcLine (absState pend g).rest 0 0 false).2 : Int)) ∧
      Inv g' ∧ absState pend g' = absState pend g :=
  calcLine_rounds env pend hf fuel _ _ g 0 0 false fuel h rfl rfl (fun x => Bool.noConfusion x) hfu

/-- K7C on the generated code: behind `CR CR LF` the line is cut one byte before the LF (the second CR stays in the token)
and THREE terminator bytes are skipped — the first byte of the next line is lost -/
theorem calcLine_crcrlf (a b : UInt8) (t : Bytes) (ha : a ≠ 10 ∧ a ≠ 13) :
    Pars.calcLine (a :: 13 :: 13 :: 10 :: b :: t) 0 0 false = (2, 3) := by
  obtain ⟨h1, h2⟩ := ha
  simp [Pars.calcLine, h1, h2]

/-- `pars.Line` = `Pars.line` (with more fuel than bytes left): the token is the line, `Skip(n)` skips the terminator bytes
or — when fewer than `n` bytes remain — nothing at all; never an error, never a panic -/
theorem line_sim (env : Env ρ ε) (pend : ρ → Option ε → Bytes) (hf : FillOk env pend)
    (g : State ρ ε) (h : Inv g) (fuel : Nat) (hfu : (absState pend g).rest.length < fuel) (res : ResultV) :
    Agree pend (fun p r => r = ResultV.token p) (parsLine env fuel g res) (Pars.line.run' (absState pend g)) := by
  obtain ⟨g1, hc, hinv1, habs1⟩ := calculateLineLength_sim env pend hf g h fuel hfu
  generalize hcl : Pars.calcLine (absState pend g).rest 0 0 false = r at hc
  obtain ⟨i, n⟩ := r
  have hile : i ≤ (absState pend g).rest.length := by
    have := calcLine_fst_le (absState pend g).rest 0 0 false
    rw [hcl] at this; simpa using this
  obtain ⟨hinv2, habs2, _, _, hif⟩ := stateRequest_spec env pend hf g1 hinv1 i
  rw [habs1, if_pos hile] at hif
  have hb := stateBuffer_spec pend _ hinv2 i hif.2
  obtain ⟨g3, ha, hinv3, habs3⟩ := stateAdvance_spec pend _ hinv2 i hif.2
  rw [habs2, habs1] at hb habs3
  have hsk := parsSkip_spec env pend hf g3 hinv3 n
  unfold Pars.line parsLine
  rw [Pars.run_bind, Pars.run_getS, hc, Option.bind_some]
  dsimp only
  rw [hcl, hb, Option.bind_some, ha, Option.bind_some]
  dsimp only
  rw [habs3] at hsk
  dsimp only at hsk
  split at hsk
  · obtain ⟨g4, h4, hinv4, habs4⟩ := hsk
    rw [h4, if_neg (by omega)]
    exact ⟨g4, _, rfl, rfl, hinv4, habs4⟩
  · obtain ⟨g4, e, h4, hinv4, habs4⟩ := hsk
    rw [h4, if_pos (by omega)]
    exact ⟨g4, _, rfl, rfl, hinv4, habs4⟩

/-- the shape of the loops of `untilByte` / `untilFilter`:
`for !stop(c) { state.Advance(); c, err = Next(state); if err != nil { state.Pop(); return error } }` -/
def untilBody (env : Env ρ ε) (stop : UInt8 → Prop) [DecidablePred stop] (result : ResultV)
    (s_ : State ρ ε × UInt8 × Option ε) :
    Option (Flow (State ρ ε × UInt8 × Option ε) (State ρ ε × ResultV × Option ε)) :=
  if ¬ stop s_.2.1 then
    (stateAdvance s_.1).bind fun t =>
    (parsNext env t).bind fun u =>
    if u.2.2.isSome = true then
      (statePop u.1).bind fun v => some (Flow.ret (v, result, some env.mkErr))
    else some (Flow.next (u.1, u.2.1, u.2.2))
  else some (Flow.done (s_.1, s_.2.1, s_.2.2))

/-- a loop of that shape, entered on a byte `c` with the parser's own frame `top` youngest: no byte `stop` accepts up to
the end of the input — `Pop` (back to `top`, frame gone) and an error; else it stops IN FRONT of the first such byte with
the frame still there -/
theorem until_loop (env : Env ρ ε) (pend : ρ → Option ε → Bytes) (hf : FillOk env pend)
    (stop : UInt8 → Prop) [DecidablePred stop] (f : UInt8 → Bool) (hsf : ∀ x, stop x ↔ f x = true) (result : ResultV)
    (exit : State ρ ε × UInt8 × Option ε → Option (State ρ ε × ResultV × Option ε)) (top : Bytes) (stk : List Bytes)
    (l : Bytes) :
    ∀ (g : State ρ ε) (c : UInt8) (fuel : Nat), Inv g → absState pend g = ⟨l, top :: stk⟩ → l ≠ [] →
      NextAt pend g c none → l.length < fuel →
      match Pars.indexWhere f l with
      | none => ∃ g', loop (untilBody env stop result) exit fuel (g, c, none) = some (g', result, some env.mkErr) ∧
          Inv g' ∧ absState pend g' = ⟨top, stk⟩
      | some i => ∃ g' c', loop (untilBody env stop result) exit fuel (g, c, none) = exit (g', c', none) ∧
          Inv g' ∧ absState pend g' = ⟨l.drop i, top :: stk⟩ := by
  induction l with
  | nil => intro g c fuel _ _ hne; exact absurd rfl hne
  | cons b t ih =>
    intro g c fuel h habs _ hat hfu
    obtain ⟨fu, rfl⟩ := Nat.exists_eq_succ_of_ne_zero (Nat.ne_of_gt (Nat.zero_lt_of_lt hfu))
    have hr : (absState pend g).rest = b :: t := by rw [habs]
    simp only [NextAt, hr] at hat
    obtain ⟨_, rfl, hready⟩ := hat
    unfold Pars.indexWhere
    by_cases hs : stop c
    · rw [if_pos ((hsf c).mp hs), loop]
      unfold untilBody
      rw [if_neg (not_not_intro hs)]
      exact ⟨g, c, rfl, h, by rw [habs]; rfl⟩
    · rw [if_neg (fun x => hs ((hsf c).mpr x)), loop]
      unfold untilBody
      obtain ⟨g1, ha, hinv1, habs1⟩ := stateAdvance_spec pend g h 1 hready
      obtain ⟨g2, c2, err2, hn2, hinv2, habs2, hat2⟩ := parsNext_at env pend hf g1 hinv1
      have habs2' : absState pend g2 = ⟨t, top :: stk⟩ := by rw [habs2, habs1, habs]; rfl
      rw [if_pos hs, ha, Option.bind_some, hn2, Option.bind_some]
      have hat2' := hat2
      unfold NextAt at hat2
      rw [habs2'] at hat2
      dsimp only at hat2 ⊢
      cases t with
      | nil =>
        obtain ⟨e2, rfl⟩ := Option.isSome_iff_exists.mp hat2
        obtain ⟨g3, hp3, hinv3, habs3⟩ := pop_sim pend g2 hinv2
        rw [habs2', Pars.run_pop] at habs3
        rw [if_pos (show (some e2).isSome = true from rfl), hp3]
        exact ⟨g3, rfl, hinv3, (congrArg Prod.snd habs3).symm⟩
      | cons b2 t2 =>
        obtain ⟨rfl, rfl, _⟩ := hat2
        have hih := ih g2 c2 fu hinv2 habs2' (List.cons_ne_nil _ _) hat2' (Nat.lt_of_succ_lt_succ hfu)
        rw [Option.isSome_none, if_neg Bool.false_ne_true]
        cases hi : Pars.indexWhere f (c2 :: t2) <;> rw [hi] at hih <;> exact hih

/-- the frame of `untilByte` / `untilFilter` around a loop of the shape `untilBody`: `Push`, the first `Next` (end of the
input: `Pop`, error), the loop, the `Trail` as token — it is `Pars.untilFilter f`: to the first byte `f` accepts, which is
NOT consumed; none up to the end of the input: an error with position and saved positions as on entry; never a panic -/
theorem until_frame (env : Env ρ ε) (pend : ρ → Option ε → Bytes) (hf : FillOk env pend)
    (stop : UInt8 → Prop) [DecidablePred stop] (f : UInt8 → Bool) (hsf : ∀ x, stop x ↔ f x = true)
    (g : State ρ ε) (h : Inv g) (fuel : Nat) (hfu : (absState pend g).rest.length < fuel) (res : ResultV) :
    Agree pend (fun p r => r = ResultV.token p)
      ((statePush g).bind fun t1 =>
        (parsNext env t1).bind fun t2 =>
          if t2.2.2.isSome = true then
            (statePop t2.1).bind fun t3 => some (t3, res, some env.mkErr)
          else
            loop (untilBody env stop res)
              (fun s_ => (parsTrail env s_.1).bind fun t4 => some (t4.1, ResultV.token t4.2.1, none)) fuel
              (t2.1, t2.2.1, t2.2.2))
      ((Pars.untilFilter f).run' (absState pend g)) := by
  obtain ⟨g1, hp, hinv1, habs1, _⟩ := statePush_spec pend g h
  obtain ⟨g2, c2, err2, hn2, hinv2, habs2, hat2⟩ := parsNext_at env pend hf g1 hinv1
  rw [habs1] at habs2
  unfold NextAt at hat2
  rw [habs2] at hat2
  unfold Pars.untilFilter
  rw [hp, Option.bind_some, hn2, Option.bind_some, Pars.run_bind, Pars.run_getS]
  dsimp only at hat2 ⊢
  cases hr : (absState pend g).rest with
  | nil =>
    rw [hr] at hat2
    obtain ⟨e2, rfl⟩ := Option.isSome_iff_exists.mp hat2
    obtain ⟨g3, hp3, hinv3, habs3⟩ := pop_sim pend g2 hinv2
    rw [habs2, Pars.run_pop] at habs3
    rw [if_pos (show (some e2).isSome = true from rfl), hp3]
    exact ⟨g3, res, env.mkErr, rfl, hinv3, (congrArg Prod.snd habs3).symm⟩
  | cons b t =>
    rw [hr] at hat2 habs2 hfu
    obtain ⟨rfl, rfl, hready⟩ := hat2
    have hl := until_loop env pend hf stop f hsf res
      (fun s_ => (parsTrail env s_.1).bind fun t4 => some (t4.1, ResultV.token t4.2.1, none))
      (c2 :: t) (absState pend g).stk (c2 :: t) g2 c2 fuel hinv2 habs2 (List.cons_ne_nil _ _)
      (NextAt.cons (by rw [habs2]) hready) hfu
    rw [Option.isSome_none, if_neg Bool.false_ne_true]
    cases hi : Pars.indexWhere f (c2 :: t) with
    | none =>
      rw [hi] at hl
      obtain ⟨g', h1, h2, h3⟩ := hl
      exact ⟨g', res, env.mkErr, h1, h2, by rw [h3, ← hr]⟩
    | some i =>
      rw [hi] at hl
      obtain ⟨g', c', h1, h2, h3⟩ := hl
      -- the `Trail` from `i` bytes behind the saved position is the first `i` bytes
      have ht := trail_token env pend hf g' h2
      rw [h3, Pars.run_trail] at ht
      dsimp only at ht
      rw [List.length_drop, if_neg (Nat.not_lt.mpr (Nat.sub_le _ _)),
        Nat.sub_sub_self (Nat.le_of_lt (Pars.indexWhere_le f _ _ hi))] at ht
      rw [h1, Pars.run_bind, Pars.run_advanceN, hr]
      exact ht

/-- `pars.Until(func(byte) bool)` (`untilFilter`) = `Pars.untilFilter filter` -/
theorem untilFilter_sim (env : Env ρ ε) (pend : ρ → Option ε → Bytes) (hf : FillOk env pend) (filter : UInt8 → Bool)
    (g : State ρ ε) (h : Inv g) (fuel : Nat) (hfu : (absState pend g).rest.length < fuel) (res : ResultV) :
    Agree pend (fun p r => r = ResultV.token p) (parsUntilFilter env fuel filter g res)
      ((Pars.untilFilter filter).run' (absState pend g)) :=
  until_frame env pend hf (fun c => filter c = true) filter (fun _ => Iff.rfl) g h fuel hfu res

/-- `pars.Until(byte)` (`untilByte`) = `Pars.untilFilter (· == e)` — `GenBank.untilColon` for `e = ':'`: it scans to the END
OF THE INPUT when no `e` follows (finding K7D / F38 was this scan) -/
theorem untilByte_sim (env : Env ρ ε) (pend : ρ → Option ε → Bytes) (hf : FillOk env pend) (e : UInt8)
    (g : State ρ ε) (h : Inv g) (fuel : Nat) (hfu : (absState pend g).rest.length < fuel) (res : ResultV) :
    Agree pend (fun p r => r = ResultV.token p) (parsUntilByte env fuel e g res)
      ((Pars.untilFilter (· == e)).run' (absState pend g)) :=
  until_frame env pend hf (fun c => c = e) (· == e) (fun _ => by simp) g h fuel hfu res

/-- `Pars.int` behind the optional sign, on the byte `c` at the position -/
def intTail (c : UInt8) : Pars.P Int := do
  if !Pars.isDigit c then do Pars.pop; Pars.fail
  else if c == 48 then do Pars.advance1; Pars.drop; pure 0
  else do
    Pars.skipWhile Pars.isDigit
    let p ← Pars.trail
    match Pars.atoi p with
    | some n => pure n
    | none => Pars.fail

theorem int_eq_tail : Pars.int = (do
    Pars.push
    let c ← Pars.next
    let c ← if c == 45 || c == 43 then do Pars.advance1; Pars.next else pure c
    intTail c) := rfl

/-- `Int` behind the sign (`parsInt_k1`) = `intTail`: not a digit — `Pop`, error; `0` — consumed, `Drop`, the value 0; else
the digit loop (`skipWhile isDigit`), `Trail`, `strconv.Atoi` — whose error leaves the digits consumed and the frame gone -/
theorem int_tail_sim (env : Env ρ ε) (pend : ρ → Option ε → Bytes) (hf : FillOk env pend) (he : EnvOk env)
    (g : State ρ ε) (h : Inv g) (c : UInt8) (t : Bytes) (hr : (absState pend g).rest = c :: t)
    (hat : NextAt pend g c none) (fuel : Nat) (hfu : (c :: t).length < fuel) (res : ResultV) :
    Agree pend (fun n r => r = ResultV.int n) (parsInt_k1 env fuel g res c none) ((intTail c).run' (absState pend g)) := by
  have hready : Ready g 1 := by unfold NextAt at hat; rw [hr] at hat; exact hat.2.2
  unfold intTail parsInt_k1
  rw [he.isDigit]
  cases hd : Pars.isDigit c with
  | false =>
    rw [if_pos (show (!false) = true from rfl), if_pos Bool.false_ne_true]
    exact Agree.step (k := fun _ => Pars.fail) (pop_sim pend g h) fun g1 _ hi1 _ => ⟨g1, res, env.mkErr, rfl, hi1, rfl⟩
  | true =>
    rw [if_neg (show ¬ ((!true) = true) from Bool.false_ne_true), if_neg (not_not_intro rfl)]
    by_cases h0 : c = 48
    · subst h0
      rw [if_pos (show ((48 : UInt8) == 48) = true from rfl), if_pos rfl]
      refine Agree.step (advance_sim pend g h 1 hready) fun g1 _ hi1 _ => ?_
      exact Agree.step (k := fun _ => pure 0) (drop_sim pend g1 hi1) fun g2 _ hi2 _ => ⟨g2, _, rfl, rfl, hi2, rfl⟩
    · rw [if_neg (show ¬ ((c == 48) = true) from fun x => h0 (of_decide_eq_true x)), if_neg h0,
        show parsInt_body2 env fuel res = scanBody env Pars.isDigit from by rw [← he.isDigit]; rfl]
      refine Agree.scan env hf Pars.isDigit h hat (by rw [hr]; exact hfu) fun g3 _ _ hi3 _ _ => ?_
      unfold parsInt_exit2 parsConvertInt
      dsimp only
      rw [Option.bind_assoc]
      refine Agree.trail_bind env hf hi3 fun g' p _ hi' _ => ?_
      have hatoi := he.atoi p
      dsimp only [Option.bind_some]
      cases hn : Pars.atoi p <;> rw [hn] at hatoi
      · obtain ⟨e2, he2⟩ := Option.isSome_iff_exists.mp hatoi
        rw [he2]
        exact ⟨g', res, e2, rfl, hi', rfl⟩
      · rw [hatoi]
        exact ⟨g', _, rfl, rfl, hi', rfl⟩

/-- `pars.Int` = `Pars.int` (with more fuel than bytes left), the leaked frame included: when the input ends at the first
byte or behind the sign the error is returned with the frame `Int` pushed STILL ON THE STACK (and the sign consumed) —
F34's root cause —; a panic exactly where the model's `trail` panics -/
theorem int_sim (env : Env ρ ε) (pend : ρ → Option ε → Bytes) (hf : FillOk env pend) (he : EnvOk env)
    (g : State ρ ε) (h : Inv g) (fuel : Nat) (hfu : (absState pend g).rest.length < fuel) (res : ResultV) :
    Agree pend (fun n r => r = ResultV.int n) (parsInt env fuel g res) (Pars.int.run' (absState pend g)) := by
  have hnone : ¬ ((none : Option ε).isSome = true) := Bool.false_ne_true
  rw [int_eq_tail]
  refine Agree.step (push_sim pend g h) fun g1 _ hi1 habs1 => ?_
  refine Agree.next_bind env hf hi1 (fun g2 _ e hi2 => ⟨g2, res, env.mkErr, rfl, hi2, rfl⟩)
    fun g2 c t hi2 habs2 hr2 hready2 => ?_
  have hfu2 : (c :: t).length < fuel := by rw [← hr2, habs2, habs1]; exact hfu
  dsimp only
  rw [if_neg hnone]
  by_cases hsign : c = 45 ∨ c = 43
  · rw [if_pos hsign, if_pos (show (c == 45 || c == 43) = true by simpa using hsign)]
    refine Agree.step (advance_sim pend g2 hi2 1 hready2) fun g3 _ hi3 habs3 => ?_
    refine Agree.next_bind env hf hi3 (fun g4 _ e hi4 => ⟨g4, res, env.mkErr, rfl, hi4, rfl⟩)
      fun g4 c4 t4 hi4 habs4 hr4 hready4 => ?_
    have ht : t = c4 :: t4 := by
      rw [← hr4, habs4, habs3]
      show t = ((absState pend g2).rest).drop 1
      rw [hr2]; rfl
    dsimp only
    rw [if_neg hnone]
    exact int_tail_sim env pend hf he g4 hi4 c4 t4 hr4 (NextAt.cons hr4 hready4) fuel
      (by rw [← ht]; exact Nat.lt_of_succ_lt hfu2) res
  · rw [if_neg hsign, if_neg (show ¬ ((c == 45 || c == 43) = true) by simpa using hsign), pure_bind]
    exact int_tail_sim env pend hf he g2 hi2 c t hr2 (NextAt.cons hr2 hready2) fuel hfu2 res

/-- the leaked frame, concretely: at the end of the input `Int` returns an error and the model's state has ONE MORE saved
position than before (`Pars.int`: "failure leaks the frame, as in Go") -/
theorem int_leaks_frame (stk : List Bytes) : Pars.int.run' ⟨[], stk⟩ = (.error .fail, ⟨[], [] :: stk⟩) := by
  rw [int_eq_tail, Pars.run_bind, Pars.run_push]; dsimp only
  rw [Pars.run_bind, Pars.run_next]

/-! ### the hypotheses can be met: a fresh state, a reader, the library calls -/

/-- what `pars.FromBytes(p)` / `pars.NewState(r)` build (facts `pars_FromBytes`, `pars_NewState`, `pars_newStack`): the
buffer `p`, offset 0, no request, no error, position (0, 0), sixteen unused frames -/
def freshState (rd : ρ) (p : Bytes) : State ρ ε :=
  ⟨rd, p, 0, -1, none, ⟨0, 0⟩, ⟨List.replicate 16 ⟨0, ⟨0, 0⟩⟩, 0⟩⟩

theorem fresh_inv (rd : ρ) (p : Bytes) : Inv (freshState (ε := ε) rd p) := by
  refine ⟨⟨by simp [freshState], by simp [freshState]⟩, by simp [freshState], by simp [freshState], ?_, ?_, ?_⟩ <;>
    simp [freshState, liveFrames]

theorem fresh_abs (pend : ρ → Option ε → Bytes) (rd : ρ) (p : Bytes) :
    absState pend (freshState rd p) = ⟨p ++ pend rd none, []⟩ := by
  simp [absState, freshState, parsInput, liveFrames, absStk]
end Prim

/-- a reader that holds a byte string and hands all of it out at the first read, then reports the end -/
def demoEnv : Env Bytes Unit where
  fill := fun g n =>
    if (g.buf.length : Int) < g.off + n then { g with buf := g.buf ++ g.rd, rd := [], err := some () } else g
  mkErr := ()
  atoi := fun p => match Pars.atoi p with
    | some n => (n, none)
    | none => (0, some ())
  isDigit := Pars.isDigit
  isSpace := Pars.isSpace

/-- what that reader still holds -/
def demoPend : Bytes → Option Unit → Bytes := fun rd _ => rd

theorem demo_fillOk : FillOk demoEnv demoPend := by
  refine ⟨?_, ?_, ?_, ?_⟩ <;> intro g n <;> simp only [demoEnv] <;> split <;> simp_all [parsInput, demoPend]
  omega

theorem demo_envOk : EnvOk demoEnv := by
  refine ⟨rfl, rfl, ?_⟩
  intro p
  simp only [demoEnv]
  cases Pars.atoi p <;> simp

/-- the generated `Int` on `12,` read from that reader (empty buffer, everything still in the reader): the value 12, no
error, the comma is next, nothing stays pushed -/
example : (parsInt demoEnv 10 (freshState [49, 50, 44] []) .unset).map
    (fun t => (t.2.1, t.2.2, (absState demoPend t.1).rest, (absState demoPend t.1).stk)) = some (.int 12, none, [44], []) := by decide +kernel

/-- … at the end of the input: an error, and one frame stays pushed (the leak) -/
example : (parsInt demoEnv 10 (freshState [] []) .unset).map
    (fun t => (t.2.2, (absState demoPend t.1).rest, (absState demoPend t.1).stk)) = some (some (), [], [[]]) := by decide +kernel

/-- the generated `Line` on `a CR CR LF b c` (known finding K7C): the token keeps one CR, and `b` is swallowed -/
example : (parsLine demoEnv 10 (freshState [] [97, 13, 13, 10, 98, 99]) .unset).map
    (fun t => (t.2.1, (absState demoPend t.1).rest)) = some (.token [97, 13], [99]) := by decide +kernel

/-- the generated `Trail` with the saved position BEHIND the current one panics (Go: slice bounds out of range): push at
offset 2, pop back to a frame pushed at offset 0 … here built directly: one frame with offset 2, position at offset 1 -/
example : parsTrail demoEnv (⟨[], [1, 2, 3], 1, -1, none, ⟨0, 0⟩, ⟨[⟨0, ⟨0, 0⟩⟩, ⟨2, ⟨0, 2⟩⟩], 2⟩⟩ : State Bytes Unit) = none := by
  decide
end Gts.Bridge
