/-
  Bridge: `Regions.Len` and the two computational parts of `Regions.Resize` — the type switch that
  computes `(lower, upper)` per modifier kind and the walk over the elements — regenerated from
  region.go by go2lean (Gts/Gen/RegionResize.lean), are the hand-written model's `Reg.lenList`,
  `Reg.bounds` and `Reg.walkLens` / `Reg.walkStep` (Gts/Model/Region.lean) the C08 theorems are
  about.  The final `switch Compare(left, right)` is recognised arm by arm (`resizeFinal`).
-/
import Gts.Gen.RegionResize
import Gts.Gen.Arith
import Gts.Model.Region
import Gts.Lemmas.Resize
namespace Gts.Bridge
open Gts

theorem regionsLenLoop_lens (rs : List Reg) (total : Int) :
    Gen.regionsLenLoop (Reg.lens rs) total = total + Reg.lenList rs := by
  induction rs generalizing total with
  | nil => exact (Int.add_zero total).symm
  | cons r rs ih =>
    rw [Reg.lens, Gen.regionsLenLoop, ih, Reg.lenList, Int.add_assoc]

theorem regionsLen_eq (rs : List Reg) : Gen.regionsLen (Reg.lens rs) = Reg.lenList rs :=
  (regionsLenLoop_lens rs 0).trans (Int.zero_add _)

/-- the type switch of `Regions.Resize` computing `(lower, upper)` per modifier kind, with
`ret.Len()` the regenerated `Regions.Len`, is the model's `Reg.bounds` -/
theorem resizeBounds_eq (m : Mod) (rs : List Reg) :
    Gen.resizeBounds m (Reg.lens rs) = Reg.bounds m (Reg.lenList rs) := by
  cases m <;>
    simp only [Gen.resizeBounds, Gen.resizeBoundsHead, Gen.resizeBoundsTail, Gen.resizeBoundsHeadTail,
      Gen.resizeBoundsHeadHead, Gen.resizeBoundsTailTail, Reg.bounds, regionsLen_eq]

theorem walkLens_drop_short (rr : List Int) (k : Nat) (w : Reg.Walk) (h : rr.length ≤ k + 1) :
    Reg.walkLens (rr.drop k) k w = w := by
  have hl : (rr.drop k).length ≤ 1 := by rw [List.length_drop]; omega
  match rr.drop k, hl with
  | [], _ => rfl
  | [_], _ => rfl

theorem walkLens_drop_step (rr : List Int) (k : Nat) (w : Reg.Walk) (h : k + 1 < rr.length) :
    Reg.walkLens (rr.drop k) k w =
      Reg.walkLens (rr.drop (k + 1)) (k + 1) (Reg.walkStep w k (rr.getD k 0)) := by
  rw [List.drop_eq_getElem_cons (Nat.lt_of_succ_lt h), List.drop_eq_getElem_cons h, Reg.walkLens,
    List.getD_eq_getElem?_getD, List.getElem?_eq_getElem (Nat.lt_of_succ_lt h), Option.getD_some]

theorem walkStep_fields (w : Reg.Walk) (k : Nat) (n : Int) :
    (Reg.walkStep w k n).lower = (if w.left = k ∧ n < w.lower then w.lower - n else w.lower) ∧
    (Reg.walkStep w k n).upper = (if w.right = k ∧ n < w.upper then w.upper - n else w.upper) ∧
    ((Reg.walkStep w k n).left : Int) = (if w.left = k ∧ n < w.lower then (k : Int) + 1 else (w.left : Int)) ∧
    ((Reg.walkStep w k n).right : Int) = (if w.right = k ∧ n < w.upper then (k : Int) + 1 else (w.right : Int)) := by
  unfold Reg.walkStep
  by_cases a : w.left = k ∧ n < w.lower <;> by_cases b : w.right = k ∧ n < w.upper <;>
    simp only [a, b, if_true, if_false, and_self, Int.natCast_add, Int.cast_ofNat_Int] <;> simp

theorem resizeWalkLoop_shape (rr : List Int) (fuel : Nat) (lower upper left right k : Int) :
    Gen.resizeWalkLoop rr (fuel + 1) lower upper left right k =
      if k + 1 < (rr.length : Int) then
        Gen.resizeWalkLoop rr fuel
          (if left = k ∧ rr.getD (Int.toNat k) 0 < lower then lower - rr.getD (Int.toNat k) 0 else lower)
          (if right = k ∧ rr.getD (Int.toNat k) 0 < upper then upper - rr.getD (Int.toNat k) 0 else upper)
          (if left = k ∧ rr.getD (Int.toNat k) 0 < lower then k + 1 else left)
          (if right = k ∧ rr.getD (Int.toNat k) 0 < upper then k + 1 else right)
          (k + 1)
      else (lower, upper, left, right, k) := by
  rw [Gen.resizeWalkLoop]
  by_cases hc : k + 1 < (rr.length : Int)
  · rw [if_pos hc, if_pos hc]
    by_cases a : left = k ∧ rr.getD (Int.toNat k) 0 < lower <;>
      by_cases b : right = k ∧ rr.getD (Int.toNat k) 0 < upper <;>
        simp only [a, b, and_self, if_true, if_false]
  · rw [if_neg hc, if_neg hc]

/-- the loop
`for k := …; k+1 < len(rr); k++ { n := rr[k].Len(); if left == k && n < lower { left = k+1; lower -= n }; if right == k && n < upper { right = k+1; upper -= n } }`
over the lengths `rr`, entered at index `k` in the walk state `w`, ends in the state the model's
`Reg.walkLens` computes; `len(rr) - k - 1` units of fuel suffice (the loop ends because its
condition fails) -/
theorem walkLoop_spec (rr : List Int) (fuel k : Nat) (w : Reg.Walk) (hf : rr.length ≤ fuel + k + 1) :
    ∃ k' : Int, Gen.resizeWalkLoop rr fuel w.lower w.upper (w.left : Int) (w.right : Int) (k : Int) =
      ((Reg.walkLens (rr.drop k) k w).lower, (Reg.walkLens (rr.drop k) k w).upper,
       ((Reg.walkLens (rr.drop k) k w).left : Int), ((Reg.walkLens (rr.drop k) k w).right : Int), k') := by
  induction fuel generalizing k w with
  | zero => exact ⟨_, by rw [walkLens_drop_short rr k w (by omega)]; rfl⟩
  | succ f ih =>
    rw [resizeWalkLoop_shape]
    by_cases hc : (k : Int) + 1 < (rr.length : Int)
    · obtain ⟨k', hk'⟩ := ih (k + 1) (Reg.walkStep w k (rr.getD k 0)) (by omega)
      obtain ⟨f1, f2, f3, f4⟩ := walkStep_fields w k (rr.getD k 0)
      refine ⟨k', ?_⟩
      rw [if_pos hc, walkLens_drop_step rr k w (by omega), Int.toNat_natCast, ← hk', f1, f2, f3, f4]
      simp only [Int.natCast_inj]
      rfl
    · exact ⟨_, by rw [if_neg hc, walkLens_drop_short rr k w (by omega)]⟩

/-- **the walk of `Regions.Resize`, as written in region.go** (`left, right := 0, 0` and the `for`
loop over the lengths of the elements), with any fuel `≥ len(rr) - 1`, ends in the state of the
model's `Reg.walkLens` started from `⟨0, lower, 0, upper⟩` -/
theorem resizeWalk_eq (fuel : Nat) (rr : List Int) (lower upper : Int) (h : rr.length ≤ fuel + 1) :
    Gen.resizeWalk fuel rr lower upper =
      (((Reg.walkLens rr 0 ⟨0, lower, 0, upper⟩).left : Int), (Reg.walkLens rr 0 ⟨0, lower, 0, upper⟩).lower,
       ((Reg.walkLens rr 0 ⟨0, lower, 0, upper⟩).right : Int), (Reg.walkLens rr 0 ⟨0, lower, 0, upper⟩).upper) := by
  obtain ⟨k', hk'⟩ := walkLoop_spec rr fuel 0
    ⟨0, lower, 0, upper⟩ (by omega)
  simp only [List.drop_zero, Int.natCast_zero] at hk'
  simp only [Gen.resizeWalk, hk']

example : Gen.resizeWalk 2 [2, 3, 4] 4 6 = (1, 2, 2, 1) := by
  rw [resizeWalk_eq 2 [2, 3, 4] 4 6 (by decide)]; decide

/-- the statements of `Regions.Resize` around the regenerated parts -/
theorem resizeFrame_eq :
    Gen.resizeFrame = ["ret := make(Regions, len(rr)); copy(ret, rr)", "resizeBounds", "resizeWalk", "final switch"] := rfl

/-- the final `switch Compare(left, right)` of `Regions.Resize` has the three arms the model's
`Reg.resize (.many rs)` mirrors (`resizeNth … (.head lower)`, `resizeNth … (.headHead lower upper)`,
`resizeSpan`) -/
theorem resizeFinal_eq :
    Gen.resizeFinal = ["switch Compare(left, right)", "case 1: return ret[left].Resize(Head(lower))",
      "case 0: return ret[left].Resize(HeadHead{lower, upper})",
      "default: ret[left] = ret[left].Resize(HeadTail{lower, 0}); ret[right] = ret[right].Resize(HeadHead{0, upper}); return ret[left : right+1]"] := rfl

/-- what the final switch asks of `Compare` -/
theorem compare_cases (i j : Int) : (Gen.compare i j = 1 ↔ j < i) ∧ (Gen.compare i j = 0 ↔ i = j) := by
  unfold Gen.compare
  split
  · omega
  · split <;> omega

/-- `Regions.Resize(mod)` of the model is: the REGENERATED bounds, the REGENERATED walk, then the
final `switch Compare(left, right)` with the regenerated `Compare` of utils.go and the three arms
recognised statement by statement (`resizeFinal_eq`; what the arms do — `ret[left].Resize(…)`, the
span — stays hand-modelled: `resizeNth`, `resizeSpan`) -/
theorem resize_many_gen (rs : List Reg) (m : Mod) (fuel : Nat) (h : rs.length ≤ fuel + 1) :
    Reg.resize (.many rs) m =
      (let b := Gen.resizeBounds m (Reg.lens rs)
       let w := Gen.resizeWalk fuel (Reg.lens rs) b.1 b.2
       let left := w.1; let lower := w.2.1; let right := w.2.2.1; let upper := w.2.2.2
       if Gen.compare left right = 1 then Reg.resizeNth rs left.toNat (.head lower)
       else if Gen.compare left right = 0 then Reg.resizeNth rs left.toNat (.headHead lower upper)
       else .many (Reg.resizeSpan rs left.toNat right.toNat lower upper)) := by
  have hl : (Reg.lens rs).length = rs.length := length_lens rs
  simp only [resizeBounds_eq, resizeWalk_eq fuel (Reg.lens rs) _ _ (by omega), Reg.resize, Int.toNat_natCast,
    compare_cases]
  simp only [Int.ofNat_lt, Int.natCast_inj]

example : (Reg.resize (.many [.seg 0 2, .seg 5 8, .seg 10 14]) (.headTail 3 (-2)) ==
    .many [.seg 6 8, .seg 10 12]) = true := by decide

example : ([Reg.seg 0 2, .seg 5 8, .seg 10 14]).length ≤ 2 + 1 := by decide

end Gts.Bridge
