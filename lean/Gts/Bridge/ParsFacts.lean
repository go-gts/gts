/-
  C07 / C01 / C06 bridge (DESIGN.md 4.1b, 4.1d): the pinned helper module github.com/go-pars/pars, on whose hand-written
  model `Gts/Model/Pars.lean` every parser proof rests, as go2lean extracts it from the MODULE DIRECTORY on every
  run (`Gts/Gen/ParsFacts.lean`, generator go2lean/gpars.go) is what the model was written against
  (`Gts/Spec/ParsTable.lean`, line by line with the model clause each line mirrors).

  `pars_pin`: the version go.mod requires, the go.sum lines, and — computed by go2lean over the directory it read,
  with the algorithm of `go mod verify` — the h1 hash of that directory IS the hash go.sum pins: the text the
  facts were taken from is the text that is compiled into gts.  `pars_inventory`: what gts uses of the package
  (names, method names, the files that import it) and the declarations that reaches; a NEW pars function used by gts
  shows here.  One theorem `pars_<Function>` per declaration (its function literals included), closed by `rfl` (the
  kernel compares the two literal tables); `pars_stateOps` and the statements about it that do not depend on
  line numbers (`decide +kernel`): who may call the panicking `stack.Pop`, where `Int` leaks its frame, that the
  `Until` family restores the state on failure, what `Clear` / `autoclear` / `Trail` do to the saved positions.
  The generated FUNCTIONS of the same source and their equality with the model are
  `Gts/Bridge/ParsState.lean`, `ParsPrim.lean`, `ParsComb.lean`, `ParsSeq.lean` and `ParsUntil.lean`.
-/
import Gts.Gen.ParsFacts
import Gts.Spec.ParsTable
namespace Gts.Bridge
open Gts.Gen

/-- the pin: go.mod requires the version the model was written against, go.sum has the two expected lines, and the
directory go2lean read hashes (h1, dirhash) to the value go.sum pins for the module tree -/
theorem pars_pin :
    ParsFacts.version = Spec.ParsTable.version ∧ ParsFacts.goSum = Spec.ParsTable.goSum ∧
    ParsFacts.dirHash = Spec.ParsTable.dirHash ∧
    ParsFacts.goSum.head? = some (ParsFacts.module ++ " " ++ ParsFacts.version ++ " " ++ ParsFacts.dirHash) :=
  ⟨rfl, rfl, rfl, by decide +kernel⟩

/-- the inventory: what gts uses of the package (every `pars.X`, every method name, the files that import it), the
files of the package, and the declarations reached from there with their function literals, in order (a new
function literal, a new or removed function, a NEW pars function used by gts shows here) -/
theorem pars_inventory :
    ParsFacts.usedNames = Spec.ParsTable.usedNames ∧ ParsFacts.usedMethods = Spec.ParsTable.usedMethods ∧
    ParsFacts.users = Spec.ParsTable.users ∧ ParsFacts.files = Spec.ParsTable.files ∧
    ParsFacts.fns.map (·.1) = Spec.ParsTable.fns.map (·.1) ∧
    ParsFacts.unreached = Spec.ParsTable.unreached := ⟨rfl, rfl, rfl, rfl, rfl, rfl⟩

theorem pars_Spaces :
    ParsFacts.fn_Spaces = Spec.ParsTable.fn_Spaces := rfl

theorem pars_Filter :
    ParsFacts.fn_Filter = Spec.ParsTable.fn_Filter ∧
    ParsFacts.fn_Filter_func0 = Spec.ParsTable.fn_Filter_func0 := ⟨rfl, rfl⟩

theorem pars_Word :
    ParsFacts.fn_Word = Spec.ParsTable.fn_Word ∧
    ParsFacts.fn_Word_func0 = Spec.ParsTable.fn_Word_func0 := ⟨rfl, rfl⟩

/-- `pars.Head` (first member of `Exact`) -/
theorem pars_Head :
    ParsFacts.fn_Head = Spec.ParsTable.fn_Head := rfl

theorem pars_End :
    ParsFacts.fn_End = Spec.ParsTable.fn_End := rfl

theorem pars_Byte :
    ParsFacts.fn_Byte = Spec.ParsTable.fn_Byte ∧
    ParsFacts.fn_Byte_func0 = Spec.ParsTable.fn_Byte_func0 ∧
    ParsFacts.fn_Byte_func1 = Spec.ParsTable.fn_Byte_func1 ∧
    ParsFacts.fn_Byte_func2 = Spec.ParsTable.fn_Byte_func2 ∧
    ParsFacts.fn_Byte_func3 = Spec.ParsTable.fn_Byte_func3 := ⟨rfl, rfl, rfl, rfl, rfl⟩

theorem pars_Bytes :
    ParsFacts.fn_Bytes = Spec.ParsTable.fn_Bytes ∧
    ParsFacts.fn_Bytes_func0 = Spec.ParsTable.fn_Bytes_func0 := ⟨rfl, rfl⟩

theorem pars_Dry :
    ParsFacts.fn_Dry = Spec.ParsTable.fn_Dry ∧
    ParsFacts.fn_Dry_func0 = Spec.ParsTable.fn_Dry_func0 := ⟨rfl, rfl⟩

theorem pars_Seq :
    ParsFacts.fn_Seq = Spec.ParsTable.fn_Seq ∧
    ParsFacts.fn_Seq_func0 = Spec.ParsTable.fn_Seq_func0 := ⟨rfl, rfl⟩

theorem pars_Any :
    ParsFacts.fn_Any = Spec.ParsTable.fn_Any ∧
    ParsFacts.fn_Any_func0 = Spec.ParsTable.fn_Any_func0 := ⟨rfl, rfl⟩

theorem pars_Maybe :
    ParsFacts.fn_Maybe = Spec.ParsTable.fn_Maybe ∧
    ParsFacts.fn_Maybe_func0 = Spec.ParsTable.fn_Maybe_func0 := ⟨rfl, rfl⟩

theorem pars_Many :
    ParsFacts.fn_Many = Spec.ParsTable.fn_Many ∧
    ParsFacts.fn_Many_func0 = Spec.ParsTable.fn_Many_func0 := ⟨rfl, rfl⟩

theorem pars_Exact :
    ParsFacts.fn_Exact = Spec.ParsTable.fn_Exact := rfl

theorem pars_Count :
    ParsFacts.fn_Count = Spec.ParsTable.fn_Count := rfl

/-- `pars.Until(byte)` and its 1 function literal -/
theorem pars_untilByte :
    ParsFacts.fn_untilByte = Spec.ParsTable.fn_untilByte ∧
    ParsFacts.fn_untilByte_func0 = Spec.ParsTable.fn_untilByte_func0 := ⟨rfl, rfl⟩

/-- `pars.Until([]byte)` and its 1 function literal -/
theorem pars_untilBytes :
    ParsFacts.fn_untilBytes = Spec.ParsTable.fn_untilBytes ∧
    ParsFacts.fn_untilBytes_func0 = Spec.ParsTable.fn_untilBytes_func0 := ⟨rfl, rfl⟩

/-- `pars.Until(func(byte) bool)` and its 1 function literal -/
theorem pars_untilFilter :
    ParsFacts.fn_untilFilter = Spec.ParsTable.fn_untilFilter ∧
    ParsFacts.fn_untilFilter_func0 = Spec.ParsTable.fn_untilFilter_func0 := ⟨rfl, rfl⟩

/-- `pars.Until(q)` and its 1 function literal -/
theorem pars_Until :
    ParsFacts.fn_Until = Spec.ParsTable.fn_Until ∧
    ParsFacts.fn_Until_func0 = Spec.ParsTable.fn_Until_func0 := ⟨rfl, rfl⟩

theorem pars_EOL :
    ParsFacts.fn_EOL = Spec.ParsTable.fn_EOL := rfl

theorem pars_calculateLineLength :
    ParsFacts.fn_calculateLineLength = Spec.ParsTable.fn_calculateLineLength := rfl

theorem pars_Line :
    ParsFacts.fn_Line = Spec.ParsTable.fn_Line := rfl

/-- the error of `Child` / `Children` on a result without children (error text only) -/
theorem pars_errNoChildren :
    ParsFacts.fn_errNoChildren = Spec.ParsTable.fn_errNoChildren := rfl

/-- the error type of `NewError` (message and position: never compared, the model has the one value `Err.fail`) -/
theorem pars_Error :
    ParsFacts.fn_Error = Spec.ParsTable.fn_Error := rfl

theorem pars_NewError :
    ParsFacts.fn_NewError = Spec.ParsTable.fn_NewError := rfl

/-- error text only -/
theorem pars_Error_Error :
    ParsFacts.fn_Error_Error = Spec.ParsTable.fn_Error_Error := rfl

/-- the error type of `NewNestedError` (not modelled: `Err.fail`) -/
theorem pars_NestedError :
    ParsFacts.fn_NestedError = Spec.ParsTable.fn_NestedError := rfl

theorem pars_NewNestedError :
    ParsFacts.fn_NewNestedError = Spec.ParsTable.fn_NewNestedError := rfl

/-- error text only -/
theorem pars_NestedError_Error :
    ParsFacts.fn_NestedError_Error = Spec.ParsTable.fn_NestedError_Error := rfl

/-- the error type of `Parser.Error` (not modelled: `Err.fail`) -/
theorem pars_BoundError :
    ParsFacts.fn_BoundError = Spec.ParsTable.fn_BoundError := rfl

/-- error text only -/
theorem pars_BoundError_Error :
    ParsFacts.fn_BoundError_Error = Spec.ParsTable.fn_BoundError_Error := rfl

theorem pars_convertInt :
    ParsFacts.fn_convertInt = Spec.ParsTable.fn_convertInt := rfl

theorem pars_Int :
    ParsFacts.fn_Int = Spec.ParsTable.fn_Int := rfl

theorem pars_Between :
    ParsFacts.fn_Between = Spec.ParsTable.fn_Between ∧
    ParsFacts.fn_Between_func0 = Spec.ParsTable.fn_Between_func0 := ⟨rfl, rfl⟩

theorem pars_Quoted :
    ParsFacts.fn_Quoted = Spec.ParsTable.fn_Quoted := rfl

theorem pars_Child :
    ParsFacts.fn_Child = Spec.ParsTable.fn_Child ∧
    ParsFacts.fn_Child_func0 = Spec.ParsTable.fn_Child_func0 := ⟨rfl, rfl⟩

theorem pars_Children :
    ParsFacts.fn_Children = Spec.ParsTable.fn_Children ∧
    ParsFacts.fn_Children_func0 = Spec.ParsTable.fn_Children_func0 := ⟨rfl, rfl⟩

theorem pars_Cat :
    ParsFacts.fn_Cat = Spec.ParsTable.fn_Cat := rfl

/-- the type of a parser -/
theorem pars_Parser :
    ParsFacts.fn_Parser = Spec.ParsTable.fn_Parser := rfl

/-- the type of a result mapping -/
theorem pars_Map :
    ParsFacts.fn_Map = Spec.ParsTable.fn_Map := rfl

theorem pars_Parser_Map :
    ParsFacts.fn_Parser_Map = Spec.ParsTable.fn_Parser_Map ∧
    ParsFacts.fn_Parser_Map_func0 = Spec.ParsTable.fn_Parser_Map_func0 := ⟨rfl, rfl⟩

theorem pars_Parser_Child :
    ParsFacts.fn_Parser_Child = Spec.ParsTable.fn_Parser_Child := rfl

theorem pars_Parser_Children :
    ParsFacts.fn_Parser_Children = Spec.ParsTable.fn_Parser_Children := rfl

theorem pars_Parser_Bind :
    ParsFacts.fn_Parser_Bind = Spec.ParsTable.fn_Parser_Bind ∧
    ParsFacts.fn_Parser_Bind_func0 = Spec.ParsTable.fn_Parser_Bind_func0 := ⟨rfl, rfl⟩

theorem pars_Parser_Error :
    ParsFacts.fn_Parser_Error = Spec.ParsTable.fn_Parser_Error ∧
    ParsFacts.fn_Parser_Error_func0 = Spec.ParsTable.fn_Parser_Error_func0 := ⟨rfl, rfl⟩

theorem pars_Parser_Parse :
    ParsFacts.fn_Parser_Parse = Spec.ParsTable.fn_Parser_Parse := rfl

theorem pars_AsParser :
    ParsFacts.fn_AsParser = Spec.ParsTable.fn_AsParser ∧
    ParsFacts.fn_AsParser_func0 = Spec.ParsTable.fn_AsParser_func0 := ⟨rfl, rfl⟩

theorem pars_AsParsers :
    ParsFacts.fn_AsParsers = Spec.ParsTable.fn_AsParsers := rfl

/-- line and byte number of the state (0-based).  NOT part of the model's state `PS`: gts uses positions for error texts, `Head` (fresh state) and the no-progress exit of `Many` -/
theorem pars_Position :
    ParsFacts.fn_Position = Spec.ParsTable.fn_Position := rfl

theorem pars_Position_Head :
    ParsFacts.fn_Position_Head = Spec.ParsTable.fn_Position_Head := rfl

/-- error text only -/
theorem pars_Position_String :
    ParsFacts.fn_Position_String = Spec.ParsTable.fn_Position_String := rfl

theorem pars_Position_Less :
    ParsFacts.fn_Position_Less = Spec.ParsTable.fn_Position_Less := rfl

theorem pars_Reader :
    ParsFacts.fn_Reader = Spec.ParsTable.fn_Reader := rfl

/-- reached by NAME only (`Read`); no model clause -/
theorem pars_Reader_Read :
    ParsFacts.fn_Reader_Read = Spec.ParsTable.fn_Reader_Read := rfl

theorem pars_Void :
    ParsFacts.fn_Void = Spec.ParsTable.fn_Void := rfl

/-- the result object: token, value or children -/
theorem pars_Result :
    ParsFacts.fn_Result = Spec.ParsTable.fn_Result := rfl

theorem pars_Result_SetToken :
    ParsFacts.fn_Result_SetToken = Spec.ParsTable.fn_Result_SetToken := rfl

theorem pars_Result_SetValue :
    ParsFacts.fn_Result_SetValue = Spec.ParsTable.fn_Result_SetValue := rfl

theorem pars_Result_SetChildren :
    ParsFacts.fn_Result_SetChildren = Spec.ParsTable.fn_Result_SetChildren := rfl

/-- error text only (reached from `Rune`) -/
theorem pars_runeRep :
    ParsFacts.fn_runeRep = Spec.ParsTable.fn_runeRep := rfl

/-- error text only (reached from `Rune` / `Runes`) -/
theorem pars_runeReps :
    ParsFacts.fn_runeReps = Spec.ParsTable.fn_runeReps := rfl

/-- reached from `Rune()` / `Rune(c1, c2, …)`, which gts does not use (no model clause) -/
theorem pars_readRune :
    ParsFacts.fn_readRune = Spec.ParsTable.fn_readRune := rfl

theorem pars_Rune :
    ParsFacts.fn_Rune = Spec.ParsTable.fn_Rune ∧
    ParsFacts.fn_Rune_func0 = Spec.ParsTable.fn_Rune_func0 ∧
    ParsFacts.fn_Rune_func1 = Spec.ParsTable.fn_Rune_func1 ∧
    ParsFacts.fn_Rune_func2 = Spec.ParsTable.fn_Rune_func2 ∧
    ParsFacts.fn_Rune_func3 = Spec.ParsTable.fn_Rune_func3 := ⟨rfl, rfl, rfl, rfl, rfl⟩

theorem pars_Runes :
    ParsFacts.fn_Runes = Spec.ParsTable.fn_Runes ∧
    ParsFacts.fn_Runes_func0 = Spec.ParsTable.fn_Runes_func0 := ⟨rfl, rfl⟩

/-- the stack of saved positions grows by 16 cells (capacity is not modelled: `PS.stk` is a list) -/
theorem pars_stackGrowthSize :
    ParsFacts.fn_stackGrowthSize = Spec.ParsTable.fn_stackGrowthSize := rfl

/-- one saved position: offset into the buffer and line / byte number -/
theorem pars_frame :
    ParsFacts.fn_frame = Spec.ParsTable.fn_frame := rfl

/-- the saved positions: cells `v[0 … i-1]`, youngest last -/
theorem pars_stack :
    ParsFacts.fn_stack = Spec.ParsTable.fn_stack := rfl

/-- an empty stack (`PS.stk = []`) -/
theorem pars_newStack :
    ParsFacts.fn_newStack = Spec.ParsTable.fn_newStack := rfl

theorem pars_stack_Empty :
    ParsFacts.fn_stack_Empty = Spec.ParsTable.fn_stack_Empty := rfl

theorem pars_stack_Push :
    ParsFacts.fn_stack_Push = Spec.ParsTable.fn_stack_Push := rfl

theorem pars_stack_Pop :
    ParsFacts.fn_stack_Pop = Spec.ParsTable.fn_stack_Pop := rfl

theorem pars_stack_Reset :
    ParsFacts.fn_stack_Reset = Spec.ParsTable.fn_stack_Reset := rfl

/-- the chunk size of `Request` (buffering is not modelled: `PS.rest` is the whole remaining input) -/
theorem pars_bufferReadSize :
    ParsFacts.fn_bufferReadSize = Spec.ParsTable.fn_bufferReadSize := rfl

/-- the parser state: reader, buffer, offset, end of the requested range, reader error, position, saved positions -/
theorem pars_State :
    ParsFacts.fn_State = Spec.ParsTable.fn_State := rfl

theorem pars_NewState :
    ParsFacts.fn_NewState = Spec.ParsTable.fn_NewState := rfl

theorem pars_FromBytes :
    ParsFacts.fn_FromBytes = Spec.ParsTable.fn_FromBytes := rfl

theorem pars_FromString :
    ParsFacts.fn_FromString = Spec.ParsTable.fn_FromString := rfl

theorem pars_State_Read :
    ParsFacts.fn_State_Read = Spec.ParsTable.fn_State_Read := rfl

theorem pars_State_ReadByte :
    ParsFacts.fn_State_ReadByte = Spec.ParsTable.fn_State_ReadByte := rfl

theorem pars_State_Request :
    ParsFacts.fn_State_Request = Spec.ParsTable.fn_State_Request := rfl

theorem pars_State_Advance :
    ParsFacts.fn_State_Advance = Spec.ParsTable.fn_State_Advance := rfl

theorem pars_State_Buffer :
    ParsFacts.fn_State_Buffer = Spec.ParsTable.fn_State_Buffer := rfl

theorem pars_State_Offset :
    ParsFacts.fn_State_Offset = Spec.ParsTable.fn_State_Offset := rfl

theorem pars_State_Position :
    ParsFacts.fn_State_Position = Spec.ParsTable.fn_State_Position := rfl

theorem pars_State_Push :
    ParsFacts.fn_State_Push = Spec.ParsTable.fn_State_Push := rfl

theorem pars_State_Pushed :
    ParsFacts.fn_State_Pushed = Spec.ParsTable.fn_State_Pushed := rfl

theorem pars_State_Pop :
    ParsFacts.fn_State_Pop = Spec.ParsTable.fn_State_Pop := rfl

theorem pars_State_Drop :
    ParsFacts.fn_State_Drop = Spec.ParsTable.fn_State_Drop := rfl

theorem pars_State_autoclear :
    ParsFacts.fn_State_autoclear = Spec.ParsTable.fn_State_autoclear := rfl

theorem pars_State_Clear :
    ParsFacts.fn_State_Clear = Spec.ParsTable.fn_State_Clear := rfl

theorem pars_Skip :
    ParsFacts.fn_Skip = Spec.ParsTable.fn_Skip := rfl

theorem pars_Next :
    ParsFacts.fn_Next = Spec.ParsTable.fn_Next := rfl

theorem pars_Trail :
    ParsFacts.fn_Trail = Spec.ParsTable.fn_Trail := rfl

theorem pars_String :
    ParsFacts.fn_String = Spec.ParsTable.fn_String ∧
    ParsFacts.fn_String_func0 = Spec.ParsTable.fn_String_func0 := ⟨rfl, rfl⟩

/-- the whole table at once (follows from the theorems above; kept so that a function that is in `fns` but has
no theorem of its own cannot go unnoticed) -/
theorem pars_fns : ParsFacts.fns = Spec.ParsTable.fns := rfl

/-- every operation on the saved positions / the buffer with the header it stands under -/
theorem pars_stateOps : ParsFacts.stateOps = Spec.ParsTable.stateOps := rfl

/-- the operations of one entry, with the header each stands under -/
def parsOpsOf (f : String) : List (String × String) :=
  (ParsFacts.stateOps.filter (·.1 == f)).map (·.2)

/-- `stack.Pop` indexes `v[i-1]` and panics on an empty stack: its only callers are `State.Pop` and `State.Drop`, both
under `!s.stk.Empty()` — `Pars.pop` / `Pars.drop` do nothing on an empty stack -/
theorem pars_stackPop_guarded :
    (ParsFacts.stateOps.filter (fun o => o.2.1 == "recv.stk.Pop()")) =
      [("State.Pop", "recv.stk.Pop()", "if !recv.stk.Empty()"), ("State.Drop", "recv.stk.Pop()", "if !recv.stk.Empty()")] ∧
    ParsFacts.fn_stack_Pop.map (·.2.2) = ["(recv *stack) () (int, Position)", "recv.i--", "v0 := recv.v[recv.i]", "v0.Off, v0.Pos"] := by
  decide +kernel

/-- `Int` pushes one frame and pops it under the digit test only: when the input ends at the first byte or behind
the sign it returns with the frame still pushed (F34's root cause; `Pars.int`: "failure leaks the frame, as in Go") -/
theorem pars_Int_leaks_frame :
    parsOpsOf "Int" =
      [("state.Push()", ""), ("state.Advance()", "if v0 == '-' || v0 == '+'"), ("state.Pop()", "if !ascii.IsDigit(v0)"),
       ("state.Advance()", "if v0 == '0'"), ("state.Drop()", "if v0 == '0'"),
       ("state.Advance()", "for v1 == nil && ascii.IsDigit(v0)")] ∧
    (ParsFacts.fn_Int.filter (fun l => l.2.1 == "return")).map (·.2.2) =
      ["NewNestedError(\"Int\", v1)", "NewNestedError(\"Int\", v1)", "NewError(\"expected an integer\", state.Position())", "nil", "v1", "nil"] := by
  decide +kernel

/-- `untilByte` / `untilFilter`: one `Push`; both error returns stand behind a `Pop` (position and saved positions as
on entry — `Pars.untilFilter` fails with the state unchanged); the delimiter is not consumed (no `Advance` outside
the loop) -/
theorem pars_until_restores :
    parsOpsOf "untilByte/func0" =
      [("state.Push()", ""), ("state.Pop()", "if v2 != nil"), ("state.Advance()", "for v1 != b0"), ("state.Pop()", "if v2 != nil")] ∧
    parsOpsOf "untilFilter/func0" =
      [("state.Push()", ""), ("state.Pop()", "if v4 != nil"), ("state.Advance()", "for !filter0(v3)"), ("state.Pop()", "if v4 != nil")] := by
  decide +kernel

/-- `Clear` resets the stack unconditionally; `autoclear` clears only when nothing is pushed; `Advance`, `Pop` and
`Drop` end with `autoclear` (the last two under their guard) — invisible in `PS`, where positions are remaining inputs -/
theorem pars_clear_ops :
    parsOpsOf "State.Clear" = [("recv.stk.Reset()", "")] ∧
    parsOpsOf "State.autoclear" = [("recv.Clear()", "if recv.stk.Empty()")] ∧
    parsOpsOf "State.Advance" = [("recv.autoclear()", "")] ∧
    parsOpsOf "State.Pop" = [("recv.stk.Pop()", "if !recv.stk.Empty()"), ("recv.autoclear()", "if !recv.stk.Empty()")] ∧
    parsOpsOf "State.Drop" = [("recv.stk.Pop()", "if !recv.stk.Empty()"), ("recv.autoclear()", "if !recv.stk.Empty()")] ∧
    parsOpsOf "State.Push" = [("recv.stk.Push(recv.off, recv.pos)", "")] := by
  decide +kernel

/-- `Trail`: `Pop`, `Request` of the offset difference, `Advance`, all unconditional behind the `Pushed` test -/
theorem pars_Trail_ops :
    parsOpsOf "Trail" = [("state.Pop()", ""), ("state.Request(v1)", ""), ("state.Advance()", "")] ∧
    (ParsFacts.fn_Trail.filter (fun l => l.2.1 == "if")).map (·.2.2) = ["!state.Pushed()"] := by
  decide +kernel

/-- the frames of the combinators: `Seq`, `Map`, `Maybe` push one frame, pop it when the inner parser fails and drop
it otherwise; `Any` drops on the first success and pops when all failed; `Dry` pops on both outcomes -/
theorem pars_combinator_frames :
    parsOpsOf "Seq/func0" = [("state.Push()", ""), ("state.Pop()", "if v5 := v4(state, &v2[v3]); v5 != nil"), ("state.Drop()", "")] ∧
    parsOpsOf "Parser.Map/func0" = [("state.Push()", ""), ("state.Pop()", "if v0 := recv(state, result); v0 != nil"), ("state.Drop()", "")] ∧
    parsOpsOf "Maybe/func0" = [("state.Push()", ""), ("state.Pop()", "if v1 := v0(state, result); v1 != nil"), ("state.Drop()", "")] ∧
    parsOpsOf "Any/func0" = [("state.Push()", ""), ("state.Drop()", "if err0 = v2(state, result); err0 == nil"), ("state.Pop()", "")] ∧
    parsOpsOf "Dry/func0" = [("state.Push()", ""), ("state.Pop()", "")] := by
  decide +kernel

end Gts.Bridge
