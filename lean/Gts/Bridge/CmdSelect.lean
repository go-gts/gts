/-
  Bridge: the GLUE of `gts select`, `gts clear`, `gts define`, `gts annotate`, regenerated from cmd/gts/select.go,
  clear.go, define.go, annotate.go by go2lean (Gts/Gen/CmdSelect.lean, generator go2lean/cmdsteps.go), is the model's
  `Cli.selectFilter / selectStep / clearStep / defineStep / annotateStep` (Gts/Model/CliGlue.lean) — for EVERY list of
  selector filters, every option value, every record.

  `selectFilter` is the backward slice of the variable select.go hands to `FeatureSlice.Filter` in its scan loop: a
  change of the ORDER in which `Not`, `Or(Key("source"), ·)` and `And(·, strand)` are applied (seeded W10-1: the strand
  restriction inside the negation) still translates and breaks `selectFilter_eq`.
-/
import Gts.Gen.CmdSelect
import Gts.Bridge.CliLoops
namespace Gts.Bridge
open Gts

/-- **the filter of `gts select`, as written**: the statements of select.go between the selector loop and the scan loop
compute — without a panic — the model's `Cli.selectFilter`: `Or(Key("source"), invert ? Not(Or(sels…)) : Or(sels…))`,
then `And(·, ForwardStrand | ReverseStrand)` for `-s forward | reverse`, for EVERY list of selector filters and EVERY
strand word (any other word: no restriction). -/
theorem selectFilter_eq (sels : List Filter) (strand : String) (invert : Bool) :
    Gen.selectFilter sels strand invert = some (Cli.selectFilter sels invert strand) := by
  unfold Gen.selectFilter Cli.selectFilter
  cases invert <;> by_cases h1 : strand = "forward" <;> by_cases h2 : strand = "reverse" <;> simp [h1, h2]

example : Gen.selectFilter [keyF "gene"] "forward" true = some (Cli.selectFilter [keyF "gene"] true "forward") :=
  selectFilter_eq _ _ _

/-- **`gts select`, one record**: the scan-loop body of select.go hands exactly one record to `WriteSeq`: the record
with the features the filter accepts, in table order, residues kept -/
theorem selectStep_eq (filter : Filter) (seq : Seq) :
    Gen.selectStep filter seq = some [Cli.selectStep filter seq] := rfl

/-- **`gts clear`, one record**: `Features().Filter(Key("source"))` — exactly the source features stay -/
theorem clearStep_eq (seq : Seq) : Gen.clearStep seq = some [Cli.clearStep seq] := rfl

/-- **`gts define`, one record**: the one feature is `Insert`ed (sorted insertion, `Table.insert`) -/
theorem defineStep_eq (f : Feature) (seq : Seq) : Gen.defineStep f seq = some [Cli.defineStep f seq] := rfl

/-- the loop of annotate.go is the left fold of `Insert` -/
theorem annotateStepLoop_eq (featin : List Feature) : ∀ (l : List Feature) (ff : Table),
    Gen.annotateStepLoop featin l ff = some (Table.insertAll ff l) :=
  Go.foldLoop some (Gen.annotateStepLoop featin) Table.insert (fun _ => rfl) (fun _ _ _ => rfl)

/-- **`gts annotate`, one record**: every feature of the table file is `Insert`ed, in file order -/
theorem annotateStep_eq (featin : List Feature) (seq : Seq) :
    Gen.annotateStep featin seq = some [Cli.annotateStep featin seq] := by
  simp only [Gen.annotateStep, annotateStepLoop_eq]
  rfl

example : Gen.annotateStep [⟨"gene", .point 1, []⟩, ⟨"CDS", .point 0, []⟩] ⟨[], [65, 67]⟩
    = some [Cli.annotateStep [⟨"gene", .point 1, []⟩, ⟨"CDS", .point 0, []⟩] ⟨[], [65, 67]⟩] := annotateStep_eq _ _

/-- each step writes its record once and flushes -/
theorem selectStepFacts_eq : Gen.selectStepFacts = ["write", "flush"] ∧ Gen.clearStepFacts = ["write", "flush"] ∧
    Gen.defineStepFacts = ["write", "flush"] ∧ Gen.annotateStepFacts = ["write", "flush"] := ⟨rfl, rfl, rfl, rfl⟩

end Gts.Bridge
