/-
  Bridge (C16): `slowGenBankOriginParser` REGENERATED from seqio/genbank_subparsers.go by go2lean
  (Gts/Gen/OriginSlow.lean: the line loop with its two bounds-checked inner loops, the token buffer
  filled with `copy` and a single-byte store) has, for EVERY input and every declared length, the
  outcome of the hand-written model `Gts.Origin.slowOrigin` (Gts/Model/Origin.lean) the C16
  theorems are about: the same token and remaining input, the same returned error, the same panic.
  `pars.Line` is the parameter `parsLine`, instantiated with the model's `splitLine`
  (`Gts.C16.splitLine_is_pars_line`: that is the framework's model of `pars.Line`).
  Also: what the constant `maxOriginResidues` of the ORIGIN reader's length guard means.
-/
import Gts.Gen.OriginSlow
import Gts.Lemmas.GoBytes
import Gts.Bridge.OriginValidate
import Gts.Bridge.Origin
import Gts.Lemmas.Origin
namespace Gts.Bridge
open Gts Gts.Origin
open Gts.Pars (Bytes Err)
open Gts.Gen (bufOf offOf)

/-- like `SimOff`, and the generated offset stays inside the line (every index is checked) -/
def SimOffB (q : Bytes) (m : Out Bytes) (g : Except Err (Int × Int)) : Prop :=
  (∃ e, m = .error e ∧ g = .error e) ∨
    ∃ off' c' : Nat, m = .ok (q.drop off') ∧ g = .ok ((off' : Int), (c' : Int)) ∧ off' ≤ q.length

/-- innermost loop (`k`) of the slow path: a residue test behind a bounds check -/
theorem slowLoop3_sim (q : Bytes) (length : Int) (i j f k off : Nat) (hle : off ≤ q.length) :
    SimOffB q (walkChars .fail length (i + j) f k (q.drop off))
      (Gen.slowGenBankOriginParserLoop3 length (i : Int) q (j : Int) f (off : Int) (k : Int)) := by
  induction f generalizing k off with
  | zero => exact .inr ⟨off, k, rfl, rfl, hle⟩
  | succ f ih =>
    show SimOffB q (ite _ _ _) (ite _ _ _)
    by_cases hc : k < 10 ∧ ((i + j + k : Nat) : Int) < length
    · rw [if_pos hc, if_pos (condChars.mpr hc)]
      by_cases hlt : off < q.length
      · rw [if_neg (mt Int.ofNat_le.mp (Nat.not_le.mpr hlt)), Gen.goIndex_eq, clAt_lt q off hlt,
          List.drop_eq_getElem_cons hlt]
        dsimp only
        by_cases hb : Gen.isBaseCharacter q[off] = true
        · rw [if_pos (show isBase q[off] = true from hb), if_neg (not_not_intro hb)]
          exact ih (k + 1) (off + 1) hlt
        · rw [if_neg (show ¬ isBase q[off] = true from hb), if_pos hb]
          exact .inl ⟨_, rfl, rfl⟩
      · rw [if_pos (Int.ofNat_le.mpr (Nat.not_lt.mp hlt)), List.drop_eq_nil_iff.mpr (Nat.not_lt.mp hlt)]
        exact .inl ⟨_, rfl, rfl⟩
    · rw [if_neg hc, if_neg (mt condChars.mp hc)]
      exact .inr ⟨off, k, rfl, rfl, hle⟩

/-- middle loop (`j`) of the slow path: a blank behind a bounds check, then the residues -/
theorem slowLoop2_sim (q : Bytes) (length : Int) (i : Nat) (fuel0 : Nat) (h0 : 10 ≤ fuel0)
    (f j off : Nat) (hle : off ≤ q.length) :
    SimOffB q (walkGroups .fail length i f j (q.drop off))
      (Gen.slowGenBankOriginParserLoop2 fuel0 length (i : Int) q f (off : Int) (j : Int)) := by
  induction f generalizing j off with
  | zero => exact .inr ⟨off, j, rfl, rfl, hle⟩
  | succ f ih =>
    show SimOffB q (ite _ _ _) (ite _ _ _)
    by_cases hc : j < 60 ∧ ((i + j : Nat) : Int) < length
    · rw [if_pos hc, if_pos (condGroups.mpr hc)]
      by_cases hlt : off < q.length
      · rw [if_neg (mt Int.ofNat_le.mp (Nat.not_le.mpr hlt)), Gen.goIndex_eq, clAt_lt q off hlt,
          List.drop_eq_getElem_cons hlt]
        dsimp only
        by_cases hb : q[off] = 32
        · rw [hb, if_neg (by decide), if_neg (show ¬ ((32 : UInt8) ≠ Gen.spaceByte) from not_not_intro rfl),
            GenBank.walkChars_fuel .fail length (i + j) 10 fuel0 0 _ (Nat.le_refl _) ((Nat.zero_add _).symm ▸ h0)]
          have h3 := slowLoop3_sim q length i j fuel0 0 (off + 1) hlt
          rw [Int.natCast_succ, Int.ofNat_zero] at h3
          obtain ⟨e, hm, hg⟩ | ⟨off', k', hm, hg, hle'⟩ := h3
          · rw [hm, hg]; exact .inl ⟨_, rfl, rfl⟩
          · rw [hm, hg]
            exact ih (j + 10) off' hle'
        · rw [if_pos (bne_iff_ne.mpr hb), if_pos (show q[off] ≠ Gen.spaceByte from hb)]
          exact .inl ⟨_, rfl, rfl⟩
      · rw [if_pos (Int.ofNat_le.mpr (Nat.not_lt.mp hlt)), List.drop_eq_nil_iff.mpr (Nat.not_lt.mp hlt)]
        exact .inl ⟨_, rfl, rfl⟩
    · rw [if_neg hc, if_neg (mt condGroups.mp hc)]
      exact .inr ⟨off, j, rfl, rfl, hle⟩

/-- outcome of the generated line loop (state: remaining input, token of the last line, token
buffer, offset, counter) against the model's (what was written, remaining input) -/
def SimSlow (cap : Nat) (m : Out (Bytes × Bytes)) (g : Except Err (Bytes × Bytes × Bytes × Int × Int)) : Prop :=
  (∃ e, m = .error e ∧ g = .error e) ∨
    ∃ (acc' st' tok' : Bytes) (i' : Nat), m = .ok (acc', st') ∧ acc'.length ≤ cap ∧
      g = .ok (st', tok', bufOf cap acc', (offOf cap acc' : Int), (i' : Int))

theorem slowLoop_sim (length : Int) (cap fuel0 : Nat) (h0 : 10 ≤ fuel0)
    (f i : Nat) (st tok acc : Bytes) (hacc : acc.length ≤ cap) :
    SimSlow cap (slowLines length cap f i st acc)
      (Gen.slowGenBankOriginParserLoop fuel0 fmt9 splitLine length f st tok (bufOf cap acc) (offOf cap acc : Int) (i : Int)) := by
  induction f generalizing i st tok acc with
  | zero => exact .inr ⟨acc, st, tok, i, rfl, hacc, rfl⟩
  | succ f ih =>
    show SimSlow cap (ite _ _ _) (ite _ _ _)
    by_cases hc : (i : Int) < length
    · rw [if_pos hc, if_pos hc, fmt9_succ]
      generalize splitLine st = ql
      obtain ⟨q, st'⟩ := ql
      dsimp only [walkLine]
      by_cases hp : (index9 (i + 1)).isPrefixOf q = true
      · rw [if_pos hp, if_neg (not_not_intro (show Gen.bytesHasPrefix q (index9 (i + 1)) = true from hp)),
          GenBank.walkGroups_fuel .fail length i 6 fuel0 0 _ (Nat.le_refl _) (by omega)]
        have h2 := slowLoop2_sim q length i fuel0 h0 fuel0 0 (index9 (i + 1)).length
          (List.isPrefixOf_iff_prefix.mp hp).length_le
        rw [← Int.zero_add ((index9 (i + 1)).length : Int), Int.ofNat_zero] at h2
        obtain ⟨e, hm, hg⟩ | ⟨off', j', hm, hg, hle⟩ := h2
        · rw [hm, hg]; exact .inl ⟨_, rfl, rfl⟩
        · rw [hm, hg]
          dsimp only
          rw [Gen.goSliceFrom_eq, clFrom_nat q off' hle]
          dsimp only
          have hcond : (((Gen.bytesTrimRight (q.drop off') [32]).length : Int) ≠ 0) = ((!allBlank (q.drop off')) = true) :=
            propext (by
              rw [Ne, Int.natCast_eq_zero, Gen.bytesTrimRight_blank, Bool.not_eq_true, Bool.not_eq_true']
              exact Iff.rfl)
          simp only [hcond]
          by_cases hbl : (!allBlank (q.drop off')) = true
          · rw [if_pos hbl, if_pos hbl]
            exact .inl ⟨_, rfl, rfl⟩
          · rw [if_neg hbl, if_neg hbl, Gen.goSliceTo_eq, clTo_nat q off' hle]
            dsimp only
            rw [Gen.goCopyAt_bufOf]
            dsimp only
            rw [Gen.offOf_add_sub]
            rw [List.length_drop, Nat.sub_sub_self hle, ← Gen.bufOf_take cap (acc ++ q.take off'), ← Gen.offOf_take cap (acc ++ q.take off')]
            by_cases hroom : ((acc ++ q.take off').take cap).length < cap
            · rw [if_pos hroom, Gen.goStore_bufOf cap _ _ hroom, Gen.offOf_snoc cap _ _ hroom]
              exact ih (i + 60) st' q _ (by rw [List.length_append]; exact hroom)
            · rw [if_neg hroom, Gen.goStore_bufOf_full cap _ _ (Nat.not_lt.mp hroom)]
              exact .inl ⟨_, rfl, rfl⟩
      · rw [if_neg hp, if_pos (show ¬ Gen.bytesHasPrefix q (index9 (i + 1)) = true from hp)]
        exact .inl ⟨_, rfl, rfl⟩
    · rw [if_neg hc, if_neg hc]
      exact .inr ⟨acc, st, tok, i, rfl, hacc, rfl⟩

/-- **`slowGenBankOriginParser(length)`, as written in genbank_subparsers.go**, run on a state with
remaining input `st` — `fmt.Sprintf("%9d", ·)` read as the model's `index9`, `pars.Line` as the
model's `splitLine` — with any fuel that covers the trip counts, has the outcome of the model's
`Origin.slowOrigin st length`: the same token and remaining input, the same returned error, the same
panic (negative `make` size, full token buffer) — for EVERY input and EVERY declared length.
Dropping a bounds check, the trailing-blanks test rewritten as a one-byte test (seeded C16-h) or a
changed loop bound breaks one of the `…_sim` lemmas or is refused. -/
theorem slowGenBankOriginParser_eq (fuel : Nat) (st tok : Bytes) (length : Int) (h10 : 10 ≤ fuel)
    (hl : length ≤ 60 * (fuel : Int)) :
    Gen.slowGenBankOriginParser fuel fmt9 splitLine length st tok = Origin.slowOrigin st length := by
  unfold Gen.slowGenBankOriginParser Origin.slowOrigin
  rw [toOriginLength_eq]
  by_cases hneg : Origin.toOriginLength length < 0
  · rw [if_pos hneg, Gen.goMake_neg _ hneg]
  · rw [if_neg hneg]
    obtain ⟨n, hn⟩ := Int.eq_ofNat_of_zero_le (Int.not_lt.mp hneg)
    rw [hn, Gen.goMake_nat, Int.toNat_natCast]
    dsimp only
    rw [← GenBank.slowLines_eq, GenBank.slowLines_fuel length n length.toNat fuel 0 st [] (by omega) (by omega),
      GenBank.slowLines_eq]
    have h := slowLoop_sim length n fuel h10 fuel 0 st tok [] (Nat.zero_le _)
    rw [Gen.bufOf_nil, Gen.offOf_nil, Int.ofNat_zero] at h
    obtain ⟨e, hm, hg⟩ | ⟨acc', st', tok', i', hm, hle, hg⟩ := h
    · rw [hm, hg]
    · rw [hm, hg]
      dsimp only
      rw [Gen.bufOf_of_length_le n acc' hle]

/-- the slow path on a line with trailing blanks (accepted, the blanks are not part of the token) and on a line that
holds one residue more than the declared length (an error) -/
example :
    Gen.slowGenBankOriginParser 10 fmt9 splitLine 1 [32,32,32,32,32,32,32,32,49,32,97,32,32,10, 47,47,10] [] =
      .ok ([32,32,32,32,32,32,32,32,49,32,97,10], [47,47,10])
    ∧ Gen.slowGenBankOriginParser 10 fmt9 splitLine 1 [32,32,32,32,32,32,32,32,49,32,97,98,10] [] = .error .fail := by
  decide +kernel

/-- `maxOriginResidues` is what its comment says: a positive declared length passes the guard
`length > maxOriginResidues` exactly when the index `%9d` prints in front of its LAST line (and so
in front of every line) has at most nine digits — the condition under which `toOriginLength`
sizes the block correctly (`Gts.Origin.index9_length`). -/
theorem maxOriginResidues_index (length : Int) (h : 0 < length) :
    ¬ (length > Gen.maxOriginResidues) ↔ 60 * ((length - 1) / 60) + 1 < 10 ^ 9 := by
  simp only [Gen.maxOriginResidues]
  omega

/-- under the guard every line index the loops print is nine columns wide -/
theorem index9_under_guard (length : Int) (hg : ¬ (length > Gen.maxOriginResidues)) (i : Nat)
    (hi : (i : Int) < length) (h60 : i % 60 = 0) : (Origin.index9 (i + 1)).length = 9 := by
  apply Gts.Origin.index9_length
  simp only [Gen.maxOriginResidues] at hg
  omega

example : ¬ ((1000000020 : Int) > Gen.maxOriginResidues) ∧ (1000000021 : Int) > Gen.maxOriginResidues := by decide

end Gts.Bridge
