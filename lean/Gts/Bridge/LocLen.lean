/-
  Bridge: `Location.Len()` over the seven kinds, regenerated from location.go by go2lean
  (Gts/Gen/LocLen.lean: the contiguous kinds straight-line, `Joined.Len` / `Ordered.Len` translated on
  the list of the lengths of the parts, dynamic dispatch as structural recursion over `Gts.Loc`), is
  the hand-written model's `Loc.len` — for EVERY location (structural induction).
-/
import Gts.Gen.LocLen
import Gts.Model.Loc
import Gts.Bridge.Loops
namespace Gts.Bridge
open Gts

theorem foldl_add_len : ∀ (ls : List Loc) (n : Int), (ls.map Loc.len).foldl (· + ·) n = n + Loc.lenList ls
  | [], n => by simp [Loc.lenList]
  | l :: ls, n => by
    simp only [List.map_cons, List.foldl_cons, foldl_add_len ls, Loc.lenList]
    omega

/-- `Joined.Len()` on the lengths of the parts -/
theorem joinedLen_eq (ls : List Loc) : Gen.joinedLen (ls.map Loc.len) = Loc.lenList ls :=
  (Go.foldLoop id Gen.joinedLenLoop (· + ·) (fun _ => rfl) (fun _ _ _ => rfl) _ 0).trans
    ((foldl_add_len ls 0).trans (Int.zero_add _))

/-- `Ordered.Len()` on the lengths of the parts -/
theorem orderedLen_eq (ls : List Loc) : Gen.orderedLen (ls.map Loc.len) = Loc.lenList ls :=
  (Go.foldLoop id Gen.orderedLenLoop (· + ·) (fun _ => rfl) (fun _ _ _ => rfl) _ 0).trans
    ((foldl_add_len ls 0).trans (Int.zero_add _))

mutual
/-- `Location.Len()` as location.go defines it now over the seven kinds is the model's `Loc.len` -/
theorem locLen_eq : ∀ (l : Loc), Gen.locLen l = Loc.len l
  | .between _ | .point _ | .ranged _ _ _ _ | .ambiguous _ _ => rfl
  | .joined ls | .ordered ls => by simp only [Gen.locLen, Loc.len, locLenList_eq ls, joinedLen_eq, orderedLen_eq]
  | .compl l => by simp only [Gen.locLen, Gen.complementedLen, Loc.len, locLen_eq l]
theorem locLenList_eq : ∀ (ls : List Loc), Gen.locLenList ls = ls.map Loc.len
  | [] => rfl
  | l :: ls => by simp only [Gen.locLenList, List.map_cons, locLen_eq l, locLenList_eq ls]
end

-- non-vacuity: a nested location, evaluated on the generated function
example : Gen.locLen (.compl (.joined [.ranged 3 9 true false, .point 12, .ordered [.between 20, .ambiguous 30 35]])) = 8 := by
  decide

end Gts.Bridge
