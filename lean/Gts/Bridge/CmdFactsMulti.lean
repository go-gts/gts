/-
  Bridge (DESIGN.md 4.1b): the GLUE between the library and the CLI as facts — C15: the six multi-site commands delete, insert, infix, split, rotate, extract — their per-record step is regenerated as a
  function (go2lean/gcli_cmds.go, Bridge/Cli*.lean); here every statement of the command files, the frame around the step included.
  The command functions of `/repo/cmd/gts/*.go` that have no regenerated tie of their own, as go2lean extracts them from
  the Go source on every run (`Gts/Gen/CmdFacts.lean`, generator go2lean/cmdfacts.go: normal form, one line per statement,
  locals `v0, v1, …`, parameters by type), are what the hand-written expectation `Gts/Spec/CmdTable.lean` says, line by
  line with what each line does in terms of the library function the model has.

  Per command FILE `cmd_<file>` — every function, method and function literal of the file in normal form, its top-level
  declarations, its types (`rfl`: the kernel compares the two literal tables) — and `cmd_<file>_pipeline` — the library
  calls of the command function in source order with the kinds of the headers above them (no variable name, no line
  number: renaming, re-ordered option declarations, another error text keep it; a library call added, dropped, replaced
  or moved under / out of a condition or loop changes it).  One bridge module per property, so that a change of a
  command file stops the check of ITS property only.
-/
import Gts.Gen.CmdFacts
import Gts.Spec.CmdTable
namespace Gts.Bridge.Cmd

/-- `gts delete`: every statement of the command file — options, locator(s), secondary input, the frame (delegate, cache key,
scanner, writer, `WriteSeq` / `Flush`, `scanner.Err()`, `Commit`) and the per-record step the C15 bridges are about -/
theorem cmd_delete : Gts.Gen.Cmd.file_delete = Gts.Spec.Cmd.file_delete ∧ Gts.Gen.Cmd.decls_delete = Gts.Spec.Cmd.decls_delete ∧
    Gts.Gen.Cmd.types_delete = Gts.Spec.Cmd.types_delete := ⟨rfl, rfl, rfl⟩

theorem cmd_delete_pipeline : Gts.Gen.Cmd.pipeline_delete = Gts.Spec.Cmd.pipeline_delete := rfl

/-- `gts extract` (and `containsRegion`): every statement of the command file — options, locator(s), secondary input, the frame (delegate, cache key,
scanner, writer, `WriteSeq` / `Flush`, `scanner.Err()`, `Commit`) and the per-record step the C15 bridges are about -/
theorem cmd_extract : Gts.Gen.Cmd.file_extract = Gts.Spec.Cmd.file_extract ∧ Gts.Gen.Cmd.decls_extract = Gts.Spec.Cmd.decls_extract ∧
    Gts.Gen.Cmd.types_extract = Gts.Spec.Cmd.types_extract := ⟨rfl, rfl, rfl⟩

theorem cmd_extract_pipeline : Gts.Gen.Cmd.pipeline_extract = Gts.Spec.Cmd.pipeline_extract := rfl

/-- `gts infix`: every statement of the command file — options, locator(s), secondary input, the frame (delegate, cache key,
scanner, writer, `WriteSeq` / `Flush`, `scanner.Err()`, `Commit`) and the per-record step the C15 bridges are about -/
theorem cmd_infix : Gts.Gen.Cmd.file_infix = Gts.Spec.Cmd.file_infix ∧ Gts.Gen.Cmd.decls_infix = Gts.Spec.Cmd.decls_infix ∧
    Gts.Gen.Cmd.types_infix = Gts.Spec.Cmd.types_infix := ⟨rfl, rfl, rfl⟩

theorem cmd_infix_pipeline : Gts.Gen.Cmd.pipeline_infix = Gts.Spec.Cmd.pipeline_infix := rfl

/-- `gts insert`: every statement of the command file — options, locator(s), secondary input, the frame (delegate, cache key,
scanner, writer, `WriteSeq` / `Flush`, `scanner.Err()`, `Commit`) and the per-record step the C15 bridges are about -/
theorem cmd_insert : Gts.Gen.Cmd.file_insert = Gts.Spec.Cmd.file_insert ∧ Gts.Gen.Cmd.decls_insert = Gts.Spec.Cmd.decls_insert ∧
    Gts.Gen.Cmd.types_insert = Gts.Spec.Cmd.types_insert := ⟨rfl, rfl, rfl⟩

theorem cmd_insert_pipeline : Gts.Gen.Cmd.pipeline_insert = Gts.Spec.Cmd.pipeline_insert := rfl

/-- `gts rotate`: every statement of the command file — options, locator(s), secondary input, the frame (delegate, cache key,
scanner, writer, `WriteSeq` / `Flush`, `scanner.Err()`, `Commit`) and the per-record step the C15 bridges are about -/
theorem cmd_rotate : Gts.Gen.Cmd.file_rotate = Gts.Spec.Cmd.file_rotate ∧ Gts.Gen.Cmd.decls_rotate = Gts.Spec.Cmd.decls_rotate ∧
    Gts.Gen.Cmd.types_rotate = Gts.Spec.Cmd.types_rotate := ⟨rfl, rfl, rfl⟩

theorem cmd_rotate_pipeline : Gts.Gen.Cmd.pipeline_rotate = Gts.Spec.Cmd.pipeline_rotate := rfl

/-- `gts split`: every statement of the command file — options, locator(s), secondary input, the frame (delegate, cache key,
scanner, writer, `WriteSeq` / `Flush`, `scanner.Err()`, `Commit`) and the per-record step the C15 bridges are about -/
theorem cmd_split : Gts.Gen.Cmd.file_split = Gts.Spec.Cmd.file_split ∧ Gts.Gen.Cmd.decls_split = Gts.Spec.Cmd.decls_split ∧
    Gts.Gen.Cmd.types_split = Gts.Spec.Cmd.types_split := ⟨rfl, rfl, rfl⟩

theorem cmd_split_pipeline : Gts.Gen.Cmd.pipeline_split = Gts.Spec.Cmd.pipeline_split := rfl

end Gts.Bridge.Cmd
