/-
  Bridge: the per-record step of `gts delete`, regenerated from cmd/gts/delete.go by go2lean
  (Gts/Gen/CliDelete.lean: `ss := gts.Minimize(locate(seq)); flip.Flip(gts.BySegment(ss));
  for _, s := range ss { i, n := s.Head(), s.Len(); seq = delete(seq, i, n) }; WriteSeq(seq)`, the loop
  a recursive helper), writes exactly one record, the model's `Cli.delete` — for EVERY record,
  locator and `-e` flag.  The theorems of `Gts/Props/C15.lean` about `Cli.delete` are thereby about
  what delete.go says now.
-/
import Gts.Gen.CliDelete
import Gts.Bridge.CliLoops
namespace Gts.Bridge
open Gts

/-- **`gts delete`, one record**: the scan-loop body of delete.go, as written, hands exactly one
record to `WriteSeq` — the model's `Cli.delete` — and no index expression in it panics. -/
theorem deleteStep_eq (locate : Seq → List Reg) (erase : Bool) (seq : Seq) :
    Gen.deleteStep locate erase seq = some [Cli.delete locate erase seq] := by
  -- one iteration deletes (or erases, with `-e`) `s.Len()` residues at `s.Head()`
  have h := Go.foldLoop some (Gen.deleteStepLoop locate erase)
    (fun (acc : Seq) (sg : Seg) =>
      if erase then acc.erase sg.1 (Reg.gabs (sg.2 - sg.1)) else acc.delete sg.1 (Reg.gabs (sg.2 - sg.1)))
    (fun _ => rfl) (fun s rest seq => by simp only [Gen.deleteStepLoop, Reg.head, Reg.len])
  simp only [Gen.deleteStep, h, Cli.delete, Cli.deleteSegs, List.nil_append]

example : Gen.deleteStep (fun _ => [.seg 1 3, .seg 2 4]) true ⟨[], [1, 2, 3, 4, 5]⟩
    = some [Cli.delete (fun _ => [.seg 1 3, .seg 2 4]) true ⟨[], [1, 2, 3, 4, 5]⟩] := deleteStep_eq _ _ _

/-- the calls of the step that are read by specification (`flip.Flip` reverses) and its I/O statements -/
theorem deleteStepFacts_eq : Gen.deleteStepFacts = ["flip", "write", "flush"] := rfl

end Gts.Bridge
