/-
  Bridge: `FeatureSlice.Less`, regenerated from feature.go by go2lean (Gts/Gen/FeatLess.lean: the function
  of the two features its first statement copies — `source` features first, then `LocationLess`), is the
  hand-written model's `Table.lessF` (Gts/Model/Feature.lean).  `LocationLess` is the regenerated
  function of Gts/Gen/LocLess.lean at the fuel `locNodes a + locNodes b` (= `Loc.size a + Loc.size b`,
  which `locationLess_eq` proves sufficient).
-/
import Gts.Gen.FeatLess
import Gts.Bridge.LocLess
import Gts.Model.Feature
namespace Gts.Bridge
open Gts

mutual
/-- the fuel measure of the generated text is the size measure of the `LocationLess` bridge -/
theorem locNodes_eq : ∀ l : Loc, Gen.locNodes l = Loc.size l
  | .between _ | .point _ | .ranged _ _ _ _ | .ambiguous _ _ => rfl
  | .joined ls | .ordered ls => by simp only [Gen.locNodes, Loc.size, locNodesList_eq ls]
  | .compl l => by simp only [Gen.locNodes, Loc.size, locNodes_eq l]
theorem locNodesList_eq : ∀ ls : List Loc, Gen.locNodesList ls = Loc.sizeList ls
  | [] => rfl
  | l :: ls => by simp only [Gen.locNodesList, Loc.sizeList, locNodes_eq l, locNodesList_eq ls]
end

/-- `LocationLess` as feature.go calls it is the model's `Loc.less` -/
theorem locationLessF_eq (a b : Loc) : Gen.locationLessF a b = Loc.less a b := by
  simp only [Gen.locationLessF, locNodes_eq]
  exact locationLess_size a b

/-- `FeatureSlice.Less(i, j)` as feature.go defines it now, on the two features `ff[i]`, `ff[j]`, is the
model's `Table.lessF`: a `source` feature sorts before every other feature, otherwise the locations
decide -/
theorem featureSliceLess_eq (f g : Feature) : Gen.featureSliceLess f g = Table.lessF f g := by
  by_cases h1 : f.key = "source" <;> by_cases h2 : g.key = "source" <;>
    simp [Gen.featureSliceLess, Table.lessF, locationLessF_eq, h1, h2]

-- non-vacuity: the three paths of the generated function
example : Gen.featureSliceLess ⟨"source", .point 9, []⟩ ⟨"gene", .point 1, []⟩ = true := by decide
example : Gen.featureSliceLess ⟨"gene", .point 1, []⟩ ⟨"source", .point 9, []⟩ = false := by decide
example : Gen.featureSliceLess ⟨"gene", .point 1, []⟩ ⟨"CDS", .point 9, []⟩ = true := by decide

end Gts.Bridge
