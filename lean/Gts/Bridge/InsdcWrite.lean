/-
  Bridge: the regenerated feature-table WRITER of seqio/insdc.go (`Gts/Gen/InsdcWrite.lean`, go2lean
  gwriter*.go) IS the model's table writer of `Gts/Model/GenBank.lean` (property C01):

    GetQualifierType            = the code of `Registry.typeOf`        (`getQualifierTypeW_eq`)
    QualifierIO.String          = `qualifierText`                      (`qualifierIOString_eq`)
    QualifierFormatter.String   = `qualifierFmt`                       (`qualifierFormatterString_eq`)
    INSDCFormatter{t, "     ", 21}.String() = `tableText`, for EVERY table, panic for panic
                                                                       (`insdcFormatterString_eq`)
    the three initial name lists = `Registry.default`                  (`registry_default_eq`)

  The registry look-ups `IsQuotedQualifier` / `IsLiteralQualifier` / `IsToggleQualifier` are parameters of
  the generated functions; they are instantiated with membership in the model's registry (the model's
  reading of `searchString` over a sorted list).  `Location.String()` is instantiated with `Loc.printB`.
  `strings.Repeat`, `strings.Replace(s, "\n", new, -1)` are the fixed re-implementations of
  `Gts/Gen/GoStrings.lean` (`wsRepeat`, `wsReplaceByte`).

  The loops are related to the model by one lemma per loop with its invariant (the text written so far
  is a prefix that is never touched again; the column `depth` is at least the width every key needs);
  nothing is decided on samples.
-/
import Gts.Gen.InsdcWrite
import Gts.Model.GenBank
import Gts.Lemmas.GoSlice
namespace Gts.Bridge
open Gts.Pars Gts.GenBank Gts.Gen.GoStrings
open Gts.Gen.InsdcWrite

/-- a generated `Option` (`none` = Go panic) as an outcome of the model -/
def wOut {α : Type} : Option α → Out α
  | none => .error .panic
  | some v => .ok v

theorem wOut_pure {α : Type} (v : α) : wOut (some v) = pure v := rfl

/-- `wOut` turns the generated `Option.bind` chains into `do` blocks of the model -/
theorem wOut_bind {α β : Type} (o : Option α) (f : α → Option β) :
    wOut (o.bind f) = wOut o >>= fun x => wOut (f x) := by
  cases o <;> rfl

theorem out_ite_bind {α β : Type} (c : Prop) [Decidable c] (a b : Out α) (k : α → Out β) :
    (if c then a else b) >>= k = if c then a >>= k else b >>= k := by
  split <;> rfl

/-- the generated literal reader is the model's `bs` -/
theorem wsLit_eq_bs (s : String) : wsLit s = bs s := rfl

/-- `IsQuotedQualifier` under the registry `reg` -/
def isQuotedIn (reg : Registry) (n : Bytes) : Bool := decide (n ∈ reg.quoted)
/-- `IsLiteralQualifier` under the registry `reg` -/
def isLiteralIn (reg : Registry) (n : Bytes) : Bool := decide (n ∈ reg.literal)
/-- `IsToggleQualifier` under the registry `reg` -/
def isToggleIn (reg : Registry) (n : Bytes) : Bool := decide (n ∈ reg.toggle)

/-- the `iota` block `QuotedQualifier … UnknownQualifier` -/
def qtypeCodeW : QType → Int
  | .quoted => 0
  | .literal => 1
  | .toggle => 2
  | .unknown => 3

/-- **insdc.go `GetQualifierType` is `Registry.typeOf`** (quoted before literal before toggle) -/
theorem getQualifierTypeW_eq (reg : Registry) (name : Bytes) :
    getQualifierType (isQuotedIn reg) (isLiteralIn reg) (isToggleIn reg) name = qtypeCodeW (reg.typeOf name) := by
  unfold getQualifierType Registry.typeOf isQuotedIn isLiteralIn isToggleIn
  by_cases h1 : name ∈ reg.quoted
  · simp [h1, qtypeCodeW]
  · by_cases h2 : name ∈ reg.literal
    · simp [h1, h2, qtypeCodeW]
    · by_cases h3 : name ∈ reg.toggle <;> simp [h1, h2, h3, qtypeCodeW]

/-- **insdc.go `QualifierIO.String` is `qualifierText`**: `/name="value"`, `/name=value`, `/name`, and the
quoted form for a name of no list -/
theorem qualifierIOString_eq (reg : Registry) (name value : Bytes) :
    qualifierIOString (isQuotedIn reg) (isLiteralIn reg) (isToggleIn reg) (name, value) =
      qualifierText reg name value := by
  unfold qualifierIOString qualifierIOUnpack qualifierText
  simp only [getQualifierTypeW_eq]
  cases reg.typeOf name <;>
    simp [qtypeCodeW, wsLit, List.append_assoc]

/-- `strings.Replace(s, "\n", "\n"+prefix, -1)` is the model's `addPrefix` -/
theorem wsReplaceByte_addPrefix (pre : Bytes) (s : Bytes) :
    wsReplaceByte (10 : UInt8) (wsLit "\n" ++ pre) s = addPrefix pre s := by
  induction s with
  | nil => rfl
  | cons c s ih =>
    unfold wsReplaceByte addPrefix
    rw [ih]
    rfl

/-- **insdc.go `QualifierFormatter.String` is `qualifierFmt`** (the prefix in front of every line) -/
theorem qualifierFormatterString_eq (reg : Registry) (pre name value : Bytes) :
    qualifierFormatterString (isQuotedIn reg) (isLiteralIn reg) (isToggleIn reg)
        { Qualifier := (name, value), Prefix := pre } =
      qualifierFmt reg pre name value := by
  unfold qualifierFormatterString qualifierFmt
  simp only [qualifierIOString_eq, wsReplaceByte_addPrefix]

/-- a feature of the model as the Go struct -/
def goFeature (f : QFeature) : Feature := { Key := f.key, Loc := f.loc, Props := f.props }

/-- `strings.Repeat(" ", n)` for a count that is not negative -/
theorem wsRepeat_blank (n : Int) (h : 0 ≤ n) : wsRepeat (wsLit " ") n = some (sp n.toNat) := by
  unfold wsRepeat
  rw [if_neg (by omega)]
  exact congrArg some List.flatten_replicate_singleton

theorem wsRepeat_blank_sub (m n : Nat) (h : n ≤ m) : wsRepeat (wsLit " ") ((m : Int) - (n : Int)) = some (sp (m - n)) := by
  rw [wsRepeat_blank _ (by omega), Int.toNat_sub]

/-- Go's `if d < n { d = n }` on lengths is `max` -/
theorem ite_lt_natCast (d n : Nat) : (if (d : Int) < (n : Int) then (n : Int) else (d : Int)) = ((max d n : Nat) : Int) := by
  omega

/-- the first loop of `INSDCFormatter.String` (the column that every key fits in front of) is the fold
of `tableDepth` -/
theorem insdcDepthLoop_eq (T : List Feature) (d0 : Int) (fs : List QFeature) (d : Nat) :
    insdcFormatterStringLoop { Table := T, Prefix := sp 5, Depth := d0 } (fs.map goFeature) (d : Int) =
      ((fs.foldl (fun d f => max d (5 + f.key.length + 1)) d : Nat) : Int) := by
  induction fs generalizing d with
  | nil => rfl
  | cons f fs ih =>
    rw [List.map_cons, insdcFormatterStringLoop, List.foldl_cons, ← ih]
    exact congrArg _ (ite_lt_natCast d (5 + f.key.length + 1))

/-- the innermost loop (the values of one `Props` row `key :: …`) appends one qualifier line per value -/
theorem insdcValuesLoop_eq (reg : Registry) (pre key : Bytes) (row : List Bytes) (vs : List Bytes) (b : Bytes) :
    insdcFormatterStringLoop4 (isQuotedIn reg) (isLiteralIn reg) (isToggleIn reg) pre (key :: row) vs b =
      some (b ++ vs.flatMap fun v => 10 :: qualifierFmt reg pre key v) := by
  induction vs generalizing b with
  | nil => exact congrArg some (List.append_nil b).symm
  | cons v vs ih =>
    rw [insdcFormatterStringLoop4]
    exact (ih _).trans (congrArg some (by
      rw [qualifierIOFormat, qualifierFormatterString_eq, List.flatMap_cons, List.append_assoc, List.append_assoc]
      rfl))

/-- the loop over the `Props` rows: panics iff some row has no name (`prop[1:]` of an empty row), else
appends the lines of `propsItems` -/
theorem insdcPropsLoop_eq (reg : Registry) (pre : Bytes) (ps : List (List Bytes)) (b : Bytes) :
    insdcFormatterStringLoop3 (isQuotedIn reg) (isLiteralIn reg) (isToggleIn reg) pre ps b =
      if propsOk ps then some (b ++ (propsItems ps).flatMap fun kv => 10 :: qualifierFmt reg pre kv.1 kv.2)
      else none := by
  induction ps generalizing b with
  | nil => exact congrArg some (List.append_nil b).symm
  | cons row ps ih =>
    cases row with
    | nil => rfl
    | cons key vs =>
      have hfrom : wsFrom (key :: vs) (1 : Int) = some vs := clFrom_append_succ [] key vs
      rw [insdcFormatterStringLoop3, hfrom, Option.bind_some, insdcValuesLoop_eq, Option.bind_some, ih]
      have hok : propsOk ((key :: vs) :: ps) = propsOk ps := rfl
      rw [hok]
      cases propsOk ps
      · rfl
      · simp only [if_true, propsItems, List.flatMap_cons, List.flatMap_append, List.flatMap_map, List.append_assoc]

/-- the text behind the first feature: every further feature on a new line -/
def restText (reg : Registry) (depth : Nat) : List QFeature → Out Bytes
  | [] => .ok []
  | g :: gs => do
    let a ← featureText reg depth g
    let r ← restText reg depth gs
    pure (10 :: (a ++ r))

/-- `featureText` as a generated outcome: the panic of `prop[0]` / `prop[1:]` is its only error -/
theorem featureText_eq (reg : Registry) (depth : Nat) (f : QFeature) :
    featureText reg depth f =
      wOut (if propsOk f.props then
        some (sp 5 ++ f.key ++ sp (depth - 5 - f.key.length) ++ f.loc.printB ++
          ((propsItems f.props).flatMap fun kv => 10 :: qualifierFmt reg (sp depth) kv.1 kv.2))
      else none) := by
  unfold featureText
  cases propsOk f.props <;> rfl

theorem featureText_error (reg : Registry) (depth : Nat) (f : QFeature) (e : Err)
    (h : featureText reg depth f = .error e) : e = .panic := by
  rw [featureText_eq] at h
  generalize propsOk f.props = ok at h
  cases ok
  · exact (Except.error.inj h).symm
  · cases h

theorem tableTextD_cons (reg : Registry) (depth : Nat) (f : QFeature) (fs : List QFeature) :
    tableTextD reg depth (f :: fs) = (do
      let a ← featureText reg depth f
      let r ← restText reg depth fs
      pure (a ++ r)) := by
  induction fs generalizing f with
  | nil =>
    rw [tableTextD, restText]
    cases featureText reg depth f with
    | error e => rfl
    | ok a => exact congrArg Except.ok (List.append_nil a).symm
  | cons g gs ih =>
    rw [tableTextD, ih g, restText]
    · simp only [bind_assoc, pure_bind]
    · intro h; cases h

/-- one round of the main loop: key line and qualifier lines of one feature, for a column `depth` the
key fits in front of; `k` is what the loop does next with the text -/
theorem insdcFeature_step {β : Type} (reg : Registry) (depth : Nat) (f : QFeature) (hd : 5 + f.key.length + 1 ≤ depth)
    (b : Bytes) (k : Bytes → Option β) :
    wOut ((wsRepeat (wsLit " ") ((depth : Int) - (((sp 5).length : Int) + ((goFeature f).Key.length : Int)))).bind fun x1 =>
      (wsRepeat (wsLit " ") ((depth : Int) - ((sp 5).length : Int))).bind fun x2 =>
        (insdcFormatterStringLoop3 (isQuotedIn reg) (isLiteralIn reg) (isToggleIn reg) (sp 5 ++ x2) (goFeature f).Props
          (b ++ sp 5 ++ (goFeature f).Key ++ x1 ++ Loc.printB (goFeature f).Loc)).bind k) =
      featureText reg depth f >>= fun a => wOut (k (b ++ a)) := by
  have hlen : (sp 5).length = 5 := rfl
  have h5 : sp 5 ++ sp (depth - 5) = sp depth := by
    unfold sp
    rw [List.replicate_append_replicate, Nat.add_sub_cancel' (by omega)]
  dsimp only [goFeature]
  rw [← Int.natCast_add, hlen, wsRepeat_blank_sub _ _ (by omega), wsRepeat_blank_sub _ _ (by omega)]
  simp only [Option.bind_some, insdcPropsLoop_eq, h5, Nat.sub_add_eq]
  rw [featureText_eq]
  cases propsOk f.props
  · rfl
  · simp only [if_true, Option.bind_some, wOut_pure, pure_bind, List.append_assoc]

/-- the main loop behind the first feature (`i ≠ 0`: a line feed in front of every feature) -/
theorem insdcTableLoop_rest (reg : Registry) (T : List Feature) (d0 : Int) (depth : Nat) (fs : List QFeature)
    (hd : ∀ f ∈ fs, 5 + f.key.length + 1 ≤ depth) (i : Int) (hi : 0 < i) (b : Bytes) :
    wOut (insdcFormatterStringLoop2 Loc.printB (isQuotedIn reg) (isLiteralIn reg) (isToggleIn reg)
        { Table := T, Prefix := sp 5, Depth := d0 } (depth : Int) (fs.map goFeature) i b) =
      (do let r ← restText reg depth fs; pure (b ++ r)) := by
  induction fs generalizing i b with
  | nil => exact congrArg Except.ok (List.append_nil b).symm
  | cons f fs ih =>
    rw [List.map_cons, insdcFormatterStringLoop2, if_pos (by omega),
      insdcFeature_step reg depth f (hd f (List.mem_cons_self ..)) (b ++ [10]), restText]
    simp only [ih (fun g hg => hd g (List.mem_cons_of_mem _ hg)) (i + 1) (by omega)]
    simp only [bind_assoc, pure_bind, List.append_assoc, List.cons_append, List.nil_append]

/-- the error of `restText` is always the panic -/
theorem restText_error (reg : Registry) (depth : Nat) (fs : List QFeature) :
    ∀ e : Err, restText reg depth fs = .error e → e = .panic := by
  induction fs with
  | nil => intro e h; cases h
  | cons g gs ih =>
    intro e h
    rw [restText] at h
    cases hg : featureText reg depth g with
    | error e' =>
      rw [hg] at h
      exact Except.error.inj h ▸ featureText_error reg depth g e' hg
    | ok a =>
      rw [hg] at h
      cases hr : restText reg depth gs with
      | error e' =>
        rw [hr] at h
        exact Except.error.inj h ▸ ih e' hr
      | ok r => rw [hr] at h; cases h

theorem foldl_max_ge {α : Type} (g : α → Nat) (fs : List α) (d : Nat) :
    d ≤ fs.foldl (fun d f => max d (g f)) d ∧ ∀ f ∈ fs, g f ≤ fs.foldl (fun d f => max d (g f)) d := by
  induction fs generalizing d with
  | nil => exact ⟨Nat.le_refl d, fun f hf => nomatch hf⟩
  | cons a fs ih =>
    rw [List.foldl_cons]
    obtain ⟨h1, h2⟩ := ih (max d (g a))
    refine ⟨Nat.le_trans (Nat.le_max_left ..) h1, fun f hf => ?_⟩
    cases hf with
    | head => exact Nat.le_trans (Nat.le_max_right ..) h1
    | tail _ hf => exact h2 f hf

/-- the location column for a formatter of depth `d0`: `tableDepth` is the case 21 -/
def tableDepthFrom (d0 : Nat) (fs : List QFeature) : Nat := fs.foldl (fun d f => max d (5 + f.key.length + 1)) d0

/-- **insdc.go `INSDCFormatter{table, "     ", d0}.String()`, every depth `d0`**: the table laid out with the
location column `max d0 (widest key + 6)` — the same bytes as the model's `tableTextD`, a Go panic (a `Props`
row without a name) exactly where the model answers `.error .panic`.  (`Location.String()` = `Loc.printB`,
the registry look-ups = membership.) -/
theorem insdcFormatterString_depth_eq (reg : Registry) (d0 : Nat) (fs : List QFeature) :
    wOut (insdcFormatterString Loc.printB (isQuotedIn reg) (isLiteralIn reg) (isToggleIn reg)
        { Table := fs.map goFeature, Prefix := sp 5, Depth := (d0 : Int) }) = tableTextD reg (tableDepthFrom d0 fs) fs := by
  unfold insdcFormatterString
  simp only [insdcDepthLoop_eq, ← tableDepthFrom.eq_1]
  have hge : ∀ f ∈ fs, 5 + f.key.length + 1 ≤ tableDepthFrom d0 fs := (foldl_max_ge (fun f => 5 + f.key.length + 1) fs d0).2
  cases fs with
  | nil => rfl
  | cons f fs =>
    rw [tableTextD_cons, List.map_cons, insdcFormatterStringLoop2, if_neg (by simp), wOut_bind,
      insdcFeature_step reg _ f (hge f (List.mem_cons_self ..)) []]
    simp only [insdcTableLoop_rest reg _ (d0 : Int) _ fs (fun g hg => hge g (List.mem_cons_of_mem _ hg)) (0 + 1)
      (by omega)]
    simp only [wOut_pure, List.nil_append, bind_pure]

/-- **insdc.go `INSDCFormatter{table, "     ", 21}.String()` is the model's `tableText`** — for EVERY
table, under every registry: the same bytes, and a Go panic (a `Props` row without a name) exactly where the
model answers `.error .panic`. -/
theorem insdcFormatterString_eq (reg : Registry) (fs : List QFeature) :
    wOut (insdcFormatterString Loc.printB (isQuotedIn reg) (isLiteralIn reg) (isToggleIn reg)
        { Table := fs.map goFeature, Prefix := sp 5, Depth := 21 }) = tableText reg fs :=
  insdcFormatterString_depth_eq reg 21 fs

/-- **the initial qualifier-name lists of insdc.go are `Registry.default`** -/
theorem registry_default_eq :
    ({ quoted := namesOf quotedQualifierNames, literal := namesOf literalQualifierNames,
       toggle := namesOf toggleQualifierNames } : Registry) = Registry.default := rfl

/-- non-vacuity: a table with a key that widens the column, a toggle, a literal and a two-line note -/
example :
    wOut (insdcFormatterString Loc.printB (isQuotedIn Registry.default) (isLiteralIn Registry.default)
      (isToggleIn Registry.default)
      { Table := [(⟨bs "source", .ranged 0 9 false false, [[bs "note", bs "a\nb"], [bs "pseudo", []]]⟩ : QFeature),
                  ⟨bs "a_key_of_17_bytes", .point 3, [[bs "codon_start", bs "1"]]⟩].map goFeature,
        Prefix := sp 5, Depth := 21 }) =
    tableText Registry.default
      [⟨bs "source", .ranged 0 9 false false, [[bs "note", bs "a\nb"], [bs "pseudo", []]]⟩,
       ⟨bs "a_key_of_17_bytes", .point 3, [[bs "codon_start", bs "1"]]⟩] :=
  insdcFormatterString_eq _ _

end Gts.Bridge
