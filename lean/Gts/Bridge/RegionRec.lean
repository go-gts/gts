/-
  Bridge: `Region.Len / Head / Tail / Complement` over the whole tree `Segment | Regions`,
  regenerated from region.go by go2lean (Gts/Gen/RegionRec.lean: the `Regions` methods translated on
  the list of element-wise results, dynamic dispatch as structural recursion over `Gts.Reg`), are the
  hand-written model's `Reg.len / head / tail / complement` (Gts/Model/Region.lean) — for EVERY
  region tree (structural induction), `Len` under the explicit guard that every segment's
  `tail - head` is a 64-bit `int` (`utils.go Abs` is the sign-mask idiom).
-/
import Gts.Gen.RegionRec
import Gts.Bridge.RegionSeg
import Gts.Bridge.RegionResize
namespace Gts.Bridge
open Gts

mutual
/-- every segment of the tree has `tail - head` in the range of a 64-bit `int` -/
def lenFits : Reg → Bool
  | .seg h t => decide (-2 ^ 63 ≤ t - h) && decide (t - h < 2 ^ 63)
  | .many rs => lenFitsList rs
def lenFitsList : List Reg → Bool
  | [] => true
  | r :: rs => lenFits r && lenFitsList rs
end

mutual
theorem regLen_eq : ∀ (r : Reg), lenFits r = true → Gen.regLen r = Reg.len r
  | .seg h t, hf => by
    simp only [lenFits, Bool.and_eq_true, decide_eq_true_eq] at hf
    simp only [Gen.regLen, segmentLen_eq h t hf.1 hf.2]
  | .many rs, hf => by
    simp only [lenFits] at hf
    simp only [Gen.regLen, Reg.len, regLenList_eq rs hf, regionsLen_eq]
theorem regLenList_eq : ∀ (rs : List Reg), lenFitsList rs = true → Gen.regLenList rs = Reg.lens rs
  | [], _ => rfl
  | r :: rs, hf => by
    simp only [lenFitsList, Bool.and_eq_true] at hf
    simp only [Gen.regLenList, Reg.lens, regLen_eq r hf.1, regLenList_eq rs hf.2]
end

example : lenFits (.many [.seg 3 9, .many [.seg 20 12, .seg 4 4]]) = true := by decide

theorem regionsHead_map (rs : List Reg) : Gen.regionsHead (rs.map Reg.head) = Reg.headList rs := by
  cases rs with
  | nil => rfl
  | cons r rs =>
    unfold Gen.regionsHead
    rw [if_pos (by rw [List.map_cons, List.length_cons]; omega), Reg.headList]
    rfl

theorem regionsTail_map (rs : List Reg) : Gen.regionsTail (rs.map Reg.tail) = Reg.tailList rs := by
  induction rs with
  | nil => rfl
  | cons r rs ih =>
    unfold Gen.regionsTail at ih ⊢
    rw [if_pos (by rw [List.map_cons, List.length_cons]; omega), List.map_cons, List.length_cons, Int.natCast_succ,
      Int.add_sub_cancel, Int.toNat_natCast]
    cases rs with
    | nil => rw [Reg.tailList]; rfl
    | cons r' rs =>
      rw [if_pos (by rw [List.map_cons, List.length_cons]; omega), List.map_cons, List.length_cons, Int.natCast_succ,
        Int.add_sub_cancel, Int.toNat_natCast] at ih
      rw [Reg.tailList, ← ih, List.map_cons, List.length_cons]
      rfl

mutual
theorem regHead_eq : ∀ (r : Reg), Gen.regHead r = Reg.head r
  | .seg _ _ => rfl
  | .many rs => by simp only [Gen.regHead, Reg.head, regHeadList_eq rs, regionsHead_map]
theorem regHeadList_eq : ∀ (rs : List Reg), Gen.regHeadList rs = rs.map Reg.head
  | [] => rfl
  | r :: rs => by simp only [Gen.regHeadList, List.map_cons, regHead_eq r, regHeadList_eq rs]
end

mutual
theorem regTail_eq : ∀ (r : Reg), Gen.regTail r = Reg.tail r
  | .seg _ _ => rfl
  | .many rs => by simp only [Gen.regTail, Reg.tail, regTailList_eq rs, regionsTail_map]
theorem regTailList_eq : ∀ (rs : List Reg), Gen.regTailList rs = rs.map Reg.tail
  | [] => rfl
  | r :: rs => by simp only [Gen.regTailList, List.map_cons, regTail_eq r, regTailList_eq rs]
end

/-- the loop `for i, r := range rr { ret[len(rr)-i-1] = r }` entered behind the elements `done`, which stand
reversed at the end of `ret`, puts the remaining elements `rest` reversed in front of them -/
theorem complementLoop_fill (d : Reg) (rest done : List Reg) :
    Gen.regionsComplementLoop (done ++ rest) rest (done.length : Int) (List.replicate rest.length d ++ done.reverse) =
      rest.reverse ++ done.reverse := by
  induction rest generalizing done with
  | nil => rfl
  | cons r rest ih =>
    have e : Int.toNat ((((done ++ r :: rest).length : Int) - (done.length : Int)) - 1) = rest.length := by
      rw [List.length_append, List.length_cons]; omega
    have := ih (done ++ [r])
    rw [List.append_assoc, List.singleton_append, List.length_append, List.length_singleton, Int.natCast_succ,
      List.reverse_append, List.reverse_singleton, List.singleton_append] at this
    rw [Gen.regionsComplementLoop, e, List.length_cons, List.replicate_succ', List.append_assoc, List.singleton_append,
      List.set_append_right _ _ (by rw [List.length_replicate]; exact Nat.le_refl _), List.length_replicate, Nat.sub_self,
      List.set_cons_zero, this, List.reverse_cons, List.append_assoc, List.singleton_append]

theorem regionsComplement_eq (l : List Reg) : Gen.regionsComplement l = l.reverse := by
  have := complementLoop_fill default l []
  rwa [List.reverse_nil, List.append_nil, List.append_nil, List.nil_append] at this

theorem complementRev_eq : ∀ (rs acc : List Reg),
    Reg.complementRev rs acc = (rs.map Reg.complement).reverse ++ acc
  | [], acc => by simp [Reg.complementRev]
  | r :: rs, acc => by
    simp only [Reg.complementRev, complementRev_eq rs, List.map_cons, List.reverse_cons,
      List.append_assoc, List.singleton_append]

mutual
theorem regComplement_eq : ∀ (r : Reg), Gen.regComplement r = Reg.complement r
  | .seg _ _ => rfl
  | .many rs => by
    simp only [Gen.regComplement, Reg.complement, regComplementList_eq rs, regionsComplement_eq,
      complementRev_eq, List.append_nil]
theorem regComplementList_eq : ∀ (rs : List Reg), Gen.regComplementList rs = rs.map Reg.complement
  | [] => rfl
  | r :: rs => by
    simp only [Gen.regComplementList, List.map_cons, regComplement_eq r, regComplementList_eq rs]
end

/-- `Region.Len / Head / Tail / Complement`, as the current region.go defines them over
`Segment | Regions`, are the model's — `Head`, `Tail`, `Complement` as functions, `Len` on every
tree whose segments have 64-bit lengths -/
theorem regrec_eq :
    Gen.regHead = Reg.head ∧ Gen.regTail = Reg.tail ∧ Gen.regComplement = Reg.complement ∧
      ∀ r, lenFits r = true → Gen.regLen r = Reg.len r :=
  ⟨funext regHead_eq, funext regTail_eq, funext regComplement_eq, regLen_eq⟩

end Gts.Bridge
