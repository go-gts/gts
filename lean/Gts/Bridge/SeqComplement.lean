/-
  Bridge: `replaceBytes` and the record-level `gts.Complement` / `gts.Transcribe`, regenerated from nucleotide.go
  by go2lean (Gts/Gen/SeqComplement.lean: the loop `for i, c := range p` with its `switch j := bytes.IndexByte(old, c)`
  as a recursion over the bytes — `q[i] = …`, `new[j]` as checked operations —, the alphabets as the literals of
  the call, the loop `for i, f := range seq.Features() { ff[i] = Feature{f.Key, f.Loc.Complement(), f.Props.Clone()} }`
  with its checked stores), are the hand-written model's `Nuc.replaceBytes` (Gts/Model/Nuc.lean) and
  `Seq.complementRec` (Gts/Model/SeqNuc.lean) — for EVERY input, the panic (`new[j]` out of range: the
  replacement alphabet shorter than the source alphabet) included: `none` on the model side is `.error .panic`
  here.  With the alphabets of nucleotide.go that panic is unreachable (C05 `seq_complement_total`, C18).

  Metadata: untouched.  The feature table is NOT re-sorted (`WithFeatures`), the residues are a fresh slice.
-/
import Gts.Gen.SeqComplement
import Gts.Model.SeqNuc
import Gts.Bridge.SeqBase
import Gts.Bridge.LocComplement
import Gts.Lemmas.GoBytes
namespace Gts.Bridge
open Gts

/-- a model outcome (`none` = panic) as an outcome of the generated code -/
def ofOption {α : Type} : Option α → Except GErr α
  | some a => .ok a
  | none => .error .panic

theorem goIndexByte_eq : ∀ (s : List UInt8) (c : UInt8),
    Gen.goIndexByte s c = match Nuc.indexByte s c with | none => -1 | some j => (j : Int)
  | [], _ => rfl
  | x :: xs, c => by
    simp only [Gen.goIndexByte, Nuc.indexByte, goIndexByte_eq xs c, beq_iff_eq]
    by_cases h : x = c
    · simp [h]
    · simp only [if_neg h]
      cases Nuc.indexByte xs c with
      | none => simp
      | some j =>
        have : ¬ ((j : Int) < 0) := by omega
        simp only [Option.map_some, if_neg this, Int.natCast_add, Int.cast_ofNat_Int]

/-- the loop of `replaceBytes`, entered at index `k` with `k + len(cs) = len(q)`: the cells from `k` on are
filled with the replacements, or the first `new[j]` out of range panics -/
theorem seqReplaceBytesLoop_eq (old new : List UInt8) : ∀ (cs : List UInt8) (k : Nat) (q : List UInt8),
    q.length = k + cs.length →
    Gen.seqReplaceBytesLoop old new cs (k : Int) q =
      ofOption ((Nuc.replaceBytes cs old new).map fun r => q.take k ++ r)
  | [], k, q, h => by
    have : k = q.length := by simpa using h.symm
    subst this
    simp [Gen.seqReplaceBytesLoop, Nuc.replaceBytes, ofOption]
  | c :: cs, k, q, h => by
    have hk : k < q.length := by simp only [List.length_cons] at h; omega
    have e : ((k : Int) + 1) = ((k + 1 : Nat) : Int) := by omega
    have ih := fun x => seqReplaceBytesLoop_eq old new cs (k + 1) (q.set k x)
      (by simp only [List.length_set, List.length_cons] at h ⊢; omega)
    simp only [Gen.seqReplaceBytesLoop, goIndexByte_eq, Nuc.replaceBytes, Nuc.replaceByte]
    cases hj : Nuc.indexByte old c with
    | none =>
      simp only [if_pos, Gen.goStore_eq, clPut_nat q k c hk, e, ih, set_take_succ q k _ hk]
      cases Nuc.replaceBytes cs old new <;> simp [ofOption]
    | some j =>
      have hne : ¬ ((j : Int) = -1) := by omega
      simp only [if_neg hne, Gen.goIndex_eq, clAt_nat]
      cases hx : new[j]? with
      | none => simp [ofOption]
      | some x =>
        simp only [Gen.goStore_eq, clPut_nat q k x hk, e, ih, set_take_succ q k _ hk]
        cases Nuc.replaceBytes cs old new <;> simp [ofOption]

/-- `replaceBytes` as nucleotide.go defines it now is the model's `Nuc.replaceBytes`, panic included -/
theorem seqReplaceBytes_eq (p old new : List UInt8) :
    Gen.seqReplaceBytes p old new = ofOption (Nuc.replaceBytes p old new) := by
  have hm : ¬ ((p.length : Int) < 0) := by omega
  have := seqReplaceBytesLoop_eq old new p 0 (List.replicate p.length 0) (by simp)
  simp only [Int.cast_ofNat_Int] at this
  simp only [Gen.seqReplaceBytes, Gen.goMake, if_neg hm, Int.toNat_natCast, this]
  cases Nuc.replaceBytes p old new <;> simp [ofOption]

/-- a loop of the shape `for i, x := range xs { out[i] = g x }` entered at index `k` with
`k + len(xs) = len(out)` fills the cells from `k` on -/
theorem fillFeatsLoop_shape (loop : List Feature → Int → List Feature → Except GErr (List Feature)) (g : Feature → Feature)
    (h0 : ∀ i out, loop [] i out = .ok out)
    (hs : ∀ x xs i out, loop (x :: xs) i out =
      match Gen.goSet out i (g x) with
      | none => .error .panic
      | some out' => loop xs (i + 1) out') :
    ∀ (xs : List Feature) (k : Nat) (out : List Feature), out.length = k + xs.length →
      loop xs (k : Int) out = .ok (out.take k ++ xs.map g)
  | [], k, out, h => by
    rw [h0, List.map_nil, List.append_nil, List.take_of_length_le (by rw [h]; exact Nat.le_refl _)]
  | x :: xs, k, out, h => by
    have hk : k < out.length := by rw [h, List.length_cons]; omega
    rw [hs]
    simp only [goSet_nat out k _ hk]
    rw [show ((k : Int) + 1) = ((k + 1 : Nat) : Int) from rfl,
      fillFeatsLoop_shape loop g h0 hs xs (k + 1) _ (by rw [List.length_set, h, List.length_cons]; omega),
      set_take_succ out k _ hk, List.append_assoc, List.singleton_append, List.map_cons]

theorem seqComplementLoop_eq (fs : List Feature) :
    Gen.seqComplementLoop fs 0 (List.replicate fs.length default) =
      .ok (fs.map fun f => { f with loc := f.loc.complement }) := by
  have := fillFeatsLoop_shape Gen.seqComplementLoop (fun f : Feature => { f with loc := Gen.locComplement f.loc })
    (fun _ _ => rfl) (fun _ _ _ _ => rfl) fs 0 (List.replicate fs.length default) (by simp)
  simp only [Int.cast_ofNat_Int, List.take_zero, List.nil_append, locComplement_eq] at this
  exact this

theorem complementAlphabets :
    ([65, 67, 71, 84, 85, 82, 89, 75, 77, 66, 68, 72, 86, 97, 99, 103, 116, 117, 114, 121, 107, 109, 98, 100, 104, 118] : List UInt8) = Gen.complementFrom ∧
    ([84, 71, 67, 65, 65, 89, 82, 77, 75, 86, 72, 68, 66, 116, 103, 99, 97, 97, 121, 114, 109, 107, 118, 104, 100, 98] : List UInt8) = Gen.complementTo ∧
    ([65, 67, 71, 84, 85, 82, 89, 75, 77, 66, 68, 72, 86, 97, 99, 103, 116, 117, 114, 121, 107, 109, 98, 100, 104, 118] : List UInt8) = Gen.transcribeFrom ∧
    ([85, 71, 67, 65, 65, 89, 82, 77, 75, 86, 72, 68, 66, 117, 103, 99, 97, 97, 121, 114, 109, 107, 118, 104, 100, 98] : List UInt8) = Gen.transcribeTo :=
  ⟨rfl, rfl, rfl, rfl⟩

/-- `gts.Complement` as nucleotide.go defines it now is the model's `Seq.complementRec`, for every sequence
(the model's `none` is the panic of `replaceBytes`) -/
theorem seqComplement_eq {ι : Type} (i : ι) (s : Seq) :
    Gen.seqComplement i s.feats s.bytes = ofOption (s.complementRec.map fun r => (i, r.feats, r.bytes)) := by
  have hm : ¬ ((s.feats.length : Int) < 0) := by omega
  simp only [Gen.seqComplement, seqReplaceBytes_eq, complementAlphabets.1, complementAlphabets.2.1,
    Seq.complementRec, Nuc.complementBytes]
  cases Nuc.replaceBytes s.bytes Gen.complementFrom Gen.complementTo with
  | none => rfl
  | some p => simp [ofOption, goMakeFeats_nat, seqComplementLoop_eq]

/-- `gts.Transcribe` as nucleotide.go defines it now: the residues through `Nuc.transcribeBytes`, metadata and
features as they are -/
theorem seqTranscribe_eq {ι : Type} (i : ι) (s : Seq) :
    Gen.seqTranscribe i s.feats s.bytes = ofOption ((Nuc.transcribeBytes s.bytes).map fun p => (i, s.feats, p)) := by
  simp only [Gen.seqTranscribe, seqReplaceBytes_eq, complementAlphabets.2.2.1, complementAlphabets.2.2.2,
    Nuc.transcribeBytes]
  cases Nuc.replaceBytes s.bytes Gen.transcribeFrom Gen.transcribeTo <;> rfl

-- non-vacuity
example : Gen.seqComplement (ι := Unit) () [⟨"gene", .ranged 0 2 true false, []⟩] [65, 67, 71, 85, 110] =
    .ok ((), [⟨"gene", .compl (.ranged 0 2 true false), []⟩], [84, 71, 67, 65, 110]) :=
  (seqComplement_eq () ⟨[⟨"gene", .ranged 0 2 true false, []⟩], [65, 67, 71, 85, 110]⟩).trans rfl
example : Gen.seqReplaceBytes [65, 67] [65, 67] [84] = .error .panic := by rfl

end Gts.Bridge
