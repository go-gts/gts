/-
  Bridge (C16, C07): `validateOrigin` REGENERATED from seqio/genbank_subparsers.go by go2lean
  (Gts/Gen/OriginValidate.lean: the three nested counting loops translated literally, with `int`
  offsets into the buffer and checked index reads) has, for EVERY buffer and every declared length,
  the outcome (accepted / returned error / run-time panic) of the hand-written model
  `Gts.Origin.validateOrigin` (Gts/Model/Origin.lean: natural-number counters, the suffix
  `p[offset:]` carried along) that the C16 theorems and the C07 no-panic theorems are about.
  Per loop (`…_sim`, induction over the fuel): the generated loop started at offset `off` and the
  model's loop started on `p.drop off` run in lock step on the SAME fuel; the invariant is "the
  model's remaining input is the buffer from the generated offset on".  The model's loops do not
  depend on a fuel that covers the trip count (`walkChars_fuel` … of Lemmas/GbFuel2Pure.lean, proved
  there for C07): that puts the generated inner fuel where the model has its constants 10 and 6.
-/
import Gts.Gen.OriginValidate
import Gts.Lemmas.GoBytes
import Gts.Lemmas.GbFuel2Pure
namespace Gts.Bridge
open Gts Gts.Origin
open Gts.Pars (Bytes Err)

/-- `%9d` as the model prints it (`Origin.index9`, for the indices `i+1 ≥ 1` the loops print) -/
def fmt9 (n : Int) : Bytes := Origin.index9 n.toNat

theorem isBaseCharacter_eq (c : UInt8) : Gen.isBaseCharacter c = Origin.isBase c := rfl

theorem spaceByte_eq : Gen.spaceByte = 32 := rfl

/-- outcome of a generated loop with state `(offset, counter)` against the outcome of the model's
loop that returns the remaining input: the same error, or the model's remaining input is the
buffer from the generated offset on -/
def SimOff (p : Bytes) (m : Out Bytes) (g : Except Err (Int × Int)) : Prop :=
  (∃ e, m = .error e ∧ g = .error e) ∨
    ∃ off' c' : Nat, m = .ok (p.drop off') ∧ g = .ok ((off' : Int), (c' : Int))

/-! ### the generated loops simulate the model's loops

The generated loops compare `int` counters where the model compares natural numbers (`condChars`,
`condGroups`; `↑(a + b)` unfolds to `↑a + ↑b`). -/

theorem condChars {i j k : Nat} {length : Int} :
    ((k : Int) < 10 ∧ (i : Int) + j + k < length) ↔ (k < 10 ∧ ((i + j + k : Nat) : Int) < length) :=
  ⟨fun h => ⟨Int.ofNat_lt.mp h.1, h.2⟩, fun h => ⟨Int.ofNat_lt.mpr h.1, h.2⟩⟩

theorem condGroups {i j : Nat} {length : Int} :
    ((j : Int) < 60 ∧ (i : Int) + j < length) ↔ (j < 60 ∧ ((i + j : Nat) : Int) < length) :=
  ⟨fun h => ⟨Int.ofNat_lt.mp h.1, h.2⟩, fun h => ⟨Int.ofNat_lt.mpr h.1, h.2⟩⟩

/-- innermost loop (`k`): ten residues at most, each read with an unchecked index -/
theorem validateOriginLoop3_sim (p : Bytes) (length : Int) (i j f k off : Nat) :
    SimOff p (walkChars .panic length (i + j) f k (p.drop off))
      (Gen.validateOriginLoop3 p length (i : Int) (j : Int) f (off : Int) (k : Int)) := by
  induction f generalizing k off with
  | zero => exact .inr ⟨off, k, rfl, rfl⟩
  | succ f ih =>
    show SimOff p (ite _ _ _) (ite _ _ _)
    by_cases hc : k < 10 ∧ ((i + j + k : Nat) : Int) < length
    · rw [if_pos hc, if_pos (condChars.mpr hc), Gen.goIndex_eq, clAt_nat]
      cases hr : p[off]? with
      | none => rw [Gen.drop_of_getElem?_none hr]; exact .inl ⟨_, rfl, rfl⟩
      | some c =>
        rw [Gen.drop_of_getElem?_some hr]
        dsimp only
        by_cases hb : Gen.isBaseCharacter c = true
        · rw [if_pos (show isBase c = true from hb), if_neg (not_not_intro hb)]
          exact ih (k + 1) (off + 1)
        · rw [if_neg (show ¬ isBase c = true from hb), if_pos hb]
          exact .inl ⟨_, rfl, rfl⟩
    · rw [if_neg hc, if_neg (mt condChars.mp hc)]
      exact .inr ⟨off, k, rfl, rfl⟩

/-- middle loop (`j`): a blank, then the residues of one group -/
theorem validateOriginLoop2_sim (p : Bytes) (length : Int) (i : Nat) (fuel0 : Nat) (h0 : 10 ≤ fuel0)
    (f j off : Nat) :
    SimOff p (walkGroups .panic length i f j (p.drop off))
      (Gen.validateOriginLoop2 fuel0 p length (i : Int) f (off : Int) (j : Int)) := by
  induction f generalizing j off with
  | zero => exact .inr ⟨off, j, rfl, rfl⟩
  | succ f ih =>
    show SimOff p (ite _ _ _) (ite _ _ _)
    by_cases hc : j < 60 ∧ ((i + j : Nat) : Int) < length
    · rw [if_pos hc, if_pos (condGroups.mpr hc), Gen.goIndex_eq, clAt_nat]
      cases hr : p[off]? with
      | none => rw [Gen.drop_of_getElem?_none hr]; exact .inl ⟨_, rfl, rfl⟩
      | some c =>
        rw [Gen.drop_of_getElem?_some hr]
        dsimp only
        by_cases hb : c = 32
        · subst hb
          rw [if_neg (by decide), if_neg (show ¬ ((32 : UInt8) ≠ Gen.spaceByte) from not_not_intro rfl),
            GenBank.walkChars_fuel .panic length (i + j) 10 fuel0 0 _ (Nat.le_refl _) ((Nat.zero_add _).symm ▸ h0)]
          have h3 := validateOriginLoop3_sim p length i j fuel0 0 (off + 1)
          rw [Int.natCast_succ, Int.ofNat_zero] at h3
          obtain ⟨e, hm, hg⟩ | ⟨off', k', hm, hg⟩ := h3
          · rw [hm, hg]; exact .inl ⟨_, rfl, rfl⟩
          · rw [hm, hg]
            exact ih (j + 10) off'
        · rw [if_pos (bne_iff_ne.mpr hb), if_pos (show c ≠ Gen.spaceByte from hb)]
          exact .inl ⟨_, rfl, rfl⟩
    · rw [if_neg hc, if_neg (mt condGroups.mp hc)]
      exact .inr ⟨off, j, rfl, rfl⟩

theorem fmt9_succ (i : Nat) : fmt9 ((i : Int) + 1) = Origin.index9 (i + 1) := rfl

/-- outcome of the generated outer loop (its final state is not used) against the model's -/
def SimUnit (m : Out Unit) (g : Except Err (Int × Int)) : Prop :=
  (∃ e, m = .error e ∧ g = .error e) ∨ (m = .ok () ∧ ∃ st, g = .ok st)

/-- outer loop (`i`): the line index, the groups, the line feed -/
theorem validateOriginLoop_sim (p : Bytes) (length : Int) (fuel0 : Nat) (h0 : 10 ≤ fuel0)
    (f i off : Nat) (hle : off ≤ p.length) :
    SimUnit (validateLines length f i (p.drop off))
      (Gen.validateOriginLoop fuel0 fmt9 p length f (off : Int) (i : Int)) := by
  induction f generalizing i off with
  | zero => exact .inr ⟨rfl, _, rfl⟩
  | succ f ih =>
    show SimUnit (ite _ _ _) (ite _ _ _)
    by_cases hc : (i : Int) < length
    · rw [if_pos hc, if_pos hc, Gen.goSliceFrom_eq, clFrom_nat p off hle, fmt9_succ]
      dsimp only [walkLine]
      by_cases hp : (index9 (i + 1)).isPrefixOf (p.drop off) = true
      · rw [if_pos hp, if_neg (not_not_intro (show Gen.bytesHasPrefix (p.drop off) (index9 (i + 1)) = true from hp)),
          List.drop_drop, GenBank.walkGroups_fuel .panic length i 6 fuel0 0 _ (Nat.le_refl _) (by omega)]
        have h2 := validateOriginLoop2_sim p length i fuel0 h0 fuel0 0 (off + (index9 (i + 1)).length)
        rw [Int.natCast_add, Int.ofNat_zero] at h2
        obtain ⟨e, hm, hg⟩ | ⟨off', j', hm, hg⟩ := h2
        · rw [hm, hg]; exact .inl ⟨_, rfl, rfl⟩
        · rw [hm, hg]
          dsimp only
          rw [Gen.goIndex_eq, clAt_nat]
          cases hr : p[off']? with
          | none => rw [Gen.drop_of_getElem?_none hr]; exact .inl ⟨_, rfl, rfl⟩
          | some c =>
            rw [Gen.drop_of_getElem?_some hr]
            dsimp only
            by_cases hb : c = 10
            · subst hb
              rw [if_neg (by decide), if_neg (not_not_intro rfl)]
              exact ih (i + 60) (off' + 1) (List.getElem?_eq_some_iff.mp hr).1
            · rw [if_pos (bne_iff_ne.mpr hb), if_pos hb]; exact .inl ⟨_, rfl, rfl⟩
      · rw [if_neg hp, if_pos (show ¬ Gen.bytesHasPrefix (p.drop off) (index9 (i + 1)) = true from hp)]
        exact .inl ⟨_, rfl, rfl⟩
    · rw [if_neg hc, if_neg hc]; exact .inr ⟨rfl, _, rfl⟩

/-- **`validateOrigin`, as written in genbank_subparsers.go**, with `fmt.Sprintf("%9d", ·)` read as
the model's `index9`, run with any fuel that covers the trip counts (ten residues per group, one
line per sixty declared residues), has the outcome of the model's `Origin.validateOrigin`: accepted,
returned error or index out of range — for EVERY buffer and EVERY declared length (negative ones
included).  A relaxed residue test (seeded C16-g), `'\r'` accepted as a line end (seeded C16-b), an
off-by-one in a loop bound or a different order of the checks breaks one of the `…_sim` lemmas. -/
theorem validateOrigin_eq (fuel : Nat) (p : Bytes) (length : Int) (h10 : 10 ≤ fuel)
    (hl : length ≤ 60 * (fuel : Int)) :
    Gen.validateOrigin fuel fmt9 p length = Origin.validateOrigin p length := by
  unfold Gen.validateOrigin Origin.validateOrigin
  dsimp only
  rw [GenBank.validateLines_fuel length length.toNat fuel 0 p (by omega) (by omega)]
  obtain ⟨e, hm, hg⟩ | ⟨hm, ⟨_, _⟩, hg⟩ := validateOriginLoop_sim p length fuel h10 fuel 0 0 (Nat.zero_le _)
  all_goals rw [Int.ofNat_zero] at hg; rw [hg]; exact hm.symm

/-- the fuel bound is met by `max 10 length.toNat` -/
example (p : Bytes) (length : Int) :
    Gen.validateOrigin (max 10 length.toNat) fmt9 p length = Origin.validateOrigin p length :=
  validateOrigin_eq _ p length (by omega) (by omega)

/-- a concrete accepted block, a rejected one and one that makes the unchecked index panic -/
example :
    Gen.validateOrigin 13 fmt9 [32,32,32,32,32,32,32,32,49,32,97,99,103,116,97,99,103,116,97,99,32,103,116,110,10] 13 = .ok ()
    ∧ Gen.validateOrigin 10 fmt9 [32,32,32,32,32,32,32,32,49,32,97,98,10] 1 = .error .fail
    ∧ Gen.validateOrigin 10 fmt9 [32,32,32,32,32,32,32,32,49,32,97] 1 = .error .panic := by
  decide +kernel

end Gts.Bridge
