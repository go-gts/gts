/-
  Bridge (C16): `NewOrigin`, `Origin.Bytes`, `Origin.String`, `Origin.Len` REGENERATED from
  seqio/origin.go by go2lean (Gts/Gen/OriginBuf.lean: the loops translated literally, writing with
  `copy` and single-byte stores into a destination buffer `make([]byte, n)` at an `int` offset) are
  equal, for EVERY byte string, to the hand-written model (Gts/Model/Origin.lean: `newOrigin`,
  `originBytes`, `originString`, `originLen`, which describe the byte STREAM the loops write and
  what the truncating `copy` and the panicking stores make of it) that the C16 theorems are about.
  The invariant of every loop: after the stream `s` has been written, the buffer is
  `bufOf cap s` (`s` cut at the capacity, the rest still zero) and the offset is `min |s| cap`
  (Gts/Lemmas/GoBytes.lean).  As in Bridge/OriginValidate.lean the generated loop and the model's
  loop run in lock step on the same fuel; the model's loops do not depend on a fuel that covers
  the trip count (`fmtGroups_fuel` … `bytesLines_fuel`, Gts/Lemmas/Origin.lean).
-/
import Gts.Gen.OriginBuf
import Gts.Lemmas.GoBytes
import Gts.Lemmas.Origin
import Gts.Bridge.OriginValidate
import Gts.Bridge.Origin
namespace Gts.Bridge
open Gts Gts.Origin
open Gts.Pars (Bytes Err)
open Gts.Gen (bufOf offOf)

theorem gmin_nat (a b : Nat) : Gen.gmin (a : Int) (b : Int) = ((min a b : Nat) : Int) := by
  unfold Gen.gmin
  by_cases h : a < b
  · rw [if_pos (Int.ofNat_lt.mpr h), Nat.min_eq_left (Nat.le_of_lt h)]
  · rw [if_neg (mt Int.ofNat_lt.mp h), Nat.min_eq_right (Nat.not_lt.mp h)]

/-- `Origin{p, false}.Len()` is the model's `originLen p` — every buffer (the `len == 0` guard:
seeded C16-d turns it into `< 12`) -/
theorem originLen_eq (p : Bytes) : Gen.originLen p false = .ok (Origin.originLen p) := by
  unfold Gen.originLen Origin.originLen
  rw [fromOriginLength_eq]
  by_cases h : p.length = 0
  · rw [if_pos h, if_pos (Int.ofNat_eq_zero.mpr h)]
  · rw [if_neg h, if_neg (mt Int.ofNat_eq_zero.mp h)]; rfl

/-- `Origin{p, true}.Len()` is `len(p)` -/
theorem originLen_parsed (p : Bytes) : Gen.originLen p true = .ok (p.length : Int) := by
  unfold Gen.originLen
  by_cases h : (p.length : Int) = 0
  · rw [if_pos h, h]
  · rw [if_neg h]; rfl

/-- outcome of a generated loop of `Bytes` (state: buffer, offset, start, counter) against the model's
loop (state: start, everything copied so far) -/
def SimBuf (cap : Nat) (m : Out (Nat × Bytes)) (g : Except Err (Bytes × Int × Int × Int)) : Prop :=
  (∃ e, m = .error e ∧ g = .error e) ∨
    ∃ (start' : Nat) (acc' : Bytes) (c' : Nat), m = .ok (start', acc') ∧
      g = .ok (bufOf cap acc', (offOf cap acc' : Int), (start' : Int), (c' : Int))

/-- inner loop of `Bytes`: `start++`, the slice `p[start:min(start+10, len(p)-1)]` copied -/
theorem originBytesLoop2_sim (p : Bytes) (hp : 1 ≤ p.length) (length : Int) (cap i f j start : Nat) (acc : Bytes) :
    SimBuf cap (bytesGroups p length i f j start acc)
      (Gen.originBytesLoop2 p length (i : Int) f (bufOf cap acc) (offOf cap acc : Int) (start : Int) (j : Int)) := by
  have e3 : (p.length : Int) - 1 = ((p.length - 1 : Nat) : Int) := (Int.ofNat_sub hp).symm
  induction f generalizing j start acc with
  | zero => exact .inr ⟨start, acc, j, rfl, rfl⟩
  | succ f ih =>
    show SimBuf cap (ite _ _ _) (ite _ _ _)
    by_cases hc : j < 60 ∧ ((i + j : Nat) : Int) < length
    · rw [if_pos hc, if_pos (condGroups.mpr hc)]
      dsimp only
      rw [e3, show (start : Int) + 1 + 10 = ((start + 1 + 10 : Nat) : Int) from rfl, gmin_nat,
        show (start : Int) + 1 = ((start + 1 : Nat) : Int) from rfl]
      by_cases hs : min (start + 1 + 10) (p.length - 1) < start + 1
      · rw [if_pos hs, Gen.goSlice_eq, clSub_nat_none p _ _ hs]; exact .inl ⟨_, rfl, rfl⟩
      · rw [if_neg hs, Gen.goSlice_eq, clSub_nat p _ _ (Nat.not_lt.mp hs)
          (Nat.le_trans (Nat.min_le_right _ _) (Nat.sub_le _ _))]
        dsimp only
        rw [Gen.goCopyAt_bufOf]
        dsimp only
        rw [Gen.offOf_add_sub]
        exact ih (j + 10) _ _
    · rw [if_neg hc, if_neg (mt condGroups.mp hc)]
      exact .inr ⟨start, acc, j, rfl, rfl⟩

/-- outcome of the generated outer loop of `Bytes` against the model's (which returns what was copied) -/
def SimBufL (cap : Nat) (m : Out Bytes) (g : Except Err (Bytes × Int × Int × Int)) : Prop :=
  (∃ e, m = .error e ∧ g = .error e) ∨
    ∃ (acc' : Bytes) (s' c' : Nat), m = .ok acc' ∧
      g = .ok (bufOf cap acc', (offOf cap acc' : Int), (s' : Int), (c' : Int))

/-- outer loop of `Bytes`: step over the nine index columns, the groups, the line feed -/
theorem originBytesLoop_sim (p : Bytes) (hp : 1 ≤ p.length) (length : Int) (cap fuel0 : Nat) (h0 : 6 ≤ fuel0)
    (f i start : Nat) (acc : Bytes) :
    SimBufL cap (bytesLines p length f i start acc)
      (Gen.originBytesLoop fuel0 p length f (bufOf cap acc) (offOf cap acc : Int) (start : Int) (i : Int)) := by
  induction f generalizing i start acc with
  | zero => exact .inr ⟨acc, start, i, rfl, rfl⟩
  | succ f ih =>
    show SimBufL cap (ite _ _ _) (ite _ _ _)
    by_cases hc : (i : Int) < length
    · rw [if_pos hc, if_pos hc, bytesGroups_fuel p length i 6 fuel0 0 _ _ (Nat.le_refl _) (by omega)]
      dsimp only
      have h2 := originBytesLoop2_sim p hp length cap i fuel0 0 (start + 9) acc
      rw [Int.natCast_add, Int.cast_ofNat_Int, Int.ofNat_zero] at h2
      obtain ⟨e, hm, hg⟩ | ⟨start', acc', j', hm, hg⟩ := h2
      · rw [hm, hg]; exact .inl ⟨_, rfl, rfl⟩
      · rw [hm, hg]
        exact ih (i + 60) (start' + 1) acc'
    · rw [if_neg hc, if_neg hc]
      exact .inr ⟨acc, start, i, rfl, rfl⟩

/-- **`(&Origin{p, false}).Bytes()`, as written in origin.go**, run with any fuel that covers the
trip counts, returns what the model's `originBytes p` returns (or panics where it panics) and
leaves the receiver parsed with that value — except for a buffer shorter than 12 bytes, where it
returns `nil` and leaves the receiver as it is.  Every buffer.  `<= 12` (seeded C16-a, C17-e) or a
rewritten decoding loop (seeded C16-f) breaks the proof or is refused. -/
theorem originBytes_eq (fuel : Nat) (p : Bytes) (h6 : 6 ≤ fuel)
    (hl : Origin.fromOriginLength (p.length : Int) ≤ 60 * (fuel : Int)) :
    Gen.originBytes fuel p false =
      match Origin.originBytes p with
      | .error e => .error e
      | .ok b => .ok (b, if p.length < 12 then (p, false) else (b, true)) := by
  unfold Gen.originBytes Origin.originBytes
  rw [fromOriginLength_eq]
  rw [if_pos Bool.false_ne_true]
  dsimp only
  by_cases h12 : p.length < 12
  · rw [if_pos (show (p.length : Int) < 12 from Int.ofNat_lt.mpr h12)]
    simp only [if_pos h12]
  · rw [if_neg (show ¬ (p.length : Int) < 12 from mt Int.ofNat_lt.mp h12)]
    simp only [if_neg h12]
    by_cases hneg : Origin.fromOriginLength (p.length : Int) < 0
    · rw [if_pos hneg, Gen.goMake_neg _ hneg]
    · rw [if_neg hneg]
      obtain ⟨n, hn⟩ := Int.eq_ofNat_of_zero_le (Int.not_lt.mp hneg)
      rw [hn] at hl ⊢
      rw [Gen.goMake_nat]
      dsimp only [bytesDecode]
      rw [Int.toNat_natCast]
      rw [bytesLines_fuel p n n fuel 0 0 [] (by omega) (by omega)]
      have h := originBytesLoop_sim p (by omega) (n : Int) n fuel h6 fuel 0 0 []
      rw [Gen.bufOf_nil, Gen.offOf_nil, Int.ofNat_zero] at h
      obtain ⟨e, hm, hg⟩ | ⟨s, s', c', hm, hg⟩ := h
      · rw [hm, hg]
      · rw [hm, hg]; rfl

/-- a parsed receiver: `Bytes` returns the buffer and changes nothing -/
theorem originBytes_parsed (fuel : Nat) (p : Bytes) : Gen.originBytes fuel p true = .ok (p, p, true) := by
  exact if_neg (not_not_intro rfl)

theorem condGroupsLen {i j n : Nat} :
    ((j : Int) < 60 ∧ (i : Int) + j < (n : Int)) ↔ (j < 60 ∧ i + j < n) :=
  ⟨fun h => ⟨Int.ofNat_lt.mp h.1, Int.ofNat_lt.mp h.2⟩, fun h => ⟨Int.ofNat_lt.mpr h.1, Int.ofNat_lt.mpr h.2⟩⟩

theorem snoc_append_assoc (s x y : Bytes) (c : UInt8) : s ++ c :: (x ++ y) = s ++ [c] ++ x ++ y := by
  simp only [List.append_assoc, List.cons_append, List.nil_append]

/-- outcome of a generated loop of `NewOrigin` (state: buffer, offset, counter) when the stream
written up to its end is `s'`: it either panics — and then the stream is longer than the buffer —
or leaves the buffer after `s'`, and then `fits` holds -/
def SpecBuf (cap : Nat) (s' : Bytes) (fits : Prop) (g : Except Err (Bytes × Int × Int)) : Prop :=
  (g = .error .panic ∧ cap < s'.length) ∨
    ∃ c' : Nat, g = .ok (bufOf cap s', (offOf cap s' : Int), (c' : Int)) ∧ fits

/-- inner loop of `NewOrigin` started on the buffer after the stream `s` -/
theorem newOriginLoop2_spec (p : Bytes) (cap i f j : Nat) (s : Bytes) :
    SpecBuf cap (s ++ fmtGroups p i f j) True
      (Gen.newOriginLoop2 p (p.length : Int) (i : Int) f (bufOf cap s) (offOf cap s : Int) (j : Int)) := by
  induction f generalizing j s with
  | zero =>
    rw [show fmtGroups p i 0 j = [] from rfl, List.append_nil]
    exact .inr ⟨j, rfl, trivial⟩
  | succ f ih =>
    show SpecBuf cap (s ++ ite _ _ _) True (ite _ _ _)
    by_cases hc : j < 60 ∧ i + j < p.length
    · rw [if_pos hc, if_pos (condGroupsLen.mpr hc)]
      dsimp only
      by_cases hroom : s.length < cap
      · rw [Gen.goStore_bufOf cap s _ hroom, show (i : Int) + j + 10 = ((i + j + 10 : Nat) : Int) from rfl, gmin_nat,
          show (i : Int) + j = ((i + j : Nat) : Int) from rfl]
        dsimp only
        rw [Gen.goSlice_eq, clSub_nat p _ _ (Nat.le_min.mpr ⟨Nat.le_add_right _ _, Nat.le_of_lt hc.2⟩) (Nat.min_le_right _ _),
          Gen.offOf_snoc cap s _ hroom]
        dsimp only
        rw [Gen.goCopyAt_bufOf]
        dsimp only
        rw [Gen.offOf_add_sub, snoc_append_assoc]
        exact ih (j + 10) _
      · rw [Gen.goStore_bufOf_full cap s _ (Nat.not_lt.mp hroom)]
        refine .inl ⟨rfl, ?_⟩
        rw [List.length_append, List.length_cons]
        omega
    · rw [if_neg hc, if_neg (mt condGroupsLen.mp hc), List.append_nil]
      exact .inr ⟨j, rfl, trivial⟩

/-- outer loop of `NewOrigin` started on the buffer after a stream `s` that fits: without a panic the
stream written up to its end fits (the last write of a round is a checked single-byte store) -/
theorem newOriginLoop_spec (p : Bytes) (cap fuel0 : Nat) (h0 : 6 ≤ fuel0) (f i : Nat) (s : Bytes)
    (hs : s.length ≤ cap) :
    SpecBuf cap (s ++ fmtLines p f i) ((s ++ fmtLines p f i).length ≤ cap)
      (Gen.newOriginLoop fuel0 fmt9 p (p.length : Int) f (bufOf cap s) (offOf cap s : Int) (i : Int)) := by
  induction f generalizing i s with
  | zero =>
    rw [show fmtLines p 0 i = [] from rfl, List.append_nil]
    exact .inr ⟨i, rfl, hs⟩
  | succ f ih =>
    rw [show fmtLines p (f + 1) i = ite _ _ _ from rfl]
    show SpecBuf cap _ _ (ite _ _ _)
    by_cases hc : i < p.length
    · rw [if_pos hc, if_pos (Int.ofNat_lt.mpr hc), fmtGroups_fuel p i 6 fuel0 0 (Nat.le_refl _) (by omega)]
      dsimp only
      rw [fmt9_succ, Gen.goCopyAt_bufOf]
      dsimp only
      rw [Gen.offOf_add_sub]
      have hA : ∀ (a b c : Bytes), s ++ (a ++ (b ++ 10 :: c)) = ((s ++ a) ++ b ++ [10]) ++ c := by
        intro a b c; simp only [List.append_assoc, List.cons_append, List.nil_append]
      have h2 := newOriginLoop2_spec p cap i fuel0 0 (s ++ index9 (i + 1))
      rw [Int.ofNat_zero] at h2
      rcases h2 with ⟨hg, hlen⟩ | ⟨j', hg, -⟩
      · rw [hg]
        refine .inl ⟨rfl, ?_⟩
        rw [hA]
        simp only [List.length_append] at hlen ⊢
        omega
      · rw [hg]
        dsimp only
        by_cases hroom : (s ++ index9 (i + 1) ++ fmtGroups p i fuel0 0).length < cap
        · rw [Gen.goStore_bufOf cap _ _ hroom, Gen.offOf_snoc cap _ _ hroom, hA]
          exact ih (i + 60) (s ++ index9 (i + 1) ++ fmtGroups p i fuel0 0 ++ [10])
            (by rw [List.length_append]; exact hroom)
        · rw [Gen.goStore_bufOf_full cap _ _ (Nat.not_lt.mp hroom)]
          refine .inl ⟨rfl, ?_⟩
          rw [hA]
          simp only [List.length_append, List.length_cons, List.length_nil] at hroom ⊢
          omega
    · rw [if_neg hc, if_neg (mt Int.ofNat_lt.mp hc), List.append_nil]
      exact .inr ⟨i, rfl, hs⟩

/-- **`NewOrigin(p)`, as written in origin.go**, with `fmt.Sprintf("%9d", ·)` read as the model's
`index9`, run with any fuel that covers the trip counts, returns the model's `newOrigin p` as the
unparsed buffer — or panics exactly where the model says it does (a line index wider than nine
columns: the stream outgrows `make([]byte, toOriginLength(len(p)))` and a single-byte store hits
the end).  Every byte string. -/
theorem newOrigin_eq (fuel : Nat) (p : Bytes) (h6 : 6 ≤ fuel) (hl : p.length ≤ 60 * fuel) :
    Gen.newOrigin fuel fmt9 p =
      match Origin.newOrigin p with
      | .error e => .error e
      | .ok b => .ok (b, false) := by
  unfold Gen.newOrigin Origin.newOrigin
  dsimp only
  rw [toOriginLength_eq, Origin.toOriginLength_nat, Gen.goMake_nat]
  dsimp only
  have hge := Origin.originStream_length_ge p
  have hspec := newOriginLoop_spec p (tl p.length) fuel h6 fuel 0 [] (Nat.zero_le _)
  rw [Gen.bufOf_nil, Gen.offOf_nil, List.nil_append, Int.ofNat_zero,
    fmtLines_fuel p fuel p.length 0 (by omega) (by omega)] at hspec
  change SpecBuf _ (originStream p) ((originStream p).length ≤ _) _ at hspec
  rcases hspec with ⟨hg, hlen⟩ | ⟨i', hg, hfit⟩
  · have hlen' : tl p.length < (originStream p).length := hlen
    rw [hg, if_neg (by omega)]
  · have hlen : (originStream p).length = tl p.length := Nat.le_antisymm hfit hge
    rw [hg, if_pos (by rw [hlen]), Gen.bufOf_of_length_eq _ _ hlen]

/-- **`Origin{p, parsed}.String()`, as written in origin.go**, is the model's `originString` -/
theorem originString_eq (fuel : Nat) (p : Bytes) (parsed : Bool) (h6 : 6 ≤ fuel) (hl : p.length ≤ 60 * fuel) :
    Gen.originString fuel fmt9 p parsed = Origin.originString p parsed := by
  simp only [Gen.originString, Origin.originString]
  cases parsed with
  | false => simp
  | true =>
    simp only [newOrigin_eq fuel p h6 hl]
    cases Origin.newOrigin p <;> simp

/-- a concrete 13-residue sequence through the generated code: the block, the decoding (with the
receiver left parsed), the short-buffer case, the lengths -/
example :
    Gen.newOrigin 6 fmt9 [97,99,103,116,97,99,103,116,97,99,103,116,110] =
      .ok ([32,32,32,32,32,32,32,32,49,32,97,99,103,116,97,99,103,116,97,99,32,103,116,110,10], false)
    ∧ Gen.originBytes 6 [32,32,32,32,32,32,32,32,49,32,97,99,103,116,97,99,103,116,97,99,32,103,116,110,10] false =
      .ok ([97,99,103,116,97,99,103,116,97,99,103,116,110], [97,99,103,116,97,99,103,116,97,99,103,116,110], true)
    ∧ Gen.originBytes 6 [32,32,32,32,32,32,32,32,49,32,97] false = .ok ([], [32,32,32,32,32,32,32,32,49,32,97], false)
    ∧ Gen.originLen [32,32,32,32,32,32,32,32,49,32,97,99,103,116,97,99,103,116,97,99,32,103,116,110,10] false = .ok 13
    ∧ Gen.originLen [] false = .ok 0 := by
  decide +kernel

example : (6 : Nat) ≤ 6 ∧ [97,99,103,116,97,99,103,116,97,99,103,116,110].length ≤ 60 * 6 := by decide

end Gts.Bridge
